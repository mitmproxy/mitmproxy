-- generated by tools/genlake.py
import MitmVerif.Basic.Bytes
import MitmVerif.Basic.Seg
import MitmVerif.Gen.C01
import MitmVerif.Gen.C06
import MitmVerif.Gen.C07
import MitmVerif.Gen.C09
import MitmVerif.Gen.C12
import MitmVerif.Gen.C13
import MitmVerif.Gen.C13_Np
import MitmVerif.Gen.C15
import MitmVerif.Gen.C16
import MitmVerif.Gen.C17
import MitmVerif.Gen.C18
import MitmVerif.Gen.C19
import MitmVerif.Gen.C20
import MitmVerif.Gen.C21
import MitmVerif.Gen.C22
import MitmVerif.Gen.C23
import MitmVerif.Gen.C24
import MitmVerif.Gen.C25
import MitmVerif.Gen.C28
import MitmVerif.Gen.C31
import MitmVerif.Gen.C32
import MitmVerif.Gen.C33
import MitmVerif.Gen.C34
import MitmVerif.Gen.C36
import MitmVerif.Gen.C38
import MitmVerif.Gen.C42
import MitmVerif.Gen.C44
import MitmVerif.Gen.C45
import MitmVerif.Gen.C46
import MitmVerif.Gen.C49
import MitmVerif.Gen.C50
import MitmVerif.Model.C01
import MitmVerif.Model.C02
import MitmVerif.Model.C03
import MitmVerif.Model.C03_Emit
import MitmVerif.Model.C03_Enc
import MitmVerif.Model.C03_Inv
import MitmVerif.Model.C04
import MitmVerif.Model.C05
import MitmVerif.Model.C06
import MitmVerif.Model.C07
import MitmVerif.Model.C07_Exchange
import MitmVerif.Model.C07_Reader
import MitmVerif.Model.C07_Writer
import MitmVerif.Model.C08
import MitmVerif.Model.C09
import MitmVerif.Model.C10
import MitmVerif.Model.C11
import MitmVerif.Model.C12
import MitmVerif.Model.C13
import MitmVerif.Model.C13_Idna
import MitmVerif.Model.C13_Nameprep
import MitmVerif.Model.C14
import MitmVerif.Model.C14_Ref
import MitmVerif.Model.C14_RefL
import MitmVerif.Model.C15
import MitmVerif.Model.C15_Classify
import MitmVerif.Model.C16
import MitmVerif.Model.C17
import MitmVerif.Model.C18
import MitmVerif.Model.C18_Quic
import MitmVerif.Model.C19
import MitmVerif.Model.C20
import MitmVerif.Model.C20_B64
import MitmVerif.Model.C20_Ht
import MitmVerif.Model.C21
import MitmVerif.Model.C22
import MitmVerif.Model.C23
import MitmVerif.Model.C24
import MitmVerif.Model.C24_Cred
import MitmVerif.Model.C24_Route
import MitmVerif.Model.C25
import MitmVerif.Model.C26
import MitmVerif.Model.C27
import MitmVerif.Model.C27_Async
import MitmVerif.Model.C28
import MitmVerif.Model.C28_Wire
import MitmVerif.Model.C29
import MitmVerif.Model.C30
import MitmVerif.Model.C31
import MitmVerif.Model.C32
import MitmVerif.Model.C33
import MitmVerif.Model.C34
import MitmVerif.Model.C35
import MitmVerif.Model.C35_Gen
import MitmVerif.Model.C35_Spec
import MitmVerif.Model.C35_Str
import MitmVerif.Model.C35_View
import MitmVerif.Model.C36
import MitmVerif.Model.C36_Conv
import MitmVerif.Model.C36_Gate
import MitmVerif.Model.C36_Read
import MitmVerif.Model.C36_Shape
import MitmVerif.Model.C37
import MitmVerif.Model.C37_Addon
import MitmVerif.Model.C38
import MitmVerif.Model.C38_Bytes
import MitmVerif.Model.C38_Conv
import MitmVerif.Model.C38_Migrate
import MitmVerif.Model.C38_State
import MitmVerif.Model.C38_Tuple
import MitmVerif.Model.C39
import MitmVerif.Model.C39_Flt
import MitmVerif.Model.C40
import MitmVerif.Model.C40_Http
import MitmVerif.Model.C40_Obj
import MitmVerif.Model.C40_Obj2
import MitmVerif.Model.C41
import MitmVerif.Model.C41_Host
import MitmVerif.Model.C41_Lib
import MitmVerif.Model.C41_Spec
import MitmVerif.Model.C41_Url
import MitmVerif.Model.C42
import MitmVerif.Model.C42_Body
import MitmVerif.Model.C42_Leaf
import MitmVerif.Model.C42_Print
import MitmVerif.Model.C42_Spec
import MitmVerif.Model.C43
import MitmVerif.Model.C43_Keys
import MitmVerif.Model.C44
import MitmVerif.Model.C45
import MitmVerif.Model.C46
import MitmVerif.Model.C47
import MitmVerif.Model.C47_Conv
import MitmVerif.Model.C48
import MitmVerif.Model.C48_Url
import MitmVerif.Model.C49
import MitmVerif.Model.C49_Types
import MitmVerif.Model.C50
import MitmVerif.Model.C50_All
import MitmVerif.Model.C50_Codecs
import MitmVerif.Model.C50_Https
import MitmVerif.Model.C50_V6
import MitmVerif.Model.C51
import MitmVerif.Model.C52
import MitmVerif.Model.C53
import MitmVerif.Model.C54
import MitmVerif.Model.C54_Header
import MitmVerif.Lemmas.C01
import MitmVerif.Lemmas.C01_Fold
import MitmVerif.Lemmas.C01_FoldG
import MitmVerif.Lemmas.C01_FoldG2
import MitmVerif.Lemmas.C01_Lines
import MitmVerif.Lemmas.C01_Raw
import MitmVerif.Lemmas.C01_RawResp
import MitmVerif.Lemmas.C01_Roundtrip
import MitmVerif.Lemmas.C03Base
import MitmVerif.Lemmas.C03Emit
import MitmVerif.Lemmas.C03Gram
import MitmVerif.Lemmas.C03Inv
import MitmVerif.Lemmas.C03Mon
import MitmVerif.Lemmas.C03Run
import MitmVerif.Lemmas.C03Trace
import MitmVerif.Lemmas.C04
import MitmVerif.Lemmas.C05
import MitmVerif.Lemmas.C05_Bytes
import MitmVerif.Lemmas.C05_C03
import MitmVerif.Lemmas.C05_C03Def
import MitmVerif.Lemmas.C05_C03Run
import MitmVerif.Lemmas.C05_Crash
import MitmVerif.Lemmas.C05_First
import MitmVerif.Lemmas.C05_Map
import MitmVerif.Lemmas.C05_Sub
import MitmVerif.Lemmas.C06
import MitmVerif.Lemmas.C06_H1
import MitmVerif.Lemmas.C06_H2
import MitmVerif.Lemmas.C07
import MitmVerif.Lemmas.C07_Reader
import MitmVerif.Lemmas.C09
import MitmVerif.Lemmas.C09Late
import MitmVerif.Lemmas.C09Sem
import MitmVerif.Lemmas.C12
import MitmVerif.Lemmas.C13
import MitmVerif.Lemmas.C14
import MitmVerif.Lemmas.C14Hist
import MitmVerif.Lemmas.C14_RefL
import MitmVerif.Lemmas.C17
import MitmVerif.Lemmas.C17Refine
import MitmVerif.Lemmas.C18Table
import MitmVerif.Lemmas.C19
import MitmVerif.Lemmas.C19Conn
import MitmVerif.Lemmas.C20
import MitmVerif.Lemmas.C20_B64
import MitmVerif.Lemmas.C21
import MitmVerif.Lemmas.C21V6
import MitmVerif.Lemmas.C21V6Back
import MitmVerif.Lemmas.C21V6Py
import MitmVerif.Lemmas.C21V6Read
import MitmVerif.Lemmas.C22
import MitmVerif.Lemmas.C22Parse
import MitmVerif.Lemmas.C22Read
import MitmVerif.Lemmas.C22Render
import MitmVerif.Lemmas.C23Refine
import MitmVerif.Lemmas.C23Render
import MitmVerif.Lemmas.C24
import MitmVerif.Lemmas.C25
import MitmVerif.Lemmas.C25Loop
import MitmVerif.Lemmas.C25Matched
import MitmVerif.Lemmas.C25Msg
import MitmVerif.Lemmas.C25Name
import MitmVerif.Lemmas.C26
import MitmVerif.Lemmas.C26Comp
import MitmVerif.Lemmas.C26Hist
import MitmVerif.Lemmas.C26Live
import MitmVerif.Lemmas.C26Msg
import MitmVerif.Lemmas.C27Async
import MitmVerif.Lemmas.C27Frame
import MitmVerif.Lemmas.C27Handled
import MitmVerif.Lemmas.C27Inv
import MitmVerif.Lemmas.C27Reply
import MitmVerif.Lemmas.C27Shape
import MitmVerif.Lemmas.C27Step
import MitmVerif.Lemmas.C27Stray
import MitmVerif.Lemmas.C28
import MitmVerif.Lemmas.C28_Relay
import MitmVerif.Lemmas.C28_Run
import MitmVerif.Lemmas.C28_Wire
import MitmVerif.Lemmas.C29
import MitmVerif.Lemmas.C29Edits
import MitmVerif.Lemmas.C29NC
import MitmVerif.Lemmas.C30
import MitmVerif.Lemmas.C30Fin
import MitmVerif.Lemmas.C30Pair
import MitmVerif.Lemmas.C31Codec
import MitmVerif.Lemmas.C31Message
import MitmVerif.Lemmas.C31State
import MitmVerif.Lemmas.C32
import MitmVerif.Lemmas.C33Rest
import MitmVerif.Lemmas.C33Url
import MitmVerif.Lemmas.C34Path
import MitmVerif.Lemmas.C34Split
import MitmVerif.Lemmas.C35Cookie
import MitmVerif.Lemmas.C35CookieCodec
import MitmVerif.Lemmas.C35Gen
import MitmVerif.Lemmas.C35Parse
import MitmVerif.Lemmas.C35Str
import MitmVerif.Lemmas.C36
import MitmVerif.Lemmas.C36_Read
import MitmVerif.Lemmas.C37
import MitmVerif.Lemmas.C38_Bytes
import MitmVerif.Lemmas.C38_Conv
import MitmVerif.Lemmas.C38_Host
import MitmVerif.Lemmas.C38_HostValid
import MitmVerif.Lemmas.C38_Old
import MitmVerif.Lemmas.C38_State
import MitmVerif.Lemmas.C38_Succ
import MitmVerif.Lemmas.C39
import MitmVerif.Lemmas.C39Coh
import MitmVerif.Lemmas.C40_Cells
import MitmVerif.Lemmas.C40_Headers
import MitmVerif.Lemmas.C40_Store
import MitmVerif.Lemmas.C41
import MitmVerif.Lemmas.C42
import MitmVerif.Lemmas.C42Eval
import MitmVerif.Lemmas.C42Fuel
import MitmVerif.Lemmas.C42Print
import MitmVerif.Lemmas.C43Blocks
import MitmVerif.Lemmas.C43FlowData
import MitmVerif.Lemmas.C43Frame
import MitmVerif.Lemmas.C43KeyOrder
import MitmVerif.Lemmas.C43Ops
import MitmVerif.Lemmas.C43Sorted
import MitmVerif.Lemmas.C43Wholesale
import MitmVerif.Lemmas.C48
import MitmVerif.Lemmas.C48Argv
import MitmVerif.Lemmas.C48Body
import MitmVerif.Lemmas.C48Chunk
import MitmVerif.Lemmas.C48Raw
import MitmVerif.Lemmas.C48Url
import MitmVerif.Lemmas.C50
import MitmVerif.Lemmas.C50V6
import MitmVerif.Lemmas.C52
import MitmVerif.Lemmas.C53
import MitmVerif.Lemmas.C54
import MitmVerif.Lemmas.Decimal
import MitmVerif.Lemmas.Lists
import MitmVerif.Lemmas.Split
import MitmVerif.Lemmas.Strip
import MitmVerif.Props.C01
import MitmVerif.Props.C02
import MitmVerif.Props.C03
import MitmVerif.Props.C04
import MitmVerif.Props.C05
import MitmVerif.Props.C06
import MitmVerif.Props.C07
import MitmVerif.Props.C08
import MitmVerif.Props.C09
import MitmVerif.Props.C10
import MitmVerif.Props.C11
import MitmVerif.Props.C12
import MitmVerif.Props.C13
import MitmVerif.Props.C14
import MitmVerif.Props.C15
import MitmVerif.Props.C16
import MitmVerif.Props.C17
import MitmVerif.Props.C18
import MitmVerif.Props.C19
import MitmVerif.Props.C20
import MitmVerif.Props.C21
import MitmVerif.Props.C22
import MitmVerif.Props.C23
import MitmVerif.Props.C24
import MitmVerif.Props.C25
import MitmVerif.Props.C26
import MitmVerif.Props.C27
import MitmVerif.Props.C28
import MitmVerif.Props.C29
import MitmVerif.Props.C30
import MitmVerif.Props.C31
import MitmVerif.Props.C32
import MitmVerif.Props.C33
import MitmVerif.Props.C34
import MitmVerif.Props.C35
import MitmVerif.Props.C36
import MitmVerif.Props.C37
import MitmVerif.Props.C38
import MitmVerif.Props.C39
import MitmVerif.Props.C40
import MitmVerif.Props.C41
import MitmVerif.Props.C42
import MitmVerif.Props.C43
import MitmVerif.Props.C44
import MitmVerif.Props.C45
import MitmVerif.Props.C46
import MitmVerif.Props.C47
import MitmVerif.Props.C48
import MitmVerif.Props.C49
import MitmVerif.Props.C50
import MitmVerif.Props.C51
import MitmVerif.Props.C52
import MitmVerif.Props.C53
import MitmVerif.Props.C54
