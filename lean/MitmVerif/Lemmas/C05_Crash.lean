/-
  Lemmas for C05: the `KeyError` branch of `St.upward` (`crashed`) is reached only by an event for a stream id that was
  never opened — the only unguarded lookup is the one for received trailers.  Under the one assumption that hyper-h2
  reports trailers only for streams mitmproxy has opened, no reachable state is `crashed`.
-/
import MitmVerif.Lemmas.C05_Sub
namespace MitmVerif.C05
open MitmVerif

/-- every stream `Http2Connection.streams` knows has a client stream id; no KeyError so far -/
structure CInv (σ : St) : Prop where
  ok : σ.crashed = false
  ms : ∀ o b, alookup o σ.ms = some b → (alookup o σ.theirs).isSome = true

/-- hyper-h2 reports trailers only for a stream that was opened on this connection -/
def TrOk (σ : St) (e : SEv) : Prop := ∀ o, e = SEv.respTrailers o → (alookup o σ.theirs).isSome = true

/-- `CInv` with the id map of `σ`, trailers being reported only for ids the map knows -/
theorem cInv_reacts (σ : St) :
    Reacts (fun σ' => CInv σ' ∧ σ'.theirs = σ.theirs) (fun o => (alookup o σ.theirs).isSome = true) := by
  refine ⟨fun σ' o k g h => ?_, fun σ' ms _ _ g h => ⟨⟨h.1.ok, fun o b hb => ?_⟩, h.2⟩⟩
  · have hth : (alookup o σ'.theirs).isSome = true := by
      rcases g with g | g
      · obtain ⟨b, hv⟩ := Option.isSome_iff_exists.1 g
        exact h.1.ms o b hv
      · rw [h.2]; exact g
    rw [upward_eq]
    refine ⟨⟨?_, h.1.ms⟩, h.2⟩
    show (σ'.crashed || (alookup o σ'.theirs).isNone) = false
    obtain ⟨t, hv⟩ := Option.isSome_iff_exists.1 hth
    rw [hv, h.1.ok]; rfl
  · obtain ⟨b', hv⟩ := Option.isSome_iff_exists.1 (g o (by rw [hb]; rfl))
    exact h.1.ms o b' hv

theorem closeConnection_c (σ : St) (h : CInv σ) : CInv σ.closeConnection :=
  (closeConnection_pres (cInv_reacts σ) σ ⟨h, rfl⟩).1

theorem handleAll_c (evs : List SEv) (σ : St) (h : CInv σ) (ht : ∀ e ∈ evs, TrOk σ e) : CInv (St.handleAll σ evs) :=
  (handleAll_pres (cInv_reacts σ) evs ht σ ⟨h, rfl⟩).1

/-- an event passed on for an upstream id the map knows -/
theorem midMapped_c (σ : St) (t o : Nat) (ev : Ev) (rest : List (Nat × Ev)) (hs : CInv σ)
    (ho : (alookup o σ.theirs).isSome = true) : CInv (midMapped σ t o ev rest) := by
  refine ⟨hs.ok, fun o' b hb => ?_⟩
  have hb : alookup o' (if ev.isHdr then aset o false σ.ms else σ.ms) = some b := hb
  show (alookup o' σ.theirs).isSome = true
  split at hb
  · by_cases hoo : o' = o
    · rw [hoo]; exact ho
    · rw [alookup_aset_ne _ _ _ _ hoo] at hb; exact hs.ms o' b hb
  · exact hs.ms o' b hb

theorem cInv_rides : Rides CInv :=
  ⟨fun _ _ _ _ _ _ _ _ _ h => ⟨h.ok, h.ms⟩,
   fun σ t o ev rest h _ ho hs => midMapped_c σ t o ev rest hs (by rw [h.map.fwd t o ho]; rfl),
   fun σ t ev rest _ _ _ hs =>
    midMapped_c (allocId σ t) t σ.nextId ev rest ⟨hs.ok, fun o b hb => alookup_aset_isSome _ _ _ _ (hs.ms o b hb)⟩
      (by show (alookup σ.nextId (aset σ.nextId t σ.theirs)).isSome = true; rw [alookup_aset_same]; rfl)⟩

/-- `Reach` with the one assumption about hyper-h2 the absence of the KeyError needs: received trailers are reported
    only for a stream id that was opened on this connection -/
inductive ReachT : St → Prop where
  | init : ReachT St.init
  | client (σ : St) (t : Nat) (ev : Ev) : ReachT σ → Good σ t ev → ReachT (σ.step (.client t ev))
  | server (σ : St) (evs : List SEv) : ReachT σ → (∀ e ∈ evs, TrOk σ e) → ReachT (σ.step (.server evs))
  | connClosed (σ : St) : ReachT σ → ReachT (σ.step .connClosed)

theorem reachT_reach (σ : St) (h : ReachT σ) : Reach σ := by
  induction h with
  | init => exact Reach.init
  | client σ t ev _ hg ih => exact Reach.client σ t ev ih hg
  | server σ evs _ _ ih => exact Reach.server σ evs ih
  | connClosed σ _ ih => exact Reach.connClosed σ ih

theorem reachT_c (σ : St) (h : ReachT σ) : CInv σ := by
  induction h with
  | init => exact ⟨rfl, fun o b hb => by simp [St.init, alookup] at hb⟩
  | client σ t ev hr hg ih =>
    exact (step_inv cInv_rides σ (.client t ev) (reach_inv σ (reachT_reach σ hr)) ih ⟨hg, ih.ok, ih.ms⟩).2
  | server σ evs hr ht ih =>
    exact (step_inv cInv_rides σ (.server evs) (reach_inv σ (reachT_reach σ hr)) ih
      (handleAll_c evs (received σ evs) ⟨ih.ok, ih.ms⟩ ht)).2
  | connClosed σ hr ih =>
    exact (step_inv cInv_rides σ .connClosed (reach_inv σ (reachT_reach σ hr)) ih (closeConnection_c σ ih)).2

end MitmVerif.C05
