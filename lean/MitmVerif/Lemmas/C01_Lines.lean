/- both readers on the same head lines: what `_read_headers` records for a list of clean lines, the reference reader reads
   from the same lines as the same fields with their values unfolded (`fieldsAux_readHeaders`).  The proof goes in lock-step,
   by the two equations of `Ref.unfold` (`unfold_line`, `unfold_fold`). -/
import MitmVerif.Lemmas.C01_FoldG2
namespace MitmVerif.C01
open MitmVerif

theorem clean_strip {f : UInt8 → Bool} {l : Bytes} (h : cleanLine l) : cleanLine (stripBy f l) :=
  ⟨stripBy_not_mem h.1, stripBy_not_mem h.2⟩

theorem strip_nl_eq_ows {l : Bytes} (h : cleanLine l) : stripBy isOwsNl l = stripBy isOws l := by
  rw [stripBy_eq, stripBy_eq]
  exact trim_congr fun c hc => by
    have h13 : c ≠ 13 := fun e => h.1 (e ▸ hc)
    have h10 : c ≠ 10 := fun e => h.2 (e ▸ hc)
    simp [isOwsNl, isOws, h13, h10]

/-- the value `_read_headers` records for a field line is read by the reference reader as that line's value -/
theorem unfold_recorded {j : Bytes} (h : cleanLine j) : Ref.unfold (stripBy isOwsNl j) = stripBy isOws j := by
  rw [strip_nl_eq_ows h, unfold_line (clean_strip h).2, stripBy_idem]

/-- and what it appends for a continuation line is one fold step of the reference reader -/
theorem unfold_continued (v : Bytes) {line : Bytes} (h : cleanLine line) :
    Ref.unfold (v ++ foldSep ++ stripBy isOwsNl line) = stripBy isOws (Ref.unfold v ++ [32] ++ stripBy isOws line) := by
  have := unfold_fold v (q := 32 :: stripBy isOwsNl line) (by simp [(clean_strip h).2])
  rw [foldStep, stripBy_cons_ws (by decide), strip_nl_eq_ows h, stripBy_idem] at this
  simpa [foldSep, strip_nl_eq_ows h] using this

theorem readHeadersAux_names (ls : List Bytes) (acc fs : List Field) (h : readHeadersAux ls acc = some fs) :
    ∃ ns, fs.map (·.1) = (acc.map (·.1)).reverse ++ ns ∧ ∀ n ∈ ns, ∃ l ∈ ls, ∃ r, splitOn 58 l = n :: r := by
  fun_induction readHeadersAux ls acc
  case case1 acc => cases h; exact ⟨[], by simp, by simp⟩
  case case4 rest c t hc n v acc' ih =>
    obtain ⟨ns, h1, h2⟩ := ih h
    exact ⟨ns, h1, fun x hx => by obtain ⟨l, hl, r⟩ := h2 x hx; exact ⟨l, by simp [hl], r⟩⟩
  case case6 rest acc c t hc name p ps hne hs ih =>
    simp only [hs, hne] at h
    obtain ⟨ns, h1, h2⟩ := ih h
    refine ⟨name :: ns, by simpa using h1, fun x hx => ?_⟩
    rcases List.mem_cons.mp hx with rfl | hx
    · exact ⟨_, by simp, _, hs⟩
    · obtain ⟨l, hl, r⟩ := h2 x hx; exact ⟨l, by simp [hl], r⟩
  -- in the other branches `readHeadersAux` is `none`
  all_goals simp_all

theorem readHeaders_names_clean {ls : List Bytes} {fs : List Field} (hl : ∀ l ∈ ls, cleanLine l)
    (h : readHeaders ls = some fs) : ∀ f ∈ fs, (10 : UInt8) ∉ f.1 := by
  obtain ⟨ns, h1, h2⟩ := readHeadersAux_names ls [] fs h
  intro f hf hm
  have hn : f.1 ∈ fs.map (·.1) := List.mem_map_of_mem hf
  rw [h1] at hn
  obtain ⟨l, hl', r, hs⟩ := h2 f.1 (by simpa using hn)
  exact (hl l hl').2 ((splitSep_piece_infix 58 l f.1 (by simp [← splitOn_eq, hs])).subset hm)

/-- in lock-step along `readHeadersAux`. The only way the two readers part is a name that is not a token: the reference
    reader stops there, `_read_headers` records it (`readHeadersAux_names`), so `validate_headers` will see it. -/
theorem fieldsAux_readHeaders (ls : List Bytes) (acc fs : List Field) (hl : ∀ l ∈ ls, cleanLine l)
    (h : readHeadersAux ls acc = some fs) :
    Ref.fieldsAux ls (acc.map fun f => (f.1, Ref.unfold f.2)) = .ok (fs.map fun f => (f.1, Ref.unfold f.2)) ∨
    (Ref.fieldsAux ls (acc.map fun f => (f.1, Ref.unfold f.2)) = .error (.ambiguous Ref.cBadName) ∧
      ∃ f ∈ fs, isToken f.1 = false) := by
  fun_induction readHeadersAux ls acc
  case case1 acc => cases h; simp [Ref.fieldsAux, List.map_reverse]
  case case4 rest c t hc n v acc' ih =>
    have := ih (fun l hl' => hl l (by simp [hl'])) h
    rw [List.map_cons, unfold_continued v (hl _ List.mem_cons_self)] at this
    simpa [Ref.fieldsAux, hc] using this
  case case6 rest acc c t hc name p ps hne hs ih =>
    simp only [hs, hne] at h
    have hline := hl _ List.mem_cons_self
    have hj : c :: t = name ++ 58 :: joinWith [58] (p :: ps) := by
      have := joinBy_splitSep 58 (c :: t)
      rw [← splitOn_eq, hs, ← joinWith_eq] at this
      simpa [joinWith] using this.symm
    have hcl : cleanLine (joinWith [58] (p :: ps)) := by
      rw [hj] at hline
      exact ⟨fun hm => hline.1 (by simp [hm]), fun hm => hline.2 (by simp [hm])⟩
    cases hname : isToken name with
    | true =>
      have := ih (fun l hl' => hl l (by simp [hl'])) h
      rw [List.map_cons, unfold_recorded hcl] at this
      simpa [Ref.fieldsAux, hc, hs, hname] using this
    | false =>
      -- a field once begun is recorded under its name
      obtain ⟨ns, h1, _⟩ := readHeadersAux_names _ _ _ h
      have : name ∈ fs.map (·.1) := by rw [h1]; simp
      obtain ⟨f, hf, rfl⟩ := List.mem_map.mp this
      exact .inr ⟨by simp [Ref.fieldsAux, hc, hs, hname], f, hf, hname⟩
  all_goals simp_all

end MitmVerif.C01
