/-
  C03 — `grammar_holds_run`: a history delivered by the emitter (`Admissible`, Model/C03_Emit.lean) never leaves the
  event grammar (`bad` stays false), so the theorems of Props/C03.lean apply to every admissible history without a
  hypothesis on `bad`.

  The emitter decides on what it has SENT (`RqPhase`), the grammar on what the stream has HANDLED (`seenReqHdr`,
  `procReqErr`, `attached`); between the two lies `_paused_event_queue`.  The invariant `GI` accounts for the events in
  between (their order `okQ`, at most one RequestHeaders, response events only when attached); `GB` adds what holds
  between two calls of `step`.  Of the handlers only the frame lemmas of Lemmas/C03Emit.lean are used.
-/
import MitmVerif.Lemmas.C03Emit
import MitmVerif.Model.C03_Emit
namespace MitmVerif.C03

theorem procEv_spec (c : Core) (a : AEv) (p qd : Bool) (hb : c.bad = false) (hpt : c.pt = false)
    (hg : grammarOk c a = true) :
    (procEv c a p qd).c.bad = false ∧
    ((procEv c a p qd).c.stale = (c.stale || (qd && c.draining && (procEv c a p qd).crashed))) ∧
    (c.attached = true → (procEv c a p qd).c.attached = true) ∧
    (procEv c a p qd).c.procReqErr = (c.procReqErr || a.isReqErr) ∧
    (procEv c a p qd).c.seenReqHdr = (c.seenReqHdr || a.isReqHeaders) ∧
    (procEv c a p qd).c.draining = (qd && c.draining) := by
  rcases procEv_cases c a p qd with ⟨h, _⟩ | ⟨h, _⟩ | ⟨_, _, _, e⟩
  · simp [hb, hpt] at h
  · simp [hg] at h
  · obtain ⟨f1, f2, f3, f4, f5, f6⟩ := frame_handle (evCore c a (qd && c.draining)) a p
    rw [e]
    simp_all [W.fin, evCore, Bool.or_comm]

theorem procEv_pt (c : Core) (a : AEv) (p qd : Bool) (hb : c.bad = false) (hpt : c.pt = true) :
    procEv c a p qd = mk c [] := by
  unfold procEv
  rw [if_neg (by simp [hb]), if_pos hpt]

theorem connectOpen_hook : K.hook .connectOpen = none := rfl

theorem doneCore_frame (c : Core) (a : AEv) :
    (doneCore c a).bad = c.bad ∧ (doneCore c a).stale = c.stale ∧ (doneCore c a).attached = c.attached ∧
    (doneCore c a).procReqErr = c.procReqErr ∧ (doneCore c a).seenReqHdr = c.seenReqHdr ∧
    (doneCore c a).draining = true := by
  cases a with
  | hookDone h act => cases act <;> exact ⟨rfl, rfl, rfl, rfl, rfl, rfl⟩
  | _ => exact ⟨rfl, rfl, rfl, rfl, rfl, rfl⟩

theorem procDone_spec (c : Core) (a : AEv) (p : Bool) (hb : c.bad = false) (k : K) (hk : c.paused = some k)
    (ha : answers k a = true) :
    (procDone c a p).c.bad = false ∧
    ((procDone c a p).c.stale = (c.stale || (procDone c a p).crashed)) ∧
    (c.attached = true → (procDone c a p).c.attached = true) ∧
    (procDone c a p).c.procReqErr = c.procReqErr ∧
    (procDone c a p).c.seenReqHdr = c.seenReqHdr ∧
    (procDone c a p).c.draining = true := by
  rcases procDone_cases c a p with ⟨h, _⟩ | ⟨h, _⟩ | ⟨k', _, _, _, e⟩
  · simp [hb] at h
  · simp [h k hk] at ha
  · obtain ⟨f1, f2, f3, f4, f5, f6⟩ := frame_resume (doneCore c a) k' a.ok p
    obtain ⟨g1, g2, g3, g4, g5, g6⟩ := doneCore_frame c a
    rw [e]
    simp_all [W.fin]

theorem hn_queue (s : St) (ev : Ev) (qd : Bool) : (handleNow s ev qd).queue = s.queue := by
  simp [handleNow]

theorem hn_core_ev (s : St) (ev : Ev) (qd : Bool) (h : ev.isDone = false) :
    (handleNow s ev qd).core = (procEv s.core (abstractEv s ev) (s.queue.any Ev.isReqErr) qd).c ∧
    (handleNow s ev qd).crashed = (procEv s.core (abstractEv s ev) (s.queue.any Ev.isReqErr) qd).crashed := by
  simp [handleNow, h]

theorem hn_core_done (s : St) (ev : Ev) (qd : Bool) (h : ev.isDone = true) :
    (handleNow s ev qd).core = (procDone s.core (abstractEv s ev) (s.queue.any Ev.isReqErr)).c ∧
    (handleNow s ev qd).crashed = (procDone s.core (abstractEv s ev) (s.queue.any Ev.isReqErr)).crashed := by
  simp [handleNow, h]

theorem abs_isReqErr (s : St) (ev : Ev) : (abstractEv s ev).isReqErr = ev.isReqErr := by cases ev <;> rfl
theorem abs_isReqHeaders (s : St) (ev : Ev) : (abstractEv s ev).isReqHeaders = ev.isReqHeaders := by cases ev <;> rfl

/-- the queue respects the request-side order: once a RequestProtocolError is in (or has been handled, `e`), no
    request headers / data / end-of-message follow -/
def okQ : Bool → List Ev → Bool
  | _, [] => true
  | e, x :: xs => if x.isReqPart then !e && okQ e xs else if x.isReqErr then okQ true xs else okQ e xs

theorem isReqPart_not_err (x : Ev) (h : x.isReqPart = true) : x.isReqErr = false := by cases x <;> simp_all [Ev.isReqPart, Ev.isReqErr]
theorem isReqHeaders_part (x : Ev) (h : x.isReqHeaders = true) : x.isReqPart = true := by cases x <;> simp_all [Ev.isReqPart, Ev.isReqHeaders]

theorem okQ_mono : ∀ (q : List Ev) (e : Bool), okQ true q = true → okQ e q = true
  | [], _, _ => rfl
  | x :: xs, e, h => by
    simp only [okQ] at h ⊢
    split at h
    · simp at h
    · split at h
      · rename_i h1 h2; simp [h1, h2, h]
      · rename_i h1 h2; simp [h1, h2]; exact okQ_mono xs e h

theorem okQ_split : ∀ (q r : List Ev) (e : Bool), okQ e (q ++ r) = (okQ e q && okQ (e || q.any Ev.isReqErr) r)
  | [], r, e => by simp [okQ]
  | y :: ys, r, e => by
    simp only [List.cons_append, okQ, List.any_cons, okQ_split ys r]
    split
    · rename_i hp; simp [isReqPart_not_err y hp, Bool.and_assoc]
    · split <;> rename_i he <;> simp [he]

theorem okQ_append (q : List Ev) (e : Bool) (x : Ev) (h : okQ e q = true)
    (hx : x.isReqPart = true → e = false ∧ q.any Ev.isReqErr = false) : okQ e (q ++ [x]) = true := by
  rw [okQ_split, h]
  simp only [okQ, Bool.true_and]
  split
  · rename_i hp; simp [hx hp]
  · split <;> rfl

theorem okQ_cons {e : Bool} {x : Ev} {q : List Ev} (h : okQ e (x :: q) = true) : okQ (e || x.isReqErr) q = true := by
  rw [← List.singleton_append, okQ_split, Bool.and_eq_true] at h
  simpa using h.2

def hdrs (q : List Ev) : Nat := q.countP Ev.isReqHeaders

/-- `ord` is claimed only while not `stale`: after an escaped exception the left-over queue is replayed behind newer
    events, and `grammarOk` asks nothing about the order then.  `hdr`: one RequestHeaders at most between queue and
    core, none before the emitter has sent it. -/
structure GI (c : Core) (q : List Ev) (rq : RqPhase) : Prop where
  nb : c.bad = false
  ord : c.stale = false → okQ c.procReqErr q = true
  err : (c.procReqErr = true ∨ q.any Ev.isReqErr = true) → rq = .errored
  hdr : hdrs q + (if c.seenReqHdr = true then 1 else 0) ≤ (if rq = .none then 0 else 1)
  nodone : ∀ x ∈ q, x.isDone = false
  att : ∀ x ∈ q, x.isResp = true → c.attached = true

/-- taking the head off the queue: handled (`b`, its flags are recorded) or ignored by a pipe -/
theorem gi_pop {c c' : Core} {ev : Ev} {q : List Ev} {rq : RqPhase} (b : Bool) (h : GI c (ev :: q) rq)
    (hb : c'.bad = false) (hs : c'.stale = false → c.stale = false) (ha : c.attached = true → c'.attached = true)
    (he : c'.procReqErr = (c.procReqErr || (b && ev.isReqErr)))
    (hh : c'.seenReqHdr = (c.seenReqHdr || (b && ev.isReqHeaders))) : GI c' q rq := by
  refine ⟨hb, fun hs' => ?_, fun hor => h.err ?_, ?_, fun x hx => h.nodone x (List.mem_cons_of_mem _ hx),
    fun x hx hr => ha (h.att x (List.mem_cons_of_mem _ hx) hr)⟩
  · have := okQ_cons (h.ord (hs hs'))
    rw [he]
    cases b
    · cases hev : ev.isReqErr <;> simp only [hev, Bool.or_false, Bool.or_true, Bool.false_and] at this ⊢
      · exact this
      · exact okQ_mono _ _ this
    · simpa using this
  · rw [he] at hor
    simp only [List.any_cons, Bool.or_eq_true, Bool.and_eq_true] at hor ⊢
    rcases hor with (hor | hor) | hor
    · exact .inl hor
    · exact .inr (.inl hor.2)
    · exact .inr (.inr hor)
  · have := h.hdr
    rw [hh]
    simp only [hdrs, List.countP_cons] at this ⊢
    generalize ev.isReqHeaders = x at this ⊢
    generalize c.seenReqHdr = y at this ⊢
    cases b <;> cases x <;> cases y <;> simp at this ⊢ <;> omega

/-- `ev` is the head of the queue being replayed, or an event handled at once, which `gi_direct` puts there -/
theorem gi_handle (s : St) (ev : Ev) (qd : Bool) (rq : RqPhase) (h : GI s.core (ev :: s.queue) rq) :
    GI (handleNow s ev qd).core (handleNow s ev qd).queue rq ∧
    (s.core.stale = true → (handleNow s ev qd).core.stale = true) ∧
    ((qd = true ∧ s.core.draining = true) → (handleNow s ev qd).core.draining = true ∧
        ((handleNow s ev qd).crashed = true → (handleNow s ev qd).core.stale = true)) := by
  have hnd : ev.isDone = false := h.nodone ev (List.mem_cons_self ..)
  obtain ⟨hc, hcr⟩ := hn_core_ev s ev qd hnd
  rw [hn_queue, hc, hcr]
  by_cases hpt : s.core.pt = true
  · -- a pipe ignores everything
    rw [procEv_pt _ _ _ _ h.nb hpt]
    simp only [mk_c, mk_crashed]
    exact ⟨gi_pop false h h.nb id id (by simp) (by simp), id, fun a => ⟨a.2, by simp⟩⟩
  · have hpt' : s.core.pt = false := by simpa using hpt
    have hg : grammarOk s.core (abstractEv s ev) = true := by
      have hhdr := h.hdr
      have hatt := h.att ev (List.mem_cons_self ..)
      have hperr : ev.isReqPart = true → s.core.stale = true ∨ s.core.procReqErr = false := by
        intro hp
        cases hst : s.core.stale
        · right
          have := h.ord hst
          simp only [okQ, hp, ↓reduceIte, Bool.and_eq_true, Bool.not_eq_eq_eq_not, Bool.not_true] at this
          exact this.1
        · exact Or.inl rfl
      cases ev with
      | reqHeaders e n k ws =>
        have h1 : s.core.seenReqHdr = false := by
          simp only [hdrs, List.countP_cons, Ev.isReqHeaders, ↓reduceIte] at hhdr
          cases hs : s.core.seenReqHdr
          · rfl
          · simp only [hs, ↓reduceIte] at hhdr; split at hhdr <;> omega
        simpa [abstractEv, grammarOk, h1] using hperr rfl
      | reqData | reqEOM | reqTrailers => simpa [abstractEv, grammarOk] using hperr rfl
      | respTrailers | respHeaders | respData | respEOM | respErr => exact hatt rfl
      | reqErr => rfl
      | hookDone | connDone | openDone => simp [Ev.isDone] at hnd
    obtain ⟨s1, s2, s3, s4, s5, s6⟩ := procEv_spec s.core (abstractEv s ev) (s.queue.any Ev.isReqErr) qd h.nb hpt' hg
    rw [abs_isReqErr] at s4
    rw [abs_isReqHeaders] at s5
    refine ⟨gi_pop true h s1 (fun hs => ?_) s3 (by simpa using s4) (by simpa using s5), fun hs => by rw [s2, hs]; rfl, ?_⟩
    · exact (Bool.or_eq_false_iff.1 (s2 ▸ hs)).1
    · intro ⟨hqd, hdr⟩
      refine ⟨by rw [s6, hqd, hdr]; rfl, fun hcr => ?_⟩
      rw [s2, hcr, hqd, hdr]; simp

theorem answers_of_enabled {s : St} {k : K} {ev : Ev} {rq : RqPhase} (hk : s.core.paused = some k)
    (hd : ev.isDone = true) (he : enabled s rq ev = true) : answers k (abstractEv s ev) = true := by
  cases ev <;> simp_all [enabled, answers, abstractEv, Ev.isDone]

theorem abs_answers (s : St) (k : K) (ev : Ev) (hk : s.core.paused = some k) (hd : ev.isDone = true)
    (he : ∀ rq, enabled s rq ev = true) : answers k (abstractEv s ev) = true :=
  answers_of_enabled hk hd (he .none)

theorem gi_done (s : St) (ev : Ev) (rq : RqPhase) (k : K) (hk : s.core.paused = some k) (hd : ev.isDone = true)
    (ha : answers k (abstractEv s ev) = true) (h : GI s.core s.queue rq) :
    GI (handleNow s ev false).core (handleNow s ev false).queue rq ∧
    (handleNow s ev false).core.draining = true ∧
    ((handleNow s ev false).crashed = true → (handleNow s ev false).core.stale = true) := by
  obtain ⟨hc, hcr⟩ := hn_core_done s ev false hd
  rw [hn_queue, hc, hcr]
  obtain ⟨s1, s2, s3, s4, s5, s6⟩ := procDone_spec s.core (abstractEv s ev) (s.queue.any Ev.isReqErr) h.nb k hk ha
  refine ⟨⟨s1, ?_, ?_, ?_, h.nodone, fun x hx hr => s3 (h.att x hx hr)⟩, s6, fun hcr => by rw [s2, hcr]; simp⟩
  · intro hs
    rw [s4]; exact h.ord (Bool.or_eq_false_iff.1 (s2 ▸ hs)).1
  · intro hh; rw [s4] at hh; exact h.err hh
  · rw [s5]; exact h.hdr

theorem gi_drain (rq : RqPhase) (fuel : Nat) (s : St) (h : GI s.core s.queue rq) (hdr : s.core.draining = true)
    (hcs : s.crashed = true → s.core.stale = true) :
    GI (drain fuel s).core (drain fuel s).queue rq ∧
    (s.queue.length ≤ fuel → (drain fuel s).core.paused.isSome = true ∨ (drain fuel s).queue = [] ∨ (drain fuel s).core.stale = true) := by
  fun_induction drain fuel s with
  | case1 s => exact ⟨h, fun hl => .inr (.inl (List.eq_nil_of_length_eq_zero (Nat.le_zero.mp hl)))⟩
  | case2 fuel s hc =>
    refine ⟨h, fun _ => ?_⟩
    simp only [Bool.or_eq_true] at hc
    exact hc.elim .inl fun hc => .inr (.inr (hcs hc))
  | case3 fuel s hc hq => exact ⟨h, fun _ => .inr (.inl hq)⟩
  | case4 fuel s hc e q hq ih =>
    have h' : GI ({ s with queue := q } : St).core (e :: ({ s with queue := q } : St).queue) rq := by
      show GI s.core (e :: q) rq
      rw [← hq]; exact h
    obtain ⟨g1, _, g3⟩ := gi_handle { s with queue := q } e true rq h'
    obtain ⟨g3a, g3b⟩ := g3 ⟨rfl, hdr⟩
    obtain ⟨r1, r2⟩ := ih g1 g3a g3b
    refine ⟨r1, fun hl => r2 ?_⟩
    rw [hn_queue]
    show q.length ≤ fuel
    rw [hq] at hl; simp at hl; exact hl

theorem hdr_next (s : St) (n k : Nat) (rq : RqPhase) (ev : Ev) (he : enabled s rq ev = true)
    (h : n + k ≤ (if rq = .none then 0 else 1)) :
    n + (if ev.isReqHeaders = true then 1 else 0) + k ≤ (if rqNext rq ev = .none then 0 else 1) := by
  cases rq <;> cases ev <;> simp_all [enabled, rqNext, Ev.isReqHeaders] <;> omega

theorem enabled_reqPart {s : St} {rq : RqPhase} {ev : Ev} (he : enabled s rq ev = true) (hp : ev.isReqPart = true) :
    rq ≠ .errored := by
  cases ev <;> simp_all [enabled, Ev.isReqPart]

theorem enabled_resp {s : St} {rq : RqPhase} {ev : Ev} (he : enabled s rq ev = true) (hr : ev.isResp = true) :
    s.core.attached = true := by
  cases ev <;> simp_all [enabled, Ev.isResp]

theorem rqNext_errored {s : St} {rq : RqPhase} {ev : Ev} (he : enabled s rq ev = true)
    (h : rq = .errored ∨ ev.isReqErr = true) : rqNext rq ev = .errored := by
  cases ev <;> simp_all [enabled, rqNext, Ev.isReqErr]

theorem gi_enqueue (s : St) (ev : Ev) (rq : RqPhase) (hnd : ev.isDone = false) (he : enabled s rq ev = true)
    (h : GI s.core s.queue rq) : GI s.core (s.queue ++ [ev]) (rqNext rq ev) := by
  refine ⟨h.nb, fun hs => okQ_append _ _ _ (h.ord hs) fun hp => ?_, fun hh => rqNext_errored he ?_, ?_, ?_, ?_⟩
  · -- a request part is delivered only while no protocol error has been: neither handled nor queued
    have hr : ¬(s.core.procReqErr = true ∨ s.queue.any Ev.isReqErr = true) := fun hh => enabled_reqPart he hp (h.err hh)
    simpa using hr
  · simp only [List.any_append, List.any_cons, List.any_nil, Bool.or_false, Bool.or_eq_true] at hh
    rcases hh with hh | hh | hh
    · exact .inl (h.err (.inl hh))
    · exact .inl (h.err (.inr hh))
    · exact .inr hh
  · have := hdr_next s _ _ rq ev he h.hdr
    simp only [hdrs, List.countP_append, List.countP_cons, List.countP_nil, Nat.zero_add] at this ⊢
    exact this
  · exact List.forall_mem_append.2 ⟨h.nodone, List.forall_mem_singleton.2 hnd⟩
  · exact List.forall_mem_append.2 ⟨h.att, List.forall_mem_singleton.2 (enabled_resp he)⟩

/-- an event arriving while the layer is not paused is handled at once: as if it were the head of the queue -/
theorem gi_direct (s : St) (ev : Ev) (rq : RqPhase) (hnd : ev.isDone = false) (he : enabled s rq ev = true)
    (h : GI s.core s.queue rq) (hb : s.queue = [] ∨ s.core.stale = true) :
    GI s.core (ev :: s.queue) (rqNext rq ev) := by
  have g := gi_enqueue s ev rq hnd he h
  rcases hb with hq | hs
  · rw [hq] at g ⊢; exact g
  · -- once stale, the order of the queue is no longer constrained, and the rest of `GI` does not depend on it
    refine ⟨g.nb, fun hf => absurd (hs.symm.trans hf) (by simp), fun hh => g.err ?_, ?_, fun x hx => g.nodone x ?_, fun x hx => g.att x ?_⟩
    · simpa [Bool.or_comm] using hh
    · simpa [hdrs, List.countP_append, List.countP_cons, Nat.add_comm] using g.hdr
    · simpa [or_comm] using hx
    · simpa [or_comm] using hx

/-- between two calls of `step`: a queue outlives an unpaused layer only if an exception cut `drain` short -/
def GB (s : St) (rq : RqPhase) : Prop :=
  GI s.core s.queue rq ∧ (s.core.paused = none → s.queue = [] ∨ s.core.stale = true)

theorem gb_step (s : St) (ev : Ev) (rq : RqPhase) (h : GB s rq) (he : enabled s rq ev = true) :
    GB (step s ev) (rqNext rq ev) := by
  obtain ⟨hg, hbnd⟩ := h
  unfold step
  cases hp : s.core.paused with
  | some k =>
    simp only [Option.isSome_some, ↓reduceIte]
    by_cases hd : ev.isDone = true
    · simp only [hd, ↓reduceIte]
      have hrq : rqNext rq ev = rq := by cases ev <;> simp_all [Ev.isDone, rqNext]
      rw [hrq]
      obtain ⟨d1, d2, d3⟩ := gi_done s ev rq k hp hd (answers_of_enabled hp hd he) hg
      obtain ⟨r1, r2⟩ := gi_drain rq _ _ d1 d2 d3
      exact ⟨r1, fun hpn => (r2 (Nat.le_refl _)).resolve_left (by rw [hpn]; simp)⟩
    · have hd' : ev.isDone = false := by simpa using hd
      simp only [hd', Bool.false_eq_true, ↓reduceIte]
      refine ⟨gi_enqueue s ev rq hd' he hg, fun hpn => ?_⟩
      simp only [hp] at hpn
      cases hpn
  | none =>
    simp only [Option.isSome_none, Bool.false_eq_true, ↓reduceIte]
    have hd' : ev.isDone = false := by
      cases ev <;> simp_all [enabled, Ev.isDone]
    have h1 := gi_direct s ev rq hd' he hg (hbnd hp)
    obtain ⟨g1, g2, _⟩ := gi_handle s ev false (rqNext rq ev) h1
    refine ⟨g1, fun _ => ?_⟩
    rw [hn_queue]
    exact (hbnd hp).imp_right g2

theorem gb_init (l t : Nat) : GB (init l t) .none := by
  refine ⟨⟨rfl, fun _ => rfl, ?_, ?_, ?_, ?_⟩, fun _ => Or.inl rfl⟩
  · intro h; simp [init] at h
  · simp [init, hdrs]
  · intro x hx; simp [init] at hx
  · intro x hx; simp [init] at hx

theorem gb_run : ∀ (evs : List Ev) (s : St) (rq : RqPhase), GB s rq → admissible s rq evs = true →
    (evs.foldl step s).core.bad = false
  | [], s, _, h, _ => h.1.nb
  | ev :: evs, s, rq, h, ha => by
    simp only [admissible, Bool.and_eq_true] at ha
    exact gb_run evs (step s ev) (rqNext rq ev) (gb_step s ev rq h ha.1) ha.2

theorem grammar_holds_run (l t : Nat) (evs : List Ev) (h : Admissible l t evs) : (run l t evs).core.bad = false :=
  gb_run evs (init l t) .none (gb_init l t) h

end MitmVerif.C03
