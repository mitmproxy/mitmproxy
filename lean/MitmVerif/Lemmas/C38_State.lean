/-
  C38 — the tables of the two stateful converters (look-up and deletion: the keyed theory of Lemmas/C38_Conv once more), and
  what one step of each can do with its table.
-/
import MitmVerif.Model.C38_State
import MitmVerif.Lemmas.C38_Conv
namespace MitmVerif.C38Conv
open MitmVerif MitmVerif.C36

variable {α : Type}

theorem beq_excl (k n m : Bytes) (hnm : n ≠ m) (hk : (k == n) = true) : (k == m) = false := by
  rw [beq_iff_eq] at hk
  subst hk; exact beq_false_of_ne hnm

theorem tget_tdel_same (t : Tbl α) (k : Bytes) : tget (tdel t k) k = none := kget_kpop_same t k

theorem tget_tdel_ne (t : Tbl α) (k m : Bytes) (h : (k == m) = false) : tget (tdel t k) m = tget t m :=
  kget_kpop_ne beq_excl t k m (ne_of_beq_false h)

theorem tget_tset_same (t : Tbl α) (k : Bytes) (v : α) : tget (tset t k v) k = some v := by
  simp [tget, tset]

theorem tget_tset_ne (t : Tbl α) (k m : Bytes) (v : α) (h : (k == m) = false) :
    tget (tset t k v) m = tget t m := by
  have := tget_tdel_ne t k m h
  simp only [tget, tset, List.find?_cons, h] at this ⊢
  exact this

/-- What 11→12 can do with the table `g`. First a handshake flow is put on record under its id (`g1`). Then a record that names
    no handshake gets an empty `websocket`; one that names `hid` continues as `data`: the stored handshake (taken off the table) or,
    with none on record, the made-up flow (table as it was); `data` gains the `duplicated` note and the `websocket` record. -/
theorem conv_11_12_st_cases (g g' : Tbl Dict) (d d' : Dict) (h : conv_11_12_st g d = some (g', d')) :
    ∃ md g1, (dget d (s "metadata")).bind asDict = some md ∧
      (if dhas md (s "websocket") then ∃ id, dget d (s "id") = some id ∧ g1 = tset g (enc id) (setVersion d 12) else g1 = g) ∧
      match dget md (s "websocket_handshake") with
      | none => g' = g1 ∧ d' = dset (setVersion d 12) (s "websocket") .null
      | some hid => ∃ data dmd rec_,
        (tget g1 (enc hid) = some data ∧ g' = tdel g1 (enc hid) ∨
          tget g1 (enc hid) = none ∧ dummyFlow (setVersion d 12) = some data ∧ g' = g1) ∧
        wsRecord (setVersion d 12) (dset data (s "metadata") (.dict dmd)) = some rec_ ∧
        d' = dset (dset data (s "metadata") (.dict dmd)) (s "websocket") rec_ := by
  unfold conv_11_12_st at h
  obtain ⟨md, hmd, h⟩ := Option.bind_eq_some_iff.mp h
  obtain ⟨g1, hg1, h⟩ := Option.bind_eq_some_iff.mp h
  rw [dget_setVersion_ne _ _ _ (by simp)] at hmd
  refine ⟨md, g1, hmd, ?_, ?_⟩
  · unfold conv1112Store at hg1
    split at hg1
    · next hw =>
      rw [if_pos hw]
      split at hg1
      · next id hid =>
        rw [dget_setVersion_ne _ _ _ (by simp)] at hid
        split at hg1 <;> cases hg1
        exact ⟨id, hid, rfl⟩
      · cases hg1
    · next hw => cases hg1; rw [if_neg hw]
  rw [dhas_eq_isSome] at h
  cases hhid : dget md (s "websocket_handshake") with
  | none =>
    simp only [hhid, Option.isSome_none, Bool.false_eq_true, if_false, Option.pure_def, Option.some.injEq, Prod.mk.injEq] at h
    exact ⟨h.1.symm, h.2.symm⟩
  | some hid =>
    simp only [hhid, Option.isSome_some, if_true, Option.bind_eq_bind, Option.bind_some] at h
    split at h
    · cases h
    · simp only [Option.bind_eq_some_iff, Option.pure_def, Option.some.injEq, Prod.mk.injEq] at h
      obtain ⟨⟨data, g2⟩, hsel, dmd, _, rec_, hrec, rfl, rfl⟩ := h
      refine ⟨data, _, rec_, ?_, hrec, rfl⟩
      cases hst : tget g1 (enc hid) with
      | some hflow => simp only [hst, Option.some.injEq, Prod.mk.injEq] at hsel; exact .inl ⟨by rw [hsel.1], hsel.2.symm⟩
      | none =>
        simp only [hst, Option.map_eq_some_iff, Prod.mk.injEq] at hsel
        obtain ⟨df, hdf, rfl, rfl⟩ := hsel
        exact .inr ⟨rfl, hdf, rfl⟩

theorem tget_append_of_some (t u : Tbl α) (k : Bytes) (v : α) (h : tget t k = some v) : tget (t ++ u) k = some v := by
  unfold tget at h ⊢
  simp only [Option.map_eq_some_iff] at h ⊢
  obtain ⟨e, he, rfl⟩ := h
  exact ⟨e, by rw [List.find?_append, he]; rfl, rfl⟩

theorem tget_append_new (t : Tbl α) (k : Bytes) (v : α) (h : tget t k = none) : tget (t ++ [(k, v)]) k = some v := by
  unfold tget at h ⊢
  rw [Option.map_eq_none_iff] at h
  simp [List.find?_append, h]

theorem setdefault_mono (t : Tbl Value) (k k' : Bytes) (v v' : Value) (h : tget t k = some v) :
    tget (setdefault t k' v').1 k = some v := by
  unfold setdefault
  split
  · exact h
  · exact tget_append_of_some _ _ _ _ h

theorem setdefault_spec (t : Tbl Value) (k : Bytes) (v : Value) :
    (∀ old, tget t k = some old → (setdefault t k v) = (t, old)) ∧
    (tget t k = none → (setdefault t k v).2 = v ∧ tget (setdefault t k v).1 k = some v) := by
  constructor
  · intro old h; simp [setdefault, h]
  · intro h
    have e : setdefault t k v = (t ++ [(k, v)], v) := by simp [setdefault, h]
    rw [e]
    exact ⟨rfl, tget_append_new _ _ _ h⟩

theorem setdefault_result_recorded (t : Tbl Value) (k : Bytes) (v : Value) :
    tget (setdefault t k v).1 k = some (setdefault t k v).2 := by
  cases h : tget t k with
  | some old => rw [(setdefault_spec t k v).1 old h]; exact h
  | none => obtain ⟨a, b⟩ := (setdefault_spec t k v).2 h; rw [a]; exact b

/-- What 4→5 can do with the id tables: the client id is looked up or drawn for the client's key and written into the client
    record; the server table takes one `setdefault`, or two when there is an upstream proxy; two or three ids are drawn. -/
theorem conv_4_5_st_cases (fresh : Nat → Value) (g g' : Ids) (d d' : Dict) (h : conv_4_5_st fresh g d = some (g', d')) :
    ∃ cc ck sk, dget d (s "client_conn") = some (.dict cc) ∧ connKey cc (s "address") = some ck ∧
      g'.client = (setdefault g.client ck (fresh g.drawn)).1 ∧
      dget d' (s "client_conn") = some (.dict (dset cc (s "id") (setdefault g.client ck (fresh g.drawn)).2)) ∧
      (g'.server = (setdefault g.server sk (fresh (g.drawn + 1))).1 ∨
        ∃ vk, g'.server = (setdefault (setdefault g.server sk (fresh (g.drawn + 1))).1 vk (fresh (g.drawn + 2))).1) ∧
      g.drawn < g'.drawn := by
  unfold conv_4_5_st at h
  simp only [Option.bind_eq_bind, Option.bind_eq_some_iff] at h
  obtain ⟨cc, ⟨vc, hvc, hcc⟩, sc, _, ck, hck, sk, _, via, _, h⟩ := h
  cases vc <;> cases hcc
  rw [dget_setVersion_ne _ _ _ (by simp)] at hvc
  refine ⟨cc, ck, sk, hvc, hck, ?_⟩
  split at h
  · simp only [Option.bind_eq_some_iff, Option.pure_def, Option.some.injEq, Prod.mk.injEq] at h
    obtain ⟨vd, _, vk, _, rfl, rfl⟩ := h
    exact ⟨rfl, by simp, .inr ⟨vk, rfl⟩, by simp⟩
  · simp only [Option.pure_def, Option.some.injEq, Prod.mk.injEq] at h
    obtain ⟨rfl, rfl⟩ := h
    exact ⟨rfl, by simp, .inl rfl, by simp⟩

end MitmVerif.C38Conv
