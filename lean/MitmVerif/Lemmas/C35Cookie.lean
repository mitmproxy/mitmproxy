/-
  C35 × C34 — `request_cookies_view_refines` with its two hypotheses discharged by the theorems of `Props/C34.lean`.
  No module but the root imports this one (it imports two Props files); it only shows that C34's property theorems are the
  hypotheses as stated.  `Props.C35.request_cookies_view_refines_closed` is the same statement proved from
  `Lemmas/C35CookieCodec.lean` directly, and is the one C35's check audits.
-/
import MitmVerif.Props.C35
import MitmVerif.Props.C34
namespace MitmVerif.C35Cookie
open MitmVerif MitmVerif.C35

theorem request_cookies_view_refines_closed (hdrs : List C34.Str) (ops : List (Gen.MOp PyStr PyStr))
    (hops : ∀ op ∈ ops, ∀ k, MultiDictGen.MOp.key? op = some k → CookieKeyOk k) :
    Gen.View.runOps (id : PyStr → PyStr) (Gen.first []) cookieLens hdrs ops
      = Gen.runOps id (Gen.first []) (C34.getCookies hdrs) ops :=
  Props.C35.request_cookies_view_refines
    (fun ps h => Props.C34.request_cookies_view_roundtrip ps h)
    (fun s e he => Props.C34.parse_yields_representable s e he)
    hdrs ops hops

end MitmVerif.C35Cookie
