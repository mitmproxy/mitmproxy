/-
  C27, from bytes to messages: the laws of the TCP framing (`parse`) — what it extracts from `x ++ y`, and that what it leaves
  in the buffer holds no complete frame.
-/
import MitmVerif.Model.C27
set_option linter.unusedVariables false
set_option linter.unusedSimpArgs false
namespace MitmVerif.C27
open MitmVerif MitmVerif.C25

theorem parse_nil (I : Idna) : parse I [] = ([], [], false) := by rw [parse]; simp

theorem parse_one (I : Idna) (a : UInt8) : parse I [a] = ([], [a], false) := by rw [parse]; simp

theorem parse_cons2 (I : Idna) (a b : UInt8) (rest : Bytes) :
    parse I (a :: b :: rest) =
      if a.toNat * 256 + b.toNat = 0 then ([], [], true)
      else if rest.length < a.toNat * 256 + b.toNat then ([], a :: b :: rest, false)
      else
        match unpack I (rest.take (a.toNat * 256 + b.toNat)) with
        | none => ([], [], true)
        | some m =>
          (m :: (parse I (rest.drop (a.toNat * 256 + b.toNat))).1, (parse I (rest.drop (a.toNat * 256 + b.toNat))).2.1,
            (parse I (rest.drop (a.toNat * 256 + b.toNat))).2.2) := by
  rw [parse]; rfl

/-- in the form `Incremental.Lawful` (Basic/Seg) asks for; after an error nothing of `y` is looked at -/
theorem parse_append (I : Idna) (x y : Bytes) :
    parse I (x ++ y) =
      if (parse I x).2.2 then parse I x
      else ((parse I x).1 ++ (parse I ((parse I x).2.1 ++ y)).1, (parse I ((parse I x).2.1 ++ y)).2.1,
            (parse I ((parse I x).2.1 ++ y)).2.2) := by
  fun_induction parse I x with
  | case1 a b rest h0 => simp [parse_cons2, h0]
  | case2 a b rest h0 hl => simp
  | case3 a b rest h0 hl hu =>
    have hl2 : ¬ (rest ++ y).length < a.toNat * 256 + b.toNat := by rw [List.length_append]; omega
    rw [List.cons_append, List.cons_append, parse_cons2, if_neg h0, if_neg hl2,
      List.take_append_of_le_length (Nat.le_of_not_lt hl), hu]
    simp
  | case4 a b rest h0 hl m hu r ih =>
    have hl2 : ¬ (rest ++ y).length < a.toNat * 256 + b.toNat := by rw [List.length_append]; omega
    rw [List.cons_append, List.cons_append, parse_cons2, if_neg h0, if_neg hl2,
      List.take_append_of_le_length (Nat.le_of_not_lt hl), List.drop_append_of_le_length (Nat.le_of_not_lt hl), hu]
    simp only [ih]
    split <;> simp [r]
  | case5 buf h => simp

theorem parse_rest_stable (I : Idna) (x : Bytes) : parse I (parse I x).2.1 = ([], (parse I x).2.1, false) := by
  fun_induction parse I x with
  | case1 a b rest h0 => exact parse_nil I
  | case2 a b rest h0 hl => rw [parse_cons2, if_neg h0, if_pos hl]
  | case3 a b rest h0 hl hu => exact parse_nil I
  | case4 a b rest h0 hl m hu r ih => exact ih
  | case5 buf h =>
    match buf, h with
    | [], _ => exact parse_nil I
    | [a], _ => exact parse_one I a
    | a :: b :: rest, h => exact absurd rfl (h a b rest)

theorem extract_rest_stable (c : Cfg) (buf d : Bytes) (h : parse c.I buf = ([], buf, false)) :
    parse c.I (extract c.I c.tcp buf d).2.1 = ([], (extract c.I c.tcp buf d).2.1, false) := by
  unfold extract
  split
  · exact parse_rest_stable c.I _
  · split <;> exact h
end MitmVerif.C27
