/-
  C48 — lemmas about Model.Sh: how the reading of a command line advances over unquoted safe words,
  single-quoted segments and `shlex.quote`d arguments; `Reads`: a text is read as some words, and two texts with a
  space between them as the words of both; the command that plain words stand for (`interp_args`).
-/
import MitmVerif.Model.C48
namespace MitmVerif.Lemmas.C48
open MitmVerif MitmVerif.C48 MitmVerif.C48.Sh

theorem steps_append (hex : Bool) : ∀ (a b : Bytes) (s : St),
    steps hex s (a ++ b) = (steps hex s a).bind (fun s' => steps hex s' b) := by
  intro a
  induction a with
  | nil => intro b s; simp [steps]
  | cons c r ih =>
    intro b s
    simp only [List.cons_append, steps]
    cases h : step hex s c with
    | none => simp
    | some s' => simp [ih]

/-- none of the five bytes the shell reader treats specially is in the safe set -/
theorem safe_not_special (c : UInt8) (h : safe c = true) :
    c ≠ 32 ∧ c ≠ 39 ∧ c ≠ 34 ∧ c ≠ 60 ∧ c ≠ 41 := by
  refine ⟨?_, ?_, ?_, ?_, ?_⟩ <;> (rintro rfl; revert h; decide)

/-- bytes appended to the word under construction; appending nothing starts no word (`Word.append none []` would) -/
def addBytes (w : Option Word) (b : Bytes) : Option Word :=
  match b with
  | [] => w
  | _ :: _ => Word.append w b

theorem push_eq (w : Option Word) (c : UInt8) : Word.push w c = Word.append w [c] := by
  cases w <;> rfl

/-- unquoted safe characters are collected literally -/
theorem steps_safe (hex : Bool) : ∀ (w : Bytes) (s : St), s.mode = .normal → w.all safe = true →
    steps hex s w = some { s with cur := addBytes s.cur w } := by
  intro w
  induction w with
  | nil => intro s _ _; simp [steps, addBytes]
  | cons c r ih =>
    intro s hm hs
    simp only [List.all_cons, Bool.and_eq_true] at hs
    obtain ⟨h1, h2, h3, h4, h5⟩ := safe_not_special c hs.1
    have hstep : step hex s c = some { s with cur := Word.push s.cur c } := by
      simp [step, hm, h1, h2, h3, h4, h5, hs.1]
    simp only [steps, hstep]
    rw [ih _ (by simpa using hm) hs.2]
    cases hc : s.cur with
    | none =>
      cases r <;> simp [addBytes, Word.push, Word.append]
    | some w0 =>
      cases r <;> simp [addBytes, Word.push, Word.append]

/-- inside single quotes, the escaped form of `a` contributes exactly `a` and the reader is inside quotes again -/
theorem steps_escSq (hex : Bool) : ∀ (a : Bytes) (s : St) (w : Word), s.mode = .sq → s.cur = some w →
    steps hex s (escSq a) = some { s with cur := some ⟨w.bytes ++ a, w.op⟩ } := by
  intro a
  fun_induction escSq a <;> intro s w hm hc <;> obtain ⟨m, cur, acc, fr⟩ := s <;> subst hm hc
  · rw [List.append_nil]; rfl
  · -- `'"'"'`: leave the quotes, a double-quoted `'`, and back inside single quotes
    rename_i ih
    exact (ih ⟨.sq, some ⟨w.bytes ++ [39], w.op⟩, acc, fr⟩ _ rfl rfl).trans (by rw [List.append_assoc]; rfl)
  · rename_i c r h ih
    have : steps hex ⟨.sq, some w, acc, fr⟩ (c :: escSq r) =
        steps hex ⟨.sq, some ⟨w.bytes ++ [c], w.op⟩, acc, fr⟩ (escSq r) := by
      simp only [steps, step, if_neg h, Word.push]
    rw [this, ih _ _ rfl rfl, List.append_assoc]; rfl

/-- a `shlex.quote`d argument read from the start of a word yields exactly that argument as the word -/
theorem steps_quote (hex : Bool) (a : Bytes) (s : St) (hm : s.mode = .normal) (hc : s.cur = none) :
    steps hex s (quote a) = some { s with cur := some ⟨a, false⟩ } := by
  unfold quote
  by_cases he : a.isEmpty = true
  · have : a = [] := by simpa using he
    subst this
    simp [steps, step, hm, hc, Word.start]
  · simp only [he, Bool.false_eq_true, if_false]
    by_cases hs : a.all safe = true
    · simp only [hs, if_true]
      rw [steps_safe hex a s hm hs]
      cases a with
      | nil => simp at he
      | cons x xs => simp [addBytes, Word.append, hc]
    · simp only [hs, Bool.false_eq_true, if_false]
      rw [show ([39] : Bytes) ++ escSq a ++ [39] = 39 :: (escSq a ++ [39]) by simp]
      simp only [steps]
      have h1 : step hex s 39 = some { s with mode := .sq, cur := some ⟨[], false⟩ } := by
        simp [step, hm, hc, Word.start]
      simp only [h1]
      rw [steps_append, steps_escSq hex a _ ⟨[], false⟩ rfl rfl]
      simp [steps, step, hm]

def mkWord (b : Bytes) : Word := ⟨b, false⟩

/-- the text `b`, met where a word may start (outside `$( )`), is read as the words `ws` and leaves the reader outside
    quotes.  The command lines the exporter writes are built from such texts with single spaces between them. -/
def Reads (hex : Bool) (b : Bytes) (ws : List Word) : Prop :=
  ∀ acc, ∃ s, steps hex ⟨.normal, none, acc, none⟩ b = some s ∧ s.mode = .normal ∧ s.frame = none ∧
    finish s = ws.reverse ++ acc

theorem Reads.run {hex : Bool} {b : Bytes} {ws : List Word} (h : Reads hex b ws) : run hex b = interp ws := by
  obtain ⟨s, hs, hm, hf, hfin⟩ := h []
  simp [Sh.run, St.init, hs, hm, hf, hfin]

/-- a text after which the reader stands inside the one word `w` -/
theorem reads_word {hex : Bool} {b : Bytes} {w : Word}
    (h : ∀ acc, steps hex ⟨.normal, none, acc, none⟩ b = some ⟨.normal, some w, acc, none⟩) : Reads hex b [w] :=
  fun acc => ⟨_, h acc, rfl, rfl, rfl⟩

/-- a space between two texts ends the last word of the first -/
theorem Reads.space {hex : Bool} {a b : Bytes} {us vs : List Word} (ha : Reads hex a us) (hb : Reads hex b vs) :
    Reads hex (a ++ 32 :: b) (us ++ vs) := by
  intro acc
  obtain ⟨s, hs, hm, hf, hfin⟩ := ha acc
  obtain ⟨s', hs', h'⟩ := hb (finish s)
  have hsp : step hex s 32 = some ⟨.normal, none, finish s, none⟩ := by
    cases s; simp_all [step]
  refine ⟨s', ?_, ?_⟩
  · rw [steps_append, hs]; simp only [Option.bind_some, steps, hsp, hs']
  · rw [hfin] at h'; simpa using h'

theorem reads_quote (hex : Bool) (a : Bytes) : Reads hex (quote a) [mkWord a] :=
  reads_word fun _ => steps_quote hex a _ rfl rfl

/-- the whole joined command line: every argument comes back as one word -/
theorem reads_join (hex : Bool) : ∀ args : List Bytes, Reads hex (joinSp (args.map quote)) (args.map mkWord)
  | [] => fun _ => ⟨_, rfl, rfl, rfl, rfl⟩
  | [a] => reads_quote hex a
  | a :: b :: r => by simpa [joinSp] using (reads_quote hex a).space (reads_join hex (b :: r))

/-- plain words in front of the others give the first arguments of the command and nothing else -/
theorem interp_args (ws : List Bytes) (rest : List Word) :
    interp (ws.map mkWord ++ rest) = (interp rest).map fun e => ⟨ws ++ e.argv, e.stdin⟩ := by
  induction ws with
  | nil => simp
  | cons w r ih =>
    rw [List.map_cons, List.cons_append, interp.eq_def]
    simp only [mkWord, Bool.false_eq_true, if_false, ih, Option.map_map]
    rfl

theorem interp_plain (ws : List Bytes) : interp (ws.map mkWord) = some ⟨ws, none⟩ := by
  simpa [interp] using interp_args ws []

theorem interp_here (ws : List Bytes) (x : Bytes) :
    interp (ws.map mkWord ++ [⟨sHere, true⟩, ⟨x, false⟩]) = some ⟨ws, some (x ++ [10])⟩ := by
  rw [interp_args]
  simp [interp, sHere]

end MitmVerif.Lemmas.C48
