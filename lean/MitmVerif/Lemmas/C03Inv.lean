/-
  C03 — `InvB` (Model/C03_Inv.lean) is an inductive invariant of the abstract core: it is preserved by every handled
  event (`procEv`, layer not paused) and every completion (`procDone`), whatever the auxiliary flow attributes are.

  The bookkeeping around a call is taken off first: `stale` and `draining` are read by one clause only (`inv_replay`),
  so `W.fin` never matters (`inv_fin`, with `Frame`) and a handler can be stated on the core it is handed.  Each handler
  is then walked once along its decision tree (`fun_cases`, `W.ite_elim`), leaf by leaf.
-/
import MitmVerif.Lemmas.C03Trace
namespace MitmVerif.C03

/-- `stale` and `draining` are read by one clause only: the one about the time before the request headers -/
theorem inv_replay (c : Core) (dr st : Bool) (h : InvB c = true) (hs : c.seenReqHdr = true) :
    InvB { c with draining := dr, stale := st } = true := by
  simp only [InvB, imp, hs, Bool.not_true, Bool.not_false, Bool.true_or] at h ⊢
  exact h

theorem inv_fin (q : Bool) (w : W) (h : InvB w.c = true) (hs : q = true → w.c.seenReqHdr = true) :
    InvB (W.fin q w).c = true := by
  cases q
  · simpa [W.fin] using h
  · exact inv_replay w.c _ _ h (hs rfl)

/-- The invariant as hypotheses: its clauses one by one and as they are written, so that a clause whose fields a leaf does
    not write is literally a hypothesis of that leaf (as one conjunction of thirty-odd clauses every later use would pay for
    its depth), and a copy of it as it stands. -/
macro "inv_norm" h:ident : tactic => `(tactic|
  (have h0 := $h
   simp only [InvB, isErrHookK, isRespHookK, isRespSideK, Bool.false_or, Bool.and_eq_true, *] at $h:ident
   revert $h:ident
   simp only [and_imp]
   intros))

/-- One branch of a handler: unfold the helpers it calls and descend through their `if`s.  A leaf that returns the core
    as it came is the invariant as it was assumed; on any other the invariant is unfolded on the new core and left to
    `grind`, which finds the clauses the leaf does not touch among the hypotheses and looks into the others only. -/
macro "inv_leaf" : tactic => `(tactic|
  ((try simp only [resume, handlePE, peAfter, killedFire, killedSilent, sendResponse, startRequestStream, cbsErrFire,
      connectFinish, flowDone, onReqHeaders, ↓reduceIte, Bool.false_eq_true, reduceCtorEq])
   repeat' (with_reducible apply W.ite_elim (P := fun w => InvB w.c = true) <;> intro _)
   all_goals try (simp only [mk_c, crash_c]; with_reducible assumption)
   all_goals simp only [InvB, fire_c, mk_c, crash_c, pre_c, fireC, mon, killFinishC, peRetC, pausedOK, isErrHookK, isRespHookK,
     isRespSideK]
   all_goals grind [imp]))

/-- the clauses at a suspension point that has become known -/
macro "inv_at" : tactic =>
  `(tactic| simp only [pausedOK, isErrHookK, isRespHookK, isRespSideK, Bool.and_eq_true, beq_iff_eq] at *)

/-- before the request headers nothing is replayed and nothing is pending -/
theorem inv_seen (c : Core) (h : InvB c = true) (hb : c.bad = false) (hd : c.draining = true ∨ c.paused ≠ none) :
    c.seenReqHdr = true := by
  cases hs : c.seenReqHdr
  · simp only [InvB, imp, hs, hb, Bool.false_or, Bool.not_false, Bool.and_eq_true, Bool.not_eq_true',
      Option.isNone_iff_eq_none] at h
    grind
  · rfl

theorem inv_draining (c : Core) (q : Bool) (h : InvB c = true) (hb : c.bad = false)
    (hq : q = true → c.draining = true) : InvB { c with draining := q } = true := by
  by_cases hd : c.draining = q
  · rw [← hd]; exact h
  · exact inv_replay c q c.stale h (inv_seen c h hb (.inl (by cases q <;> simp_all)))

theorem inv_reqErr (c : Core) (q peek : Bool)
    (h : InvB c = true) (hp : c.paused = none) (hb : c.bad = false) (hpt : c.pt = false)
    (hq : q = true → c.draining = true) :
    InvB (handlePE { c with draining := q, procReqErr := true } false .top peek).c = true := by
  inv_norm h
  inv_leaf

theorem inv_respErr (d : Core) (peek : Bool)
    (h : InvB d = true) (hp : d.paused = none) (hb : d.bad = false) (hpt : d.pt = false) (hA : d.attached = true) :
    InvB (handlePE d true .top peek).c = true := by
  inv_norm h
  inv_leaf

theorem inv_serverEvent (d : Core) (ev : AEv)
    (h : InvB d = true) (hp : d.paused = none) (hb : d.bad = false) (hA : d.attached = true) :
    InvB (serverEvent d ev).c = true := by
  inv_norm h
  fun_cases serverEvent d ev <;> inv_leaf

/-- the request headers arrive in the state the stream starts in -/
theorem inv_reqHeaders (c : Core) (e : Bool) (kind : ReqKind) (ws : Bool) (v : Verdict) (q : Bool)
    (h : InvB c = true) (hp : c.paused = none) (hb : c.bad = false)
    (hg : c.seenReqHdr = false ∧ (c.stale = true ∨ c.procReqErr = false)) :
    InvB (clientEvent { c with draining := q, seenReqHdr := true } (.reqHeaders e kind ws v)).c = true := by
  have hcs : c.cs = .waitHdr := by
    simp only [InvB, imp, hg.1, hb, Bool.false_or, Bool.not_false, Bool.and_eq_true, beq_iff_eq] at h
    grind
  simp only [clientEvent, hcs, onReqHeaders]
  repeat' split
  all_goals (inv_norm h; inv_leaf)

theorem inv_reqBody (d : Core) (ev : AEv)
    (h : InvB d = true) (hp : d.paused = none) (hb : d.bad = false) (hpt : d.pt = false)
    (hg : d.stale = true ∨ d.procReqErr = false) (hev : ev.isReqHeaders = false) :
    InvB (clientEvent d ev).c = true := by
  inv_norm h
  fun_cases clientEvent d ev
  case case1 => cases hev
  all_goals inv_leaf

theorem inv_resume (c : Core) (k : K) (ok peek : Bool)
    (h : InvB c = true) (hk : c.paused = some k) (hb : c.bad = false) :
    InvB (resume { c with paused := none, draining := true } k ok peek).c = true := by
  inv_norm h
  cases k with
  | peErr r ret => cases ret <;> inv_at <;> inv_leaf
  -- a failed connection: the clause of the suspension point decides that the error hook is needed
  | conn => inv_at <;> simp [resume, handlePE, *] <;> inv_leaf
  | streamConn late => cases late <;> inv_at <;> simp [resume, handlePE, *] <;> inv_leaf
  | cbsHdr b => cases b <;> inv_at <;> inv_leaf
  | cbsErr b => cases b <;> inv_at <;> inv_leaf
  | _ => inv_at <;> inv_leaf

/-- the invariant does not mention `err`, and mentions `live` only as a premise -/
theorem inv_err_live (c : Core) (e : ErrK) (l : Bool) (hl : l = true → c.live = true) (hI : InvB c = true) :
    InvB { c with err := e, live := l } = true := by
  cases l
  · simp only [InvB, imp, Bool.or_eq_true, Bool.and_eq_true, Bool.false_and, Bool.not_false, Bool.true_or, and_true] at hI ⊢
    exact hI.imp id fun hI => by simp only [hI, and_self]
  · have e1 : ({ c with err := e, live := true } : Core) = { c with err := e } := by rw [← hl rfl]
    rw [e1]; exact hI

theorem inv_applyAction (c : Core) (h : Hook) (a : Action) (hI : InvB c = true) : InvB (applyAction c h a) = true := by
  cases a
  · exact hI
  · exact inv_err_live c _ _ (by simp; intro h _; exact h) hI
  · exact hI
  · exact hI

theorem applyAction_comm (c : Core) (h : Hook) (a : Action) (p : Option K) (dr : Bool) :
    applyAction { c with paused := p, draining := dr } h a = { applyAction c h a with paused := p, draining := dr } := by
  cases a <;> rfl

theorem inv_procDone (c : Core) (ev : AEv) (p : Bool) (h : InvB c = true) : InvB (procDone c ev p).c = true := by
  rcases procDone_cases c ev p with ⟨_, e⟩ | ⟨_, e⟩ | ⟨k, hb, hk, _, e⟩ <;> rw [e]
  · exact h
  · exact inv_bad
  · have hs := inv_seen c h hb (.inr (by simp [hk]))
    refine inv_fin _ _ ?_ fun _ => ?_
    · cases ev with
      | hookDone hh a =>
        rw [doneCore, applyAction_comm]
        exact inv_resume _ k _ p (inv_applyAction c _ _ h) (by rw [applyAction_paused, hk]) (by rw [applyAction_bad, hb])
      | _ => exact inv_resume c k _ p h hk hb
    · rw [(frame_resume _ k _ p).2.2.2.2.1]
      cases ev with
      | hookDone hh a => cases a <;> exact hs
      | _ => exact hs

theorem inv_handle (c : Core) (ev : AEv) (p q : Bool) (h : InvB c = true) (hp : c.paused = none) (hb : c.bad = false)
    (hpt : c.pt = false) (hq : q = true → c.draining = true) (hg : grammarOk c ev = true) :
    InvB (W.fin q (handle (evCore c ev q) ev p)).c = true := by
  refine inv_fin _ _ ?_ fun hq' => ?_
  · have hd := inv_draining c q h hb hq
    cases ev <;> simp [grammarOk] at hg
    case reqErr => exact inv_reqErr c q p h hp hb hpt hq
    case respErr => exact inv_respErr _ p hd hp hb hpt hg
    case reqHeaders => exact inv_reqHeaders c _ _ _ _ q h hp hb hg
    case reqData | reqEOM | reqTrailers => exact inv_reqBody _ _ hd hp hb hpt hg rfl
    all_goals exact inv_serverEvent _ _ hd hp hb hg
  · rw [(frame_handle _ ev p).2.2.2.2.1]
    simp [evCore, inv_seen c h hb (.inl (hq hq'))]

theorem inv_procEv (c : Core) (ev : AEv) (p q : Bool) (h : InvB c = true) (hp : c.paused = none) :
    InvB (procEv c ev p q).c = true := by
  rcases procEv_cases c ev p q with ⟨_, e⟩ | ⟨_, e⟩ | ⟨hb, hpt, hg, e⟩ <;> rw [e]
  · exact h
  · exact inv_bad
  · exact inv_handle c ev p _ h hp hb hpt (by simp) hg

end MitmVerif.C03
