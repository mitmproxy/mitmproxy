/-
  C42 — lemmas about the canonical printer: what it writes is well-formed concrete syntax of the level asked for
  and denotes the tree.  That is `pr_ok` with `prL_ok` / `prRest_ok`, by mutual induction over the tree; underneath, the two
  kinds of leaf argument: `natDigits n` is the decimal digits of `n` as characters (`natDigits_eq`), which `digitsVal`
  reads as `ofDigits` does (`digitsVal_digits`), so the number comes back by Lemmas/Decimal.lean; and every string has a
  well-formed written form with that value — itself if it may go unquoted, otherwise double quotes with `itemOf`
  escaping what must be escaped (`argOf_ok`).
-/
import MitmVerif.Lemmas.C42
import MitmVerif.Lemmas.Decimal
import MitmVerif.Model.C42_Print
namespace MitmVerif.C42

theorem digitChar_lt {d : Nat} (h : d < 10) : (digitChar d).toNat - 48 = d ∧ isDigit (digitChar d) = true :=
  (by decide : ∀ d : Fin 10, (digitChar d.val).toNat - 48 = d.val ∧ isDigit (digitChar d.val) = true) ⟨d, h⟩

theorem revDigits_eq (f n : Nat) (h : n ≤ f) : (revDigits f n).reverse = (digits n).map digitChar := by
  induction f generalizing n with
  | zero =>
    obtain rfl : n = 0 := by omega
    rfl
  | succ f ih =>
    rw [revDigits, digits_eq]
    split
    · rfl
    · rw [List.reverse_cons, ih _ (by omega), List.map_append]
      rfl

theorem natDigits_eq (n : Nat) : natDigits n = (digits n).map digitChar := revDigits_eq n n (Nat.le_refl n)

theorem foldl_digitChar (ds : List Nat) (h : ∀ d ∈ ds, d < 10) (a : Nat) :
    (ds.map digitChar).foldl (fun acc c => 10 * acc + (c.toNat - 48)) a = ofDigits a ds := by
  induction ds generalizing a with
  | nil => rfl
  | cons d ds ih =>
    rw [List.map_cons, List.foldl_cons, ih (fun x hx => h x (List.mem_cons_of_mem _ hx)),
      (digitChar_lt (h d List.mem_cons_self)).1, Nat.mul_comm]
    rfl

theorem digitsVal_digits (ds : List Nat) (h : ∀ d ∈ ds, d < 10) : digitsVal (ds.map digitChar) = ofDigits 0 ds :=
  foldl_digitChar ds h 0

theorem allDigit_digits (ds : List Nat) (h : ∀ d ∈ ds, d < 10) : AllDigit (ds.map digitChar) := by
  induction ds with
  | nil => trivial
  | cons d ds ih => exact ⟨(digitChar_lt (h d List.mem_cons_self)).2, ih fun x hx => h x (List.mem_cons_of_mem _ hx)⟩

theorem allWordChB_iff (a : Str) : allWordChB a = true ↔ AllWordCh a := by
  induction a with
  | nil => simp [allWordChB, AllWordCh]
  | cons c a ih => simp [allWordChB, AllWordCh, ih]

theorem itemOf_ok (c : Char) : (itemOf c).WF '"' ∧ (itemOf c).value = c := by
  unfold itemOf
  by_cases h1 : c = '"' ∨ c = '\\'
  · rcases h1 with rfl | rfl <;> simp [QItem.WF, QItem.value] <;> decide
  · by_cases h2 : c = '\n'
    · subst h2; simp [QItem.WF, QItem.value]; decide
    · by_cases h3 : c = '\r'
      · subst h3; simp [QItem.WF, QItem.value]; decide
      · have h1' : c ≠ '"' ∧ c ≠ '\\' := by
          constructor <;> (intro e; exact h1 (by simp [e]))
        simp [h2, h3, QItem.WF, QItem.value, h1'.1, h1'.2]

theorem items_ok (a : Str) : ItemsWF '"' (a.map itemOf) ∧ valueItems (a.map itemOf) = a := by
  induction a with
  | nil => simp [ItemsWF, valueItems]
  | cons c a ih =>
    have := itemOf_ok c
    simp [ItemsWF, valueItems, this.1, this.2, ih.1, ih.2]

theorem argOf_ok (a : Str) : (argOf a).WF ∧ (argOf a).value = a := by
  unfold argOf
  by_cases h : wordOk a = true
  · simp only [h, if_true, Arg.WF, Arg.value]
    cases a with
    | nil => simp [wordOk] at h
    | cons c a' =>
      have : allWordChB (c :: a') = true := by simpa [wordOk] using h
      exact ⟨⟨by simp, (allWordChB_iff _).1 this⟩, trivial⟩
  · have := items_ok a
    simp [h, Arg.WF, Arg.value, this.1, this.2]

theorem sp_allWs : AllWs [' '] := ⟨by decide, trivial⟩

theorem kind_mk_cases (kd : Kind) (h : kd ≠ Kind.juxt) : (kd = .and ∨ kd = .or) := by
  cases kd <;> simp at h ⊢

mutual
theorem pr_ok : (t : Ast) → Printable t → ∀ (lvl : Nat) (w : Str), 1 ≤ lvl → AllWs w →
    (pr lvl w t).WF ∧ (pr lvl w t).level ≤ lvl ∧ (pr lvl w t).ast = t
  | .unary c, h, lvl, w, _, hw => by
    simp only [Printable] at h
    simp [pr, C.WF, C.level, C.ast, AtomC.WF, AtomC.ast, hw, h]
  | .rex c a, h, lvl, w, _, hw => by
    simp only [Printable] at h
    have := argOf_ok a
    simp [pr, C.WF, C.level, C.ast, AtomC.WF, AtomC.ast, hw, h, sp_allWs, this.1, this.2]
  | .int c n, h, lvl, w, _, hw => by
    simp only [Printable] at h
    have hd := digits_lt n
    simp [pr, C.WF, C.level, C.ast, AtomC.WF, AtomC.ast, hw, h, sp_allWs, natDigits_eq, digitsVal_digits _ hd,
      ofDigits_zero_digits, allDigit_digits _ hd, digits_ne_nil]
  | .not t, h, lvl, w, h1, hw => by
    simp only [Printable] at h
    obtain ⟨a, b, c⟩ := pr_ok t h 1 [] (Nat.le_refl _) trivial
    simp only [pr, C.WF, C.level, C.ast]
    exact ⟨⟨hw, b, a⟩, h1, by rw [c]⟩
  | .and l, h, lvl, w, _, hw => by
    simp only [Printable] at h
    by_cases hl : 2 ≤ lvl
    · obtain ⟨a, b, c⟩ := prL_ok l h.2 h.1 .and (by decide) w hw
      simp only [pr, hl, if_true]
      exact ⟨a, by rw [b]; exact hl, c⟩
    · obtain ⟨a, b, c⟩ := prL_ok l h.2 h.1 .and (by decide) [] trivial
      simp only [pr, hl, if_false, C.WF, C.level, C.ast]
      exact ⟨⟨hw, trivial, a⟩, by omega, c⟩
  | .or l, h, lvl, w, _, hw => by
    simp only [Printable] at h
    by_cases hl : 3 ≤ lvl
    · obtain ⟨a, b, c⟩ := prL_ok l h.2 h.1 .or (by decide) w hw
      simp only [pr, hl, if_true]
      exact ⟨a, by rw [b]; exact hl, c⟩
    · obtain ⟨a, b, c⟩ := prL_ok l h.2 h.1 .or (by decide) [] trivial
      simp only [pr, hl, if_false, C.WF, C.level, C.ast]
      exact ⟨⟨hw, trivial, a⟩, by omega, c⟩
theorem prL_ok : (l : List Ast) → PrintableL l → 2 ≤ l.length → ∀ (kd : Kind), kd ≠ Kind.juxt → ∀ (w : Str), AllWs w →
    (prL kd w l).WF ∧ (prL kd w l).level = kd.level ∧ (prL kd w l).ast = kd.mk l
  | [], _, hlen, _, _, _, _ => by simp at hlen
  | t :: r, h, hlen, kd, hk, w, hw => by
    simp only [PrintableL] at h
    have hk2 := kind_level kd
    obtain ⟨a, b, c⟩ := pr_ok t h.1 (kd.level - 1) w (by omega) hw
    obtain ⟨d, e⟩ := prRest_ok r h.2 kd hk (pr (kd.level - 1) w t).endsWord
    have hr : (prRest kd r).isNil = false := by
      cases r with
      | nil => simp at hlen
      | cons _ _ => simp [prRest, CL.isNil]
    refine ⟨?_, by simp [prL, C.level], ?_⟩
    · simp only [prL, C.WF]; exact ⟨by omega, a, hr, d⟩
    · simp only [prL, C.ast]; rw [c, e]
theorem prRest_ok : (l : List Ast) → PrintableL l → ∀ (kd : Kind), kd ≠ Kind.juxt → ∀ (prev : Bool),
    (prRest kd l).WF kd prev ∧ (prRest kd l).asts = l
  | [], _, _, _, _ => by simp [prRest, CL.WF, CL.asts]
  | t :: r, h, kd, hk, prev => by
    simp only [PrintableL] at h
    have hk2 := kind_level kd
    obtain ⟨a, b, c⟩ := pr_ok t h.1 (kd.level - 1) [' '] (by omega) sp_allWs
    obtain ⟨d, e⟩ := prRest_ok r h.2 kd hk (pr (kd.level - 1) [' '] t).endsWord
    simp only [prRest, CL.WF, CL.asts]
    exact ⟨⟨sp_allWs, fun _ => by simp, by omega, a, d⟩, by rw [c, e]⟩
end

end MitmVerif.C42
