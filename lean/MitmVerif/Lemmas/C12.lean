/-
  C12 — helper lemmas: the deletion relation `Del p x y` (y is x with some bytes satisfying p removed),
  shown for `dedent` and `pyStrip`, and what it preserves (markup characters, `ampsOk`).
-/
import MitmVerif.Model.C12
import MitmVerif.Lemmas.Split
namespace MitmVerif.C12
open MitmVerif

/-- `Del p x y`: `y` is `x` with some bytes that satisfy `p` deleted -/
inductive Del (p : UInt8 → Bool) : Bytes → Bytes → Prop
  | nil : Del p [] []
  | keep (c : UInt8) {x y : Bytes} : Del p x y → Del p (c :: x) (c :: y)
  | drop (c : UInt8) {x y : Bytes} : p c = true → Del p x y → Del p (c :: x) y

namespace Del
variable {p : UInt8 → Bool}

theorem refl : ∀ x : Bytes, Del p x x
  | [] => .nil
  | c :: x => .keep c (refl x)

theorem append {x y x' y' : Bytes} (h : Del p x y) (h' : Del p x' y') : Del p (x ++ x') (y ++ y') := by
  induction h with
  | nil => simpa using h'
  | keep c _ ih => exact .keep c ih
  | drop c hc _ ih => exact .drop c hc ih

theorem trans {x y z : Bytes} (h1 : Del p x y) (h2 : Del p y z) : Del p x z := by
  induction h1 generalizing z with
  | nil => exact h2
  | keep c _ ih =>
    cases h2 with
    | keep _ h2' => exact .keep c (ih h2')
    | drop _ hc h2' => exact .drop c hc (ih h2')
  | drop c hc _ ih => exact .drop c hc (ih h2)

theorem all_nil : ∀ {x : Bytes}, (∀ c ∈ x, p c = true) → Del p x []
  | [], _ => .nil
  | c :: x, h => .drop c (h c (by simp)) (all_nil (fun d hd => h d (by simp [hd])))

theorem dropWhile (q : UInt8 → Bool) (hq : ∀ c, q c = true → p c = true) (x : Bytes) :
    Del p x (x.dropWhile q) := by
  induction x with
  | nil => exact .nil
  | cons c x ih =>
    rw [List.dropWhile_cons]
    split
    · next h => exact .drop c (hq c h) ih
    · exact refl _

theorem reverse {x y : Bytes} (h : Del p x y) : Del p x.reverse y.reverse := by
  induction h with
  | nil => exact .nil
  | keep c _ ih => simp only [List.reverse_cons]; exact append ih (refl [c])
  | drop c hc _ ih => simpa using append ih (.drop c hc .nil)

/-- deleted bytes are never `q`-bytes ⇒ the `q`-bytes are untouched -/
theorem filter_eq {x y : Bytes} (q : UInt8 → Bool) (hpq : ∀ c, p c = true → q c = false)
    (h : Del p x y) : y.filter q = x.filter q := by
  induction h with
  | nil => rfl
  | keep c _ ih => simp [List.filter_cons, ih]
  | drop c hc _ ih => simp [hpq c hc, ih]

theorem isPrefixOf {e : Bytes} : ∀ {x y : Bytes}, (∀ c ∈ e, p c = false) → e.isPrefixOf x = true →
    Del p x y → e.isPrefixOf y = true := by
  induction e with
  | nil => intro x y _ _ _; simp
  | cons a e ih =>
    intro x y he hx h
    cases h with
    | nil => simp at hx
    | keep c h' =>
      simp only [List.isPrefixOf_cons_cons, Bool.and_eq_true] at hx ⊢
      exact ⟨hx.1, ih (List.forall_mem_cons.1 he).2 hx.2 h'⟩
    | drop c hc h' =>
      simp only [List.isPrefixOf_cons_cons, Bool.and_eq_true, beq_iff_eq] at hx
      rw [← hx.1, he a List.mem_cons_self] at hc
      cases hc

end Del

theorem splitNl_eq (t : Bytes) : splitNl t = splitSep 0x0a t := by
  induction t with
  | nil => rfl
  | cons c r ih => rw [splitNl, ih, splitSep]; cases splitSep 0x0a r <;> rfl

theorem joinNl_eq (ls : List Bytes) : joinNl ls = joinBy [0x0a] ls := by
  fun_induction joinNl ls with
  | case1 | case2 => rfl
  | case3 l l' ls ih => rw [ih]; exact List.append_cons ..

theorem Del.joinBy_map {p : UInt8 → Bool} (sep : Bytes) (f : Bytes → Bytes) (hf : ∀ l, Del p l (f l))
    (ls : List Bytes) : Del p (joinBy sep ls) (joinBy sep (ls.map f)) := by
  fun_induction joinBy sep ls with
  | case1 => exact .nil
  | case2 l => exact hf l
  | case3 l l' ls ih => exact Del.append (Del.append (hf l) (Del.refl sep)) ih

/-! ### dedent / pyStrip only delete white space -/

theorem isBlank_isSpace (c : UInt8) (h : isBlank c = true) : isSpace c = true := by
  simp only [isBlank, Bool.or_eq_true, decide_eq_true_eq] at h
  rcases h with h | h <;> subst h <;> decide

theorem mem_commonPrefix (a b : Bytes) (c : UInt8) (h : c ∈ commonPrefix a b) : c ∈ a := by
  fun_induction commonPrefix a b with
  | case1 as b bs ih =>
    rw [List.mem_cons] at h ⊢
    exact h.imp_right ih
  | case2 => simp at h
  | case3 => simp at h

theorem indentOf_blank (l : Bytes) : ∀ c ∈ indentOf l, isBlank c = true :=
  List.all_eq_true.1 List.all_takeWhile

/-- the margin is built from indents by taking common prefixes, so it consists of blanks -/
theorem margin_blank (ls : List Bytes) : ∀ c ∈ margin ls, isBlank c = true := by
  refine List.foldlRecOn (b := none) _ marginStep (motive := fun acc => ∀ c ∈ acc.getD [], isBlank c = true) (by simp) ?_
  intro acc h l _ c hc
  cases acc with
  | none => exact indentOf_blank l c hc
  | some m => exact h c (mem_commonPrefix _ _ c hc)

theorem Del.stripPre {p : UInt8 → Bool} (m l : Bytes) (hm : ∀ c ∈ m, p c = true) : Del p l (stripPre m l) := by
  unfold C12.stripPre
  split
  · next h =>
    obtain ⟨r, rfl⟩ := List.isPrefixOf_iff_prefix.mp h
    rw [List.drop_left]
    simpa using Del.append (Del.all_nil hm) (Del.refl r)
  · exact Del.refl l

theorem Del.blankOut (l : Bytes) : Del isSpace l (blankOut l) := by
  unfold C12.blankOut
  split
  · next h => exact Del.all_nil fun c hc => isBlank_isSpace c (List.all_eq_true.mp h c hc)
  · exact Del.refl l

theorem Del.dedent (t : Bytes) : Del isSpace t (dedent t) := by
  have h := Del.joinBy_map [0x0a] _ (fun l => (Del.blankOut l).trans
    (Del.stripPre (margin ((splitNl t).map C12.blankOut)) _ fun c hc => isBlank_isSpace c (margin_blank _ c hc)))
    (splitNl t)
  simpa only [C12.dedent, List.map_map, Function.comp_def, joinNl_eq, splitNl_eq, joinBy_splitSep] using h

theorem Del.pyStrip (t : Bytes) : Del isSpace t (pyStrip t) := by
  have h (x : Bytes) : Del isSpace x (x.dropWhile isSpace) := Del.dropWhile isSpace (fun _ h => h) x
  have h2 := (h (t.dropWhile isSpace).reverse).reverse
  rw [List.reverse_reverse] at h2
  exact (h t).trans h2

theorem entityAt_append (x z : Bytes) (h : entityAt x = true) : entityAt (x ++ z) = true := by
  simp only [entityAt, List.any_eq_true] at h ⊢
  obtain ⟨e, he, hp⟩ := h
  exact ⟨e, he, List.isPrefixOf_iff_prefix.2 ((List.isPrefixOf_iff_prefix.1 hp).trans (List.prefix_append x z))⟩

theorem ampsOk_cons (c : UInt8) (l : Bytes) :
    ampsOk (c :: l) = true ↔ (c ≠ 0x26 ∨ entityAt l = true) ∧ ampsOk l = true := by
  simp [ampsOk]

theorem ampsOk_append {a b : Bytes} (ha : ampsOk a = true) (hb : ampsOk b = true) : ampsOk (a ++ b) = true := by
  induction a with
  | nil => exact hb
  | cons c a ih =>
    rw [List.cons_append, ampsOk_cons] at *
    exact ⟨ha.1.imp_right (entityAt_append a b), ih ha.2⟩

theorem ampsOk_of_noAmp (l : Bytes) (h : ∀ c ∈ l, c ≠ 0x26) : ampsOk l = true := by
  induction l with
  | nil => rfl
  | cons c l ih =>
    rw [List.forall_mem_cons] at h
    exact (ampsOk_cons c l).2 ⟨.inl h.1, ih h.2⟩

private theorem entity_chars_not_space : ∀ e ∈ entities, ∀ c ∈ e.1, isSpace c = false := by decide

theorem Del.entityAt {x y : Bytes} (h : Del isSpace x y) (hx : entityAt x = true) : entityAt y = true := by
  simp only [C12.entityAt, List.any_eq_true] at hx ⊢
  obtain ⟨e, he, hp⟩ := hx
  exact ⟨e, he, Del.isPrefixOf (entity_chars_not_space e he) hp h⟩

/-- no character of an entity is white space (`entity_chars_not_space`), so an entity after a kept `&` stays whole -/
theorem Del.ampsOk {x y : Bytes} (h : Del isSpace x y) (hx : ampsOk x = true) : ampsOk y = true := by
  induction h with
  | nil => exact hx
  | keep c h' ih =>
    rw [ampsOk_cons] at hx ⊢
    exact ⟨hx.1.imp_right h'.entityAt, ih hx.2⟩
  | drop c _ _ ih => exact ih ((ampsOk_cons ..).1 hx).2

end MitmVerif.C12
