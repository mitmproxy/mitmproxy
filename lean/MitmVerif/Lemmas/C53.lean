/-
  C53 — the client-replay model (Model/C53.lean): guard and successor of each operation (`step_*`), the invariant `Inv` of
  every reachable state, the variant of the playback loop with progress and a draining run, and what a log accepted by
  `logStatus` says about started and finished tickets (`log_closed`).
-/
import MitmVerif.Model.C53
namespace MitmVerif.C53

/-! `start`, `edit` and `setopt` are always enabled and `step` reduces on them; for the other operations the
guard and the successor are read off here. -/

theorem step_stop {s s' : St} (h : step s .stop = some s') : s' = stopReplay s := by
  simp only [step] at h
  split at h
  · cases h
  · exact (Option.some.inj h).symm

theorem step_take {s s' : St} (h : step s .take = some s') :
    ∃ e rest, s.inflight = none ∧ s.queue = e :: rest ∧
      (s.seq = true ∧ s' = { s with inflight := some (e, .taken), queue := rest, log := .start e.ticket :: s.log,
                                    glog := .gstart e.ticket true :: s.glog, fs := markLive s.fs e.idx } ∨
       s.seq = false ∧ s' = { s with queue := rest, bg := s.bg ++ [(e, .taken)],
                                     glog := .gstart e.ticket false :: s.glog, fs := markLive s.fs e.idx }) := by
  simp only [step] at h
  split at h
  · rename_i e rest hinf hq
    refine ⟨e, rest, hinf, hq, ?_⟩
    split at h
    · rename_i hs; exact .inl ⟨hs, (Option.some.inj h).symm⟩
    · rename_i hs; exact .inr ⟨Bool.eq_false_iff.mpr hs, (Option.some.inj h).symm⟩
  · cases h

theorem step_send {s s' : St} (h : step s .send = some s') :
    ∃ e, s.inflight = some (e, .taken) ∧
      s' = { s with inflight := some (e, .sent), log := .sent e.ticket :: s.log } := by
  simp only [step] at h
  split at h
  · rename_i e hinf; exact ⟨e, hinf, (Option.some.inj h).symm⟩
  · cases h

theorem step_finish {s s' : St} {r : Bool} (h : step s (.finish r) = some s') :
    ∃ e ph, s.inflight = some (e, ph) ∧
      s' = { s with inflight := none, fs := finishFlow s.fs e.idx r, log := .fin e.ticket :: s.log,
                    glog := .gfin e.ticket true :: s.glog } := by
  simp only [step] at h
  split at h
  · rename_i e ph hinf; exact ⟨e, ph, hinf, (Option.some.inj h).symm⟩
  · cases h

theorem step_bsend {s s' : St} {t : Nat} (h : step s (.bsend t) = some s') :
    s.bg.any (fun p => p.1.ticket == t && p.2 == .taken) = true ∧ s' = { s with bg := s.bg.map (markSent t) } := by
  simp only [step] at h
  split at h
  · rename_i hany; exact ⟨hany, (Option.some.inj h).symm⟩
  · cases h

theorem step_bfinish {s s' : St} {t : Nat} {r : Bool} (h : step s (.bfinish t r) = some s') :
    ∃ p, s.bg.find? (fun p => p.1.ticket == t) = some p ∧
      s' = { s with bg := s.bg.filter (fun q => !(q.1.ticket == t)), fs := finishFlow s.fs p.1.idx r,
                    glog := .gfin t false :: s.glog } := by
  simp only [step] at h
  split at h
  · rename_i p hp; exact ⟨p, hp, (Option.some.inj h).symm⟩
  · cases h

def SeqInv (s : St) : Prop := logStatus s.log = some (statusOf s.inflight)

structure OrdInv (s : St) : Prop where
  sorted : (s.queue.map (·.ticket)).Pairwise (· < ·)
  below : ∀ e ∈ s.queue, e.ticket < s.next
  ahead : ∀ t ∈ startTickets s.log, ∀ e ∈ s.queue, t < e.ticket
  old : ∀ t ∈ startTickets s.log, t < s.next
  order : (startTickets s.log).Pairwise (· > ·)

theorem OrdInv.congr {s s' : St} (hi : OrdInv s) (hq : s'.queue = s.queue) (hn : s'.next = s.next)
    (hl : startTickets s'.log = startTickets s.log) : OrdInv s' :=
  ⟨hq ▸ hi.sorted, hq ▸ hn ▸ hi.below, hq ▸ hl ▸ hi.ahead, hl ▸ hn ▸ hi.old, hl ▸ hi.order⟩

theorem ite_some_eq_none {α : Type} {c : Prop} [Decidable c] {x : α} {y : Option α} :
    (if c then some x else y) = none ↔ ¬ c ∧ y = none := by
  split <;> simp [*]

theorem check_none_replayable {s : St} {i : Nat} (h : check s i = none) :
    ∃ a, s.attrs[i]? = some a ∧ replayable a = true := by
  unfold check at h
  split at h
  · cases h
  · rename_i a ha
    simp [ite_some_eq_none] at h
    exact ⟨a, ha, by simp [replayable, h]⟩

@[reducible] def KeepsBackups (fs fs' : List FState) : Prop :=
  ∀ (i : Nat) (f : FState) (b : Cur), fs[i]? = some f → f.backup = some b → ∃ f', fs'[i]? = some f' ∧ f'.backup = some b

theorem KeepsBackups.set {fs : List FState} {j : Nat} {g : FState} (hj : fs[j]? = some g)
    (g' : FState) (hg : ∀ c, g.backup = some c → g'.backup = some c) : KeepsBackups fs (fs.set j g') := by
  intro i f b hf hb
  by_cases hij : j = i
  · subst hij
    rw [hf] at hj; cases hj
    exact ⟨g', by simp [List.getElem?_set_self', hf], hg b hb⟩
  · exact ⟨f, by simp [hij, hf], hb⟩

theorem editFlow_keeps (fs : List FState) (j : Nat) : KeepsBackups fs (editFlow fs j) := by
  unfold editFlow
  split
  · rename_i g hg; exact .set hg _ (by intro c hc; simp [hc])
  · exact fun i f b hf hb => ⟨f, hf, hb⟩

theorem markLive_keeps (fs : List FState) (j : Nat) : KeepsBackups fs (markLive fs j) := by
  unfold markLive
  split
  · rename_i g hg; exact .set hg _ (fun c hc => hc)
  · exact fun i f b hf hb => ⟨f, hf, hb⟩

theorem finishFlow_keeps (fs : List FState) (j : Nat) (r : Bool) : KeepsBackups fs (finishFlow fs j r) := by
  unfold finishFlow
  split
  · rename_i g hg; exact .set hg _ (fun c hc => hc)
  · exact fun i f b hf hb => ⟨f, hf, hb⟩

/-- what holds of a queued entry: its flow passed `check`; the flow carries, as its backup, the backup recorded
    for the entry when it was queued; and that is the flow's pre-replay state if it had no backup then -/
structure EntryOk (attrs : List Attr) (fs : List FState) (e : Entry) : Prop where
  repl : ∃ a, attrs[e.idx]? = some a ∧ replayable a = true
  bk : ∃ f, fs[e.idx]? = some f ∧ f.backup = some e.bk
  fresh : e.fresh = true → e.bk = e.pre

theorem EntryOk.keeps {attrs : List Attr} {fs fs' : List FState} {e : Entry} (h : EntryOk attrs fs e)
    (hk : KeepsBackups fs fs') : EntryOk attrs fs' e :=
  let ⟨f, hf, hb⟩ := h.bk
  ⟨h.repl, hk e.idx f e.bk hf hb, h.fresh⟩

def QInv (s : St) : Prop := ∀ e ∈ s.queue, EntryOk s.attrs s.fs e

theorem finishFlow_self {fs : List FState} {i : Nat} {f : FState} (r : Bool) (hf : fs[i]? = some f) :
    (finishFlow fs i r)[i]? =
      some { f with cur := (if r then { f.cur with resp := true } else { f.cur with err := true }), lv := false } := by
  simp [finishFlow, hf, List.getElem?_set_self']

theorem revert_ne {fs : List FState} {i j : Nat} (h : j ≠ i) : (revert fs j)[i]? = fs[i]? := by
  unfold revert
  split
  · split
    · simp [h]
    · rfl
  · rfl

theorem revert_self {fs : List FState} {j : Nat} {f : FState} {b : Cur} (hf : fs[j]? = some f)
    (hb : f.backup = some b) : (revert fs j)[j]? = some { f with cur := b, backup := none } := by
  simp [revert, hf, hb, List.getElem?_set_self']

theorem revert_no_backup {fs : List FState} {i j : Nat} {g : FState} (h : fs[i]? = some g)
    (hb : g.backup = none) : (revert fs j)[i]? = some g := by
  by_cases hji : j = i
  · subst hji; simp [revert, h, hb]
  · rw [revert_ne hji, h]

theorem revertAll_keep (idxs : List Nat) (fs : List FState) (i : Nat) (g : FState)
    (h : fs[i]? = some g) (hb : g.backup = none) : (revertAll fs idxs)[i]? = some g :=
  List.foldlRecOn (motive := fun fs => fs[i]? = some g) idxs revert h fun _ h _ _ => revert_no_backup h hb

/-- the first `revert` of flow `i` restores its backup and clears it, so the later ones leave it alone -/
theorem revertAll_restores : ∀ (idxs : List Nat) (fs : List FState) (i : Nat) (f : FState) (b : Cur),
    i ∈ idxs → fs[i]? = some f → f.backup = some b →
    ((revertAll fs idxs)[i]?).map (·.cur) = some b := by
  intro idxs
  induction idxs with
  | nil => intro fs i f b hi; cases hi
  | cons j js ih =>
    intro fs i f b hi hf hb
    by_cases hji : j = i
    · subst hji
      show Option.map _ (revertAll (revert fs j) js)[j]? = _
      rw [revertAll_keep js _ j _ (revert_self hf hb) rfl]; rfl
    · exact ih (revert fs j) i f b ((List.mem_cons.mp hi).resolve_left (Ne.symm hji))
        (by rw [revert_ne hji, hf]) hb

theorem QInv.stop_restores {s : St} (hi : QInv s) {e : Entry} (he : e ∈ s.queue) :
    ((stopReplay s).fs[e.idx]?).map (·.cur) = some e.bk :=
  let ⟨f, hf, hb⟩ := (hi e he).bk
  revertAll_restores _ s.fs e.idx f e.bk (List.mem_map.mpr ⟨e, he, rfl⟩) hf hb

/-- while a replay that was started with the option at 1 is running, nothing else is started -/
def GSeqInv (s : St) : Prop := seqStatus s.glog = some (openTicket s)

def GClosed (s : St) : Prop :=
  ∀ t ∈ gstartTickets s.glog, t ∈ gfinTickets s.glog ∨ openTicket s = some t ∨ t ∈ s.bg.map (·.1.ticket)

theorem markSent_ticket (t : Nat) (p : Entry × Phase) : (markSent t p).1.ticket = p.1.ticket := by
  unfold markSent; split <;> rfl

structure Inv (s : St) : Prop where
  seq : SeqInv s
  ord : OrdInv s
  queue : QInv s
  gseq : GSeqInv s
  gclosed : GClosed s

theorem init_inv (attrs : List Attr) (fs : List FState) : Inv (init attrs fs) := by
  refine ⟨rfl, ⟨.nil, ?_, ?_, ?_, .nil⟩, ?_, rfl, ?_⟩ <;> intro _ h <;> cases h

/-- queueing a flow touches `fs`, `queue` and `next` only: the new entry gets the largest ticket so far -/
theorem Inv.presStart {s : St} (hi : Inv s) (i : Nat) : Inv (startOne s i) := by
  unfold startOne
  split
  · rename_i hc
    unfold prepare
    split
    · exact hi
    · rename_i g hg
      refine { hi with ord := ⟨?_, ?_, ?_, fun t ht => Nat.lt_succ_of_lt (hi.ord.old t ht), hi.ord.order⟩,
                       queue := ?_ }
      · rw [List.map_append, List.pairwise_append]
        exact ⟨hi.ord.sorted, List.pairwise_singleton _ _, by simpa using hi.ord.below⟩
      · exact List.forall_mem_append.mpr ⟨fun e he => Nat.lt_succ_of_lt (hi.ord.below e he), by simp⟩
      · exact fun t ht => List.forall_mem_append.mpr ⟨hi.ord.ahead t ht, by simpa using hi.ord.old t ht⟩
      · refine List.forall_mem_append.mpr
          ⟨fun e he => (hi.queue e he).keeps (.set hg _ (by intro c hc; simp [hc])), ?_⟩
        refine List.forall_mem_singleton.mpr
          ⟨check_none_replayable (s := s) hc, ⟨_, by rw [List.getElem?_set_self', hg]; rfl, rfl⟩, ?_⟩
        cases g.backup <;> simp
  · exact hi

/-- Operation by operation; each arm names the invariants that read a field the operation writes, the others are
    carried over (`{ hi with … }`: by unfolding, except `OrdInv`, a structure, which needs its `congr`). -/
theorem Inv.pres {s s' : St} {o : Op} (hi : Inv s) (h : step s o = some s') : Inv s' := by
  have ⟨hseq, _, _, hgseq, hgc⟩ := hi
  simp only [SeqInv, GSeqInv, GClosed, openTicket] at hseq hgseq hgc
  cases o with
  | start idxs =>
    obtain rfl := Option.some.inj h
    exact List.foldlRecOn (motive := Inv) idxs startOne hi fun _ h i _ => h.presStart i
  | stop =>
    obtain rfl := step_stop h
    exact { hi with ord := ⟨.nil, by simp [stopReplay], by simp [stopReplay], hi.ord.old, hi.ord.order⟩,
                    queue := by simp [QInv, stopReplay] }
  | edit i =>
    obtain rfl := Option.some.inj h
    exact { hi with ord := hi.ord.congr rfl rfl rfl, queue := fun e he => (hi.queue e he).keeps (editFlow_keeps _ _) }
  | setopt b =>
    obtain rfl := Option.some.inj h
    exact { hi with ord := hi.ord.congr rfl rfl rfl }
  | take =>
    obtain ⟨e, rest, hinf, hq, hs'⟩ := step_take h
    obtain ⟨hs, hb, ha, ho, hr⟩ := hi.ord
    rw [hq] at hs hb ha
    simp only [List.map_cons, List.pairwise_cons, List.forall_mem_cons] at hs hb ha
    have hqi : ∀ e' ∈ rest, EntryOk s.attrs (markLive s.fs e.idx) e' := fun e' he' =>
      (hi.queue e' (hq ▸ List.mem_cons_of_mem _ he')).keeps (markLive_keeps _ _)
    rw [hinf] at hseq hgseq
    have hgc' : ∀ t ∈ gstartTickets s.glog, t ∈ gfinTickets s.glog ∨ t ∈ s.bg.map (·.1.ticket) := fun t ht =>
      (hgc t ht).imp_right fun h1 => h1.resolve_left (by simp [hinf])
    rcases hs' with ⟨_, rfl⟩ | ⟨_, rfl⟩
    · -- the ticket taken is the smallest queued and larger than every ticket started before
      refine { seq := by simp [SeqInv, logStatus, hseq, statusOf], ord := ⟨hs.2, hb.2, ?_, ?_, ?_⟩, queue := hqi,
               gseq := by simp [GSeqInv, openTicket, seqStatus, hgseq], gclosed := ?_ }
      · exact List.forall_mem_cons.mpr ⟨fun e' he' => hs.1 _ (List.mem_map_of_mem he'), fun t ht => (ha t ht).2⟩
      · exact List.forall_mem_cons.mpr ⟨hb.1, ho⟩
      · exact List.pairwise_cons.mpr ⟨fun t ht => (ha t ht).1, hr⟩
      · exact List.forall_mem_cons.mpr ⟨.inr (.inl rfl), fun t ht => (hgc' t ht).imp_right .inr⟩
    · refine { hi with ord := ⟨hs.2, hb.2, fun t ht => (ha t ht).2, ho, hr⟩, queue := hqi,
                       gseq := by simp [GSeqInv, openTicket, seqStatus, hgseq, hinf], gclosed := ?_ }
      exact List.forall_mem_cons.mpr
        ⟨.inr (.inr (by simp)), fun t ht => (hgc' t ht).imp_right fun h1 => .inr (by simp [h1])⟩
  | send =>
    obtain ⟨e, hinf, rfl⟩ := step_send h
    rw [hinf] at hseq hgseq hgc
    exact { hi with seq := by simp [SeqInv, logStatus, hseq, statusOf], ord := hi.ord.congr rfl rfl rfl,
                    gseq := hgseq, gclosed := hgc }
  | finish r =>
    obtain ⟨e, ph, hinf, rfl⟩ := step_finish h
    rw [hinf] at hseq hgseq
    refine { hi with seq := by cases ph <;> simp [SeqInv, logStatus, hseq, statusOf], ord := hi.ord.congr rfl rfl rfl,
                     queue := fun e he => (hi.queue e he).keeps (finishFlow_keeps _ _ _),
                     gseq := by simp [GSeqInv, openTicket, seqStatus, hgseq], gclosed := fun t ht => ?_ }
    rcases hgc t ht with h1 | h1 | h1
    · exact .inl (List.mem_cons_of_mem _ h1)
    · left; simp [hinf] at h1; simp [gfinTickets, h1]
    · exact .inr (.inr h1)
  | bsend t0 =>
    obtain ⟨_, rfl⟩ := step_bsend h
    refine { hi with ord := hi.ord.congr rfl rfl rfl, gclosed := fun t ht => ?_ }
    refine (hgc t ht).imp_right (Or.imp_right fun h1 => ?_)
    simpa [markSent_ticket] using h1
  | bfinish t0 r =>
    obtain ⟨p, _, rfl⟩ := step_bfinish h
    refine { hi with ord := hi.ord.congr rfl rfl rfl,
                     queue := fun e he => (hi.queue e he).keeps (finishFlow_keeps _ _ _),
                     gseq := ?_, gclosed := fun t ht => ?_ }
    · cases hinf : s.inflight <;> (rw [hinf] at hgseq; simp [GSeqInv, openTicket, seqStatus, hgseq])
    · rcases hgc t ht with h1 | h1 | h1
      · exact .inl (List.mem_cons_of_mem _ h1)
      · exact .inr (.inl h1)
      · by_cases htt : t = t0
        · left; simp [gfinTickets, htt]
        · right; right
          obtain ⟨p, hp, rfl⟩ := List.mem_map.mp h1
          exact List.mem_map.mpr ⟨p, List.mem_filter.mpr ⟨hp, by simpa using htt⟩, rfl⟩

theorem run_cons_some {s s' : St} {o : Op} {os : List Op} (h : run s (o :: os) = some s') :
    ∃ s1, step s o = some s1 ∧ run s1 os = some s' := by
  simp only [run] at h
  split at h
  · rename_i s1 hs; exact ⟨s1, hs, h⟩
  · cases h

theorem Inv.presRun : ∀ (os : List Op) (s s' : St), Inv s → run s os = some s' → Inv s' := by
  intro os
  induction os with
  | nil => intro s s' hi h; cases h; exact hi
  | cons o os ih =>
    intro s s' hi h
    obtain ⟨s1, hs, h⟩ := run_cons_some h
    exact ih s1 s' (hi.pres hs) h

theorem Reach.inv {attrs : List Attr} {fs : List FState} {s : St} (h : Reach attrs fs s) : Inv s := by
  obtain ⟨os, ho⟩ := h
  exact Inv.presRun os _ _ (init_inv attrs fs) ho

theorem run_append : ∀ (os1 os2 : List Op) (s s1 : St), run s os1 = some s1 →
    run s (os1 ++ os2) = run s1 os2 := by
  intro os1
  induction os1 with
  | nil => intro os2 s s1 h; cases h; rfl
  | cons o os ih =>
    intro os2 s s1 h
    obtain ⟨s2, hs, h⟩ := run_cons_some h
    simp only [run, List.cons_append, hs]
    exact ih os2 s2 s1 h

theorem Reach.extend {attrs : List Attr} {fs : List FState} {s s' : St} {os : List Op}
    (h : Reach attrs fs s) (hr : run s os = some s') : Reach attrs fs s' := by
  obtain ⟨os0, h0⟩ := h
  exact ⟨os0 ++ os, by rw [run_append os0 os _ _ h0]; exact hr⟩

theorem bgWork_append (l : List (Entry × Phase)) (p : Entry × Phase) : bgWork (l ++ [p]) = bgWork l + phaseWork p.2 := by
  induction l with
  | nil => simp [bgWork]
  | cons q qs ih => simp [bgWork, ih]; omega

theorem phaseWork_pos (ph : Phase) : 1 ≤ phaseWork ph := by cases ph <;> simp [phaseWork]

theorem markSent_le (t : Nat) (p : Entry × Phase) : phaseWork (markSent t p).2 ≤ phaseWork p.2 := by
  unfold markSent
  split
  · exact phaseWork_pos _
  · exact Nat.le_refl _

theorem markSent_lt (t : Nat) (p : Entry × Phase) (h : (p.1.ticket == t && p.2 == .taken) = true) :
    phaseWork (markSent t p).2 + 1 ≤ phaseWork p.2 := by
  unfold markSent
  simp only [h, if_true]
  simp only [Bool.and_eq_true, beq_iff_eq] at h
  rw [h.2]; simp [phaseWork]

theorem bgWork_send (t : Nat) (l : List (Entry × Phase)) :
    bgWork (l.map (markSent t)) ≤ bgWork l ∧
    (l.any (fun p => p.1.ticket == t && p.2 == .taken) = true → bgWork (l.map (markSent t)) + 1 ≤ bgWork l) := by
  induction l with
  | nil => exact ⟨Nat.le_refl _, by simp⟩
  | cons q qs ih =>
    simp only [List.map_cons, bgWork, List.any_cons, Bool.or_eq_true]
    have hq := markSent_le t q
    refine ⟨by omega, fun h => ?_⟩
    rcases h with h | h
    · have := markSent_lt t q h; omega
    · have := ih.2 h; omega

theorem bgWork_finish (t : Nat) (l : List (Entry × Phase)) :
    bgWork (l.filter (fun q => !(q.1.ticket == t))) ≤ bgWork l ∧
    ((l.find? (fun p => p.1.ticket == t)).isSome = true →
      bgWork (l.filter (fun q => !(q.1.ticket == t))) + 1 ≤ bgWork l) := by
  induction l with
  | nil => exact ⟨Nat.le_refl _, by simp⟩
  | cons q qs ih =>
    have := phaseWork_pos q.2
    simp only [List.filter_cons, List.find?_cons]
    cases hq : q.1.ticket == t
    · simp only [Bool.not_false, if_true, bgWork]
      exact ⟨by omega, fun h => by have := ih.2 h; omega⟩
    · simp only [Bool.not_true, Bool.false_eq_true, if_false, bgWork]
      exact ⟨by omega, fun _ => by omega⟩

theorem variant_step {s s' : St} {o : Op} (ho : isLoopOp o = true) (h : step s o = some s') :
    variant s' + 1 ≤ variant s := by
  cases o with
  | start _ | stop | edit _ | setopt _ => cases ho
  | take =>
    obtain ⟨e, rest, hinf, hq, ⟨_, rfl⟩ | ⟨_, rfl⟩⟩ := step_take h
    · simp [variant, hinf, hq]; omega
    · simp [variant, hinf, hq, bgWork_append, phaseWork]; omega
  | send =>
    obtain ⟨e, hinf, rfl⟩ := step_send h
    simp [variant, hinf]; omega
  | finish r =>
    obtain ⟨e, ph, hinf, rfl⟩ := step_finish h
    cases ph <;> simp [variant, hinf] <;> omega
  | bsend t =>
    obtain ⟨hany, rfl⟩ := step_bsend h
    have := (bgWork_send t s.bg).2 hany
    simp only [variant]; omega
  | bfinish t r =>
    obtain ⟨p, hp, rfl⟩ := step_bfinish h
    have := (bgWork_finish t s.bg).2 (by rw [hp]; rfl)
    simp only [variant]; omega

theorem variant_run : ∀ (os : List Op) (s s' : St), (∀ o ∈ os, isLoopOp o = true) →
    run s os = some s' → os.length + variant s' ≤ variant s := by
  intro os
  induction os with
  | nil => intro s s' _ h; cases h; simp
  | cons o os ih =>
    intro s s' hall h
    obtain ⟨s1, hs, h⟩ := run_cons_some h
    have h1 := variant_step (hall o List.mem_cons_self) hs
    have h2 := ih s1 s' (fun o' ho' => hall o' (List.mem_cons_of_mem _ ho')) h
    simp only [List.length_cons]; omega

/-- while a flow is queued or awaited, a terminal event is enabled: the loop can take the next flow, or the replay
    in flight can be completed by the server's response / failure.  (`quiescent` does not look at `bg`: nothing is
    said here about background replays, although they count in `variant`.) -/
theorem progress (s : St) (h : quiescent s = false) :
    (∃ s', step s .take = some s') ∨ (∀ r, ∃ s', step s (.finish r) = some s') := by
  unfold quiescent at h
  cases hinf : s.inflight with
  | some p =>
    right; intro r
    exact Option.isSome_iff_exists.mp (by simp [step, hinf])
  | none =>
    left
    cases hq : s.queue with
    | nil => simp [hinf, hq] at h
    | cons e rest =>
      exact Option.isSome_iff_exists.mp (by cases hs : s.seq <;> simp [step, hinf, hq, hs])

/-- a fair completion exists and is short: at most `variant s` loop/server operations (`take`, `finish true`) empty
    the queue and end the awaited replay; what `take` dispatches to the background stays in `bg`.
    While the state is not quiescent `progress` names an enabled operation, and it lowers the variant. -/
theorem drain_exists (s : St) :
    ∃ os s', (∀ o ∈ os, isLoopOp o = true) ∧ os.length ≤ variant s ∧ run s os = some s' ∧ quiescent s' = true := by
  generalize hn : variant s = n
  induction n using Nat.strongRecOn generalizing s with
  | _ n ih =>
    cases hqs : quiescent s with
    | true => exact ⟨[], s, by simp, Nat.zero_le _, rfl, hqs⟩
    | false =>
      have ⟨o, ho, s1, h1⟩ : ∃ o, isLoopOp o = true ∧ ∃ s1, step s o = some s1 :=
        (progress s hqs).elim (fun h => ⟨.take, rfl, h⟩) (fun h => ⟨.finish true, rfl, h true⟩)
      have hd := variant_step ho h1
      obtain ⟨os, s', ha, hl, hr, hq⟩ := ih (variant s1) (by omega) s1 rfl
      exact ⟨o :: os, s', List.forall_mem_cons.mpr ⟨ho, ha⟩, by simp only [List.length_cons]; omega,
        by simp [run, h1, hr], hq⟩

/-- a log the status function accepts: every started ticket is finished, except the one the status names -/
theorem log_closed : ∀ (log : List Ev) (st : Status), logStatus log = some st →
    ∀ t ∈ startTickets log, t ∈ finTickets log ∨ st = .started t ∨ st = .sentS t := by
  intro log
  induction log with
  | nil => intro st _ t ht; cases ht
  | cons e rest ih =>
    intro st h t ht
    unfold logStatus at h
    split at h
    case h_1 t0 hr =>
      cases h
      rcases List.mem_cons.mp ht with rfl | ht
      · exact .inr (.inl rfl)
      · exact (ih _ hr t ht).imp_right (by simp)
    case h_2 t1 t' hr =>
      split at h <;> cases h
      exact (ih _ hr t ht).imp_right (by simp)
    case h_3 | h_4 =>
      -- `fin t'` after `started t'` or `sentS t'`: the ticket that was open is finished now
      rename_i t1 t' hr
      split at h <;> cases h
      rename_i heq; subst heq
      refine .inl ((ih _ hr t ht).elim (List.mem_cons_of_mem _) ?_)
      simp; rintro rfl; exact List.mem_cons_self
    case h_5 => cases h

theorem quiescent_iff {s : St} : quiescent s = true ↔ s.inflight = none ∧ s.queue = [] := by
  simp [quiescent]

theorem quiescent_of_stuck {s : St} (htake : step s .take = none) (hfin : ∀ r, step s (.finish r) = none) :
    quiescent s = true := by
  cases hqs : quiescent s
  · rcases progress s hqs with ⟨s1, h1⟩ | hf
    · rw [htake] at h1; cases h1
    · obtain ⟨s1, h1⟩ := hf true
      rw [hfin true] at h1; cases h1
  · rfl

theorem Reach.quiescent_closed {attrs : List Attr} {fs : List FState} {s : St} (h : Reach attrs fs s)
    (hq : quiescent s = true) :
    s.inflight = none ∧ s.queue = [] ∧ ∀ t ∈ startTickets s.log, t ∈ finTickets s.log := by
  obtain ⟨hinf, hqu⟩ := quiescent_iff.mp hq
  have hseq := (Reach.inv h).seq
  rw [SeqInv, hinf] at hseq
  exact ⟨hinf, hqu, fun t ht => (log_closed _ _ hseq t ht).resolve_right (by simp [statusOf])⟩

end MitmVerif.C53
