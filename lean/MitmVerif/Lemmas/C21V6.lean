/-
  C21 — the zero-run choice of the IPv6 text (`bestRun`, glibc inet_ntop6) meets RFC 5952 §4.2, for a list of words of
  any length.  The scan keeps the leftmost longest zero run among those that have ended (`Best`) beside the run in
  progress, and `pickRun` merges the two whenever a run ends (`pickRun_best`).  For the read-back (Lemmas/C21V6Read)
  the chosen run is then given as a stretch of zeros inside the word list (`bestRun_split`).
-/
import MitmVerif.Model.C21
namespace MitmVerif.C21

def RunOf (Z : Nat → Prop) (b l : Nat) : Prop := ∀ k, k < l → Z (b + k)

/-- `best` is a run of `Z` below `e`, at least as long as every other and left of every other of its length; it is
    `none` only when there is no run below `e` at all -/
def Best (Z : Nat → Prop) (e : Nat) (best : Option Run) : Prop :=
  (∀ r, best = some r → 0 < r.len ∧ r.base + r.len ≤ e ∧ RunOf Z r.base r.len) ∧
  ∀ b l, 0 < l → b + l ≤ e → RunOf Z b l → ∃ r, best = some r ∧ (l < r.len ∨ l = r.len ∧ r.base ≤ b)

def curStart (cur : Option Run) (i : Nat) : Nat := match cur with | some c => c.base | none => i

/-- The scan in front of word `i`: `best` is the best of the runs that lie in front of the run in progress (in front
    of `i`, if there is none), the word in front of the run in progress is not zero, and `cur` is that run. -/
def ScanInv (Z : Nat → Prop) (i : Nat) (cur best : Option Run) : Prop :=
  Best Z (curStart cur i) best ∧ (∀ k, k + 1 = curStart cur i → ¬ Z k) ∧
  ∀ c, cur = some c → c.base + c.len = i ∧ 0 < c.len ∧ RunOf Z c.base c.len

theorem pickRun_best (Z : Nat → Prop) (i : Nat) (cur best : Option Run) (h : ScanInv Z i cur best) :
    Best Z i (pickRun cur best) := by
  obtain ⟨⟨hb1, hb2⟩, hnz, hc⟩ := h
  cases cur with
  | none => exact ⟨hb1, hb2⟩
  | some c =>
    obtain ⟨hci, hcl, hcz⟩ := hc c rfl
    -- a run that reaches into the run in progress lies inside it: the word in front of that is not zero
    have inside : ∀ b l, b + l ≤ i → RunOf Z b l → ¬ b + l ≤ c.base → c.base ≤ b := by
      intro b l _ hz hn
      refine Nat.le_of_not_lt fun hlt => hnz (c.base - 1) (by simp only [curStart]; omega) ?_
      have := hz (c.base - 1 - b) (by omega)
      rwa [show b + (c.base - 1 - b) = c.base - 1 by omega] at this
    simp only [curStart] at hb1 hb2
    -- whichever of the two wins, it beats the other and so every run below `i`
    have win : ∀ w : Run, (0 < w.len ∧ w.base + w.len ≤ i ∧ RunOf Z w.base w.len) →
        (c.len < w.len ∨ c.len = w.len ∧ w.base ≤ c.base) →
        (∀ r, best = some r → r.len < w.len ∨ r.len = w.len ∧ w.base ≤ r.base) → Best Z i (some w) := by
      intro w hw hcw hbw
      refine ⟨fun r hr => by cases hr; exact hw, fun b l hl hbl hz => ⟨w, rfl, ?_⟩⟩
      by_cases hle : b + l ≤ c.base
      · obtain ⟨r, hr, h'⟩ := hb2 b l hl hle hz
        have := hbw r hr
        omega
      · have := inside b l hbl hz hle
        omega
    cases best with
    | none => exact win c ⟨hcl, Nat.le_of_eq hci, hcz⟩ (Or.inr ⟨rfl, Nat.le_refl _⟩) (fun _ h => nomatch h)
    | some r =>
      obtain ⟨hrl, hre, hrz⟩ := hb1 r rfl
      simp only [pickRun]
      split
      · exact win c ⟨hcl, Nat.le_of_eq hci, hcz⟩ (Or.inr ⟨rfl, Nat.le_refl _⟩) (fun r' h => by cases h; omega)
      · exact win r ⟨hrl, by omega, hrz⟩ (by omega) (fun r' h => by cases h; omega)

theorem scanRuns_best (Z : Nat → Prop) : ∀ (ws : List Nat) (i : Nat) (cur best : Option Run),
    (∀ k (h : k < ws.length), Z (i + k) ↔ ws[k] = 0) → ScanInv Z i cur best →
    Best Z (i + ws.length) (scanRuns ws i cur best)
  | [], i, cur, best, _, h => pickRun_best Z i cur best h
  | w :: r, i, cur, best, hZ, h => by
    have hr : ∀ k (h : k < r.length), Z (i + 1 + k) ↔ r[k] = 0 := fun k hk => by
      have := hZ (k + 1) (by simp only [List.length_cons]; omega)
      rwa [show i + (k + 1) = i + 1 + k by omega] at this
    have hw : Z i ↔ w = 0 := hZ 0 (by simp)
    rw [show i + (w :: r).length = i + 1 + r.length by simp only [List.length_cons]; omega]
    unfold scanRuns
    split
    · rename_i h0
      refine scanRuns_best Z r (i + 1) _ best hr ?_
      obtain ⟨hb, hnz, hc⟩ := h
      cases cur with
      | none =>
        refine ⟨hb, hnz, fun c hc' => ?_⟩
        cases hc'
        exact ⟨rfl, Nat.one_pos, fun k hk => by rw [show k = 0 from Nat.lt_one_iff.1 hk]; exact hw.2 h0⟩
      | some c =>
        obtain ⟨hci, hcl, hcz⟩ := hc c rfl
        refine ⟨hb, hnz, fun c' hc' => ?_⟩
        cases hc'
        refine ⟨by simp only; omega, Nat.succ_pos _, fun k hk => ?_⟩
        by_cases hk' : k < c.len
        · exact hcz k hk'
        · rw [show c.base + k = i by simp only at hk; omega]; exact hw.2 h0
    · rename_i h0
      refine scanRuns_best Z r (i + 1) none _ hr ⟨?_, ?_, fun c hc => by cases hc⟩
      · obtain ⟨p1, p2⟩ := pickRun_best Z i cur best h
        refine ⟨fun r' hr' => ?_, fun b l hl hbl hz => ?_⟩
        · obtain ⟨a1, a2, a3⟩ := p1 r' hr'; exact ⟨a1, by simp only [curStart]; omega, a3⟩
        · simp only [curStart] at hbl
          refine p2 b l hl (Nat.le_of_not_lt fun hlt => h0 (hw.1 ?_)) hz
          have := hz (i - b) (by omega)
          rwa [show b + (i - b) = i by omega] at this
      · intro k hk; simp only [curStart] at hk
        rw [show k = i by omega]; exact fun hz => h0 (hw.1 hz)

theorem isZeroRun_iff (z : List Bool) (b l : Nat) :
    isZeroRun z b l = true ↔ b + l ≤ z.length ∧ RunOf (fun k => z.getD k false = true) b l := by
  simp [isZeroRun, RunOf]

theorem scanRuns_init (ws : List Nat) :
    Best (fun k => (ws.map (· == 0)).getD k false = true) ws.length (scanRuns ws 0 none none) := by
  have hb := scanRuns_best (fun k => (ws.map (· == 0)).getD k false = true) ws 0 none none
    (fun k hk => by simp [List.getD_eq_getElem?_getD, hk])
    ⟨⟨fun _ h => (nomatch h), fun b l hl h => (by simp only [curStart] at h; omega)⟩,
      fun k h => (by simp only [curStart] at h; omega), fun _ h => (nomatch h)⟩
  rwa [Nat.zero_add] at hb

/-- for every list of words: the run `textV6` replaces by "::" is the leftmost longest run of at least two zero
    words (RFC 5952 §4.2.2, §4.2.3), and nothing is compressed when there is no such run -/
theorem bestRun_spec (ws : List Nat) : bestRunSpec (ws.map (· == 0)) (bestRun ws) = true := by
  obtain ⟨h1, h2⟩ := scanRuns_init ws
  have none_ok : (∀ r, scanRuns ws 0 none none = some r → r.len < 2) → bestRunSpec (ws.map (· == 0)) none = true := by
    intro hlt
    simp only [bestRunSpec, List.all_eq_true, List.mem_range, Bool.not_eq_true', ← Bool.not_eq_true, isZeroRun_iff,
      List.length_map]
    intro b _ ⟨hle, hz⟩
    obtain ⟨r, hr, h⟩ := h2 b 2 (by omega) hle hz
    have := hlt r hr
    omega
  unfold bestRun
  split
  · rename_i r hr
    split
    · exact none_ok fun r' hr' => by rw [hr] at hr'; cases hr'; assumption
    · obtain ⟨_, hle, hz⟩ := h1 r hr
      simp only [bestRunSpec, Bool.and_eq_true, decide_eq_true_eq, isZeroRun_iff, List.length_map, List.all_eq_true,
        List.mem_range, Bool.or_eq_true, Bool.not_eq_true', ← Bool.not_eq_true]
      refine ⟨⟨by omega, hle, hz⟩, fun b _ l _ => ?_⟩
      refine (Classical.em _).symm.imp_right fun ⟨hbl, hrz⟩ => ?_
      by_cases hl : 0 < l
      · obtain ⟨r', hr', h⟩ := h2 b l hl hbl hrz
        rw [hr] at hr'; cases hr'; exact h
      · exact Or.inl (by omega)
  · rename_i hn
    exact none_ok fun r hr => by rw [hn] at hr; cases hr

theorem bestRun_split (ws : List Nat) (b l : Nat) (h : bestRun ws = some ⟨b, l⟩) :
    2 ≤ l ∧ ∃ pre zs post, ws = pre ++ (zs ++ post) ∧ pre.length = b ∧ zs.length = l ∧ ∀ z ∈ zs, z = 0 := by
  unfold bestRun at h
  split at h
  · rename_i r hr
    split at h
    · cases h
    · cases h
      have h2 : ¬ l < 2 := ‹_›
      obtain ⟨_, hle, hz⟩ : 0 < l ∧ b + l ≤ ws.length ∧ RunOf _ b l := (scanRuns_init ws).1 _ hr
      refine ⟨by omega, ws.take b, (ws.drop b).take l, ws.drop (b + l), ?_, ?_, ?_, fun z hm => ?_⟩
      · rw [← List.drop_drop, List.take_append_drop, List.take_append_drop]
      · rw [List.length_take]; omega
      · rw [List.length_take, List.length_drop]; omega
      · obtain ⟨i, hi, rfl⟩ := List.getElem_of_mem hm
        simp only [List.length_take, List.length_drop] at hi
        have hlt : b + i < ws.length := by omega
        simpa [List.getD_eq_getElem?_getD, hlt] using hz i (by omega)
  · cases h

theorem words16_length : ∀ ad : Bytes, (words16 ad).length = ad.length / 2
  | [] => rfl
  | [_] => by simp [words16]
  | _ :: _ :: r => by simp only [words16, List.length_cons, words16_length r]; omega

theorem words16_drop : ∀ (ad : Bytes) (k : Nat), (words16 ad).drop k = words16 (ad.drop (2 * k))
  | _, 0 => rfl
  | [], _ + 1 => by rw [List.drop_nil]; rfl
  | [_], k + 1 => by rw [Nat.mul_succ, List.drop_succ_cons, List.drop_nil]; rfl
  | _ :: _ :: r, k + 1 => by rw [Nat.mul_succ]; exact words16_drop r k

theorem words16_lt : ∀ (r : Bytes), ∀ w ∈ words16 r, w < 65536
  | [], w, h => by simp [words16] at h
  | [_], w, h => by simp [words16] at h
  | x :: y :: r, w, h => by
    simp only [words16, List.mem_cons] at h
    rcases h with rfl | h
    · have := x.toNat_lt; have := y.toNat_lt; omega
    · exact words16_lt r w h

end MitmVerif.C21
