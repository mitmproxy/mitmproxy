/-
  Lemmas for C05: the callers' discipline (`CanSubmit`) derived from the grammar of the events the HTTP layer hands to
  `Http2Client` — per upstream stream, what is buffered stays well-formed through every operation.
-/
import MitmVerif.Lemmas.C05_Map
namespace MitmVerif.C05
open MitmVerif

/-- what is kept, beyond `StreamOk`, for an upstream stream `o` that may still send: as long as the request body is still
    open (`opn`) nothing buffered ends the stream; once trailers were handed over (`trd`) they are waiting in
    `stream_trailers` -/
def Keeps (c : Conn) (o : Nat) (opn trd : Bool) : Prop :=
  c.liveS o = true → (opn = true → noFin (c.buf o)) ∧ (trd = true → o ∈ c.trl)

theorem keeps_of_eq (c c' : Conn) (o : Nat) (opn trd : Bool) (hl : c'.liveS o = true → c.liveS o = true)
    (hb : c'.buf o = c.buf o) (ht : o ∈ c.trl → o ∈ c'.trl) (h : Keeps c o opn trd) : Keeps c' o opn trd := by
  intro hl'
  have := h (hl hl')
  rw [hb]
  exact ⟨this.1, fun e => ht (this.2 e)⟩

theorem keeps_untouched {c c' : Conn} {o : Nat} (opn trd : Bool) (u : Untouched c c' o) (h : Keeps c o opn trd) :
    Keeps c' o opn trd :=
  keeps_of_eq c c' o opn trd (fun e => by rw [← u.2.1]; exact e) u.1 u.2.2.2.mpr h

theorem keeps_erase (c : Conn) (s o : Nat) (opn trd : Bool) (hs : c.liveS s = false) (h : Keeps c o opn trd) :
    Keeps ({ c with bufs := aerase s c.bufs } : Conn) o opn trd := by
  intro hl
  have hl0 : c.liveS o = true := hl
  have hso : s ≠ o := by intro e; subst e; rw [hs] at hl0; cases hl0
  have k := h hl0
  rw [buf_aerase]; simp only [hso, if_false]
  exact k

theorem keeps_weaken (c : Conn) (o : Nat) (opn trd : Bool) (h : Keeps c o opn trd) : Keeps c o false trd :=
  fun hl => ⟨fun e => Bool.noConfusion e, (h hl).2⟩

/-! ### what an operation on stream `s` leaves alone -/

theorem sendTrailers_untouched (c : Conn) (s o : Nat) (h : s ≠ o) : Untouched c (c.sendTrailers s) o := by
  unfold Conn.sendTrailers
  split
  · refine ⟨rfl, rfl, rfl, ?_⟩
    show o ∈ (if c.trl.contains s then c.trl else c.trl ++ [s]) ↔ _
    split
    · exact Iff.rfl
    · simp [List.mem_append]
      intro e; exact absurd e.symm h
  · exact rawTrailers_untouched c s o h

theorem endStream_untouched (c : Conn) (s o : Nat) (h : s ≠ o) : Untouched c (c.endStream s) o := by
  unfold Conn.endStream
  split
  · exact Untouched.rfl' c o
  · exact sendData_untouched c s o [] true h

theorem resetStream_untouched (c : Conn) (s o : Nat) (h : s ≠ o) : Untouched c (c.resetStream s) o := by
  unfold Conn.resetStream
  simp only []
  refine ⟨?_, ?_, ?_, ?_⟩
  · show (Conn.updS ({ c with bufs := aerase s c.bufs } : Conn) s _).buf o = _
    rw [buf_updS, buf_aerase]; simp [h]
  · show (Conn.updS ({ c with bufs := aerase s c.bufs } : Conn) s _).liveS o = _
    rw [liveS_updS _ s o _ (by intro x e; exact absurd e h)]
    exact liveS_congr _ _ rfl rfl o
  · exact getS_updS_ne _ s o _ h
  · show o ∈ (Conn.updS ({ c with bufs := aerase s c.bufs } : Conn) s _).trl ↔ _
    rw [trl_updS]

theorem liveS_resetStream_same (c : Conn) (s : Nat) : (c.resetStream s).liveS s = false := by
  unfold Conn.resetStream
  simp only []
  show (Conn.updS ({ c with bufs := aerase s c.bufs } : Conn) s (fun st => { st with rst := true })).liveS s = false
  rw [liveS_updS_and _ s s _ false (fun st => by simp [Stream.live])]
  simp

/-! ### the operation's own stream -/

theorem sendData_keeps_self (c : Conn) (s : Nat) (d : Bytes) (trd : Bool) (hl : c.liveS s = true)
    (h : Keeps c s true trd) : Keeps (c.sendData s d false) s true trd := by
  have k := h hl
  have c2 := sendData_can c s d ⟨hl, k.1 rfl⟩
  intro _
  refine ⟨fun _ => c2.2, fun e => ?_⟩
  rw [trl_sendData]; exact k.2 e

theorem can_of_keeps_end (c : Conn) (s : Nat) (opn trd : Bool) (hl : c.liveS s = true)
    (hopen : trd = false → opn = true) (h : Keeps c s opn trd) (hnt : ¬ c.trl.contains s = true) : CanSubmit c s := by
  have k := h hl
  have htrd : trd = false := eq_false_of_ne_true fun ht => hnt (by simpa using k.2 ht)
  exact ⟨hl, k.1 (hopen htrd)⟩

theorem endStream_keeps_self (c : Conn) (s : Nat) (opn trd : Bool) (hl : c.liveS s = true)
    (h : Keeps c s opn trd) : Keeps (c.endStream s) s false trd := by
  have k := h hl
  unfold Conn.endStream
  split
  · intro _; exact ⟨fun e => Bool.noConfusion e, k.2⟩
  · rename_i hnt
    intro _
    exact ⟨fun e => Bool.noConfusion e, fun e => absurd (by simpa using k.2 e) hnt⟩

theorem sendTrailers_keeps_self (c : Conn) (s : Nat) (opn trd : Bool) (hl : c.liveS s = true)
    (h : Keeps c s opn trd) : Keeps (c.sendTrailers s) s false true := by
  have k := h hl
  unfold Conn.sendTrailers
  split
  · intro _
    refine ⟨fun e => Bool.noConfusion e, fun _ => ?_⟩
    show s ∈ (if c.trl.contains s then c.trl else c.trl ++ [s])
    split
    · rename_i hc; simpa using hc
    · simp
  · intro hl'
    rw [liveS_rawTrailers_same] at hl'; cases hl'

/-! ### hyper-h2's own bookkeeping for a received segment -/

/-- buffers and trailers are the same, no stream came to life, no stream appeared or vanished -/
def Weak (c c' : Conn) : Prop :=
  c'.bufs = c.bufs ∧ c'.trl = c.trl ∧ (∀ o, c'.liveS o = true → c.liveS o = true) ∧
  (∀ o, (c'.getS o).isSome = (c.getS o).isSome)

theorem keeps_weak {c c' : Conn} (o : Nat) (opn trd : Bool) (w : Weak c c') (h : Keeps c o opn trd) :
    Keeps c' o opn trd :=
  keeps_of_eq c c' o opn trd (w.2.2.1 o) (by unfold Conn.buf; rw [w.1]) (by rw [w.2.1]; exact fun e => e) h

/-- the segment resets stream `o` or closes the connection -/
def Pending (l : List SEv) (o : Nat) : Prop := SEv.reset o ∈ l ∨ SEv.goaway ∈ l

/-- what hyper-h2's bookkeeping for one event leaves alone -/
structure Absorbed (c c' : Conn) (stop : Nat → Bool) : Prop where
  bufs : c'.bufs = c.bufs
  trl : c'.trl = c.trl
  out : c'.out = c.out
  known : ∀ o, (c'.getS o).isSome = (c.getS o).isSome
  live : ∀ o, c'.liveS o = (c.liveS o && !stop o)

theorem absorbed_updS (c : Conn) (s : Nat) (f : Stream → Stream) (b : Bool) (hf : ∀ st, (f st).live = (st.live && b)) :
    Absorbed c (c.updS s f) (fun o => decide (s = o) && !b) := by
  refine ⟨?_, trl_updS c s f, out_updS c s f, fun o => getS_updS_isSome c s o f, fun o => ?_⟩
  · unfold Conn.updS; split <;> rfl
  · rw [liveS_updS_and c s o f b hf]; simp

theorem absorbed_iws (c : Conn) (w : Nat) (delta : Int) :
    Absorbed c ({ c with iws := w, streams := c.streams.map fun (p : Nat × Stream) => (p.1, { p.2 with win := p.2.win + delta }) } : Conn)
      (fun _ => false) := by
  have hl := alookup_map_snd (g := fun (st : Stream) => ({ st with win := st.win + delta } : Stream))
  refine ⟨rfl, rfl, rfl, fun o => ?_, fun o => ?_⟩
  · unfold Conn.getS; simp only []; rw [hl]; cases alookup o c.streams <;> rfl
  · unfold Conn.liveS Conn.getS; simp only []; rw [hl]; cases alookup o c.streams <;> simp [Stream.live]

theorem Absorbed.rfl' (c : Conn) : Absorbed c c (fun _ => false) := ⟨rfl, rfl, rfl, fun _ => rfl, fun _ => by simp⟩

/-- hyper-h2's bookkeeping for one event: buffers, trailers and output stay, no stream appears or vanishes, and a stream
    that may send still may unless the event resets it or is GOAWAY -/
theorem absorbH2_absorbed (c : Conn) (e : SEv) :
    Absorbed c (c.absorbH2 e) (fun o => decide (e = .reset o) || decide (e = .goaway)) := by
  have keep : ∀ s (f : Stream → Stream), (∀ st, (f st).live = st.live) → Absorbed c (c.updS s f) (fun _ => false) := by
    intro s f hf
    have := absorbed_updS c s f true (by simpa using hf)
    simpa using this
  cases e with
  | settings m iws mfs =>
    cases mfs <;> cases iws <;> simp only [Conn.absorbH2, reduceCtorEq, decide_false, Bool.or_false]
    · exact Absorbed.rfl' c
    · exact absorbed_iws c _ _
    · exact ⟨rfl, rfl, rfl, fun _ => rfl, (Absorbed.rfl' c).live⟩
    · rename_i mf w
      have := absorbed_iws ({ c with mfs := mf } : Conn) w (w - c.iws)
      exact ⟨this.bufs, this.trl, this.out, this.known, this.live⟩
  | winUpd sid n =>
    simp only [Conn.absorbH2, reduceCtorEq, decide_false, Bool.or_false]
    split
    · exact ⟨rfl, rfl, rfl, fun _ => rfl, (Absorbed.rfl' c).live⟩
    · exact keep sid _ (fun _ => rfl)
  | respHdr sid _ _ | respData sid _ _ =>
    simp only [Conn.absorbH2, reduceCtorEq, decide_false, Bool.or_false]
    split
    · exact keep sid _ (fun _ => rfl)
    · exact Absorbed.rfl' c
  | respTrailers sid =>
    simp only [Conn.absorbH2, reduceCtorEq, decide_false, Bool.or_false]
    exact keep sid _ (fun _ => rfl)
  | reset sid =>
    have := absorbed_updS c sid (fun st => { st with rst := true }) false (by simp [Stream.live])
    simpa only [Conn.absorbH2, SEv.reset.injEq, reduceCtorEq, decide_false, Bool.or_false, Bool.not_false,
      Bool.and_true] using this
  | goaway => exact ⟨rfl, rfl, rfl, fun _ => rfl, fun _ => by simp [Conn.absorbH2, Conn.liveS]⟩
  | info _ | ended _ | protoErr | other =>
    simp only [Conn.absorbH2, reduceCtorEq, decide_false, Bool.or_false]
    exact Absorbed.rfl' c

theorem foldl_absorbH2_absorbed (evs : List SEv) (c : Conn) :
    Absorbed c (evs.foldl Conn.absorbH2 c) (fun o => decide (SEv.reset o ∈ evs) || decide (SEv.goaway ∈ evs)) := by
  induction evs generalizing c with
  | nil => simpa using Absorbed.rfl' c
  | cons e rest ih =>
    have a := absorbH2_absorbed c e
    have b := ih (c.absorbH2 e)
    refine ⟨b.bufs.trans a.bufs, b.trl.trans a.trl, b.out.trans a.out, fun o => (b.known o).trans (a.known o), fun o => ?_⟩
    rw [List.foldl_cons, b.live, a.live]
    cases c.liveS o <;> simp [eq_comm]
    ac_rfl

theorem Absorbed.weak {c c' : Conn} {stop : Nat → Bool} (a : Absorbed c c' stop) : Weak c c' :=
  ⟨a.bufs, a.trl, fun o h => by rw [a.live, Bool.and_eq_true] at h; exact h.1, a.known⟩

theorem absorbH2_weak (c : Conn) (e : SEv) : Weak c (c.absorbH2 e) := (absorbH2_absorbed c e).weak

theorem foldl_absorbH2_weak (evs : List SEv) (c : Conn) : Weak c (evs.foldl Conn.absorbH2 c) :=
  (foldl_absorbH2_absorbed evs c).weak

/-! ### the post-processing of `receive_data` -/

theorem absorbBuf_ops {P : Conn → Prop} (B : BufOps P) (c : Conn) (e : SEv)
    (hk : ∀ s, e = .reset s → c.liveS s = false) (hd : e = .goaway → ∀ o, c.liveS o = false) (h : P c) :
    P (c.absorbBuf e) := by
  have cw := connWindowUpdated_pres P B.move (streamWindowUpdated_ops B)
  unfold Conn.absorbBuf
  split
  · exact cw _ c h
  · split
    · exact cw _ c h
    · exact streamWindowUpdated_ops B c _ h
  · exact B.erase c _ (hk _ rfl) h
  · exact B.clear c (hd rfl) h
  · exact h

/-- a received segment: hyper-h2's bookkeeping first; by then every stream the segment resets, and every stream if it
    carries GOAWAY, cannot send any more, and no step of the post-processing changes that; its buffer is dropped when
    the post-processing comes to that event, and nothing is buffered for it afterwards -/
theorem absorb_ops {P : Conn → Prop} (B : BufOps P) (c : Conn) (evs : List SEv) (h : P (evs.foldl Conn.absorbH2 c)) :
    P (c.absorb evs) ∧ ∀ o, Pending evs o → (c.absorb evs).buf o = [] := by
  have w := foldl_absorbH2_absorbed evs c
  have start : ∀ o, Pending evs o → (evs.foldl Conn.absorbH2 c).liveS o = false := by
    intro o hp
    rw [w.live]
    rcases hp with hp | hp <;> simp [hp]
  -- `d`: the events the post-processing has come to
  let J (d : List SEv) (c' : Conn) : Prop :=
    P c' ∧ (∀ o, Pending evs o → c'.liveS o = false) ∧ ∀ o, Pending d o → c'.buf o = []
  have BJ : ∀ d, BufOps (J d) := fun d =>
    ⟨fun c' s h => ⟨B.move c' s h.1, h.2.1, fun o hp => (buf_moveToEnd c' s o).trans (h.2.2 o hp)⟩,
     fun c' s w ch rest hb h => ⟨B.round c' s w ch rest hb h.1, fun o hp => by rw [liveS_flushStep, h.2.1 o hp]; rfl,
       fun o hp => by
        rw [buf_flushStep]
        split
        · rename_i hs; subst hs; rw [h.2.2 s hp] at hb; cases hb
        · exact h.2.2 o hp⟩,
     fun c' s hl h => ⟨B.erase c' s hl h.1, h.2.1, fun o hp => by rw [buf_aerase, h.2.2 o hp]; split <;> rfl⟩,
     fun c' hl h => ⟨B.clear c' hl h.1, h.2.1, fun _ _ => rfl⟩⟩
  unfold Conn.absorb
  generalize evs.foldl Conn.absorbH2 c = c1 at h start
  have fold : ∀ (l d : List SEv), d ++ l = evs → ∀ c', J d c' → J evs (l.foldl Conn.absorbBuf c') := by
    intro l
    induction l with
    | nil => intro d hd c' h; rw [List.append_nil] at hd; rw [← hd]; exact h
    | cons e rest ih =>
      intro d hd c' h
      have he : e ∈ evs := by rw [← hd]; simp
      have k := absorbBuf_ops (BJ d) c' e (fun s hs => h.2.1 s (Or.inl (hs ▸ he))) (fun hg o => h.2.1 o (Or.inr (hg ▸ he))) h
      refine ih (d ++ [e]) (by rw [List.append_assoc]; exact hd) _ ⟨k.1, k.2.1, fun o hp => ?_⟩
      by_cases hd' : Pending d o
      · exact k.2.2 o hd'
      · have : e = SEv.reset o ∨ e = SEv.goaway := by
          simp only [Pending, List.mem_append, List.mem_singleton, not_or] at hp hd'
          rcases hp with (h1 | h1) | (h1 | h1)
          · exact absurd h1 hd'.1
          · exact .inl h1.symm
          · exact absurd h1 hd'.2
          · exact .inr h1.symm
        rcases this with rfl | rfl
        · simp only [Conn.absorbBuf]; rw [buf_aerase]; simp
        · rfl
  have r := fold evs [] rfl c1 ⟨h, start, fun o hp => by rcases hp with hp | hp <;> cases hp⟩
  exact ⟨r.1, r.2.2⟩

theorem keeps_ops (o : Nat) (opn trd : Bool) : BufOps (fun c => Keeps c o opn trd) := by
  refine ⟨fun c s h => keeps_of_eq c _ o opn trd (fun e => e) (buf_moveToEnd c s o) (fun e => e) h,
    fun c s w ch rest hb h => ?_, fun c s hl h => keeps_erase c s o opn trd hl h,
    fun c _ h hl => ⟨fun _ x hx => by simp [Conn.buf, alookup] at hx, (h hl).2⟩⟩
  by_cases hso : s = o
  · subst hso
    intro hl
    rw [liveS_flushStep] at hl
    simp only [Bool.and_eq_true, decide_true, Bool.true_and, Bool.not_eq_true', Bool.or_eq_false_iff] at hl
    have k := h hl.1
    rw [hb] at k
    rw [buf_flushStep]; simp only [if_true]
    refine ⟨fun ho => flushPiece_noFin c w ch rest (k.1 ho), fun ht => ?_⟩
    rw [trl_flushStep]
    refine ⟨k.2 ht, fun e => ?_⟩
    have := hl.2.2
    rw [e] at this
    simp at this
    exact absurd (k.2 ht) this
  · exact keeps_untouched opn trd (flushStep_untouched c s o _ _ hso) h

theorem absorb_keeps (c : Conn) (evs : List SEv) (o : Nat) (opn trd : Bool) (h : Keeps c o opn trd) :
    Keeps (c.absorb evs) o opn trd :=
  (absorb_ops (keeps_ops o opn trd) c evs (keeps_weak o opn trd (foldl_absorbH2_weak evs c) h)).1

theorem fresh_ops (o : Nat) : BufOps (fun c => c.getS o = none ∧ c.buf o = [] ∧ o ∉ c.trl) := by
  refine ⟨fun c s h => ⟨h.1, by rw [buf_moveToEnd]; exact h.2.1, h.2.2⟩, fun c s w ch rest hb h => ?_,
    fun c s _ h => ⟨h.1, by rw [buf_aerase]; split; rfl; exact h.2.1, h.2.2⟩, fun c _ h => ⟨h.1, rfl, h.2.2⟩⟩
  have hso : s ≠ o := fun e => by rw [e, h.2.1] at hb; cases hb
  have u := flushStep_untouched c s o (flushPiece c w ch rest).1 (flushPiece c w ch rest).2 hso
  exact ⟨u.2.2.1.trans h.1, u.1.trans h.2.1, fun e => h.2.2 (u.2.2.2.mp e)⟩

theorem absorb_fresh (c : Conn) (evs : List SEv) (o : Nat) (h : c.getS o = none ∧ c.buf o = [] ∧ o ∉ c.trl) :
    (c.absorb evs).getS o = none ∧ (c.absorb evs).buf o = [] ∧ o ∉ (c.absorb evs).trl := by
  have w := foldl_absorbH2_absorbed evs c
  refine (absorb_ops (fresh_ops o) c evs ⟨?_, ?_, ?_⟩).1
  · have := w.known o
    rw [h.1] at this
    cases hg : (evs.foldl Conn.absorbH2 c).getS o with
    | none => rfl
    | some st => rw [hg] at this; cases this
  · unfold Conn.buf; rw [w.bufs]; exact h.2.1
  · rw [w.trl]; exact h.2.2

/-- a received segment leaves every well-kept stream well kept: a stream that RST_STREAM or GOAWAY stops loses its
    buffer in the same `receive_data` call -/
theorem absorb_streamOk (c : Conn) (evs : List SEv) (o : Nat) (h : StreamOk c o) : StreamOk (c.absorb evs) o := by
  have w := foldl_absorbH2_absorbed evs c
  by_cases hp : Pending evs o
  · exact streamOk_of_buf_nil _ o
      ((absorb_ops (P := fun _ => True) ⟨fun _ _ _ => trivial, fun _ _ _ _ _ _ _ => trivial, fun _ _ _ _ => trivial,
        fun _ _ _ => trivial⟩ c evs trivial).2 o hp)
  · refine (absorb_ops (streamOk_ops (evs.foldl Conn.absorbH2 c) o) c evs ⟨?_, rfl⟩).1.1
    unfold StreamOk Conn.buf
    rw [w.bufs, w.live]
    simp only [Pending, not_or] at hp
    refine ⟨fun hl1 => h.1 ?_, h.2⟩
    simpa [hp] using hl1

/-! ### the events of one request, as the HTTP layer hands them over -/

/-- trailers, end of message or an error were handed over -/
def E2 (l : List Ev) : Bool := l.any fun e => match e with | .trailers | .eom | .err => true | _ => false
/-- end of message or an error were handed over -/
def E1 (l : List Ev) : Bool := l.any fun e => match e with | .eom | .err => true | _ => false
def hasT (l : List Ev) : Bool := l.any fun e => match e with | .trailers => true | _ => false

/-- the order `HttpStream` keeps: body data and trailers only while the request is open, trailers once, the end of the
    message once; an error (the stream is cancelled) at any time -/
def allowed (pre : List Ev) : Ev → Bool
  | .data _ => !E2 pre
  | .trailers => !E2 pre
  | .eom => !E1 pre
  | _ => true

def GramOk (l : List Ev) : Prop := ∀ pre e post, l = pre ++ e :: post → allowed pre e = true

theorem gramOk_snoc (l : List Ev) (ev : Ev) (h : GramOk l) (ha : allowed l ev = true) : GramOk (l ++ [ev]) := by
  intro pre e post hh
  rcases List.eq_nil_or_concat post with rfl | ⟨post', x, rfl⟩
  · have := List.append_inj' hh (by simp)
    obtain ⟨e1, e2⟩ := this
    simp at e2; subst e1; subst e2; exact ha
  · have e : l ++ [ev] = (pre ++ e :: post') ++ [x] := by rw [hh]; simp
    have := List.append_inj' e (by simp)
    exact h pre _ post' this.1

theorem E2_eq (l : List Ev) : E2 l = (E1 l || hasT l) := by
  unfold E2 E1 hasT
  induction l with
  | nil => rfl
  | cons x l ih => simp only [List.any_cons, ih]; cases x <;> simp

theorem E1_le_E2 (l : List Ev) (h : E2 l = false) : E1 l = false := by
  rw [E2_eq, Bool.or_eq_false_iff] at h; exact h.1

theorem hasT_le_E2 (l : List Ev) (h : E2 l = false) : hasT l = false := by
  rw [E2_eq, Bool.or_eq_false_iff] at h; exact h.2

theorem open_of_E1_hasT (F : List Ev) (h1 : E1 F = false) (ht : hasT F = false) : E2 F = false := by
  rw [E2_eq, h1, ht]; rfl

theorem any_snoc (l : List Ev) (p : Ev → Bool) (e : Ev) : (l ++ [e]).any p = (l.any p || p e) := by
  simp [List.any_append]

theorem E2_snoc (F : List Ev) (e : Ev) : E2 (F ++ [e]) = (E2 [e] || E2 F) := by
  simp [E2, List.any_append, Bool.or_comm]

theorem hasT_snoc (F : List Ev) (e : Ev) : hasT (F ++ [e]) = (hasT [e] || hasT F) := by
  simp [hasT, List.any_append, Bool.or_comm]

/-! ### one event handled by `_handle_event2` -/

theorem procConn_untouched (c : Conn) (o x : Nat) (ev : Ev) (h : o ≠ x) : Untouched c (procConn c o ev) x := by
  cases ev with
  | hdr fin =>
    refine ⟨rfl, ?_, ?_, Iff.rfl⟩
    · unfold Conn.liveS Conn.getS
      simp only [procConn]
      rw [alookup_aset_ne _ _ _ _ (fun e => h e.symm)]
    · unfold Conn.getS
      simp only [procConn]
      rw [alookup_aset_ne _ _ _ _ (fun e => h e.symm)]
  | data b => simp only [procConn]; split; exact sendData_untouched c o x b false h; exact Untouched.rfl' c x
  | trailers => simp only [procConn]; split; exact sendTrailers_untouched c o x h; exact Untouched.rfl' c x
  | eom => simp only [procConn]; split; exact endStream_untouched c o x h; exact Untouched.rfl' c x
  | err => simp only [procConn]; split; exact resetStream_untouched c o x h; exact Untouched.rfl' c x

/-- the event's own upstream stream: what is kept follows the events handed over so far, and the stream stays well
    kept -/
theorem procConn_self (c : Conn) (o : Nat) (F : List Ev) (ev : Ev) (hnh : ev.isHdr = false)
    (ha : allowed F ev = true) (hk : Keeps c o (!E2 F) (hasT F)) (h : StreamOk c o) :
    Keeps (procConn c o ev) o (!E2 (F ++ [ev])) (hasT (F ++ [ev])) ∧ StreamOk (procConn c o ev) o := by
  -- once `ev` is known, `E2 [ev]` and `hasT [ev]` compute
  rw [E2_snoc, hasT_snoc]
  cases ev with
  | hdr fin => simp [Ev.isHdr] at hnh
  | data b =>
    have h2 : E2 F = false := by simpa [allowed] using ha
    rw [h2] at hk ⊢
    simp only [procConn]
    split
    · rename_i hl
      exact ⟨sendData_keeps_self c o b _ hl hk, sendData_ok c o o b false ⟨hl, (hk hl).1 rfl⟩ h⟩
    · exact ⟨hk, h⟩
  | trailers =>
    simp only [procConn]
    split
    · rename_i hl
      refine ⟨sendTrailers_keeps_self c o _ _ hl hk, ?_⟩
      unfold Conn.sendTrailers
      split
      · exact h
      · rename_i hb
        have hbe : c.buf o = [] := by simpa using hb
        exact streamOk_of_buf_nil _ o (by rw [(held_rawTrailers c o o).2]; exact hbe)
    · rename_i hl
      exact ⟨fun hl' => absurd hl' hl, h⟩
  | eom =>
    have h1 : E1 F = false := by simpa [allowed] using ha
    have hopen : hasT F = false → (!E2 F) = true := fun ht => by rw [open_of_E1_hasT F h1 ht]; rfl
    simp only [procConn]
    split
    · rename_i hl
      refine ⟨endStream_keeps_self c o _ _ hl hk, ?_⟩
      unfold Conn.endStream
      split
      · exact h
      · rename_i hnt
        exact sendData_ok c o o [] true (can_of_keeps_end c o _ _ hl hopen hk hnt) h
    · exact ⟨keeps_weaken c o _ _ hk, h⟩
  | err =>
    simp only [procConn]
    split
    · refine ⟨fun hl => ?_, streamOk_of_buf_nil _ o ?_⟩
      · rw [liveS_resetStream_same] at hl; exact Bool.noConfusion hl
      · unfold Conn.resetStream
        simp only []
        show (Conn.updS ({ c with bufs := aerase o c.bufs } : Conn) o _).buf o = []
        rw [buf_updS, buf_aerase]; simp
    · exact ⟨keeps_weaken c o _ _ hk, h⟩

/-! ### the whole client: what is kept for every upstream stream, in every reachable state -/

structure SubInv (σ : St) : Prop where
  fresh : ∀ x, σ.nextId ≤ x → σ.conn.getS x = none ∧ σ.conn.buf x = [] ∧ x ∉ σ.conn.trl
  keeps : ∀ t o, alookup t σ.ours = some o → Keeps σ.conn o (!E2 (fwOf t σ)) (hasT (fwOf t σ))
  gram : ∀ t, GramOk (evsOf t σ.sub)
  ok : ∀ x, StreamOk σ.conn x

/-- one event of client stream `t` passed on as upstream stream `o`, whether `o` is old (`midMapped`) or was just
    allocated (`midAlloc`): `o` gets `ev`; every other mapped stream was mapped before, to another id -/
structure Fwd (σ m : St) (t o : Nat) (ev : Ev) : Prop where
  conn : m.conn = procConn σ.conn o ev
  fw : ∀ t', fwOf t' m = fwOf t' σ ++ (if t = t' then [ev] else [])
  sub : m.sub = σ.sub
  ours : ∀ t2 o2, alookup t2 m.ours = some o2 → (t = t2 ∧ o = o2) ∨ (t ≠ t2 ∧ o ≠ o2 ∧ alookup t2 σ.ours = some o2)
  next : ∀ x, m.nextId ≤ x → σ.nextId ≤ x ∧ o ≠ x

theorem midMapped_fwd (σ : St) (t o : Nat) (ev : Ev) (rest : List (Nat × Ev)) (h : DrainInv σ)
    (hst : σ.stack = (t, ev) :: rest) (ho : alookup t σ.ours = some o) :
    Fwd σ (midMapped σ t o ev rest) t o ev ∧ ev.isHdr = false := by
  have hsk := h.st
  unfold StackOk at hsk
  rw [hst] at hsk
  have hnh : ev.isHdr = false := hsk.2.1 (by rw [ho]; rfl)
  have hlt : o < σ.nextId := h.map.lt o t (h.map.fwd t o ho)
  refine ⟨⟨rfl, fwOf_of_snoc rfl, rfl, fun t2 o2 ho2 => ?_, fun x hx => ?_⟩, hnh⟩
  · by_cases htt : t = t2
    · subst htt; exact .inl ⟨rfl, Option.some.inj (ho.symm.trans ho2)⟩
    · refine .inr ⟨htt, fun e => ?_, ho2⟩
      subst e
      exact htt (Option.some.inj ((h.map.fwd t o ho).symm.trans (h.map.fwd t2 o ho2)))
  · have hx' : σ.nextId ≤ x := by simpa [midMapped, hnh] using hx
    exact ⟨hx', by omega⟩

theorem midAlloc_fwd (σ : St) (t : Nat) (ev : Ev) (rest : List (Nat × Ev)) (h : DrainInv σ)
    (hst : σ.stack = (t, ev) :: rest) (ho : alookup t σ.ours = none) :
    Fwd σ (midAlloc σ t ev rest) t σ.nextId ev ∧ ∃ fin, ev = .hdr fin := by
  have hsk := h.st
  unfold StackOk at hsk
  rw [hst] at hsk
  have hh : ev.isHdr = true := (hsk.2.2 ho).1
  refine ⟨⟨rfl, fwOf_of_snoc rfl, rfl, fun t2 o2 ho2 => ?_, fun x hx => ?_⟩, ?_⟩
  · rcases (allocId_ours σ t ho t2 o2).mp ho2 with hl | ⟨rfl, rfl⟩
    · have hlt : o2 < σ.nextId := h.map.lt o2 t2 (h.map.fwd t2 o2 hl)
      have htt : t ≠ t2 := fun e => by subst e; rw [ho] at hl; cases hl
      exact .inr ⟨htt, by omega, hl⟩
    · exact .inl ⟨rfl, rfl⟩
  · have hx' : σ.nextId + 2 ≤ x := by simpa [midAlloc, midMapped, allocId, hh] using hx
    exact ⟨by omega, by omega⟩
  · cases ev <;> simp [Ev.isHdr] at hh
    exact ⟨_, rfl⟩

/-- `SubInv` after a forwarded event follows from what the event does to its own upstream stream -/
theorem fwd_sub {σ m : St} {t o : Nat} {ev : Ev} (f : Fwd σ m t o ev) (hs : SubInv σ)
    (hk : Keeps (procConn σ.conn o ev) o (!E2 (fwOf t σ ++ [ev])) (hasT (fwOf t σ ++ [ev])))
    (hok : StreamOk (procConn σ.conn o ev) o) : SubInv m := by
  refine ⟨fun x hx => ?_, fun t2 o2 ho2 => ?_, fun t' => by rw [f.sub]; exact hs.gram t', fun x => ?_⟩
  · obtain ⟨hx', hne⟩ := f.next x hx
    have u := procConn_untouched σ.conn o x ev hne
    have k := hs.fresh x hx'
    rw [f.conn, u.1, u.2.2.1]
    exact ⟨k.1, k.2.1, fun e => k.2.2 (u.2.2.2.mp e)⟩
  · rw [f.conn, f.fw]
    rcases f.ours t2 o2 ho2 with ⟨rfl, rfl⟩ | ⟨htt, hne, ho2'⟩
    · simpa using hk
    · simp only [htt, if_false, List.append_nil]
      exact keeps_untouched _ _ (procConn_untouched σ.conn o o2 ev hne) (hs.keeps t2 o2 ho2')
  · rw [f.conn]
    by_cases hx : o = x
    · subst hx; exact hok
    · exact streamOk_untouched (procConn_untouched σ.conn o x ev hx) (hs.ok x)

theorem midMapped_sub (σ : St) (t o : Nat) (ev : Ev) (rest : List (Nat × Ev)) (h : DrainInv σ)
    (hst : σ.stack = (t, ev) :: rest) (ho : alookup t σ.ours = some o) (hs : SubInv σ) :
    SubInv (midMapped σ t o ev rest) := by
  obtain ⟨f, hnh⟩ := midMapped_fwd σ t o ev rest h hst ho
  have hall : allowed (fwOf t σ) ev = true := by
    have hq := queued_unmapped σ h.q t o ho
    have c := h.cons t
    have q0 : qOf t σ = [] := by unfold qOf; rw [hq.1]; rfl
    rw [q0, hst, evsOf_cons_same, List.append_nil] at c
    exact hs.gram t (fwOf t σ) ev (evsOf t rest) c.symm
  obtain ⟨hk, hok⟩ := procConn_self σ.conn o _ ev hnh hall (hs.keeps t o ho) (hs.ok o)
  exact fwd_sub f hs hk hok

theorem midAlloc_sub (σ : St) (t : Nat) (ev : Ev) (rest : List (Nat × Ev)) (h : DrainInv σ)
    (hst : σ.stack = (t, ev) :: rest) (ho : alookup t σ.ours = none) (hs : SubInv σ) :
    SubInv (midAlloc σ t ev rest) := by
  obtain ⟨f, fin, rfl⟩ := midAlloc_fwd σ t ev rest h hst ho
  have k := hs.fresh σ.nextId (Nat.le_refl _)
  refine fwd_sub f hs ?_ (streamOk_of_buf_nil _ _ k.2.1)
  rw [fwOf_nil_of_unmapped σ h.fw t ho]
  intro _
  have hb : (procConn σ.conn σ.nextId (Ev.hdr fin)).buf σ.nextId = [] := k.2.1
  rw [hb]
  exact ⟨fun _ x hx => by simp at hx, fun e => by simp [hasT] at e⟩

/-- the event the HTTP layer hands over next keeps the order of its stream -/
def Good2 (σ : St) (t : Nat) (ev : Ev) : Prop := allowed (evsOf t σ.sub) ev = true

theorem arrive_sub (σ : St) (t : Nat) (ev : Ev) (hs : SubInv σ) (hg : Good2 σ t ev) : SubInv (arrive σ t ev) := by
  refine ⟨hs.fresh, ?_, ?_, hs.ok⟩
  · intro t2 o2 ho2; exact hs.keeps t2 o2 ho2
  · intro t'
    show GramOk (evsOf t' (σ.sub ++ [(t, ev)]))
    rw [evsOf_append]
    by_cases htt : t = t'
    · subst htt
      rw [evsOf_cons_same]
      exact gramOk_snoc _ ev (hs.gram t) hg
    · rw [evsOf_cons_ne _ _ _ _ htt]
      simpa [evsOf] using hs.gram t'

/-! ### what the server says, and the connection closing -/

theorem closeConnection_conn (σ : St) : σ.closeConnection.conn = σ.conn :=
  (closeConnection_reacted σ).carry (P := fun σ' => σ'.conn = σ.conn) fun _ _ _ _ _ => rfl

theorem handleAll_conn (evs : List SEv) (σ : St) : (St.handleAll σ evs).conn = σ.conn :=
  (handleAll_reacted evs σ).carry (P := fun σ' => σ'.conn = σ.conn) fun _ _ _ _ _ => rfl

theorem handled_sub (σ : St) (evs : List SEv) (hs : SubInv σ) : SubInv (handled σ evs) :=
  (handled_reacted σ evs).carry fun _ _ _ _ _ =>
    ⟨fun x hx => absorb_fresh σ.conn evs x (hs.fresh x hx),
     fun t o ho => absorb_keeps σ.conn evs o _ _ (hs.keeps t o ho),
     hs.gram,
     fun x => absorb_streamOk σ.conn evs x (hs.ok x)⟩

theorem subInv_rides : Rides SubInv :=
  ⟨fun _ _ _ _ _ _ _ _ _ h => ⟨h.fresh, h.keeps, h.gram, h.ok⟩, midMapped_sub, midAlloc_sub⟩

theorem init_sub : SubInv St.init := by
  refine ⟨fun x _ => ⟨rfl, rfl, by simp [St.init, Conn.init]⟩, ?_, ?_, fun x => ⟨fun _ => rfl, trivial⟩⟩
  · intro t o ho; simp [St.init, alookup] at ho
  · intro t pre e post hh
    have : evsOf t St.init.sub = [] := rfl
    rw [this] at hh
    cases pre <;> simp at hh

/-- the states the real client can be in when the HTTP layer hands over, per stream, the request head first and once
    (`Good`) and then body data, at most one set of trailers and one end of message, in this order, or an error that
    cancels the stream (`Good2`) -/
inductive Reach2 : St → Prop where
  | init : Reach2 St.init
  | client (σ : St) (t : Nat) (ev : Ev) : Reach2 σ → Good σ t ev → Good2 σ t ev → Reach2 (σ.step (.client t ev))
  | server (σ : St) (evs : List SEv) : Reach2 σ → Reach2 (σ.step (.server evs))
  | connClosed (σ : St) : Reach2 σ → Reach2 (σ.step .connClosed)

theorem reach2_reach (σ : St) (h : Reach2 σ) : Reach σ := by
  induction h with
  | init => exact Reach.init
  | client σ t ev _ hg _ ih => exact Reach.client σ t ev ih hg
  | server σ evs _ ih => exact Reach.server σ evs ih
  | connClosed σ _ ih => exact Reach.connClosed σ ih

theorem reach2_sub (σ : St) (h : Reach2 σ) : SubInv σ := by
  induction h with
  | init => exact init_sub
  | client σ t ev hr hg hg2 ih =>
    exact (step_inv subInv_rides σ (.client t ev) (reach_inv σ (reach2_reach σ hr)) ih ⟨hg, arrive_sub σ t ev ih hg2⟩).2
  | server σ evs hr ih =>
    exact (step_inv subInv_rides σ (.server evs) (reach_inv σ (reach2_reach σ hr)) ih (handled_sub σ evs ih)).2
  | connClosed σ hr ih =>
    exact (step_inv subInv_rides σ .connClosed (reach_inv σ (reach2_reach σ hr)) ih
      ((closeConnection_reacted σ).carry fun _ _ _ _ _ => ⟨ih.fresh, ih.keeps, ih.gram, ih.ok⟩)).2

end MitmVerif.C05
