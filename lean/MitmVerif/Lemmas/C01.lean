/- byte strings: the model's split / join / strip are those of Lemmas/Split and Lemmas/Strip (`splitOn_eq`,
   `joinWith_eq`, `lstripBy_eq`, `rstripBy_eq`, `stripBy_eq`), and how they meet ASCII lower-casing; the Transfer-Encoding
   whitelist: what `parse_transfer_encoding` accepts, the reference reader splits into the codings of the whitelist
   entry; it contains no line break and no surrounding OWS, so it is never folded -/
import MitmVerif.Model.C01
import MitmVerif.Lemmas.Split
import MitmVerif.Lemmas.Strip
namespace MitmVerif.C01
open MitmVerif

/-- a byte string that can be one head line: no CR, no LF -/
def cleanLine (l : Bytes) : Prop := (13 : UInt8) ∉ l ∧ (10 : UInt8) ∉ l

theorem not_mem_of_all {p : UInt8 → Bool} {l : Bytes} (h : l.all p = true) {x : UInt8} (hx : p x = false) : x ∉ l :=
  fun hm => Bool.false_ne_true (hx.symm.trans (List.all_eq_true.mp h x hm))

theorem splitOn_eq (sep : UInt8) (b : Bytes) : splitOn sep b = splitSep sep b := by
  induction b with
  | nil => rfl
  | cons c r ih => rw [splitOn, ih, splitSep]; cases splitSep sep r <;> rfl

theorem joinWith_eq (sep : Bytes) (ps : List Bytes) : joinWith sep ps = joinBy sep ps := by
  fun_induction joinWith sep ps with
  | case1 | case2 => rfl
  | case3 x xs h ih => rw [ih, joinBy_cons _ _ h]

/-! ### stripping: `lstripBy` is `trimL`, `rstripBy` is `trimR` -/

theorem lstripBy_eq (f : UInt8 → Bool) (b : Bytes) : lstripBy f b = trimL f b := by
  induction b with
  | nil => rfl
  | cons c rest ih => cases h : f c <;> simp [lstripBy, trimL, h, ih]

theorem rstripBy_eq (f : UInt8 → Bool) (b : Bytes) : rstripBy f b = trimR f b := by
  induction b with
  | nil => rfl
  | cons c rest ih =>
    rw [rstripBy, ih, trimR, trimR, List.reverse_cons, List.dropWhile_append]
    cases h : rest.reverse.dropWhile f with
    | nil => cases hc : f c <;> simp [hc]
    | cons r rs =>
      obtain ⟨y, ys, hy⟩ := List.exists_cons_of_ne_nil (l := (r :: rs).reverse) (by simp)
      rw [List.isEmpty_cons, if_neg Bool.false_ne_true, List.reverse_append, hy]
      rfl

theorem stripBy_eq (f : UInt8 → Bool) (b : Bytes) : stripBy f b = trim f b := by
  rw [stripBy, lstripBy_eq, rstripBy_eq, trim]

theorem stripBy_not_mem {f : UInt8 → Bool} {x : UInt8} {b : Bytes} (h : x ∉ b) : x ∉ stripBy f b :=
  fun hm => h (mem_trim (stripBy_eq f b ▸ hm))

theorem stripBy_idem (f : UInt8 → Bool) (l : Bytes) : stripBy f (stripBy f l) = stripBy f l := by
  rw [stripBy_eq, stripBy_eq, trim_idem]

theorem stripBy_cons_ws {f : UInt8 → Bool} {c : UInt8} (hc : f c = true) (v : Bytes) :
    stripBy f (c :: v) = stripBy f v := by
  rw [stripBy_eq, stripBy_eq, trim_cons_ws hc]

/-! ### ASCII lower-casing commutes with splitting and stripping -/

theorem asciiLowerB_cases (c : UInt8) : asciiLowerB c = c ∨ 97 ≤ (asciiLowerB c).toNat := by
  unfold asciiLowerB
  split
  · right
    simp only [UInt8.toNat_add, UInt8.toNat_ofNat, Nat.reducePow, Nat.reduceMod]
    omega
  · exact Or.inl rfl

/-- lower-casing neither produces nor removes a byte below `A` (comma, CR, LF) -/
theorem lower_eq_iff {x : UInt8} (hx : x.toNat < 65) (c : UInt8) : (asciiLowerB c = x) = (c = x) := by
  apply propext
  constructor
  · intro h
    rcases asciiLowerB_cases c with e | e
    · rw [← e, h]
    · rw [h] at e; omega
  · rintro rfl
    exact if_neg fun h => by omega

theorem mem_lower_iff {x : UInt8} (hx : x.toNat < 65) {t : Bytes} : x ∈ asciiLower t ↔ x ∈ t := by
  induction t with
  | nil => simp [asciiLower]
  | cons c cs ih =>
    simp only [asciiLower, List.map_cons, List.mem_cons] at ih ⊢
    rw [ih, eq_comm, lower_eq_iff hx, eq_comm]

theorem isOws_lower (c : UInt8) : isOws (asciiLowerB c) = isOws c := by
  unfold asciiLowerB
  split
  · have h : ∀ x : UInt8, 33 ≤ x.toNat → isOws x = false := by
      intro x hx
      simp only [isOws, Bool.or_eq_false_iff, decide_eq_false_iff_not, ← UInt8.toNat_inj, UInt8.toNat_ofNat, Nat.reducePow,
        Nat.reduceMod]
      omega
    rw [h c (by omega), h (c + 32) (by simp only [UInt8.toNat_add, UInt8.toNat_ofNat, Nat.reducePow, Nat.reduceMod]; omega)]
  · rfl

theorem isPyWs_false_iff (c : UInt8) : isPyWs c = false ↔ c ≠ 32 ∧ c ≠ 9 ∧ c ≠ 10 ∧ c ≠ 11 ∧ c ≠ 12 ∧ c ≠ 13 := by
  simp only [isPyWs, Bool.or_eq_false_iff, Bool.and_eq_false_iff, decide_eq_false_iff_not, ne_eq, ← UInt8.toNat_inj,
    UInt8.toNat_ofNat]
  omega

theorem digit_not_pyWs (c : UInt8) (h : isDigit c = true) : isPyWs c = false := by
  simp only [isDigit, Bool.and_eq_true, decide_eq_true_eq] at h
  simp only [isPyWs, Bool.or_eq_false_iff, Bool.and_eq_false_iff, decide_eq_false_iff_not, ← UInt8.toNat_inj, UInt8.toNat_ofNat]
  omega

theorem digit_not_ows (c : UInt8) (h : isDigit c = true) : isOws c = false := by
  simp only [isDigit, Bool.and_eq_true, decide_eq_true_eq] at h
  simp only [isOws, Bool.or_eq_false_iff, decide_eq_false_iff_not, ← UInt8.toNat_inj, UInt8.toNat_ofNat]
  omega

theorem stripBy_digits {c : Bytes} (h : c.all isDigit = true) : stripBy isOws c = c :=
  (stripBy_eq _ _).trans (trim_all_false fun x hx => digit_not_ows x (List.all_eq_true.mp h x hx))

theorem splitOn_lower (b : Bytes) : splitOn 44 (asciiLower b) = (splitOn 44 b).map asciiLower := by
  rw [splitOn_eq, splitOn_eq]
  exact splitSep_map (fun c => Iff.of_eq (lower_eq_iff (by decide) c)) b

theorem lstripBy_lower (b : Bytes) : lstripBy isOws (asciiLower b) = asciiLower (lstripBy isOws b) := by
  simp only [lstripBy_eq, trimL, asciiLower, List.dropWhile_map]
  congr 2
  exact funext isOws_lower

theorem rstripBy_lower (b : Bytes) : rstripBy isOws (asciiLower b) = asciiLower (rstripBy isOws b) := by
  simp only [rstripBy_eq, trimR, asciiLower, ← List.map_reverse, List.dropWhile_map]
  congr 3
  exact funext isOws_lower

theorem stripBy_lower (b : Bytes) : stripBy isOws (asciiLower b) = asciiLower (stripBy isOws b) := by
  unfold stripBy
  rw [lstripBy_lower, rstripBy_lower]

/-! ### parse_transfer_encoding accepts only what the reference reader reads as known codings -/

def trimmedPieces (ps : List Bytes) : List Bytes :=
  match ps with
  | [] => []
  | [p] => [p]
  | p :: rest =>
    trimR isOws p :: rest.dropLast.map (trim isOws) ++
      [match rest.getLast? with | some l => trimL isOws l | none => []]

theorem teNormalize_eq (v : Bytes) : teNormalize v = joinBy [44] (trimmedPieces (splitSep 44 v)) := by
  rw [← splitOn_eq, ← joinWith_eq]
  unfold teNormalize trimmedPieces
  cases h : splitOn 44 v with
  | nil => simp [joinWith]
  | cons p rest =>
    cases rest with
    | nil => simp [joinWith]
    | cons q r =>
      simp only [rstripBy_eq, lstripBy_eq, funext (stripBy_eq isOws)]
      rfl

theorem trimmedPieces_no_sep {ps : List Bytes} (h : ∀ p ∈ ps, (44 : UInt8) ∉ p) :
    ∀ q ∈ trimmedPieces ps, (44 : UInt8) ∉ q := by
  unfold trimmedPieces
  match ps, h with
  | [], _ => simp
  | [p], h => simpa using h
  | p :: q :: rest, h =>
    intro x hx
    simp only [List.mem_cons, List.mem_append, List.mem_map, List.not_mem_nil, or_false] at hx
    rcases hx with (rfl | ⟨y, hy, rfl⟩) | rfl
    · exact fun hm => h p (by simp) ((trimR_prefix _ _).subset hm)
    · have : y ∈ q :: rest := List.dropLast_subset _ hy
      exact mt mem_trim (h y (by simp [this]))
    · cases hl : (q :: rest).getLast? with
      | none => simp
      | some l =>
        have : l ∈ q :: rest := List.mem_of_getLast? hl
        exact fun hm => h l (by simp [this]) ((trimL_suffix _ _).subset hm)

theorem trimmedPieces_ne_nil {ps : List Bytes} (h : ps ≠ []) : trimmedPieces ps ≠ [] := by
  unfold trimmedPieces
  match ps, h with
  | [p], _ => simp
  | p :: q :: rest, _ => simp

/-- `re.sub` trims only next to a comma: the first piece keeps its leading OWS, the last its trailing OWS. If what comes out
    holds no OWS at all (`hs`), there was none to keep. `hlen`: no whitelist entry has more than two codings
    (`whitelist_no_ows_no_break`), so middle pieces are not treated. -/
theorem trimmedPieces_no_ows {ps : List Bytes} (hlen : (trimmedPieces ps).length ≤ 2)
    (hs : ∀ q ∈ trimmedPieces ps, q ≠ [] ∧ ∀ c ∈ q, isOws c = false) :
    ps.map (trim isOws) = trimmedPieces ps ∧
    trim isOws (joinBy [44] ps) = joinBy [44] ps ∧
    ∀ x, isOws x = false → x ∈ joinBy [44] ps → x ∈ joinBy [44] (trimmedPieces ps) := by
  match ps, hlen, hs with
  | [], _, _ => exact ⟨rfl, rfl, fun _ _ h => h⟩
  | [p], _, hs =>
    have hp := trim_all_false (hs p (by simp [trimmedPieces])).2
    exact ⟨by simp [trimmedPieces, hp], hp, fun _ _ h => h⟩
  | [p, l], _, hs =>
    obtain ⟨s1, hp, hs1⟩ := trimR_decomp (p := isOws) p
    obtain ⟨s2, hl, hs2⟩ := trimL_decomp (p := isOws) l
    have hy := hs (trimR isOws p) (by simp [trimmedPieces])
    have hz := hs (trimL isOws l) (by simp [trimmedPieces])
    cases hy' : trimR isOws p with
    | nil => exact absurd hy' hy.1
    | cons a y =>
      cases hz' : trimL isOws l with
      | nil => exact absurd hz' hz.1
      | cons r z =>
        rw [hy'] at hy hp
        rw [hz'] at hz hl
        have ha := hy.2 a List.mem_cons_self
        have hrz := trimR_all_false hz.2
        refine ⟨?_, ?_, fun x hx hm => ?_⟩
        · have hl' : trim isOws l = r :: z := by rw [trim, hz', hrz]
          simp [trimmedPieces, hy', hz', trim_of_trimR hy' ha, hl']
        · have hj : joinBy [44] [p, l] = a :: (y ++ s1 ++ 44 :: s2 ++ r :: z) := by
            simp [joinBy, hp, hl]
          rw [hj, trim, trimL_id ha]
          exact trimR_append_keep (a :: (y ++ s1 ++ 44 :: s2)) hrz
        · have hno : ∀ s : Bytes, s.all isOws = true → x ∉ s := fun s hs hm => by
            rw [List.all_eq_true.mp hs x hm] at hx
            cases hx
          rw [hp, hl] at hm
          simp [joinBy, trimmedPieces, hy', hz', hno s1 hs1, hno s2 hs2] at hm ⊢
          exact hm
  | _ :: _ :: _ :: _, hlen, _ => simp [trimmedPieces] at hlen

/-- `Ref.codingsOf [t]`: what the reference reader makes of a message with the one Transfer-Encoding value `t` -/
def refCodingsOf (t : Bytes) : List Bytes := (splitOn 44 t).map (fun c => asciiLower (stripBy isOws c))

theorem refCodingsOf_lower (t : Bytes) : refCodingsOf t = (splitOn 44 (asciiLower t)).map (stripBy isOws) := by
  unfold refCodingsOf
  rw [splitOn_lower, List.map_map]
  congr 1
  funext c
  simp [stripBy_lower]

def entriesOf : TE → List Bytes
  | .chunkedFinal => Gen.C01.teChunked
  | .other => Gen.C01.teOther

theorem parseTE_normalize {t w : Bytes} {cls : TE} (h : parseTE t = some (cls, w)) :
    teNormalize (asciiLower t) = w ∧ w ∈ entriesOf cls := by
  unfold parseTE at h
  split at h
  · cases h
  · dsimp only at h
    split at h
    · rename_i hm
      cases h
      exact ⟨rfl, by simpa [entriesOf] using hm⟩
    · split at h
      · rename_i hm
        cases h
        exact ⟨rfl, by simpa [entriesOf] using hm⟩
      · cases h

theorem parseTE_entry {t w : Bytes} {cls : TE} (h : parseTE t = some (cls, w)) : w ∈ Gen.C01.teChunked ++ Gen.C01.teOther := by
  have := (parseTE_normalize h).2
  cases cls
  · exact List.mem_append_left _ this
  · exact List.mem_append_right _ this

private theorem whitelist_no_ows_no_break : ∀ w ∈ Gen.C01.teChunked ++ Gen.C01.teOther,
    ((splitOn 44 w).length ≤ 2 ∧ ∀ q ∈ splitOn 44 w, q ≠ [] ∧ ∀ c ∈ q, isOws c = false) ∧
    (13 : UInt8) ∉ w ∧ (10 : UInt8) ∉ w := by
  decide

theorem parseTE_pieces {t w : Bytes} {cls : TE} (h : parseTE t = some (cls, w)) :
    (splitOn 44 (asciiLower t)).map (stripBy isOws) = splitOn 44 w ∧
    stripBy isOws (asciiLower t) = asciiLower t ∧
    ∀ x, isOws x = false → x ∈ asciiLower t → x ∈ w := by
  obtain ⟨hn, hw⟩ := parseTE_normalize h
  rw [teNormalize_eq] at hn
  have hsp := splitSep_joinBy _ (trimmedPieces_ne_nil (splitSep_ne_nil 44 (asciiLower t)))
    (trimmedPieces_no_sep (splitSep_pieces 44 (asciiLower t)))
  rw [hn] at hsp
  have hnows := (whitelist_no_ows_no_break w (parseTE_entry h)).1
  rw [splitOn_eq, hsp] at hnows
  have := trimmedPieces_no_ows hnows.1 hnows.2
  rw [splitOn_eq, splitOn_eq, stripBy_eq, funext (stripBy_eq isOws)]
  rwa [joinBy_splitSep, hn, ← hsp] at this

/-- **whitelist lemma**: whatever `parse_transfer_encoding` accepts, the reference reader splits into exactly the
    codings of the normalised whitelist entry. -/
theorem parseTE_codings {t w : Bytes} {cls : TE} (h : parseTE t = some (cls, w)) :
    refCodingsOf t = splitOn 44 w ∧
    ((cls = .chunkedFinal ∧ w ∈ Gen.C01.teChunked) ∨ (cls = .other ∧ w ∈ Gen.C01.teOther)) :=
  ⟨(refCodingsOf_lower t).trans (parseTE_pieces h).1, by
    have := (parseTE_normalize h).2
    cases cls
    · exact .inl ⟨rfl, this⟩
    · exact .inr ⟨rfl, this⟩⟩

/-- the whitelist entries have neither line break nor padding, and the normalisation removes only OWS; lower-casing
    keeps the length, so the stripped value, a sublist of the same length, is the value -/
theorem parseTE_clean {t w : Bytes} {cls : TE} (h : parseTE t = some (cls, w)) : cleanLine t ∧ stripBy isOws t = t := by
  obtain ⟨_, hs, hmem⟩ := parseTE_pieces h
  have hw : cleanLine w := (whitelist_no_ows_no_break w (parseTE_entry h)).2
  have key : ∀ x : UInt8, x.toNat < 65 → isOws x = false → x ∉ w → x ∉ t := fun x hx hxo hxw hm =>
    hxw (hmem x hxo ((mem_lower_iff hx).mpr hm))
  refine ⟨⟨key 13 (by decide) (by decide) hw.1, key 10 (by decide) (by decide) hw.2⟩, ?_⟩
  have h1 : asciiLower (stripBy isOws t) = asciiLower t := by rw [← stripBy_lower]; exact hs
  have hlen : (stripBy isOws t).length = t.length := by
    have := congrArg List.length h1
    simpa [asciiLower] using this
  rw [stripBy_eq] at hlen ⊢
  exact (trim_infix isOws t).sublist.eq_of_length hlen

theorem parseTE_plain {t w : Bytes} {cls : TE} (h : parseTE t = some (cls, w)) :
    (13 : UInt8) ∉ t ∧ stripBy isOws t = t :=
  ⟨(parseTE_clean h).1.1, (parseTE_clean h).2⟩

end MitmVerif.C01
