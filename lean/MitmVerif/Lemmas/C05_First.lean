/-
  Lemmas for C05: a client stream has an upstream id only after its first event was passed on (`BInv.started`) — so
  "mapped or queued" is the same as "something was handed over for it", and the hypothesis `Good` can be stated on the
  history alone.
-/
import MitmVerif.Lemmas.C05_Bytes
namespace MitmVerif.C05
open MitmVerif

theorem fresh_iff_nothing_submitted (σ : St) (h : Reach σ) (hc : σ.closed = false) (t : Nat) :
    (alookup t σ.ours = none ∧ t ∉ qkeys σ) ↔ evsOf t σ.sub = [] := by
  have q := (reach_inv σ h).live hc
  have m := (reach_b σ h).started
  have c := q.cons t
  rw [q.st] at c
  have c' : fwOf t σ ++ qOf t σ = evsOf t σ.sub := by simpa [evsOf] using c
  constructor
  · intro ⟨h1, h2⟩
    rw [← c', fwOf_nil_of_unmapped σ q.fw t h1]
    have : alookup t σ.queue = none := (alookup_eq_none_iff t σ.queue).mpr h2
    unfold qOf; rw [this]; rfl
  · intro e
    rw [← c'] at e
    have e' := List.append_eq_nil_iff.mp e
    refine ⟨?_, ?_⟩
    · cases ho : alookup t σ.ours with
      | none => rfl
      | some o => exact absurd e'.1 (m t o ho)
    · intro hm
      simp only [qkeys, List.mem_map] at hm
      obtain ⟨p, hp, rfl⟩ := hm
      have hl := alookup_of_mem_nodup p.1 p.2 σ.queue q.q.nodup hp
      obtain ⟨fin, rest, hh, _⟩ := (q.q.ent p hp).2
      unfold qOf at e'
      rw [hl] at e'
      simp [hh] at e'

end MitmVerif.C05
