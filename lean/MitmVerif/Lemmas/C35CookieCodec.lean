/-
  The Cookie-header codec of `Model/C34.lean` (the transcription of `mitmproxy.net.http.cookies` that C34's check ties to
  the code): the reading primitives, and `parse_cookie_header ∘ format_cookie_header` on representable pair lists.
  `Props/C34.lean` states these results for C34 and builds the Set-Cookie reader on the same primitives;
  `Props/C35.lean` uses them for `request.cookies` (a MultiDictView, `Model/C35_View.lean`).
-/
import MitmVerif.Model.C34
import MitmVerif.Lemmas.Lists
import MitmVerif.Lemmas.C34Split
namespace MitmVerif.C35CookieCodec
open MitmVerif MitmVerif.C34

theorem readUntil_all (term : Nat → Bool) (a : Str) (h : ∀ x ∈ a, term x = false) : readUntil term a = (a, []) := by
  fun_induction readUntil term a with
  | case1 => rfl
  | case2 c r hc => rw [h c (by simp)] at hc; cases hc
  | case3 c r hc ih => rw [ih (fun y hy => h y (List.mem_cons_of_mem _ hy))]

theorem readUntil_stop (term : Nat → Bool) (a : Str) (c : Nat) (r : Str) (h : ∀ x ∈ a, term x = false)
    (hc : term c = true) : readUntil term (a ++ c :: r) = (a, c :: r) := by
  induction a with
  | nil => simp [readUntil, hc]
  | cons x a ih =>
    have hx := h x (by simp)
    have := ih (fun y hy => h y (List.mem_cons_of_mem _ hy))
    simp [readUntil, hx, this]

theorem readUntil_fst (term : Nat → Bool) (s : Str) : ∀ x ∈ (readUntil term s).1, term x = false := by
  fun_induction readUntil term s with
  | case1 => simp
  | case2 c r hc => simp
  | case3 c r hc ih =>
    intro x hx
    rcases List.mem_cons.mp hx with rfl | hx
    · simpa using hc
    · exact ih x hx

theorem readQuoted_escape (v r : Str) : readQuoted false (escape v ++ 34 :: r) = (v, r) := by
  induction v with
  | nil => simp [escape, readQuoted]
  | cons c v ih =>
    have hcons : escape (c :: v) = (if c = 34 ∨ c = 92 then [92, c] else [c]) ++ escape v := by simp [escape]
    rw [hcons]
    by_cases h1 : c = 34
    · subst h1; simp [readQuoted, ih]
    · by_cases h2 : c = 92
      · subst h2; simp [readQuoted, ih]
      · simp [readQuoted, h1, h2, ih]

/-- what follows a formatted pair: the end of the header or the `;` before the next pair -/
def EndOrSemi (tail : Str) : Prop := tail = [] ∨ ∃ t, tail = 59 :: t

theorem readUntil_end (term : Nat → Bool) (h59 : term 59 = true) (a tail : Str) (h : ∀ x ∈ a, term x = false)
    (ht : EndOrSemi tail) : readUntil term (a ++ tail) = (a, tail) := by
  rcases ht with rfl | ⟨t, rfl⟩
  · simpa using readUntil_all term a h
  · exact readUntil_stop term a 59 t h h59

theorem readValue_plain (term : Nat → Bool) (h59 : term 59 = true) (v tail : Str) (h : ∀ x ∈ v, term x = false)
    (hq : v.head? ≠ some 34) (ht : EndOrSemi tail) : readValue term (v ++ tail) = (v, tail) := by
  cases v with
  | nil => rcases ht with rfl | ⟨t, rfl⟩ <;> simp [readValue, readUntil, h59]
  | cons c v' =>
    have hc : c ≠ 34 := by simpa using hq
    simp only [List.cons_append, readValue, hc, if_false]
    exact readUntil_end term h59 (c :: v') tail h ht

theorem readValue_quoted (term : Nat → Bool) (v tail : Str) :
    readValue term (34 :: (escape v ++ [34]) ++ tail) = (v, tail) := by
  simp [readValue, readQuoted_escape]

/-- the key of a pair, read behind the blank that follows a `;`: no terminator in it, and the blank is stripped -/
theorem key_part (term : Nat → Bool) (h32 : term 32 = false) (pre k : Str) (hp : pre = [] ∨ pre = [32])
    (hk : ∀ x ∈ k, term x = false) (hl : lstrip k = k) :
    (∀ x ∈ pre ++ k, term x = false) ∧ lstrip (pre ++ k) = k := by
  rcases hp with rfl | rfl
  · exact ⟨hk, hl⟩
  · refine ⟨fun x hx => ?_, ?_⟩
    · rcases List.mem_cons.mp hx with rfl | hx
      · exact h32
      · exact hk x hx
    · show lstrip (32 :: k) = k
      unfold lstrip at hl ⊢
      rw [List.dropWhile_cons_of_pos (by decide)]; exact hl

theorem notSpecial (v : Str) (h : hasSpecial v = false) : ∀ x ∈ v, x ≠ 34 ∧ x ≠ 44 ∧ x ≠ 59 := by
  intro x hx
  have hs : specialC x = false := by simpa using (List.any_eq_false.mp h) x hx
  simp only [specialC, Bool.or_eq_false_iff, decide_eq_false_iff_not] at hs
  exact ⟨hs.1.1.1.1.1, hs.1.1.1.1.2, hs.1.1.1.2⟩

theorem head_ne_of_all {v : Str} {c : Nat} (h : ∀ x ∈ v, x ≠ c) : v.head? ≠ some c := by
  cases v with
  | nil => simp
  | cons d v' => simpa using h d (by simp)

/-- the value of a formatted pair, whatever its spelling, is read back, and the reader stops where the pair ends.  A key among
    `specials` is written unquoted, so its value must be harmless as it is; any other value is quoted when it has to be. -/
theorem fmtPair_value (specials : List Str) (term : Nat → Bool) (h59 : term 59 = true)
    (hterm : ∀ x, x ≠ 44 → x ≠ 59 → term x = false) (k v tail : Str)
    (hv : specials.contains (lower k) = true → (∀ x ∈ v, term x = false) ∧ v.head? ≠ some 34) (ht : EndOrSemi tail) :
    ∃ X, fmtPair specials k (some v) = k ++ 61 :: X ∧ readValue term (X ++ tail) = (v, tail) := by
  unfold fmtPair
  cases hsp : specials.contains (lower k)
  · cases hs : hasSpecial v
    · have hh := notSpecial v hs
      exact ⟨v, by simp [hs], readValue_plain term h59 v tail (fun x hx => hterm x (hh x hx).2.1 (hh x hx).2.2)
        (head_ne_of_all fun x hx => (hh x hx).1) ht⟩
    · exact ⟨34 :: (escape v ++ [34]), by simp [hs], readValue_quoted term v tail⟩
  · exact ⟨v, by simp, readValue_plain term h59 v tail (hv hsp).1 (hv hsp).2 ht⟩

/-- A reading loop on a `; `-joined list of formatted items: `L` is the loop with its fuel, `step` one round, `R st es` the state
    once the items `es` have been read from state `st`.  If a round reads exactly one formatted item, up to the end or the
    `;`, the loop reads the whole list.  (`parse_cookie_header` and the Set-Cookie reader are the two instances.) -/
theorem loop_joined {σ ε : Type} (L : Nat → σ → Str → σ) (step : σ → Str → σ × Str) (R : σ → List ε → σ) (fmt : ε → Str)
    (ok : ε → Prop)
    (hL : ∀ f st s, L (f + 1) st s = if (step st s).2 = [] then (step st s).1 else L f (step st s).1 (step st s).2)
    (hR : ∀ st e es, R (R st [e]) es = R st (e :: es))
    (hstep : ∀ st pre e tail, (pre = [] ∨ pre = [32]) → ok e → EndOrSemi tail →
      step st (pre ++ fmt e ++ tail) = (R st [e], tail.drop 1))
    (es : List ε) : es ≠ [] → (∀ e ∈ es, ok e) → ∀ (st : σ) (pre : Str), (pre = [] ∨ pre = [32]) → ∀ f,
      (pre ++ joinSep (es.map fmt)).length < f → L f st (pre ++ joinSep (es.map fmt)) = R st es := by
  simp only [joinSep_eq]
  induction es with
  | nil => intro h; exact absurd rfl h
  | cons e es ih =>
    intro _ hok st pre hp f hf
    cases f with
    | zero => omega
    | succ f =>
      have he := hok e (by simp)
      by_cases hes : es = []
      · subst hes
        have := hstep st pre e [] hp he (Or.inl rfl)
        simp only [List.append_nil] at this
        simp [joinBy, hL, this]
      · have hform : pre ++ joinBy [59, 32] ((e :: es).map fmt) = pre ++ fmt e ++ (59 :: 32 :: joinBy [59, 32] (es.map fmt)) := by
          rw [List.map_cons, joinBy_cons _ _ (by simpa using hes)]; simp
        rw [hform] at hf ⊢
        rw [hL, hstep st pre e _ hp he (Or.inr ⟨_, rfl⟩)]
        have := ih hes (fun x hx => hok x (List.mem_cons_of_mem _ hx)) (R st [e]) [32] (Or.inr rfl) f (by
          simp only [List.length_append, List.length_cons, List.length_nil] at hf ⊢
          omega)
        simpa [hR] using this

/-- what a Cookie header can carry: the name has no `;` or `=`, no leading whitespace, and name and value are not both empty -/
def RepPair (e : Str × Str) : Prop := (∀ x ∈ e.1, isSemiEq x = false) ∧ lstrip e.1 = e.1 ∧ (e.2 ≠ [] ∨ e.1 ≠ [])

def Representable (ps : List (Str × Str)) : Prop := ∀ e ∈ ps, RepPair e

def fmt (e : Str × Str) : Str := fmtPair [] e.1 (some e.2)

theorem step_fmt (pre : Str) (e : Str × Str) (tail : Str) (hp : pre = [] ∨ pre = [32]) (he : RepPair e)
    (ht : EndOrSemi tail) :
    cookieStep (pre ++ fmt e ++ tail) = (some e, tail.drop 1) := by
  obtain ⟨k, v⟩ := e
  obtain ⟨hk, hl, hne⟩ := he
  simp only at hk hl hne
  obtain ⟨hA, hstrip⟩ := key_part isSemiEq (by decide) pre k hp hk hl
  obtain ⟨X, hX, hread⟩ := fmtPair_value [] isSemi (by decide) (fun x _ h => by simp [isSemi, h]) k v tail (by simp) ht
  have hform : pre ++ fmt (k, v) ++ tail = (pre ++ k) ++ 61 :: (X ++ tail) := by simp [fmt, hX]
  unfold cookieStep
  rw [hform, readUntil_stop isSemiEq (pre ++ k) 61 (X ++ tail) hA (by decide)]
  simp only [hstrip, hread]
  simp [hne]

/-- **C34 (cookies).** Every representable pair list survives formatting and parsing, in order. -/
theorem cookie_roundtrip (ps : List (Str × Str)) (h : Representable ps) : parseCookie (formatCookie ps) = ps := by
  by_cases hps : ps = []
  · subst hps; decide
  · -- `parseF` conses after the recursive call; with the pairs read so far in front it is a loop on a state
    have : [] ++ parseF _ (formatCookie ps) = ps :=
      loop_joined (fun f acc s => acc ++ parseF f s) (fun acc s => (acc ++ (cookieStep s).1.toList, (cookieStep s).2))
      (· ++ ·) fmt RepPair
      (fun f acc s => by cases hc : (cookieStep s).1 <;> by_cases ht : (cookieStep s).2 = [] <;> simp [parseF, hc, ht])
      (by simp)
      (fun acc pre e tail hp he ht => by rw [step_fmt pre e tail hp he ht]; rfl)
      ps hps h [] [] (Or.inl rfl) ((formatCookie ps).length + 1) (Nat.lt_succ_self _)
    simpa [parseCookie] using this

theorem step_rep (s : Str) : ∀ e, (cookieStep s).1 = some e → RepPair e := by
  intro e he
  unfold cookieStep at he
  simp only at he
  obtain ⟨hcond, hsome⟩ := Option.ite_none_right_eq_some.mp he
  cases hsome
  refine ⟨?_, dropWhile_idem _ _, hcond⟩
  intro x hx
  exact readUntil_fst isSemiEq s x ((List.dropWhile_sublist _).subset hx)

theorem parse_yields_representable (s : Str) : Representable (parseCookie s) := by
  unfold parseCookie
  generalize s.length + 1 = f
  induction f generalizing s with
  | zero => intro e he; simp [parseF] at he
  | succ f ih =>
    intro e he
    unfold parseF at he
    simp only at he
    have htail : ∀ x ∈ (if (cookieStep s).2 = [] then [] else parseF f (cookieStep s).2), RepPair x := by
      intro x hx
      split at hx
      · cases hx
      · exact ih _ x hx
    cases hst : (cookieStep s).1 with
    | none => rw [hst] at he; exact htail e he
    | some p =>
      rw [hst] at he
      rcases List.mem_cons.mp he with rfl | he
      · exact step_rep s _ hst
      · exact htail e he

/-- **C34 (cookies view).** Assigning representable pairs and reading the view back yields the same pairs in the same order. -/
theorem request_cookies_view_roundtrip (ps : List (Str × Str)) (h : Representable ps) : getCookies (setCookies ps) = ps := by
  simp [getCookies, setCookies, cookie_roundtrip ps h]

end MitmVerif.C35CookieCodec
