/-
  C25, message level. The section readers, `unpack` and `pack` read backwards (what a successful result says about the
  bytes); what `unpack` returns is well-formed up to its record data, and such a message encodes; the decoder reads what
  `pack` wrote of a well-formed message.
-/
import MitmVerif.Lemmas.C25
set_option linter.unusedVariables false
set_option linter.unusedSimpArgs false
namespace MitmVerif.C25

/-! ### one step of the section readers, and `unpack` as a whole, read backwards -/

theorem unpackQuestions_succ {I : Idna} {buf : Bytes} {k off : Nat} {c : Cache} {qs : List Question} {off' : Nat} {c' : Cache}
    (h : unpackQuestions I buf (k + 1) off c = some (qs, off', c')) :
    ∃ name n c1 ty cl qs', unpackName I buf off c 0 = some ((name, n), c1) ∧ getU16 buf (off + n) = some ty ∧
      getU16 buf (off + n + 2) = some cl ∧ unpackQuestions I buf k (off + n + 4) c1 = some (qs', off', c') ∧
      qs = ⟨name, ty, cl⟩ :: qs' := by
  generalize hk : k + 1 = k' at h
  revert h
  fun_cases unpackQuestions I buf k' off c <;> intro h <;> cases h <;> cases hk
  case case4 hc ht hu hrec => exact ⟨_, _, _, _, _, _, hu, ht, hc, hrec, rfl⟩

theorem unpackRRs_succ {I : Idna} {buf : Bytes} {k off : Nat} {c : Cache} {rs : List RR} {off' : Nat} {c' : Cache}
    (h : unpackRRs I buf (k + 1) off c = some (rs, off', c')) :
    ∃ name n c1 ty cl ttl len data rs', unpackName I buf off c 0 = some ((name, n), c1) ∧ getU16 buf (off + n) = some ty ∧
      getU16 buf (off + n + 2) = some cl ∧ getU32 buf (off + n + 4) = some ttl ∧ getU16 buf (off + n + 8) = some len ∧
      off + n + 10 + len ≤ buf.length ∧ rrData buf (off + n + 10) len ty = some data ∧
      unpackRRs I buf k (off + n + 10 + len) c1 = some (rs', off', c') ∧ rs = ⟨name, ty, cl, ttl, data⟩ :: rs' := by
  generalize hk : k + 1 = k' at h
  revert h
  fun_cases unpackRRs I buf k' off c <;> intro h <;> cases h <;> cases hk
  case case6 pos hl httl hc ht hlen hd hu hrec =>
    exact ⟨_, _, _, _, _, _, _, _, _, hu, ht, hc, httl, hl, Nat.le_of_not_lt hlen, hd, hrec, rfl⟩

theorem unpack_some {I : Idna} {b : Bytes} {m : Msg} (h : unpack I b = some m) :
    ∃ id flags nq nan nns nar qs o1 c1 an o2 c2 ns o3 c3 ar c4,
      getU16 b 0 = some id ∧ getU16 b 2 = some flags ∧ getU16 b 4 = some nq ∧ getU16 b 6 = some nan ∧
      getU16 b 8 = some nns ∧ getU16 b 10 = some nar ∧ unpackQuestions I b nq 12 [] = some (qs, o1, c1) ∧
      unpackRRs I b nan o1 c1 = some (an, o2, c2) ∧ unpackRRs I b nns o2 c2 = some (ns, o3, c3) ∧
      unpackRRs I b nar o3 c3 = some (ar, b.length, c4) ∧
      m = { id := id, query := flags / 32768 % 2 = 0, opCode := flags / 2048 % 16, aa := flags / 1024 % 2 = 1,
            tc := flags / 512 % 2 = 1, rd := flags / 256 % 2 = 1, ra := flags / 128 % 2 = 1, reserved := flags / 16 % 8,
            rcode := flags % 16, questions := qs, answers := an, authorities := ns, additionals := ar } := by
  revert h
  unfold unpack
  fun_cases unpackFrom I b <;> intro h
  case case5 g10 g8 g6 g4 g2 g0 _ _ _ hq _ _ _ ha _ _ _ hn _ o4 _ hr =>
    simp only at h
    split at h <;> cases h
    subst o4
    exact ⟨_, _, _, _, _, _, _, _, _, _, _, _, _, _, _, _, _, g0, g2, g4, g6, g8, g10, hq, ha, hn, hr, rfl⟩
  all_goals cases h

/-! ### where the output of the encoder has what -/

theorem packList_cons_some {α} {f : α → Option Bytes} {x : α} {xs : List α} {w : Bytes}
    (h : packList f (x :: xs) = some w) : ∃ a b, f x = some a ∧ packList f xs = some b ∧ w = a ++ b := by
  simp only [packList] at h
  cases hx : f x with
  | none => simp [hx] at h
  | some a =>
    cases hxs : packList f xs with
    | none => simp [hx, hxs] at h
    | some b => simp [hx, hxs] at h; exact ⟨a, b, rfl, rfl, h.symm⟩

theorem packList_append {α} {f : α → Option Bytes} : ∀ (xs ys : List α) (a b : Bytes),
    packList f xs = some a → packList f ys = some b → packList f (xs ++ ys) = some (a ++ b) := by
  intro xs
  induction xs with
  | nil => intro ys a b ha hb; simp [packList] at ha; subst ha; simpa using hb
  | cons x xs ih =>
    intro ys a b ha hb
    obtain ⟨a1, a2, h1, h2, rfl⟩ := packList_cons_some ha
    simp [packList, h1, ih ys a2 b h2 hb]

theorem packList_append_some {α} {f : α → Option Bytes} : ∀ (xs ys : List α) (w : Bytes),
    packList f (xs ++ ys) = some w → ∃ a b, packList f xs = some a ∧ packList f ys = some b ∧ w = a ++ b := by
  intro xs
  induction xs with
  | nil => intro ys w h; exact ⟨[], w, rfl, by simpa using h, rfl⟩
  | cons x xs ih =>
    intro ys w h
    obtain ⟨a1, r, h1, h2, rfl⟩ := packList_cons_some (by simpa using h)
    obtain ⟨a2, b, h3, h4, rfl⟩ := ih ys r h2
    exact ⟨a1 ++ a2, b, by simp [packList, h1, h3], h4, by simp⟩

theorem packQuestion_layout {I : Idna} {q : Question} {w buf rest : Bytes} {off : Nat}
    (h : packQuestion I q = some w) (hb : buf.drop off = w ++ rest) :
    ∃ nb tail, packName I q.name = some nb ∧ buf.drop off = nb ++ tail ∧
      getU16 buf (off + nb.length) = some q.type ∧ getU16 buf (off + nb.length + 2) = some q.cls ∧
      buf.drop (off + nb.length + 4) = rest ∧ w.length = nb.length + 4 := by
  unfold packQuestion at h
  split at h
  · next nb tb cb hn ht hc =>
    cases h
    have hb1 : buf.drop off = nb ++ (tb ++ (cb ++ rest)) := by simpa using hb
    obtain ⟨g1, hb2⟩ := getU16_put ht (drop_of_drop_append hb1)
    obtain ⟨g2, hb3⟩ := getU16_put hc hb2
    exact ⟨nb, _, hn, hb1, g1, g2, hb3, by simp [putU16_len ht, putU16_len hc]⟩
  · cases h

theorem packRR_layout {I : Idna} {r : RR} {w buf rest : Bytes} {off : Nat}
    (h : packRR I r = some w) (hb : buf.drop off = w ++ rest) :
    ∃ nb tail, packName I r.name = some nb ∧ buf.drop off = nb ++ tail ∧
      getU16 buf (off + nb.length) = some r.type ∧ getU16 buf (off + nb.length + 2) = some r.cls ∧
      getU32 buf (off + nb.length + 4) = some r.ttl ∧ getU16 buf (off + nb.length + 8) = some r.data.length ∧
      buf.drop (off + nb.length + 10) = r.data ++ rest ∧ ¬ buf.length < off + nb.length + 10 + r.data.length ∧
      w.length = nb.length + 10 + r.data.length := by
  unfold packRR at h
  split at h
  · next nb tb cb lb dlb hn ht hc httl hdl =>
    cases h
    have hb1 : buf.drop off = nb ++ (tb ++ (cb ++ (lb ++ (dlb ++ (r.data ++ rest))))) := by simpa using hb
    obtain ⟨g1, hb2⟩ := getU16_put ht (drop_of_drop_append hb1)
    obtain ⟨g2, hb3⟩ := getU16_put hc hb2
    obtain ⟨g3, hb4⟩ := getU32_put httl hb3
    obtain ⟨g4, hb5⟩ := getU16_put hdl hb4
    have hlen := length_of_drop_append hb4 (by rw [putU16_len hdl]; decide)
    rw [putU16_len hdl, List.length_append] at hlen
    exact ⟨nb, _, hn, hb1, g1, g2, g3, g4, hb5, by omega,
      by simp [putU16_len ht, putU16_len hc, putU32_len httl, putU16_len hdl]; omega⟩
  · cases h

theorem pack_some {I : Idna} {m : Msg} {w : Bytes} (h : pack I m = some w) : ∃ qsb anb nsb arb,
    packList (packQuestion I) m.questions = some qsb ∧ packList (packRR I) m.answers = some anb ∧
    packList (packRR I) m.authorities = some nsb ∧ packList (packRR I) m.additionals = some arb ∧
    getU16 w 0 = some m.id ∧ getU16 w 2 = some (flagsOf m) ∧ getU16 w 4 = some m.questions.length ∧
    getU16 w 6 = some m.answers.length ∧ getU16 w 8 = some m.authorities.length ∧
    getU16 w 10 = some m.additionals.length ∧ w.drop 12 = qsb ++ (anb ++ (nsb ++ (arb ++ []))) ∧
    12 + qsb.length + anb.length + nsb.length + arb.length = w.length := by
  unfold pack at h
  split at h
  · cases h
  · split at h
    · next a b c d e f qsb rsb ha hb hc hd he hf hqs hrs =>
      cases h
      obtain ⟨anrs, arb, hanrs, harb, rfl⟩ := packList_append_some _ _ _ hrs
      obtain ⟨anb, nsb, hanb, hnsb, rfl⟩ := packList_append_some _ _ _ hanrs
      have h0 : (a ++ b ++ c ++ d ++ e ++ f ++ qsb ++ (anb ++ nsb ++ arb)).drop 0 =
          a ++ (b ++ (c ++ (d ++ (e ++ (f ++ (qsb ++ (anb ++ (nsb ++ (arb ++ []))))))))) := by simp
      obtain ⟨g0, h2⟩ := getU16_put ha h0
      obtain ⟨g2, h4⟩ := getU16_put hb h2
      obtain ⟨g4, h6⟩ := getU16_put hc h4
      obtain ⟨g6, h8⟩ := getU16_put hd h6
      obtain ⟨g8, h10⟩ := getU16_put he h8
      obtain ⟨g10, h12⟩ := getU16_put hf h10
      exact ⟨qsb, anb, nsb, arb, hqs, hanb, hnsb, harb, g0, g2, g4, g6, g8, g10, h12, by
        simp [putU16_len ha, putU16_len hb, putU16_len hc, putU16_len hd, putU16_len he, putU16_len hf]; omega⟩
    · cases h

/-! ### well-formed messages: what `unpack` returns, and what `pack` accepts -/

def WFQuestion (I : Idna) (q : Question) : Prop :=
  CanonName I q.name ∧ q.type < 65536 ∧ q.cls < 65536

def WFRR (I : Idna) (r : RR) : Prop :=
  CanonName I r.name ∧ r.type < 65536 ∧ r.cls < 65536 ∧ r.ttl < 4294967296 ∧ r.data.length < 65536 ∧
    rdataPlain r.type r.data = true

/-- the "well-formed DNS message" of the property statement: every field in its wire range, IDNA-canonical names, and record
    data that `expand_record_data` returns unchanged in any message (`rdataPlain`: arbitrary bytes for a type without layout;
    otherwise no compression pointer in a name field of the layout and, if the data does not match the layout, no byte
    ≥ 0xC0 other than the last in the unmatched rest) -/
def WellFormed (I : Idna) (m : Msg) : Prop :=
  m.id < 65536 ∧ m.opCode < 16 ∧ m.reserved < 8 ∧ m.rcode < 16 ∧
  m.questions.length < 65536 ∧ m.answers.length < 65536 ∧ m.authorities.length < 65536 ∧ m.additionals.length < 65536 ∧
  (∀ q ∈ m.questions, WFQuestion I q) ∧
  (∀ r ∈ m.answers, WFRR I r) ∧ (∀ r ∈ m.authorities, WFRR I r) ∧ (∀ r ∈ m.additionals, WFRR I r)

def WFRR0 (I : Idna) (r : RR) : Prop :=
  CanonName I r.name ∧ r.type < 65536 ∧ r.cls < 65536 ∧ r.ttl < 4294967296 ∧ r.data.length < 65536

/-- `WellFormed` without `rdataPlain`: what `unpack` always returns (`unpack_wellFormed0`) and all that `pack` needs
    (`pack_ok`) -/
def WellFormed0 (I : Idna) (m : Msg) : Prop :=
  m.id < 65536 ∧ m.opCode < 16 ∧ m.reserved < 8 ∧ m.rcode < 16 ∧
  m.questions.length < 65536 ∧ m.answers.length < 65536 ∧ m.authorities.length < 65536 ∧ m.additionals.length < 65536 ∧
  (∀ q ∈ m.questions, WFQuestion I q) ∧
  (∀ r ∈ m.answers, WFRR0 I r) ∧ (∀ r ∈ m.authorities, WFRR0 I r) ∧ (∀ r ∈ m.additionals, WFRR0 I r)

theorem WFRR_iff {I : Idna} {r : RR} : WFRR I r ↔ WFRR0 I r ∧ rdataPlain r.type r.data = true :=
  ⟨fun ⟨a, b, c, d, e, p⟩ => ⟨⟨a, b, c, d, e⟩, p⟩, fun ⟨⟨a, b, c, d, e⟩, p⟩ => ⟨a, b, c, d, e, p⟩⟩

theorem wellFormed_iff {I : Idna} {m : Msg} : WellFormed I m ↔
    WellFormed0 I m ∧ ∀ r ∈ m.answers ++ m.authorities ++ m.additionals, rdataPlain r.type r.data = true := by
  simp only [WellFormed, WellFormed0, WFRR_iff, List.mem_append, or_imp, forall_and]
  constructor
  · rintro ⟨a1, a2, a3, a4, a5, a6, a7, a8, a9, ⟨w2, p2⟩, ⟨w3, p3⟩, w4, p4⟩
    exact ⟨⟨a1, a2, a3, a4, a5, a6, a7, a8, a9, w2, w3, w4⟩, ⟨p2, p3⟩, p4⟩
  · rintro ⟨⟨a1, a2, a3, a4, a5, a6, a7, a8, a9, w2, w3, w4⟩, ⟨p2, p3⟩, p4⟩
    exact ⟨a1, a2, a3, a4, a5, a6, a7, a8, a9, ⟨w2, p2⟩, ⟨w3, p3⟩, w4, p4⟩

abbrev CacheCanon (I : Idna) : Cache → Prop := CacheAll (fun _ r => CanonName I r.1)

theorem unpackName_canon {I : Idna} {buf : Bytes} {off : Nat} {cache : Cache} {depth : Nat} {t : Text} {n : Nat} {c' : Cache}
    (hcc : CacheCanon I cache) (h : unpackName I buf off cache depth = some ((t, n), c')) :
    CanonName I t ∧ CacheCanon I c' :=
  unpackName_all (P := fun _ r => CanonName I r.1)
    (fun _ _ _ _ hs hm => C26.NameRel.canon ⟨scanRaw_ok hs, _, hm, rfl⟩)
    (fun _ _ _ _ _ _ _ hs hm hl =>
      let ⟨_, h2⟩ := C26.nameRel_of_canon hl
      (C26.NameRel.nameOf (scanRaw_ok hs) hm h2).canon) hcc h

theorem rrData_len {buf : Bytes} {off len ty : Nat} {d : Bytes} (h : rrData buf off len ty = some d) (hl : len < 65536) :
    d.length < 65536 := by
  unfold rrData at h
  simp only at h
  split at h
  · cases h; simp [List.length_take]; omega
  · split at h
    · cases h
    · split at h
      · cases h
      · cases h; omega

theorem unpackQuestions_wf {I : Idna} {buf : Bytes} : ∀ {k off : Nat} {cache : Cache} {qs : List Question} {off' : Nat} {c' : Cache},
    CacheCanon I cache → unpackQuestions I buf k off cache = some (qs, off', c') →
    qs.length = k ∧ (∀ q ∈ qs, WFQuestion I q) ∧ CacheCanon I c' := by
  intro k
  induction k with
  | zero => intro off cache qs off' c' hcc h; simp [unpackQuestions] at h; obtain ⟨rfl, _, rfl⟩ := h; simp [hcc]
  | succ k ih =>
    intro off cache qs off' c' hcc h
    obtain ⟨name, n, c1, ty, cl, qs', hu, ht, hc, hrec, rfl⟩ := unpackQuestions_succ h
    obtain ⟨hcn, hc1⟩ := unpackName_canon hcc hu
    obtain ⟨hlen, hwf, hcc2⟩ := ih hc1 hrec
    exact ⟨by simp [hlen], List.forall_mem_cons.mpr ⟨⟨hcn, getU16_lt ht, getU16_lt hc⟩, hwf⟩, hcc2⟩

theorem unpackRRs_wf {I : Idna} {buf : Bytes} : ∀ {k off : Nat} {cache : Cache} {rs : List RR} {off' : Nat} {c' : Cache},
    CacheCanon I cache → unpackRRs I buf k off cache = some (rs, off', c') →
    rs.length = k ∧ (∀ r ∈ rs, WFRR0 I r) ∧ CacheCanon I c' := by
  intro k
  induction k with
  | zero => intro off cache rs off' c' hcc h; simp [unpackRRs] at h; obtain ⟨rfl, _, rfl⟩ := h; simp [hcc]
  | succ k ih =>
    intro off cache rs off' c' hcc h
    obtain ⟨name, n, c1, ty, cl, ttl, len, data, rs', hu, ht, hc, httl, hl, _, hd, hrec, rfl⟩ := unpackRRs_succ h
    obtain ⟨hcn, hc1⟩ := unpackName_canon hcc hu
    obtain ⟨hlen, hwf, hcc2⟩ := ih hc1 hrec
    exact ⟨by simp [hlen], List.forall_mem_cons.mpr
      ⟨⟨hcn, getU16_lt ht, getU16_lt hc, getU32_lt httl, rrData_len hd (getU16_lt hl)⟩, hwf⟩, hcc2⟩

theorem unpack_wellFormed0 {I : Idna} {b : Bytes} {m : Msg} (h : unpack I b = some m) : WellFormed0 I m := by
  obtain ⟨id, flags, nq, nan, nns, nar, qs, o1, c1, an, o2, c2, ns, o3, c3, ar, c4, h1, _, h3, h4, h5, h6, hq, ha, hn, hr, rfl⟩ :=
    unpack_some h
  obtain ⟨l1, w1, cc1⟩ := unpackQuestions_wf CacheAll.nil hq
  obtain ⟨l2, w2, cc2⟩ := unpackRRs_wf cc1 ha
  obtain ⟨l3, w3, cc3⟩ := unpackRRs_wf cc2 hn
  obtain ⟨l4, w4, _⟩ := unpackRRs_wf cc3 hr
  exact ⟨getU16_lt h1, Nat.mod_lt _ (by decide), Nat.mod_lt _ (by decide), Nat.mod_lt _ (by decide), l1 ▸ getU16_lt h3,
    l2 ▸ getU16_lt h4, l3 ▸ getU16_lt h5, l4 ▸ getU16_lt h6, w1, w2, w3, w4⟩

theorem unpack_wellFormed {I : Idna} {b : Bytes} {m : Msg} (h : unpack I b = some m)
    (hp : ∀ r ∈ m.answers ++ m.authorities ++ m.additionals, rdataPlain r.type r.data = true) : WellFormed I m :=
  wellFormed_iff.mpr ⟨unpack_wellFormed0 h, hp⟩

theorem packList_ok {α} {f : α → Option Bytes} : ∀ xs : List α, (∀ x ∈ xs, ∃ w, f x = some w) →
    ∃ w, packList f xs = some w := by
  intro xs
  induction xs with
  | nil => intro _; exact ⟨[], rfl⟩
  | cons x xs ih =>
    intro h
    obtain ⟨a, ha⟩ := h x (by simp)
    obtain ⟨b, hb⟩ := ih (fun y hy => h y (by simp [hy]))
    exact ⟨a ++ b, by simp [packList, ha, hb]⟩

theorem packQuestion_ok {I : Idna} {q : Question} (h : WFQuestion I q) : ∃ w, packQuestion I q = some w := by
  obtain ⟨hc, ht, hcl⟩ := h
  obtain ⟨ls, hr⟩ := C26.nameRel_of_canon hc
  simp [packQuestion, hr.packName, putU16, ht, hcl]

theorem packRR_ok {I : Idna} {r : RR} (h : WFRR0 I r) : ∃ w, packRR I r = some w := by
  obtain ⟨hc, ht, hcl, httl, hdl⟩ := h
  obtain ⟨ls, hr⟩ := C26.nameRel_of_canon hc
  simp [packRR, hr.packName, putU16, putU32, ht, hcl, httl, hdl]

theorem pack_ok {I : Idna} {m : Msg} (h : WellFormed0 I m) : ∃ b, pack I m = some b := by
  obtain ⟨hid, hop, hres, hrc, hnq, hnan, hnns, hnar, hq, han, hns, har⟩ := h
  obtain ⟨qsb, hqs⟩ := packList_ok m.questions (fun q hq' => packQuestion_ok (hq q hq'))
  obtain ⟨rsb, hrs⟩ := packList_ok (m.answers ++ m.authorities ++ m.additionals) (List.forall_mem_append.mpr
    ⟨List.forall_mem_append.mpr ⟨fun r hr => packRR_ok (han r hr), fun r hr => packRR_ok (hns r hr)⟩,
      fun r hr => packRR_ok (har r hr)⟩)
  have hfl := (flagsOf_fields m hop hres hrc).1
  have hguard : ¬ (65535 < m.id ∨ 15 < m.opCode ∨ 7 < m.reserved ∨ 15 < m.rcode) := by omega
  simp only [List.append_assoc] at hrs
  simp [pack, hguard, putU16, hid, hfl, hnq, hnan, hnns, hnar, hqs, hrs]

/-! ### the decoder reads what `pack` wrote: no cache key ever reaches the read position -/

def KeysBelow (c : Cache) (off : Nat) : Prop := ∀ k ∈ keys c, k < off

theorem lookup_none_of_keysBelow {c : Cache} {off : Nat} (h : KeysBelow c off) : c.lookup off = none :=
  List.lookup_eq_none_iff.mpr fun p hp => by
    have := h p.1 (List.mem_map_of_mem hp)
    simp; omega

theorem KeysBelow.mono {c : Cache} {a b : Nat} (h : KeysBelow c a) (hab : a ≤ b) : KeysBelow c b :=
  fun k hk => Nat.lt_of_lt_of_le (h k hk) hab

theorem unpackName_wire {I : Idna} {buf : Bytes} {off : Nat} {cache : Cache} {depth : Nat} {ls : List Bytes} {t : Text}
    {rest : Bytes} (hw : buf.drop off = wire ls ++ 0 :: rest) (h : C26.NameRel I t ls)
    (hc : cache.lookup off = none) (hd : depth ≤ maxPointerDepth) :
    unpackName I buf off cache depth =
      some ((t, (wire ls).length + 1), (off, some (t, (wire ls).length + 1)) :: (off, none) :: cache) := by
  obtain ⟨hok, ps, hm, rfl⟩ := h
  rw [unpackName_fresh hc, hw, scanRaw_wire ls rest hok]
  have : ¬ maxPointerDepth < depth := by omega
  simp [this, hm]

theorem unpackName_packed {I : Idna} {buf : Bytes} {off : Nat} {cache : Cache} {name : Text} {nb rest : Bytes}
    (hc : CanonName I name) (hp : packName I name = some nb) (hb : buf.drop off = nb ++ rest)
    (hk : KeysBelow cache off) :
    ∃ c', unpackName I buf off cache 0 = some ((name, nb.length), c') ∧ KeysBelow c' (off + nb.length) ∧ 0 < nb.length := by
  obtain ⟨ls, hr⟩ := C26.nameRel_of_canon hc
  rw [hr.packName] at hp; cases hp
  have hu := unpackName_wire (rest := rest) (by simpa using hb) hr (lookup_none_of_keysBelow hk) (Nat.zero_le _)
  have hlen : (wire ls ++ [0]).length = (wire ls).length + 1 := by simp
  rw [← hlen] at hu
  refine ⟨_, hu, ?_, by simp⟩
  intro k hk'
  simp only [keys, List.map_cons, List.mem_cons] at hk'
  rcases hk' with rfl | rfl | hk'
  · simp
  · simp
  · have := hk k (by simpa [keys] using hk'); omega

theorem unpackQuestions_packed {I : Idna} {buf : Bytes} : ∀ (qs : List Question) (off : Nat) (cache : Cache) (w rest : Bytes),
    packList (packQuestion I) qs = some w → (∀ q ∈ qs, WFQuestion I q) → buf.drop off = w ++ rest →
    KeysBelow cache off →
    ∃ c', unpackQuestions I buf qs.length off cache = some (qs, off + w.length, c') ∧ KeysBelow c' (off + w.length) := by
  intro qs
  induction qs with
  | nil =>
    intro off cache w rest hp _ _ hk
    simp [packList] at hp; subst hp
    exact ⟨cache, by simp [unpackQuestions], by simpa using hk⟩
  | cons q qs ih =>
    intro off cache w rest hp hwf hb hk
    obtain ⟨wq, ws, hq, hqs, rfl⟩ := packList_cons_some hp
    obtain ⟨nb, tail, hn, hb1, g1, g2, hb4, hlen⟩ := packQuestion_layout hq (rest := ws ++ rest) (by simpa using hb)
    obtain ⟨c1, hu, hk1, hpos⟩ := unpackName_packed (hwf q (by simp)).1 hn hb1 hk
    obtain ⟨c', hrec, hk'⟩ := ih _ c1 ws rest hqs (fun q' hq' => hwf q' (by simp [hq'])) hb4 (hk1.mono (by omega))
    have e : off + (wq ++ ws).length = off + nb.length + 4 + ws.length := by simp [hlen]; omega
    rw [e]
    exact ⟨c', by simp only [List.length_cons, unpackQuestions, hu, g1, g2, hrec], hk'⟩

theorem unpackRRs_packed {I : Idna} {buf : Bytes} : ∀ (rs : List RR) (off : Nat) (cache : Cache) (w rest : Bytes),
    packList (packRR I) rs = some w → (∀ r ∈ rs, WFRR I r) → buf.drop off = w ++ rest →
    KeysBelow cache off →
    ∃ c', unpackRRs I buf rs.length off cache = some (rs, off + w.length, c') ∧ KeysBelow c' (off + w.length) := by
  intro rs
  induction rs with
  | nil =>
    intro off cache w rest hp _ _ hk
    simp [packList] at hp; subst hp
    exact ⟨cache, by simp [unpackRRs], by simpa using hk⟩
  | cons r rs ih =>
    intro off cache w rest hp hwf hb hk
    obtain ⟨wr, ws, hr, hrs, rfl⟩ := packList_cons_some hp
    obtain ⟨nb, tail, hn, hb1, g1, g2, g3, g4, hb6, hlen, hwl⟩ := packRR_layout hr (rest := ws ++ rest) (by simpa using hb)
    obtain ⟨hcan, _, _, _, hdlen, hplain⟩ := hwf r (by simp)
    obtain ⟨c1, hu, hk1, hpos⟩ := unpackName_packed hcan hn hb1 hk
    have hdata : rrData buf (off + nb.length + 10) r.data.length r.type = some r.data :=
      rrData_plain hplain (by omega) (by rw [hb6, List.take_left])
    obtain ⟨c', hrec, hk'⟩ := ih _ c1 ws rest hrs (fun r' hr' => hwf r' (by simp [hr'])) (drop_of_drop_append hb6)
      (hk1.mono (by omega))
    have e : off + (wr ++ ws).length = off + nb.length + 10 + r.data.length + ws.length := by simp [hwl]; omega
    rw [e]
    exact ⟨c', by simp only [List.length_cons, unpackRRs, hu, g1, g2, g3, g4, hlen, if_false, hdata, hrec], hk'⟩

end MitmVerif.C25
