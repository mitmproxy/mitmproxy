/-
  C17 — helper lemmas: association-list facts, the store invariant and its preservation.

  `Inv0` is shown for the generating branch of `get_cert` in two pieces, `push` (store under the key, queue) and `pop` (what
  `expire` does when the queue is over capacity); `generate_eq` says the branch is one or both of them.  `Hist` is the second
  invariant, over the history itself (`hist_empty`): the expire queue is the last `cap` entries of the creation log `gens`, and
  whatever a name key holds was `Registered` by an `add_cert` of the history.  The vocabulary of the statements of Props/C17
  that is defined here: `Wild`, `Registered`, `GeneratedBy`, `Op.isGet`.
-/
import MitmVerif.Model.C17
namespace MitmVerif.C17

variable {org crl : Option Bytes}

theorem length_filter_filter_lt {α : Type} {P Q : α → Bool} {l : List α} {x : α} (hx : x ∈ l) (hP : P x = true)
    (hQ : Q x = false) : ((l.filter Q).filter P).length < (l.filter P).length := by
  have : (l.filter Q).filter P = (l.filter P).filter Q := by simp only [List.filter_filter, Bool.and_comm]
  rw [this]
  exact List.length_filter_lt_length_iff_exists.mpr ⟨x, List.mem_filter.mpr ⟨hx, hP⟩, by simp [hQ]⟩

theorem lookup_mem {k : Key} {e : Entry} {m : List (Key × Entry)} (h : lookup k m = some e) : (k, e) ∈ m := by
  fun_induction lookup k m <;> simp_all

theorem lookup_none_not_mem {k : Key} {m : List (Key × Entry)} (h : lookup k m = none) (e : Entry) : (k, e) ∉ m := by
  fun_induction lookup k m <;> simp_all
  exact fun hk => absurd hk.symm ‹_›

theorem lookup_filter {k : Key} {m : List (Key × Entry)} (P : Key × Entry → Bool)
    (hp : ∀ v, lookup k m = some v → P (k, v) = true) : lookup k (m.filter P) = lookup k m := by
  fun_induction lookup k m with
  | case1 => rfl
  | case2 e rest => simp [hp, lookup]
  | case3 k' e rest hk ih =>
    rw [List.filter_cons]
    split <;> simp [lookup, hk, ih hp]

theorem lookup_setKey (k k0 : Key) (e : Entry) (m : List (Key × Entry)) :
    lookup k (setKey k0 e m) = if k = k0 then some e else lookup k m := by
  unfold setKey
  by_cases hk : k = k0
  · subst hk; simp [lookup]
  · have hk' : ¬ k0 = k := fun h => hk h.symm
    simp only [lookup, hk, hk', if_false]
    apply lookup_filter
    intro v _
    simpa using hk

theorem mem_setKey {k k0 : Key} {v e : Entry} {m : List (Key × Entry)} :
    (k, v) ∈ setKey k0 e m ↔ (k = k0 ∧ v = e) ∨ ((k, v) ∈ m ∧ k ≠ k0) := by
  unfold setKey
  simp [List.mem_filter]

theorem length_filter_setKey_le (k : Key) (e : Entry) (m : List (Key × Entry)) (P : Key × Entry → Bool) :
    ((setKey k e m).filter P).length ≤ (m.filter P).length + (if P (k, e) then 1 else 0) := by
  have := (List.filter_sublist (l := m) (p := fun p => decide (p.1 ≠ k))).filter P |>.length_le
  simp only [setKey, List.filter_cons]
  split
  · exact Nat.succ_le_succ this
  · exact this

theorem firstHit_eq_findSome? (m : List (Key × Entry)) (ks : List Key) :
    firstHit m ks = ks.findSome? (fun k => lookup k m) := by
  fun_induction firstHit m ks <;> simp_all

theorem firstHit_some {m : List (Key × Entry)} {ks : List Key} {e : Entry} (h : firstHit m ks = some e) :
    ∃ k ∈ ks, lookup k m = some e := by
  rw [firstHit_eq_findSome?] at h
  exact List.exists_of_findSome?_eq_some h

theorem firstHit_eq_none {m : List (Key × Entry)} {ks : List Key} :
    firstHit m ks = none ↔ ∀ k ∈ ks, lookup k m = none := by
  rw [firstHit_eq_findSome?, List.findSome?_eq_none_iff]

theorem firstHit_append (m : List (Key × Entry)) (a b : List Key) :
    firstHit m (a ++ b) = match firstHit m a with | some e => some e | none => firstHit m b := by
  simp only [firstHit_eq_findSome?, List.findSome?_append]
  cases List.findSome? (fun k => lookup k m) a <;> rfl

theorem firstHit_congr {m m' : List (Key × Entry)} {ks : List Key}
    (h : ∀ k ∈ ks, lookup k m = lookup k m') : firstHit m ks = firstHit m' ks := by
  induction ks with
  | nil => rfl
  | cons k ks ih => simp_all [firstHit]

/-- the store's wildcard rule: `n` is the name itself, or `*.` followed by what comes after one of its dots -/
def Wild (n c : Bytes) : Prop := n = c ∨ ∃ p suf, c = p ++ dot :: suf ∧ n = star :: dot :: suf

/-- one form per suffix of `c` that starts with a dot -/
theorem mem_stars_iff (n c : Bytes) : n ∈ stars c ↔ ∃ suf, dot :: suf <:+ c ∧ n = star :: dot :: suf := by
  fun_induction stars c with
  | case1 => simp
  | case2 rest ih => simp [ih, List.suffix_cons_iff, or_and_right, exists_or]
  | case3 c rest hc ih => simp [ih, List.suffix_cons_iff, Ne.symm hc]

theorem mem_formsStr_iff (n c : Bytes) : n ∈ formsStr c ↔ Wild n c := by
  rw [Wild, exists_comm]
  simp only [formsStr, List.mem_cons, mem_stars_iff, List.IsSuffix, eq_comm, exists_and_right]

/-- everything that holds of a reachable store except the capacity bound -/
structure Inv0 (s : Store) : Prop where
  /-- name keys hold custom entries; a generated key holds the generated entry made for exactly that key,
      and that entry is still in the expire queue -/
  certs_ok : ∀ k e, (k, e) ∈ s.certs →
    match k with
    | .name _ => e.custom = true
    | .gen cn sans => e.custom = false ∧ e.cn = cn ∧ e.sans = sans ∧ e ∈ s.queue
  /-- every queued entry is generated, has an id below the counter and is served under its own key -/
  queue_ok : ∀ e ∈ s.queue, e.custom = false ∧ e.id < s.next ∧ lookup (.gen e.cn e.sans) s.certs = some e
  /-- the queue is in creation order -/
  sorted : s.queue.Pairwise (fun a b => a.id < b.id)
  /-- no more generated keys than queued entries -/
  count : genKeyCount s ≤ s.queue.length

def Inv (cap : Nat) (s : Store) : Prop := Inv0 s ∧ s.queue.length ≤ cap

theorem Inv0.gen_mem_queue {s : Store} (h : Inv0 s) {k : Key} {e : Entry} (hm : (k, e) ∈ s.certs)
    (hc : e.custom = false) : e ∈ s.queue := by
  have := h.certs_ok k e hm
  cases k with
  | name n => simp only at this; rw [this] at hc; cases hc
  | gen cn sans => exact this.2.2.2

theorem inv0_empty : Inv0 Store.empty := by
  constructor <;> simp [Store.empty, genKeyCount]

theorem inv_empty (cap : Nat) : Inv cap Store.empty := ⟨inv0_empty, by simp [Store.empty]⟩

theorem inv0_setName {s : Store} (h : Inv0 s) (n : Bytes) (e : Entry) (he : e.custom = true) :
    Inv0 { s with certs := setKey (.name n) e s.certs } := by
  constructor
  · intro k v hkv
    rcases mem_setKey.mp hkv with ⟨hk, hv⟩ | ⟨hm, _⟩
    · subst hk; subst hv; exact he
    · exact h.certs_ok k v hm
  · intro q hq
    obtain ⟨h1, h2, h3⟩ := h.queue_ok q hq
    refine ⟨h1, h2, ?_⟩
    simp only [lookup_setKey]
    simp [h3]
  · exact h.sorted
  · refine Nat.le_trans ?_ h.count
    simpa [genKeyCount, he] using length_filter_setKey_le (.name n) e s.certs (fun p => !p.2.custom)

theorem inv0_setAll {s : Store} (h : Inv0 s) (e : Entry) (he : e.custom = true) (ns : List Bytes) :
    Inv0 { s with certs := setAll e s.certs ns } := by
  induction ns generalizing s with
  | nil => simpa [setAll] using h
  | cons n ns ih =>
    simp only [setAll]
    exact ih (s := { s with certs := setKey (.name n) e s.certs }) (inv0_setName h n e he)

/-- the entry `dummy_cert` produces for a request in store `s` -/
def freshEntry (s : Store) (cn : Option Bytes) (sans : List San) (org crl : Option Bytes) : Entry :=
  ⟨false, s.next, cn, sans, org, crl⟩

/-- `certs[(cn, sans)] = e` and `expire_queue.append(e)` -/
def push (s : Store) (e : Entry) : Store :=
  { certs := setKey (.gen e.cn e.sans) e s.certs, queue := s.queue ++ [e], next := s.next + 1 }

/-- the oldest queued entry leaves the queue and, by value, the dict -/
def pop (s : Store) : Store :=
  match s.queue with
  | [] => s
  | d :: rest => { s with certs := s.certs.filter (fun p => decide (p.2 ≠ d)), queue := rest }

theorem pop_queue (s : Store) : (pop s).queue = s.queue.tail := by
  unfold pop; split <;> simp_all

theorem inv0_push {s : Store} (h : Inv0 s) (cn : Option Bytes) (sans : List San) (org crl : Option Bytes)
    (hnone : lookup (.gen cn sans) s.certs = none) : Inv0 (push s (freshEntry s cn sans org crl)) := by
  unfold push freshEntry
  constructor
  · intro k v hkv
    rcases mem_setKey.mp hkv with ⟨hk, hv⟩ | ⟨hm, _⟩
    · subst hk; subst hv; simp
    · have := h.certs_ok k v hm
      cases k with
      | name n => exact this
      | gen c ss => exact ⟨this.1, this.2.1, this.2.2.1, List.mem_append_left _ this.2.2.2⟩
  · intro q hq
    rcases List.mem_append.mp hq with hq | hq
    · obtain ⟨h1, h2, h3⟩ := h.queue_ok q hq
      refine ⟨h1, by simp only; omega, ?_⟩
      simp only [lookup_setKey]
      split
      · rename_i heq
        rw [heq, hnone] at h3; simp at h3
      · exact h3
    · simp at hq; subst hq
      simp [lookup_setKey]
  · rw [List.pairwise_append]
    refine ⟨h.sorted, by simp, ?_⟩
    intro a ha b hb
    simp at hb; subst hb
    exact (h.queue_ok a ha).2.1
  · have hc := h.count
    have := length_filter_setKey_le (.gen cn sans) ⟨false, s.next, cn, sans, org, crl⟩ s.certs (fun p => !p.2.custom)
    simp only [genKeyCount, List.length_append, List.length_singleton] at hc ⊢
    simp only [Bool.not_false, if_true] at this
    omega

theorem inv0_pop : ∀ {s : Store}, Inv0 s → Inv0 (pop s)
  | ⟨_, [], _⟩, h => h
  | ⟨m, d :: rest, n⟩, h => by
    show Inv0 { certs := m.filter (fun p => decide (p.2 ≠ d)), queue := rest, next := n }
    have hsorted := h.sorted
    simp only [List.pairwise_cons] at hsorted
    have hne : ∀ q ∈ rest, q ≠ d := by
      intro q hq heq; subst heq
      exact Nat.lt_irrefl _ (hsorted.1 q hq)
    constructor
    · intro k v hkv
      simp only [List.mem_filter, decide_eq_true_eq] at hkv
      have := h.certs_ok k v hkv.1
      cases k with
      | name n => exact this
      | gen c ss =>
        refine ⟨this.1, this.2.1, this.2.2.1, ?_⟩
        rcases List.mem_cons.mp this.2.2.2 with h1 | h1
        · exact absurd h1 hkv.2
        · exact h1
    · intro q hq
      obtain ⟨h1, h2, h3⟩ := h.queue_ok q (List.mem_cons_of_mem _ hq)
      refine ⟨h1, h2, (lookup_filter _ fun v hv => ?_).trans h3⟩
      obtain rfl := Option.some.inj (h3.symm.trans hv)
      simpa using hne q hq
    · exact hsorted.2
    · have hc := h.count
      obtain ⟨hd1, _, hd3⟩ := h.queue_ok d (by simp)
      have hmem := lookup_mem hd3
      simp only [genKeyCount, List.length_cons] at hc ⊢
      -- one generated pair (the one holding `d`) disappears
      have := length_filter_filter_lt (P := fun p : Key × Entry => !p.2.custom) (Q := fun p => decide (p.2 ≠ d)) (l := m) hmem
        (by simp [hd1]) (by simp)
      omega

theorem lookup_name_pop : ∀ {s : Store}, Inv0 s → ∀ n, lookup (.name n) (pop s).certs = lookup (.name n) s.certs
  | ⟨_, [], _⟩, _, _ => rfl
  | ⟨_, d :: _, _⟩, h, n => by
    -- the evicted entry is generated, what name keys hold is custom
    refine lookup_filter _ fun v hv => ?_
    have hc : v.custom = true := h.certs_ok (.name n) v (lookup_mem hv)
    have hd : d.custom = false := (h.queue_ok d List.mem_cons_self).1
    simp only [decide_eq_true_eq]
    intro heq; rw [heq, hd] at hc; cases hc

theorem expire_snd (cap : Nat) (m : List (Key × Entry)) (q : List Entry) (e : Entry) :
    (expire cap m q e).2 = if cap < (q ++ [e]).length then (q ++ [e]).tail else q ++ [e] := by
  fun_cases expire cap m q e <;> simp_all

/-- the store after `get_cert` has generated `e`: stored under its key, queued, the oldest entry expired -/
def generate (cap : Nat) (s : Store) (e : Entry) : Store :=
  { certs := (expire cap (setKey (.gen e.cn e.sans) e s.certs) s.queue e).1,
    queue := (expire cap (setKey (.gen e.cn e.sans) e s.certs) s.queue e).2, next := s.next + 1 }

theorem generate_eq (cap : Nat) (s : Store) (e : Entry) :
    generate cap s e = if cap < s.queue.length + 1 then pop (push s e) else push s e := by
  simp only [generate, expire, pop, push]
  cases hq : s.queue ++ [e] with
  | nil => simp at hq
  | cons d rest =>
    have hl : s.queue.length = rest.length := by simpa using congrArg List.length hq
    simp only [List.length_cons, hl, gt_iff_lt]
    split <;> rfl

theorem generate_queue (cap : Nat) (s : Store) (e : Entry) :
    (generate cap s e).queue = if cap < s.queue.length + 1 then (s.queue ++ [e]).tail else s.queue ++ [e] := by
  rw [generate_eq]
  split <;> simp [pop_queue, push]

theorem getCert_fst (cap : Nat) (ok : Bool) (s : Store) (cn : Option Bytes) (sans : List San) (org crl : Option Bytes) :
    (getCert cap ok s cn sans org crl).1 =
      if firstHit s.certs (potentialKeys cn sans) = none ∧ ok = true then
        generate cap s (freshEntry s cn sans org crl) else s := by
  unfold getCert
  cases firstHit s.certs (potentialKeys cn sans) with
  | some e => simp
  | none => cases ok <;> simp [generate, freshEntry]

theorem getCert_snd (cap : Nat) (ok : Bool) (s : Store) (cn : Option Bytes) (sans : List San) (org crl : Option Bytes) :
    (getCert cap ok s cn sans org crl).2 =
      match firstHit s.certs (potentialKeys cn sans) with
      | some e => .hit e
      | none => if ok then .fresh (freshEntry s cn sans org crl) else .err := by
  unfold getCert
  cases firstHit s.certs (potentialKeys cn sans) with
  | some e => rfl
  | none => cases ok <;> rfl

theorem getCert_of_firstHit {cap : Nat} {ok : Bool} {s : Store} {cn : Option Bytes} {sans : List San} {e : Entry}
    (h : firstHit s.certs (potentialKeys cn sans) = some e) : getCert cap ok s cn sans org crl = (s, .hit e) := by
  simp only [getCert, h]

theorem getCert_pres {cap : Nat} {s : Store} (h : Inv cap s) (ok : Bool) (cn : Option Bytes) (sans : List San) :
    Inv cap (getCert cap ok s cn sans org crl).1 ∧
    ∀ n, lookup (.name n) (getCert cap ok s cn sans org crl).1.certs = lookup (.name n) s.certs := by
  rw [getCert_fst]
  split
  · rename_i hc
    have hpush := inv0_push h.1 cn sans org crl (firstHit_eq_none.mp hc.1 _ (by simp [potentialKeys]))
    have := h.2
    rw [generate_eq]
    split
    · exact ⟨⟨inv0_pop hpush, by simp [pop_queue, push]; omega⟩,
        fun n => by rw [lookup_name_pop hpush]; simp [push, lookup_setKey]⟩
    · exact ⟨⟨hpush, by simp [push]; omega⟩, fun n => by simp [push, lookup_setKey]⟩
  · exact ⟨h, fun _ => rfl⟩

theorem inv_addCert {cap : Nat} {s : Store} (h : Inv cap s) (id : Nat) (cn : Option Bytes) (sans : List San)
    (names : List Bytes) : Inv cap (addCert s id cn sans names) := by
  unfold addCert
  exact ⟨inv0_setAll h.1 _ rfl _, h.2⟩

theorem inv_step {cap : Nat} {s : Store} (h : Inv cap s) (op : Op) : Inv cap (step cap s op).1 := by
  cases op with
  | get ok cn sans org crl => exact (getCert_pres h ok cn sans).1
  | add id cn sans names => exact inv_addCert h id cn sans names

theorem inv_run {cap : Nat} {s : Store} (h : Inv cap s) (ops : List Op) : Inv cap (run cap s ops) := by
  induction ops generalizing s with
  | nil => exact h
  | cons op ops ih => exact ih (inv_step h op)

/-- `e` is a custom certificate that some `add_cert` of the history registered under the name `n` -/
def Registered (ops : List Op) (n : Bytes) (e : Entry) : Prop :=
  ∃ id cn sans names, Op.add id cn sans names ∈ ops ∧ e = ⟨true, id, cn, sans, none, none⟩ ∧ n ∈ addKeys cn sans names

theorem Registered.mono {ops ops' : List Op} {n : Bytes} {e : Entry} (hsub : ∀ op ∈ ops, op ∈ ops')
    (h : Registered ops n e) : Registered ops' n e :=
  let ⟨id, cn, sans, names, hop, he, hn⟩ := h
  ⟨id, cn, sans, names, hsub _ hop, he, hn⟩

theorem lookup_setAll (e : Entry) (n : Bytes) (ns : List Bytes) (m : List (Key × Entry)) :
    lookup (.name n) (setAll e m ns) = if n ∈ ns then some e else lookup (.name n) m := by
  fun_induction setAll e m ns with
  | case1 => rfl
  | case2 m n0 ns ih =>
    rw [ih, lookup_setKey]
    by_cases h1 : n ∈ ns <;> by_cases h2 : n = n0 <;> simp [h1, h2]

def Op.isGet : Op → Bool
  | .get _ _ _ _ _ => true
  | .add _ _ _ _ => false

/-- `e` was generated by a `get_cert` of the history asking for exactly `e`'s names, organization and crl_url -/
def GeneratedBy (ops : List Op) (e : Entry) : Prop :=
  ∃ ok, Op.get ok e.cn e.sans e.org e.crl ∈ ops

theorem gens_cons (cap : Nat) (s : Store) (op : Op) (ops : List Op) :
    gens cap s (op :: ops) = gens cap s [op] ++ gens cap (step cap s op).1 ops := by
  simp only [gens]
  split <;> simp

/-- keeping the last `n` elements after every append is keeping the last `n` once -/
theorem drop_append_drop {α : Type} (n : Nat) (l x : List α) :
    (l.drop (l.length - n) ++ x).drop ((l.drop (l.length - n) ++ x).length - n) =
      (l ++ x).drop ((l ++ x).length - n) := by
  rcases Nat.le_total l.length n with h | h
  · simp only [Nat.sub_eq_zero_of_le h, List.drop_zero]
  · rw [List.length_append, List.length_append, List.length_drop, Nat.sub_sub_self h, Nat.add_sub_cancel_left,
      Nat.sub_add_comm h, ← List.drop_drop, List.drop_append_of_le_length (Nat.sub_le ..)]

/-- what the history `ops` has made of the store, with `hist` the generated entries in creation order: the expire queue
    is the last `cap` of them, their ids count up to the counter, each was generated for a `get_cert` of the history, and
    whatever a name key holds was registered by an `add_cert` of the history -/
structure Hist (cap : Nat) (ops : List Op) (hist : List Entry) (s : Store) : Prop where
  queue : s.queue = hist.drop (hist.length - cap)
  ids : hist.map (·.id) = List.range s.next
  gen : ∀ e ∈ hist, e.custom = false ∧ GeneratedBy ops e
  names : ∀ n e, lookup (.name n) s.certs = some e → Registered ops n e

theorem hist_step {cap : Nat} {ops : List Op} {hist : List Entry} {s : Store} (hi : Inv cap s) (h : Hist cap ops hist s)
    (op : Op) : Hist cap (ops ++ [op]) (hist ++ gens cap s [op]) (step cap s op).1 := by
  have old : ∀ e ∈ hist, e.custom = false ∧ GeneratedBy (ops ++ [op]) e :=
    fun e he => ⟨(h.gen e he).1, (h.gen e he).2.imp fun _ => List.mem_append_left _⟩
  have reg n e (hl : lookup (.name n) s.certs = some e) : Registered (ops ++ [op]) n e :=
    (h.names n e hl).mono fun _ => List.mem_append_left _
  -- an operation that generates nothing leaves queue and counter alone
  have quiet {s' : Store} (hq : s'.queue = s.queue) (hn : s'.next = s.next)
      (hc : ∀ n e, lookup (.name n) s'.certs = some e → Registered (ops ++ [op]) n e) :
      Hist cap (ops ++ [op]) (hist ++ []) s' := by
    rw [List.append_nil]; exact ⟨hq ▸ h.queue, hn ▸ h.ids, old, hc⟩
  cases op with
  | add id cn sans names =>
    refine quiet rfl rfl fun n e hl => ?_
    simp only [step, addCert, lookup_setAll] at hl
    split at hl
    · next hn =>
      exact ⟨id, cn, sans, names, List.mem_append_right _ (List.mem_singleton_self _), (Option.some.inj hl).symm, hn⟩
    · exact reg n e hl
  | get ok cn sans org crl =>
    have reg' n e (hl : lookup (.name n) (getCert cap ok s cn sans org crl).1.certs = some e) :=
      reg n e (((getCert_pres hi ok cn sans).2 n).symm.trans hl)
    simp only [gens, step, getCert_snd, getCert_fst] at reg' ⊢
    cases hf : firstHit s.certs (potentialKeys cn sans) with
    | some e' => exact quiet rfl rfl reg
    | none =>
      cases ok with
      | false => exact quiet rfl rfl reg
      | true =>
        simp only [hf, and_self, if_true] at reg' ⊢
        refine ⟨?_, by simp [h.ids, List.range_succ, generate, freshEntry], ?_, reg'⟩
        · -- the queue holds at most `cap` entries, so at most one is cut off
          have hl := congrArg List.length h.queue
          rw [List.length_drop] at hl
          rw [generate_queue, ← drop_append_drop, ← h.queue, List.length_append, List.length_singleton]
          split
          · rw [show s.queue.length + 1 - cap = 1 by omega, List.drop_one]
          · rw [show s.queue.length + 1 - cap = 0 by omega, List.drop_zero]
        · simp only [List.forall_mem_append, List.forall_mem_singleton]
          exact ⟨old, rfl, true, List.mem_append_right _ (List.mem_singleton_self _)⟩

theorem hist_run {cap : Nat} (ops : List Op) {pre : List Op} {hist : List Entry} {s : Store} (hi : Inv cap s)
    (h : Hist cap pre hist s) : Hist cap (pre ++ ops) (hist ++ gens cap s ops) (run cap s ops) := by
  induction ops generalizing pre hist s with
  | nil => simpa [gens, run] using h
  | cons op ops ih =>
    rw [gens_cons, ← List.append_assoc, List.append_cons]
    exact ih (inv_step hi op) (hist_step hi h op)

theorem hist_empty (cap : Nat) (ops : List Op) : Hist cap ops (gens cap Store.empty ops) (run cap Store.empty ops) :=
  hist_run ops (pre := []) (hist := []) (inv_empty cap)
    ⟨List.drop_nil.symm, rfl, fun _ h => (List.not_mem_nil h).elim, fun _ _ => nofun⟩

end MitmVerif.C17
