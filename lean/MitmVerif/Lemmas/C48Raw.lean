/-
  C48 — lemmas: the minimal HTTP/1 reader recovers what `rawRequest` wrote.
-/
import MitmVerif.Model.C48
namespace MitmVerif.Lemmas.C48
open MitmVerif MitmVerif.C48

def noByte (c : UInt8) (b : Bytes) : Bool := b.all (fun x => !(x == c))

/-- a request HTTP/1 can represent: no SP/CR in method and target, no CR in the version, no ':'/CR in field names,
    no CR in field values -/
def wireSafe (r : RawReq) : Bool :=
  noByte 32 r.method && noByte 13 r.method && noByte 32 r.target && noByte 13 r.target && noByte 13 r.version &&
  r.fields.all (fun f => noByte 58 f.1 && noByte 13 f.1 && noByte 13 f.2)

abbrev WireSafe (r : RawReq) : Prop := wireSafe r = true

theorem takeTo_append (p : UInt8 → Bool) : ∀ (a : Bytes) (c : UInt8) (rest : Bytes),
    a.all (fun x => !p x) = true → p c = true → takeTo p (a ++ c :: rest) = some (a, rest) := by
  intro a
  induction a with
  | nil => intro c rest _ hc; simp [takeTo, hc]
  | cons x xs ih =>
    intro c rest ha hc
    simp only [List.all_cons, Bool.and_eq_true, Bool.not_eq_true'] at ha
    simp [takeTo, ha.1, ih c rest ha.2 hc]

theorem takeLine_append (l rest : Bytes) (h : noByte 13 l = true) : takeLine (l ++ crlf ++ rest) = some (l, rest) := by
  unfold takeLine
  have := takeTo_append (fun x => x == 13) l 13 (10 :: rest) h (by simp)
  have h2 : takeTo (fun x => x == 13) (l ++ crlf ++ rest) = some (l, 10 :: rest) := by
    simpa [crlf] using this
  rw [h2]; rfl

theorem noByte_append (c : UInt8) (a b : Bytes) : noByte c (a ++ b) = (noByte c a && noByte c b) := by
  unfold noByte; rw [List.all_append]

theorem parseField_line (n v : Bytes) (h : noByte 58 n = true) : parseField (n ++ [58, 32] ++ v) = some (n, v) := by
  unfold parseField
  have := takeTo_append (fun x => x == 58) n 58 (32 :: v) h (by simp)
  have h2 : takeTo (fun x => x == 58) (n ++ [58, 32] ++ v) = some (n, 32 :: v) := by
    simpa using this
  rw [h2]; rfl

theorem parseFields_flat : ∀ (fs : List (Bytes × Bytes)) (body : Bytes) (fuel : Nat),
    fs.all (fun f => noByte 58 f.1 && noByte 13 f.1 && noByte 13 f.2) = true → fs.length + 1 ≤ fuel →
    parseFields fuel (fs.flatMap fieldLine ++ crlf ++ body) = some (fs, body) := by
  intro fs
  induction fs with
  | nil =>
    intro body fuel _ hf
    cases fuel with
    | zero => omega
    | succ k =>
      have : takeLine (([] : Bytes) ++ crlf ++ body) = some ([], body) := takeLine_append [] body (by simp [noByte])
      simp only [List.flatMap_nil]
      rw [parseFields, this]
  | cons f r ih =>
    intro body fuel hs hf
    cases fuel with
    | zero => omega
    | succ k =>
      simp only [List.all_cons, Bool.and_eq_true] at hs
      obtain ⟨⟨⟨h58, h13n⟩, h13v⟩, hr⟩ := hs
      have hline : noByte 13 (f.1 ++ [58, 32] ++ f.2) = true := by
        rw [noByte_append, noByte_append, h13n, h13v]; decide
      have hsplit : (f :: r).flatMap fieldLine ++ crlf ++ body =
          (f.1 ++ [58, 32] ++ f.2) ++ crlf ++ (r.flatMap fieldLine ++ crlf ++ body) := by
        simp [List.flatMap_cons, fieldLine, List.append_assoc]
      rw [hsplit, parseFields, takeLine_append _ _ hline]
      have hne : ∃ x xs, f.1 ++ [58, 32] ++ f.2 = x :: xs := by
        cases hn : f.1 with
        | nil => exact ⟨58, 32 :: f.2, by simp⟩
        | cons a as => exact ⟨a, as ++ [58, 32] ++ f.2, by simp⟩
      obtain ⟨x, xs, hx⟩ := hne
      have hpf := parseField_line f.1 f.2 h58
      rw [hx] at hpf ⊢
      simp only [hpf, ih body k (by simpa using hr) (by simp at hf; omega)]

theorem flat_length (fs : List (Bytes × Bytes)) : fs.length ≤ (fs.flatMap fieldLine).length := by
  induction fs with
  | nil => simp
  | cons f r ih =>
    have : 1 ≤ (fieldLine f).length := by simp [fieldLine, crlf]; omega
    simp only [List.flatMap_cons, List.length_append, List.length_cons]; omega

theorem parseRaw_rawRequest (r : RawReq) (h : WireSafe r) : parseRaw (rawRequest r) = some r := by
  unfold WireSafe wireSafe at h
  simp only [Bool.and_eq_true] at h
  obtain ⟨⟨⟨⟨⟨hm32, hm13⟩, ht32⟩, ht13⟩, hv13⟩, hfs⟩ := h
  have hrl : noByte 13 (r.method ++ [32] ++ r.target ++ [32] ++ r.version) = true := by
    rw [noByte_append, noByte_append, noByte_append, noByte_append, hm13, ht13, hv13]; decide
  have hsplit : rawRequest r = (r.method ++ [32] ++ r.target ++ [32] ++ r.version) ++ crlf ++
      (r.fields.flatMap fieldLine ++ crlf ++ r.body) := by
    simp [rawRequest, List.append_assoc]
  unfold parseRaw
  rw [hsplit, takeLine_append _ _ hrl]
  have h1 : takeTo (fun x => x == 32) (r.method ++ [32] ++ r.target ++ [32] ++ r.version) =
      some (r.method, r.target ++ [32] ++ r.version) := by
    have := takeTo_append (fun x => x == 32) r.method 32 (r.target ++ [32] ++ r.version) hm32 (by simp)
    simpa [List.append_assoc] using this
  have h2 : takeTo (fun x => x == 32) (r.target ++ [32] ++ r.version) = some (r.target, r.version) := by
    have := takeTo_append (fun x => x == 32) r.target 32 r.version ht32 (by simp)
    simpa [List.append_assoc] using this
  have h3 := parseFields_flat r.fields r.body ((r.fields.flatMap fieldLine ++ crlf ++ r.body).length + 1) hfs
    (by have := flat_length r.fields; simp only [List.length_append]; omega)
  simp only [h1, h2, h3]

end MitmVerif.Lemmas.C48
