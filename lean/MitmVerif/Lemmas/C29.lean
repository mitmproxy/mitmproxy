/-
  C29 — invariants of the TCP/UDP relay model and their preservation by every step.
  `Full2 st` (`Full` with `HInv`) holds in every state reachable from `init` / `initX` (`full2_run`); most property
  theorems in Props/C29.lean are read off it, the arrival-order ones off `Arr` (`arr_run`), which is carried the same way.

  The model functions are first put into record form (`emit_eq`, `setConn_eq`, `applyKill_eq`, `Reacts` for `handle`,
  `Moves` for `step`).  `deliver` is `drain` of the queue with the event appended, so every `step` is one move followed
  by the replay loop (`Full.step_eq`), and every invariant is pushed through `drain` and `step` by the two principles
  `drain_ind` and `step_ind`: each invariant supplies one lemma about `Reacts` and one about `Moves`
  (Lemmas/C29Edits and Lemmas/C29NC do the same for theirs).
-/
import MitmVerif.Model.C29
namespace MitmVerif.C29.Lemmas
open MitmVerif MitmVerif.C29

def cnt (tr : List Output) : Nat := tr.countP isEndOrError
def quiet (o : Output) : Bool := !isSend o && !isHook o
/-- once an end or error hook has been seen (`e`), every later command is quiet -/
def scan : Bool → List Output → Bool
  | _, [] => true
  | e, o :: t => (if e then quiet o else true) && scan (e || isEndOrError o) t

theorem scan_append (e : Bool) (a b : List Output) :
    scan e (a ++ b) = (scan e a && scan (e || a.any isEndOrError) b) := by
  induction a generalizing e with
  | nil => simp [scan]
  | cons o t ih => simp [scan, ih, Bool.and_assoc, Bool.or_assoc]

def isFull : Output → Bool
  | .close _ false => true
  | _ => false
def hasFull (tr : List Output) : Bool := tr.any isFull

/-- How the log relates to the point at which the layer stands.  In order: with a flow, what was sent in each direction
    is what was recorded; a pending message hook knows its direction; the number of end/error hooks is fixed by phase and
    pending command; after such a hook nothing is sent or hooked; four clauses tying a pending command to its phase (the
    yield of the generator at which the layer is suspended) and three saying what a phase presupposes; a full close
    appears only when the relay ends; a TCP relay ends only unconnected or with both sides unreadable. -/
def TrInv (st : State) : Prop :=
  (st.flow = true → ∀ s, sentTo s st.trace = recorded s st.msgs) ∧
  (∀ to m, st.pending = .msgHook to m → m.fromClient = (to == .server) ∧ st.flow = true ∧ st.phase = .relay) ∧
  (cnt st.trace = if st.flow = true ∧ (st.phase = .done ∨ st.pending = .errorHook) then 1 else 0) ∧
  (scan false st.trace = true) ∧
  (st.pending = .startHook → st.phase = .start ∧ st.flow = true) ∧
  (st.pending = .connect → st.phase = .start ∧ st.connected = false) ∧
  (st.pending = .errorHook → st.phase = .start ∧ st.flow = true ∧ st.connected = false) ∧
  (st.pending = .endHook → st.phase = .done ∧ st.flow = true) ∧
  (st.phase = .start → st.pending ≠ .none) ∧
  (st.phase = .idle → st.pending = .none ∧ st.trace = [] ∧ st.msgs = []) ∧
  (st.phase = .relay → st.connected = true) ∧
  (hasFull st.trace = true → st.phase = .done) ∧
  (st.proto = .tcp → st.phase = .done → st.connected = false ∨ (st.client.canRead = false ∧ st.server.canRead = false))

/-- A side that can no longer be read still has its `ConnectionClosed` in the queue `q` until the relay handles it:
    a running relay whose peers are finished always has the event ahead that ends it (`exactly_one_end_or_error`).
    For TCP this is claimed for live sockets only: a half-close on a dead socket shuts it without any event. -/
def KInv (q : List Ev) (st : State) : Prop :=
  st.connectAs.canRead = true ∧
  (st.phase = .idle → st.client.canRead = true ∧ (st.connected = true → st.server.canRead = true)) ∧
  (st.phase = .start → (st.client.canRead = true ∨ Ev.closed .client ∈ q) ∧
      (st.connected = true → st.server.canRead = true ∨ Ev.closed .server ∈ q)) ∧
  (st.phase = .relay → st.proto = .tcp → st.cEofFail = false → st.sEofFail = false →
      st.client.canRead = true ∨ st.server.canRead = true ∨ Ev.closed .client ∈ q ∨ Ev.closed .server ∈ q) ∧
  (st.phase = .relay → st.proto = .udp →
      (st.client.canRead = true ∨ Ev.closed .client ∈ q) ∧ (st.server.canRead = true ∨ Ev.closed .server ∈ q))

def QInv (st : State) : Prop := st.pending = .none → st.queue = []

def Full (st : State) : Prop := TrInv st ∧ KInv st.queue st ∧ QInv st

/-- TCP relay: a side that can no longer be read has either its `ConnectionClosed` still waiting in the
    queue or the half-close of the opposite connection already yielded -/
def HInv (q : List Ev) (st : State) : Prop :=
  st.cEofFail = false → st.sEofFail = false → st.proto = .tcp → st.phase = .relay →
    ∀ s, (st.conn s).canRead = false → Ev.closed s ∈ q ∨ Output.close s.other true ∈ st.trace

@[simp] theorem recorded_nil (s : Side) : recorded s [] = [] := rfl
theorem recorded_snoc (s : Side) (ms : List Msg) (m : Msg) :
    recorded s (ms ++ [m]) = recorded s ms ++ (if m.fromClient = (s == .server) then [m.content] else []) := by
  simp [recorded, List.filter_append, List.filter_cons]
  split <;> simp_all
@[simp] theorem sentTo_nil (s : Side) : sentTo s [] = [] := rfl
@[simp] theorem sentTo_cons (s : Side) (o : Output) (t : List Output) :
    sentTo s (o :: t) = (match o with | .send to d => if to = s then [d] else [] | _ => []) ++ sentTo s t := by
  cases o <;> simp [sentTo, List.filterMap_cons]
  split <;> simp_all
@[simp] theorem sentTo_append (s : Side) (a b : List Output) : sentTo s (a ++ b) = sentTo s a ++ sentTo s b := by
  simp [sentTo, List.filterMap_append]
@[simp] theorem cnt_nil : cnt [] = 0 := rfl
@[simp] theorem cnt_cons (o : Output) (t : List Output) : cnt (o :: t) = (if isEndOrError o then 1 else 0) + cnt t := by
  simp [cnt, List.countP_cons]; omega
@[simp] theorem cnt_append (a b : List Output) : cnt (a ++ b) = cnt a + cnt b := by
  simp [cnt, List.countP_append]
@[simp] theorem hasFull_nil : hasFull [] = false := rfl
@[simp] theorem hasFull_cons (o : Output) (t : List Output) : hasFull (o :: t) = (isFull o || hasFull t) := by
  simp [hasFull]
@[simp] theorem hasFull_append (a b : List Output) : hasFull (a ++ b) = (hasFull a || hasFull b) := by
  simp [hasFull]
theorem scan_app (tr b : List Output) :
    scan false (tr ++ b) = (scan false tr && scan (decide (0 < cnt tr)) b) := by
  rw [scan_append]; simp [cnt, List.countP_pos_iff, List.any_eq]

/-- the message hooks that have fired, in order, with the content the layer put into `flow.messages` -/
def hookMsgs (tr : List Output) : List Msg :=
  tr.filterMap fun o => match o with
    | .hook (.message fc d) => some ⟨fc, d⟩
    | _ => none

/-- the SendData commands so far, as (direction, payload) -/
def sentMsgs (tr : List Output) : List Msg :=
  tr.filterMap fun o => match o with
    | .send to d => some ⟨to == .server, d⟩
    | _ => none

/-- data events still waiting in the pause queue -/
def dataOf (q : List Ev) : List Msg :=
  q.filterMap fun e => match e with
    | .data src d => some ⟨src == .client, d⟩
    | .closed _ => none

@[simp] theorem hookMsgs_append (a b : List Output) : hookMsgs (a ++ b) = hookMsgs a ++ hookMsgs b := by
  simp [hookMsgs, List.filterMap_append]
@[simp] theorem hookMsgs_nil : hookMsgs [] = [] := rfl
@[simp] theorem hookMsgs_cons (o : Output) (t : List Output) :
    hookMsgs (o :: t) = (match o with | .hook (.message fc d) => [⟨fc, d⟩] | _ => []) ++ hookMsgs t := by
  cases o with
  | hook h => cases h <;> simp [hookMsgs]
  | _ => simp [hookMsgs]
@[simp] theorem sentMsgs_append (a b : List Output) : sentMsgs (a ++ b) = sentMsgs a ++ sentMsgs b := by
  simp [sentMsgs, List.filterMap_append]
@[simp] theorem sentMsgs_nil : sentMsgs [] = [] := rfl
@[simp] theorem sentMsgs_cons (o : Output) (t : List Output) :
    sentMsgs (o :: t) = (match o with | .send to d => [⟨to == .server, d⟩] | _ => []) ++ sentMsgs t := by
  cases o <;> simp [sentMsgs]
@[simp] theorem dataOf_nil : dataOf [] = [] := rfl
@[simp] theorem dataOf_cons (e : Ev) (q : List Ev) :
    dataOf (e :: q) = (match e with | .data src d => [⟨src == .client, d⟩] | .closed _ => []) ++ dataOf q := by
  cases e <;> simp [dataOf]
@[simp] theorem dataOf_append (a b : List Ev) : dataOf (a ++ b) = dataOf a ++ dataOf b := by
  simp [dataOf, List.filterMap_append]

/-- full closes are invisible to every observation of the log -/
theorem closes_neutral {cs : List Output} (h : cs.all isFull = true) :
    cnt cs = 0 ∧ (∀ e, scan e cs = true) ∧ (∀ s, sentTo s cs = []) ∧ hookMsgs cs = [] ∧ sentMsgs cs = [] := by
  induction cs with
  | nil => simp [scan]
  | cons o t ih =>
    obtain ⟨ho, ht⟩ : isFull o = true ∧ t.all isFull = true := by simpa using h
    obtain ⟨h1, h2, h3, h4, h5⟩ := ih ht
    cases o with
    | close s half => cases half <;> simp_all [scan, isEndOrError, quiet, isSend, isHook, isFull]
    | _ => simp [isFull] at ho

@[simp] theorem applyClose_full (c : Conn) (f : Bool) : applyClose c false f = Conn.shut := rfl
@[simp] theorem applyClose_half_read (c : Conn) (f : Bool) :
    (applyClose c true f).canRead = (!(f && c.canWrite) && c.canRead) := by
  cases f <;> cases hw : c.canWrite <;> simp [applyClose, hw, Conn.shut]
@[simp] theorem applyClose_half_write (c : Conn) (f : Bool) : (applyClose c true f).canWrite = false := by
  cases f <;> cases hw : c.canWrite <;> simp [applyClose, hw, Conn.shut]
@[simp] theorem shut_read : Conn.shut.canRead = false := rfl
@[simp] theorem shut_write : Conn.shut.canWrite = false := rfl

@[simp] theorem emit_eq (st : State) (o : Output) : emit st o =
    { st with
      trace := st.trace ++ [o]
      client := match o with | .close .client half => applyClose st.client half st.cEofFail | _ => st.client
      server := match o with | .close .server half => applyClose st.server half st.sEofFail | _ => st.server } := by
  cases o with
  | close s half => cases s <;> rfl
  | _ => rfl

@[simp] theorem setConn_eq (st : State) (s : Side) (c : Conn) : st.setConn s c =
    { st with client := if s = .client then c else st.client, server := if s = .server then c else st.server } := by
  cases s <;> rfl

/-- `flow.kill()` touches only fields the layer never reads -/
theorem applyKill_eq (st : State) : ∃ e k l, applyKill st = { st with error := e, killed := k, live := l } := by
  unfold applyKill
  split
  · exact ⟨_, _, _, rfl⟩
  · exact ⟨st.error, st.killed, st.live, rfl⟩

@[simp] theorem editMsg_fromClient (m : Msg) (e : Option Bytes) : (editMsg m e).fromClient = m.fromClient := by
  cases e <;> rfl
@[simp] theorem side_flip (src : Side) : (src == Side.client) = (src.other == Side.server) := by
  cases src <;> rfl
theorem side_server_inj (a b : Side) : ((a == Side.server) = (b == Side.server)) = (a = b) := by
  cases a <;> cases b <;> decide
theorem side_forall {p : Side → Prop} : (∀ s, p s) ↔ p .client ∧ p .server :=
  ⟨fun h => ⟨h _, h _⟩, fun h s => by cases s <;> simp [h]⟩

/-- The ways an un-paused layer reacts to one event (`handle_reacts`: there are no others); outside `relay` it
    does nothing.  In `ending` the full closes `cs` of the connections that were still open and the connection states
    they leave stay abstract: all that is ever needed is that a TCP relay ends with both connections unreadable. -/
inductive Reacts (st : State) : Ev → State → Prop
  | skip (e : Ev) : st.phase ≠ .relay → Reacts st e st
  | hook (src : Side) (d : Bytes) : st.phase = .relay → st.flow = true →
      Reacts st (.data src d) { st with
        trace := st.trace ++ [.hook (.message (src == .client) d)]
        pending := .msgHook src.other ⟨src == .client, d⟩ }
  | send (src : Side) (d : Bytes) : st.phase = .relay → st.flow = false →
      Reacts st (.data src d) { st with trace := st.trace ++ [.send src.other d] }
  | half (s : Side) : st.phase = .relay → st.proto = .tcp → (st.client.canRead = true ∨ st.server.canRead = true) →
      Reacts st (.closed s) (emit st (.close s.other true))
  | ending (s : Side) (cs : List Output) (c c' : Conn) (st' : State) : st.phase = .relay → cs.all isFull = true →
      (st.proto = .tcp → c.canRead = false ∧ c'.canRead = false) →
      st' = { st with
        phase := .done, client := c, server := c'
        trace := st.trace ++ (cs ++ if st.flow then [.hook .end_] else [])
        pending := if st.flow then .endHook else st.pending } →
      Reacts st (.closed s) st'

theorem handle_idle {st : State} (hph : st.phase ≠ .relay) (e : Ev) : handle st e = st := by
  unfold handle
  split
  · contradiction
  · rfl

theorem handle_reacts (st : State) (e : Ev) : Reacts st e (handle st e) := by
  fun_cases handle st e
  next hph src d =>
    fun_cases handleData st src d
    next hf _ => exact .hook src d hph hf
    next hf => exact .send src d hph (by simpa using hf)
  next hph s =>
    unfold handleClosed finish
    split
    · rename_i hp
      split
      · rename_i hb
        have hb : st.client.canRead = false ∧ st.server.canRead = false := by simpa using hb
        refine .ending s ((if st.server.isClosed then [] else [.close .server false]) ++
            if st.client.isClosed then [] else [.close .client false])
          (if st.client.isClosed then st.client else .shut) (if st.server.isClosed then st.server else .shut) _
          hph ?_ (fun _ => ?_) ?_
        · split <;> split <;> rfl
        · constructor <;> split <;> simp [hb]
        · by_cases hs : st.server.isClosed = true <;> by_cases hc : st.client.isClosed = true <;>
            by_cases hf : st.flow = true <;> simp [hs, hc, hf]
      · rename_i hb
        refine .half s hph hp ?_
        cases h : st.client.canRead <;> simp_all
    · rename_i hp
      refine .ending s [.close s.other false] (if s = .server then .shut else st.client)
        (if s = .client then .shut else st.server) _ hph rfl (by simp [hp]) ?_
      by_cases hf : st.flow = true <;> cases s <;> simp [Side.other, hf]
  next hph => exact .skip _ hph

theorem Reacts.frame {st st' : State} {e : Ev} (h : Reacts st e st') : ∃ ph pd c c' out,
    st' = { st with phase := ph, pending := pd, client := c, server := c', trace := st.trace ++ out } := by
  cases h with
  | hook => exact ⟨_, _, _, _, _, rfl⟩
  | half => exact ⟨st.phase, st.pending, _, _, _, emit_eq _ _⟩
  | ending _ _ _ _ _ _ _ _ he => exact ⟨_, _, _, _, _, he⟩
  | send => exact ⟨st.phase, st.pending, st.client, st.server, _, rfl⟩
  | skip => exact ⟨st.phase, st.pending, st.client, st.server, [], by rw [List.append_nil]⟩

theorem handle_queue (st : State) (e : Ev) : (handle st e).queue = st.queue := by
  obtain ⟨_, _, _, _, _, h⟩ := (handle_reacts st e).frame
  rw [h]

theorem trinv_reacts {st st' : State} {e : Ev} (hr : Reacts st e st') (h : TrInv st) (hp : st.pending = .none) :
    TrInv st' := by
  unfold TrInv at *
  cases hr with
  | skip => exact h
  | ending s cs c c' _ hph hcs hc he =>
    subst he
    obtain ⟨n1, n2, n3, -, -⟩ := closes_neutral hcs
    by_cases hf : st.flow = true <;> simp_all [scan_app, scan, isEndOrError, isFull]
  | _ => simp_all [scan_app, scan, isEndOrError, isFull]

theorem TrInv.unpaused {st : State} (h : TrInv st) (hp : st.pending = .none) : st.phase ≠ .start :=
  fun hs => h.2.2.2.2.2.2.2.2.1 hs hp
theorem TrInv.no_full {st : State} (h : TrInv st) (hf : hasFull st.trace = true) : st.phase = .done :=
  h.2.2.2.2.2.2.2.2.2.2.2.1 hf
theorem TrInv.cnt_eq {st : State} (h : TrInv st) :
    cnt st.trace = if st.flow = true ∧ (st.phase = .done ∨ st.pending = .errorHook) then 1 else 0 :=
  h.2.2.1
theorem TrInv.scan_eq {st : State} (h : TrInv st) : scan false st.trace = true :=
  h.2.2.2.1
theorem TrInv.tcp_done {st : State} (h : TrInv st) (ht : st.proto = .tcp) (hd : st.phase = .done) :
    st.connected = false ∨ (st.client.canRead = false ∧ st.server.canRead = false) :=
  h.2.2.2.2.2.2.2.2.2.2.2.2 ht hd

theorem kinv_reacts {q : List Ev} {st st' : State} {e : Ev} (hr : Reacts st e st') (h : TrInv st)
    (hk : KInv (e :: q) st) (hp : st.pending = .none) : KInv q st' := by
  have hs := h.unpaused hp
  unfold KInv at *
  cases hr with
  | half s hph ht hr => cases s <;> simp_all [Side.other] <;> (cases hc : st.client.canRead <;> simp_all)
  | ending s cs c c' _ hph hcs hc he => subst he; simp_all
  | _ => simp_all

theorem hinv_reacts {q : List Ev} {st st' : State} {e : Ev} (hr : Reacts st e st') (h : HInv (e :: q) st) :
    HInv q st' := by
  unfold HInv at *
  cases hr with
  | skip _ hph => exact fun _ _ _ h2 => absurd h2 hph
  | hook | send => intro f1 f2 h1 h2 s hs; simpa using h f1 f2 h1 h2 s hs
  | half s hph ht hr =>
    intro f1 f2 h1 h2 s' hs
    have f1' : st.cEofFail = false := by simpa using f1
    have f2' : st.sEofFail = false := by simpa using f2
    have hs' : (st.conn s').canRead = false := by
      cases s' <;> cases s <;> simpa [State.conn, Side.other, f1', f2'] using hs
    rcases h f1' f2' ht hph s' hs' with hm | hm
    · rcases List.mem_cons.1 hm with hm | hm
      · cases hm; simp
      · exact .inl hm
    · simp [hm]
  | ending s cs c c' _ hph hcs hc he => subst he; intro _ _ _ h2; cases h2

/-- What survives every reaction of the un-paused layer and does not look at the `queue` field survives the replay loop. -/
theorem drain_ind {P : List Ev → State → Prop} (hq : ∀ q q' st, P q' st → P q' { st with queue := q })
    (hh : ∀ e q st st', st.pending = .none → Reacts st e st' → P (e :: q) st → P q st') (q : List Ev) (st : State)
    (h : P q st) : P (drain q st).queue (drain q st) := by
  induction q generalizing st with
  | nil => exact hq _ _ _ h
  | cons e q ih =>
    unfold drain
    split
    · rename_i hp; exact ih _ (hh e q st _ hp (handle_reacts st e) h)
    · exact hq _ _ _ h

theorem drain_qinv (q : List Ev) (st : State) : QInv (drain q st) := by
  induction q generalizing st with
  | nil => exact fun _ => rfl
  | cons e q ih =>
    unfold drain
    split
    · exact ih _
    · rename_i hp; exact fun h => absurd h (by simpa using hp)

theorem drain_paused {st : State} (hp : st.pending ≠ .none) (q : List Ev) : drain q st = { st with queue := q } := by
  cases q with
  | nil => rfl
  | cons e q =>
    unfold drain
    split
    · contradiction
    · rfl

/-- a paused layer, and one with nothing buffered, is left alone by the replay loop -/
theorem drain_self {st : State} (hQ : QInv st) : drain st.queue st = st := by
  by_cases hp : st.pending = .none
  · rw [hQ hp]
    show { st with queue := [] } = st
    rw [← hQ hp]
  · exact drain_paused hp _

/-- handing an event to the layer is putting it at the end of the pause queue and replaying the queue -/
theorem deliver_eq_drain {st : State} (hQ : QInv st) (ev : Ev) : deliver st ev = drain (st.queue ++ [ev]) st := by
  by_cases hp : st.pending = .none
  · have hq : (handle st ev).queue = [] := by rw [handle_queue, hQ hp]
    rw [hQ hp]
    simp only [deliver, drain, hp, List.nil_append]
    rw [← hq]
  · rw [drain_paused hp]
    unfold deliver
    split
    · contradiction
    · rfl

/-- What an input does before the replay loop runs (`Full.step_eq`): `Moves st i q st'` says that on input `i` the
    layer in state `st` replays the queue `q` from state `st'`.
    An event for a started layer goes to the end of the queue (`server.py` has cleared CAN_READ before it delivers
    `ConnectionClosed`); a reply the layer waits for advances the generator to `st'`.  Such a row also says at which
    point of the generator the command is pending, in the words of the clause `TrInv` has for that command, so that
    the invariants built on `Moves` need no other knowledge of `st`.
    `ignored`: nothing was waiting for this input.  `kill`: `flow.kill()` inside a hook, then the hook completes. -/
inductive Moves : State → Input → List Ev → State → Prop
  | ignored (st : State) (i : Input) :
      (st.phase = .idle ∧ i ≠ .start) ∨ (st.phase ≠ .idle ∧ i = .start) ∨
      ((st.pending = .none ∨ st.pending = .connect) ∧ (i = .hookKill ∨ ∃ e, i = .hookDone e)) ∨
      (st.pending ≠ .connect ∧ ∃ err, i = .connectDone err) → Moves st i st.queue st
  | data (st : State) (src : Side) (d : Bytes) : st.phase ≠ .idle →
      Moves st (.data src d) (st.queue ++ [.data src d]) st
  | inject (st : State) (fc : Bool) (d : Bytes) : st.phase ≠ .idle →
      Moves st (.inject fc d) (st.queue ++ [.data (if fc then .client else .server) d]) st
  | closed (st : State) (s : Side) (full : Bool) (c : Conn) : st.phase ≠ .idle → c.canRead = false →
      Moves st (.closed s full) (st.queue ++ [.closed s])
        { st with client := if s = .client then c else st.client, server := if s = .server then c else st.server }
  | startHook (st : State) : st.phase = .idle → st.pending = .none ∧ st.queue = [] → st.flow = true →
      Moves st .start st.queue { st with phase := .start, pending := .startHook, trace := st.trace ++ [.hook .start] }
  | started (st : State) : st.phase = .idle → st.pending = .none ∧ st.queue = [] → st.flow = false →
      st.connected = true →
      Moves st .start st.queue { st with phase := .relay }
  | dial (st : State) : st.phase = .idle → st.pending = .none ∧ st.queue = [] → st.flow = false →
      st.connected = false →
      Moves st .start st.queue { st with phase := .start, pending := .connect, trace := st.trace ++ [.openServer] }
  | relay (st : State) (e : Option Bytes) : st.pending = .startHook → st.phase = .start ∧ st.flow = true →
      st.connected = true → Moves st (.hookDone e) st.queue { st with pending := .none, phase := .relay }
  | connect (st : State) (e : Option Bytes) : st.pending = .startHook → st.phase = .start ∧ st.flow = true →
      st.connected = false →
      Moves st (.hookDone e) st.queue { st with pending := .connect, trace := st.trace ++ [.openServer] }
  | failed (st : State) (e : Option Bytes) : st.pending = .errorHook →
      st.phase = .start ∧ st.flow = true ∧ st.connected = false →
      Moves st (.hookDone e) st.queue { st with
        pending := .none, phase := .done, client := .shut, trace := st.trace ++ [.close .client false] }
  | refused (st : State) : st.pending = .connect → st.phase = .start ∧ st.connected = false → st.flow = false →
      Moves st (.connectDone true) st.queue { st with
        pending := .none, phase := .done, client := .shut, trace := st.trace ++ [.close .client false] }
  | error (st : State) : st.pending = .connect → st.phase = .start ∧ st.connected = false → st.flow = true →
      Moves st (.connectDone true) st.queue
        { st with error := true, pending := .errorHook, trace := st.trace ++ [.hook .error] }
  | connected (st : State) : st.pending = .connect → st.phase = .start ∧ st.connected = false →
      Moves st (.connectDone false) st.queue
        { st with pending := .none, connected := true, server := st.connectAs, phase := .relay }
  | sent (st : State) (e : Option Bytes) (to : Side) (m : Msg) : st.pending = .msgHook to m →
      m.fromClient = (to == .server) ∧ st.flow = true ∧ st.phase = .relay →
      Moves st (.hookDone e) st.queue { st with
        pending := .none, msgs := st.msgs ++ [editMsg m e], trace := st.trace ++ [.send to (editMsg m e).content] }
  | ended (st : State) (e : Option Bytes) : st.pending = .endHook → st.phase = .done ∧ st.flow = true →
      Moves st (.hookDone e) st.queue { st with pending := .none, live := false }
  | kill (st st' : State) (q : List Ev) (e k l : Bool) :
      Moves { st with error := e, killed := k, live := l } (.hookDone none) q st' → Moves st .hookKill q st'

/-- for the moves after which the replay loop has nothing to do (the layer is paused again, or nothing is queued) -/
theorem Moves.kept {st st' x : State} {i : Input} (hm : Moves st i st.queue st') (hq : QInv st')
    (he : x = st') (hs : st'.queue = st.queue := by rfl) : ∃ q st', Moves st i q st' ∧ x = drain q st' :=
  ⟨_, _, hm, by rw [← hs, drain_self hq]; exact he⟩

/-- `step` is a move followed by the replay loop.  (`Full` is needed: in other states an ignored reply would still
    replay a queue that should not exist, and a reply could find its command pending at another point.) -/
theorem Full.step_eq {st : State} (hF : Full st) (i : Input) : ∃ q st', Moves st i q st' ∧ step st i = drain q st' := by
  obtain ⟨hI, -, hQ⟩ := hF
  unfold TrInv at hI
  obtain ⟨-, c2, -, -, c5, c6, c7, c8, -, c10, -, -, -⟩ := hI
  have paused : ∀ {st' : State}, st'.pending ≠ .none → QInv st' := fun h h' => absurd h' h
  have idle (h : st.phase = .idle) : st.pending = .none ∧ st.queue = [] := ⟨(c10 h).1, hQ (c10 h).1⟩
  have other : st.pending ≠ .startHook → st.pending ≠ .errorHook → (∀ to m, st.pending ≠ .msgHook to m) →
      st.pending ≠ .endHook → st.pending = .none ∨ st.pending = .connect := by cases st.pending <;> simp
  obtain ⟨ke, kk, kl, hk⟩ := applyKill_eq st
  have kill {q : List Ev} {st' : State} := Moves.kill st st' q ke kk kl
  -- the leaves of `step`, in the order of its definition: each is one constructor of `Moves`, and the invariant
  -- says at which point of the generator a reply finds the layer
  fun_cases step st i
  next hph _ hf _ =>
    exact (Moves.startHook st hph (idle hph) hf).kept (paused (by simp)) (by simp +zetaDelta)
  next hph _ hf =>
    have hf : st.flow = false := by simpa using hf
    by_cases hc : st.connected = true
    · exact (Moves.started st hph (idle hph) hf hc).kept (fun _ => (idle hph).2)
        (by simp +zetaDelta [hc, enterRelayOrConnect])
    · exact (Moves.dial st hph (idle hph) hf (by simpa using hc)).kept (paused (by simp))
        (by simp +zetaDelta [hc, enterRelayOrConnect])
  next hph hi => exact (Moves.ignored st _ (.inl ⟨hph, hi⟩)).kept hQ rfl
  next hph => exact (Moves.ignored st _ (.inr (.inl ⟨hph, rfl⟩))).kept hQ rfl
  next src d hph => exact ⟨_, _, .data st src d hph, deliver_eq_drain hQ _⟩
  next fc d hph => exact ⟨_, _, .inject st fc d hph, deliver_eq_drain hQ _⟩
  next s full _ hph =>
    exact ⟨_, _, .closed st s full (if full then .shut else { st.conn s with canRead := false }) hph
      (by split <;> rfl), by cases s <;> exact deliver_eq_drain (by exact hQ) _⟩
  next e hp _ _ =>
    by_cases hc : st.connected = true
    · exact ⟨_, _, .relay st e hp (c5 hp) hc, by simp +zetaDelta [enterRelayOrConnect, hc]⟩
    · exact ⟨_, _, .connect st e hp (c5 hp) (by simpa using hc), by simp +zetaDelta [enterRelayOrConnect, hc]⟩
  next e hp _ _ => exact ⟨_, _, .failed st e hp (c7 hp), by simp +zetaDelta [afterError]⟩
  next e to m hp _ _ _ => exact ⟨_, _, .sent st e to m hp (c2 to m hp), by simp +zetaDelta⟩
  next e hp _ _ => exact ⟨_, _, .ended st e hp (c8 hp), rfl⟩
  next e hph h1 h2 h3 h4 =>
    exact (Moves.ignored st _ (.inr (.inr (.inl ⟨other h1 h2 h3 h4, .inr ⟨e, rfl⟩⟩)))).kept hQ rfl
  next hp _ _ =>
    by_cases hc : st.connected = true
    · exact ⟨_, _, kill (.relay _ none hp (c5 hp) hc), by simp +zetaDelta [enterRelayOrConnect, hc, hk]⟩
    · exact ⟨_, _, kill (.connect _ none hp (c5 hp) (by simpa using hc)),
        by simp +zetaDelta [enterRelayOrConnect, hc, hk]⟩
  next hp _ _ => exact ⟨_, _, kill (.failed _ none hp (c7 hp)), by simp +zetaDelta [afterError, hk]⟩
  next to m hp _ _ _ => exact ⟨_, _, kill (.sent _ none to m hp (c2 to m hp)), by simp +zetaDelta [hk, editMsg]⟩
  next hp _ _ => exact ⟨_, _, kill (.ended _ none hp (c8 hp)), by simp +zetaDelta [hk]⟩
  next hph h1 h2 h3 h4 =>
    exact (Moves.ignored st _ (.inr (.inr (.inl ⟨other h1 h2 h3 h4, .inl rfl⟩)))).kept hQ rfl
  next hp hf _ _ => exact (Moves.error st hp (c6 hp) hf).kept (paused (by simp)) (by simp +zetaDelta)
  next hp hf _ _ => exact ⟨_, _, .refused st hp (c6 hp) (by simpa using hf), by simp +zetaDelta [afterError]⟩
  next err hp he _ _ => exact (by simpa using he : err = false) ▸ ⟨_, _, .connected st hp (c6 hp), rfl⟩
  next err hph hp => exact (Moves.ignored st _ (.inr (.inr (.inr ⟨hp, err, rfl⟩)))).kept hQ rfl

/-- what is threaded through the replay loop (`Full` is the first two with `QInv`) -/
def Inv3 (q : List Ev) (st : State) : Prop := TrInv st ∧ KInv q st ∧ HInv q st

theorem inv3_moves {st st' : State} {i : Input} {q : List Ev} (hm : Moves st i q st') (h : Inv3 st.queue st) :
    Inv3 q st' := by
  induction hm
  case ignored => exact h
  case kill ih => exact ih h
  case data => simpa [Inv3, KInv, HInv] using h
  case inject => simpa [Inv3, KInv, HInv] using h
  case closed st s full c hph hc =>
    obtain ⟨hI, hK, hH⟩ := h
    refine ⟨?_, ?_, ?_⟩
    · unfold TrInv at *
      obtain ⟨h1, h2, h3, h4, h5, h6, h7, h8, h9, h10, h11, h12, h13⟩ := hI
      refine ⟨h1, h2, h3, h4, h5, h6, h7, h8, h9, h10, h11, h12, fun a b => (h13 a b).imp_right fun ⟨x, y⟩ => ?_⟩
      cases s <;> simp [hc, x, y]
    · unfold KInv at *
      obtain ⟨k0, k1, k2, k3, k4⟩ := hK
      refine ⟨k0, fun hp => absurd hp hph, fun hp => ?_, fun hp ht => ?_, fun hp ht => ?_⟩
      · have := k2 hp
        cases s <;> simp_all <;> grind
      · have := k3 hp ht
        cases s <;> simp_all <;> grind
      · have := k4 hp ht
        cases s <;> simp_all <;> grind
    · intro f1 f2 h1 h2 s' hs
      by_cases e : s' = s
      · subst e; simp
      · refine (hH f1 f2 h1 h2 s' ?_).imp_left (List.mem_append_left _)
        cases s' <;> cases s <;> simp_all [State.conn]
  -- every other case names the next state: its invariants follow by computation from those of `st`
  all_goals
    unfold Inv3 TrInv KInv HInv at *
    obtain ⟨⟨h1, h2, h3, h4, h5, h6, h7, h8, h9, h10, h11, h12, h13⟩, ⟨k0, k1, k2, k3, k4⟩, hH⟩ := h
    simp_all [scan_app, scan, isEndOrError, quiet, isSend, isHook, isFull, State.conn, Side.other, side_forall,
      recorded_snoc, side_server_inj]
  case relay => grind
  case connected => grind

/-- One pattern for every invariant: `P` holds before the input, `Q` after it (they differ at most in an index
    that the input extends).  `Q` has to survive every reaction and must not look at the `queue` field; `P` has to
    give `Q` of the queue and the state the replay loop starts from. -/
theorem step_ind {P Q : List Ev → State → Prop} {st : State} {i : Input}
    (hq : ∀ q q' st, Q q' st → Q q' { st with queue := q })
    (hh : ∀ e q st st', st.pending = .none → Reacts st e st' → Q (e :: q) st → Q q st')
    (hm : ∀ q st', Moves st i q st' → P st.queue st → Q q st')
    (hF : Full st) (h : P st.queue st) : Q (step st i).queue (step st i) := by
  obtain ⟨q, st', hm', he⟩ := hF.step_eq i
  rw [he]
  exact drain_ind hq hh _ _ (hm q st' hm' h)

theorem full_of_drain (st : State) (h : TrInv st) (hk : KInv st.queue st) : Full (drain st.queue st) := by
  obtain ⟨a, b⟩ := drain_ind (P := fun q st => TrInv st ∧ KInv q st) (fun _ _ _ h => h)
    (fun _ _ _ _ hp hr h => ⟨trinv_reacts hr h.1 hp, kinv_reacts hr h.1 h.2 hp⟩) _ _ ⟨h, hk⟩
  exact ⟨a, b, drain_qinv _ _⟩

def Full2 (st : State) : Prop := Full st ∧ HInv st.queue st

theorem full2_step (st : State) (i : Input) (h : Full2 st) : Full2 (step st i) := by
  obtain ⟨a, b, c⟩ := step_ind (P := Inv3) (Q := Inv3) (fun _ _ _ h => h)
    (fun _ _ _ _ hp hr h => ⟨trinv_reacts hr h.1 hp, kinv_reacts hr h.1 h.2.1 hp, hinv_reacts hr h.2.2⟩)
    (fun _ _ => inv3_moves) h.1 ⟨h.1.1, h.1.2.1, h.2⟩
  obtain ⟨q, st', -, he⟩ := h.1.step_eq i
  exact ⟨⟨a, b, he ▸ drain_qinv q st'⟩, c⟩

theorem full2_run (st : State) (is : List Input) (h : Full2 st) : Full2 (run st is) := by
  induction is generalizing st with
  | nil => exact h
  | cons i is ih => exact ih _ (full2_step st i h)

theorem full2_initX (p : Proto) (f c cd sd : Bool) : Full2 (initX p f c cd sd) := by
  refine ⟨⟨?_, ?_, ?_⟩, ?_⟩
  · simp [TrInv, initX, init, scan]
  · cases c <;> simp [KInv, initX, init, Conn.opened]
  · simp [QInv, initX, init]
  · intro f1 f2 h1 h2; simp [initX, init] at h2

theorem full2_init (p : Proto) (f c : Bool) : Full2 (init p f c) := full2_initX p f c false false

/-- what a reaction, and so the replay loop, leaves alone: configuration and message list stay, the command log only
    grows (a `Moves` is not an `Ext`: `sent` records a message) -/
def Ext (a b : State) : Prop :=
  b.flow = a.flow ∧ b.proto = a.proto ∧ b.connectAs = a.connectAs ∧ b.msgs = a.msgs ∧
  (∃ r, b.trace = a.trace ++ r) ∧ b.cEofFail = a.cEofFail ∧ b.sEofFail = a.sEofFail

theorem Ext.refl (a : State) : Ext a a := ⟨rfl, rfl, rfl, rfl, ⟨[], by simp⟩, rfl, rfl⟩
theorem Ext.trans {a b c : State} (h1 : Ext a b) (h2 : Ext b c) : Ext a c := by
  obtain ⟨a1, a2, a3, a4, ⟨r1, a5⟩, a6, a7⟩ := h1
  obtain ⟨b1, b2, b3, b4, ⟨r2, b5⟩, b6, b7⟩ := h2
  exact ⟨b1.trans a1, b2.trans a2, b3.trans a3, b4.trans a4, ⟨r1 ++ r2, by rw [b5, a5, List.append_assoc]⟩,
    b6.trans a6, b7.trans a7⟩

theorem Reacts.ext {st st' : State} {e : Ev} (hr : Reacts st e st') : Ext st st' := by
  obtain ⟨_, _, _, _, _, h⟩ := hr.frame
  rw [h]
  exact ⟨rfl, rfl, rfl, rfl, ⟨_, rfl⟩, rfl, rfl⟩

theorem drain_ext (q : List Ev) (st : State) : Ext st (drain q st) :=
  drain_ind (P := fun _ s => Ext st s) (fun _ _ _ h => h) (fun _ _ _ _ _ hr h => h.trans hr.ext) q st (.refl st)

/-- the part of the state that is configuration: no step changes it -/
structure Config where
  flow : Bool
  proto : Proto
  connectAs : Conn
  cEofFail : Bool
  sEofFail : Bool

def config (st : State) : Config := ⟨st.flow, st.proto, st.connectAs, st.cEofFail, st.sEofFail⟩

theorem Moves.cfg {st st' : State} {i : Input} {q : List Ev} (hm : Moves st i q st') : config st' = config st := by
  induction hm with
  | kill _ _ _ _ _ _ _ ih => exact ih
  | _ => rfl

theorem step_cfg (st : State) (i : Input) (hF : Full st) : config (step st i) = config st :=
  step_ind (P := fun _ s => config s = config st) (Q := fun _ s => config s = config st) (fun _ _ _ h => h)
    (fun _ _ _ _ _ hr h => by obtain ⟨_, _, _, _, _, he⟩ := hr.frame; rw [he]; exact h)
    (fun _ _ hm _ => hm.cfg) hF rfl

theorem run_cfg (st : State) (is : List Input) (hF : Full2 st) : config (run st is) = config st := by
  induction is generalizing st with
  | nil => rfl
  | cons i is ih => exact (ih _ (full2_step st i hF)).trans (step_cfg st i hF.1)

/-- what the layer has taken up so far: with a flow the message hooks fired, with `ignore=True` (no flow, no
    hooks, data forwarded at once) the `SendData` commands -/
def seen (st : State) : List Msg := if st.flow then hookMsgs st.trace else sentMsgs st.trace

/-- arrival-order invariant: what has been taken up, followed by the data still queued, is exactly the data/injected
    events that have arrived, in arrival order; after the end: a prefix of them -/
def Arr (q : List Ev) (st : State) (A : List Msg) : Prop :=
  (st.phase = .idle → A = [] ∧ seen st = []) ∧
  (st.phase = .start ∨ st.phase = .relay → A = seen st ++ dataOf q) ∧
  (st.phase = .done → seen st <+: A)

theorem Arr.prefix {q : List Ev} {st : State} {A : List Msg} (h : Arr q st A) : seen st <+: A := by
  cases hph : st.phase with
  | idle => rw [(h.1 hph).1, (h.1 hph).2]; exact List.prefix_refl _
  | start => exact ⟨_, (h.2.1 (.inl hph)).symm⟩
  | relay => exact ⟨_, (h.2.1 (.inr hph)).symm⟩
  | done => exact h.2.2 hph

theorem arr_reacts {q : List Ev} {st st' : State} {e : Ev} {A : List Msg} (hr : Reacts st e st') (hI : TrInv st)
    (hp : st.pending = .none) (h : Arr (e :: q) st A) : Arr q st' A := by
  cases hr with
  | skip _ hph => exact ⟨h.1, fun hs => (hs.elim (hI.unpaused hp) hph).elim, h.2.2⟩
  | hook src d hph hf | send src d hph hf =>
    exact ⟨by simp [hph], fun _ => by simpa [seen, hf] using h.2.1 (.inr hph), by simp [hph]⟩
  | half s hph ht hr => exact ⟨by simp [hph], fun _ => by simpa [seen] using h.2.1 (.inr hph), by simp [hph]⟩
  | ending s cs c c' _ hph hcs hc he =>
    subst he
    obtain ⟨-, -, -, n4, n5⟩ := closes_neutral hcs
    refine ⟨by simp, by simp, fun _ => ⟨dataOf q, ?_⟩⟩
    by_cases hf : st.flow = true <;> simpa [seen, hf, n4, n5] using (h.2.1 (.inr hph)).symm

/-- what an input contributes to the arrival sequence (nothing before `Start`) -/
def arrOf (st : State) (i : Input) : List Msg :=
  if st.phase = .idle then [] else
  match i with
  | .data src d => [⟨src == .client, d⟩]
  | .inject fc d => [⟨fc, d⟩]
  | _ => []

theorem arrOf_applyKill (st : State) (i : Input) : arrOf (applyKill st) i = arrOf st i := by
  obtain ⟨e, k, l, h⟩ := applyKill_eq st
  rw [h]; rfl

theorem Moves.arrOf {st st' : State} {i : Input} {q : List Ev} (hm : Moves st i q st') :
    dataOf q = dataOf st.queue ++ arrOf st i := by
  induction hm with
  | ignored _ _ h =>
    rcases h with ⟨a, -⟩ | ⟨-, rfl⟩ | ⟨-, rfl | ⟨e, rfl⟩⟩ | ⟨-, err, rfl⟩ <;> simp [Lemmas.arrOf, *]
  | kill _ _ _ _ _ _ _ ih => simpa [Lemmas.arrOf] using ih
  | data _ _ _ hph => simp [Lemmas.arrOf, hph]
  | inject _ fc _ hph => cases fc <;> simp [Lemmas.arrOf, hph, Side.other]
  | _ => simp [Lemmas.arrOf]

theorem arr_moves {st st' : State} {i : Input} {q : List Ev} {A : List Msg} (hm : Moves st i q st')
    (h : Arr st.queue st A) : Arr q st' (A ++ arrOf st i) := by
  -- first the queue and the arrivals grow, then the state changes
  have h' : Arr q st (A ++ arrOf st i) :=
    ⟨fun a => by simpa [Lemmas.arrOf, a] using h.1 a,
      fun a => by rw [hm.arrOf, ← List.append_assoc, ← h.2.1 a],
      fun a => let ⟨r, hr⟩ := h.2.2 a; ⟨r ++ arrOf st i, by rw [← hr, List.append_assoc]⟩⟩
  generalize A ++ arrOf st i = A' at h'
  clear h
  induction hm with
  | ignored | data | inject | closed => exact h'
  | kill _ _ _ _ _ _ _ ih => exact ih h'
  | _ =>
    unfold Arr at *
    simp_all [seen]

theorem arr_step (st : State) (i : Input) (A : List Msg) (hF : Full2 st) (h : Arr st.queue st A) :
    Arr (step st i).queue (step st i) (A ++ arrOf st i) :=
  (step_ind (P := fun q s => Arr q s A) (Q := fun q s => TrInv s ∧ Arr q s (A ++ arrOf st i)) (fun _ _ _ h => h)
    (fun _ _ _ _ hp hr h => ⟨trinv_reacts hr h.1 hp, arr_reacts hr h.1 hp h.2⟩)
    (fun _ _ hm h => ⟨(inv3_moves hm ⟨hF.1.1, hF.1.2.1, hF.2⟩).1, arr_moves hm h⟩) hF.1 h).2

theorem arr_init (p : Proto) (f c : Bool) : Arr (init p f c).queue (init p f c) [] := by
  cases f <;> simp [Arr, init, seen]

/-! ### `Start` is what takes the layer out of `idle`, and nothing brings it back -/

theorem Moves.not_idle {st st' : State} {i : Input} {q : List Ev} (hm : Moves st i q st')
    (h : st.phase ≠ .idle ∨ i = .start) : st'.phase ≠ .idle := by
  induction hm with
  | ignored _ _ ho => rcases ho with ⟨a, b⟩ | ⟨a, rfl⟩ | ⟨-, rfl | ⟨e, rfl⟩⟩ | ⟨-, err, rfl⟩ <;> simp_all
  | kill _ _ _ _ _ _ _ ih => simp_all
  | _ => simp_all

theorem step_started (st : State) (i : Input) (hF : Full st) (h : st.phase ≠ .idle ∨ i = .start) :
    (step st i).phase ≠ .idle :=
  step_ind (P := fun _ s => s.phase ≠ .idle ∨ i = .start) (Q := fun _ s => s.phase ≠ .idle)
    (fun _ _ _ h => h) (fun _ _ _ _ _ hr h => by cases hr <;> simp_all) (fun _ _ hm h => hm.not_idle h) hF h

theorem step_idle {st : State} {i : Input} (hid : st.phase = .idle) (hi : i ≠ .start) : step st i = st := by
  unfold step
  rw [hid]
  cases i <;> first | rfl | contradiction

/-- data / injected messages a schedule delivers after `Start`, in delivery order -/
def accepted : Bool → List Input → List Msg
  | _, [] => []
  | false, .start :: is => accepted true is
  | false, _ :: is => accepted false is
  | true, .data src d :: is => ⟨src == .client, d⟩ :: accepted true is
  | true, .inject fc d :: is => ⟨fc, d⟩ :: accepted true is
  | true, _ :: is => accepted true is

theorem accepted_cons (st : State) (i : Input) (is : List Input) (hF : Full st) :
    accepted (decide (st.phase ≠ .idle)) (i :: is) =
      arrOf st i ++ accepted (decide ((step st i).phase ≠ .idle)) is := by
  by_cases hid : st.phase = .idle
  · by_cases hi : i = .start
    · have := step_started st i hF (.inr hi)
      subst hi
      simp [accepted, arrOf, hid, this]
    · rw [step_idle hid hi]
      cases i <;> simp_all [accepted, arrOf]
  · have := step_started st i hF (.inl hid)
    cases i <;> simp [accepted, arrOf, hid, this]

theorem arr_run (st : State) (is : List Input) (A : List Msg) (hF : Full2 st) (h : Arr st.queue st A) :
    Arr (run st is).queue (run st is) (A ++ accepted (decide (st.phase ≠ .idle)) is) := by
  induction is generalizing st A with
  | nil => simpa [accepted, run] using h
  | cons i t ih =>
    rw [accepted_cons st i t hF.1, ← List.append_assoc]
    exact ih _ _ (full2_step st i hF) (arr_step st i A hF h)

end MitmVerif.C29.Lemmas
