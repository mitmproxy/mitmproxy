/-
  C43 — the sixteen operations.  From a state in which the invariant holds (`Good`) every operation leaves one in which
  it holds again, with the stale flows `dirtyStep` names; it announces what it did to list and store in one of seven
  shapes (`Shape`); and it leaves the live attributes and the store as `written` says (`apply_spec`, `step_spec`).
  Hence the invariant after every history (`good_run`).
-/
import MitmVerif.Lemmas.C43Wholesale
namespace MitmVerif.C43

/-- invariant (with `D` = the flows changed behind the view's back) + valid focus + no internal exception -/
structure Good (s : VS) (D : List Nat) : Prop where
  core : Core s D
  focus : FocusOK s
  nocrash : s.crash = false
  settings : ∀ g, g ∈ s.settings → g ∈ s.store

/-- what the invariant says of the list: the flows whose last change the view has seen are in the order of their
    current keys … -/
theorem Good.sorted {s : VS} {D : List Nat} (h : Good s D) : SortedBy (gen s) (s.view.filter (fun g => decide (g ∉ D))) := by
  refine sortedBy_congr (fun a ha => ?_) (List.Pairwise.sublist List.filter_sublist h.core.sorted)
  have ha' := List.mem_filter.mp ha
  obtain ⟨k, h1, h2⟩ := h.core.cached a ha'.1
  simp only [ck, h1, Option.getD_some]
  exact h2 (by simpa using ha'.2)

/-- … and when no flow is stale the list is a sorted permutation of the stored flows that match -/
theorem Good.sorted_perm {s : VS} (h : Good s []) :
    SortedBy (gen s) s.view ∧ s.view.Perm (s.store.filter (fun f => visible s f)) := by
  have hall : s.view.filter (fun g => decide (g ∉ ([] : List Nat))) = s.view := by simp
  refine ⟨hall ▸ h.sorted, (List.perm_ext_iff_of_nodup h.core.viewNodup (h.core.storeNodup.filter _)).mpr fun g => ?_⟩
  rw [List.mem_filter]
  exact ⟨fun hg => ⟨h.core.viewSub g hg, (h.core.vis g (h.core.viewSub g hg) nofun).mp hg⟩,
    fun ⟨h1, h2⟩ => (h.core.vis g h1 nofun).mpr h2⟩

/-- … which, when their keys are pairwise different, is THE sort of those flows -/
theorem Good.view_eq_sort {s : VS} (h : Good s [])
    (hinj : ∀ a b, a ∈ s.store → b ∈ s.store → visible s a = true → visible s b = true → gen s a = gen s b → a = b) :
    s.view = insertAll (gen s) (s.store.filter (fun g => visible s g)) := by
  have ⟨hsort, hperm⟩ := h.sorted_perm
  refine sorted_perm_unique (fun a b ha hb hab => ?_) hsort (insertAll_sorted _ _) (hperm.trans (insertAll_perm _ _).symm)
  have ha' := List.mem_filter.mp (hperm.mem_iff.mp ha)
  have hb' := List.mem_filter.mp (hperm.mem_iff.mp hb)
  exact hinj a b ha'.1 hb'.1 ha'.2 hb'.2 hab

/-- which flows are (still) changed behind the view's back after an operation -/
def dirtyStep (s : VS) (D : List Nat) : Op → List Nat
  | .mutate f a =>
    -- a change that leaves the flow's visibility and its key under the selected order as they were cannot mislead the view
    if visible (setAttr s f a) f = visible s f ∧ gen (setAttr s f a) f = gen s f then D else f :: D
  | .add f _ => if f ∈ s.store then D else D.filter (fun x => x != f)
  | .update f _ => D.filter (fun x => x != f)
  | .setval f => if f ∈ s.store then D.filter (fun x => x != f) else D
  | .clear => []
  | .clearUnmarked => []
  | .setFilter _ => []
  | .toggleMarked => []
  | _ => D

/-- what an operation announces (signals other than `Focus.sig_change`), against what it did to the list `v` and the
    store `st` it started from -/
inductive Shape (v st : List Nat) (s' : VS) : Prop where
  | quiet (hs : sigs s' = []) (hv : ∀ g, g ∈ s'.view ↔ g ∈ v) (hst : ∀ g, g ∈ st → g ∈ s'.store)
  | enter (f : Nat) (hs : sigs s' = [.vadd f]) (hnv : f ∉ v) (hv : ∀ g, g ∈ s'.view ↔ g = f ∨ g ∈ v)
      (hst : ∀ g, g ∈ st → g ∈ s'.store)
  | leave (f : Nat) (hs : sigs s' = [.vrm f (v.idxOf f)]) (hin : f ∈ v) (hv : s'.view = v.erase f)
      (hst : ∀ g, g ∈ st → g ∈ s'.store)
  | upd (f : Nat) (hs : sigs s' = [.vupd f] ∨ sigs s' = [.vrefresh, .vupd f]) (hin : f ∈ v)
      (hv : ∀ g, g ∈ s'.view ↔ g ∈ v) (hst : ∀ g, g ∈ st → g ∈ s'.store)
  | removeShown (f : Nat) (hs : sigs s' = [.vrm f (v.idxOf f), .srm f]) (hin : f ∈ v)
      (hv : s'.view = v.erase f) (hst : s'.store = st.erase f) (hfs : f ∈ st)
  | removeHidden (f : Nat) (hs : sigs s' = [.srm f]) (hnv : f ∉ v) (hv : s'.view = v)
      (hst : s'.store = st.erase f) (hfs : f ∈ st)
  | wholesale (hs : (sigs s' = [.vrefresh] ∧ s'.store = st) ∨ sigs s' = [.vrefresh, .srefresh])

theorem Shape.same {v st : List Nat} {s' : VS} (hs : sigs s' = []) (hv : s'.view = v) (hst : s'.store = st) :
    Shape v st s' :=
  .quiet hs (fun g => by rw [hv]) (fun g hg => hst ▸ hg)

/-- the live attributes and the store after an operation: only `mutate`, `update` and the `add` of a new flow write
    attributes; only `add`, `remove` and the two clears change the store -/
def written (s : VS) : Op → (Nat → Attr) × List Nat
  | .mutate f a => ((setAttr s f a).attrs, s.store)
  | .update f a => ((setAttr s f a).attrs, s.store)
  | .add f a => if f ∈ s.store then (s.attrs, s.store) else ((setAttr s f a).attrs, s.store ++ [f])
  | .remove f => (s.attrs, s.store.erase f)
  | .clear => (s.attrs, [])
  | .clearUnmarked => (s.attrs, s.store.filter (fun f => (s.attrs f).marked))
  | _ => (s.attrs, s.store)

theorem Keep.pair {w s' : VS} (k : Keep w s') : (s'.attrs, s'.store) = (w.attrs, w.store) := by rw [k.1, k.2]

/-- the invariant after a step that leaves no crash and adds settings entries for stored flows only -/
theorem Good.step {s s' : VS} {D D' : List Nat} (h : Good s D) (hc : Core s' D') (hfo : FocusOK s')
    (hcr : s'.crash = s.crash) (hsb : SB s s') (hsub : ∀ g, g ∈ s.store → g ∈ s'.store) : Good s' D' :=
  ⟨hc, hfo, hcr.trans h.nocrash, fun g hg => (hsb g hg).elim (fun h' => hsub g (h.settings g h')) (hsub g)⟩

/-- … in particular a step of the focus side: no signal, list and store as they were -/
theorem Good.refocus {s s' : VS} {D : List Nat} (h : Good s D) (hs : sigs s = []) (m : Refocus s s') :
    Good s' D ∧ Shape s.view s.store s' ∧ Keep s s' :=
  ⟨h.step (core_frame h.core m.frame) m.focus m.crash (SB.of_frame m.frame) (fun _ hg => m.frame.store ▸ hg),
    .same (m.frame.sigs.trans hs) m.frame.view m.frame.store, .of_frame m.frame⟩

/-- … and a step that changes nothing the invariant looks at -/
theorem Good.same {s s' : VS} {D : List Nat} (h : Good s D) (hs : sigs s = []) (ha : s'.attrs = s.attrs)
    (hst : s'.store = s.store) (hv : s'.view = s.view) (hc : s'.cache = s.cache) (hf : s'.filt = s.filt)
    (hm : s'.showMarked = s.showMarked) (hsl : s'.slot = s.slot) (hfo : s'.focus = s.focus) (hcr : s'.crash = s.crash)
    (hset : s'.settings = s.settings) (htr : s'.trace = s.trace) : Good s' D ∧ Shape s.view s.store s' ∧ Keep s s' :=
  ⟨h.step (core_congr h.core ha hst hv hf hm hsl (fun _ _ => hc ▸ rfl)) (focusOK_same hfo hv h.focus) hcr (SB.of_eq hset) (fun g hg => hst ▸ hg),
    .same (by rw [sigs, htr]; exact hs) hv hst, ha, hst⟩

structure UpdSpec (s s' : VS) (D : List Nat) (f : Nat) : Prop where
  core : Core s' (D.filter (fun x => x != f))
  focus : FocusOK s'
  crash : s'.crash = s.crash
  store : s'.store = s.store
  settings : SB s s'
  cases :
    (f ∉ s.view ∧ sigs s' = sigs s ∧ s'.view = s.view) ∨
    (f ∈ s.view ∧ (sigs s' = sigs s ++ [.vupd f] ∨ sigs s' = sigs s ++ [.vrefresh, .vupd f]) ∧
        ∀ g, g ∈ s'.view ↔ g ∈ s.view) ∨
    (f ∉ s.view ∧ sigs s' = sigs s ++ [.vadd f] ∧ ∀ g, g ∈ s'.view ↔ g = f ∨ g ∈ s.view) ∨
    (f ∈ s.view ∧ sigs s' = sigs s ++ [.vrm f (s.view.idxOf f)] ∧ s'.view = s.view.erase f)

/-- a step of the focus side (the membership test, the settings entry of `setvalue`) may precede the update -/
theorem UpdSpec.of_refocus {s p s' : VS} {D : List Nat} {f : Nat} (m : Refocus s p) (r : UpdSpec p s' D f) :
    UpdSpec s s' D f :=
  ⟨r.core, r.focus, r.crash.trans m.crash, r.store.trans m.frame.store, (SB.of_frame m.frame).trans r.settings m.frame.store,
    by rw [← m.frame.view, ← m.frame.sigs]; exact r.cases⟩

/-- `update` of a stored flow after the membership test: refresh the key, enter, leave, or nothing -/
def updateBody (p : VS) (f : Nat) : VS :=
  if visible p f then (if f ∈ p.view then emit (refreshKey p f) (.vupd f) else enterView p f)
  else if f ∈ p.view then leaveView p f else p

theorem updateCore_stored {s : VS} {f : Nat} (hst : f ∈ s.store) : updateCore s f = updateBody (probe s f) f := by
  simp only [updateCore, updateBody, hst, if_true]

/-- the `add` of a new flow stores it and then does what `update` does for a stored flow that is not shown -/
theorem opAdd_new {s : VS} {f : Nat} (a : Attr) (hst : f ∉ s.store) (hnv : f ∉ s.view) :
    opAdd s f a = updateBody { setAttr s f a with store := s.store ++ [f] } f := by
  have hnv' : f ∉ ({ setAttr s f a with store := s.store ++ [f] } : VS).view := hnv
  simp only [opAdd, updateBody, hst, hnv', if_false]

theorem updateBody_spec {p : VS} {D : List Nat} {f : Nat} (hc : Core p D) (hD : f ∈ D) (hfo : FocusOK p) (hst : f ∈ p.store) :
    UpdSpec p (updateBody p f) D f ∧ Keep p (updateBody p f) := by
  unfold updateBody
  cases hvis : visible p f with
  | true =>
    simp only [if_true]
    split
    · rename_i hv
      have r := refreshKey_spec hc hD hst hv hvis hfo
      generalize refreshKey p f = t at r
      obtain ⟨r, k⟩ := r
      refine ⟨⟨core_emit r.core _, focusOK_emit _ r.focus, r.crash, r.store, r.settings.emit _, Or.inr (Or.inl ⟨hv, ?_, r.view⟩)⟩,
        k.emit _⟩
      rw [sigs_emit _ _ (by simp)]
      exact r.sigs.imp (fun h => by rw [h]) (fun h => by rw [h]; simp)
    · rename_i hv
      obtain ⟨r, k⟩ := enterView_spec hc hD hst hv hvis (focusOK_some hfo)
      exact ⟨⟨r.core, r.focus, r.crash, r.store, r.settings, Or.inr (Or.inr (Or.inl ⟨hv, r.sigs, r.view⟩))⟩, k⟩
  | false =>
    simp only [Bool.false_eq_true, if_false]
    split
    · rename_i hv
      have r := leaveView_spec hc hD hv hfo
      have hnin : f ∉ (leaveView p f).view := r.view ▸ hc.viewNodup.not_mem_erase
      refine ⟨⟨core_drop_hidden r.core hnin (fun _ => ?_), r.focus, r.crash, r.store, r.settings,
        Or.inr (Or.inr (Or.inr ⟨hv, r.sigs, r.view⟩))⟩, r.attrs, r.store⟩
      rw [visible_eq_of r.attrs r.showMarked r.filt]; exact hvis
    · rename_i hv
      exact ⟨⟨core_drop_hidden hc hv (fun _ => hvis), hfo, rfl, rfl, SB.refl p, Or.inl ⟨hv, rfl, rfl⟩⟩, rfl, rfl⟩

theorem updateCore_spec {s : VS} {D : List Nat} {f : Nat} (hc : Core s D) (hD : f ∈ D) (hfo : FocusOK s) :
    UpdSpec s (updateCore s f) D f ∧ Keep s (updateCore s f) := by
  by_cases hst : f ∈ s.store
  · have m := refocus_probe f hfo
    rw [updateCore_stored hst]
    obtain ⟨r, k⟩ := updateBody_spec (core_frame hc m.frame) hD m.focus (m.frame.store ▸ hst)
    exact ⟨r.of_refocus m, (Keep.of_frame m.frame).trans k⟩
  · have hunf : updateCore s f = s := by simp only [updateCore, hst, if_false]
    rw [hunf]
    have hnv : f ∉ s.view := fun h => hst (hc.viewSub f h)
    exact ⟨⟨core_drop_hidden hc hnv (fun h => absurd h hst), hfo, rfl, rfl, SB.refl s, Or.inl ⟨hnv, rfl, rfl⟩⟩, rfl, rfl⟩

/-- `update` of a flow that has just changed -/
theorem update_upd {s : VS} {D : List Nat} (h : Good s D) (f : Nat) (a : Attr) :
    UpdSpec s (opUpdate s f a) (f :: D) f ∧ Keep (setAttr s f a) (opUpdate s f a) :=
  have ⟨r, k⟩ := updateCore_spec (core_setAttr h.core f a) (List.mem_cons_self ..) (focusOK_same rfl rfl h.focus)
  ⟨⟨r.core, r.focus, r.crash, r.store, r.settings, r.cases⟩, k⟩

/-- the `update` hook after a settings write -/
theorem setval_upd {s : VS} {D : List Nat} {f : Nat} (h : Good s D) (hst : f ∈ s.store) :
    UpdSpec s (updateCore (ensure s f) f) (f :: D) f ∧ Keep s (updateCore (ensure s f) f) :=
  have m := refocus_ensure hst h.focus
  have ⟨r, k⟩ := updateCore_spec (core_weaken (core_frame h.core m.frame) (fun _ hg => List.mem_cons_of_mem f hg))
    (List.mem_cons_self ..) m.focus
  ⟨r.of_refocus m, (Keep.of_frame m.frame).trans k⟩

/-- `update` (or the `update` hook of a settings write, or the `add` of a new flow) of a flow just changed, from a state
    with an empty signal trace; `st` is the store the operation started from -/
theorem upd_good_shape {s w s' : VS} {D st : List Nat} {f : Nat} (rk : UpdSpec s s' (f :: D) f ∧ Keep w s')
    (hcr : s.crash = false) (hss : ∀ g, g ∈ s.settings → g ∈ s.store) (hs : sigs s = [])
    (hst : ∀ g, g ∈ st → g ∈ s.store) : Good s' (D.filter (fun x => x != f)) ∧ Shape s.view st s' ∧ Keep w s' := by
  obtain ⟨r, k⟩ := rk
  have sub : ∀ g, g ∈ st → g ∈ s'.store := fun g hg => r.store ▸ hst g hg
  refine ⟨⟨core_weaken r.core (without_cons D f), r.focus, r.crash.trans hcr,
    fun g hg => r.store ▸ (r.settings g hg).elim (hss g) id⟩, ?_, k⟩
  rcases r.cases with ⟨_, h1, h2⟩ | ⟨h0, h1, h2⟩ | ⟨h0, h1, h2⟩ | ⟨h0, h1, h2⟩
  · exact .quiet (by rw [h1, hs]) (fun g => by rw [h2]) sub
  · exact .upd f (by rw [hs] at h1; exact h1) h0 h2 sub
  · exact .enter f (by rw [h1, hs]; rfl) h0 h2 sub
  · exact .leave f (by rw [h1, hs]; rfl) h0 h2 sub

/-- an `update` (or a settings write) of a flow that is shown before and after is announced by `sig_view_update` -/
theorem upd_announced {s s' : VS} {D : List Nat} {f : Nat} (r : UpdSpec s s' D f) (hnd : s.view.Nodup) (h1 : f ∈ s.view) (h2 : f ∈ s'.view) :
    .vupd f ∈ s'.trace := by
  refine ((mem_sigs _ _).mp ?_).1
  rcases r.cases with ⟨h0, _, _⟩ | ⟨_, hs, _⟩ | ⟨h0, _, _⟩ | ⟨_, _, hv⟩
  · exact absurd h1 h0
  · rcases hs with hs | hs <;> rw [hs] <;> simp
  · exact absurd h1 h0
  · exact absurd (hv ▸ h2) hnd.not_mem_erase

theorem opAdd_spec {s : VS} {D : List Nat} (h : Good s D) (hs : sigs s = []) (f : Nat) (a : Attr) :
    Good (opAdd s f a) (if f ∈ s.store then D else D.filter (fun x => x != f)) ∧ Shape s.view s.store (opAdd s f a) ∧
    ((opAdd s f a).attrs, (opAdd s f a).store) = written s (.add f a) := by
  by_cases hst : f ∈ s.store
  · simp only [opAdd, written, hst, if_true]
    exact ⟨h, .same hs rfl rfl, trivial⟩
  · have hnv : f ∉ s.view := fun hm => hst (h.core.viewSub f hm)
    have hsub : ∀ g, g ∈ s.store → g ∈ s.store ++ [f] := fun g hg => List.mem_append_left _ hg
    have hc1 : Core { setAttr s f a with store := s.store ++ [f] } (f :: D) := by
      refine (core_setAttr h.core f a).transfer rfl rfl ?_ (fun g hg => hsub g (h.core.viewSub g hg)) (fun _ _ => rfl)
        (fun g hg hx => ⟨?_, hx, rfl, rfl⟩)
      · show (s.store ++ [f]).Nodup
        rw [List.nodup_append]
        refine ⟨h.core.storeNodup, by simp, ?_⟩
        intro x hx y hy hxy
        simp at hy; subst hy; subst hxy; exact hst hx
      · exact (List.mem_append.mp hg).resolve_right (fun hm => hx (List.mem_singleton.mp hm ▸ List.mem_cons_self ..))
    rw [opAdd_new a hst hnv]
    simp only [written, hst, if_false]
    exact (upd_good_shape (updateBody_spec hc1 (List.mem_cons_self ..) (focusOK_same rfl rfl h.focus)
        (List.mem_append_right _ (List.mem_singleton_self f)))
      h.nocrash (fun g hg => hsub g (h.settings g hg)) hs hsub).imp_right (.imp_right Keep.pair)

/-- forgetting a stored flow that is not shown: store, settings entry, cached keys; `sig_store_remove` -/
theorem good_forget {s s1 : VS} {D : List Nat} {f : Nat} (h : Good s D) (hc1 : Core s1 (f :: D)) (hfo1 : FocusOK s1)
    (hcr1 : s1.crash = s.crash) (hnv1 : f ∉ s1.view) (hst1 : s1.store = s.store) (hsb1 : SB s s1) :
    Good (emit { s1 with store := s1.store.erase f, settings := s1.settings.filter (fun g => g != f),
                         cache := fun g sl => if g = f then none else s1.cache g sl } (.srm f)) D := by
  have hne : ∀ g, g ∈ s1.view → g ≠ f := fun g hg h' => hnv1 (h' ▸ hg)
  have hc : Core { s1 with store := s1.store.erase f, settings := s1.settings.filter (fun g => g != f),
                           cache := fun g sl => if g = f then none else s1.cache g sl } D :=
    hc1.transfer rfl rfl (hc1.storeNodup.erase f) (fun g hg => (List.mem_erase_of_ne (hne g hg)).mpr (hc1.viewSub g hg))
      (fun g hg => if_neg (hne g hg)) (fun g hg hx => by
        have hgf : g ≠ f := fun h' => hc1.storeNodup.not_mem_erase (h' ▸ hg)
        exact ⟨List.mem_of_mem_erase hg, by simp [hgf, hx], rfl, rfl⟩)
  refine ⟨core_emit hc _, focusOK_emit _ (focusOK_same rfl rfl hfo1), hcr1.trans h.nocrash, ?_⟩
  intro g hg
  have hg' := List.mem_filter.mp hg
  have hne : g ≠ f := by simpa using hg'.2
  show g ∈ s1.store.erase f
  rw [List.mem_erase_of_ne hne, hst1]
  exact (hsb1 g hg'.1).elim (h.settings g) id

theorem opRemove_spec {s : VS} {D : List Nat} (h : Good s D) (hs : sigs s = []) (f : Nat) :
    Good (opRemove s f) D ∧ Shape s.view s.store (opRemove s f) ∧
    ((opRemove s f).attrs, (opRemove s f).store) = written s (.remove f) := by
  unfold opRemove written
  by_cases hst : f ∈ s.store
  · simp only [hst, if_true]
    -- after the membership test the operation goes on from a good state `p` with the same list, store and attributes
    have m := refocus_probe f h.focus
    have hp := (h.refocus hs m).1
    have hsp := m.frame.sigs.trans hs
    rw [← m.frame.view, ← m.frame.store, ← m.frame.attrs]
    rw [← m.frame.store] at hst
    generalize probe s f = p at hp hsp hst
    have hcp : Core p (f :: D) := core_weaken hp.core (fun g hg => List.mem_cons_of_mem f hg)
    split
    · rename_i hv
      have r := leaveView_spec hcp (List.mem_cons_self ..) hv hp.focus
      have hnin : f ∉ (leaveView p f).view := r.view ▸ hcp.viewNodup.not_mem_erase
      generalize leaveView p f = t at r hnin
      have hst' : t.store.erase f = p.store.erase f := by rw [r.store]
      refine ⟨good_forget hp r.core r.focus r.crash hnin r.store r.settings, .removeShown f ?_ hv r.view hst' hst,
        Prod.ext r.attrs hst'⟩
      rw [sigs_emit _ _ (by simp)]
      show sigs t ++ _ = _
      rw [r.sigs, hsp]; rfl
    · rename_i hv
      refine ⟨good_forget hp hcp hp.focus rfl hv rfl (SB.refl p), .removeHidden f ?_ hv rfl rfl hst, rfl⟩
      rw [sigs_emit _ _ (by simp)]
      show sigs p ++ _ = _
      rw [hsp]; rfl
  · simp only [hst, if_false]
    exact ⟨h, .same hs rfl rfl, by rw [List.erase_of_not_mem hst]⟩

/-- a re-filter of any state with a duplicate-free store, no crash and settings entries of stored flows only -/
theorem refilter_good {s : VS} (hnd : s.store.Nodup) (hcr : s.crash = false) (hss : ∀ g, g ∈ s.settings → g ∈ s.store)
    (hs : sigs s = []) : Good (refilter s) [] ∧ Shape s.view s.store (refilter s) ∧ Keep s (refilter s) :=
  have r := refilter_spec hnd
  ⟨⟨r.core, r.focus, r.crash.trans hcr, fun g hg => r.store ▸ (r.settings g hg).elim (hss g) id⟩,
    .wholesale (Or.inl ⟨by rw [r.sigs, hs]; rfl, r.store⟩), r.attrs, r.store⟩

/-- a re-filter of the remaining store, then the settings purge: `clear` and `clear_not_marked` -/
theorem purge_refilter_spec {s s1 : VS} {D : List Nat} (h : Good s D) (hs : sigs s = []) (hnd : s1.store.Nodup)
    (hcr : s1.crash = s.crash) (hsig : sigs s1 = sigs s) :
    Good (emit (purge (refilter s1)) .srefresh) [] ∧ Shape s.view s.store (emit (purge (refilter s1)) .srefresh) ∧
    Keep s1 (emit (purge (refilter s1)) .srefresh) := by
  have r := refilter_spec hnd
  generalize refilter s1 = t at r
  refine ⟨⟨core_emit (core_purge r.core) _, focusOK_emit _ (focusOK_same (s := t) rfl rfl r.focus),
    r.crash.trans (hcr.trans h.nocrash), purge_settings _⟩, .wholesale (Or.inr ?_), r.attrs, r.store⟩
  rw [sigs_emit _ _ (by simp)]
  show sigs t ++ _ = _
  rw [r.sigs, hsig, hs]; rfl

theorem opFocus_spec {s : VS} {D : List Nat} (h : Good s D) (hs : sigs s = []) (f : Nat) :
    Good (opFocus s f) D ∧ Shape s.view s.store (opFocus s f) ∧ Keep s (opFocus s f) := by
  unfold opFocus
  split
  · rename_i hv
    exact h.refocus hs (refocus_setFocus hv)
  · have hp := (refocus_probe f h.focus).frame
    obtain ⟨hg, sh, kp⟩ := h.refocus hs (refocus_probe f h.focus)
    generalize probe s f = p at hp hg sh kp
    exact hp.view ▸ hp.store ▸ (Good.same (s' := { p with err := true }) hg (hp.sigs.trans hs) rfl rfl rfl rfl rfl rfl rfl rfl rfl
      rfl rfl).imp_right (.imp_right kp.trans)

theorem apply_spec {s : VS} {D : List Nat} (h : Good s D) (hs : sigs s = []) (op : Op) :
    Good (apply s op) (dirtyStep s D op) ∧ Shape s.view s.store (apply s op) ∧
    ((apply s op).attrs, (apply s op).store) = written s op := by
  -- most operations end with the attributes and the store of a state `w` (the start, or the start after its first write):
  -- `written` is then the pair of `w`, by unfolding
  have kept : ∀ {w s' : VS} {D' : List Nat}, Good s' D' ∧ Shape s.view s.store s' ∧ Keep w s' →
      Good s' D' ∧ Shape s.view s.store s' ∧ (s'.attrs, s'.store) = (w.attrs, w.store) :=
    fun q => q.imp_right (.imp_right Keep.pair)
  cases op with
  | mutate f a =>
    refine ⟨?_, .same hs rfl rfl, rfl⟩
    simp only [apply, dirtyStep]
    split
    · rename_i hc
      exact ⟨core_setAttr_same h.core f a hc.1 hc.2, focusOK_same rfl rfl h.focus, h.nocrash, h.settings⟩
    · exact ⟨core_setAttr h.core f a, focusOK_same rfl rfl h.focus, h.nocrash, h.settings⟩
  | add f a => exact opAdd_spec h hs f a
  | update f a => exact kept (upd_good_shape (update_upd h f a) h.nocrash h.settings hs (fun _ hg => hg))
  | remove f => exact opRemove_spec h hs f
  | clear => exact kept (purge_refilter_spec (s1 := { s with store := [] }) h hs List.nodup_nil rfl rfl)
  | clearUnmarked =>
    exact kept (purge_refilter_spec (s1 := { s with store := s.store.filter (fun f => (s.attrs f).marked) }) h hs
      (h.core.storeNodup.filter _) rfl rfl)
  | setFilter k => exact kept (refilter_good (s := { s with filt := k }) h.core.storeNodup h.nocrash h.settings hs)
  | toggleMarked =>
    exact kept (refilter_good (s := { s with showMarked := !s.showMarked }) h.core.storeNodup h.nocrash h.settings hs)
  | setReversed b =>
    have T := told (Rest.refl { s with reversed := b }) (SB.refl _)
      (core_congr h.core rfl rfl rfl rfl rfl rfl (fun _ _ => rfl)) (refocus_onRefresh _) .vrefresh (by simp)
    simp only [apply, dirtyStep, opSetReversed]
    -- from here the result is a variable: seeing through `emit` applied to the concrete term is slow to check
    generalize emit (onRefresh { s with reversed := b }) .vrefresh = s' at T
    exact ⟨h.step T.core T.focus T.crash T.settings (fun g hg => by rw [T.store]; exact hg),
      .wholesale (Or.inl ⟨T.sigs.trans (by rw [show sigs { s with reversed := b } = [] from hs]; rfl), T.store⟩),
      Prod.ext T.attrs T.store⟩
  | setOrder sl =>
    simp only [apply, dirtyStep]
    split
    · have ⟨r, k⟩ := setOrder_spec h.core h.focus sl
      exact ⟨h.step r.core r.focus r.crash r.settings (fun g hg => r.store ▸ hg),
        .quiet (by rw [r.sigs, hs]) r.view (fun g hg => r.store ▸ hg), k.pair⟩
    · exact kept (Good.same h hs rfl rfl rfl rfl rfl rfl rfl rfl rfl rfl rfl)
  | focusFollow b => exact kept (Good.same h hs rfl rfl rfl rfl rfl rfl rfl rfl rfl rfl rfl)
  | go o => exact kept (h.refocus hs (refocus_opGo h.focus o))
  | next => exact kept (h.refocus hs (refocus_opNext h.focus))
  | prev => exact kept (h.refocus hs (refocus_opPrev h.focus))
  | focus f => exact kept (opFocus_spec h hs f)
  | setval f =>
    simp only [apply, dirtyStep, opSetval]
    split
    · exact kept (upd_good_shape (setval_upd h ‹_›) h.nocrash h.settings hs (fun _ hg => hg))
    · exact kept (Good.same h hs rfl rfl rfl rfl rfl rfl rfl rfl rfl rfl rfl)

theorem good_init : Good init [] :=
  ⟨⟨List.nodup_nil, List.nodup_nil, nofun, List.Pairwise.nil, nofun, nofun⟩, rfl, rfl, nofun⟩

theorem good_reset {s : VS} {D : List Nat} (h : Good s D) : Good { s with trace := [], err := false } D :=
  ⟨core_congr h.core rfl rfl rfl rfl rfl rfl (fun _ _ => rfl), focusOK_same rfl rfl h.focus, h.nocrash, h.settings⟩

/-- one operation from a good state: the invariant again, the shape of its announcements, and what it wrote -/
theorem step_spec {s : VS} {D : List Nat} (h : Good s D) (op : Op) :
    Good (step s op) (dirtyStep s D op) ∧ Shape s.view s.store (step s op) ∧
    ((step s op).attrs, (step s op).store) = written s op :=
  apply_spec (good_reset h) rfl op

theorem step_update_announced {s : VS} {D : List Nat} (h : Good s D) (f : Nat) (a : Attr) (h1 : f ∈ s.view)
    (h2 : f ∈ (step s (.update f a)).view) : .vupd f ∈ (step s (.update f a)).trace :=
  upd_announced (update_upd (good_reset h) f a).1 h.core.viewNodup h1 h2

theorem step_setval_announced {s : VS} {D : List Nat} (h : Good s D) (f : Nat) (h1 : f ∈ s.view)
    (h2 : f ∈ (step s (.setval f)).view) : .vupd f ∈ (step s (.setval f)).trace := by
  have hst : f ∈ s.store := h.core.viewSub f h1
  have hunf : step s (.setval f) = updateCore (ensure { s with trace := [], err := false } f) f := by
    show opSetval _ f = _
    unfold opSetval
    simp only [show f ∈ ({ s with trace := [], err := false } : VS).store from hst, if_true]
  rw [hunf] at h2 ⊢
  exact upd_announced (setval_upd (good_reset h) hst).1 h.core.viewNodup h1 h2

/-- the state after a history together with the flows that changed behind the view's back and have not been
    re-evaluated since -/
def runD (ops : List Op) : VS × List Nat :=
  ops.foldl (fun p op => (step p.1 op, dirtyStep p.1 p.2 op)) (init, [])

theorem runD_fst (ops : List Op) : (runD ops).1 = run ops := (List.foldl_hom Prod.fst fun _ _ => rfl).symm

theorem good_runD (ops : List Op) : Good (runD ops).1 (runD ops).2 :=
  List.foldlRecOn ops _ (motive := fun p : VS × List Nat => Good p.1 p.2) good_init fun _ h o _ => (step_spec h o).1

theorem good_run (ops : List Op) : Good (run ops) (runD ops).2 := runD_fst ops ▸ good_runD ops

end MitmVerif.C43
