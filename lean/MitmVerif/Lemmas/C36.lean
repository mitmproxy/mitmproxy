/-
  C36 — helper lemmas about the tnetstring model, from decimal numbers up to the reader loop over a sequence of records.
  In order: decimal numbers, Python int() on decimal output, framing, the round trip (`pop_enc_all`) and the deque
  construction (`rdumpq_eq`), each proved for a value, a list of items and a list of pairs at once, `load` on a frame
  (`load_enc`) and on a cut frame (`load_prefix_err`), totality (`no_fuel`, `load_err_caught`), the reader loop over a
  sequence of good records followed by anything (`Good`, `stream_records_tail`, `refusing_record_stops`), and the
  hypotheses of the reader theorems as Boolean checkers for concrete records (`wfB`, `readableB`, `goodB`).  Rests on
  Model/C36 and, for decimal numbers, on Lemmas/Decimal: `natDec n` is `(digits n).map digitB` (`natDec_eq`) and `decStep`
  folded over such a list is `ofDigits` (`foldl_decStep_digits`); and, for the cut at the colon, on Lemmas/Split:
  `splitColon` is `splitFirst 0x3a` (`splitColon_eq`).  C37 (crash consistency of the file) is built on `Good`,
  `readAll_records` and `streamLoop_cut`.
-/
import MitmVerif.Model.C36
import MitmVerif.Lemmas.Lists
import MitmVerif.Lemmas.Decimal
import MitmVerif.Lemmas.Split
namespace MitmVerif.C36

theorem natDecF_eq (f n : Nat) (h : n ≤ f) : natDecF f n = (digits n).map digitB := by
  induction f generalizing n with
  | zero =>
    obtain rfl : n = 0 := by omega
    rfl
  | succ f ih =>
    rw [natDecF, digits_eq]
    split
    · rfl
    · rw [ih _ (by omega), List.map_append]; rfl

theorem natDec_eq (n : Nat) : natDec n = (digits n).map digitB := natDecF_eq n n (Nat.le_refl n)

theorem isDigit_digitB (n : Nat) (h : n < 10) : isDigit (digitB n) = true := by
  have : ∀ k : Fin 10, isDigit (digitB k.val) = true := by decide
  exact this ⟨n, h⟩

theorem digitB_val (n : Nat) (h : n < 10) : (digitB n).toNat - 48 = n := by
  have : ∀ k : Fin 10, (digitB k.val).toNat - 48 = k.val := by decide
  exact this ⟨n, h⟩

theorem foldl_decStep_digits (ds : List Nat) (h : ∀ d ∈ ds, d < 10) (a : Nat) :
    (ds.map digitB).foldl decStep a = ofDigits a ds := by
  induction ds generalizing a with
  | nil => rfl
  | cons d ds ih =>
    rw [List.map_cons, List.foldl_cons, ih (fun x hx => h x (List.mem_cons_of_mem _ hx)), decStep,
      digitB_val d (h d List.mem_cons_self)]
    rfl

theorem natDec_digits (n : Nat) : ∀ c ∈ natDec n, isDigit c = true := by
  intro c hc
  rw [natDec_eq] at hc
  obtain ⟨d, hd, rfl⟩ := List.mem_map.mp hc
  exact isDigit_digitB d (digits_lt n d hd)

theorem natDec_ne_nil (n : Nat) : natDec n ≠ [] := by
  rw [natDec_eq]
  exact fun h => digits_ne_nil n (List.map_eq_nil_iff.mp h)

theorem natDec_len_pos (n : Nat) : 1 ≤ (natDec n).length :=
  List.length_pos_iff.mpr (natDec_ne_nil n)

theorem decVal_natDec (n : Nat) : decVal (natDec n) = n := by
  rw [decVal, natDec_eq, foldl_decStep_digits _ (digits_lt n), ofDigits_zero_digits]

theorem natDec_len_le (n : Nat) : ∀ k, 0 < k → n < 10 ^ k → (natDec n).length ≤ k := by
  rw [natDec_eq, List.length_map]
  exact digits_length_le n

theorem natDec_len_le_self (n : Nat) : (natDec n).length ≤ n + 1 :=
  natDec_len_le n (n + 1) (Nat.succ_pos n)
    (Nat.lt_trans (Nat.lt_pow_self (by decide)) (Nat.pow_lt_pow_right (by decide) (Nat.lt_succ_self n)))

theorem digit_not_special (c : UInt8) (h : isDigit c = true) :
    isSpace c = false ∧ c ≠ 0x2d ∧ c ≠ 0x2b ∧ c ≠ 0x5f ∧ c ≠ 0x3a := by
  simp only [isDigit, Bool.and_eq_true, decide_eq_true_eq] at h
  refine ⟨?_, ?_, ?_, ?_, ?_⟩
  · simp only [isSpace, Bool.or_eq_false_iff, Bool.and_eq_false_iff, decide_eq_false_iff_not]
    omega
  all_goals (intro hc; subst hc; simp at h)

theorem scanDigits_digits : ∀ (ds : Bytes), ds ≠ [] → (∀ c ∈ ds, isDigit c = true) →
    ∀ rest pu acc nd, scanDigits (ds ++ rest) pu acc nd
      = scanDigits rest false (ds.foldl decStep acc) (nd + ds.length) := by
  intro ds
  induction ds with
  | nil => intro h; exact absurd rfl h
  | cons c t ih =>
    intro _ hd rest pu acc nd
    have hc : isDigit c = true := hd c (by simp)
    simp only [List.cons_append, scanDigits, hc, if_true, List.foldl_cons, List.length_cons]
    by_cases ht : t = []
    · subst ht; simp
    · rw [ih ht (fun c hc => hd c (by simp [hc]))]
      congr 1; omega

theorem scanDigits_natDec (n : Nat) : scanDigits (natDec n) false 0 0 = some (n, (natDec n).length, []) := by
  have := scanDigits_digits (natDec n) (natDec_ne_nil n) (natDec_digits n) [] false 0 0
  simpa [scanDigits, show (natDec n).foldl decStep 0 = n from decVal_natDec n] using this

theorem natDec_head (n : Nat) : ∃ c t, natDec n = c :: t ∧ isDigit c = true := by
  cases hs : natDec n with
  | nil => exact absurd hs (natDec_ne_nil n)
  | cons c t => exact ⟨c, t, rfl, natDec_digits n c (by simp [hs])⟩

theorem pyIntSM_natDec (n : Nat) (h : (natDec n).length ≤ maxStrDigits) :
    pyIntSM (natDec n) = some (false, n) := by
  obtain ⟨c, t, hs, hc⟩ := natDec_head n
  obtain ⟨h1, h2, h3, h4, _⟩ := digit_not_special c hc
  have hp := natDec_len_pos n
  unfold pyIntSM
  simp only [hs, List.dropWhile_cons, h1, List.head?_cons, Option.some.injEq, h2, h3, h4,
    Bool.false_eq_true, if_false, decide_false, Bool.or_self]
  rw [← hs, scanDigits_natDec]
  simp [Nat.ne_of_gt hp, Nat.not_lt.mpr h]

theorem pyIntSM_intDec (i : Int) (h : (natDec i.natAbs).length ≤ maxStrDigits) :
    (pyIntSM (intDec i)).map smToInt = some i := by
  unfold intDec
  split
  · obtain ⟨c, t, hs, hc⟩ := natDec_head i.natAbs
    have h4 := (digit_not_special c hc).2.2.2.1
    have hp := natDec_len_pos i.natAbs
    have hsp : isSpace 0x2d = false := by decide
    unfold pyIntSM
    simp only [List.dropWhile_cons, hsp, List.head?_cons, Bool.false_eq_true, if_false, decide_true,
      Bool.true_or, if_true, List.drop_succ_cons, List.drop_zero, hs, Option.some.injEq, h4]
    rw [← hs, scanDigits_natDec]
    simp [Nat.ne_of_gt hp, Nat.not_lt.mpr h, smToInt]
    omega
  · rw [pyIntSM_natDec _ h]
    simp only [Option.map_some, smToInt, Bool.false_eq_true, if_false]
    congr 1; omega

theorem splitColon_eq (l : Bytes) : splitColon l = splitFirst 0x3a l := by
  induction l with
  | nil => rfl
  | cons c r ih => rw [splitColon, ih, splitFirst]

theorem split_frame (n : Nat) (body : Bytes) (h : (natDec n).length ≤ maxStrDigits) :
    split (natDec n ++ 0x3a :: body) = .ok ((false, n), body) := by
  have hc : (0x3a : UInt8) ∉ natDec n := fun hm => (digit_not_special _ (natDec_digits n _ hm)).2.2.2.2 rfl
  simp [split, splitColon_eq, splitFirst_append hc, pyIntSM_natDec n h]

theorem slice3_frame (payload : Bytes) (tag : UInt8) (r : Bytes) :
    slice3 (payload ++ tag :: r) (false, payload.length) = some (payload, tag, r) := by
  simp [slice3]

theorem frame_append (payload : Bytes) (tag : UInt8) (r : Bytes) :
    frame payload tag ++ r = natDec payload.length ++ 0x3a :: (payload ++ tag :: r) := by
  simp [frame]

theorem frame_length (payload : Bytes) (tag : UInt8) :
    (frame payload tag).length = (natDec payload.length).length + 2 + payload.length := by
  simp [frame]; omega

section Induct
variable {P : Value → Prop}
  (hnull : P .null) (hbool : ∀ b, P (.bool b)) (hint : ∀ i, P (.int i)) (hfloat : ∀ t, P (.float t))
  (hbytes : ∀ b, P (.bytes b)) (hstr : ∀ b, P (.str b))
  (hlist : ∀ l : List Value, (∀ v ∈ l, P v) → P (.list l))
  (hdict : ∀ kvs : List (Value × Value), (∀ p ∈ kvs, P p.1 ∧ P p.2) → P (.dict kvs))
include hnull hbool hint hfloat hbytes hstr hlist hdict

mutual
theorem Value.ind : ∀ v : Value, P v
  | .null => hnull
  | .bool b => hbool b
  | .int i => hint i
  | .float t => hfloat t
  | .bytes b => hbytes b
  | .str b => hstr b
  | .list l => hlist l (Value.indList l)
  | .dict kvs => hdict kvs (Value.indPairs kvs)
theorem Value.indList : ∀ l : List Value, ∀ v ∈ l, P v
  | [] => by intro v hv; cases hv
  | x :: t => by
    intro v hv
    rcases List.mem_cons.mp hv with h | h
    · rw [h]; exact Value.ind x
    · exact Value.indList t v h
theorem Value.indPairs : ∀ kvs : List (Value × Value), ∀ p ∈ kvs, P p.1 ∧ P p.2
  | [] => by intro p hp; cases hp
  | (k, v) :: t => by
    intro p hp
    rcases List.mem_cons.mp hp with h | h
    · rw [h]; exact ⟨Value.ind k, Value.ind v⟩
    · exact Value.indPairs t p h
end
end Induct

theorem mirrorList_eq (l : List Value) : mirrorList l = l.map mirror := by
  induction l with
  | nil => simp [mirrorList]
  | cons v t ih => simp [mirrorList, ih]

theorem mirrorPairsRev_append (a b : List (Value × Value)) :
    mirrorPairsRev (a ++ b) = mirrorPairsRev b ++ mirrorPairsRev a := by
  induction a with
  | nil => simp [mirrorPairsRev]
  | cons p t ih => obtain ⟨k, v⟩ := p; simp [mirrorPairsRev, ih]

theorem mirrorPairsRev_eq (kvs : List (Value × Value)) :
    mirrorPairsRev kvs = kvs.reverse.map fun p => (mirror p.1, mirror p.2) := by
  induction kvs with
  | nil => simp [mirrorPairsRev]
  | cons p t ih => obtain ⟨k, v⟩ := p; simp [mirrorPairsRev, ih]

theorem WFList_iff (l : List Value) : WFList l ↔ ∀ v ∈ l, WF v := by
  induction l with
  | nil => simp [WFList]
  | cons v t ih => simp [WFList, ih]

theorem WFPairs_iff (kvs : List (Value × Value)) :
    WFPairs kvs ↔ ∀ p ∈ kvs, WF p.1 ∧ hashable p.1 = true ∧ WF p.2 := by
  induction kvs with
  | nil => simp [WFPairs]
  | cons p t ih => obtain ⟨k, v⟩ := p; simp [WFPairs, ih]

mutual
/-- `WF` as a computation, so that it can be checked on a concrete value by evaluation -/
def wfB : Value → Bool
  | .int i => decide ((natDec i.natAbs).length ≤ maxStrDigits)
  | .float t => isFloatTok t
  | .str b => utf8Valid b
  | .list l => wfListB l
  | .dict kvs => wfPairsB kvs
  | _ => true
def wfListB : List Value → Bool
  | [] => true
  | v :: t => wfB v && wfListB t
def wfPairsB : List (Value × Value) → Bool
  | [] => true
  | (k, v) :: t => wfB k && hashable k && wfB v && wfPairsB t
end

/- A fact about `f`, `fPairs`, `fList` of a mutual definition over values is proved for the three at once, by the
   induction principle Lean derives from `enc` / `encPairsRev` / `encList`. It has the plain structural cases:
   1–8 the constructors of `Value` in order (7 `list`, 8 `dict`, each with the fact for its content), 9 / 10 no item /
   an item and the rest, 11 / 12 the same for pairs. -/
theorem wfB_sound : (∀ v, wfB v = true → WF v) ∧ (∀ kvs, wfPairsB kvs = true → WFPairs kvs) ∧
    (∀ l, wfListB l = true → WFList l) := by
  apply enc.mutual_induct <;> simp_all [wfB, wfListB, wfPairsB, WF, WFList, WFPairs]

theorem mirror_equiv_all : (∀ v, Equiv (mirror v) v) ∧ (∀ kvs, Equiv (.dict (mirrorPairsRev kvs)) (.dict kvs)) ∧
    (∀ l, Equiv (.list (mirrorList l)) (.list l)) := by
  apply enc.mutual_induct
  case case7 | case8 => intro l ih; rw [mirror]; exact ih
  case case10 => intro v t hv ht; exact .listCons hv ht
  -- the item that went in first comes back last: as a finite map it is the same dict
  case case12 =>
    intro k v t ht hk hv
    exact .trans (.dictPerm (List.perm_append_singleton _ _)) (.dictCons hk hv ht)
  all_goals intros; exact .refl _

theorem mirror_involutive_all : (∀ v, mirror (mirror v) = v) ∧ (∀ kvs, mirrorPairsRev (mirrorPairsRev kvs) = kvs) ∧
    (∀ l, mirrorList (mirrorList l) = l) := by
  apply enc.mutual_induct <;> simp_all [mirror, mirrorList, mirrorPairsRev, mirrorPairsRev_append]

theorem depthList_le (l : List Value) (d : Nat) : depthList l ≤ d ↔ ∀ v ∈ l, depth v + 1 ≤ d := by
  induction l with
  | nil => simp [depthList]
  | cons v t ih => simp [depthList, Nat.max_le, ih]

theorem depthPairs_le (kvs : List (Value × Value)) (d : Nat) :
    depthPairs kvs ≤ d ↔ ∀ p ∈ kvs, depth p.1 + 1 ≤ d ∧ depth p.2 + 1 ≤ d := by
  induction kvs with
  | nil => simp [depthPairs]
  | cons p t ih =>
    obtain ⟨k, v⟩ := p
    simp only [depthPairs, Nat.max_le, ih, List.mem_cons, forall_eq_or_imp]

theorem enc_is_frame (v : Value) : ∃ payload tag, enc v = frame payload tag := by
  cases v <;> simp only [enc] <;> exact ⟨_, _, rfl⟩

theorem enc_head_digit (v : Value) : ∃ c cs, enc v = c :: cs ∧ isDigit c = true := by
  obtain ⟨payload, tag, he⟩ := enc_is_frame v
  obtain ⟨c, t, hs, hc⟩ := natDec_head payload.length
  exact ⟨c, t ++ 0x3a :: (payload ++ [tag]), by rw [he, frame, hs]; rfl, hc⟩

theorem enc_length_ge (v : Value) : 3 ≤ (enc v).length := by
  obtain ⟨payload, tag, h⟩ := enc_is_frame v
  have := natDec_len_pos payload.length
  rw [h, frame_length]; omega

theorem span_ok (n : Nat) (h : n < sizeLimit) : (natDec n).length ≤ maxStrDigits :=
  natDec_len_le n maxStrDigits (by decide) h

theorem pop_frame (f d : Nat) (payload : Bytes) (tag : UInt8) (r : Bytes)
    (h : (natDec payload.length).length ≤ maxStrDigits) :
    pop (f + 1) d (frame payload tag ++ r) =
      match parseTop f d tag payload with
      | .ok v => .ok (v, r)
      | .error e => .error e := by
  rw [frame_append]
  simp only [pop, split_frame _ _ h, slice3_frame, parseTop]
  split
  · split <;> simp_all
  · split
    · split <;> simp_all
    · rfl

theorem hashable_mirror (k : Value) (h : hashable k = true) : mirror k = k := by
  cases k <;> simp [hashable] at h <;> simp [mirror]

theorem cons_of_enc_append (v : Value) (rest : Bytes) : ∃ c cs, enc v ++ rest = c :: cs := by
  obtain ⟨c, cs, h, _⟩ := enc_head_digit v
  exact ⟨c, cs ++ rest, by rw [h]; rfl⟩

/-- the round trip, for every fuel ≥ the encoded length and every head-room ≥ depth. A dict's items are encoded last
    first, so for `popDict` the statement is about what FOLLOWS the encoded items: once the items of `kvs` are read
    off the front, `popDict` goes on with the rest (`g`: fuel that is enough there). -/
theorem pop_enc_all :
    (∀ v r f d, WF v → (enc v).length < sizeLimit → (enc v).length ≤ f → depth v ≤ d →
      pop f d (enc v ++ r) = .ok (mirror v, r)) ∧
    (∀ kvs tail rest g f d, WFPairs kvs → (encPairsRev kvs).length < sizeLimit → depthPairs kvs ≤ d →
      (∀ g', g ≤ g' → popDict g' d tail = .ok rest) → (encPairsRev kvs).length + g ≤ f →
      popDict f d (encPairsRev kvs ++ tail) = .ok (mirrorPairsRev kvs ++ rest)) ∧
    (∀ l f d, WFList l → (encList l).length < sizeLimit → (encList l).length + 1 ≤ f → depthList l ≤ d →
      popList f d (encList l) = .ok (mirrorList l)) := by
  -- whatever the value, its encoding is a frame, and `pop` hands the payload to `parseTop` with one unit of fuel less
  have step : ∀ v payload tag, enc v = frame payload tag → ∀ r f d, (enc v).length < sizeLimit → (enc v).length ≤ f →
      pop f d (enc v ++ r) = match parseTop (f - 1) d tag payload with
        | .ok w => .ok (w, r)
        | .error e => .error e := by
    intro v payload tag he r f d hsz hf
    have := enc_length_ge v
    obtain ⟨f', rfl⟩ : ∃ f', f = f' + 1 := ⟨f - 1, by omega⟩
    rw [he] at hsz ⊢
    exact pop_frame _ _ _ _ _ (span_ok _ (by rw [frame_length] at hsz; omega))
  apply enc.mutual_induct
  case case1 | case5 =>
    intros
    rw [step _ _ _ rfl _ _ _ ‹_› ‹_›]
    simp [parseTop, parseScalar, mirror]
  case case2 =>
    intro b r f d _ hsz hf _
    rw [step _ _ _ rfl _ _ _ hsz hf]
    cases b <;> simp [parseTop, parseScalar, mirror, bTrue, bFalse]
  case case3 =>
    intro i r f d hwf hsz hf _
    rw [step _ _ _ rfl _ _ _ hsz hf]
    have h := pyIntSM_intDec i hwf
    cases hp : pyIntSM (intDec i) with
    | none => rw [hp] at h; simp at h
    | some sm =>
      rw [hp] at h
      simp only [Option.map_some, Option.some.injEq] at h
      simp [parseTop, parseScalar, hp, h, mirror]
  case case4 | case6 =>
    intro t r f d hwf hsz hf _
    rw [step _ _ _ rfl _ _ _ hsz hf]
    simp only [WF] at hwf
    simp [parseTop, parseScalar, hwf, mirror]
  case case7 =>
    intro l ih r f d hwf hsz hf hd
    rw [step _ _ _ rfl _ _ _ hsz hf]
    simp only [enc, frame_length] at hsz hf
    simp [parseTop, ih (f - 1) d hwf (by omega) (by omega) hd, mirror]
  case case8 =>
    intro kvs ih r f d hwf hsz hf hd
    rw [step _ _ _ rfl _ _ _ hsz hf]
    simp only [enc, frame_length] at hsz hf
    have := ih [] [] 1 (f - 1) d hwf (by omega) hd (fun g' _ => by cases g' <;> rfl) (by omega)
    simp only [List.append_nil] at this
    simp [parseTop, this, mirror]
  case case9 => intro f d _ _ _ _; cases f <;> rfl
  case case10 =>
    intro v t hv ht f d hwf hsz hf hd
    rw [encList] at hsz hf ⊢
    rw [depthList, Nat.max_le] at hd
    simp only [List.length_append] at hsz hf
    have := enc_length_ge v
    obtain ⟨c, cs, hcs⟩ := cons_of_enc_append v (encList t)
    obtain ⟨f', rfl⟩ : ∃ f', f = f' + 1 := ⟨f - 1, by omega⟩
    obtain ⟨hd0, hsv, hfv, hdv, hst, hft⟩ : d ≠ 0 ∧ (enc v).length < sizeLimit ∧ (enc v).length ≤ f' ∧ depth v ≤ d - 1 ∧
        (encList t).length < sizeLimit ∧ (encList t).length + 1 ≤ f' := by omega
    rw [hcs]
    simp only [popList, hd0, if_false]
    rw [← hcs, hv _ f' (d - 1) hwf.1 hsv hfv hdv]
    simp only []
    rw [ht f' d hwf.2 hst hft hd.2]
    rfl
  case case11 => intro tail rest g f d _ _ _ htail hf; exact htail f (by simpa [encPairsRev] using hf)
  case case12 =>
    intro k v t ht hk hv tail rest g f d hwf hsz hd htail hf
    rw [encPairsRev] at hsz hf ⊢
    rw [depthPairs, Nat.max_le, Nat.max_le] at hd
    simp only [List.length_append] at hsz hf
    have := enc_length_ge k
    have := enc_length_ge v
    obtain ⟨⟨hwk, hhk, hwv⟩, hwt⟩ := hwf
    have hd0 : d ≠ 0 := by omega
    simp only [mirrorPairsRev, List.append_assoc]
    -- the items of `t` are read first; what is left starts with `k`, `v`
    apply ht _ _ ((enc k).length + (enc v).length + g - 1) f d hwt (by omega) hd.2 ?_ (by omega)
    intro g' hg'
    obtain ⟨g', rfl⟩ : ∃ g'', g' = g'' + 1 := ⟨g' - 1, by omega⟩
    obtain ⟨hsk, hsv, hfk, hfv, hg, hdk, hdv⟩ : (enc k).length < sizeLimit ∧ (enc v).length < sizeLimit ∧
        (enc k).length ≤ g' ∧ (enc v).length ≤ g' ∧ g ≤ g' ∧ depth k ≤ d - 1 ∧ depth v ≤ d - 1 := by omega
    obtain ⟨c, cs, hcs⟩ := cons_of_enc_append k (enc v ++ tail)
    rw [hcs]
    simp only [popDict, hd0, if_false]
    rw [← hcs, hk _ g' (d - 1) hwk hsk hfk hdk]
    simp only []
    rw [hv _ g' (d - 1) hwv hsv hfv hdv]
    simp only [hashable_mirror k hhk, hhk, Bool.not_true, Bool.false_eq_true, if_false]
    rw [htail g' hg]
    rfl

theorem pop_enc (v : Value) (r : Bytes) (f d : Nat) : WF v → (enc v).length < sizeLimit → (enc v).length ≤ f →
    depth v ≤ d → pop f d (enc v ++ r) = .ok (mirror v, r) := pop_enc_all.1 v r f d

theorem natDec_small : natDec 0 = [0x30] ∧ natDec 4 = [0x34] ∧ natDec 5 = [0x35] := by decide

theorem rdumpq_eq :
    (∀ v q s, rdumpq q s v = (enc v ++ q, s + (enc v).length)) ∧
    (∀ kvs q s, rdumpPairs q s kvs = (encPairsRev kvs ++ q, s + (encPairsRev kvs).length)) ∧
    (∀ l q s, rdumpItems q s l = (encList l ++ q, s + (encList l).length)) := by
  apply enc.mutual_induct
  case case1 => intro q s; simp [rdumpq, enc, frame, natDec_small.1]
  case case2 =>
    intro b q s
    cases b <;> simp [rdumpq, enc, frame, bTrue, bFalse, natDec_small.2.1, natDec_small.2.2]
  case case3 | case4 | case5 | case6 =>
    intro x q s
    simp only [rdumpq, enc, frame_append, frame_length]
    congr 1; omega
  case case7 | case8 =>
    intro l ih q s
    simp only [rdumpq, ih, enc, frame_append, frame_length, Nat.add_sub_cancel_left]
    congr 1; omega
  case case9 => intro q s; simp [rdumpItems, encList]
  case case10 =>
    intro v t hv ht q s
    simp only [rdumpItems, ht, hv, encList, List.append_assoc, List.length_append]
    congr 1; omega
  case case11 => intro q s; simp [rdumpPairs, encPairsRev]
  case case12 =>
    intro k v t ht hk hv q s
    simp only [rdumpPairs, hv, hk, ht, encPairsRev, List.append_assoc, List.length_append]
    congr 1; omega

theorem dumps_enc (v : Value) : dumps v = enc v := by simp [dumps, rdumpq_eq.1 v [] 0]

theorem load_digits (m d : Nat) (ds body : Bytes) (hne : ds ≠ []) (hdig : ∀ c ∈ ds, isDigit c = true)
    (h12 : ds.length ≤ 12) :
    load m d (ds ++ 0x3a :: body) =
      if decVal ds > m then .error .memory else
      match body.drop (decVal ds) with
      | [] => .error .index
      | tag :: rest =>
        match parseTop ((ds ++ 0x3a :: body).length + 2) d tag (body.take (decVal ds)) with
        | .ok v => .ok (v, rest)
        | .error e => .error e := by
  have htw := takeWhile_stop isDigit ds 0x3a body hdig (by decide)
  have hds : ds.isEmpty = false := by cases ds <;> simp_all
  have hs : (ds ++ 0x3a :: body).isEmpty = false := by cases ds <;> simp_all
  have hl : ¬ ds.length > 12 := by omega
  unfold load
  simp only [hs, htw.1, htw.2, hds, hl, Bool.false_eq_true, if_false, ne_eq, not_true_eq_false]
  rfl

theorem load_frame (m d : Nat) (payload : Bytes) (tag : UInt8) (r : Bytes)
    (h12 : (natDec payload.length).length ≤ 12) :
    load m d (frame payload tag ++ r) =
      if payload.length > m then .error .memory else
      match parseTop ((frame payload tag ++ r).length + 2) d tag payload with
      | .ok v => .ok (v, r)
      | .error e => .error e := by
  rw [frame_append, load_digits m d _ _ (natDec_ne_nil _) (natDec_digits _) h12, decVal_natDec]
  simp

theorem pow12_le_sizeLimit : 10 ^ 12 ≤ sizeLimit := by
  unfold sizeLimit maxStrDigits
  exact Nat.pow_le_pow_right (by decide) (by decide)

theorem load_enc (v : Value) (r : Bytes) (m d : Nat) (hwf : WF v) (h12 : (enc v).length < 10 ^ 12)
    (hm : (enc v).length ≤ m) (hd : depth v ≤ d) : load m d (enc v ++ r) = .ok (mirror v, r) := by
  obtain ⟨payload, tag, he⟩ := enc_is_frame v
  have hsz : (enc v).length < sizeLimit := Nat.lt_of_lt_of_le h12 pow12_le_sizeLimit
  have hpl : payload.length < (enc v).length := by rw [he, frame_length]; omega
  have hd12 : (natDec payload.length).length ≤ 12 := natDec_len_le _ 12 (by decide) (by omega)
  have hrt := pop_enc v r ((enc v ++ r).length + 2 + 1) d hwf hsz (by simp; omega) hd
  rw [he] at hrt ⊢
  rw [pop_frame _ _ _ _ _ (span_ok _ (by omega))] at hrt
  rw [load_frame m d payload tag r hd12]
  have : ¬ payload.length > m := by omega
  simp only [this, if_false]
  cases hp : parseTop ((frame payload tag ++ r).length + 2) d tag payload with
  | error e => rw [hp] at hrt; simp at hrt
  | ok x => rw [hp] at hrt; simpa using hrt

/-- reading a record that was cut anywhere strictly inside fails, and not with the end-of-file signal -/
theorem load_prefix_err (m d : Nat) (payload : Bytes) (tag : UInt8) (q w : Bytes)
    (h12 : (natDec payload.length).length ≤ 12) (hq : q ≠ []) (hw : w ≠ [])
    (hqw : q ++ w = frame payload tag) :
    ∃ e, load m d q = .error e ∧ e ≠ .emptyFile ∧ e ≠ .fuel := by
  have hdig := natDec_digits payload.length
  -- a non-empty run of digits that stops short of the colon
  have alldig : ∀ q : Bytes, q ≠ [] → (∀ c ∈ q, isDigit c = true) → q.length ≤ 12 →
      load m d q = .error .value := by
    intro q hq hd hl
    have htw := takeWhile_all isDigit q hd
    have he : q.isEmpty = false := by cases q <;> simp_all
    have : ¬ q.length > 12 := by omega
    unfold load
    simp only [he, Bool.false_eq_true, if_false, htw.1, htw.2, this]
  unfold frame at hqw
  rcases List.append_eq_append_iff.mp hqw with ⟨a', h1, h2⟩ | ⟨c', h1, h2⟩
  · refine ⟨.value, alldig q hq (fun c hc => hdig c (by rw [h1]; simp [hc])) ?_, by decide, by decide⟩
    have := congrArg List.length h1; simp at this; omega
  · cases c' with
    | nil =>
      simp at h1
      exact ⟨.value, alldig q hq (fun c hc => hdig c (h1 ▸ hc)) (h1 ▸ h12), by decide, by decide⟩
    | cons x c'' =>
      -- the cut lies behind the colon: the announced payload and its tag are not all there
      simp only [List.cons_append, List.cons.injEq] at h2
      obtain ⟨rfl, hbody⟩ := h2
      have hlen : c''.length ≤ payload.length := by
        have := congrArg List.length hbody
        simp at this
        have : 0 < w.length := List.length_pos_iff.mpr hw
        omega
      rw [h1, load_digits m d _ _ (natDec_ne_nil _) hdig h12, decVal_natDec, List.drop_eq_nil_of_le hlen]
      by_cases hmm : payload.length > m
      · exact ⟨.memory, by simp [hmm], by decide, by decide⟩
      · exact ⟨.index, by simp [hmm], by decide, by decide⟩

theorem pyIntSM_nil : pyIntSM [] = none := by decide

theorem split_ok_length (data : Bytes) (sm : Bool × Nat) (body : Bytes)
    (h : split data = .ok (sm, body)) : body.length + 2 ≤ data.length := by
  revert h
  fun_cases split data <;> intro h <;> cases h
  next pre hp hs =>
    have hpre : 0 < pre.length := List.length_pos_iff.mpr (fun hnil => by rw [hnil, pyIntSM_nil] at hp; cases hp)
    rw [splitColon_eq] at hs
    rw [(splitFirst_some hs).1, List.length_append, List.length_cons]
    omega

theorem split_err (data : Bytes) (e : Err) (h : split data = .error e) : e = .value := by
  revert h
  fun_cases split data <;> intro h <;> cases h <;> rfl

theorem slice3_length (body : Bytes) (sm : Bool × Nat) (p : Bytes) (t : UInt8) (rem : Bytes)
    (h : slice3 body sm = some (p, t, rem)) : p.length ≤ body.length ∧ rem.length ≤ body.length := by
  revert h
  fun_cases slice3 body sm <;> intro h <;> cases h <;> simp [List.length_take, List.length_drop] <;> omega

theorem parseScalar_err (tag : UInt8) (data : Bytes) (e : Err) (h : parseScalar tag data = .error e) :
    e = .value := by
  revert h
  fun_cases parseScalar tag data <;> intro h <;> cases h <;> rfl

theorem pop_ok_length (f d : Nat) (data : Bytes) (v : Value) (rest : Bytes)
    (h : pop f d data = .ok (v, rest)) : rest.length + 2 ≤ data.length := by
  revert h
  fun_cases pop f d data <;> intro h <;> cases h
  all_goals
    have := split_ok_length _ _ _ ‹split data = _›
    have := (slice3_length _ _ _ _ _ ‹slice3 _ _ = _›).2
    omega

theorem no_fuel : ∀ f,
    (∀ d data, data.length + 1 ≤ f → pop f d data ≠ .error .fuel) ∧
    (∀ d data, data.length + 2 ≤ f → popList f d data ≠ .error .fuel) ∧
    (∀ d data, data.length + 2 ≤ f → popDict f d data ≠ .error .fuel) := by
  intro f
  induction f with
  | zero => refine ⟨?_, ?_, ?_⟩ <;> intro d data hl <;> omega
  | succ f ih =>
    obtain ⟨ih1, ih2, ih3⟩ := ih
    refine ⟨?_, ?_, ?_⟩ <;> intro d data hl <;> generalize hf : f + 1 = f' <;> intro h <;> revert h
    · fun_cases pop f' d data <;> intro h <;> cases h <;> cases hf
      next hs => cases split_err _ _ hs
      next h3 hs hp =>
        have := split_ok_length _ _ _ hs
        have := (slice3_length _ _ _ _ _ h3).1
        exact ih2 _ _ (by omega) hp
      next h3 _ hs hp =>
        have := split_ok_length _ _ _ hs
        have := (slice3_length _ _ _ _ _ h3).1
        exact ih3 _ _ (by omega) hp
      next hp => cases parseScalar_err _ _ _ hp
    · fun_cases popList f' d data <;> intro h <;> cases h <;> cases hf
      next hp => exact ih1 _ _ (by omega) hp
      next hp hl2 =>
        have := pop_ok_length _ _ _ _ _ hp
        exact ih2 _ _ (by simp only [List.length_cons] at *; omega) hl2
    · fun_cases popDict f' d data <;> intro h <;> cases h <;> cases hf
      next hp => exact ih1 _ _ (by omega) hp
      next hp hp2 =>
        have := pop_ok_length _ _ _ _ _ hp
        exact ih1 _ _ (by simp only [List.length_cons] at *; omega) hp2
      next hp hp2 hl2 =>
        have := pop_ok_length _ _ _ _ _ hp
        have := pop_ok_length _ _ _ _ _ hp2
        exact ih3 _ _ (by simp only [List.length_cons] at *; omega) hl2

theorem parseTop_no_fuel (f d : Nat) (tag : UInt8) (data : Bytes) (h : data.length + 2 ≤ f) :
    parseTop f d tag data ≠ .error .fuel := by
  fun_cases parseTop f d tag data <;> intro hfuel
  case case5 => cases parseScalar_err _ _ _ hfuel
  all_goals cases hfuel
  next hl => exact (no_fuel f).2.1 d data h hl
  next hl => exact (no_fuel f).2.2 d data h hl

/-- every error of `load` is one of the classes the reader's outer `except` names -/
theorem load_err_caught (m d : Nat) (s : Bytes) (e : Err) (h : load m d s = .error e) :
    caughtOuter e = true := by
  revert h
  fun_cases load m d s <;> intro h <;> cases h
  case case9 _ _ _ c body hdw _ _ n _ tag rest hdrop hp =>
    have h1 : (List.dropWhile isDigit s).length ≤ s.length := (List.dropWhile_sublist isDigit).length_le
    rw [hdw] at h1
    have := parseTop_no_fuel (s.length + 2) d tag (body.take n) (by simp [List.length_take] at h1 ⊢; omega)
    cases e <;> first | rfl | exact absurd hp this
  all_goals rfl

theorem load_ok_length (m d : Nat) (s : Bytes) (v : Value) (rest : Bytes) (h : load m d s = .ok (v, rest)) :
    rest.length + 2 ≤ s.length := by
  revert h
  fun_cases load m d s <;> intro h <;> cases h
  case case8 _ _ _ c body hdw _ _ n _ tag hp hdrop =>
    have h1 : (List.dropWhile isDigit s).length ≤ s.length := (List.dropWhile_sublist isDigit).length_le
    have h2 := congrArg List.length hdrop
    simp [hdw] at h1 h2
    omega

/-- records `vs` standing at file positions i, i+1, …: each is a well-formed dict state within the reader's
    limits and `from_state ∘ migrate_flow` turns it (as loaded) into the corresponding flow of `fl` -/
def Good {α : Type} (env : Env α) : Nat → List Value → List α → Prop
  | _, [], [] => True
  | i, v :: vt, x :: xt =>
    (WF v ∧ isDict v = true ∧ (enc v).length < 10 ^ 12 ∧ (enc v).length ≤ env.memLimit ∧ depth v ≤ env.depth
      ∧ env.fromState i (mirror v) = .ok x) ∧ Good env (i + 1) vt xt
  | _, _, _ => False

theorem isDict_mirror (v : Value) : isDict (mirror v) = isDict v := by
  cases v <;> simp [mirror, isDict]

theorem Good.length {α : Type} (env : Env α) : ∀ (vs : List Value) (fl : List α) (i : Nat),
    Good env i vs fl → vs.length = fl.length := by
  intro vs
  induction vs with
  | nil => intro fl i h; cases fl <;> simp_all [Good]
  | cons v vt ih =>
    intro fl i h
    cases fl with
    | nil => simp [Good] at h
    | cons x xt => simp only [Good] at h; simp [ih xt (i + 1) h.2]

theorem streamLoop_nil {α : Type} (env : Env α) (g i : Nat) (h : 1 ≤ g) :
    streamLoop env g i [] = ([], .clean) := by
  cases g with
  | zero => omega
  | succ g => simp [streamLoop, load]

theorem streamLoop_cut {α : Type} (env : Env α) (g i : Nat) (h : 1 ≤ g) (v : Value) (q w : Bytes)
    (h12 : (enc v).length < 10 ^ 12) (hq : q ≠ []) (hw : w ≠ []) (hqw : q ++ w = enc v) :
    streamLoop env g i q = ([], .flowRead) := by
  obtain ⟨payload, tag, he⟩ := enc_is_frame v
  have hpl : payload.length < (enc v).length := by rw [he, frame_length]; omega
  have hd12 : (natDec payload.length).length ≤ 12 := natDec_len_le _ 12 (by decide) (by omega)
  obtain ⟨e, hl, hne, _⟩ := load_prefix_err env.memLimit env.depth payload tag q w hd12 hq hw (by rw [hqw, he])
  have hc := load_err_caught _ _ _ _ hl
  cases g with
  | zero => omega
  | succ g => simp [streamLoop, hl, hne, hc]

theorem sniff_digit (c : UInt8) (cs : Bytes) (h : isDigit c = true) : sniff (c :: cs) = (false, c :: cs) := by
  have h1 : c ≠ 0xef := by intro hc; subst hc; simp [isDigit] at h
  have h2 : c ≠ 0x7b := by intro hc; subst hc; simp [isDigit] at h
  have hb : ¬ (List.take 4 (c :: cs) = bom ++ [0x7b]) := by
    intro heq
    simp [bom] at heq
    exact h1 heq.1
  unfold sniff
  simp only [hb, if_false, List.head?_cons, Option.some.injEq, h2, decide_false]

theorem sniff_nil : sniff [] = (false, []) := by decide

/-- the reader never runs out of model fuel and ends with `escapes` only if from_state raises a non-Exception -/
theorem streamLoop_no_escape {α : Type} (env : Env α)
    (hfs : ∀ i v, env.fromState i v ≠ .error .nonException) :
    ∀ (f i : Nat) (s : Bytes), s.length + 1 ≤ f → (streamLoop env f i s).2 ≠ .escapes := by
  intro f
  induction f with
  | zero => intro i s h; omega
  | succ f ih =>
    intro i s h
    simp only [streamLoop]
    cases hl : load env.memLimit env.depth s with
    | error e =>
      simp only []
      have hc := load_err_caught _ _ _ _ hl
      by_cases he : e = .emptyFile
      · simp [he]
      · simp [he, hc]
    | ok p =>
      obtain ⟨v, rest⟩ := p
      simp only []
      have hlen := load_ok_length _ _ _ _ _ hl
      split
      · simp
      · cases hf : env.fromState i v with
        | error x =>
          cases x with
          | valueError => simp
          | exception => simp
          | nonException => exact absurd hf (hfs i v)
        | ok fl =>
          simp only []
          exact ih (i + 1) rest (by omega)

/-- a reader whose `from_state` has a check in front: it answers like `env` or refuses with a subclass of `Exception` -/
def Stricter {α : Type} (env' env : Env α) : Prop :=
  ∀ i v, env'.fromState i v = env.fromState i v ∨ env'.fromState i v = .error .valueError ∨
    env'.fromState i v = .error .exception

theorem Stricter.ne_nonException {α : Type} {env' env : Env α} (h : Stricter env' env)
    (hfs : ∀ i v, env.fromState i v ≠ .error .nonException) (i : Nat) (v : Value) :
    env'.fromState i v ≠ .error .nonException := by
  rcases h i v with h | h | h <;> rw [h]
  · exact hfs i v
  · nofun
  · nofun

/-- the reader loop over whole records followed by ANY bytes: the records' flows come first, then whatever the
    loop makes of the tail (with the fuel that is left) -/
theorem stream_records_tail {α : Type} (env : Env α) : ∀ (vs : List Value) (fl : List α) (i g : Nat)
    (tail : Bytes), Good env i vs fl →
    streamLoop env (vs.length + g) i (encList vs ++ tail)
      = (fl ++ (streamLoop env g (i + vs.length) tail).1, (streamLoop env g (i + vs.length) tail).2) := by
  intro vs
  induction vs with
  | nil =>
    intro fl i g tail hg
    cases fl with
    | nil => simp [encList]
    | cons _ _ => simp [Good] at hg
  | cons v vt ih =>
    intro fl i g tail hg
    cases fl with
    | nil => simp [Good] at hg
    | cons x xt =>
      simp only [Good] at hg
      obtain ⟨⟨hwf, hdict, h12, hm, hd, hfs⟩, hrest⟩ := hg
      have henc : encList (v :: vt) ++ tail = enc v ++ (encList vt ++ tail) := by simp [encList]
      have hfuel : (v :: vt).length + g = (vt.length + g) + 1 := by simp; omega
      rw [henc, hfuel]
      simp only [streamLoop, load_enc v _ env.memLimit env.depth hwf h12 hm hd, isDict_mirror, hdict,
        Bool.not_true, Bool.false_eq_true, if_false, hfs]
      rw [ih xt (i + 1) g tail hrest]
      have : i + 1 + vt.length = i + (v :: vt).length := by simp; omega
      simp [this]

theorem length_le_encList : ∀ l : List Value, l.length ≤ (encList l).length := by
  intro l
  induction l with
  | nil => simp
  | cons v t ih => have := enc_length_ge v; simp [encList]; omega

/-- a record file does not look like a HAR file: the reader takes the tnetstring branch -/
theorem sniff_enc (v : Value) (r : Bytes) : sniff (enc v ++ r) = (false, enc v ++ r) := by
  obtain ⟨c, cs, hc, hdig⟩ := enc_head_digit v
  rw [hc]; exact sniff_digit c _ hdig

theorem sniff_encList (vs : List Value) (tail : Bytes) (h : vs = [] → sniff tail = (false, tail)) :
    sniff (encList vs ++ tail) = (false, encList vs ++ tail) := by
  cases vs with
  | nil => simpa [encList] using h rfl
  | cons v vt =>
    rw [show encList (v :: vt) ++ tail = enc v ++ (encList vt ++ tail) by simp [encList]]
    exact sniff_enc _ _

theorem readAll_records {α : Type} (env : Env α) (vs : List Value) (fl : List α) (tail : Bytes) (hgood : Good env 0 vs fl)
    (hs : sniff (encList vs ++ tail) = (false, encList vs ++ tail)) :
    ∃ g, 1 ≤ g ∧ readAll env (encList vs ++ tail)
      = (fl ++ (streamLoop env g vs.length tail).1, (streamLoop env g vs.length tail).2) := by
  have hl := length_le_encList vs
  refine ⟨(encList vs ++ tail).length + 1 - vs.length, by simp; omega, ?_⟩
  unfold readAll
  simp only [hs, Bool.false_eq_true, if_false]
  rw [show (encList vs ++ tail).length + 1 = vs.length + ((encList vs ++ tail).length + 1 - vs.length) by simp; omega,
    stream_records_tail env vs fl 0 _ tail hgood, Nat.zero_add]
  simp

/-- a well-formed dict record that the reader's `from_state` refuses (ValueError or another Exception) ends the read
    with FlowReadException after exactly the flows of the good records before it -/
theorem refusing_record_stops {α : Type} (env : Env α) (vs : List Value) (fl : List α)
    (hgood : Good env 0 vs fl) (v : Value) (tail : Bytes)
    (hwf : WF v) (hdict : isDict v = true) (h12 : (enc v).length < 10 ^ 12)
    (hm : (enc v).length ≤ env.memLimit) (hd : depth v ≤ env.depth)
    (hfs : ∀ i, env.fromState i (mirror v) = .error .valueError ∨ env.fromState i (mirror v) = .error .exception) :
    readAll env (encList vs ++ (enc v ++ tail)) = (fl, .flowRead) := by
  obtain ⟨g, hg, hr⟩ := readAll_records env vs fl _ hgood (sniff_encList vs _ fun _ => sniff_enc v tail)
  obtain ⟨g', rfl⟩ : ∃ g', g = g' + 1 := ⟨g - 1, by omega⟩
  rw [hr]
  simp only [streamLoop, load_enc v tail _ _ hwf h12 hm hd, isDict_mirror, hdict, Bool.not_true,
    Bool.false_eq_true, if_false]
  rcases hfs vs.length with h | h <;> simp [h]

/-- what the reader theorems ask of a single record. The length is taken from `_rdumpq`'s size accounting, which
    does not build the bytes. -/
def readableB (m d : Nat) (v : Value) : Bool :=
  wfB v && isDict v && decide ((rdumpq [] 0 v).2 < 10 ^ 12) && decide ((rdumpq [] 0 v).2 ≤ m) && decide (depth v ≤ d)

theorem readableB_sound {m d : Nat} {v : Value} (h : readableB m d v = true) :
    WF v ∧ isDict v = true ∧ (enc v).length < 10 ^ 12 ∧ (enc v).length ≤ m ∧ depth v ≤ d := by
  simp only [readableB, rdumpq_eq.1 v [] 0, Nat.zero_add, Bool.and_eq_true, decide_eq_true_eq] at h
  exact ⟨wfB_sound.1 v h.1.1.1.1, h.1.1.1.2, h.1.1.2, h.1.2, h.2⟩

def okIs {ε α : Type} [DecidableEq α] (r : Except ε α) (x : α) : Bool :=
  match r with
  | .ok y => y = x
  | .error _ => false

theorem okIs_sound {ε α : Type} [DecidableEq α] {r : Except ε α} {x : α} (h : okIs r x = true) : r = .ok x := by
  cases r <;> simp_all [okIs]

def goodB {α : Type} [DecidableEq α] (env : Env α) : Nat → List Value → List α → Bool
  | _, [], [] => true
  | i, v :: vt, x :: xt =>
    readableB env.memLimit env.depth v && okIs (env.fromState i (mirror v)) x && goodB env (i + 1) vt xt
  | _, _, _ => false

theorem goodB_sound {α : Type} [DecidableEq α] (env : Env α) (i : Nat) (vs : List Value) (fl : List α)
    (h : goodB env i vs fl = true) : Good env i vs fl := by
  fun_induction goodB env i vs fl with
  | case1 => trivial
  | case2 i v vt x xt ih =>
    simp only [Bool.and_eq_true] at h
    obtain ⟨hw, hd, h12, hm, hdp⟩ := readableB_sound h.1.1
    exact ⟨⟨hw, hd, h12, hm, hdp, okIs_sound h.1.2⟩, ih h.2⟩
  | case3 => cases h

end MitmVerif.C36
