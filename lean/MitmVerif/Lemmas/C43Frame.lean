/-
  C43 — what the small steps leave alone.  Writes to settings and cache (`ensure`, `setCache`, `baseAdd`) touch nothing
  else but the list (`Rest`).  The focus side — `probe`, the focus setter and the three focus handlers — changes nothing
  the invariant looks at (`Frame`) and, under the precondition their callers establish, raises nothing and leaves a
  valid focus (`FocusOK`): together, `Refocus`.  The operations `go`, `next` and `prev` are such steps.  `sigs s` is the
  trace without `Focus.sig_change`; every later statement about signals speaks of it.
-/
import MitmVerif.Model.C43
namespace MitmVerif.C43

/-- signals other than `Focus.sig_change` -/
def sigs (s : VS) : List Sig := s.trace.filter (fun g => g != .fchange)

theorem mem_sigs (s : VS) (x : Sig) : x ∈ sigs s ↔ x ∈ s.trace ∧ x ≠ .fchange := by
  simp [sigs, List.mem_filter]

theorem sigs_emit_fchange (s : VS) : sigs (emit s .fchange) = sigs s := by
  simp [sigs, emit, List.filter_append]

theorem sigs_emit (s : VS) (g : Sig) (hg : g ≠ .fchange) : sigs (emit s g) = sigs s ++ [g] := by
  simp [sigs, emit, List.filter_append, hg]

/-- the fields that `ensure`, `setCache` and `baseAdd` leave alone: all but settings, cache and list -/
structure Rest (s s' : VS) : Prop where
  attrs : s'.attrs = s.attrs
  store : s'.store = s.store
  filt : s'.filt = s.filt
  showMarked : s'.showMarked = s.showMarked
  slot : s'.slot = s.slot
  reversed : s'.reversed = s.reversed
  focusFollow : s'.focusFollow = s.focusFollow
  focus : s'.focus = s.focus
  crash : s'.crash = s.crash
  trace : s'.trace = s.trace
  err : s'.err = s.err

theorem Rest.refl (s : VS) : Rest s s := ⟨rfl, rfl, rfl, rfl, rfl, rfl, rfl, rfl, rfl, rfl, rfl⟩

theorem Rest.trans {a b c : VS} (h1 : Rest a b) (h2 : Rest b c) : Rest a c :=
  ⟨h2.attrs.trans h1.attrs, h2.store.trans h1.store, h2.filt.trans h1.filt, h2.showMarked.trans h1.showMarked,
    h2.slot.trans h1.slot, h2.reversed.trans h1.reversed, h2.focusFollow.trans h1.focusFollow,
    h2.focus.trans h1.focus, h2.crash.trans h1.crash, h2.trace.trans h1.trace, h2.err.trans h1.err⟩

theorem gen_eq_of {s s' : VS} (ha : s'.attrs = s.attrs) (hs : s'.slot = s.slot) (g : Nat) : gen s' g = gen s g := by
  simp [gen, ha, hs]

theorem visible_eq_of {s s' : VS} (ha : s'.attrs = s.attrs) (hm : s'.showMarked = s.showMarked)
    (hf : s'.filt = s.filt) (g : Nat) : visible s' g = visible s g := by
  simp [visible, ha, hm, hf]

theorem Rest.gen {s s' : VS} (h : Rest s s') (g : Nat) : gen s' g = gen s g := gen_eq_of h.attrs h.slot g

theorem Rest.visible {s s' : VS} (h : Rest s s') (g : Nat) : visible s' g = visible s g :=
  visible_eq_of h.attrs h.showMarked h.filt g

theorem Rest.sigs {s s' : VS} (h : Rest s s') : sigs s' = sigs s := by simp [C43.sigs, h.trace]

theorem rest_ensure (s : VS) (f : Nat) : Rest s (ensure s f) := by
  unfold ensure
  split <;> exact ⟨rfl, rfl, rfl, rfl, rfl, rfl, rfl, rfl, rfl, rfl, rfl⟩

theorem ensure_view (s : VS) (f : Nat) : (ensure s f).view = s.view := by
  unfold ensure
  split <;> rfl

theorem ensure_cache (s : VS) (f : Nat) : (ensure s f).cache = s.cache := by
  unfold ensure
  split <;> rfl

theorem mem_ensure (s : VS) (f g : Nat) : g ∈ (ensure s f).settings ↔ g ∈ s.settings ∨ g = f := by
  unfold ensure
  split
  · rename_i h
    exact ⟨Or.inl, fun h' => h'.elim id (fun e => e ▸ h)⟩
  · simp

theorem rest_withCache (s : VS) (c : Nat → Nat → Option Nat) : Rest s { s with cache := c } :=
  ⟨rfl, rfl, rfl, rfl, rfl, rfl, rfl, rfl, rfl, rfl, rfl⟩

theorem rest_withView (s : VS) (v : List Nat) : Rest s { s with view := v } :=
  ⟨rfl, rfl, rfl, rfl, rfl, rfl, rfl, rfl, rfl, rfl, rfl⟩

theorem rest_setCache (s : VS) (f v : Nat) : Rest s (setCache s f v) :=
  (rest_ensure s f).trans (rest_withCache _ _)

theorem setCache_view (s : VS) (f v : Nat) : (setCache s f v).view = s.view := ensure_view s f

theorem setCache_cache (s : VS) (f v g sl : Nat) :
    (setCache s f v).cache g sl = if g = f ∧ sl = s.slot then some v else s.cache g sl := rfl

theorem mem_setCache_settings (s : VS) (f v g : Nat) : g ∈ (setCache s f v).settings ↔ g ∈ s.settings ∨ g = f :=
  mem_ensure s f g

/-- what `probe`, the focus setter and the three focus handlers may change: the focus, the crash flag, the
    trace (only by `fchange`), settings entries of stored flows, and cache cells that were empty (filled with the
    fresh key) -/
structure Frame (s s' : VS) : Prop where
  attrs : s'.attrs = s.attrs
  store : s'.store = s.store
  view : s'.view = s.view
  filt : s'.filt = s.filt
  showMarked : s'.showMarked = s.showMarked
  slot : s'.slot = s.slot
  reversed : s'.reversed = s.reversed
  focusFollow : s'.focusFollow = s.focusFollow
  err : s'.err = s.err
  settings : ∀ g, g ∈ s'.settings → g ∈ s.settings ∨ g ∈ s.store
  settingsMono : ∀ g, g ∈ s.settings → g ∈ s'.settings
  cache : ∀ g sl, s'.cache g sl = s.cache g sl ∨ (s.cache g sl = none ∧ sl = s.slot ∧ s'.cache g sl = some (gen s g))
  sigs : sigs s' = sigs s
  crashMono : s.crash = true → s'.crash = true

theorem Frame.refl (s : VS) : Frame s s :=
  ⟨rfl, rfl, rfl, rfl, rfl, rfl, rfl, rfl, rfl, fun _ h => Or.inl h, fun _ h => h, fun _ _ => Or.inl rfl, rfl, fun h => h⟩

theorem Frame.trans {a b c : VS} (h1 : Frame a b) (h2 : Frame b c) : Frame a c := by
  refine ⟨h2.attrs.trans h1.attrs, h2.store.trans h1.store, h2.view.trans h1.view, h2.filt.trans h1.filt,
    h2.showMarked.trans h1.showMarked, h2.slot.trans h1.slot, h2.reversed.trans h1.reversed,
    h2.focusFollow.trans h1.focusFollow, h2.err.trans h1.err, ?_, ?_, ?_, h2.sigs.trans h1.sigs, ?_⟩
  · intro g hg
    rcases h2.settings g hg with h | h
    · exact h1.settings g h
    · exact Or.inr (h1.store ▸ h)
  · intro g hg; exact h2.settingsMono g (h1.settingsMono g hg)
  · intro g sl
    rcases h2.cache g sl with h | ⟨hn, hsl, hv⟩
    · rw [h]; exact h1.cache g sl
    · rcases h1.cache g sl with h' | ⟨hn', _, hv'⟩
      · right
        refine ⟨h' ▸ hn, hsl.trans h1.slot, ?_⟩
        rw [hv, gen_eq_of h1.attrs h1.slot]
      · rw [hv'] at hn; cases hn
  · intro h; exact h2.crashMono (h1.crashMono h)

/-- a write to settings and cache that keeps the list, adds settings entries for stored flows only and fills
    only empty cache cells, with the fresh key -/
theorem Frame.of_rest {s s' : VS} (r : Rest s s') (hv : s'.view = s.view)
    (hs : ∀ g, g ∈ s'.settings → g ∈ s.settings ∨ g ∈ s.store) (hm : ∀ g, g ∈ s.settings → g ∈ s'.settings)
    (hc : ∀ g sl, s'.cache g sl = s.cache g sl ∨ (s.cache g sl = none ∧ sl = s.slot ∧ s'.cache g sl = some (gen s g))) :
    Frame s s' :=
  ⟨r.attrs, r.store, hv, r.filt, r.showMarked, r.slot, r.reversed, r.focusFollow, r.err, hs, hm, hc, r.sigs,
    fun h => r.crash ▸ h⟩

theorem Frame.gen {s s' : VS} (h : Frame s s') (g : Nat) : gen s' g = gen s g := gen_eq_of h.attrs h.slot g

theorem Frame.visible {s s' : VS} (h : Frame s s') (g : Nat) : visible s' g = visible s g :=
  visible_eq_of h.attrs h.showMarked h.filt g

def Keep (s s' : VS) : Prop := s'.attrs = s.attrs ∧ s'.store = s.store

theorem Keep.trans {a b c : VS} (h1 : Keep a b) (h2 : Keep b c) : Keep a c := ⟨h2.1.trans h1.1, h2.2.trans h1.2⟩

theorem Keep.of_frame {s s' : VS} (h : Frame s s') : Keep s s' := ⟨h.attrs, h.store⟩

theorem Keep.emit {s t : VS} (h : Keep s t) (g : Sig) : Keep s (emit t g) := h

theorem keep_purge (s : VS) : Keep s (purge s) := ⟨rfl, rfl⟩

theorem frame_ensure (s : VS) (f : Nat) (hf : f ∈ s.store) : Frame s (ensure s f) :=
  Frame.of_rest (rest_ensure s f) (ensure_view s f)
    (fun g hg => ((mem_ensure s f g).mp hg).imp_right (fun (e : g = f) => e ▸ hf))
    (fun g hg => (mem_ensure s f g).mpr (Or.inl hg))
    (fun g sl => Or.inl (by rw [ensure_cache]))

theorem frame_freshen_none (s : VS) (f : Nat) (hf : f ∈ s.store) (hn : s.cache f s.slot = none) :
    Frame s (freshen s f) := by
  refine Frame.of_rest (rest_setCache s f _) (setCache_view s f _)
    (fun g hg => ((mem_ensure s f g).mp hg).imp_right (fun (e : g = f) => e ▸ hf))
    (fun g hg => (mem_ensure s f g).mpr (Or.inl hg)) ?_
  intro g sl
  show (if g = f ∧ sl = s.slot then some (gen s f) else s.cache g sl) = _ ∨ _
  split
  · rename_i h
    obtain ⟨rfl, rfl⟩ := h
    exact Or.inr ⟨hn, rfl, if_pos ⟨rfl, rfl⟩⟩
  · exact Or.inl rfl

/-- the key function writes to settings and cache only, and only what a frame step may -/
theorem okey_quiet (s : VS) (f : Nat) : Frame s (okey s f).1 ∧ Rest s (okey s f).1 := by
  unfold okey
  split
  · rename_i hf
    split
    · exact ⟨frame_ensure s f hf, rest_ensure s f⟩
    · rename_i hn; exact ⟨frame_freshen_none s f hf hn, rest_setCache s f _⟩
  · exact ⟨Frame.refl s, Rest.refl s⟩

theorem probe_quiet (s : VS) (f : Nat) : Frame s (probe s f) ∧ Rest s (probe s f) := by
  unfold probe
  split
  · exact ⟨Frame.refl s, Rest.refl s⟩
  · exact okey_quiet s f

theorem frame_focus_update (s : VS) (o : Option Nat) : Frame s (emit { s with focus := o } .fchange) :=
  ⟨rfl, rfl, rfl, rfl, rfl, rfl, rfl, rfl, rfl, fun _ h => Or.inl h, fun _ h => h, fun _ _ => Or.inl rfl,
    by rw [sigs_emit_fchange]; rfl, fun h => h⟩

/-- the focus is a shown flow, or nothing when nothing is shown -/
def FocusOK (s : VS) : Prop :=
  match s.focus with
  | none => s.view = []
  | some f => f ∈ s.view

theorem focusOK_of_mem {s : VS} {g : Nat} (hf : s.focus = some g) (hg : g ∈ s.view) : FocusOK s := by
  unfold FocusOK; rw [hf]; exact hg

theorem focusOK_of_nil {s : VS} (hf : s.focus = none) (hv : s.view = []) : FocusOK s := by
  unfold FocusOK; rw [hf]; exact hv

theorem focusOK_some {s : VS} (h : FocusOK s) : ∀ g, s.focus = some g → g ∈ s.view := by
  intro g hg; unfold FocusOK at h; rw [hg] at h; exact h

theorem focusOK_same {s s' : VS} (hf : s'.focus = s.focus) (hv : s'.view = s.view) (h : FocusOK s) : FocusOK s' := by
  unfold FocusOK at h ⊢; rw [hf, hv]; exact h

theorem focusOK_emit {s : VS} (g : Sig) (h : FocusOK s) : FocusOK (emit s g) := focusOK_same rfl rfl h

theorem focusOK_of_frame_focus {s s' : VS} (hf : Frame s s') (hfo : s'.focus = s.focus) (h : FocusOK s) : FocusOK s' :=
  focusOK_same hfo hf.view h

/-- a step of the focus side that went well: it changed only what `Frame` allows, raised nothing and left a valid focus.
    Each handler is such a step under the precondition its caller establishes; the branches that raise are thereby
    excluded and never looked at again. -/
structure Refocus (s s' : VS) : Prop where
  frame : Frame s s'
  focus : FocusOK s'
  crash : s'.crash = s.crash

theorem Refocus.refl {s : VS} (h : FocusOK s) : Refocus s s := ⟨Frame.refl s, h, rfl⟩

theorem Refocus.trans {a b c : VS} (h1 : Refocus a b) (h2 : Refocus b c) : Refocus a c :=
  ⟨h1.frame.trans h2.frame, h2.focus, h2.crash.trans h1.crash⟩

theorem refocus_probe {s : VS} (f : Nat) (h : FocusOK s) : Refocus s (probe s f) :=
  have ⟨hp, rp⟩ := probe_quiet s f
  ⟨hp, focusOK_same rp.focus hp.view h, rp.crash⟩

theorem refocus_ensure {s : VS} {f : Nat} (hf : f ∈ s.store) (h : FocusOK s) : Refocus s (ensure s f) :=
  ⟨frame_ensure s f hf, focusOK_same (rest_ensure s f).focus (ensure_view s f) h, (rest_ensure s f).crash⟩

theorem refocus_setFocus {s : VS} {f : Nat} (hf : f ∈ s.view) : Refocus s (setFocus s (some f)) := by
  have ⟨hp, rp⟩ := probe_quiet s f
  have hv : f ∈ (probe s f).view := hp.view.symm ▸ hf
  simp only [setFocus, hv, if_true]
  exact ⟨hp.trans (frame_focus_update _ _), focusOK_of_mem rfl hv, rp.crash⟩

theorem refocus_clear {s : VS} (hv : s.view = []) : Refocus s (setFocus s none) :=
  ⟨frame_focus_update s none, focusOK_of_nil rfl hv, rfl⟩

theorem refocus_focusAt {s : VS} {i : Nat} (hi : i < s.view.length) : Refocus s (focusAt s i) := by
  unfold focusAt rawIdx
  cases hr : s.reversed with
  | true =>
    simp only [if_true, hi]
    have hj : s.view.length - 1 - i < s.view.length := by omega
    rw [List.getElem?_eq_getElem hj]
    exact refocus_setFocus (List.getElem_mem hj)
  | false =>
    simp only [Bool.false_eq_true, if_false]
    rw [List.getElem?_eq_getElem hi]
    exact refocus_setFocus (List.getElem_mem hi)

theorem nearestIdx_lt (s : VS) (k : Nat) (h : 0 < s.view.length) : nearestIdx s k < s.view.length := by
  unfold nearestIdx; simp only; omega

theorem view_length_pos {s : VS} (h : ¬ s.view.isEmpty = true) : 0 < s.view.length := by
  cases hv : s.view with
  | nil => simp [hv] at h
  | cons a l => simp

/-- `_sig_view_refresh` always leaves a valid focus -/
theorem refocus_onRefresh (s : VS) : Refocus s (onRefresh s) := by
  unfold onRefresh
  split
  · rename_i he; exact refocus_clear (by simpa using he)
  · rename_i he
    have hpos := view_length_pos he
    split
    · exact refocus_focusAt hpos
    · rename_i f hfoc
      have ⟨hp, rp⟩ := probe_quiet s f
      simp only
      split
      · rename_i hm; exact ⟨hp, focusOK_of_mem (rp.focus.trans hfoc) hm, rp.crash⟩
      · -- `_nearest`: the key of the focus, then the element at the clamped bisection index
        have ⟨ho, ro⟩ := okey_quiet (probe s f) f
        have hlen : 0 < (okey (probe s f) f).1.view.length := by rw [ho.view, hp.view]; exact hpos
        have h := refocus_focusAt (nearestIdx_lt _ (okey (probe s f) f).2 hlen)
        exact ⟨hp.trans (ho.trans h.frame), h.focus, h.crash.trans (ro.crash.trans rp.crash)⟩

/-- `_sig_view_add` for a flow that is now shown -/
theorem refocus_onViewAdd {s : VS} {f : Nat} (hf : f ∈ s.view) (hold : ∀ g, s.focus = some g → g ∈ s.view) :
    Refocus s (onViewAdd s f) := by
  unfold onViewAdd
  cases hfoc : s.focus with
  | none => exact refocus_setFocus hf
  | some g => exact .refl (focusOK_of_mem hfoc (hold g hfoc))

/-- `_sig_view_remove` after `f` was taken out of a list in which the focus was valid -/
theorem refocus_onViewRemove {s : VS} {f : Nat} (idx : Nat) (hfo : FocusOK s) (hf : f ∈ s.view) :
    Refocus { s with view := s.view.erase f } (onViewRemove { s with view := s.view.erase f } f idx) := by
  generalize hs' : ({ s with view := s.view.erase f } : VS) = s'
  have hv : s'.view = s.view.erase f := by rw [← hs']
  have hfc : s'.focus = s.focus := by rw [← hs']
  unfold onViewRemove
  split
  · rename_i he; exact refocus_clear (by simpa using he)
  · rename_i he
    have hpos := view_length_pos he
    split
    · exact refocus_focusAt (by omega)
    · rename_i hfoc
      refine .refl ?_
      cases hfs : s.focus with
      | none =>
        have : s.view = [] := by unfold FocusOK at hfo; rw [hfs] at hfo; exact hfo
        rw [this] at hf; cases hf
      | some g =>
        refine focusOK_of_mem (hfc.trans hfs) ?_
        rw [hv]
        exact (List.mem_erase_of_ne (fun h => hfoc (by rw [hfc, hfs, h]))).mpr (focusOK_some hfo g hfs)

theorem refocus_probeFocus {s : VS} (h : FocusOK s) : Refocus s (probeFocus s) := by
  unfold probeFocus
  split
  · exact .refl h
  · exact refocus_probe _ h

theorem refocus_opGo {s : VS} (h : FocusOK s) (o : Int) : Refocus s (opGo s o) := by
  unfold opGo
  cases he : s.view.isEmpty with
  | true => exact .refl h
  | false =>
    have hpos := view_length_pos (by rw [he]; nofun)
    simp only [Bool.false_eq_true, if_false]
    refine refocus_focusAt ?_
    -- the clamped index lies in the list whatever the offset was turned into
    generalize (if o < 0 then (s.view.length : Int) + o else o) = x
    (repeat' split) <;> omega

/-- `next` and `prev` after the key-based lookup of the focus: move it if the neighbour exists -/
theorem refocus_focusStep {s : VS} (h : FocusOK s) (c : Nat → Prop) [DecidablePred c] (j : Nat → Nat)
    (hj : ∀ i, c i → j i < (probeFocus s).view.length) :
    Refocus s (match focusIndex (probeFocus s) with
      | none => probeFocus s
      | some i => if c i then focusAt (probeFocus s) (j i) else probeFocus s) := by
  have m := refocus_probeFocus h
  split
  · exact m
  · split
    · exact m.trans (refocus_focusAt (hj _ ‹_›))
    · exact m

theorem refocus_opNext {s : VS} (h : FocusOK s) : Refocus s (opNext s) :=
  refocus_focusStep h (fun i => i + 1 < (probeFocus s).view.length) (fun i => i + 1) (fun _ hc => hc)

theorem refocus_opPrev {s : VS} (h : FocusOK s) : Refocus s (opPrev s) :=
  refocus_focusStep h (fun i => 1 ≤ i ∧ i - 1 < (probeFocus s).view.length) (fun i => i - 1) (fun _ hc => hc.2)

end MitmVerif.C43
