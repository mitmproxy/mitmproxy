/-
  C38 — the bytes-key dict operations of the oldest formats, as an instance of the keyed theory of Lemmas/C38_Conv, and the
  converters 0.13, 0.15 and 0.16 seen from a top-level key they do not assign (0.11, 0.12 and 0.14 only stamp the version).
  `Off` of Lemmas/C38_Conv speaks of str keys (`dget`), so the frames are stated here key by key, with `(n == m) = false`.
-/
import MitmVerif.Model.C38_Bytes
import MitmVerif.Lemmas.C38_Conv
namespace MitmVerif.C38Conv
open MitmVerif MitmVerif.C36

theorem bkeyIs_excl (k : Value) (n m : Bytes) (hnm : n ≠ m) (hk : bkeyIs k n = true) : bkeyIs k m = false := by
  cases k with
  | bytes u =>
    have hun : u = n := by simpa [bkeyIs] using hk
    subst hun; simpa [bkeyIs] using hnm
  | _ => simp [bkeyIs] at hk

theorem bkeyIs_bytes (n m : Bytes) : bkeyIs (.bytes n) m = (n == m) := rfl

theorem bget_bset_same (d : Dict) (n : Bytes) (v : Value) : bget (bset d n v) n = some v :=
  kget_kset_same bkeyIs_bytes d n v

theorem bget_bset_ne (d : Dict) (n m : Bytes) (v : Value) (hnm : (n == m) = false) :
    bget (bset d n v) m = bget d m :=
  kget_kset_ne bkeyIs_excl bkeyIs_bytes d n m v (ne_of_beq_false hnm)

theorem bget_bpop_ne (d : Dict) (n m : Bytes) (hnm : (n == m) = false) :
    bget (bpop d n) m = bget d m :=
  kget_kpop_ne bkeyIs_excl d n m (ne_of_beq_false hnm)

theorem bget_bpop_same (d : Dict) (n : Bytes) : bget (bpop d n) n = none := kget_kpop_same d n

theorem bget_bupd_ne (d d' : Dict) (n m : Bytes) (f : Dict → Option Dict) (hnm : (n == m) = false)
    (h : bupd d n f = some d') : bget d' m = bget d m :=
  (kupd_spec bkeyIs_excl bkeyIs_bytes d d' n f h).2 m (ne_of_beq_false hnm)

theorem bupd_spec (d d' : Dict) (n : Bytes) (f : Dict → Option Dict) (h : bupd d n f = some d') :
    ∃ sd sd', bget d n = some (.dict sd) ∧ f sd = some sd' ∧ bget d' n = some (.dict sd') :=
  (kupd_spec bkeyIs_excl bkeyIs_bytes d d' n f h).1

theorem body_b13 (d d' : Dict) (m : Bytes) (h : conv_013_014 d = some d')
    (h1 : (s "request" == m) = false) (h2 : (s "response" == m) = false) (h3 : (s "server_conn" == m) = false)
    (hv : (s "version" == m) = false) : bget d' m = bget d m := by
  unfold conv_013_014 at h
  simp only [Option.bind_eq_bind, Option.bind_eq_some_iff, Option.pure_def, Option.some.injEq] at h
  obtain ⟨d1, hd1, d2, hd2, d3, hd3, rfl⟩ := h
  unfold bsetVersion
  rw [bget_bset_ne _ _ _ _ hv, bget_bupd_ne _ _ _ _ _ h3 hd3, bget_bupd_ne _ _ _ _ _ h2 hd2, bget_bupd_ne _ _ _ _ _ h1 hd1]

theorem body_b15 (d d' : Dict) (m : Bytes) (h : conv_015_016 d = some d')
    (h1 : (s "request" == m) = false) (h2 : (s "response" == m) = false)
    (hv : (s "version" == m) = false) : bget d' m = bget d m := by
  unfold conv_015_016 at h
  simp only [Option.bind_eq_bind, Option.bind_eq_some_iff, Option.pure_def, Option.some.injEq] at h
  obtain ⟨d1, hd1, d2, hd2, d3, hd3, d4, hd4, rfl⟩ := h
  unfold bsetVersion
  rw [bget_bset_ne _ _ _ _ hv, bget_bupd_ne _ _ _ _ _ h1 hd4, bget_bupd_ne _ _ _ _ _ h2 hd3, bget_bupd_ne _ _ _ _ _ h2 hd2,
    bget_bupd_ne _ _ _ _ _ h1 hd1]

theorem body_b16 (d d' : Dict) (m : Bytes) (h : conv_016_017 d = some d')
    (h3 : (s "server_conn" == m) = false) (hv : (s "version" == m) = false) : bget d' m = bget d m := by
  unfold conv_016_017 at h
  simp only [Option.bind_eq_bind, Option.bind_eq_some_iff, Option.pure_def, Option.some.injEq] at h
  obtain ⟨d1, hd1, rfl⟩ := h
  unfold bsetVersion
  rw [bget_bset_ne _ _ _ _ hv, bget_bupd_ne _ _ _ _ _ h3 hd1]

end MitmVerif.C38Conv
