/-
  C22 — the texts an address is written as, and that the parser model reads them back.  Octets and dotted quads
  (inet_ntop's IPv4 form), "%x" hextets, and hextets joined by colons with one "::" and possibly a dotted quad at the
  end (`parseIp_compressed`, `parseIp_full`, `parseIp_embedded`: every form inet_ntop and `str(IPv6Address)` produce;
  C21 and C50 instantiate them), among them the two IPv4-mapped forms `::ffff:a.b.c.d` and `::ffff:xxxx:yyyy`.
-/
import MitmVerif.Lemmas.C22Read
namespace MitmVerif.Lemmas.C22
open MitmVerif MitmVerif.C22

/-- decimal rendering of an octet without leading zeros -/
def renderOctet (v : Nat) : Text :=
  if v < 10 then [UInt8.ofNat (48 + v)]
  else if v < 100 then [UInt8.ofNat (48 + v / 10), UInt8.ofNat (48 + v % 10)]
  else [UInt8.ofNat (48 + v / 100), UInt8.ofNat (48 + v / 10 % 10), UInt8.ofNat (48 + v % 10)]

/-- `a.b.c.d` -/
def dotted (a b c d : Nat) : Text :=
  renderOctet a ++ 0x2e :: (renderOctet b ++ 0x2e :: (renderOctet c ++ 0x2e :: renderOctet d))

/-- `::ffff:a.b.c.d` -/
def mappedText (a b c d : Nat) : Text := [0x3a, 0x3a, 0x66, 0x66, 0x66, 0x66, 0x3a] ++ dotted a b c d

theorem parseOctet_render : ∀ v : Fin 256, parseOctet (renderOctet v.val) = some v.val := by decide +kernel

theorem renderOctet_digits : ∀ v : Fin 256, ∀ c ∈ renderOctet v.val, isDigit c = true := by decide +kernel

theorem renderOctet_ne_nil : ∀ v : Fin 256, renderOctet v.val ≠ [] := by decide +kernel

theorem digit_not_sep (c : UInt8) (h : isDigit c = true) :
    c ≠ 0x2e ∧ c ≠ 0x2f ∧ c ≠ 0x3a ∧ c ≠ 0x25 := by
  simp only [isDigit, Bool.and_eq_true, decide_eq_true_eq] at h
  refine ⟨?_, ?_, ?_, ?_⟩ <;> (intro e; subst e; revert h; decide)

private theorem sep_not_in_octet (v : Nat) (hv : v < 256) (sep : UInt8)
    (hs : sep = 0x2e ∨ sep = 0x2f ∨ sep = 0x3a ∨ sep = 0x25) : sep ∉ renderOctet v := by
  intro hmem
  have hd := renderOctet_digits ⟨v, hv⟩ sep hmem
  have := digit_not_sep sep hd
  rcases hs with h | h | h | h <;> simp_all

theorem dotted_no (a b c d : Nat) (ha : a < 256) (hb : b < 256) (hc : c < 256) (hd : d < 256) (sep : UInt8)
    (hs : sep = 0x2f ∨ sep = 0x3a ∨ sep = 0x25) : sep ∉ dotted a b c d := by
  have h1 := sep_not_in_octet a ha sep (Or.inr hs)
  have h2 := sep_not_in_octet b hb sep (Or.inr hs)
  have h3 := sep_not_in_octet c hc sep (Or.inr hs)
  have h4 := sep_not_in_octet d hd sep (Or.inr hs)
  have hne : sep ≠ 0x2e := by rcases hs with h | h | h <;> (subst h; decide)
  simp only [dotted, List.mem_append, List.mem_cons, not_or]
  exact ⟨h1, hne, h2, hne, h3, hne, h4⟩

theorem parseV4_dotted (a b c d : Nat) (ha : a < 256) (hb : b < 256) (hc : c < 256) (hd : d < 256) :
    parseV4 (dotted a b c d) = some (((a * 256 + b) * 256 + c) * 256 + d) := by
  have hslash : (dotted a b c d).contains 0x2f = false := by
    simpa using dotted_no a b c d ha hb hc hd 0x2f (Or.inl rfl)
  have hne : (dotted a b c d).isEmpty = false := by
    simp [dotted, renderOctet_ne_nil ⟨a, ha⟩]
  have hsplit : splitOn 0x2e (dotted a b c d) = [renderOctet a, renderOctet b, renderOctet c, renderOctet d] := by
    simp only [dotted]
    rw [splitOn_eq, splitSep_append_sep (sep_not_in_octet a ha _ (Or.inl rfl)),
        splitSep_append_sep (sep_not_in_octet b hb _ (Or.inl rfl)),
        splitSep_append_sep (sep_not_in_octet c hc _ (Or.inl rfl)),
        splitSep_no_sep (sep_not_in_octet d hd _ (Or.inl rfl))]
  simp only [parseV4, hslash, hne, hsplit, parseOctet_render ⟨a, ha⟩, parseOctet_render ⟨b, hb⟩,
    parseOctet_render ⟨c, hc⟩, parseOctet_render ⟨d, hd⟩]
  simp

theorem mapped_no_pct (a b c d : Nat) (ha : a < 256) (hb : b < 256) (hc : c < 256) (hd : d < 256) :
    (0x25 : UInt8) ∉ mappedText a b c d := by
  have := dotted_no a b c d ha hb hc hd 0x25 (Or.inr (Or.inr rfl))
  simp only [mappedText, List.mem_append, not_or]
  exact ⟨by decide, this⟩

/-! ### the hexadecimal IPv4-mapped form `::ffff:xxxx:yyyy` (what `str(IPv6Address)` prints) -/

def hexDigitL (n : Nat) : UInt8 := if n < 10 then UInt8.ofNat (48 + n) else UInt8.ofNat (87 + n)

/-- `'%x' % v` for a hextet -/
def renderHextet (v : Nat) : Text :=
  if v < 16 then [hexDigitL v]
  else if v < 256 then [hexDigitL (v / 16), hexDigitL (v % 16)]
  else if v < 4096 then [hexDigitL (v / 256), hexDigitL (v / 16 % 16), hexDigitL (v % 16)]
  else [hexDigitL (v / 4096), hexDigitL (v / 256 % 16), hexDigitL (v / 16 % 16), hexDigitL (v % 16)]

/-- `::ffff:xxxx:yyyy` -/
def mappedHexText (x y : Nat) : Text :=
  [0x3a, 0x3a, 0x66, 0x66, 0x66, 0x66, 0x3a] ++ (renderHextet x ++ 0x3a :: renderHextet y)

theorem hexVal_digit : ∀ n : Fin 16, hexVal (hexDigitL n.val) = some n.val := by decide +kernel

theorem hexDigit_not_sep : ∀ n : Fin 16,
    hexDigitL n.val ≠ 0x3a ∧ hexDigitL n.val ≠ 0x2e ∧ hexDigitL n.val ≠ 0x2f ∧ hexDigitL n.val ≠ 0x25 := by
  decide +kernel

/-- a hextet is rendered as one to four hexadecimal digits, most significant first -/
theorem renderHextet_eq (v : Nat) (h : v < 65536) : ∃ ds : List (Fin 16),
    renderHextet v = ds.map (hexDigitL ·.val) ∧ ds ≠ [] ∧ ds.length ≤ 4 ∧
    ds.foldl (fun a d => a * 16 + d.val) 0 = v := by
  unfold renderHextet
  split
  · exact ⟨[⟨v, by omega⟩], rfl, by simp, by simp, by simp⟩
  split
  · exact ⟨[⟨v / 16, by omega⟩, ⟨v % 16, by omega⟩], rfl, by simp, by simp, by simp; omega⟩
  split
  · exact ⟨[⟨v / 256, by omega⟩, ⟨v / 16 % 16, by omega⟩, ⟨v % 16, by omega⟩], rfl,
      by simp, by simp, by simp; omega⟩
  · exact ⟨[⟨v / 4096, by omega⟩, ⟨v / 256 % 16, by omega⟩, ⟨v / 16 % 16, by omega⟩, ⟨v % 16, by omega⟩], rfl,
      by simp, by simp, by simp; omega⟩

theorem parseHextet_render (v : Nat) (h : v < 65536) : parseHextet (renderHextet v) = some v := by
  obtain ⟨ds, e, hne, hlen, hv⟩ := renderHextet_eq v h
  have hl : ¬ ds.length > 4 := by omega
  simp [parseHextet, e, List.foldl_map, hexVal_digit, hne, hl, hv]

theorem renderHextet_ne_nil (v : Nat) : renderHextet v ≠ [] := by
  unfold renderHextet; split <;> (try split) <;> (try split) <;> simp

theorem hextet_clean (w : Nat) (hw : w < 65536) (c : UInt8) (hc : c = 0x3a ∨ c = 0x2e ∨ c = 0x2f ∨ c = 0x25) :
    c ∉ renderHextet w := by
  intro hm
  obtain ⟨ds, e, _⟩ := renderHextet_eq w hw
  rw [e] at hm
  obtain ⟨d, _, rfl⟩ := List.mem_map.mp hm
  have := hexDigit_not_sep d
  rcases hc with h | h | h | h <;> simp [h] at this

theorem mappedHex_no_pct (x y : Nat) (hx : x < 65536) (hy : y < 65536) :
    (0x25 : UInt8) ∉ mappedHexText x y := by
  simp only [mappedHexText, List.mem_append, List.mem_cons, not_or]
  exact ⟨by decide, hextet_clean x hx _ (by simp), by decide, hextet_clean y hy _ (by simp)⟩

/-! ### texts with one "::" -/

theorem hextets_clean (ws : List Nat) (hw : ∀ w ∈ ws, w < 65536) (c : UInt8)
    (hc : c = 0x3a ∨ c = 0x2e ∨ c = 0x2f ∨ c = 0x25) : ∀ p ∈ pad [] (ws.map renderHextet), c ∉ p := by
  intro p hp
  rcases mem_pad _ _ _ hp with rfl | hp
  · simp
  · obtain ⟨w, hw', rfl⟩ := List.mem_map.mp hp
    exact hextet_clean w (hw w hw') c hc

theorem hextets_nonempty (ws : List Nat) : ∀ p ∈ ws.map fun w => Part.txt (renderHextet w), p.isEmpty = false := by
  intro p hp
  obtain ⟨w, _, rfl⟩ := List.mem_map.mp hp
  simp [Part.isEmpty, renderHextet_ne_nil w]

theorem hextets_val (ws : List Nat) (hw : ∀ w ∈ ws, w < 65536) :
    (ws.map fun w => Part.txt (renderHextet w)).map Part.val = ws.map some := by
  rw [List.map_map]
  exact List.map_congr_left fun w hm => parseHextet_render w (hw w hm)

/-- **hextets, "::", hextets**: the reader puts as many zero hextets between `hi` and `lo` as are missing from eight -/
theorem parseIp_compressed (hi lo : List Nat) (hhi : ∀ w ∈ hi, w < 65536) (hlo : ∀ w ∈ lo, w < 65536)
    (hlen : hi.length + lo.length < 8) :
    parseIp (join (pad [] (hi.map renderHextet) ++ [] :: pad [] (lo.map renderHextet))) =
      some (.v6 (foldHextets (foldHextets 0 hi * 65536 ^ (8 - (hi.length + lo.length))) lo) none) := by
  have hcl : ∀ c : UInt8, c = 0x3a ∨ c = 0x2e ∨ c = 0x2f ∨ c = 0x25 →
      ∀ p ∈ pad [] (hi.map renderHextet) ++ [] :: pad [] (lo.map renderHextet), c ∉ p := by
    intro c hc p hp
    rcases List.mem_append.mp hp with hp | hp
    · exact hextets_clean hi hhi c hc p hp
    · rcases List.mem_cons.mp hp with rfl | hp
      · simp
      · exact hextets_clean lo hlo c hc p hp
  have h3 : 3 ≤ (pad [] (hi.map renderHextet) ++ [] :: pad [] (lo.map renderHextet)).length := by
    have := pad_pos ([] : Text) (hi.map renderHextet)
    have := pad_pos ([] : Text) (lo.map renderHextet)
    simp only [List.length_append, List.length_cons]
    omega
  rw [parseIp_of_not_v4 _ (parseV4_none_of_no_dot _ (not_mem_join _ (by decide) _ (hcl _ (by simp))))
      (not_mem_join _ (by decide) _ (hcl _ (by simp))) (not_mem_join _ (by decide) _ (hcl _ (by simp))),
    parseV6Int, v6Parts_join _ h3 (hcl _ (by simp)) (hcl _ (by simp))]
  simp only [List.map_append, List.map_cons, map_pad, List.map_map, Function.comp_def]
  rw [assembleV6_compressed_vals _ _ hi lo (hextets_nonempty hi) (hextets_nonempty lo) (hextets_val hi hhi)
    (hextets_val lo hlo) (by simpa using hlen)]
  simp

/-- **eight hextets**, nothing compressed -/
theorem parseIp_full (ws : List Nat) (h8 : ws.length = 8) (hw : ∀ w ∈ ws, w < 65536) :
    parseIp (join (ws.map renderHextet)) = some (.v6 (foldHextets 0 ws) none) := by
  have hcl : ∀ c : UInt8, c = 0x3a ∨ c = 0x2e ∨ c = 0x2f ∨ c = 0x25 → ∀ p ∈ ws.map renderHextet, c ∉ p := by
    intro c hc p hp
    obtain ⟨w, hm, rfl⟩ := List.mem_map.mp hp
    exact hextet_clean w (hw w hm) c hc
  rw [parseIp_of_not_v4 _ (parseV4_none_of_no_dot _ (not_mem_join _ (by decide) _ (hcl _ (by simp))))
      (not_mem_join _ (by decide) _ (hcl _ (by simp))) (not_mem_join _ (by decide) _ (hcl _ (by simp))),
    parseV6Int, v6Parts_join _ (by simp [h8]) (hcl _ (by simp)) (hcl _ (by simp))]
  simp only [List.map_map, Function.comp_def]
  rw [assembleV6_full _ (by simpa using h8) (hextets_nonempty ws), foldParts_vals _ ws 0 (hextets_val ws hw)]
  rfl

/-- **"::", hextets, a dotted quad**: the quad is read as the last two hextets -/
theorem parseIp_embedded (lo : List Nat) (hlo : ∀ w ∈ lo, w < 65536) (hlen : lo.length < 6) (a b c d : Nat)
    (ha : a < 256) (hb : b < 256) (hc : c < 256) (hd : d < 256) :
    parseIp (join (([] :: [] :: lo.map renderHextet) ++ [dotted a b c d])) =
      some (.v6 (foldHextets 0 (lo ++ [a * 256 + b, c * 256 + d])) none) := by
  have hcl : ∀ c' : UInt8, c' = 0x2f ∨ c' = 0x3a ∨ c' = 0x25 →
      ∀ p ∈ ([] :: [] :: lo.map renderHextet) ++ [dotted a b c d], c' ∉ p := by
    intro c' hc' p hp
    rcases List.mem_append.mp hp with hp | hp
    · simp only [List.mem_cons, List.mem_map] at hp
      rcases hp with rfl | rfl | ⟨w, hw, rfl⟩
      · simp
      · simp
      · exact hextet_clean w (hlo w hw) c' (by rcases hc' with h | h | h <;> simp [h])
    · rw [List.mem_singleton.mp hp]; exact dotted_no a b c d ha hb hc hd c' hc'
  have hv : (((a * 256 + b) * 256 + c) * 256 + d) / 65536 = a * 256 + b ∧
      (((a * 256 + b) * 256 + c) * 256 + d) % 65536 = c * 256 + d := by omega
  have h4 : parseV4 (join (([] :: [] :: lo.map renderHextet) ++ [dotted a b c d])) = none := parseV4_colon_first _
  rw [parseIp_of_not_v4 _ h4 (not_mem_join _ (by decide) _ (hcl _ (by simp))) (not_mem_join _ (by decide) _ (hcl _ (by simp))),
    parseV6Int, v6Parts_join_dotted _ _ _ (by simp) (fun p hp => hcl _ (by simp) p (List.mem_append_left _ hp))
      (dotted_no a b c d ha hb hc hd _ (by simp)) (by simp [dotted]) (parseV4_dotted a b c d ha hb hc hd), hv.1, hv.2]
  have := assembleV6_compressed_vals [] ((lo.map fun w => Part.txt (renderHextet w)) ++ [.num (a * 256 + b), .num (c * 256 + d)])
    [] (lo ++ [a * 256 + b, c * 256 + d]) (by simp)
    (by
      intro p hp
      rcases List.mem_append.mp hp with hp | hp
      · exact hextets_nonempty lo p hp
      · simp at hp; rcases hp with rfl | rfl <;> rfl)
    rfl (by simp [hextets_val lo hlo, Part.val]) (by simp; omega)
  have hL : ∀ L : List Part, L ≠ [] →
      pad (Part.txt []) [] ++ Part.txt [] :: pad (Part.txt []) L = Part.txt [] :: Part.txt [] :: L := by
    intro L h; rw [pad_of_ne_nil _ _ h]; rfl
  rw [hL _ (by simp), show foldHextets 0 [] = 0 from rfl, Nat.zero_mul] at this
  simp only [List.map_cons, List.map_map, List.cons_append, Function.comp_def, this, Option.map_some]

theorem renderHextet_ffff : renderHextet 65535 = [0x66, 0x66, 0x66, 0x66] := by decide

theorem parseIp_mapped (a b c d : Nat) (ha : a < 256) (hb : b < 256) (hc : c < 256) (hd : d < 256) :
    parseIp (mappedText a b c d) =
      some (Addr.v6 (0xFFFF * 4294967296 + (((a * 256 + b) * 256 + c) * 256 + d)) none) := by
  have e : mappedText a b c d = join (([] :: [] :: [65535].map renderHextet) ++ [dotted a b c d]) := by
    simp [mappedText, join, colons, renderHextet_ffff]
  rw [e, parseIp_embedded [65535] (by simp) (by simp) a b c d ha hb hc hd]
  have : foldHextets 0 ([65535] ++ [a * 256 + b, c * 256 + d]) =
      0xFFFF * 4294967296 + (((a * 256 + b) * 256 + c) * 256 + d) := by
    show ((0 * 65536 + 65535) * 65536 + (a * 256 + b)) * 65536 + (c * 256 + d) = _
    omega
  rw [this]

theorem parseIp_mappedHex (x y : Nat) (hx : x < 65536) (hy : y < 65536) :
    parseIp (mappedHexText x y) = some (Addr.v6 (0xFFFF * 4294967296 + (x * 65536 + y)) none) := by
  have e : mappedHexText x y = join (pad [] ([].map renderHextet) ++ [] :: pad [] ([65535, x, y].map renderHextet)) := by
    simp [mappedHexText, join, colons, pad, renderHextet_ffff]
  rw [e, parseIp_compressed [] [65535, x, y] (by simp) (by simp [hx, hy]) (by simp)]
  have : foldHextets (foldHextets 0 [] * 65536 ^ (8 - (([] : List Nat).length + [65535, x, y].length)))
      [65535, x, y] = 0xFFFF * 4294967296 + (x * 65536 + y) := by
    show ((0 * 65536 ^ 5 * 65536 + 65535) * 65536 + x) * 65536 + y = _
    omega
  rw [this]

end MitmVerif.Lemmas.C22
