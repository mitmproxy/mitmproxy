/-
  C48 — lemmas: the authority of `unparse scheme host port path` reads back as (host, port). `unparse` / `hostport` /
  `bracket` are C33's (Model/C33.lean), `dial` / `readAuthority` are Model/C48_Url.lean; the two cases are those of
  `bracket` (a host with a colon goes in brackets and is read up to `]`, any other up to `:`). `takeWhile_stop` /
  `takeWhile_all` (`takeWhile` and `dropWhile` on `l ++ c :: r` and on `l`, where `p` holds throughout `l` and not of `c`)
  are also used by Props/C48 on header arguments.
-/
import MitmVerif.Model.C48_Url
import MitmVerif.Lemmas.C33Rest
namespace MitmVerif.Lemmas.C48
open MitmVerif MitmVerif.C48

/-- a host a URL authority can carry: non-empty, none of `/ ? # [ ] @`. The proofs below never use the `@`: it is excluded
    because a real client reads what precedes an `@` as userinfo, which `readAuthority` does not know. -/
def hostCarried (h : UStr) : Bool :=
  !h.isEmpty && h.all (fun c => c != 47 && c != 63 && c != 35 && c != 91 && c != 93 && c != 64)


theorem S_sep : C33.S "://" = [58, 47, 47] := by decide

/-- the port part of an authority: nothing, or `:` and the digits -/
def portSfx : Option UStr → UStr
  | none => []
  | some ds => 58 :: ds

theorem hostport_eq (scheme h : UStr) (port : Nat) :
    C33.hostport scheme h port =
      C33.bracket h ++ portSfx (if C33.defaultPort scheme = some port then none else some (C33.decDigits port)) := by
  unfold C33.hostport
  split <;> simp [portSfx]

/-- `readAuthority` undoes `bracket` and the port suffix -/
theorem readAuthority_bracket (h : UStr) (p : Option UStr) (hne : h ≠ [])
    (hall : ∀ c ∈ h, c ≠ 91 ∧ c ≠ 93)
    (hp : ∀ ds, p = some ds → ds.isEmpty = false ∧ ds.all isDig = true) :
    readAuthority (C33.bracket h ++ portSfx p) = some (h, p) := by
  have hx91 : h.head? ≠ some 91 := fun e => (hall 91 (List.mem_of_mem_head? e)).1 rfl
  cases h6 : h.contains 58 with
  | true =>
    -- IPv6 literal: printed in brackets, read up to the `]`
    have hbr : C33.bracket h ++ portSfx p = 91 :: (h ++ 93 :: portSfx p) := by
      unfold C33.bracket
      rw [h6]
      simp [hx91]
    have h93 : h.all (fun c => !decide (c = 93)) = true := by simpa using fun c hc => (hall c hc).2
    rw [hbr]
    cases p with
    | none =>
      obtain ⟨t, d⟩ := takeWhile_stop (fun c => !decide (c = 93)) h 93 [] (List.all_eq_true.mp h93) (by simp)
      simp [readAuthority, portSfx, t, d]
    | some ds =>
      obtain ⟨t, d⟩ := takeWhile_stop (fun c => !decide (c = 93)) h 93 (58 :: ds) (List.all_eq_true.mp h93) (by simp)
      simp [readAuthority, portSfx, t, d, hp ds rfl]
  | false =>
    -- a name or IPv4 literal: as it is, read up to the `:`
    have h4 : h.all (fun c => !decide (c = 58)) = true := by
      rw [List.contains_eq_any_beq, List.any_eq_false] at h6
      simpa using fun c hc e => h6 c hc (by simp [e])
    have hbr : C33.bracket h = h := by unfold C33.bracket; rw [h6]; rfl
    rw [hbr]
    unfold readAuthority
    split
    · rename_i r heq
      cases h with
      | nil => exact absurd rfl hne
      | cons x xs => simp at heq; exact absurd (congrArg some heq.1) hx91
    · cases p with
      | none =>
        obtain ⟨t, d⟩ := takeWhile_all (fun c => !decide (c = 58)) h (List.all_eq_true.mp h4)
        simp [portSfx, d]
      | some ds =>
        obtain ⟨t, d⟩ := takeWhile_stop (fun c => !decide (c = 58)) h 58 ds (List.all_eq_true.mp h4) (by simp)
        simp [portSfx, d, t, hp ds rfl]

/-- what follows the authority in the URL: nothing, or something that starts with `/`, `?` or `#` -/
def pathStarts (path : UStr) : Bool :=
  match path with
  | [] => true
  | c :: _ => authEnd c

theorem takeAuth (hp path : UStr) (hhp : hp.all (fun c => !authEnd c) = true) (hpath : pathStarts path = true) :
    (hp ++ path).takeWhile (fun c => !authEnd c) = hp := by
  cases path with
  | nil => simpa using (takeWhile_all (fun c => !authEnd c) hp (List.all_eq_true.mp hhp)).1
  | cons c r =>
    have hc : authEnd c = true := by simpa [pathStarts] using hpath
    exact (takeWhile_stop (fun c => !authEnd c) hp c r (List.all_eq_true.mp hhp) (by simp [hc])).1

theorem bracket_auth (h : UStr) (ha : h.all (fun c => !authEnd c) = true) :
    (C33.bracket h).all (fun c => !authEnd c) = true := by
  unfold C33.bracket
  split
  · rw [List.all_cons, List.all_append, ha]; rfl
  · exact ha

/-- as long as host and port hold none of `/ ? #`, the client reads exactly the `hostport` text as the authority -/
theorem dial_hostport (scheme h path : UStr) (port : Nat) (hs : scheme.all (fun c => decide (c ≠ 58)) = true)
    (ha : (C33.hostport scheme h port).all (fun c => !authEnd c) = true) (hpath : pathStarts path = true) :
    dial (C33.unparse scheme h port path) = readAuthority (C33.hostport scheme h port) := by
  have hsplit : splitScheme (C33.unparse scheme h port path) = some (scheme, C33.hostport scheme h port ++ path) := by
    unfold splitScheme C33.unparse
    rw [S_sep]
    obtain ⟨t, d⟩ := takeWhile_stop (fun c => decide (c ≠ 58)) scheme 58 (47 :: 47 :: (C33.hostport scheme h port ++ path))
      (List.all_eq_true.mp hs) (by simp)
    have e : scheme ++ [58, 47, 47] ++ C33.hostport scheme h port ++ path =
        scheme ++ 58 :: 47 :: 47 :: (C33.hostport scheme h port ++ path) := by simp
    rw [e, d, t]
    rfl
  unfold dial
  rw [hsplit]
  simp only
  rw [takeAuth _ path ha hpath]

theorem dial_unparse (scheme h path : UStr) (port : Nat)
    (hs : scheme.all (fun c => decide (c ≠ 58)) = true) (hh : hostCarried h = true) (hpath : pathStarts path = true) :
    dial (C33.unparse scheme h port path) =
      some (h, if C33.defaultPort scheme = some port then none else some (C33.decDigits port)) := by
  simp only [hostCarried, Bool.and_eq_true, Bool.not_eq_true', List.all_eq_true, bne_iff_ne, ne_eq] at hh
  obtain ⟨hne, hall⟩ := hh
  have hds := C33.decDigits_digits port
  rw [dial_hostport scheme _ path port hs ?_ hpath, hostport_eq]
  · refine readAuthority_bracket h _ (by simpa using hne) (fun c hc => ⟨(hall c hc).1.1.2, (hall c hc).1.2⟩) fun ds e => ?_
    split at e
    · cases e
    · cases e; exact ⟨by simpa using C33.decDigits_ne port, List.all_eq_true.mpr hds⟩
  · -- neither the host nor the digits hold one of `/ ? #`
    have hauth_h : h.all (fun c => !authEnd c) = true := by
      simp only [List.all_eq_true]
      intro c hc
      obtain ⟨⟨⟨⟨⟨a47, a63⟩, a35⟩, _⟩, _⟩, _⟩ := hall c hc
      simp [authEnd, a47, a63, a35]
    have hauth_d : (C33.decDigits port).all (fun c => !authEnd c) = true := by
      simp only [List.all_eq_true]
      intro c hc
      have : isDig c = true := hds c hc
      simp [isDig] at this
      simp [authEnd]; omega
    unfold C33.hostport
    split
    · exact bracket_auth _ hauth_h
    · rw [List.all_append, bracket_auth _ hauth_h, List.all_cons, hauth_d]; rfl

end MitmVerif.Lemmas.C48
