/-
  C22 — how the parser model reads a text assembled from known pieces.  `splitOn` is `splitSep` and `join` is
  `joinBy [':']` (Lemmas/Split), so `split` on a text joined with the separator is read off there; `%` handling, the IPv6 reader on a text without '.', '%', '/', and `assembleV6` on a list of parts with
  one "::" (`join`, `pad`, `foldHextets` name the pieces); at the end the IPv4-mapped view of the value so read.
-/
import MitmVerif.Model.C22
import MitmVerif.Lemmas.Split
namespace MitmVerif.Lemmas.C22
open MitmVerif MitmVerif.C22

theorem splitOn_eq (sep : UInt8) (s : Text) : splitOn sep s = splitSep sep s := by
  induction s with
  | nil => rfl
  | cons c cs ih =>
    rw [splitOn, ih, splitSep]
    cases h : splitSep sep cs with
    | nil => exact absurd h (splitSep_ne_nil sep cs)
    | cons p ps => rfl

/-- every piece preceded by a colon: `a ++ colons ps` is `":".join(a :: ps)` -/
def colons (ps : List Text) : Text := ps.flatMap (0x3a :: ·)

theorem colons_cons (p : Text) (ps : List Text) : colons (p :: ps) = 0x3a :: (p ++ colons ps) := rfl

theorem colons_append (a b : List Text) : colons (a ++ b) = colons a ++ colons b := by
  simp [colons]

/-- `":".join(ps)` -/
def join : List Text → Text
  | [] => []
  | a :: ps => a ++ colons ps

theorem join_eq : ∀ ps : List Text, join ps = joinBy [0x3a] ps
  | [] => rfl
  | [a] => by simp [join, colons, joinBy]
  | a :: b :: r => by
    rw [joinBy_cons _ _ (by simp), ← join_eq (b :: r)]
    simp [join, colons_cons]

theorem not_mem_join (c : UInt8) (hc : c ≠ 0x3a) (ps : List Text) (h : ∀ p ∈ ps, c ∉ p) : c ∉ join ps := by
  intro hm
  rw [join_eq] at hm
  obtain ⟨p, hp, hcp⟩ := mem_joinBy (by simpa using hc) hm
  exact h p hp hcp

theorem join_isEmpty (ps : List Text) (h : 2 ≤ ps.length) : (join ps).isEmpty = false := by
  match ps, h with
  | a :: b :: r, _ => cases a <;> rfl

/-- the first half of the IPv6 reader on colon-free pieces joined by colons, none of them dotted -/
theorem v6Parts_join (raw : List Text) (h3 : 3 ≤ raw.length) (hc : ∀ p ∈ raw, (0x3a : UInt8) ∉ p)
    (hd : ∀ p ∈ raw, (0x2e : UInt8) ∉ p) : v6Parts (join raw) = some (raw.map .txt) := by
  have hne : raw ≠ [] := by intro e; simp [e] at h3
  have hl : (raw.getLast?.getD []).contains 0x2e = false := by
    rw [List.getLast?_eq_some_getLast hne, Option.getD_some]
    simpa using hd _ (List.getLast_mem hne)
  rw [v6Parts, join_isEmpty _ (by omega), join_eq, splitOn_eq, splitSep_joinBy _ hne hc]
  simp only [hl]
  simp; omega

/-- the same with a dotted quad as the last piece: it becomes two hextets -/
theorem v6Parts_join_dotted (raw : List Text) (q : Text) (v : Nat) (h2 : 2 ≤ raw.length)
    (hc : ∀ p ∈ raw, (0x3a : UInt8) ∉ p) (hq : (0x3a : UInt8) ∉ q) (hqd : (0x2e : UInt8) ∈ q) (hv : parseV4 q = some v) :
    v6Parts (join (raw ++ [q])) = some (raw.map .txt ++ [.num (v / 65536), .num (v % 65536)]) := by
  have hc' : ∀ p ∈ raw ++ [q], (0x3a : UInt8) ∉ p := by
    intro p hp
    rcases List.mem_append.mp hp with hp | hp
    · exact hc p hp
    · rw [List.mem_singleton.mp hp]; exact hq
  rw [v6Parts, join_isEmpty _ (by simp; omega), join_eq, splitOn_eq, splitSep_joinBy _ (by simp) hc']
  simp [hqd, hv]; omega

theorem partitionPct_none (t : Text) (h : (0x25 : UInt8) ∉ t) : partitionPct t = none := by
  induction t with
  | nil => rfl
  | cons c cs ih =>
    simp only [List.mem_cons, not_or] at h
    have hc : c ≠ 0x25 := fun e => h.1 e.symm
    simp [partitionPct, hc, ih h.2]

theorem beforeLastPct_none (t : Text) (h : (0x25 : UInt8) ∉ t) : beforeLastPct t = none := by
  induction t with
  | nil => rfl
  | cons c cs ih =>
    simp only [List.mem_cons, not_or] at h
    have hc : c ≠ 0x25 := fun e => h.1 e.symm
    simp [beforeLastPct, ih h.2, hc]

theorem beforeLastPct_append (t z : Text) (hz : (0x25 : UInt8) ∉ z) :
    beforeLastPct (t ++ 0x25 :: z) = some t := by
  induction t with
  | nil => simp [beforeLastPct, beforeLastPct_none z hz]
  | cons c cs ih => simp [beforeLastPct, ih]

/-- a text that is no IPv4 address and has neither '%' nor '/' is read by the IPv6 reader, without scope -/
theorem parseIp_of_not_v4 (t : Text) (h4 : parseV4 t = none) (hpct : (0x25 : UInt8) ∉ t) (hsl : (0x2f : UInt8) ∉ t) :
    parseIp t = (parseV6Int t).map (Addr.v6 · none) := by
  simp [parseIp, h4, parseV6, hsl, partitionPct_none t hpct]

theorem parseV4_none_of_no_dot (t : Text) (h : (0x2e : UInt8) ∉ t) : parseV4 t = none := by
  simp only [parseV4, splitOn_eq, splitSep_no_sep h]
  split
  · rfl
  · split <;> rfl

/-- a text with a character that is neither a digit nor a dot before its first dot is no IPv4 address -/
theorem parseV4_none_of_nondigit (pre rest : Text) (c : UInt8) (hpre : (0x2e : UInt8) ∉ pre)
    (hc : isDigit c = false) (hd : c ≠ 0x2e) : parseV4 (pre ++ c :: rest) = none := by
  have hs : ∃ p ps, splitOn 0x2e (pre ++ c :: rest) = (pre ++ c :: p) :: ps := by
    rw [splitOn_eq]
    induction rest using sep_induction (0x2e : UInt8) with
    | last q hq => exact ⟨q, [], splitSep_no_sep (by simp [hpre, hq, Ne.symm hd])⟩
    | piece q r hq _ =>
      rw [← List.cons_append, ← List.append_assoc, splitSep_append_sep (by simp [hpre, hq, Ne.symm hd])]
      exact ⟨q, _, rfl⟩
  obtain ⟨p, ps, hs⟩ := hs
  have ho : parseOctet (pre ++ c :: p) = none := by
    simp [parseOctet, hc]
  simp only [parseV4, hs]
  split
  · rfl
  · split
    · rfl
    · split
      · rename_i h; injection h with h1 h2; subst h1; simp [ho]
      · rfl

theorem parseV4_colon_first (rest : Text) : parseV4 (0x3a :: rest) = none :=
  parseV4_none_of_nondigit [] rest 0x3a (by simp) (by decide) (by decide)

/-- a text without a colon (and without '%') is no IPv6 address: `split(":")` gives fewer than three parts -/
theorem parseV6_none_of_no_colon (t : Text) (hc : (0x3a : UInt8) ∉ t) (hp : (0x25 : UInt8) ∉ t) : parseV6 t = none := by
  have h : parseV6Int t = none := by
    have hv : v6Parts t = none := by
      simp only [v6Parts, splitOn_eq, splitSep_no_sep hc]
      split <;> rfl
    simp only [parseV6Int, hv]
  simp [parseV6, partitionPct_none t hp, h]

/-- what `split(":")` leaves of the hextets on one side of "::": an empty string when there are none -/
def pad {α : Type} (e : α) : List α → List α
  | [] => [e]
  | l => l

theorem pad_cons {α : Type} (e a : α) (l : List α) : pad e (a :: l) = a :: l := rfl

theorem pad_of_ne_nil {α : Type} (e : α) (l : List α) (h : l ≠ []) : pad e l = l := by
  cases l with
  | nil => exact absurd rfl h
  | cons _ _ => rfl

theorem mem_pad {α : Type} (e a : α) (l : List α) (h : a ∈ pad e l) : a = e ∨ a ∈ l := by
  cases l with
  | nil => exact Or.inl (List.mem_singleton.mp h)
  | cons _ _ => exact Or.inr h

theorem map_pad {α β : Type} (f : α → β) (e : α) (l : List α) : (pad e l).map f = pad (f e) (l.map f) := by
  cases l <;> rfl

theorem pad_ne_nil {α : Type} (e : α) (l : List α) : pad e l ≠ [] := by cases l <;> simp [pad]

theorem pad_length {α : Type} (e : α) (l : List α) : (pad e l).length = if l.isEmpty then 1 else l.length := by
  cases l <;> simp [pad]

theorem pad_pos {α : Type} (e : α) (l : List α) : 0 < (pad e l).length :=
  List.length_pos_iff.mpr (pad_ne_nil e l)

theorem take_pad {α : Type} (e : α) (l Z : List α) : (pad e l ++ Z).take l.length = l := by
  cases l <;> simp [pad]

theorem drop_pad {α : Type} (e : α) (X l : List α) :
    (X ++ e :: pad e l).drop ((X ++ e :: pad e l).length - l.length) = l := by
  cases l with
  | nil => simp
  | cons a l =>
    have : (X ++ e :: pad e (a :: l)).length - (a :: l).length = (X ++ [e]).length := by simp [pad]; omega
    rw [this, show X ++ e :: pad e (a :: l) = (X ++ [e]) ++ (a :: l) by simp [pad], List.drop_left]

theorem head_pad (l Z : List Part) (h : ∀ p ∈ l, p.isEmpty = false) :
    ((pad (.txt []) l ++ Z).head?.map Part.isEmpty).getD false = l.isEmpty := by
  cases l with
  | nil => rfl
  | cons a l => simpa [pad] using h a List.mem_cons_self

theorem last_pad (X l : List Part) (h : ∀ p ∈ l, p.isEmpty = false) :
    ((X ++ .txt [] :: pad (.txt []) l).getLast?.map Part.isEmpty).getD false = l.isEmpty := by
  cases l with
  | nil => simp [pad, Part.isEmpty]
  | cons a l =>
    have := h _ (List.getLast_mem (List.cons_ne_nil a l))
    simp [pad, List.getLast?_eq_some_getLast, this]

theorem filter_range_singleton (p : Nat → Bool) (k : Nat) (hk : p k = true) :
    ∀ n, k < n → (∀ i, i < n → i ≠ k → p i = false) → (List.range n).filter p = [k] := by
  intro n
  induction n with
  | zero => intro h; omega
  | succ n ih =>
    intro hkn hp
    rw [List.range_succ, List.filter_append]
    by_cases hn : k = n
    · subst hn
      have : (List.range k).filter p = [] :=
        List.filter_eq_nil_iff.mpr fun i hi => by simp [hp i (by have := List.mem_range.mp hi; omega) (by have := List.mem_range.mp hi; omega)]
      simp [this, hk]
    · have hpn : p n = false := hp n (by omega) (fun e => hn e.symm)
      rw [ih (by omega) (fun i hi => hp i (by omega))]
      simp [hpn]

theorem interiorEmpty_gap (X Y : List Part) (hX : X ≠ []) (hY : Y ≠ [])
    (hXi : ∀ i p, 1 ≤ i → X[i]? = some p → p.isEmpty = false)
    (hYi : ∀ i p, i + 1 < Y.length → Y[i]? = some p → p.isEmpty = false) :
    interiorEmpty (X ++ .txt [] :: Y) = [X.length] := by
  have hx : 0 < X.length := List.length_pos_iff.mpr hX
  have hy : 0 < Y.length := List.length_pos_iff.mpr hY
  unfold interiorEmpty
  apply filter_range_singleton
  · simp [Part.isEmpty]; omega
  · simp
  · intro i hi hne
    simp only [List.length_append, List.length_cons] at hi ⊢
    by_cases h0 : i = 0
    · simp [h0]
    by_cases hl : i + 1 < X.length + (Y.length + 1)
    · by_cases hix : i < X.length
      · rw [List.getElem?_append_left hix]
        have := hXi i X[i] (by omega) (by simp [hix])
        simp [hix, this]
      · have : i - X.length = (i - X.length - 1) + 1 := by omega
        rw [List.getElem?_append_right (by omega), this, List.getElem?_cons_succ]
        have hj : i - X.length - 1 < Y.length := by omega
        have := hYi (i - X.length - 1) Y[i - X.length - 1] (by omega) (by simp [hj])
        simp [hj, this]
    · simp [hl]

/-- **one "::"**: with `hi` before and `lo` after the gap, the reader folds `hi`, shifts by the hextets left out, folds `lo` -/
theorem assembleV6_compressed (hi lo : List Part) (hhi : ∀ p ∈ hi, p.isEmpty = false)
    (hlo : ∀ p ∈ lo, p.isEmpty = false) (hlen : hi.length + lo.length < 8) :
    assembleV6 (pad (.txt []) hi ++ .txt [] :: pad (.txt []) lo) =
      (foldParts hi 0).bind fun a => foldParts lo (a * 65536 ^ (8 - (hi.length + lo.length))) := by
  have hie : interiorEmpty (pad (.txt []) hi ++ .txt [] :: pad (.txt []) lo) = [(pad (.txt []) hi).length] := by
    apply interiorEmpty_gap _ _ (pad_ne_nil _ hi) (pad_ne_nil _ lo)
    · intro i p h1 hp
      cases hi with
      | nil => have := (List.getElem?_eq_some_iff.mp hp).1; simp [pad] at this; omega
      | cons a l => exact hhi p (List.mem_of_getElem? hp)
    · intro i p h1 hp
      cases lo with
      | nil => simp [pad] at h1
      | cons a l => exact hlo p (List.mem_of_getElem? hp)
  have hsk : assembleSkip (pad (.txt []) hi ++ .txt [] :: pad (.txt []) lo) hi.length lo.length =
      (foldParts hi 0).bind fun a => foldParts lo (a * 65536 ^ (8 - (hi.length + lo.length))) := by
    rw [assembleSkip, if_neg (by omega), take_pad, drop_pad]
    cases foldParts hi 0 <;> rfl
  unfold assembleV6
  simp only [hie, head_pad hi _ hhi, last_pad _ lo hlo, List.length_append, List.length_cons, pad_length]
  rw [← hsk]
  cases hi <;> cases lo <;> simp only [List.length_cons, List.length_nil] at hlen <;> simp <;> omega

/-- the hextets `ws` shifted in behind `acc` -/
def foldHextets (acc : Nat) (ws : List Nat) : Nat := ws.foldl (fun a w => a * 65536 + w) acc

theorem foldHextets_append (acc : Nat) (x y : List Nat) :
    foldHextets acc (x ++ y) = foldHextets (foldHextets acc x) y := by simp [foldHextets]

theorem foldHextets_zeros (zs : List Nat) (hz : ∀ z ∈ zs, z = 0) :
    ∀ acc, foldHextets acc zs = acc * 65536 ^ zs.length := by
  induction zs with
  | nil => intro acc; simp [foldHextets]
  | cons z zs ih =>
    intro acc
    have : foldHextets acc (z :: zs) = foldHextets (acc * 65536 + z) zs := rfl
    rw [this, ih (fun x hx => hz x (List.mem_cons_of_mem _ hx)), hz z List.mem_cons_self, Nat.add_zero,
      List.length_cons, Nat.pow_succ, Nat.mul_assoc, Nat.mul_comm 65536]

theorem foldParts_vals (ps : List Part) : ∀ (ws : List Nat) (acc : Nat), ps.map Part.val = ws.map some →
    foldParts ps acc = some (foldHextets acc ws) := by
  induction ps with
  | nil => intro ws acc h; cases ws with | nil => rfl | cons _ _ => simp at h
  | cons p ps ih =>
    intro ws acc h
    cases ws with
    | nil => simp at h
    | cons w ws =>
      simp only [List.map_cons, List.cons.injEq] at h
      simp only [foldParts, h.1]
      exact ih ws _ h.2

theorem assembleV6_compressed_vals (hi lo : List Part) (his los : List Nat)
    (hhi : ∀ p ∈ hi, p.isEmpty = false) (hlo : ∀ p ∈ lo, p.isEmpty = false)
    (vhi : hi.map Part.val = his.map some) (vlo : lo.map Part.val = los.map some) (hlen : hi.length + lo.length < 8) :
    assembleV6 (pad (.txt []) hi ++ .txt [] :: pad (.txt []) lo) =
      some (foldHextets (foldHextets 0 his * 65536 ^ (8 - (hi.length + lo.length))) los) := by
  rw [assembleV6_compressed hi lo hhi hlo hlen, foldParts_vals hi his 0 vhi, Option.bind_some,
    foldParts_vals lo los _ vlo]

theorem assembleV6_full (ps : List Part) (h8 : ps.length = 8) (hne : ∀ p ∈ ps, p.isEmpty = false) :
    assembleV6 ps = foldParts ps 0 := by
  have hie : interiorEmpty ps = [] := by
    unfold interiorEmpty
    refine List.filter_eq_nil_iff.mpr fun i _ => ?_
    cases hp : ps[i]? with
    | none => simp
    | some p => simp [hne p (List.mem_of_getElem? hp)]
  have hh : (ps.head?.map Part.isEmpty).getD false = false := by
    cases ps with
    | nil => rfl
    | cons a l => simpa using hne a List.mem_cons_self
  have hl : (ps.getLast?.map Part.isEmpty).getD false = false := by
    cases ps with
    | nil => rfl
    | cons a l => simpa [List.getLast?_eq_some_getLast] using hne _ (List.getLast_mem (List.cons_ne_nil a l))
  unfold assembleV6
  simp [hie, hh, hl, h8]

/-- `address.ipv4_mapped or address` of `::ffff:a.b.c.d` is `a.b.c.d` -/
theorem effective_mapped (n : Nat) (hn : n < 4294967296) (sc : Option Text) :
    effective (Addr.v6 (0xFFFF * 4294967296 + n) sc) = Addr.v4 n := by
  have h1 : (0xFFFF * 4294967296 + n) / 4294967296 = 0xFFFF := by omega
  have h2 : (0xFFFF * 4294967296 + n) % 4294967296 = n := by omega
  simp [effective, h1, h2]

theorem effective_plain_or_mapped (a : Addr) (n : Nat) (hn : n < 4294967296) (sc : Option Text)
    (ha : a = Addr.v4 n ∨ a = Addr.v6 (0xFFFF * 4294967296 + n) sc) : effective a = Addr.v4 n := by
  rcases ha with rfl | rfl
  · rfl
  · exact effective_mapped n hn sc

end MitmVerif.Lemmas.C22
