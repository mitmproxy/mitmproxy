/-
  Liveness: a message the specification decoder reads IS decoded by the proxy's codec (`unpack_live`) when nothing gives the
  codec a reason of its own to refuse. The hypotheses: owner/question labels plain ASCII (no `xn--`, no dot: the `Idna`
  parameter is never consulted, `mapLabels_plain`), pointer chains at most 127 hops deep (`_MAX_POINTER_DEPTH`; `hops`,
  `Shallow`), expanded record data within 16 bits (the limit in `rrData`). `unpackName_live` is the pointer chase;
  `liveCheck` is the precondition as a computation. That the layer then forwards the message is Props/C26
  `deliverable_is_forwarded`.
-/
import MitmVerif.Lemmas.C26Msg
set_option linter.unusedVariables false
set_option linter.unusedSimpArgs false
namespace MitmVerif.C26
open MitmVerif MitmVerif.C25

/-- a label the codec model decodes without consulting the idna parameter -/
def plainLabel (l : Bytes) : Bool := isAscii l && !hasAce l && !l.contains 46

def plainLabels (ls : List Bytes) : Bool := ls.all plainLabel

theorem decLabel_plain (I : Idna) (l : Bytes) (hp : plainLabel l = true) (hne : l ≠ []) (hl : l.length < 64) :
    decLabel I l = some l := by
  simp only [plainLabel, Bool.and_eq_true, Bool.not_eq_true'] at hp
  exact decLabel_ascii I hne hp.1.1 hp.1.2 (by simpa using hp.2) hl

theorem mapLabels_plain (I : Idna) : ∀ (ls : List Bytes), plainLabels ls = true → LabelsOk ls → mapLabels I ls = some ls := by
  intro ls
  induction ls with
  | nil => intro _ _; rfl
  | cons l ls ih =>
    intro hp hok
    simp only [plainLabels, List.all_cons, Bool.and_eq_true] at hp
    obtain ⟨hne, hl⟩ := hok l (by simp)
    simp [mapLabels, decLabel_plain I l hp.1 hne hl, ih (by simpa [plainLabels] using hp.2) (fun x hx => hok x (by simp [hx]))]

/-! ### how deep the specification's pointer chain is -/

/-- number of pointer hops the specification decoder takes from `off` (same walk as `DnsRef.nameF`) -/
def hopsF : Nat → Bytes → Nat → Nat
  | fuel, buf, off =>
    match scanRaw (buf.drop off) with
    | some (_, _, some t) =>
      if t < off then
        match fuel with
        | 0 => 0
        | f + 1 => 1 + hopsF f buf t
      else 0
    | _ => 0

def hops (buf : Bytes) (off : Nat) : Nat := hopsF off buf off

theorem hopsF_unfold (fuel : Nat) (buf : Bytes) (off : Nat) : hopsF fuel buf off =
    match scanRaw (buf.drop off) with
    | some (_, _, some t) =>
      if t < off then
        match fuel with
        | 0 => 0
        | f + 1 => 1 + hopsF f buf t
      else 0
    | _ => 0 := by
  rw [hopsF.eq_def]

/-- with fuel enough for the offset, `hopsF` is the recursion without fuel (as `nameF_eq`) -/
theorem hopsF_eq (buf : Bytes) : ∀ (off f : Nat), off ≤ f → hopsF f buf off =
    match scanRaw (buf.drop off) with
    | some (_, _, some t) => if t < off then 1 + hops buf t else 0
    | _ => 0 := by
  intro off
  induction off using Nat.strongRecOn with
  | _ off ih =>
    intro f hf
    rw [hopsF_unfold]
    cases hs : scanRaw (buf.drop off) with
    | none => rfl
    | some r =>
      obtain ⟨ls, n, p⟩ := r
      cases p with
      | none => rfl
      | some t =>
        simp only
        by_cases ht : t < off
        · simp only [ht, if_true]
          cases f with
          | zero => omega
          | succ g => simp only; rw [ih t ht g (by omega), hops, ih t ht t (Nat.le_refl _)]
        · simp [ht]

theorem hops_ptr {buf : Bytes} {off t n : Nat} {ls : List Bytes} (hs : scanRaw (buf.drop off) = some (ls, n, some t))
    (ht : t < off) : hops buf off = 1 + hops buf t := by
  rw [hops, hopsF_eq buf off off (Nat.le_refl _), hs]
  simp only [ht, if_true]

theorem plainLabels_append (a b : List Bytes) : plainLabels (a ++ b) = (plainLabels a && plainLabels b) := by
  simp [plainLabels, List.all_append]

/-! ### the cache decoder follows every chain of backward pointers that is not too deep -/

/-- no name is being unpacked at or below `off`: what holds between two top-level calls (no entry at all) and, inside a
    chain of backward pointers, for every target -/
def NoVisitingBelow (c : Cache) (off : Nat) : Prop := ∀ k, c.lookup k = some none → off < k

def NoVisiting (c : Cache) : Prop := ∀ k, c.lookup k ≠ some none

theorem visiting_cons {c : Cache} {off k : Nat} {v : Option (Text × Nat)} (h : ((off, v) :: c).lookup k = some none) :
    (k = off ∧ v = none) ∨ (k ≠ off ∧ c.lookup k = some none) := by
  rw [List.lookup_cons] at h
  split at h
  · next he => exact Or.inl ⟨eq_of_beq he, by cases h; rfl⟩
  · next he => exact Or.inr ⟨by simpa using he, h⟩

theorem unpackName_live (I : Idna) (buf : Bytes) : ∀ (off : Nat) (ls : List Bytes) (n : Nat), DnsRef.name buf off = some (ls, n) →
    plainLabels ls = true → ∀ (cache : Cache) (depth : Nat), depth + hops buf off ≤ maxPointerDepth → NoVisitingBelow cache off →
    ∃ r c', unpackName I buf off cache depth = some (r, c') ∧ ∀ k, c'.lookup k = some none → cache.lookup k = some none := by
  -- a name in the cache is returned as it is: none is being unpacked at `off`
  have hit : ∀ {off cache depth v}, NoVisitingBelow cache off → cache.lookup off = some v →
      ∃ r c', unpackName I buf off cache depth = some (r, c') ∧ ∀ k, c'.lookup k = some none → cache.lookup k = some none := by
    intro off cache depth v hv hl
    cases v with
    | none => exact absurd (hv off hl) (Nat.lt_irrefl _)
    | some r => exact ⟨r, cache, unpackName_hit hl, fun k hk => hk⟩
  refine name_induct ?_ ?_
  · intro off raws n hs _ hp cache depth hd hv
    cases hl : cache.lookup off with
    | some v => exact hit hv hl
    | none =>
      refine ⟨(joinDot raws, n), (off, some (joinDot raws, n)) :: (off, none) :: cache, ?_, ?_⟩
      · rw [unpackName_fresh hl, hs]; simp [show ¬ maxPointerDepth < depth by omega, mapLabels_plain I raws hp (scanRaw_ok hs)]
      · intro k hk
        rcases visiting_cons hk with ⟨_, h⟩ | ⟨hne, hk⟩
        · cases h
        · exact (visiting_cons hk).elim (fun h => absurd h.1 hne) (·.2)
  · intro off raws n t ls2 m2 hs ht _ ih _ hp cache depth hd hv
    rw [plainLabels_append, Bool.and_eq_true] at hp
    rw [hops_ptr hs ht] at hd
    cases hl : cache.lookup off with
    | some v => exact hit hv hl
    | none =>
      -- while the target is unpacked, `off` is the only new offset in progress, and it lies above the target
      obtain ⟨⟨label, n2⟩, c2, hrec, hpost⟩ := ih hp.2 ((off, none) :: cache) (depth + 1) (by omega) (fun k hk =>
        (visiting_cons hk).elim (fun h => h.1 ▸ ht) (fun h => Nat.lt_trans ht (hv k h.2)))
      refine ⟨(C25.nameOf raws label, n), (off, some (C25.nameOf raws label, n)) :: c2, ?_, ?_⟩
      · rw [unpackName_fresh hl, hs]
        simp [show ¬ maxPointerDepth < depth by omega, mapLabels_plain I raws hp.1 (scanRaw_ok hs), hrec]
      · intro k hk
        rcases visiting_cons hk with ⟨_, h⟩ | ⟨hne, hk⟩
        · cases h
        · exact (visiting_cons (hpost k hk)).elim (fun h => absurd h.1 hne) (·.2)

/-- no pointer chain of the buffer is deeper than the decoder's nesting limit -/
def Shallow (buf : Bytes) : Prop := ∀ off, hops buf off ≤ maxPointerDepth

theorem NoVisiting.below {c : Cache} (h : NoVisiting c) (off : Nat) : NoVisitingBelow c off :=
  fun k hk => absurd hk (h k)

theorem name_live (I : Idna) (buf : Bytes) (hsh : Shallow buf) (pos : Nat) (ls : List Bytes) (n : Nat) (cache : Cache)
    (hn : DnsRef.name buf pos = some (ls, n)) (hp : plainLabels ls = true) (hca : CacheAll (AgreesAt I buf) cache) (hnv : NoVisiting cache) :
    ∃ t c', unpackName I buf pos cache 0 = some ((t, n), c') ∧ CacheAll (AgreesAt I buf) c' ∧ NoVisiting c' := by
  obtain ⟨⟨t, n'⟩, c', hu, hpost⟩ := unpackName_live I buf pos ls n hn hp cache 0 (by simpa using hsh pos) (hnv.below pos)
  obtain ⟨hag, hca'⟩ := unpackName_agrees hca hu
  cases (hag ls n hn).1
  exact ⟨t, c', hu, hca', fun k hk => hnv k (hpost k hk)⟩

theorem questions_live (I : Idna) (buf : Bytes) (hsh : Shallow buf) : ∀ (k pos : Nat) (cache : Cache) (rqs : List DnsRef.RQ) (p : Nat),
    DnsRef.questions buf k pos = some (rqs, p) → (∀ rq ∈ rqs, plainLabels rq.labels = true) →
    CacheAll (AgreesAt I buf) cache → NoVisiting cache →
    ∃ qs c', unpackQuestions I buf k pos cache = some (qs, p, c') ∧ CacheAll (AgreesAt I buf) c' ∧ NoVisiting c' := by
  intro k
  induction k with
  | zero => intro pos cache rqs p hr _ hca hnv; cases hr; exact ⟨[], cache, rfl, hca, hnv⟩
  | succ k ih =>
    intro pos cache rqs p hr hpl hca hnv
    obtain ⟨ls, n, ty, cl, rqs2, hn, ht, hc, hrq, rfl⟩ := refQuestions_succ hr
    obtain ⟨t, c1, hu, hca1, hnv1⟩ := name_live I buf hsh pos ls n cache hn (hpl ⟨ls, ty, cl⟩ (by simp)) hca hnv
    obtain ⟨qs2, c2, hu2, hca2, hnv2⟩ := ih _ c1 rqs2 _ hrq (fun rq hrq' => hpl rq (by simp [hrq'])) hca1 hnv1
    exact ⟨⟨t, ty, cl⟩ :: qs2, c2, by simp [unpackQuestions, hu, ht, hc, hu2], hca2, hnv2⟩

theorem records_live (I : Idna) (buf : Bytes) (hsh : Shallow buf) : ∀ (k pos : Nat) (cache : Cache) (rrs : List DnsRef.RRec) (p : Nat),
    DnsRef.records buf k pos = some (rrs, p) → (∀ rr ∈ rrs, plainLabels rr.labels = true ∧ rr.rdata.length ≤ 65535) →
    CacheAll (AgreesAt I buf) cache → NoVisiting cache →
    ∃ rs c', unpackRRs I buf k pos cache = some (rs, p, c') ∧ CacheAll (AgreesAt I buf) c' ∧ NoVisiting c' := by
  intro k
  induction k with
  | zero => intro pos cache rrs p hr _ hca hnv; cases hr; exact ⟨[], cache, rfl, hca, hnv⟩
  | succ k ih =>
    intro pos cache rrs p hr hpl hca hnv
    obtain ⟨ls, n, ty, cl, ttl, len, d, rrs2, hn, ht, hc, httl, hl, hlen, hrd, hrq, rfl⟩ := refRecords_succ hr
    obtain ⟨hpl1, hsz⟩ := hpl ⟨ls, ty, cl, ttl, d⟩ (by simp)
    obtain ⟨t, c1, hu, hca1, hnv1⟩ := name_live I buf hsh pos ls n cache hn hpl1 hca hnv
    obtain ⟨rs2, c2, hu2, hca2, hnv2⟩ := ih _ c1 rrs2 _ hrq (fun rr hrr => hpl rr (by simp [hrr])) hca1 hnv1
    exact ⟨⟨t, ty, cl, ttl, d⟩ :: rs2, c2,
      by simp [unpackRRs, hu, ht, hc, httl, hl, Nat.not_lt.mpr hlen, rrData_ref hrd hlen (getU16_lt hl), Nat.not_lt.mpr hsz, hu2], hca2, hnv2⟩

/-- a specification message whose owner and question names are made of plain labels and whose canonical record data
    fits the 16-bit length field -/
def Plain (d : DnsRef.RMsg) : Prop :=
  (∀ q ∈ d.questions, plainLabels q.labels = true) ∧
  (∀ r ∈ d.answers ++ d.authorities ++ d.additionals, plainLabels r.labels = true ∧ r.rdata.length ≤ 65535)

theorem unpack_live (I : Idna) (b : Bytes) (d : DnsRef.RMsg) (hd : DnsRef.decode b = some d) (hp : Plain d) (hsh : Shallow b) :
    ∃ m, unpack I b = some m := by
  obtain ⟨nq, nan, nns, nar, p1, p2, p3, h1, h2, h3, h4, h5, h6, hq, ha, hn, hr⟩ := decode_some hd
  obtain ⟨hpq, hpr⟩ := hp
  obtain ⟨qs, c1, u1, a1, v1⟩ := questions_live I b hsh _ _ _ _ _ hq hpq CacheAll.nil (fun k hk => by simp at hk)
  obtain ⟨an, c2, u2, a2, v2⟩ := records_live I b hsh _ _ _ _ _ ha (fun r hr' => hpr r (by simp [hr'])) a1 v1
  obtain ⟨ns, c3, u3, a3, v3⟩ := records_live I b hsh _ _ _ _ _ hn (fun r hr' => hpr r (by simp [hr'])) a2 v2
  obtain ⟨ar, c4, u4, _⟩ := records_live I b hsh _ _ _ _ _ hr (fun r hr' => hpr r (by simp [hr'])) a3 v3
  simp [unpack, unpackFrom, h1, h2, h3, h4, h5, h6, u1, u2, u3, u4]

/-! ### the precondition of delivery as a computation (tied to its Python twin by driver op `live`) -/

def plainMsg (d : DnsRef.RMsg) : Bool :=
  d.questions.all (fun q => plainLabels q.labels) &&
  (d.answers ++ d.authorities ++ d.additionals).all (fun r => plainLabels r.labels && decide (r.rdata.length ≤ 65535))

def shallowBuf (b : Bytes) : Bool := (List.range b.length).all (fun off => decide (hops b off ≤ maxPointerDepth))

def liveCheck (b : Bytes) : Bool :=
  match DnsRef.decode b with
  | none => false
  | some d => plainMsg d && shallowBuf b

theorem hops_out_of_range (b : Bytes) (off : Nat) (h : b.length ≤ off) : hops b off = 0 := by
  unfold hops; rw [hopsF_unfold, List.drop_eq_nil_of_le h, scanRaw_nil]

theorem shallow_of_check (b : Bytes) (h : shallowBuf b = true) : Shallow b := by
  intro off
  by_cases ho : off < b.length
  · simp only [shallowBuf, List.all_eq_true, List.mem_range, decide_eq_true_eq] at h
    exact h off ho
  · rw [hops_out_of_range b off (by omega)]; exact Nat.zero_le _

theorem plain_of_check (d : DnsRef.RMsg) (h : plainMsg d = true) : Plain d := by
  simp only [plainMsg, Bool.and_eq_true, List.all_eq_true, decide_eq_true_eq] at h
  exact ⟨h.1, fun r hr => h.2 r hr⟩

end MitmVerif.C26
