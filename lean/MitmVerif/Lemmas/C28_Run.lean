/-
  C28 — whole histories: what `procEvs`, `step` and `run` do, from what `Relay` says of one event.
  Each invariant is a relation between the state before, the inputs, the outputs and the state after that holds of no input
  and composes (`refl`, `trans`).  It holds of one event by cases on `Relay`, hence of `procEvs` and `run` by `fold_ind`.
  The exception is `Safe` (no crash): it depends on where in its batch a close stands, and goes along `closeLast`.
-/
import MitmVerif.Lemmas.C28
import MitmVerif.Lemmas.C28_Relay
namespace MitmVerif.C28

/-- `procEvs` and `run` thread a state through a list of inputs and concatenate the outputs.  A relation between the
    state before, the inputs, the outputs and the state after holds of the whole if it holds of no input,
    composes, and holds of one input.  `hnil` / `hcons` say that `F` is this fold; for `procEvs` and `run` they hold by `rfl`,
    which the default arguments supply. -/
theorem fold_ind {σ ε : Type} (f : σ → ε → σ × List Out) (F : σ → List ε → σ × List Out)
    {P : σ → List ε → List Out → σ → Prop} (refl : ∀ s, P s [] [] s)
    (trans : ∀ {a b c es1 es2 o1 o2}, P a es1 o1 b → P b es2 o2 c → P a (es1 ++ es2) (o1 ++ o2) c)
    (one : ∀ s e, P s [e] (f s e).2 (f s e).1) (s : σ) (es : List ε)
    (hnil : ∀ s, F s [] = (s, []) := by exact fun _ => rfl)
    (hcons : ∀ s e es, F s (e :: es) = ((F (f s e).1 es).1, (f s e).2 ++ (F (f s e).1 es).2) := by
      exact fun _ _ _ => rfl) :
    P s es (F s es).2 (F s es).1 := by
  induction es generalizing s with
  | nil => rw [hnil]; exact refl s
  | cons e es ih => rw [hcons]; exact trans (one s e) (ih _)

@[simp] theorem setBuf_msgs (s : St) (fc : Bool) (b : List Bytes) : (s.setBuf fc b).msgs = s.msgs := by
  unfold St.setBuf; split <;> rfl
@[simp] theorem setBuf_crashed (s : St) (fc : Bool) (b : List Bytes) : (s.setBuf fc b).crashed = s.crashed := by
  unfold St.setBuf; split <;> rfl
@[simp] theorem setBuf_ws (s : St) (fc c : Bool) (b : List Bytes) : (s.setBuf fc b).ws c = s.ws c := by
  cases fc <;> cases c <;> rfl

theorem setBuf_buf (s : St) (fc : Bool) (b : List Bytes) : (s.setBuf fc b).buf fc = b := by
  cases fc <;> rfl

theorem setBuf_setBuf (s : St) (fc : Bool) (b b' : List Bytes) : (s.setBuf fc b).setBuf fc b' = s.setBuf fc b' := by
  cases fc <;> rfl

theorem procEvs_append (fs : Nat) (pol : Policy) (fc inj : Bool) (a b : List WsEv) (s : St) :
    procEvs fs pol fc inj s (a ++ b) =
      ((procEvs fs pol fc inj (procEvs fs pol fc inj s a).1 b).1,
       (procEvs fs pol fc inj s a).2 ++ (procEvs fs pol fc inj (procEvs fs pol fc inj s a).1 b).2) := by
  induction a generalizing s with
  | nil => rfl
  | cons e a ih => simp only [List.cons_append, procEvs, ih, List.append_assoc]

theorem step_done (fs : Nat) (pol : Policy) (s : St) (e : Ev) (h : s.done = true) :
    step fs pol s e = (s, []) := by
  cases e <;> simp [step, h]

theorem run_done (fs : Nat) (pol : Policy) (s : St) (es : List Ev) (h : s.done = true) :
    run fs pol s es = (s, []) := by
  induction es with
  | nil => rfl
  | cons e es ih => simp only [run, step_done fs pol s e h, ih, List.append_nil]

theorem run_append (fs : Nat) (pol : Policy) (a b : List Ev) (s : St) :
    run fs pol s (a ++ b) =
      ((run fs pol (run fs pol s a).1 b).1, (run fs pol s a).2 ++ (run fs pol (run fs pol s a).1 b).2) := by
  induction a generalizing s with
  | nil => rfl
  | cons e a ih => simp only [List.cons_append, run, ih, List.append_assoc]

/-! ### what is recorded is what is delivered -/

theorem delivered_append (tc : Bool) (a b : List Out) :
    delivered tc (a ++ b) = delivered tc a ++ delivered tc b := by
  induction a with
  | nil => rfl
  | cons o a ih =>
    cases o <;> simp only [List.cons_append, delivered, ih]
    split <;> simp

theorem expected_append (tc : Bool) (a b : List Msg) :
    expected tc (a ++ b) = expected tc a ++ expected tc b := by
  simp [expected]

theorem applyAction_text (m : Msg) (a : Action) : (applyAction m a).text = m.text := by
  cases a <;> rfl
theorem applyAction_from (m : Msg) (a : Action) : (applyAction m a).fromClient = m.fromClient := by
  cases a <;> rfl

theorem delivered_nil {out : List Out} (h : ∀ tc t fr, Out.sendMsg tc t fr ∉ out) (tc : Bool) :
    delivered tc out = [] := by
  induction out with
  | nil => rfl
  | cons o out ih =>
    have := ih (fun tc t fr hm => h tc t fr (List.mem_cons_of_mem _ hm))
    cases o with
    | sendMsg tc' t fr => exact absurd List.mem_cons_self (h tc' t fr)
    | _ => exact this

/-- a relay that has not crashed had not crashed before, and has delivered what it recorded -/
def Delivers (s : St) (out : List Out) (s' : St) : Prop :=
  s'.crashed = false → s.crashed = false ∧ ∃ new, s'.msgs = s.msgs ++ new ∧ ∀ tc, delivered tc out = expected tc new

theorem Delivers.none {s s' : St} {out : List Out} (hc : s'.crashed = s.crashed) (hm : s'.msgs = s.msgs)
    (hd : ∀ tc, delivered tc out = []) : Delivers s out s' :=
  fun h => ⟨hc ▸ h, [], by simpa using hm, fun tc => by simpa [expected] using hd tc⟩

theorem Delivers.refl (s : St) : Delivers s [] s := .none rfl rfl (fun _ => rfl)

theorem Delivers.trans {a b c : St} {o1 o2 : List Out} (h1 : Delivers a o1 b) (h2 : Delivers b o2 c) :
    Delivers a (o1 ++ o2) c := fun hc =>
  let ⟨hb, n2, hm2, hd2⟩ := h2 hc
  let ⟨ha, n1, hm1, hd1⟩ := h1 hb
  ⟨ha, n1 ++ n2, by rw [hm2, hm1, List.append_assoc], fun tc => by rw [delivered_append, expected_append, hd1, hd2]⟩

theorem relay_delivers {fs : Nat} {pol : Policy} {fc inj : Bool} {s : St} {e : WsEv} {r : St × List Out}
    (h : Relay fs pol fc inj s e r) : Delivers s r.2 r.1 := by
  cases h with
  | stuck | ping | pong => exact .none rfl rfl (fun _ => rfl)
  | part => exact .none (setBuf_crashed ..) (setBuf_msgs ..) (fun _ => rfl)
  | dropped t d ff m hm hd => exact fun hc => ⟨by simpa using hc, [m], rfl, fun tc => by simp [delivered, expected, hd]⟩
  | sent t d ff m hm hd =>
    have ht : m.text = t := by rw [hm, applyAction_text]
    have hf : m.fromClient = fc := by rw [hm, applyAction_from]
    refine fun hc => ⟨by simpa using hc, [m], rfl, fun tc => ?_⟩
    simp only [delivered, expected, fragmentize_wire]
    cases fc <;> cases tc <;> simp_all [wire]
  | unsent _ _ _ _ hc => exact fun h => nomatch hc.symm.trans h
  | close _ _ _ _ _ _ hout => exact .none rfl rfl (delivered_nil hout)

theorem procEvs_delivers (fs : Nat) (pol : Policy) (fc inj : Bool) (s : St) (es : List WsEv) :
    Delivers s (procEvs fs pol fc inj s es).2 (procEvs fs pol fc inj s es).1 :=
  fold_ind (procEv fs pol fc inj) (procEvs fs pol fc inj) (P := fun a _ o b => Delivers a o b) Delivers.refl
    Delivers.trans (fun s e => relay_delivers (procEv_relay fs pol fc inj s e)) s es

theorem step_delivers (fs : Nat) (pol : Policy) (s : St) (e : Ev) :
    Delivers s (step fs pol s e).2 (step fs pol s e).1 := by
  cases e with
  | data fc evs =>
    simp only [step]
    split
    · exact Delivers.refl s
    · exact procEvs_delivers fs pol fc false s evs
  | inject fc text content =>
    simp only [step]
    split
    · exact Delivers.refl s
    · intro hc
      simpa using procEvs_delivers fs pol fc true (s.setBuf fc [[]]) (injectEvents fs text content) (by simpa using hc)

theorem run_delivers (fs : Nat) (pol : Policy) (s : St) (es : List Ev) :
    Delivers s (run fs pol s es).2 (run fs pol s es).1 :=
  fold_ind (step fs pol) (run fs pol) (P := fun a _ o b => Delivers a o b) Delivers.refl Delivers.trans
    (step_delivers fs pol) s es

/-! ### every burst is one complete message -/

def Bursts (out : List Out) : Prop := ∀ tc t fr, Out.sendMsg tc t fr ∈ out → wellFramed fr = true

theorem Bursts.nil : Bursts [] := nofun

theorem Bursts.append {a b : List Out} (h1 : Bursts a) (h2 : Bursts b) : Bursts (a ++ b) :=
  fun tc t fr h => (List.mem_append.1 h).elim (h1 tc t fr) (h2 tc t fr)

theorem relay_bursts {fs : Nat} {pol : Policy} {fc inj : Bool} {s : St} {e : WsEv} {r : St × List Out}
    (h : Relay fs pol fc inj s e r) : Bursts r.2 := by
  intro tc t fr ho
  cases h with
  | sent =>
    simp only [List.mem_cons, reduceCtorEq, false_or, Out.sendMsg.injEq, List.not_mem_nil, or_false] at ho
    obtain ⟨_, _, rfl⟩ := ho
    exact fragmentize_wellFramed _ _ _ _
  | unsent _ _ _ _ _ hout | close _ _ _ _ _ _ hout => exact absurd ho (hout tc t fr)
  | _ => simp at ho

theorem procEvs_bursts (fs : Nat) (pol : Policy) (fc inj : Bool) (s : St) (es : List WsEv) :
    Bursts (procEvs fs pol fc inj s es).2 :=
  fold_ind (procEv fs pol fc inj) (procEvs fs pol fc inj) (P := fun _ _ o _ => Bursts o) (fun _ => .nil) .append
    (fun s e => relay_bursts (procEv_relay fs pol fc inj s e)) s es

theorem step_bursts (fs : Nat) (pol : Policy) (s : St) (e : Ev) : Bursts (step fs pol s e).2 := by
  cases e <;> simp only [step] <;> split <;> first | exact procEvs_bursts _ _ _ _ _ _ | exact .nil

theorem run_bursts (fs : Nat) (pol : Policy) (s : St) (es : List Ev) : Bursts (run fs pol s es).2 :=
  fold_ind (step fs pol) (run fs pol) (P := fun _ _ o _ => Bursts o) (fun _ => .nil) .append (step_bursts fs pol) s es

/-! ### one message in fragments; injection -/

theorem finishMsg_setBuf (fs : Nat) (pol : Policy) (fc inj : Bool) (s : St) (t : Bool) (b buf : List Bytes) :
    finishMsg fs pol fc inj (s.setBuf fc b) t buf = finishMsg fs pol fc inj s t buf := by
  unfold finishMsg
  simp only [setBuf_msgs, setBuf_ws, setBuf_setBuf]

theorem finishMsg_msgs (fs : Nat) (pol : Policy) (fc inj : Bool) (s : St) (t : Bool) (buf : List Bytes) :
    (finishMsg fs pol fc inj s t buf).1.msgs =
      s.msgs ++ [applyAction (Msg.mk t fc buf.flatten inj false) (pol s.msgs.length (Msg.mk t fc buf.flatten inj false))] := by
  simp only [finishMsg]
  split
  · simp
  · split <;> simp

/-- the events of one fragmented message, processed one after the other, amount to finishing the
    message with the fragments appended to `frame_buf` -/
theorem chunks_run (fs : Nat) (pol : Policy) (fc inj t : Bool) (fr : List (Bytes × Bool)) :
    wellFramed fr = true → ∀ (s : St) (pre : List Bytes), s.crashed = false → s.buf fc = pre ++ [[]] →
    procEvs fs pol fc inj s (fr.map (fun pf => WsEv.msg t pf.1 true pf.2)) =
      finishMsg fs pol fc inj s t (pre ++ fr.map (·.1)) := by
  fun_induction wellFramed fr with
  | case1 => simp
  | case2 p fin =>
    intro h s pre hc hb
    subst h
    simp only [List.map_cons, List.map_nil, procEvs, procEv, hc, Bool.false_eq_true, if_false, procMsg, if_true,
      hb, appendLast_snoc, List.nil_append, List.append_nil]
  | case3 p fin rest _ ih =>
    intro h s pre hc hb
    simp only [Bool.and_eq_true, Bool.not_eq_true'] at h
    obtain ⟨rfl, hwf⟩ := h
    have hstep : procEv fs pol fc inj s (WsEv.msg t p true false) = (s.setBuf fc ((pre ++ [p]) ++ [[]]), []) := by
      simp [procEv, hc, procMsg, hb, appendLast_snoc]
    have := ih hwf (s.setBuf fc ((pre ++ [p]) ++ [[]])) (pre ++ [p]) (by simpa using hc) (setBuf_buf _ _ _)
    rw [List.map_cons, procEvs, hstep]
    simp only [List.nil_append]
    rw [this, finishMsg_setBuf]
    simp [List.append_assoc]

/-- an injection is one finished message of its own: `frame_buf` is set aside for it and put back -/
theorem step_inject (fs : Nat) (pol : Policy) (s : St) (fc t : Bool) (c : Bytes)
    (hnd : s.done = false) (hc : s.crashed = false) :
    step fs pol s (.inject fc t c) =
      ((finishMsg fs pol fc true s t ((fragmentize fs [] t c).map (·.1))).1.setBuf fc (s.buf fc),
       (finishMsg fs pol fc true s t ((fragmentize fs [] t c).map (·.1))).2) := by
  simp only [step, hnd, hc, Bool.or_self, Bool.false_eq_true, if_false, injectEvents]
  rw [chunks_run fs pol fc true t _ (fragmentize_wellFramed _ _ _ _) (s.setBuf fc [[]]) [] (by simpa using hc)
    (setBuf_buf _ _ _), finishMsg_setBuf]
  rfl

/-- the relay's share of the end-to-end theorems: a message that arrives as the events of the well-framed `fr` while
    the other side is open is recorded once and, unless dropped, sent on as one burst -/
theorem relay_message (fs : Nat) (pol : Policy) (s : St) (fc t : Bool) (fr : List (Bytes × Bool))
    (hwf : wellFramed fr = true) (hnd : s.done = false) (hc : s.crashed = false) (hop : s.ws (!fc) = .wopen)
    (hb : s.buf fc = [[]]) (m : Msg)
    (hm : m = applyAction (Msg.mk t fc (fr.map (·.1)).flatten false false)
                (pol s.msgs.length (Msg.mk t fc (fr.map (·.1)).flatten false false)))
    (hkeep : m.dropped = false) :
    (step fs pol s (.data fc (fr.map (fun pf => WsEv.msg t pf.1 true pf.2)))).1.msgs = s.msgs ++ [m] ∧
    (step fs pol s (.data fc (fr.map (fun pf => WsEv.msg t pf.1 true pf.2)))).2 =
      [.hookMsg s.msgs.length, .sendMsg (!fc) t (fragmentize fs ((fr.map (·.1)).map List.length) t m.content)] := by
  have hstep : step fs pol s (.data fc (fr.map (fun pf => WsEv.msg t pf.1 true pf.2)))
      = finishMsg fs pol fc false s t (fr.map (·.1)) := by
    simp only [step, hnd, hc, Bool.or_self, Bool.false_eq_true, if_false]
    simpa using chunks_run fs pol fc false t fr hwf s [] hc (by simpa using hb)
  rw [hstep]
  unfold finishMsg
  simp only [← hm, hkeep, Bool.false_eq_true, if_false, hop, if_true, and_self]

/-! ### while nobody closes, the relay follows the history -/

/-- nobody has closed -/
structure Live (s : St) : Prop where
  wsC : s.wsC = .wopen
  wsS : s.wsS = .wopen
  done : s.done = false
  crashed : s.crashed = false

theorem live_init : Live {} := ⟨rfl, rfl, rfl, rfl⟩

theorem live_ws (s : St) (h : Live s) (c : Bool) : s.ws c = .wopen := by
  cases c <;> simp [St.ws, h.wsC, h.wsS]

theorem live_setBuf (s : St) (h : Live s) (fc : Bool) (b : List Bytes) : Live (s.setBuf fc b) := by
  cases fc <;> exact ⟨h.wsC, h.wsS, h.done, h.crashed⟩

/-- what the relay state keeps of the history: the data of the two messages in progress, the recorded messages -/
def St.toSent (s : St) : Sent := ⟨s.bufC.flatten, s.bufS.flatten, s.msgs⟩

theorem St.toSent_acc (s : St) (fc : Bool) : s.toSent.acc fc = (s.buf fc).flatten := by
  cases fc <;> rfl

theorem St.toSent_setBuf (s : St) (fc : Bool) (b : List Bytes) : (s.setBuf fc b).toSent = s.toSent.setAcc fc b.flatten := by
  cases fc <;> rfl

theorem controlsOut_append (tc : Bool) (a b : List Out) :
    controlsOut tc (a ++ b) = controlsOut tc a ++ controlsOut tc b := by
  induction a with
  | nil => rfl
  | cons o a ih =>
    cases o <;> simp only [List.cons_append, controlsOut, ih]
    all_goals (split <;> simp)

theorem wsControls_append (a b : List WsEv) : wsControls (a ++ b) = wsControls a ++ wsControls b := by
  induction a with
  | nil => rfl
  | cons e a ih => cases e <;> simp [wsControls, ih]

theorem controlsIn_append (fc : Bool) (a b : List Ev) :
    controlsIn fc (a ++ b) = controlsIn fc a ++ controlsIn fc b := by
  induction a with
  | nil => rfl
  | cons e a ih =>
    cases e <;> simp only [List.cons_append, controlsIn, ih]
    split <;> simp

/-- While nobody closes, the relay follows the history: from a state in which nobody has closed, inputs `es` that all satisfy
    `g` lead to such a state again, what the state keeps of the history follows `h`, and the pings and pongs handed to side
    `tc` are `c tc es`. -/
def Tracks {ε : Type} (g : ε → Prop) (h : Sent → ε → Sent) (c : Bool → List ε → List (Bool × Bytes))
    (s : St) (es : List ε) (out : List Out) (s' : St) : Prop :=
  Live s → (∀ e ∈ es, g e) → Live s' ∧ s'.toSent = es.foldl h s.toSent ∧ ∀ tc, controlsOut tc out = c tc es

theorem Tracks.refl {ε : Type} {g : ε → Prop} {h : Sent → ε → Sent} {c : Bool → List ε → List (Bool × Bytes)}
    (hc : ∀ tc, c tc [] = []) (s : St) : Tracks g h c s [] [] s :=
  fun hl _ => ⟨hl, rfl, fun tc => (hc tc).symm⟩

theorem Tracks.trans {ε : Type} {g : ε → Prop} {h : Sent → ε → Sent} {c : Bool → List ε → List (Bool × Bytes)}
    (hc : ∀ tc a b, c tc (a ++ b) = c tc a ++ c tc b) {s1 s2 s3 : St} {es1 es2 : List ε} {o1 o2 : List Out}
    (h1 : Tracks g h c s1 es1 o1 s2) (h2 : Tracks g h c s2 es2 o2 s3) : Tracks g h c s1 (es1 ++ es2) (o1 ++ o2) s3 :=
  fun hl hg =>
    let ⟨l1, a1, c1⟩ := h1 hl (fun e he => hg e (List.mem_append_left _ he))
    let ⟨l2, a2, c2⟩ := h2 l1 (fun e he => hg e (List.mem_append_right _ he))
    ⟨l2, by rw [List.foldl_append, ← a1, a2], fun tc => by rw [hc, controlsOut_append, c1, c2]⟩

theorem relay_live {fs : Nat} {pol : Policy} {fc : Bool} {s : St} {e : WsEv} {r : St × List Out}
    (h : Relay fs pol fc false s e r) :
    Tracks (fun e => e.isClose = false) (sentEv pol fc) (fun tc es => if (!fc) = tc then wsControls es else []) s [e] r.2 r.1 := by
  intro hl hn
  have hn := List.forall_mem_singleton.1 hn
  cases h with
  | stuck _ hc => exact absurd hc (by simp [hl.crashed])
  | part t d ff b hb =>
    exact ⟨live_setBuf _ hl _ _, by simp [sentEv, St.toSent_setBuf, St.toSent_acc, hb], fun tc => by simp [controlsOut, wsControls]⟩
  | dropped t d ff m hm | sent t d ff m hm =>
    exact ⟨by cases fc <;> exact ⟨hl.wsC, hl.wsS, hl.done, hl.crashed⟩, by cases fc <;> simp [hm, sentEv, St.toSent, St.setBuf, St.buf, Sent.setAcc, Sent.acc],
      fun tc => by simp [controlsOut, wsControls]⟩
  | ping p | pong p => exact ⟨hl, rfl, fun tc => by simp only [controlsOut, wsControls]⟩
  | unsent _ _ _ hw => exact absurd (live_ws s hl _) hw
  | close => cases hn

theorem procEvs_live (fs : Nat) (pol : Policy) (fc : Bool) (s : St) (es : List WsEv) :
    Tracks (fun e => e.isClose = false) (sentEv pol fc) (fun tc es => if (!fc) = tc then wsControls es else []) s es
      (procEvs fs pol fc false s es).2 (procEvs fs pol fc false s es).1 :=
  fold_ind (procEv fs pol fc false) (procEvs fs pol fc false) (Tracks.refl (fun tc => by simp [wsControls]))
    (Tracks.trans (fun tc a b => by split <;> simp [wsControls_append]))
    (fun s e => relay_live (procEv_relay fs pol fc false s e)) s es

theorem step_live (fs : Nat) (pol : Policy) (s : St) (e : Ev) :
    Tracks (fun e => e.noClose = true) (sentOf pol) (fun tc es => controlsIn (!tc) es) s [e]
      (step fs pol s e).2 (step fs pol s e).1 := by
  intro h hn
  have hn := List.forall_mem_singleton.1 hn
  cases e with
  | data fc evs =>
    simp only [step, h.done, h.crashed, Bool.or_self, Bool.false_eq_true, if_false]
    obtain ⟨l, a, c⟩ := procEvs_live fs pol fc s evs h (by simpa [Ev.noClose] using hn)
    exact ⟨l, a, fun tc => by rw [c tc]; cases fc <;> cases tc <;> simp [controlsIn]⟩
  | inject fc t content =>
    rw [step_inject fs pol s fc t content h.done h.crashed]
    unfold finishMsg
    simp only [live_ws s h, if_true, fragmentize_wire, List.foldl_cons, List.foldl_nil, sentOf]
    split <;>
      exact ⟨by cases fc <;> exact ⟨h.wsC, h.wsS, h.done, h.crashed⟩, by cases fc <;> simp [St.toSent, St.setBuf, St.buf], fun tc => by simp [controlsOut, controlsIn]⟩

theorem run_live (fs : Nat) (pol : Policy) (s : St) (es : List Ev) :
    Tracks (fun e => e.noClose = true) (sentOf pol) (fun tc es => controlsIn (!tc) es) s es
      (run fs pol s es).2 (run fs pol s es).1 :=
  fold_ind (step fs pol) (run fs pol) (Tracks.refl (fun _ => rfl)) (Tracks.trans (fun tc a b => controlsIn_append (!tc) a b))
    (step_live fs pol) s es

/-! ### the first close -/

/-- a batch that ends in a close event, and whatever follows it, leave the relay as the close event leaves it -/
theorem run_close (fs : Nat) (pol : Policy) (s : St) (fc : Bool) (pre : List WsEv) (kind : CloseKind) (code : Nat)
    (reason : Option Bytes) (rest : List Ev) (hnd : s.done = false)
    (hc : (procEvs fs pol fc false s pre).1.crashed = false) :
    ∃ wC wS, (run fs pol s (.data fc (pre ++ [.close kind code reason]) :: rest)).1 =
      { (procEvs fs pol fc false s pre).1 with wsC := wC, wsS := wS, closed := some (fc, code, reason), done := true } := by
  obtain ⟨wC, wS, out, h, _⟩ := procClose_spec fc (procEvs fs pol fc false s pre).1 kind code reason
  have hstep : (step fs pol s (.data fc (pre ++ [.close kind code reason]))).1 =
      (procClose fc (procEvs fs pol fc false s pre).1 kind code reason).1 := by
    simp only [step, hnd, (procEvs_delivers fs pol fc false s pre hc).1, Bool.or_self, Bool.false_eq_true, if_false,
      procEvs_append, procEvs, procEv, hc]
  rw [h] at hstep
  refine ⟨wC, wS, ?_⟩
  simp only [run]
  rw [run_done _ _ _ _ (by rw [hstep]), hstep]

/-! ### a close only as the last event of a batch: no crash -/

/-- nobody has closed, or the relay has ended without a crash -/
def Safe (s : St) : Prop := Live s ∨ (s.done = true ∧ s.crashed = false)

/-- the last event of a batch may be a close: then the relay is done -/
theorem relay_safe {fs : Nat} {pol : Policy} {fc : Bool} {s : St} {e : WsEv} {r : St × List Out}
    (h : Relay fs pol fc false s e r) (hl : Live s) : Safe r.1 := by
  cases he : e.isClose with
  | false => exact Or.inl (relay_live h hl (List.forall_mem_singleton.2 he)).1
  | true =>
    cases h with
    | stuck _ hc => exact absurd hc (by simp [hl.crashed])
    | unsent _ _ _ hw => exact absurd (live_ws s hl _) hw
    | close => exact Or.inr ⟨rfl, hl.crashed⟩
    | _ => cases he

theorem procEvs_safe (fs : Nat) (pol : Policy) (fc : Bool) (es : List WsEv) :
    ∀ s : St, Live s → closeLast es = true → Safe (procEvs fs pol fc false s es).1 := by
  fun_induction closeLast es with
  | case1 => exact fun s h _ => Or.inl h
  | case2 e => exact fun s h _ => show Safe (procEv fs pol fc false s e).1 from relay_safe (procEv_relay ..) h
  | case3 e rest _ ih =>
    intro s h hcl
    simp only [Bool.and_eq_true, Bool.not_eq_true'] at hcl
    exact ih _ (relay_live (procEv_relay fs pol fc false s e) h (List.forall_mem_singleton.2 hcl.1)).1 hcl.2

theorem step_safe (fs : Nat) (pol : Policy) (s : St) (e : Ev) (h : Safe s) (hcl : e.closeLast = true) :
    Safe (step fs pol s e).1 := by
  rcases h with h | h
  · cases e with
    | data fc evs =>
      simp only [step, h.done, h.crashed, Bool.or_self, Bool.false_eq_true, if_false]
      exact procEvs_safe fs pol fc evs s h hcl
    | inject fc t c => exact Or.inl (step_live fs pol s (.inject fc t c) h (List.forall_mem_singleton.2 rfl)).1
  · rw [step_done fs pol s e h.1]; exact Or.inr h

theorem run_safe (fs : Nat) (pol : Policy) (es : List Ev) :
    ∀ s : St, Safe s → (∀ e ∈ es, e.closeLast = true) → Safe (run fs pol s es).1 := by
  induction es with
  | nil => intro s h _; exact h
  | cons e es ih =>
    intro s h hcl
    simp only [run]
    exact ih _ (step_safe fs pol s e h (hcl e (by simp))) (fun x hx => hcl x (List.mem_cons_of_mem _ hx))

end MitmVerif.C28
