/- obs-fold: how the reference reader joins continuation lines to a field value; fields given by the CRLF-separated parts of
   their values (`PField`, the shape `_read_headers` builds) -/
import MitmVerif.Lemmas.C01_Roundtrip
namespace MitmVerif.C01
open MitmVerif

/-- a continuation line: starts with SP or HTAB -/
def startsWs (q : Bytes) : Prop := ∃ c t, q = c :: t ∧ (c = 32 ∨ c = 9)

/-- how the reference reader extends a value by a continuation line (obs-fold → one SP, OWS removed) -/
def foldStep (a q : Bytes) : Bytes := stripBy isOws (a ++ [32] ++ stripBy isOws q)
def foldVal (q0 : Bytes) (qs : List Bytes) : Bytes := qs.foldl foldStep (stripBy isOws q0)

theorem fieldsAux_cont : ∀ (qs rest : List Bytes) (n a : Bytes) (acc : List Field), (∀ q ∈ qs, startsWs q) →
    Ref.fieldsAux (qs ++ rest) ((n, a) :: acc) = Ref.fieldsAux rest ((n, qs.foldl foldStep a) :: acc)
  | [], rest, n, a, acc, _ => by simp
  | q :: qs, rest, n, a, acc, h => by
    obtain ⟨c, t, rfl, hc⟩ := h q (by simp)
    have ih := fieldsAux_cont qs rest n (foldStep a (c :: t)) acc (fun x hx => h x (by simp [hx]))
    simp only [List.cons_append, Ref.fieldsAux, hc, ↓reduceIte, List.foldl_cons]
    exact ih

theorem fieldsAux_first (name q0 : Bytes) (more : List Bytes) (acc : List Field) (hn : isToken name = true) :
    Ref.fieldsAux ((name ++ colonSp ++ q0) :: more) acc = Ref.fieldsAux more ((name, stripBy isOws q0) :: acc) := by
  obtain ⟨hcol, _, _, hne, hhead⟩ := token_no_colon hn
  cases name with
  | nil => exact absurd rfl hne
  | cons c cs =>
    have hc := hhead c rfl
    have hsplit : splitOn 58 ((c :: cs) ++ colonSp ++ q0) = (c :: cs) :: splitSep 58 (32 :: q0) := by
      simp only [splitOn_eq, colonSp, List.append_assoc, List.cons_append, List.nil_append]
      exact splitSep_append_sep (q := c :: cs) hcol (32 :: q0)
    have hline : (c :: cs) ++ colonSp ++ q0 = c :: (cs ++ colonSp ++ q0) := by simp
    simp only [Ref.fieldsAux]
    rw [hline]
    simp only [hc.1, hc.2, or_self, ↓reduceIte]
    rw [← hline, hsplit]
    cases hs : splitSep 58 (32 :: q0) with
    | nil => exact absurd hs (splitSep_ne_nil _ _)
    | cons p ps =>
      have hj : joinWith [58] (p :: ps) = 32 :: q0 := by rw [← hs, joinWith_eq]; exact joinBy_splitSep 58 _
      simp only [hn, Bool.not_true, Bool.false_eq_true, ↓reduceIte, hj]
      rw [stripBy_cons_ws (by decide) q0]

/-- a field given by the CRLF-separated parts of its value (what `_read_headers` builds: `v0 ++ "\r\n " ++ …`) -/
structure PField where
  name : Bytes
  q0 : Bytes
  qs : List Bytes

namespace PField
def value (pf : PField) : Bytes := joinWith crlf (pf.q0 :: pf.qs)
/-- the field as recorded in the flow -/
def field (pf : PField) : Field := (pf.name, pf.value)
/-- the field as the reference reader reads it -/
def ufield (pf : PField) : Field := (pf.name, Ref.unfold pf.value)
def ok (pf : PField) : Prop :=
  cleanLine pf.q0 ∧ (0 : UInt8) ∉ pf.q0 ∧ ∀ q ∈ pf.qs, cleanLine q ∧ (0 : UInt8) ∉ q ∧ startsWs q
end PField

theorem no_nul_foldVal : ∀ (qs : List Bytes) (a : Bytes), (0 : UInt8) ∉ a → (∀ q ∈ qs, (0 : UInt8) ∉ q) →
    (0 : UInt8) ∉ qs.foldl foldStep a
  | [], a, ha, _ => by simpa using ha
  | q :: qs, a, ha, h => by
    simp only [List.foldl_cons]
    apply no_nul_foldVal qs
    · unfold foldStep
      apply stripBy_not_mem
      have := stripBy_not_mem (f := isOws) (h q (by simp))
      simp [ha, this]
    · exact fun x hx => h x (by simp [hx])

/-- the framing fields themselves are not folded and carry no surrounding OWS (implied by `validate_headers`, which rejects
    a Content-Length / Transfer-Encoding value containing CR LF: `framing_fields_plain` in Props/C01) -/
def FramingFieldsPlain (pfs : List PField) : Prop :=
  ∀ pf ∈ pfs, (asciiLower pf.name = sTE ∨ asciiLower pf.name = sCL) → pf.qs = [] ∧ stripBy isOws pf.q0 = pf.q0

end MitmVerif.C01
