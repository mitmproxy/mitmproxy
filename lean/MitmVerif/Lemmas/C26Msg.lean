/-
  C26, message level: (A) what `unpack` returns is related to what the specification decoder reads from the same bytes;
  (B) the specification decoder reads `pack` of a related message as the same specification message. "Related" is `MsgRel`
  (`QRel`, `RRel`: names by `NameRel`, numbers equal and in range); (A) is Lemmas/C26 section by section, (B) is the layout
  lemmas of Lemmas/C25Msg read by `DnsRef`. Props/C26 `repack_preserves` is (B) after (A).
-/
import MitmVerif.Lemmas.C26
import MitmVerif.Lemmas.C25Msg
set_option linter.unusedVariables false
set_option linter.unusedSimpArgs false
namespace MitmVerif.C26
open MitmVerif MitmVerif.C25

inductive Rel2 {α β : Type} (R : α → β → Prop) : List α → List β → Prop
  | nil : Rel2 R [] []
  | cons {a : α} {b : β} {as : List α} {bs : List β} : R a b → Rel2 R as bs → Rel2 R (a :: as) (b :: bs)

theorem Rel2.length_eq {α β : Type} {R : α → β → Prop} {as : List α} {bs : List β} (h : Rel2 R as bs) :
    as.length = bs.length := by
  induction h with
  | nil => rfl
  | cons _ _ ih => simp [ih]

theorem Rel2.append {α β : Type} {R : α → β → Prop} {a1 a2 : List α} {b1 b2 : List β} (h1 : Rel2 R a1 b1) (h2 : Rel2 R a2 b2) :
    Rel2 R (a1 ++ a2) (b1 ++ b2) := by
  induction h1 with
  | nil => simpa using h2
  | cons h _ ih => exact Rel2.cons h ih

theorem Rel2.mem_right {α β : Type} {R : α → β → Prop} {as : List α} {bs : List β} (h : Rel2 R as bs) :
    ∀ b ∈ bs, ∃ a ∈ as, R a b := by
  induction h with
  | nil => intro b hb; cases hb
  | cons hab _ ih =>
    intro b hb
    rcases List.mem_cons.mp hb with rfl | hb
    · exact ⟨_, by simp, hab⟩
    · obtain ⟨a, ha, hr⟩ := ih b hb; exact ⟨a, by simp [ha], hr⟩

structure QRel (I : Idna) (q : Question) (rq : DnsRef.RQ) : Prop where
  name : NameRel I q.name rq.labels
  type : q.type = rq.type
  cls : q.cls = rq.cls
  tlt : q.type < 65536
  clt : q.cls < 65536

structure RRel (I : Idna) (r : RR) (rr : DnsRef.RRec) : Prop where
  name : NameRel I r.name rr.labels
  type : r.type = rr.type
  cls : r.cls = rr.cls
  ttl : r.ttl = rr.ttl
  data : r.data = rr.rdata
  canon : CanonRdata rr.type rr.rdata   -- for (B): the data is read back where `pack` puts it
  tlt : r.type < 65536
  clt : r.cls < 65536
  ttllt : r.ttl < 4294967296
  dlen : r.data.length < 65536

/-! ### one step of the specification's section readers, and `DnsRef.decode` as a whole, read backwards -/

theorem refQuestions_succ {buf : Bytes} {k pos : Nat} {rqs : List DnsRef.RQ} {p : Nat}
    (h : DnsRef.questions buf (k + 1) pos = some (rqs, p)) :
    ∃ ls n ty cl rqs', DnsRef.name buf pos = some (ls, n) ∧ getU16 buf (pos + n) = some ty ∧
      getU16 buf (pos + n + 2) = some cl ∧ DnsRef.questions buf k (pos + n + 4) = some (rqs', p) ∧
      rqs = ⟨ls, ty, cl⟩ :: rqs' := by
  generalize hk : k + 1 = k' at h
  revert h
  fun_cases DnsRef.questions buf k' pos <;> intro h <;> cases h <;> cases hk
  case case4 hn hc ht hrec => exact ⟨_, _, _, _, _, hn, ht, hc, hrec, rfl⟩

theorem refRecords_succ {buf : Bytes} {k pos : Nat} {rrs : List DnsRef.RRec} {p : Nat}
    (h : DnsRef.records buf (k + 1) pos = some (rrs, p)) :
    ∃ ls n ty cl ttl len d rrs', DnsRef.name buf pos = some (ls, n) ∧ getU16 buf (pos + n) = some ty ∧
      getU16 buf (pos + n + 2) = some cl ∧ getU32 buf (pos + n + 4) = some ttl ∧ getU16 buf (pos + n + 8) = some len ∧
      pos + n + 10 + len ≤ buf.length ∧ DnsRef.rdata buf (pos + n + 10) len ty = some d ∧
      DnsRef.records buf k (pos + n + 10 + len) = some (rrs', p) ∧ rrs = ⟨ls, ty, cl, ttl, d⟩ :: rrs' := by
  generalize hk : k + 1 = k' at h
  revert h
  fun_cases DnsRef.records buf k' pos <;> intro h <;> cases h <;> cases hk
  case case6 hn _ hl httl hc ht hlen hd hrec =>
    exact ⟨_, _, _, _, _, _, _, _, hn, ht, hc, httl, hl, Nat.le_of_not_lt hlen, hd, hrec, rfl⟩

theorem decode_some {b : Bytes} {d : DnsRef.RMsg} (h : DnsRef.decode b = some d) :
    ∃ nq nan nns nar p1 p2 p3,
      getU16 b 0 = some d.id ∧ getU16 b 2 = some d.flags ∧ getU16 b 4 = some nq ∧ getU16 b 6 = some nan ∧
      getU16 b 8 = some nns ∧ getU16 b 10 = some nar ∧ DnsRef.questions b nq 12 = some (d.questions, p1) ∧
      DnsRef.records b nan p1 = some (d.answers, p2) ∧ DnsRef.records b nns p2 = some (d.authorities, p3) ∧
      DnsRef.records b nar p3 = some (d.additionals, b.length) := by
  revert h
  fun_cases DnsRef.decode b <;> intro h <;> cases h
  case case5 g10 g8 g6 g4 g2 g0 _ _ hq _ _ ha _ _ hn _ hr =>
    exact ⟨_, _, _, _, _, _, _, g0, g2, g4, g6, g8, g10, hq, ha, hn, hr⟩

/-! ### (A) -/

theorem questions_agree {I : Idna} {buf : Bytes} : ∀ {k pos : Nat} {cache : Cache} {rqs : List DnsRef.RQ} {p : Nat}
    {qs : List Question} {off' : Nat} {c' : Cache},
    DnsRef.questions buf k pos = some (rqs, p) → CacheAll (AgreesAt I buf) cache →
    unpackQuestions I buf k pos cache = some (qs, off', c') →
    off' = p ∧ Rel2 (QRel I) qs rqs ∧ CacheAll (AgreesAt I buf) c' := by
  intro k
  induction k with
  | zero => intro pos cache rqs p qs off' c' hr hca hu; cases hr; cases hu; exact ⟨rfl, .nil, hca⟩
  | succ k ih =>
    intro pos cache rqs p qs off' c' hr hca hu
    obtain ⟨name, n, c1, ty, cl, qs2, hun, ht, hc, huq, rfl⟩ := unpackQuestions_succ hu
    obtain ⟨ls, n', ty', cl', rqs2, hn, ht', hc', hrq, rfl⟩ := refQuestions_succ hr
    obtain ⟨hag, hca1⟩ := unpackName_agrees hca hun
    obtain ⟨rfl, hrel⟩ := hag ls n' hn
    rw [ht] at ht'; rw [hc] at hc'; cases ht'; cases hc'
    obtain ⟨rfl, hf, hca2⟩ := ih hrq hca1 huq
    exact ⟨rfl, .cons ⟨hrel, rfl, rfl, getU16_lt ht, getU16_lt hc⟩ hf, hca2⟩

theorem records_agree {I : Idna} {buf : Bytes} : ∀ {k pos : Nat} {cache : Cache} {rrs : List DnsRef.RRec} {p : Nat}
    {rs : List RR} {off' : Nat} {c' : Cache},
    DnsRef.records buf k pos = some (rrs, p) → CacheAll (AgreesAt I buf) cache →
    unpackRRs I buf k pos cache = some (rs, off', c') →
    off' = p ∧ Rel2 (RRel I) rs rrs ∧ CacheAll (AgreesAt I buf) c' := by
  intro k
  induction k with
  | zero => intro pos cache rrs p rs off' c' hr hca hu; cases hr; cases hu; exact ⟨rfl, .nil, hca⟩
  | succ k ih =>
    intro pos cache rrs p rs off' c' hr hca hu
    obtain ⟨name, n, c1, ty, cl, ttl, len, d', rs2, hun, ht, hc, httl, hl, hlen, hud, huq, rfl⟩ := unpackRRs_succ hu
    obtain ⟨ls, n', ty', cl', ttl', len', d, rrs2, hn, ht', hc', httl', hl', _, hrd, hrq, rfl⟩ := refRecords_succ hr
    obtain ⟨hag, hca1⟩ := unpackName_agrees hca hun
    obtain ⟨rfl, hrel⟩ := hag ls n' hn
    rw [ht] at ht'; rw [hc] at hc'; rw [httl] at httl'; rw [hl] at hl'; cases ht'; cases hc'; cases httl'; cases hl'
    have hdd := hud
    rw [rrData_ref hrd hlen (getU16_lt hl)] at hdd
    split at hdd <;> cases hdd
    obtain ⟨rfl, hf, hca2⟩ := ih hrq hca1 huq
    exact ⟨rfl, .cons ⟨hrel, rfl, rfl, rfl, rfl, rdata_canon hrd hlen, getU16_lt ht, getU16_lt hc, getU32_lt httl,
      rrData_len hud (getU16_lt hl)⟩ hf, hca2⟩

structure MsgRel (I : Idna) (m : Msg) (d : DnsRef.RMsg) : Prop where
  id : m.id = d.id
  idlt : m.id < 65536
  op : m.opCode < 16
  res : m.reserved < 8
  rc : m.rcode < 16
  flags : flagsOf m = d.flags
  qs : Rel2 (QRel I) m.questions d.questions
  an : Rel2 (RRel I) m.answers d.answers
  ns : Rel2 (RRel I) m.authorities d.authorities
  ar : Rel2 (RRel I) m.additionals d.additionals
  nq : m.questions.length < 65536
  nan : m.answers.length < 65536
  nns : m.authorities.length < 65536
  nar : m.additionals.length < 65536

/-- (A) -/
theorem decode_agree {I : Idna} {b : Bytes} {m : Msg} {d : DnsRef.RMsg} (hd : DnsRef.decode b = some d)
    (hu : unpack I b = some m) : MsgRel I m d := by
  obtain ⟨hid, hop, hres, hrc, hnq, hnan, hnns, hnar, _⟩ := unpack_wellFormed0 hu
  obtain ⟨id, flags, nq, nan, nns, nar, qs, o1, c1, an, o2, c2, ns, o3, c3, ar, c4, h1, h2, h3, h4, h5, h6, hq, ha, hn, hr, rfl⟩ :=
    unpack_some hu
  obtain ⟨nq', nan', nns', nar', p1, p2, p3, g1, g2, g3, g4, g5, g6, rq, ra, rn, rr⟩ := decode_some hd
  rw [h1] at g1; rw [h2] at g2; rw [h3] at g3; rw [h4] at g4; rw [h5] at g5; rw [h6] at g6
  cases g3; cases g4; cases g5; cases g6
  obtain ⟨rfl, fq, ca1⟩ := questions_agree rq CacheAll.nil hq
  obtain ⟨rfl, fa, ca2⟩ := records_agree ra ca1 ha
  obtain ⟨rfl, fn, ca3⟩ := records_agree rn ca2 hn
  obtain ⟨_, fr, _⟩ := records_agree rr ca3 hr
  exact { id := Option.some.inj g1, idlt := hid, op := hop, res := hres, rc := hrc,
          flags := (flags_recompose flags (getU16_lt h2)).trans (Option.some.inj g2),
          qs := fq, an := fa, ns := fn, ar := fr, nq := hnq, nan := hnan, nns := hnns, nar := hnar }

/-! ### (B) the specification reads `pack` of a related message as the same specification message -/

theorem refQuestions_packed {I : Idna} {buf : Bytes} : ∀ (qs : List Question) (rqs : List DnsRef.RQ) (pos : Nat) (w rest : Bytes),
    Rel2 (QRel I) qs rqs → packList (packQuestion I) qs = some w → buf.drop pos = w ++ rest →
    DnsRef.questions buf qs.length pos = some (rqs, pos + w.length) := by
  intro qs rqs pos w rest hrel
  induction hrel generalizing pos w with
  | nil => intro hp _; simp [packList] at hp; subst hp; simp [DnsRef.questions]
  | @cons q rq qs rqs hq _ ih =>
    intro hp hb
    obtain ⟨wq, ws, hpq, hpqs, rfl⟩ := packList_cons_some hp
    obtain ⟨nb, tail, hn, hb1, g1, g2, hb4, hlen⟩ := packQuestion_layout hpq (rest := ws ++ rest) (by simpa using hb)
    rw [hq.name.packName] at hn; cases hn
    have hname := refName_wire (rest := tail) (by simpa using hb1) hq.name.1
    simp only [List.length_append, List.length_singleton] at g1 g2 hb4 hlen
    have hrec := ih _ ws hpqs hb4
    simp only [List.length_cons, DnsRef.questions, hname, g1, g2, hrec]
    have e1 : rq = ⟨rq.labels, q.type, q.cls⟩ := by
      cases rq; simp [hq.type, hq.cls]
    rw [← e1]
    simp [hlen]; omega

theorem refRecords_packed {I : Idna} {buf : Bytes} : ∀ (rs : List RR) (rrs : List DnsRef.RRec) (pos : Nat) (w rest : Bytes),
    Rel2 (RRel I) rs rrs → packList (packRR I) rs = some w → buf.drop pos = w ++ rest →
    DnsRef.records buf rs.length pos = some (rrs, pos + w.length) := by
  intro rs rrs pos w rest hrel
  induction hrel generalizing pos w with
  | nil => intro hp _; simp [packList] at hp; subst hp; simp [DnsRef.records]
  | @cons r rr rs rrs hr _ ih =>
    intro hp hb
    obtain ⟨wr, ws, hpr, hprs, rfl⟩ := packList_cons_some hp
    obtain ⟨nb, tail, hn, hb1, g1, g2, g3, g4, hb6, hlen, hwl⟩ := packRR_layout hpr (rest := ws ++ rest) (by simpa using hb)
    rw [hr.name.packName] at hn; cases hn
    have hname := refName_wire (rest := tail) (by simpa using hb1) hr.name.1
    simp only [List.length_append, List.length_singleton] at g1 g2 g3 g4 hb6 hlen hwl
    have hdata : DnsRef.rdata buf (pos + ((wire rr.labels).length + 1) + 10) r.data.length r.type = some rr.rdata := by
      have := hr.canon buf (pos + ((wire rr.labels).length + 1) + 10) (ws ++ rest) (by rw [← hr.data]; exact hb6)
      rw [← hr.data, ← hr.type] at this
      rw [this, hr.data]
    have hrec := ih _ ws hprs (drop_of_drop_append hb6)
    simp only [List.length_cons, DnsRef.records, hname, g1, g2, g3, g4, hlen, if_false, hdata, hrec]
    have e1 : rr = ⟨rr.labels, r.type, r.cls, r.ttl, rr.rdata⟩ := by
      cases rr; simp [hr.type, hr.cls, hr.ttl]
    rw [← e1]
    simp [hwl]; omega

/-- (B) -/
theorem decode_packed {I : Idna} {m : Msg} {d : DnsRef.RMsg} {b' : Bytes} (hrel : MsgRel I m d)
    (hp : pack I m = some b') : DnsRef.decode b' = some d := by
  obtain ⟨qsb, anb, nsb, arb, hqs, hanb, hnsb, harb, g0, g2, g4, g6, g8, g10, h12, hlen⟩ := pack_some hp
  have hu1 := refQuestions_packed m.questions d.questions 12 qsb _ hrel.qs hqs h12
  have h12a := drop_of_drop_append h12
  have hu2 := refRecords_packed m.answers d.answers _ anb _ hrel.an hanb h12a
  have h12b := drop_of_drop_append h12a
  have hu3 := refRecords_packed m.authorities d.authorities _ nsb _ hrel.ns hnsb h12b
  have hu4 := refRecords_packed m.additionals d.additionals _ arb _ hrel.ar harb (drop_of_drop_append h12b)
  simp only [DnsRef.decode, g0, g2, g4, g6, g8, g10, hu1, hu2, hu3, hu4, hlen, if_true]
  cases d
  simp [hrel.id, hrel.flags] at *

end MitmVerif.C26
