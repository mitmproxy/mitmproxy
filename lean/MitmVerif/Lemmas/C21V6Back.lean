/-
  C21 — the inet_ntop6 text reads back to the 16 requested bytes: outside the embedded-IPv4 forms it is CPython's
  text; in them it is CPython's text up to word 6 and then a dotted quad (`emitV6_front`, `emitV6_embedded`), whatever
  lies between the run and the quad; the value read is the 16 bytes big-endian and determines them.
-/
import MitmVerif.Lemmas.C21V6Py
namespace MitmVerif.C21
open MitmVerif
open MitmVerif.Lemmas.C22 (join foldHextets colons)

/-- "::a.b.c.d" and "::ffff:a.b.c.d": the words `lo` between the run and the embedded quad -/
theorem read_embedded (lo : List Nat) (hlo : ∀ w ∈ lo, w < 65536) (hlen : lo.length < 6) (a b c d : UInt8) :
    C22.parseIp (join (([] :: [] :: lo.map H) ++ [asciiBytes (textV4 [a, b, c, d])])) =
      some (.v6 (foldHextets 0 (lo ++ [a.toNat * 256 + b.toNat, c.toNat * 256 + d.toNat])) none) := by
  rw [Hs_eq lo hlo, textV4_eq]
  exact Lemmas.C22.parseIp_embedded lo hlo hlen _ _ _ _ a.toNat_lt b.toNat_lt c.toNat_lt d.toNat_lt

/-- the embedded-IPv4 forms: a zero run from word 0, the words `lo` up to word 6, then the last four bytes as a
    dotted quad -/
theorem emitV6_embedded (zs lo : List Nat) (x y w5 : Nat) (l4 : Bytes) (hz : zs ≠ []) (h6 : zs.length + lo.length = 6)
    (hemb : Embedded (some ⟨0, zs.length⟩) w5) :
    asciiBytes (emitV6 (some ⟨0, zs.length⟩) w5 l4 (zs ++ (lo ++ [x, y])) 0 ++ v6Tail (some ⟨0, zs.length⟩)) =
      join (([] :: [] :: lo.map H) ++ [asciiBytes (textV4 l4)]) := by
  have hlast : emitV6 (some ⟨0, zs.length⟩) w5 l4 [x, y] 6 = ':' :: textV4 l4 := by
    have h1 : ¬ 6 < zs.length := by omega
    have h2 : zs.length = 6 ∨ zs.length = 5 ∧ w5 = 65535 := hemb.2
    simp [emitV6, h1, h2]
  have ht : v6Tail (some ⟨0, zs.length⟩) = [] := by simp [v6Tail]; omega
  rw [← List.append_assoc, emitV6_front _ _ _ _ _ 0 (Or.inl (by simp; omega)), ht, List.append_nil, asciiBytes_append,
    emitPy_gap 0 zs lo hz, List.length_append, Nat.zero_add, h6, hlast]
  simp [join, colons, asciiBytes_cons]

/-- inet_ntop6 on eight words, the last two given as four bytes, is read back to these words -/
theorem parseIp_emitV6 (ws : List Nat) (h8 : ws.length = 8) (hw : ∀ w ∈ ws, w < 65536) (a b c d : UInt8)
    (h67 : ws.drop 6 = [a.toNat * 256 + b.toNat, c.toNat * 256 + d.toNat]) :
    C22.parseIp (asciiBytes (emitV6 (bestRun ws) (ws.getD 5 0) [a, b, c, d] ws 0 ++ v6Tail (bestRun ws))) =
      some (.v6 (wordsVal ws) none) := by
  by_cases hemb : Embedded (bestRun ws) (ws.getD 5 0)
  · cases hb : bestRun ws with
    | none => rw [hb] at hemb; exact absurd hemb (by simp [Embedded])
    | some r =>
      obtain ⟨b', l⟩ := r
      rw [hb] at hemb
      obtain ⟨h2, pre, zs, post, rfl, hp, rfl, hz0⟩ := bestRun_split ws b' l hb
      have hb0 : b' = 0 := hemb.1
      subst hb0
      obtain rfl : pre = [] := List.eq_nil_of_length_eq_zero hp
      simp only [List.nil_append] at h8 h67 hemb ⊢
      have hl : zs.length = 6 ∨ zs.length = 5 ∧ _ := hemb.2
      have hzl : zs.length ≤ 6 := by omega
      -- the words behind the run are `lo` and the two that make the quad
      obtain ⟨lo, h6, rfl⟩ : ∃ lo, zs.length + lo.length = 6 ∧
          post = lo ++ [a.toNat * 256 + b.toNat, c.toNat * 256 + d.toNat] := by
        refine ⟨post.take (6 - zs.length), ?_, ?_⟩
        · simp only [List.length_append] at h8
          rw [List.length_take]; omega
        · rw [List.drop_append, List.drop_eq_nil_of_le hzl, List.nil_append] at h67
          rw [← h67, List.take_append_drop]
      have hne : zs ≠ [] := by intro e; simp [e] at h2
      rw [emitV6_embedded zs lo _ _ _ _ hne h6 hemb,
        read_embedded lo (fun w hm => hw w (by simp [hm])) (by omega)]
      simp only [wordsVal, Lemmas.C22.foldHextets_append, Lemmas.C22.foldHextets_zeros zs hz0, Nat.zero_mul]
  · rw [emitV6_eq_emitPy _ _ _ hemb]
    exact parseIp_emitPy ws h8 hw

/-- **the IPv6 text reads back**: for every 16-byte address, CPython's `ipaddress.ip_address` (C22's transcription
    `parseIp`) applied to the text `textV6` produces is the IPv6 address with exactly these 8 words, no scope -/
theorem parseIp_textV6 (ad : Bytes) (h : ad.length = 16) :
    C22.parseIp (asciiBytes (textV6 ad)) = some (.v6 (wordsVal (words16 ad)) none) := by
  have h4 : (ad.drop 12).length = 4 := by rw [List.length_drop, h]
  match hd : ad.drop 12, h4 with
  | [a, b, c, d], _ =>
    have := parseIp_emitV6 (words16 ad) (by rw [words16_length, h]) (words16_lt ad) a b c d
      (by rw [words16_drop, hd]; rfl)
    rw [← hd] at this
    exact this

/-! ### the integer is the 16 bytes, big-endian; and it determines them -/

/-- `int.from_bytes(ad, "big")` -/
def beNat (ad : Bytes) : Nat := ad.foldl (fun a b => a * 256 + b.toNat) 0

theorem beFold_words : ∀ (r : Bytes) (acc : Nat), r.length % 2 = 0 →
    r.foldl (fun a b => a * 256 + b.toNat) acc = foldHextets acc (words16 r)
  | [], acc, _ => rfl
  | [x], _, h => by simp at h
  | x :: y :: r, acc, h => by
    have h' : r.length % 2 = 0 := by simp only [List.length_cons] at h; omega
    have ih := beFold_words r ((acc * 256 + x.toNat) * 256 + y.toNat) h'
    have e : (acc * 256 + x.toNat) * 256 + y.toNat = acc * 65536 + (x.toNat * 256 + y.toNat) := by omega
    simp only [List.foldl_cons, words16, foldHextets] at ih ⊢
    rw [ih, e]

theorem wordsVal_words16 (ad : Bytes) (h : ad.length = 16) : wordsVal (words16 ad) = beNat ad := by
  simp only [wordsVal, beNat]
  exact (beFold_words ad 0 (by omega)).symm

theorem beFold_inj : ∀ (x y : Bytes) (acc acc' : Nat), x.length = y.length →
    x.foldl (fun a b => a * 256 + b.toNat) acc = y.foldl (fun a b => a * 256 + b.toNat) acc' → acc = acc' ∧ x = y
  | [], [], _, _, _, h => ⟨h, rfl⟩
  | [], _ :: _, _, _, hl, _ => nomatch hl
  | _ :: _, [], _, _, hl, _ => nomatch hl
  | a :: r, a' :: r', acc, acc', hl, h => by
    obtain ⟨e, er⟩ := beFold_inj r r' _ _ (Nat.succ.inj hl) h
    have e : acc * 256 + a.toNat = acc' * 256 + a'.toNat := e
    have := a.toNat_lt; have := a'.toNat_lt
    have : acc = acc' ∧ a.toNat = a'.toNat := by omega
    exact ⟨this.1, by rw [UInt8.toNat_inj.mp this.2, er]⟩

end MitmVerif.C21
