/-
  C37 — helper lemmas.  A prefix of a concatenation of records is some whole records followed by nothing or by a strict,
  non-empty prefix of the next one (`prefix_decomp`); a prefix of a `Good` sequence is `Good`; the writers produce the
  concatenation `encList` (`writeAll_eq`, `run_from`).  Buffering: a buffered file satisfies `disk ++ buf` = everything
  written so far (`runOps_inv`, `pyWrite_inv`), so what the OS holds at any moment, cut anywhere, is a prefix of the
  record file (`disk_cut_prefix`, `pyExplicit_disk_prefix`) — which is all the crash theorems of Props/C37 need.
-/
import MitmVerif.Model.C37
import MitmVerif.Lemmas.C36
namespace MitmVerif.C37
open MitmVerif.C36

theorem encList_append (a b : List Value) : encList (a ++ b) = encList a ++ encList b := by
  induction a with
  | nil => simp [encList]
  | cons v t ih => simp [encList, ih]

theorem prefix_decomp (vs : List Value) (p : Bytes) (hp : p <+: encList vs) :
    ∃ k q, k ≤ vs.length ∧ p = encList (vs.take k) ++ q ∧
      (q = [] ∨ ∃ v w, vs[k]? = some v ∧ q ≠ [] ∧ w ≠ [] ∧ q ++ w = enc v) := by
  induction vs generalizing p with
  | nil => exact ⟨0, p, by simp, by simp [encList], Or.inl (by simpa [encList] using hp)⟩
  | cons v t ih =>
    obtain ⟨w, hw⟩ := hp
    rw [encList] at hw
    rcases List.append_eq_append_iff.mp hw with ⟨a', h1, h2⟩ | ⟨c', h1, h2⟩
    · -- p lies inside the first record:  enc v = p ++ a'
      by_cases ha : a' = []
      · exact ⟨1, [], by simp, by simp [encList, h1, ha], Or.inl rfl⟩
      · exact ⟨0, p, by simp, by simp [encList],
          (Classical.em (p = [])).imp_right fun hp0 => ⟨v, a', by simp, hp0, ha, h1.symm⟩⟩
    · -- p = enc v ++ c' with c' a prefix of the remaining records
      obtain ⟨k, q, hk, hpq, hq⟩ := ih c' ⟨w, h2.symm⟩
      exact ⟨k + 1, q, by simp; omega, by rw [h1, hpq]; simp [encList],
        hq.imp_right fun ⟨v', w', hv', h⟩ => ⟨v', w', by simpa using hv', h⟩⟩

theorem Good.take {α : Type} (env : Env α) (vs : List Value) (fl : List α) (i k : Nat)
    (h : Good env i vs fl) : Good env i (vs.take k) (fl.take k) := by
  fun_induction Good env i vs fl generalizing k with
  | case1 => simp [Good]
  | case2 i v vt x xt ih =>
    cases k with
    | zero => simp [Good]
    | succ k => exact ⟨h.1, ih k h.2⟩
  | case3 => exact h.elim

theorem Good.size {α : Type} (env : Env α) (vs : List Value) (fl : List α) (i k : Nat) (v : Value)
    (h : Good env i vs fl) (hk : vs[k]? = some v) : (enc v).length < 10 ^ 12 := by
  fun_induction Good env i vs fl generalizing k with
  | case1 => simp at hk
  | case2 i x vt y yt ih =>
    cases k with
    | zero => simp at hk; exact hk ▸ h.1.2.2.1
    | succ k => exact ih k h.2 (by simpa using hk)
  | case3 => exact h.elim

theorem writeAll_eq (file : Bytes) (l : List Value) : writeAll file l = file ++ encList l := by
  unfold writeAll
  induction l generalizing file with
  | nil => simp [encList]
  | cons v t ih => simp [ih, addFlow, encList, dumps_enc]

theorem run_from (evs : List Event) (file : Bytes) : evs.foldl step file = file ++ encList (written evs) := by
  induction evs generalizing file with
  | nil => simp [written, encList]
  | cons e t ih => simp only [List.foldl_cons, ih, step, writeAll_eq, written, encList_append, List.append_assoc]

theorem written_append (a b : List Event) : written (a ++ b) = written a ++ written b := by
  fun_induction written a <;> simp [written, *]

/-- a prefix of a file of records is empty or starts with a digit, so the reader takes the tnetstring branch -/
theorem sniff_of_prefix (vs : List Value) (p : Bytes) (hp : p <+: encList vs) : sniff p = (false, p) := by
  obtain ⟨w, hw⟩ := hp
  cases p with
  | nil => exact sniff_nil
  | cons c cs =>
    cases vs with
    | nil => simp [encList] at hw
    | cons v t =>
      obtain ⟨c', cs', hc, hdig⟩ := enc_head_digit v
      simp only [encList, hc, List.cons_append, List.cons.injEq] at hw
      exact sniff_digit c cs (hw.1 ▸ hdig)

theorem runOps_inv (ops : List FOp) (f : BFile) :
    (f.runOps ops).disk ++ (f.runOps ops).buf = f.disk ++ f.buf ++ opsLog ops := by
  induction ops generalizing f with
  | nil => simp [BFile.runOps, opsLog]
  | cons op t ih =>
    rw [BFile.runOps, List.foldl_cons, ← BFile.runOps, ih]
    cases op with
    | write b k =>
      simp only [BFile.apply, opsLog, List.append_assoc]
      rw [← List.append_assoc ((f.buf ++ b).take k), List.take_append_drop]
      simp
    | flush => simp [BFile.apply, opsLog]

theorem opsLog_append (a b : List FOp) : opsLog (a ++ b) = opsLog a ++ opsLog b := by
  fun_induction opsLog a <;> simp [opsLog, *]

theorem opsLog_streamOps (vs : List Value) (ks : List Nat) : opsLog (streamOps vs ks) = encList vs := by
  fun_induction streamOps vs ks <;> simp [opsLog, encList, dumps_enc, *]

theorem opsLog_explicitOps (vs : List Value) (ks : List Nat) : opsLog (explicitOps vs ks) = encList vs := by
  fun_induction explicitOps vs ks <;> simp [opsLog, encList, dumps_enc, *]

/-- at any point of any operation list, what the OS has, cut anywhere, is a prefix of everything the program will have
    written -/
theorem disk_cut_prefix (ops : List FOp) (i n : Nat) :
    (BFile.empty.runOps (ops.take i)).disk.take n <+: opsLog ops := by
  have h := runOps_inv (ops.take i) BFile.empty
  have hsplit : opsLog ops = opsLog (ops.take i) ++ opsLog (ops.drop i) := by
    rw [← opsLog_append, List.take_append_drop]
  simp only [BFile.empty, List.nil_append] at h
  refine (List.take_prefix n _).trans ⟨(BFile.empty.runOps (ops.take i)).buf ++ opsLog (ops.drop i), ?_⟩
  rw [hsplit, ← h, List.append_assoc]
  rfl

theorem streamOps_flushed (vs : List Value) (ks : List Nat) (f : BFile) (hf : f.buf = []) :
    f.runOps (streamOps vs ks) = ⟨f.disk ++ encList vs, []⟩ := by
  fun_induction streamOps vs ks generalizing f with
  | case1 => cases f; simp_all [BFile.runOps, encList]
  | case2 v t ks ih =>
    rw [BFile.runOps, List.foldl_cons, List.foldl_cons, ← BFile.runOps, ih _ (by simp [BFile.apply])]
    simp [BFile.apply, hf, encList, dumps_enc, List.take_append_drop]

theorem explicitOps_closed (vs : List Value) (ks : List Nat) (f : BFile) :
    f.runOps (explicitOps vs ks) = ⟨f.disk ++ f.buf ++ encList vs, []⟩ := by
  fun_induction explicitOps vs ks generalizing f with
  | case1 => simp [BFile.runOps, BFile.apply, encList]
  | case2 v t ks ih =>
    rw [BFile.runOps, List.foldl_cons, ← BFile.runOps, ih]
    simp [BFile.apply, encList, dumps_enc, List.take_append_drop]

theorem pyWrite_inv (B : Nat) (f : BFile) (b : Bytes) :
    (pyWrite B f b).disk ++ (pyWrite B f b).buf = f.disk ++ f.buf ++ b := by
  fun_cases pyWrite B f b <;> simp

theorem pyExplicit_disk_prefix (B : Nat) (bs : List Bytes) (f st : BFile) (h : st ∈ pyExplicit B f bs) :
    st.disk <+: f.disk ++ f.buf ++ bs.flatten := by
  fun_induction pyExplicit B f bs with
  | case1 => simp at h
  | case2 f b t f' ih =>
    rw [List.flatten_cons, ← List.append_assoc, ← pyWrite_inv B f b]
    rcases List.mem_cons.mp h with rfl | h
    · exact (List.prefix_append _ _).trans (List.prefix_append _ _)
    · exact ih h

end MitmVerif.C37
