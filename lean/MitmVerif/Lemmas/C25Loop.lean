/-
  Compression-pointer cycles, for every byte string and both pointer-chasing loops. An offset at which either decoder
  returns a name starts a pointer chain that ends in a terminated name (`Term`, by the induction principles
  `unpackName_all` / `expandName_all` of Lemmas/C25), and such a chain holds no cycle (`Term.acyclic`). The contrapositive,
  a cycle is a parse error, is Props/C25 `pointer_cycle_is_error` / `expand_cycle_is_error`.
-/
import MitmVerif.Lemmas.C25
set_option linter.unusedVariables false
set_option linter.unusedSimpArgs false
namespace MitmVerif.C25

def PtrStep (buf : Bytes) (a b : Nat) : Prop := ∃ ls n, scanRaw (buf.drop a) = some (ls, n, some b)

inductive Reaches (buf : Bytes) : Nat → Nat → Prop
  | one {a b : Nat} : PtrStep buf a b → Reaches buf a b
  | step {a b c : Nat} : PtrStep buf a b → Reaches buf b c → Reaches buf a c

inductive Term (buf : Bytes) : Nat → Prop
  | stop {a : Nat} {ls : List Bytes} {n : Nat} : scanRaw (buf.drop a) = some (ls, n, none) → Term buf a
  | ptr {a b : Nat} {ls : List Bytes} {n : Nat} : scanRaw (buf.drop a) = some (ls, n, some b) → Term buf b → Term buf a

theorem Reaches.snoc {buf : Bytes} {a b c : Nat} (h : Reaches buf a b) (s : PtrStep buf b c) : Reaches buf a c := by
  induction h with
  | one s1 => exact .step s1 (.one s)
  | step s1 _ ih => exact .step s1 (ih s)

theorem PtrStep.det {buf : Bytes} {a b c : Nat} (h1 : PtrStep buf a b) (h2 : PtrStep buf a c) : b = c := by
  obtain ⟨l1, n1, e1⟩ := h1; obtain ⟨l2, n2, e2⟩ := h2
  rw [e1] at e2; cases e2; rfl

/-- a pointer step is deterministic (`PtrStep.det`), so a cycle through `a` is a cycle through the next offset of the chain -/
theorem Term.acyclic {buf : Bytes} {a : Nat} (h : Term buf a) : ¬ Reaches buf a a := by
  induction h with
  | stop hs =>
    intro hr
    cases hr with
    | one s => obtain ⟨l, n, e⟩ := s; rw [hs] at e; cases e
    | step s _ => obtain ⟨l, n, e⟩ := s; rw [hs] at e; cases e
  | @ptr a b ls n hs _ ih =>
    intro hr
    have hab : PtrStep buf a b := ⟨ls, n, hs⟩
    cases hr with
    | one s => have := PtrStep.det hab s; subst this; exact ih (.one s)
    | step s r => have := PtrStep.det hab s; subst this; exact ih (r.snoc hab)

/-- `CacheAll (fun k _ => Term buf k)`, unfolded -/
def CacheTerm (buf : Bytes) (c : Cache) : Prop := ∀ k r, c.lookup k = some (some r) → Term buf k

theorem CacheTerm.nil (buf : Bytes) : CacheTerm buf [] := CacheAll.nil

theorem CacheTerm.cons_none {buf : Bytes} {c : Cache} (h : CacheTerm buf c) (off : Nat) : CacheTerm buf ((off, none) :: c) :=
  CacheAll.cons_none h off

theorem unpackName_term {I : Idna} {buf : Bytes} {off : Nat} {cache : Cache} {depth : Nat} {r : Text × Nat} {c' : Cache}
    (hc : CacheTerm buf cache) (h : unpackName I buf off cache depth = some (r, c')) : Term buf off ∧ CacheTerm buf c' :=
  unpackName_all (P := fun k _ => Term buf k) (fun _ _ _ _ hs _ => .stop hs) (fun _ _ _ _ _ _ _ hs _ ht => .ptr hs ht) hc h

theorem expandName_term {buf : Bytes} {off : Nat} {seen : List Nat} {e : Bytes} (h : expandName buf off seen = some e) :
    Term buf off :=
  expandName_all (P := fun k _ => Term buf k) (fun _ _ _ hs => .stop hs) (fun _ _ _ _ _ hs ht => .ptr hs ht) h

end MitmVerif.C25
