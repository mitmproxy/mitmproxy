/-
  C27: the pause-and-queue mechanism of `Layer.handle_event` emits, in every schedule, exactly what handling the events one
  after the other emits. Every lemma has the form "emitted ++ `owed` afterwards = `owed` before ++ what the sequential `step`
  adds in the `settled` state" (`owed`, `settled`: Model/C27_Async), so the induction over a schedule (`arun_spec`) telescopes;
  `AWf` is the one fact about the queue it needs. Nothing about DNS enters: only `step`, `run` and `run_append`.
-/
import MitmVerif.Model.C27_Async
import MitmVerif.Lemmas.C27Step
set_option linter.unusedVariables false
set_option linter.unusedSimpArgs false
namespace MitmVerif.C27
open MitmVerif

theorem chunks_ne (l : List Out) : chunks l ≠ [] := by
  cases l with
  | nil => simp [chunks]
  | cons o rest =>
    simp only [chunks]
    cases chunks rest with
    | nil => simp
    | cons ch cs => by_cases h : isHook o = true <;> simp [h]

theorem chunks_flatten (l : List Out) : (chunks l).flatten = l := by
  induction l with
  | nil => simp [chunks]
  | cons o rest ih =>
    obtain ⟨ch, cs, hc⟩ := List.exists_cons_of_ne_nil (chunks_ne rest)
    rw [hc] at ih
    simp only [chunks, hc]
    split <;> simp_all

theorem startEv_spec (c : Cfg) (a : AState) (ev : Ev) :
    (startEv c a ev).2 ++ ((startEv c a ev).1.paused.getD []).flatten = (step c a.σ ev).2 ∧
    (startEv c a ev).1.σ = (step c a.σ ev).1 ∧ (startEv c a ev).1.queue = a.queue := by
  have hf := chunks_flatten (step c a.σ ev).2
  obtain ⟨ch, rest, hc⟩ := List.exists_cons_of_ne_nil (chunks_ne (step c a.σ ev).2)
  unfold startEv
  rw [hc] at hf ⊢
  cases rest with
  | nil => simp at hf ⊢; exact hf
  | cons c2 r2 => simp at hf ⊢; exact hf

theorem drain_spec (c : Cfg) : ∀ (q : List Ev) (a : AState), a.paused = none →
    (drain c q a).2 ++ owed c (drain c q a).1 = (run c a.σ q).2 ∧ settled c (drain c q a).1 = (run c a.σ q).1 ∧
    ((drain c q a).1.paused = none → (drain c q a).1.queue = []) := by
  intro q
  induction q with
  | nil => intro a h; simp [drain, owed, settled, run, h]
  | cons ev q ih =>
    intro a h
    obtain ⟨s1, s2, s3⟩ := startEv_spec c a ev
    simp only [drain, h, Option.isSome_none, Bool.false_eq_true, if_false]
    cases hp : (startEv c a ev).1.paused with
    | none =>
      obtain ⟨i1, i2, i3⟩ := ih _ hp
      rw [hp] at s1
      simp only [Option.getD_none, List.flatten_nil, List.append_nil] at s1
      refine ⟨?_, ?_, i3⟩
      · rw [List.append_assoc, i1, s2, s1]; simp [run]
      · rw [i2, s2]; simp [run]
    | some rest =>
      rw [hp] at s1
      have hd : drain c q (startEv c a ev).1 = ({ (startEv c a ev).1 with queue := q }, []) := by
        cases q with
        | nil => simp [drain]
        | cons e2 q2 => simp [drain, hp]
      rw [hd]
      simp only [owed, settled, hp, Option.getD_some, List.append_nil, s2]
      refine ⟨?_, ?_, ?_⟩
      · simp only [Option.getD_some] at s1; rw [← List.append_assoc, s1]; simp [run]
      · simp [run]
      · intro h'; cases h'

/-- between events: when nothing is suspended the queue is empty -/
def AWf (a : AState) : Prop := a.paused = none → a.queue = []

theorem astep_arrive_spec (c : Cfg) (a : AState) (ev : Ev) (hw : AWf a) :
    (astep c a (.arrive ev)).2 ++ owed c (astep c a (.arrive ev)).1 = owed c a ++ (step c (settled c a) ev).2 ∧
    settled c (astep c a (.arrive ev)).1 = (step c (settled c a) ev).1 ∧ AWf (astep c a (.arrive ev)).1 := by
  cases hp : a.paused with
  | some rest =>
    simp only [astep, hp, owed, settled, Option.getD_some, List.nil_append]
    rw [run_append]
    refine ⟨by simp [run, List.append_assoc], by simp [run], ?_⟩
    intro h; simp [hp] at h
  | none =>
    have hq := hw hp
    obtain ⟨s1, s2, s3⟩ := startEv_spec c a ev
    simp only [astep, hp, owed, settled, hq, run, Option.getD_none, List.flatten_nil, List.nil_append, List.append_nil]
    rw [s3, hq, s2]
    refine ⟨by simp only [run, List.append_nil]; exact s1, by simp [run], ?_⟩
    intro _; rw [s3]; exact hq

theorem astep_complete_spec (c : Cfg) (a : AState) (hw : AWf a) :
    (astep c a .complete).2 ++ owed c (astep c a .complete).1 = owed c a ∧
    settled c (astep c a .complete).1 = settled c a ∧ AWf (astep c a .complete).1 := by
  cases hp : a.paused with
  | none => simp [astep, hp]; exact hw
  | some rest =>
    cases rest with
    | nil =>
      obtain ⟨d1, d2, d3⟩ := drain_spec c a.queue { a with paused := none } rfl
      simp only [astep, hp, owed, settled, Option.getD_some, List.flatten_nil, List.nil_append]
      exact ⟨d1, d2, d3⟩
    | cons ch r2 =>
      cases r2 with
      | nil =>
        obtain ⟨d1, d2, d3⟩ := drain_spec c a.queue { a with paused := none } rfl
        simp only [astep, hp, Option.getD_some]
        refine ⟨?_, d2, d3⟩
        rw [List.append_assoc, d1]; simp [owed, hp]
      | cons c3 r3 =>
        simp only [astep, hp]
        refine ⟨by simp [owed, hp, List.append_assoc], by simp [settled], ?_⟩
        intro h; cases h

theorem arun_spec (c : Cfg) : ∀ (sch : List AEv) (a : AState), AWf a →
    (arun c a sch).2 ++ owed c (arun c a sch).1 = owed c a ++ (run c (settled c a) (arrivals sch)).2 ∧
    settled c (arun c a sch).1 = (run c (settled c a) (arrivals sch)).1 ∧ AWf (arun c a sch).1 := by
  intro sch
  induction sch with
  | nil => intro a hw; simp [arun, arrivals, run]; exact hw
  | cons e es ih =>
    intro a hw
    cases e with
    | arrive ev =>
      obtain ⟨s1, s2, s3⟩ := astep_arrive_spec c a ev hw
      obtain ⟨i1, i2, i3⟩ := ih _ s3
      simp only [arun, arrivals, run]
      refine ⟨?_, ?_, i3⟩
      · rw [List.append_assoc, i1, ← List.append_assoc, s1, s2, List.append_assoc]
      · rw [i2, s2]
    | complete =>
      obtain ⟨s1, s2, s3⟩ := astep_complete_spec c a hw
      obtain ⟨i1, i2, i3⟩ := ih _ s3
      simp only [arun, arrivals]
      refine ⟨?_, ?_, i3⟩
      · rw [List.append_assoc, i1, ← List.append_assoc, s1, s2]
      · rw [i2, s2]

end MitmVerif.C27
