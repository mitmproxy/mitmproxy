/-
  C29 — addon edits over whole histories: the recorded messages are the hooked messages (= the arrivals, see `Arr`) with the
  edit given at the completion of each message hook applied, one for one, in order.
-/
import MitmVerif.Lemmas.C29
namespace MitmVerif.C29.Lemmas
open MitmVerif MitmVerif.C29

/-- the message whose hook is pending (it is in `flow.messages`, its hook has fired, it is not yet in `st.msgs`) -/
def inflight (st : State) : List Msg :=
  match st.pending with
  | .msgHook _ m => [m]
  | _ => []

/-- edit bookkeeping: `E` = what the addon did at each completed message hook, in order (`none` = left it alone);
    the recorded messages are the hooked messages with these edits applied, one for one, in order -/
def Ed (st : State) (E : List (Option Bytes)) : Prop :=
  ∃ h : List Msg, h.length = E.length ∧ st.msgs = List.zipWith editMsg h E ∧ hookMsgs st.trace = h ++ inflight st

theorem ed_reacts {st st' : State} {e : Ev} {E : List (Option Bytes)} (hr : Reacts st e st')
    (hp : st.pending = .none) (h : Ed st E) : Ed st' E := by
  obtain ⟨hl, h1, h2, h3⟩ := h
  refine ⟨hl, h1, ?_, ?_⟩
  · cases hr <;> simp_all
  · cases hr with
    | ending s cs c c' _ hph hcs hc he =>
      subst he
      obtain ⟨-, -, -, n4, -⟩ := closes_neutral hcs
      by_cases hf : st.flow = true <;> simp_all [inflight]
    | _ => simp_all [inflight]

/-- what an input adds to the list of addon decisions: only the completion of a MESSAGE hook counts -/
def editOf (st : State) (i : Input) : List (Option Bytes) :=
  if st.phase = .idle then [] else
  match st.pending, i with
  | .msgHook _ _, .hookDone e => [e]
  | .msgHook _ _, .hookKill => [none]
  | _, _ => []

/-- only the completion of a hook can be an addon decision -/
theorem editOf_event {st : State} {i : Input} (h : ∀ e, i ≠ .hookDone e) (hk : i ≠ .hookKill) : editOf st i = [] := by
  unfold editOf
  split
  · rfl
  · split <;> simp_all

theorem ed_moves {st st' : State} {i : Input} {q : List Ev} {E : List (Option Bytes)} (hm : Moves st i q st')
    (h : Ed st E) : Ed st' (E ++ editOf st i) := by
  induction hm with
  | ignored st i ho =>
    have : editOf st i = [] := by
      rcases ho with ⟨a, -⟩ | ⟨-, rfl⟩ | ⟨a | a, rfl | ⟨e, rfl⟩⟩ | ⟨-, err, rfl⟩ <;> simp [editOf, *] <;> split <;> simp
    rw [this, List.append_nil]; exact h
  | kill st st' q e k l hm ih =>
    have : editOf st .hookKill = editOf { st with error := e, killed := k, live := l } (.hookDone none) := by
      simp only [editOf]; cases st.pending <;> rfl
    rw [this]; exact ih h
  | data | inject | closed => rw [editOf_event (by simp) (by simp), List.append_nil]; exact h
  | sent st e to m hp hc =>
    obtain ⟨hl, h1, h2, h3⟩ := h
    have : editOf st (.hookDone e) = [e] := by simp [editOf, hp, hc]
    rw [this]
    refine ⟨hl ++ [m], by simp [h1], ?_, ?_⟩
    · simp only [h2, List.zipWith_append h1]; rfl
    · simpa [inflight, hp] using h3
  | _ =>
    obtain ⟨hl, h1, h2, h3⟩ := h
    refine ⟨hl, ?_, ?_, ?_⟩ <;> simp_all [editOf, inflight]

theorem ed_step (st : State) (i : Input) (E : List (Option Bytes)) (hF : Full st) (h : Ed st E) :
    Ed (step st i) (E ++ editOf st i) :=
  step_ind (P := fun _ s => Ed s E) (Q := fun _ s => Ed s (E ++ editOf st i)) (fun _ _ _ h => h)
    (fun _ _ _ _ hp hr h => ed_reacts hr hp h) (fun _ _ => ed_moves) hF h

/-- the addon's decisions of a whole schedule, in order: one entry per completed message hook -/
def edits : State → List Input → List (Option Bytes)
  | _, [] => []
  | st, i :: is => editOf st i ++ edits (step st i) is

theorem ed_run (st : State) (is : List Input) (E : List (Option Bytes)) (hF : Full2 st) (h : Ed st E) :
    Ed (run st is) (E ++ edits st is) := by
  induction is generalizing st E with
  | nil => simpa [edits, run] using h
  | cons i t ih =>
    have := ih (step st i) (E ++ editOf st i) (full2_step st i hF) (ed_step st i E hF.1 h)
    simpa [edits, run, List.append_assoc] using this

theorem ed_init (p : Proto) (f c : Bool) : Ed (init p f c) [] :=
  ⟨[], rfl, by simp [init], by simp [init, inflight]⟩

/-- how `Ed` is read against the arrivals: messages beyond the addon's decisions (the one in flight, those not yet
    hooked) have no edit to be paired with -/
theorem zipWith_prefix {α β γ : Type} (f : α → β → γ) (h r : List α) (E : List β) (hl : h.length = E.length) :
    List.zipWith f (h ++ r) E = List.zipWith f h E := by
  have := List.zipWith_append (f := f) (l₁' := r) (l₂' := []) hl
  simpa using this

end MitmVerif.C29.Lemmas
