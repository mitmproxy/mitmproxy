/-
  C43 — the sorted list.  Insertion at `bisect_right` (`sortedInsert`, the model of `SortedListWithKey.add`) keeps a list
  sorted; inserting the elements of `l` one by one (`insertAll`) is the stable sort of `l` by the key.  First the lemmas
  on folds through which the loops of the model are handled.
-/
import MitmVerif.Model.C43
namespace MitmVerif.C43

/-- an invariant of the steps, which may speak of the elements folded so far, holds after the fold -/
theorem foldl_prefix_inv {α β : Type} {f : β → α → β} {l : List α} (P : List α → β → Prop)
    (hf : ∀ done a rest b, l = done ++ a :: rest → P done b → P (done ++ [a]) (f b a)) {b : β} (h : P [] b) :
    P l (l.foldl f b) := by
  suffices ∀ rest done b, l = done ++ rest → P done b → P l (rest.foldl f b) from this l [] b rfl h
  intro rest
  induction rest with
  | nil => intro done b e h; rw [e, List.append_nil]; exact h
  | cons a rest ih =>
    intro done b e h
    exact ih (done ++ [a]) (f b a) (by rw [e, List.append_assoc]; rfl) (hf done a rest b e h)

theorem split_nodup {l done rest : List Nat} {a : Nat} (hnd : l.Nodup) (e : l = done ++ a :: rest) : a ∈ l ∧ a ∉ done := by
  subst e
  exact ⟨by simp, fun hm => (List.nodup_append.mp hnd).2.2 a hm a (List.mem_cons_self ..) rfl⟩

def SortedBy (k : Nat → Nat) (l : List Nat) : Prop := l.Pairwise (fun a b => k a ≤ k b)

theorem sortedBy_congr {k k' : Nat → Nat} {l : List Nat} (hk : ∀ a ∈ l, k a = k' a) (h : SortedBy k l) :
    SortedBy k' l :=
  List.Pairwise.imp_of_mem (fun ha hb hab => hk _ ha ▸ hk _ hb ▸ hab) h

theorem sortedInsert_perm (k : Nat → Nat) (x : Nat) (l : List Nat) : (sortedInsert k x l).Perm (x :: l) := by
  induction l with
  | nil => simp [sortedInsert]
  | cons z zs ih =>
    unfold sortedInsert
    split
    · exact (List.Perm.cons z ih).trans (List.Perm.swap x z zs)
    · exact List.Perm.refl _

theorem mem_sortedInsert (k : Nat → Nat) (x y : Nat) (l : List Nat) :
    y ∈ sortedInsert k x l ↔ y = x ∨ y ∈ l :=
  (sortedInsert_perm k x l).mem_iff.trans List.mem_cons

theorem sortedInsert_nodup (k : Nat → Nat) (x : Nat) (l : List Nat) (hx : x ∉ l) (hl : l.Nodup) :
    (sortedInsert k x l).Nodup :=
  (sortedInsert_perm k x l).nodup_iff.mpr (List.nodup_cons.mpr ⟨hx, hl⟩)

theorem sortedInsert_sorted (k : Nat → Nat) (x : Nat) (l : List Nat) (h : SortedBy k l) :
    SortedBy k (sortedInsert k x l) := by
  induction l with
  | nil => simp [sortedInsert, SortedBy]
  | cons z zs ih =>
    unfold SortedBy at h ih ⊢
    rw [List.pairwise_cons] at h
    unfold sortedInsert
    split
    · rename_i hle
      rw [List.pairwise_cons]
      refine ⟨?_, ih h.2⟩
      intro a ha
      rcases (mem_sortedInsert k x a zs).mp ha with ha | ha
      · subst ha; exact hle
      · exact h.1 a ha
    · rename_i hnle
      rw [List.pairwise_cons]
      refine ⟨?_, List.pairwise_cons.mpr h⟩
      intro a ha
      rcases List.mem_cons.mp ha with ha | ha
      · subst ha; omega
      · have := h.1 a ha; omega

theorem sortedInsert_congr {k k' : Nat → Nat} (x : Nat) (l : List Nat) (hx : k x = k' x) (hl : ∀ a ∈ l, k a = k' a) :
    sortedInsert k x l = sortedInsert k' x l := by
  induction l with
  | nil => rfl
  | cons y ys ih =>
    simp only [sortedInsert, hx, hl y (List.mem_cons_self ..)]
    rw [ih (fun a ha => hl a (List.mem_cons_of_mem _ ha))]

/-- inserting at `bisect_right` puts the new element behind all elements with the same key -/
theorem filter_sortedInsert (k : Nat → Nat) (c x : Nat) (l : List Nat) (h : SortedBy k l) :
    (sortedInsert k x l).filter (fun y => decide (k y = c)) =
      l.filter (fun y => decide (k y = c)) ++ (if k x = c then [x] else []) := by
  induction l with
  | nil => by_cases hx : k x = c <;> simp [sortedInsert, hx]
  | cons y ys ih =>
    unfold SortedBy at h
    rw [List.pairwise_cons] at h
    unfold sortedInsert
    split
    · rw [List.filter_cons, List.filter_cons, ih h.2]
      split <;> simp
    · rename_i hlt
      by_cases hx : k x = c
      · have hnone : (y :: ys).filter (fun y => decide (k y = c)) = [] := by
          rw [List.filter_eq_nil_iff]
          intro a ha
          have : k y ≤ k a := by
            rcases List.mem_cons.mp ha with h' | h'
            · rw [h']; exact Nat.le_refl _
            · exact h.1 a h'
          simp; omega
        rw [List.filter_cons, hnone]; simp [hx]
      · rw [List.filter_cons]; simp [hx]

/-- the elements of `l` added one after the other: what the loop of `_refilter` and `newview.update(…)` of `set_order` build -/
def insertAll (k : Nat → Nat) (l : List Nat) : List Nat := l.foldl (fun acc x => sortedInsert k x acc) []

theorem insertAll_perm (k : Nat → Nat) (l : List Nat) : (insertAll k l).Perm l :=
  foldl_prefix_inv (fun done acc => acc.Perm done)
    (fun done a _ acc _ h => ((sortedInsert_perm k a acc).trans (h.cons a)).trans (List.perm_append_singleton a done).symm)
    (List.Perm.refl [])

theorem insertAll_sorted (k : Nat → Nat) (l : List Nat) : SortedBy k (insertAll k l) :=
  List.foldlRecOn l _ (motive := SortedBy k) List.Pairwise.nil fun acc h x _ => sortedInsert_sorted k x acc h

theorem insertAll_snoc (k : Nat → Nat) (l : List Nat) (a : Nat) :
    insertAll k (l ++ [a]) = sortedInsert k a (insertAll k l) := by
  unfold insertAll
  rw [List.foldl_append]
  rfl

theorem insertAll_congr {k k' : Nat → Nat} (l : List Nat) (hl : ∀ a ∈ l, k a = k' a) : insertAll k l = insertAll k' l :=
  foldl_prefix_inv (l := l) (fun done acc => acc = insertAll k' done)
    (fun done a _ acc e h => by
      have hm : ∀ b, b ∈ done ++ [a] → k b = k' b := fun b hb =>
        hl b (by rw [e, List.append_cons]; exact List.mem_append_left _ hb)
      rw [h, insertAll_snoc]
      exact sortedInsert_congr a _ (hm a (by simp))
        (fun b hb => hm b (List.mem_append_left _ ((insertAll_perm k' done).mem_iff.mp hb))))
    rfl

/-- **stability**: flows with equal keys keep their relative order -/
theorem insertAll_stable (k : Nat → Nat) (c : Nat) (l : List Nat) :
    (insertAll k l).filter (fun y => decide (k y = c)) = l.filter (fun y => decide (k y = c)) := by
  refine (foldl_prefix_inv (l := l) (fun done acc => SortedBy k acc ∧
    acc.filter (fun y => decide (k y = c)) = done.filter (fun y => decide (k y = c))) (fun done a _ acc _ h => ?_)
    ⟨List.Pairwise.nil, rfl⟩).2
  refine ⟨sortedInsert_sorted k a acc h.1, ?_⟩
  rw [filter_sortedInsert k c a acc h.1, h.2, List.filter_append]
  by_cases ha : k a = c <;> simp [ha]

/-- a sorted permutation is unique when the keys are pairwise different -/
theorem sorted_perm_unique {k : Nat → Nat} {l1 l2 : List Nat} (hinj : ∀ a b, a ∈ l1 → b ∈ l1 → k a = k b → a = b)
    (h1 : SortedBy k l1) (h2 : SortedBy k l2) (hp : l1.Perm l2) : l1 = l2 := by
  apply List.Perm.eq_of_pairwise (le := fun a b => k a ≤ k b) _ h1 h2 hp
  intro a b ha hb hab hba
  exact hinj a b ha (hp.mem_iff.mpr hb) (Nat.le_antisymm hab hba)

end MitmVerif.C43
