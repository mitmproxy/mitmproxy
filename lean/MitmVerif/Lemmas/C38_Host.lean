/-
  C38 — lemmas for the 18→19 converter: the host decode (`bytes.decode(errors="backslashreplace")`) and the
  per-connection field surgery.  The decode `bsrUtf8` is C35's decoder `native` followed by a per-code-point writer, so
  its lemmas rest on Lemmas/C35Str; for `conn18`, `client18`, `server18`: which keys each stage leaves alone and what it
  leaves under its own.
-/
import MitmVerif.Lemmas.C38_Conv
import MitmVerif.Lemmas.C35Str
namespace MitmVerif.C38Conv
open MitmVerif MitmVerif.C36 MitmVerif.C35.StrLemmas
open MitmVerif.C35 (PyStr native enc1 encodeSE)

/-- the per-code-point writer of `bsrUtf8` -/
def bsrCp (cp : Nat) : Bytes :=
  if 0xDC80 ≤ cp ∧ cp ≤ 0xDCFF then [0x5c, 0x78, hexd ((cp - 0xDC00) / 16), hexd ((cp - 0xDC00) % 16)]
  else (enc1 cp).getD []

theorem bsrUtf8_eq (b : Bytes) : bsrUtf8 b = (native b).flatMap bsrCp := rfl

/-- a str without escaped bytes is written back as its own UTF-8 encoding -/
theorem flatMap_bsrCp_of_encode : ∀ (l : PyStr) (b : Bytes), encodeSE l = some b →
    (∀ cp ∈ l, ¬ (0xDC80 ≤ cp ∧ cp ≤ 0xDCFF)) → l.flatMap bsrCp = b := by
  intro l
  induction l with
  | nil => intro b h _; simp only [encodeSE, Option.some.injEq] at h; subst h; rfl
  | cons c cs ih =>
    intro b h hl
    simp only [encodeSE] at h
    cases h1 : enc1 c with
    | none => simp [h1] at h
    | some a =>
      cases h2 : encodeSE cs with
      | none => simp [h1, h2] at h
      | some r =>
        simp only [h1, h2, Option.some.injEq] at h
        subst h
        have hc := hl c (List.mem_cons_self ..)
        simp only [List.flatMap_cons, bsrCp, hc, if_false, h1, Option.getD_some]
        rw [ih r h2 (fun cp hcp => hl cp (List.mem_cons_of_mem _ hcp))]

/-- valid UTF-8 host bytes decode to the very same text ("valid" in the decoder's own terms: it escapes no byte) -/
theorem bsrUtf8_valid (b : Bytes) (h : ∀ cp ∈ native b, ¬ (0xDC80 ≤ cp ∧ cp ≤ 0xDCFF)) : bsrUtf8 b = b := by
  rw [bsrUtf8_eq]
  exact flatMap_bsrCp_of_encode _ _ (encode_decF b.length b (Nat.le_refl _)) h

theorem native_ascii : ∀ (b : Bytes), (∀ c ∈ b, c.toNat < 0x80) → native b = b.map (·.toNat) := by
  intro b
  induction b with
  | nil => intro _; rfl
  | cons c t ih =>
    intro h
    have hc := h c (List.mem_cons_self ..)
    have : C35.decStep (c :: t) = (c.toNat, 1) := by simp [C35.decStep, hc]
    rw [native_of_step c t _ _ this]
    simp only [List.drop_succ_cons, List.drop_zero, List.map_cons]
    rw [ih (fun x hx => h x (List.mem_cons_of_mem _ hx))]

/-- ASCII host names (every name an old mitmproxy release recorded for a resolvable host) are unchanged -/
theorem bsrUtf8_ascii (b : Bytes) (h : ∀ c ∈ b, c.toNat < 0x80) : bsrUtf8 b = b := by
  apply bsrUtf8_valid
  rw [native_ascii b h]
  intro cp hcp
  simp only [List.mem_map] at hcp
  obtain ⟨c, hc, rfl⟩ := hcp
  have := h c hc
  omega

/-- an undecodable byte is written as the four ASCII characters `\xNN` -/
theorem bsrCp_escape (n : Nat) (h : 0x80 ≤ n ∧ n ≤ 0xFF) :
    bsrCp (0xDC00 + n) = [0x5c, 0x78, hexd (n / 16), hexd (n % 16)] := by
  have : 0xDC80 ≤ 0xDC00 + n ∧ 0xDC00 + n ≤ 0xDCFF := by omega
  simp only [bsrCp, this, and_self, if_true, Nat.add_sub_cancel_left]

theorem decodeHostIn_frame (c c' : Dict) (n m : Bytes) (h : decodeHostIn c n = some c')
    (hnm : n ≠ m) : dget c' m = dget c m := by
  revert h
  fun_cases decodeHostIn c n <;> rintro ⟨⟩ <;> simp [hnm]

/-- what `decodeHostIn` leaves under its own key: a list whose head was bytes gets a str head, the tail stays -/
theorem decodeHostIn_same (c c' : Dict) (n : Bytes) (h : decodeHostIn c n = some c') :
    dget c' n = (match dget c n with
      | some (.list (.bytes hb :: rest)) => some (.list (.str (bsrUtf8 hb) :: rest))
      | o => o) := by
  revert h
  fun_cases decodeHostIn c n <;> rintro ⟨⟩ <;> simp_all
  -- the falsy case: a value that is not truthy is not a non-empty list
  split <;> simp_all [truthy]

@[simp] theorem dget_tsDefault_ne (c : Dict) (m : Bytes) (h : s "timestamp_start" ≠ m) :
    dget (tsDefault c) m = dget c m := by
  unfold tsDefault
  split <;> first | exact dget_dset_ne _ _ _ _ h | rfl

@[simp] theorem dget_rename_ne (c : Dict) (o n m : Bytes) (h1 : o ≠ m) (h2 : n ≠ m) :
    dget (rename c o n) m = dget c m := by
  unfold rename; rw [dget_dset_ne _ _ _ _ h2, dget_dpop_ne _ _ _ h1]

@[simp] theorem dget_rename_new (c : Dict) (o n : Bytes) : dget (rename c o n) n = some ((dget c o).getD .null) := by
  unfold rename; exact dget_dset_same _ _ _

theorem sniFix_frame (c c' : Dict) (m : Bytes) (h : sniFix c = some c') (hm : s "sni" ≠ m) :
    dget c' m = dget c m := by
  unfold sniFix at h
  simp only [Option.bind_eq_bind, Option.bind_eq_some_iff] at h
  obtain ⟨sni, -, h⟩ := h
  split at h
  · split at h
    · cases h
    · split at h
      · simp only [Option.map_eq_some_iff] at h
        obtain ⟨x, _, rfl⟩ := h
        exact dget_dset_ne _ _ _ _ hm
      · cases h; exact dget_dset_ne _ _ _ _ hm
  · cases h; rfl

@[simp] theorem conn18fields_frame (c : Dict) (m : Bytes)
    (h1 : s "tls_established" ≠ m) (h2 : s "cipher_name" ≠ m)
    (h3 : s "cipher" ≠ m) (h4 : s "transport_protocol" ≠ m) :
    dget (conn18fields c) m = dget c m := by
  unfold conn18fields
  simp only []
  split
  · rw [dget_dset_ne _ _ _ _ h3, dget_dpop_ne _ _ _ h2, dget_dpop_ne _ _ _ h1]
  · rw [dget_dset_ne _ _ _ _ h4, dget_dset_ne _ _ _ _ h3, dget_dpop_ne _ _ _ h2, dget_dpop_ne _ _ _ h1]

theorem conn18fields_renames (c : Dict) :
    dget (conn18fields c) (s "tls_established") = none ∧ dget (conn18fields c) (s "cipher_name") = none ∧
    dget (conn18fields c) (s "cipher") = some ((dget c (s "cipher_name")).getD .null) ∧
    (dget (conn18fields c) (s "transport_protocol")).isSome = true := by
  unfold conn18fields
  simp only []
  split <;> simp_all [dhas_eq_isSome]

/-- the three host decodes of the loop body leave every other field alone -/
theorem conn18_decodes (c c' : Dict) (h : conn18 c = some c') :
    dhas c (s "tls_established") = true ∧
    ∀ m, s "peername" ≠ m → s "sockname" ≠ m → s "address" ≠ m →
      dget c' m = dget (conn18fields c) m := by
  unfold conn18 at h
  split at h
  · cases h
  · next hh =>
    simp only [Option.bind_eq_bind, Option.bind_eq_some_iff] at h
    obtain ⟨c1, hc1, c2, hc2, h⟩ := h
    refine ⟨by simpa using hh, fun m a b d => ?_⟩
    rw [decodeHostIn_frame _ _ _ _ h d, decodeHostIn_frame _ _ _ _ hc2 b, decodeHostIn_frame _ _ _ _ hc1 a]

theorem conn18_frame (c c' : Dict) (m : Bytes) (h : conn18 c = some c')
    (h1 : s "tls_established" ≠ m) (h2 : s "cipher_name" ≠ m)
    (h3 : s "cipher" ≠ m) (h4 : s "transport_protocol" ≠ m)
    (h5 : s "peername" ≠ m) (h6 : s "sockname" ≠ m) (h7 : s "address" ≠ m) :
    dget c' m = dget c m := by
  rw [(conn18_decodes c c' h).2 m h5 h6 h7, conn18fields_frame c m h1 h2 h3 h4]

theorem conn18_renames (c c' : Dict) (h : conn18 c = some c') :
    dget c' (s "tls_established") = none ∧ dget c' (s "cipher_name") = none ∧
    dget c' (s "cipher") = some ((dget c (s "cipher_name")).getD .null) ∧
    (dget c' (s "transport_protocol")).isSome = true := by
  obtain ⟨_, fr⟩ := conn18_decodes c c' h
  simpa [fr] using conn18fields_renames c

/-- `client18` is the loop body on the prepared record, `tls_extensions` taken out -/
theorem client18_conn (cc cc' : Dict) (h : client18 cc = some cc') :
    dhas (client18pre cc) (s "tls_extensions") = true ∧
    conn18 (dpop (client18pre cc) (s "tls_extensions")) = some cc' := by
  unfold client18 at h
  split at h
  · exact ⟨‹_›, h⟩
  · cases h

/-- `server18` is the loop body on the prepared record, then the `sni` fix -/
theorem server18_conn (sc sc' : Dict) (h : server18 sc = some sc') :
    ∃ c1, conn18 (server18pre sc) = some c1 ∧ sniFix c1 = some sc' := by
  simpa only [server18, Option.bind_eq_bind, Option.bind_eq_some_iff] using h

/-- what `server18` leaves under a key outside the loop body's and the `sni` fix's reach, in terms of the prepared record -/
theorem server18_frame_pre (sc sc' : Dict) (m : Bytes) (h : server18 sc = some sc') (g : s "sni" ≠ m)
    (h1 : s "tls_established" ≠ m) (h2 : s "cipher_name" ≠ m) (h3 : s "cipher" ≠ m) (h4 : s "transport_protocol" ≠ m)
    (h5 : s "peername" ≠ m) (h6 : s "sockname" ≠ m) (h7 : s "address" ≠ m) :
    dget sc' m = dget (server18pre sc) m := by
  obtain ⟨c1, hc1, h⟩ := server18_conn sc sc' h
  rw [sniFix_frame _ _ _ h g, conn18_frame _ _ m hc1 h1 h2 h3 h4 h5 h6 h7]

end MitmVerif.C38Conv
