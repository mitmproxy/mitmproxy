/-
  C21 — reading the IPv6 text back with C22's transcription of CPython's `ipaddress` (`C22.parseIp`).
  The writer read back here is `emitPy`, the emit loop without the embedded-IPv4 forms (CPython's; inet_ntop6's
  `emitV6` is reduced to it in Lemmas/C21V6Py and C21V6Back).  The pieces of the text are the pieces C22 renders
  (`H w` = "%x" of a word, `D n` = "%u" of a byte); the writer's output is those pieces joined by colons around one
  empty piece where the zero run was, and C22 reads that back (`Lemmas.C22.parseIp_compressed`) whatever the position
  and length of the run.
-/
import MitmVerif.Lemmas.C21V6
import MitmVerif.Lemmas.C22Render
namespace MitmVerif.C21
open MitmVerif
open MitmVerif.Lemmas.C22 (colons join pad foldHextets)

theorem asciiBytes_append (a b : List Char) : asciiBytes (a ++ b) = asciiBytes a ++ asciiBytes b := by
  simp [asciiBytes]
theorem asciiBytes_cons (c : Char) (r : List Char) : asciiBytes (c :: r) = UInt8.ofNat c.toNat :: asciiBytes r := rfl
theorem asciiBytes_nil : asciiBytes [] = [] := rfl

/-- bytes of a hex word -/
def H (w : Nat) : Bytes := asciiBytes (hexWord w)
/-- bytes of a decimal byte -/
def D (n : Nat) : Bytes := asciiBytes (decByte n)

theorem H_def (w : Nat) : asciiBytes (hexWord w) = H w := rfl
theorem splitOn_nil (sep : UInt8) : C22.splitOn sep [] = [[]] := rfl

theorem hexChar_byte : ∀ n : Fin 16, UInt8.ofNat (hexChar n.val).toNat = Lemmas.C22.hexDigitL n.val := by decide

theorem H_eq (w : Nat) (h : w < 65536) : H w = Lemmas.C22.renderHextet w := by
  have hb : ∀ n, n < 16 → UInt8.ofNat (hexChar n).toNat = Lemmas.C22.hexDigitL n := fun n hn => hexChar_byte ⟨n, hn⟩
  have h4 : w / 4096 % 16 = w / 4096 := Nat.mod_eq_of_lt (by omega)
  unfold H hexWord Lemmas.C22.renderHextet
  split
  · simp [asciiBytes, hb w (by omega)]
  · split
    · simp [asciiBytes, hb (w / 16) (by omega), hb (w % 16) (by omega)]
    · split
      · simp [asciiBytes, hb (w / 256) (by omega), hb (w / 16 % 16) (by omega), hb (w % 16) (by omega)]
      · simp [asciiBytes, h4, hb (w / 4096) (by omega), hb (w / 256 % 16) (by omega), hb (w / 16 % 16) (by omega), hb (w % 16) (by omega)]

theorem digitChar_byte : ∀ n : Fin 10, UInt8.ofNat (digitChar n.val).toNat = UInt8.ofNat (48 + n.val) := by decide

theorem D_eq (n : Nat) (h : n < 256) : D n = Lemmas.C22.renderOctet n := by
  have hb : ∀ m, m < 10 → UInt8.ofNat (digitChar m).toNat = UInt8.ofNat (48 + m) := fun m hm => digitChar_byte ⟨m, hm⟩
  unfold D decByte Lemmas.C22.renderOctet
  split
  · simp [asciiBytes, hb n (by omega)]
  · split
    · simp [asciiBytes, hb (n / 10) (by omega), hb (n % 10) (by omega)]
    · simp [asciiBytes, hb (n / 100) (by omega), hb (n / 10 % 10) (by omega), hb (n % 10) (by omega)]

/-- the dotted quad of four bytes is the text C22 renders as `dotted`, which its reader reads back
    (`Lemmas.C22.parseV4_dotted`) -/
theorem textV4_eq (a b c d : UInt8) :
    asciiBytes (textV4 [a, b, c, d]) = Lemmas.C22.dotted a.toNat b.toNat c.toNat d.toNat := by
  simp only [textV4, asciiBytes_append, asciiBytes_cons, Lemmas.C22.dotted, List.append_assoc, List.cons_append]
  rw [← D_eq _ a.toNat_lt, ← D_eq _ b.toNat_lt, ← D_eq _ c.toNat_lt, ← D_eq _ d.toNat_lt]
  rfl

theorem Hs_eq (ws : List Nat) (hw : ∀ w ∈ ws, w < 65536) : ws.map H = ws.map Lemmas.C22.renderHextet :=
  List.map_congr_left fun w hm => H_eq w (hw w hm)

def wordsVal (ws : List Nat) : Nat := foldHextets 0 ws

/-- outside the compressed run (in front of it or behind it, or without one) every word but the first is written with
    a colon in front -/
theorem emitPy_outside (best : Option Run) (rest : List Nat) : ∀ (ws : List Nat) (i : Nat), 0 < i →
    (∀ b, best = some b → i + ws.length ≤ b.base ∨ b.base + b.len ≤ i) →
    asciiBytes (emitPy best (ws ++ rest) i) = colons (ws.map H) ++ asciiBytes (emitPy best rest (i + ws.length))
  | [], i, _, _ => rfl
  | w :: r, i, hi, hb => by
    have ih := emitPy_outside best rest r (i + 1) (by omega) (fun b e => by
      have := hb b e; simp only [List.length_cons] at this; omega)
    have h0 : i ≠ 0 := by omega
    cases best with
    | none =>
      simp [emitPy, h0, asciiBytes_append, asciiBytes_cons, ih, H, Lemmas.C22.colons_cons, Nat.add_assoc, Nat.add_comm 1]
    | some b =>
      have : ¬ (b.base ≤ i ∧ i < b.base + b.len) := by have := hb b rfl; simp only [List.length_cons] at this; omega
      simp [emitPy, this, h0, asciiBytes_append, asciiBytes_cons, ih, H, Lemmas.C22.colons_cons, Nat.add_assoc,
        Nat.add_comm 1]

theorem emitPy_plain (best : Option Run) (ws : List Nat) (i : Nat) (hi : 0 < i)
    (hb : ∀ b, best = some b → b.base + b.len ≤ i) : asciiBytes (emitPy best ws i) = colons (ws.map H) := by
  have := emitPy_outside best [] ws i hi fun b e => Or.inr (hb b e)
  rwa [List.append_nil, show asciiBytes (emitPy best [] (i + ws.length)) = [] from rfl, List.append_nil] at this

/-- the words of the run behind its first are skipped -/
theorem emitPy_run (b l : Nat) (post : List Nat) : ∀ (zs : List Nat) (i : Nat), b < i → i + zs.length = b + l →
    emitPy (some ⟨b, l⟩) (zs ++ post) i = emitPy (some ⟨b, l⟩) post (b + l) := by
  intro zs
  induction zs with
  | nil => intro i _ h; simp at h; simp [h]
  | cons z zs ih =>
    intro i hi h
    simp only [List.length_cons] at h
    have h1 : b ≤ i ∧ i < b + l := by omega
    have h2 : i ≠ b := by omega
    simp [emitPy, h1, h2, ih (i + 1) (by omega) (by omega)]

/-- the run itself is written as one colon -/
theorem emitPy_gap (b : Nat) (zs post : List Nat) (hz : zs ≠ []) :
    asciiBytes (emitPy (some ⟨b, zs.length⟩) (zs ++ post) b) = 0x3a :: colons (post.map H) := by
  cases zs with
  | nil => exact absurd rfl hz
  | cons z zs =>
    have h1 : b ≤ b ∧ b < b + (zs.length + 1) := by omega
    simp only [List.cons_append, emitPy, List.length_cons, h1, and_self, if_true, List.cons_append, List.nil_append,
      asciiBytes_cons]
    rw [emitPy_run b _ post zs (b + 1) (by omega) (by omega), emitPy_plain _ _ _ (by omega) (by simp)]
    rfl

/-- `emitPy` with the run `zs` between `pre` and `post`, and the closing colon of a run at the end, is the
    hextets of `pre` and of `post` joined by colons around an empty piece -/
theorem emitPy_compressed (pre zs post : List Nat) (hz : zs ≠ []) :
    asciiBytes (emitPy (some ⟨pre.length, zs.length⟩) (pre ++ (zs ++ post)) 0) ++ (if post = [] then [0x3a] else []) =
      join (pad [] (pre.map H) ++ [] :: pad [] (post.map H)) := by
  have ht : colons (post.map H) ++ (if post = [] then [0x3a] else []) = colons (pad [] (post.map H)) := by
    cases post <;> simp [pad, colons]
  cases pre with
  | nil =>
    rw [List.nil_append, List.length_nil, emitPy_gap 0 zs post hz, List.cons_append, ht]
    rfl
  | cons p ps =>
    have h1 : ¬ ((ps.length + 1) ≤ 0 ∧ 0 < (ps.length + 1) + zs.length) := by omega
    simp only [List.cons_append, emitPy, List.length_cons, h1, if_false, ne_eq, not_true_eq_false, List.nil_append,
      asciiBytes_append, Nat.zero_add]
    rw [emitPy_outside _ _ ps 1 (by omega) (fun _ e => by cases e; simp; omega), Nat.add_comm 1, emitPy_gap _ zs post hz]
    simp only [List.append_assoc, List.cons_append, ht, List.map_cons, Lemmas.C22.pad_cons, join,
      Lemmas.C22.colons_append, Lemmas.C22.colons_cons, List.nil_append]
    rfl

/-- the second colon of a "::" that ends the text: the emit loop writes one colon for the run, and no word follows
    to bring the other -/
def v6Tail : Option Run → List Char
  | some b => if b.base + b.len = 8 then [':'] else []
  | none => []

/-- **the one statement behind every position of "::"**: the words `pre`, a run written as "::", the words `post`
    read back as `pre`, as many zero words as the run has, and `post` -/
theorem read_compressed (pre zs post : List Nat) (hz : zs ≠ []) (hlen : pre.length + zs.length + post.length = 8)
    (hpre : ∀ w ∈ pre, w < 65536) (hpost : ∀ w ∈ post, w < 65536) :
    C22.parseIp (asciiBytes (emitPy (some ⟨pre.length, zs.length⟩) (pre ++ (zs ++ post)) 0) ++
        (if post = [] then [0x3a] else [])) =
      some (.v6 (foldHextets (foldHextets 0 pre * 65536 ^ zs.length) post) none) := by
  have hzl : 0 < zs.length := List.length_pos_iff.mpr hz
  rw [emitPy_compressed pre zs post hz, Hs_eq pre hpre, Hs_eq post hpost,
    Lemmas.C22.parseIp_compressed pre post hpre hpost (by omega), show 8 - (pre.length + post.length) = zs.length by omega]

theorem read_plain (ws : List Nat) (h8 : ws.length = 8) (hw : ∀ w ∈ ws, w < 65536) :
    C22.parseIp (asciiBytes (emitPy none ws 0)) = some (.v6 (wordsVal ws) none) := by
  have e : asciiBytes (emitPy none ws 0) = join (ws.map H) := by
    match ws, h8 with
    | w :: r, _ =>
      simp only [emitPy, ne_eq, not_true_eq_false, if_false, List.nil_append, asciiBytes_append,
        emitPy_plain none r 1 (by omega) (by simp)]
      rfl
  rw [e, Hs_eq ws hw, Lemmas.C22.parseIp_full ws h8 hw]
  rfl

/-- CPython's writer on eight words is read back to these words -/
theorem parseIp_emitPy (ws : List Nat) (h8 : ws.length = 8) (hw : ∀ w ∈ ws, w < 65536) :
    C22.parseIp (asciiBytes (emitPy (bestRun ws) ws 0 ++ v6Tail (bestRun ws))) = some (.v6 (wordsVal ws) none) := by
  cases hb : bestRun ws with
  | none => simpa [v6Tail] using read_plain ws h8 hw
  | some r =>
    obtain ⟨b, l⟩ := r
    obtain ⟨h2, pre, zs, post, rfl, rfl, rfl, hz0⟩ := bestRun_split ws b l hb
    simp only [List.length_append] at h8
    have hzne : zs ≠ [] := by intro e; simp [e] at h2
    have := read_compressed pre zs post hzne (by omega) (fun w hm => hw w (by simp [hm])) (fun w hm => hw w (by simp [hm]))
    have ht : asciiBytes (v6Tail (some ⟨pre.length, zs.length⟩)) = if post = [] then [0x3a] else [] := by
      have : post = [] ↔ pre.length + zs.length = 8 := by
        rw [← List.length_eq_zero_iff]; omega
      simp only [v6Tail, this]
      split <;> rfl
    rw [asciiBytes_append, ht, this, wordsVal, Lemmas.C22.foldHextets_append, Lemmas.C22.foldHextets_append,
      Lemmas.C22.foldHextets_zeros zs hz0]

end MitmVerif.C21
