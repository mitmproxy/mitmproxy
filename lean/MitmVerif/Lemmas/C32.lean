/-
  C32 — `parse_content_type ∘ assemble_content_type`, for the header the UTF-8 fallback of `set_text` writes.
  `WFD` is what `parse_content_type` produces (`parse_wf`): keys without `;` and `=`, values without `;`, both stripped,
  keys pairwise different.  A header assembled from such parts parses back (`parse_assemble`): the `"; "`-joined `k=v`
  clauses split at `;` into the clauses again (`splitAll_join`), and each re-enters the dictionary under a key that is new
  (`foldl_reparse`).  `str.lower()` brings no `;` or `/` into type and subtype because no entry of the generated table
  yields a code point below 65 (`pyLower_outputs_ge`).  The result used by Props/C32 is `infer_fallback`.
-/
import MitmVerif.Model.C32
import MitmVerif.Lemmas.Split
import MitmVerif.Lemmas.Strip
namespace MitmVerif.C32

/-! ### split1 / splitAll -/

theorem split1_append (c : Nat) (a r : Str) (h : c ∉ a) : split1 c (a ++ c :: r) = (a, some r) := by
  induction a with
  | nil => simp [split1]
  | cons x a ih =>
    simp only [List.mem_cons, not_or] at h
    simp [split1, Ne.symm h.1, ih h.2]

theorem split1_notin (c : Nat) (a : Str) (h : c ∉ a) : split1 c a = (a, none) := by
  induction a with
  | nil => rfl
  | cons x a ih =>
    simp only [List.mem_cons, not_or] at h
    simp [split1, Ne.symm h.1, ih h.2]

theorem split1_cases (c : Nat) (s : Str) :
    (c ∉ s ∧ split1 c s = (s, none)) ∨ ∃ a r, c ∉ a ∧ s = a ++ c :: r ∧ split1 c s = (a, some r) := by
  by_cases h : c ∈ s
  · obtain ⟨a, r, rfl, ha⟩ := List.eq_append_cons_of_mem h
    exact .inr ⟨a, r, ha, rfl, split1_append c a r ha⟩
  · exact .inl ⟨h, split1_notin c s h⟩

theorem splitAll_eq (c : Nat) (s : Str) : splitAll c s = splitSep c s := by
  induction s with
  | nil => rfl
  | cons x r ih => rw [splitAll, ih, splitSep]; cases splitSep c r <;> rfl

/-! ### the parameter dictionary -/

theorem any_key_iff (d : Dict) (k : Str) : d.any (fun e => e.1 == k) = true ↔ k ∈ d.map (·.1) := by
  rw [List.any_eq_true, List.mem_map]
  exact exists_congr fun e => and_congr_right fun _ => beq_iff_eq

theorem dictSet_fresh (d : Dict) (k v : Str) (h : k ∉ d.map (·.1)) : dictSet d k v = d ++ [(k, v)] := by
  unfold dictSet
  rw [if_neg (mt (any_key_iff d k).mp h)]

theorem mem_dictSet_iff (d : Dict) (k v : Str) (e : Str × Str) :
    e ∈ dictSet d k v ↔ (e ∈ d ∧ e.1 ≠ k) ∨ e = (k, v) := by
  by_cases hk : k ∈ d.map (·.1)
  · obtain ⟨e0, h0, hk0⟩ := List.mem_map.mp hk
    unfold dictSet
    rw [if_pos ((any_key_iff d k).mpr hk), List.mem_map]
    constructor
    · rintro ⟨e1, h1, rfl⟩
      by_cases hk : e1.1 = k <;> simp [hk, h1]
    · rintro (⟨he, hk⟩ | rfl)
      · exact ⟨e, he, by simp [hk]⟩
      · exact ⟨e0, h0, by simp [hk0]⟩
  · rw [dictSet_fresh d k v hk, List.mem_append, List.mem_singleton]
    exact or_congr_left ⟨fun he => ⟨he, fun h => hk (h ▸ List.mem_map_of_mem he)⟩, And.left⟩

theorem dictSet_key (d : Dict) (k v : Str) : (∀ e ∈ dictSet d k v, e.1 = k → e.2 = v) ∧ (∃ e ∈ dictSet d k v, e.1 = k) := by
  refine ⟨fun e he hk => ?_, (k, v), (mem_dictSet_iff d k v _).mpr (.inr rfl), rfl⟩
  rcases (mem_dictSet_iff d k v e).mp he with ⟨_, hne⟩ | rfl
  · exact absurd hk hne
  · rfl

theorem dictGet_of (d : Dict) (c v : Str) (hall : ∀ e ∈ d, e.1 = c → e.2 = v) (hex : ∃ e ∈ d, e.1 = c) :
    dictGet d c = some v := by
  unfold dictGet
  cases hf : d.find? (fun e => e.1 == c) with
  | none =>
    obtain ⟨e, he, hc⟩ := hex
    have := List.find?_eq_none.mp hf e he
    simp [hc] at this
  | some e =>
    have hm := List.mem_of_find?_eq_some hf
    have hp := List.find?_some hf
    simp only [Option.map_some]
    rw [hall e hm (by simpa using hp)]

theorem dictGet_dictSet (d : Dict) (k v : Str) : dictGet (dictSet d k v) k = some v :=
  let ⟨hall, hex⟩ := dictSet_key d k v
  dictGet_of _ k v hall hex

theorem dictSet_keys (d : Dict) (k v : Str) :
    (dictSet d k v).map (·.1) = if k ∈ d.map (·.1) then d.map (·.1) else d.map (·.1) ++ [k] := by
  split
  · rename_i h
    unfold dictSet
    rw [if_pos ((any_key_iff d k).mpr h), List.map_map]
    refine List.map_congr_left fun e _ => ?_
    simp only [Function.comp]
    split
    · rename_i hk; exact (eq_of_beq hk).symm
    · rfl
  · rename_i h
    rw [dictSet_fresh d k v h, List.map_append]; rfl

/-- a well-formed parameter: what `parse_content_type` can produce -/
def WFE (e : Str × Str) : Prop := 59 ∉ e.1 ∧ 61 ∉ e.1 ∧ strip e.1 = e.1 ∧ 59 ∉ e.2 ∧ strip e.2 = e.2

/-- a parameter dictionary as `parse_content_type` builds it: well-formed parameters under pairwise different keys -/
def WFD (d : Dict) : Prop := (∀ e ∈ d, WFE e) ∧ (d.map (·.1)).Nodup

theorem WFD.set {d : Dict} (hd : WFD d) {k v : Str} (hkv : WFE (k, v)) : WFD (dictSet d k v) := by
  refine ⟨fun e he => ?_, ?_⟩
  · rcases (mem_dictSet_iff d k v e).mp he with h | h
    · exact hd.1 e h.1
    · rw [h]; exact hkv
  · rw [dictSet_keys]
    split
    · exact hd.2
    · rename_i hk
      exact List.nodup_append.mpr ⟨hd.2, by simp, fun a ha b hb => by rw [List.mem_singleton.mp hb]; exact fun e => hk (e ▸ ha)⟩

theorem WFD.clause {d : Dict} (hd : WFD d) {i : Str} (hi : 59 ∉ i) : WFD (addClause d i) := by
  unfold addClause
  rcases split1_cases 61 i with ⟨_, h⟩ | ⟨k, v, hk, rfl, h⟩ <;> rw [h]
  · exact hd
  · simp only [List.mem_append, List.mem_cons, not_or] at hi
    exact hd.set ⟨fun hm => hi.1 (mem_trim hm), fun hm => hk (mem_trim hm), trim_idem _ _,
      fun hm => hi.2.2 (mem_trim hm), trim_idem _ _⟩

theorem WFD.clauses (ps : List Str) {d : Dict} (hd : WFD d) (hp : ∀ p ∈ ps, 59 ∉ p) : WFD (ps.foldl addClause d) :=
  List.foldlRecOn ps addClause hd fun _ h p hm => h.clause (hp p hm)

section
open Gen.C32

private def pyLowerChunks : List (List (Nat × List Nat)) :=
  [pyLower0, pyLower1, pyLower2, pyLower3, pyLower4, pyLower5, pyLower6, pyLower7, pyLower8, pyLower9]

/-- Checked chunk by chunk: evaluating the left-nested `++` of `pyLower` itself costs more than the test. -/
private theorem pyLower_outputs_ge : ∀ e ∈ pyLower, ∀ y ∈ e.2, 65 ≤ y := by
  have h : (pyLowerChunks.all fun l => l.all fun e => e.2.all fun y => decide (65 ≤ y)) = true := by decide +kernel
  simp only [List.all_eq_true, decide_eq_true_eq] at h
  intro e he
  have hm : e ∈ pyLowerChunks.flatten := by simpa [pyLower, pyLowerChunks] using he
  obtain ⟨l, hl, hel⟩ := List.mem_flatten.mp hm
  exact h l hl e hel

end

theorem lowerC_mem (c x : Nat) (hc : c < 65) (h : c ∈ lowerC x) : x = c := by
  unfold lowerC at h
  by_cases hx : x < 128
  · simp only [hx, if_true, List.mem_singleton] at h
    split at h <;> omega
  · simp only [hx, if_false] at h
    cases hf : Gen.C32.pyLower.find? (fun e => e.1 == x) with
    | none => rw [hf] at h; simp only [List.mem_singleton] at h; omega
    | some e =>
      rw [hf] at h
      have := pyLower_outputs_ge e (List.mem_of_find?_eq_some hf) c h
      omega

theorem lower_notin (c : Nat) (s : Str) (hc : c < 65) (h : c ∉ s) : c ∉ lower s := by
  unfold lower
  intro hm
  rw [List.mem_flatMap] at hm
  obtain ⟨x, hx, he⟩ := hm
  exact h (lowerC_mem c x hc he ▸ hx)

theorem parse_wf (c ty sub : Str) (d : Dict) (h : parseContentType c = some (ty, sub, d)) :
    59 ∉ ty ∧ 47 ∉ ty ∧ 59 ∉ sub ∧ WFD d := by
  unfold parseContentType at h
  have hnil : WFD [] := ⟨by simp, List.nodup_nil⟩
  -- the part before the first `;` has none, hence neither have its two halves around the `/`
  have ⟨a, o, h59, ha, hd⟩ : ∃ a o, 59 ∉ a ∧ split1 59 c = (a, o) ∧
      WFD (match o with | none => [] | some ps => (splitAll 59 ps).foldl addClause []) := by
    rcases split1_cases 59 c with ⟨h59, e⟩ | ⟨a, ps, h59, _, e⟩
    · exact ⟨c, none, h59, e, hnil⟩
    · exact ⟨a, some ps, h59, e, WFD.clauses _ hnil (splitAll_eq 59 ps ▸ splitSep_pieces 59 ps)⟩
  rw [ha] at h
  rcases split1_cases 47 a with ⟨_, e⟩ | ⟨t, s0, h47, rfl, e⟩ <;> rw [e] at h <;> cases h
  simp only [List.mem_append, List.mem_cons, not_or] at h59
  exact ⟨lower_notin 59 _ (by omega) h59.1, lower_notin 47 _ (by omega) h47, lower_notin 59 _ (by omega) h59.2.2, hd⟩

/-! ### parse ∘ assemble -/

theorem kv_notin59 (e : Str × Str) (h : WFE e) : 59 ∉ (32 :: kv e) := by
  obtain ⟨h1, _, _, h4, _⟩ := h
  unfold kv
  simp only [List.mem_cons, List.mem_append, not_or]
  exact ⟨by omega, h1, by omega, h4⟩

theorem splitAll_join (d : Dict) (hd : ∀ e ∈ d, WFE e) (hne : d ≠ []) :
    splitAll 59 (32 :: joinParams d) = d.map (fun e => 32 :: kv e) := by
  rw [splitAll_eq]
  induction d with
  | nil => exact absurd rfl hne
  | cons e r ih =>
    have he := kv_notin59 e (hd e (by simp))
    cases r with
    | nil => simp only [joinParams, List.map_cons, List.map_nil]; exact splitSep_no_sep he
    | cons e2 r2 =>
      have : (32 :: joinParams (e :: e2 :: r2)) = (32 :: kv e) ++ 59 :: (32 :: joinParams (e2 :: r2)) := by
        simp [joinParams]
      rw [this, splitSep_append_sep he, ih (fun x hx => hd x (List.mem_cons_of_mem _ hx)) (by simp)]
      simp

theorem isSpace_32 : isSpace 32 = true := by decide

theorem addClause_kv (acc : Dict) (e : Str × Str) (h : WFE e) :
    addClause acc (32 :: kv e) = dictSet acc e.1 e.2 := by
  obtain ⟨_, h2, h3, _, h5⟩ := h
  unfold addClause kv
  have : (32 :: (e.1 ++ 61 :: e.2)) = (32 :: e.1) ++ 61 :: e.2 := by simp
  rw [this, split1_append 61 (32 :: e.1) e.2 (by simp only [List.mem_cons, not_or]; exact ⟨by omega, h2⟩)]
  simp only
  rw [show strip (32 :: e.1) = strip e.1 from trim_cons_ws isSpace_32 _, h3, h5]

/-- re-reading parameters under keys that are new and pairwise different appends them as they are -/
theorem foldl_reparse (es acc : Dict) (hes : ∀ e ∈ es, WFE e) (h : ((acc ++ es).map (·.1)).Nodup) :
    (es.map (fun e => 32 :: kv e)).foldl addClause acc = acc ++ es := by
  induction es generalizing acc with
  | nil => simp
  | cons e r ih =>
    have h' : (((acc ++ [e]) ++ r).map (·.1)).Nodup := by simpa using h
    have hk : e.1 ∉ acc.map (·.1) := fun hm =>
      (List.nodup_append.mp (List.map_append ▸ h)).2.2 _ hm _ (by simp) rfl
    simp only [List.map_cons, List.foldl_cons]
    rw [addClause_kv acc e (hes e (by simp)), dictSet_fresh acc _ _ hk,
      ih _ (fun x hx => hes x (List.mem_cons_of_mem _ hx)) h']
    simp

theorem parse_assemble (ty sub : Str) (d : Dict) (h1 : 59 ∉ ty) (h2 : 47 ∉ ty) (h3 : 59 ∉ sub) (hd : WFD d) :
    parseContentType (assembleContentType ty sub d) = some (lower ty, lower sub, d) := by
  have hts : 59 ∉ ty ++ 47 :: sub := by
    simp only [List.mem_append, List.mem_cons, not_or]; exact ⟨h1, by omega, h3⟩
  unfold assembleContentType parseContentType
  cases d with
  | nil =>
    simp only [List.isEmpty_nil, if_true]
    rw [split1_notin 59 _ hts]
    simp only
    rw [split1_append 47 ty sub h2]
  | cons e r =>
    have e1 : ty ++ 47 :: (sub ++ 59 :: 32 :: joinParams (e :: r)) =
        (ty ++ 47 :: sub) ++ 59 :: (32 :: joinParams (e :: r)) := by simp
    simp only [List.isEmpty_cons, Bool.false_eq_true, if_false]
    rw [e1, split1_append 59 _ _ hts]
    simp only
    rw [split1_append 47 ty sub h2, splitAll_join _ hd.1 (List.cons_ne_nil _ _), foldl_reparse _ [] hd.1 hd.2]
    rfl

theorem parse_fallbackHeader (ct : Str) :
    ∃ ty sub d, parseContentType (fallbackHeader ct) = some (ty, sub, dictSet d (S "charset") (S "utf-8")) := by
  have hwf : WFE (S "charset", S "utf-8") := by unfold WFE; decide +kernel
  unfold fallbackHeader
  cases h : parseContentType ct with
  | none =>
    exact ⟨_, _, [], parse_assemble _ _ _ (by decide) (by decide) (by decide) (WFD.set (d := []) ⟨by simp, List.nodup_nil⟩ hwf)⟩
  | some r =>
    obtain ⟨ty, sub, d⟩ := r
    obtain ⟨a, b, c, e⟩ := parse_wf ct ty sub d h
    exact ⟨_, _, d, parse_assemble ty sub _ a b c (e.set hwf)⟩

theorem headerCharset_fallback (ct : Str) : headerCharset (fallbackHeader ct) = S "utf-8" := by
  obtain ⟨ty, sub, d, h⟩ := parse_fallbackHeader ct
  unfold headerCharset
  rw [h]
  simp only
  rw [dictGet_dictSet]
  rfl

theorem infer_nobody_of_charset (ct : Str) (h : headerCharset ct ≠ []) :
    inferEncoding ct [] = gbFix (headerCharset ct) := by
  have he : (headerCharset ct).isEmpty = false := by
    cases hc : headerCharset ct with
    | nil => exact absurd hc h
    | cons _ _ => rfl
  unfold inferEncoding
  have hb : bomName [] = none := by decide
  simp only [hb, he, Bool.false_and, Bool.false_eq_true, if_false]

theorem infer_fallback (ct : Str) : inferEncoding (fallbackHeader ct) [] = S "utf-8" := by
  rw [infer_nobody_of_charset _ (by rw [headerCharset_fallback]; decide), headerCharset_fallback]
  decide

end MitmVerif.C32
