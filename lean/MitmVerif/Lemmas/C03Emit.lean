/-
  C03 — frame lemmas: which ghost fields a handler or `resume` can change.  Every such call leaves `bad`, `stale`,
  `procReqErr`, `seenReqHdr`, `draining` alone and can only switch `attached` on (the bookkeeping around the call —
  `procEv`/`procDone` — is what updates them).  `grammarOk` and that bookkeeping read no other ghost field, so this is all
  the proof that the emitter stays inside the grammar (Lemmas/C03Gram.lean) needs of the handlers; Lemmas/C03Inv.lean
  uses the `seenReqHdr` part.
-/
import MitmVerif.Lemmas.C03Base
namespace MitmVerif.C03

def Frame (d : Core) (w : W) : Prop :=
  w.c.bad = d.bad ∧ w.c.stale = d.stale ∧ (d.attached = true → w.c.attached = true) ∧
  w.c.procReqErr = d.procReqErr ∧ w.c.seenReqHdr = d.seenReqHdr ∧ w.c.draining = d.draining

/-- One branch of a handler: unfold the helpers it calls and descend through their `if`s and `match`es; every leaf
    returns a record update of the incoming core that leaves the six fields alone (or sets `attached`). -/
macro "frame_tree" : tactic => `(tactic|
  ((try simp only [resume, handlePE, peAfter, killedFire, killedSilent, sendResponse, startRequestStream, cbsErrFire,
      connectFinish, flowDone, onReqHeaders, ↓reduceIte, Bool.false_eq_true, reduceCtorEq])
   repeat' (with_reducible apply W.ite_elim (P := Frame _) <;> intro _)
   all_goals repeat' split
   all_goals exact ⟨rfl, rfl, fun _ => by trivial, rfl, rfl, rfl⟩))

theorem frame_resume (d : Core) (k : K) (ok peek : Bool) : Frame d (resume d k ok peek) := by
  cases k
  case peErr r ret => cases ret <;> frame_tree
  case cbsErr b => cases b <;> frame_tree
  all_goals frame_tree

theorem frame_handlePE (d : Core) (isResp peek : Bool) : Frame d (handlePE d isResp .top peek) := by
  frame_tree

theorem frame_clientEvent (d : Core) (ev : AEv) : Frame d (clientEvent d ev) := by
  fun_cases clientEvent d ev <;> frame_tree

theorem frame_serverEvent (d : Core) (ev : AEv) : Frame d (serverEvent d ev) := by
  fun_cases serverEvent d ev <;> frame_tree

theorem frame_handle (d : Core) (ev : AEv) (p : Bool) : Frame d (handle d ev p) := by
  cases ev with
  | reqErr | respErr => exact frame_handlePE _ _ _
  | reqHeaders | reqData | reqEOM | reqTrailers => exact frame_clientEvent _ _
  | _ => exact frame_serverEvent _ _

end MitmVerif.C03
