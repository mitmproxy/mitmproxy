/-
  C14 — lemmas about the model's functions one by one: the field lemmas of the small state updates, the engine's
  observers under each call the layer makes (`In`, `Out`), `_handle_event` branch by branch, and `event_to_child`,
  `_handshake_finished`, `receive_data` as equations, regime by regime.  Shared by Props/C14.lean and Props/C15.lean.
  In lemma names, here and in Lemmas/C14Hist.lean, `etc` is `event_to_child` (`eventToChild`; `etcCore` is the model's name
  for it without the ghost record of the arrival).
-/
import MitmVerif.Model.C14
namespace MitmVerif.C14.Lemmas
open MitmVerif MitmVerif.C14

variable {K : Codec}

@[simp] theorem addRouted_side (s : St K) (e : CEv) : (addRouted s e).side = s.side := rfl
@[simp] theorem addRouted_st (s : St K) (e : CEv) : (addRouted s e).st = s.st := rfl
@[simp] theorem addRouted_replyTo (s : St K) (e : CEv) : (addRouted s e).replyTo = s.replyTo := rfl
@[simp] theorem addRouted_queue (s : St K) (e : CEv) : (addRouted s e).queue = s.queue := rfl
@[simp] theorem addRouted_tls (s : St K) (e : CEv) : (addRouted s e).tls = s.tls := rfl
@[simp] theorem addRouted_helloParsed (s : St K) (e : CEv) : (addRouted s e).helloParsed = s.helloParsed := rfl
@[simp] theorem addRouted_recvBuf (s : St K) (e : CEv) : (addRouted s e).recvBuf = s.recvBuf := rfl
@[simp] theorem addRouted_errored (s : St K) (e : CEv) : (addRouted s e).errored = s.errored := rfl
@[simp] theorem addRouted_crashed (s : St K) (e : CEv) : (addRouted s e).crashed = s.crashed := rfl
@[simp] theorem addRouted_toChild (s : St K) (e : CEv) : (addRouted s e).toChild = s.toChild := rfl
@[simp] theorem addRouted_routed (s : St K) (e : CEv) : (addRouted s e).routed = s.routed ++ [e] := rfl
@[simp] theorem addRouted_up (s : St K) (e : CEv) : (addRouted s e).up = s.up := rfl
@[simp] theorem addRouted_accepted (s : St K) (e : CEv) : (addRouted s e).accepted = s.accepted := rfl
@[simp] theorem addRouted_rxError (s : St K) (e : CEv) : (addRouted s e).rxError = s.rxError := rfl
@[simp] theorem enqueue_side (s : St K) (e : CEv) : (enqueue s e).side = s.side := rfl
@[simp] theorem enqueue_st (s : St K) (e : CEv) : (enqueue s e).st = s.st := rfl
@[simp] theorem enqueue_replyTo (s : St K) (e : CEv) : (enqueue s e).replyTo = s.replyTo := rfl
@[simp] theorem enqueue_queue (s : St K) (e : CEv) : (enqueue s e).queue = s.queue ++ [e] := rfl
@[simp] theorem enqueue_tls (s : St K) (e : CEv) : (enqueue s e).tls = s.tls := rfl
@[simp] theorem enqueue_helloParsed (s : St K) (e : CEv) : (enqueue s e).helloParsed = s.helloParsed := rfl
@[simp] theorem enqueue_recvBuf (s : St K) (e : CEv) : (enqueue s e).recvBuf = s.recvBuf := rfl
@[simp] theorem enqueue_errored (s : St K) (e : CEv) : (enqueue s e).errored = s.errored := rfl
@[simp] theorem enqueue_crashed (s : St K) (e : CEv) : (enqueue s e).crashed = s.crashed := rfl
@[simp] theorem enqueue_toChild (s : St K) (e : CEv) : (enqueue s e).toChild = s.toChild := rfl
@[simp] theorem enqueue_routed (s : St K) (e : CEv) : (enqueue s e).routed = s.routed := rfl
@[simp] theorem enqueue_up (s : St K) (e : CEv) : (enqueue s e).up = s.up := rfl
@[simp] theorem enqueue_accepted (s : St K) (e : CEv) : (enqueue s e).accepted = s.accepted := rfl
@[simp] theorem enqueue_rxError (s : St K) (e : CEv) : (enqueue s e).rxError = s.rxError := rfl
@[simp] theorem setSt_side (s : St K) (v : TState) : (setSt s v).side = s.side := rfl
@[simp] theorem setSt_st (s : St K) (v : TState) : (setSt s v).st = v := rfl
@[simp] theorem setSt_replyTo (s : St K) (v : TState) : (setSt s v).replyTo = s.replyTo := rfl
@[simp] theorem setSt_queue (s : St K) (v : TState) : (setSt s v).queue = s.queue := rfl
@[simp] theorem setSt_tls (s : St K) (v : TState) : (setSt s v).tls = s.tls := rfl
@[simp] theorem setSt_helloParsed (s : St K) (v : TState) : (setSt s v).helloParsed = s.helloParsed := rfl
@[simp] theorem setSt_recvBuf (s : St K) (v : TState) : (setSt s v).recvBuf = s.recvBuf := rfl
@[simp] theorem setSt_errored (s : St K) (v : TState) : (setSt s v).errored = s.errored := rfl
@[simp] theorem setSt_crashed (s : St K) (v : TState) : (setSt s v).crashed = s.crashed := rfl
@[simp] theorem setSt_toChild (s : St K) (v : TState) : (setSt s v).toChild = s.toChild := rfl
@[simp] theorem setSt_routed (s : St K) (v : TState) : (setSt s v).routed = s.routed := rfl
@[simp] theorem setSt_up (s : St K) (v : TState) : (setSt s v).up = s.up := rfl
@[simp] theorem setSt_accepted (s : St K) (v : TState) : (setSt s v).accepted = s.accepted := rfl
@[simp] theorem setSt_rxError (s : St K) (v : TState) : (setSt s v).rxError = s.rxError := rfl
@[simp] theorem emit_side (s : St K) (u : List Up) : (emit s u).side = s.side := rfl
@[simp] theorem emit_st (s : St K) (u : List Up) : (emit s u).st = s.st := rfl
@[simp] theorem emit_replyTo (s : St K) (u : List Up) : (emit s u).replyTo = s.replyTo := rfl
@[simp] theorem emit_queue (s : St K) (u : List Up) : (emit s u).queue = s.queue := rfl
@[simp] theorem emit_tls (s : St K) (u : List Up) : (emit s u).tls = s.tls := rfl
@[simp] theorem emit_helloParsed (s : St K) (u : List Up) : (emit s u).helloParsed = s.helloParsed := rfl
@[simp] theorem emit_recvBuf (s : St K) (u : List Up) : (emit s u).recvBuf = s.recvBuf := rfl
@[simp] theorem emit_errored (s : St K) (u : List Up) : (emit s u).errored = s.errored := rfl
@[simp] theorem emit_crashed (s : St K) (u : List Up) : (emit s u).crashed = s.crashed := rfl
@[simp] theorem emit_toChild (s : St K) (u : List Up) : (emit s u).toChild = s.toChild := rfl
@[simp] theorem emit_routed (s : St K) (u : List Up) : (emit s u).routed = s.routed := rfl
@[simp] theorem emit_up (s : St K) (u : List Up) : (emit s u).up = s.up ++ u := rfl
@[simp] theorem emit_accepted (s : St K) (u : List Up) : (emit s u).accepted = s.accepted := rfl
@[simp] theorem emit_rxError (s : St K) (u : List Up) : (emit s u).rxError = s.rxError := rfl

@[simp] theorem clearReply_side (s : St K) : (clearReply s).side = s.side := rfl
@[simp] theorem clearReply_st (s : St K) : (clearReply s).st = s.st := rfl
@[simp] theorem clearReply_replyTo (s : St K) : (clearReply s).replyTo = false := rfl
@[simp] theorem clearReply_queue (s : St K) : (clearReply s).queue = s.queue := rfl
@[simp] theorem clearReply_tls (s : St K) : (clearReply s).tls = s.tls := rfl
@[simp] theorem clearReply_helloParsed (s : St K) : (clearReply s).helloParsed = s.helloParsed := rfl
@[simp] theorem clearReply_recvBuf (s : St K) : (clearReply s).recvBuf = s.recvBuf := rfl
@[simp] theorem clearReply_errored (s : St K) : (clearReply s).errored = s.errored := rfl
@[simp] theorem clearReply_crashed (s : St K) : (clearReply s).crashed = s.crashed := rfl
@[simp] theorem clearReply_toChild (s : St K) : (clearReply s).toChild = s.toChild := rfl
@[simp] theorem clearReply_routed (s : St K) : (clearReply s).routed = s.routed := rfl
@[simp] theorem clearReply_up (s : St K) : (clearReply s).up = s.up := rfl
@[simp] theorem clearReply_accepted (s : St K) : (clearReply s).accepted = s.accepted := rfl
@[simp] theorem clearReply_rxError (s : St K) : (clearReply s).rxError = s.rxError := rfl
@[simp] theorem clearQueue_side (s : St K) : (clearQueue s).side = s.side := rfl
@[simp] theorem clearQueue_st (s : St K) : (clearQueue s).st = s.st := rfl
@[simp] theorem clearQueue_replyTo (s : St K) : (clearQueue s).replyTo = s.replyTo := rfl
@[simp] theorem clearQueue_queue (s : St K) : (clearQueue s).queue = [] := rfl
@[simp] theorem clearQueue_tls (s : St K) : (clearQueue s).tls = s.tls := rfl
@[simp] theorem clearQueue_helloParsed (s : St K) : (clearQueue s).helloParsed = s.helloParsed := rfl
@[simp] theorem clearQueue_recvBuf (s : St K) : (clearQueue s).recvBuf = s.recvBuf := rfl
@[simp] theorem clearQueue_errored (s : St K) : (clearQueue s).errored = s.errored := rfl
@[simp] theorem clearQueue_crashed (s : St K) : (clearQueue s).crashed = s.crashed := rfl
@[simp] theorem clearQueue_toChild (s : St K) : (clearQueue s).toChild = s.toChild := rfl
@[simp] theorem clearQueue_routed (s : St K) : (clearQueue s).routed = s.routed := rfl
@[simp] theorem clearQueue_up (s : St K) : (clearQueue s).up = s.up := rfl
@[simp] theorem clearQueue_accepted (s : St K) : (clearQueue s).accepted = s.accepted := rfl
@[simp] theorem clearQueue_rxError (s : St K) : (clearQueue s).rxError = s.rxError := rfl

/-! ### the engine's observers under the calls the layer makes

  The law speaks of four observers of an engine state.  `In` and `Out` say how they stand to what the layer has
  received, handed on, emitted and had accepted; each call the layer makes (`bio_write`, the `recv` loop, `sendall`,
  the `bio_read` loop, `do_handshake`) has one lemma per half. -/

/-- inbound half: `b` has been written into the BIO, `p` handed out by `recv`, and `p` begins the session's reading
    of `b` -/
structure In (L : Laws K) (b p : Bytes) (c : K.σ) : Prop where
  fed : L.fed c = b
  taken : L.taken c = p.length
  pre : ∃ rest, (L.dec b).1 = p ++ rest

/-- outbound half: `u` has been handed out by `bio_read`, `a` accepted by `sendall`; `fl`: the peer's reading of `u` is
    all of `a` -/
structure Out (L : Laws K) (fl : Bool) (u a : Bytes) (c : K.σ) : Prop where
  emitted : L.emitted c = u
  sent : L.sent c = a
  flushed : fl = true → L.enc u = a

section
variable {L : Laws K} {b p u a : Bytes} {fl : Bool} {c c' : K.σ}

theorem In.keep (h : In L b p c) (hf : L.fed c' = L.fed c) (ht : L.taken c' = L.taken c) : In L b p c' :=
  ⟨hf.trans h.fed, ht.trans h.taken, h.pre⟩

theorem Out.keep (h : Out L fl u a c) (he : L.emitted c' = L.emitted c) (hs : L.sent c' = L.sent c) : Out L fl u a c' :=
  ⟨he.trans h.emitted, hs.trans h.sent, h.flushed⟩

theorem In.take (h : In L b p c) : p = (L.dec b).1.take (L.taken c) := by
  obtain ⟨rest, hr⟩ := h.pre
  rw [hr, h.taken, List.take_left]

/-- `if data: bio_write(data)` against the law -/
theorem feedIf_laws (L : Laws K) (c : K.σ) (d : Bytes) :
    L.fed (feedIf c d) = L.fed c ++ d ∧ L.taken (feedIf c d) = L.taken c
    ∧ L.emitted (feedIf c d) = L.emitted c ∧ L.sent (feedIf c d) = L.sent c := by
  unfold feedIf
  by_cases hde : d.isEmpty = true
  · have : d = [] := by simpa using hde
    subst this; simp
  · simp only [hde, Bool.false_eq_true, if_false]
    exact ⟨L.feed_fed c d, L.feed_taken c d, (L.feed_out c d).2, (L.feed_out c d).1⟩

/-- feeding more ciphertext: what was decodable stays decodable (`dec_mono`) -/
theorem In.feed (h : In L b p c) (d : Bytes) : In L (b ++ d) p (feedIf c d) := by
  obtain ⟨rest, hr⟩ := h.pre
  obtain ⟨t, ht⟩ := L.dec_mono b d
  exact ⟨by rw [(feedIf_laws L c d).1, h.fed], (feedIf_laws L c d).2.1.trans h.taken, rest ++ t, by rw [ht, hr, List.append_assoc]⟩

theorem Out.feed (h : Out L fl u a c) (d : Bytes) : Out L fl u a (feedIf c d) :=
  h.keep (feedIf_laws L c d).2.2.1 (feedIf_laws L c d).2.2.2

theorem Out.recvLoop (h : Out L fl u a c) (fuel : Nat) (acc : Bytes) : Out L fl u a (C14.recvLoop K fuel c acc).2.2 := by
  have hout := L.recv_out c
  fun_induction C14.recvLoop K fuel c acc with
  | case1 => exact h
  | case2 n c acc d c' hr ih => rw [hr] at hout; exact ih (h.keep hout.2 hout.1) (L.recv_out c')
  | _ => rename_i hr; rw [hr] at hout; exact h.keep hout.2 hout.1

/-- the `recv` loop on any engine state: what it returns continues what was handed out before, and WantRead /
    ZeroReturn say that nothing decodable is left -/
theorem recvLoop_spec (L : Laws K) (fuel : Nat) (c : K.σ) (acc : Bytes) (hfuel : K.inPending c < fuel) :
    ∃ P, (recvLoop K fuel c acc).1 = acc ++ P
      ∧ L.fed (recvLoop K fuel c acc).2.2 = L.fed c
      ∧ L.taken (recvLoop K fuel c acc).2.2 = L.taken c + P.length
      ∧ (∃ rest, (L.dec (L.fed c)).1.drop (L.taken c) = P ++ rest)
      ∧ (recvLoop K fuel c acc).2.1 ≠ .fuel
      ∧ ((recvLoop K fuel c acc).2.1 = .want →
            L.taken c + P.length = (L.dec (L.fed c)).1.length ∧ (L.dec (L.fed c)).2 = false)
      ∧ ((recvLoop K fuel c acc).2.1 = .closed →
            L.taken c + P.length = (L.dec (L.fed c)).1.length ∧ (L.dec (L.fed c)).2 = true) := by
  have hin := L.recv_in c
  fun_induction recvLoop K fuel c acc with
  | case1 c acc => omega
  | case2 n c acc d c' hr ih =>
    obtain ⟨htk, ⟨rest, hrest⟩, hlt⟩ := L.recv_data c d (by rw [hr])
    simp only [hr] at hin htk hlt
    obtain ⟨P, hp1, hp2, hp5, ⟨rest', hp6⟩, hp7, hp8, hp9⟩ := ih (by omega) (L.recv_in c')
    have hdrop : (L.dec (L.fed c)).1.drop (L.taken c) = (d ++ P) ++ rest' := by
      have : (L.dec (L.fed c)).1.drop (L.taken c + d.length) = rest := by
        rw [← List.drop_drop, hrest]; simp
      rw [hin, htk, this] at hp6
      rw [hrest, hp6]; simp
    refine ⟨d ++ P, ?_, ?_, ?_, ⟨rest', hdrop⟩, hp7, ?_, ?_⟩
    · rw [hp1]; simp
    · rw [hp2, hin]
    · rw [hp5, htk]; simp; omega
    · intro he
      have := hp8 he; rw [hin, htk] at this; simp only [List.length_append]; exact ⟨by omega, this.2⟩
    · intro he
      have := hp9 he; rw [hin, htk] at this; simp only [List.length_append]; exact ⟨by omega, this.2⟩
  | _ =>
    -- the loop stops here: nothing was taken, and WantRead / ZeroReturn say that nothing is left
    rename_i c acc c' hr
    have hnd := L.recv_nodata c (by simp [hr])
    have hw := L.recv_want c
    have hz := L.recv_zero c
    simp only [hr] at hin hnd hw hz
    refine ⟨[], ?_, ?_, ?_, ⟨_, by simp; rfl⟩, ?_, ?_, ?_⟩ <;> simp [hin, hnd, hw, hz]

theorem In.recvLoop (h : In L b p c) :
    In L b (p ++ (C14.recvLoop K (K.inPending c + 1) c []).1) (C14.recvLoop K (K.inPending c + 1) c []).2.2 := by
  obtain ⟨P, hp1, hp2, hp5, ⟨rest, hp6⟩, _⟩ := recvLoop_spec L (K.inPending c + 1) c [] (by omega)
  obtain ⟨r0, hr0⟩ := h.pre
  rw [h.fed, hr0, h.taken, List.drop_left] at hp6
  rw [hp1, List.nil_append]
  exact ⟨hp2.trans h.fed, by rw [hp5, h.taken, List.length_append], rest, by rw [hr0, hp6, List.append_assoc]⟩

theorem In.send (h : In L b p c) (d : Bytes) : In L b p (K.send c d).2 := h.keep (L.send_in c d).1 (L.send_in c d).2

theorem Out.send (h : Out L fl u a c) (d : Bytes) :
    Out L false u (if (K.send c d).1 then a ++ d else a) (K.send c d).2 :=
  ⟨(L.send_out c d).1.trans h.emitted, by rw [(L.send_out c d).2, h.sent], nofun⟩

theorem In.handshake (h : In L b p c) : In L b p (K.handshake c).2 := h.keep (L.hs_in c).1 (L.hs_in c).2

theorem Out.handshake (h : Out L fl u a c) : Out L fl u a (K.handshake c).2 := h.keep (L.hs_out c).2 (L.hs_out c).1

theorem In.outLoop (h : In L b p c) (fuel : Nat) (acc : List Bytes) : In L b p (C14.outLoop K fuel c acc).2 := by
  have hin := L.out_in c
  fun_induction C14.outLoop K fuel c acc with
  | case1 => exact h
  | case2 n c acc ch c' hr ih => rw [hr] at hin; exact ih (h.keep hin.1 hin.2) (L.out_in c')
  | case3 n c acc c' hr => rw [hr] at hin; exact h.keep hin.1 hin.2

/-- `tls_interact` hands out everything the engine holds: afterwards the peer's reading of the ciphertext is all that was
    accepted -/
theorem Out.outLoop (h : Out L fl u a c) (fuel : Nat) (acc : List Bytes) (hfuel : K.outPending c < fuel) :
    ∃ chunks, (C14.outLoop K fuel c acc).1 = acc ++ chunks
      ∧ Out L true (u ++ chunks.flatten) a (C14.outLoop K fuel c acc).2 := by
  fun_induction C14.outLoop K fuel c acc generalizing fl u with
  | case1 => omega
  | case2 n c acc ch c' hr ih =>
    obtain ⟨he, hs, hlt⟩ := L.out_some c ch (by rw [hr])
    simp only [hr] at he hs hlt
    obtain ⟨chunks, q1, q2⟩ := ih (fl := false) (u := u ++ ch) ⟨by rw [he, h.emitted], hs.trans h.sent, nofun⟩ (by omega)
    exact ⟨ch :: chunks, by simp [q1], by simpa using q2⟩
  | case3 n c acc c' hr =>
    obtain ⟨he, hs, henc⟩ := L.out_none c (by rw [hr])
    simp only [hr] at he hs
    exact ⟨[], by simp, by simpa using ⟨he.trans h.emitted, hs.trans h.sent, fun _ => by rw [← h.emitted, henc, h.sent]⟩⟩

end

/-- the case principle of `handle`: one hypothesis per end of `TunnelLayer._handle_event`, each under the guards that
    lead to it (`start` covers both values of `connOpen`) -/
theorem handle_cases (env : Env K) (child : Child) (s : St K) (motive : Ev → St K → Prop)
    (start : ∀ o, motive (.start o)
      (eventToChild child (if o then startHandshake env child { s with st := .establishing } else s) .start))
    (hs : ∀ d, s.st = .establishing → motive (.data d) (hsData env child s d))
    (data : ∀ d, s.st ≠ .establishing → motive (.data d) (receiveData child s d))
    (shut : ∀ c, s.st = .open_ → s.tls = some c → K.gotShutdown c = true → motive .closeEv { s with st := .closed })
    (closed : ∀ c, s.st = .open_ → s.tls = some c → K.gotShutdown c = false →
      motive .closeEv { eventToChild child s .closed with st := .closed })
    (noTls : s.st = .open_ → s.tls = none → motive .closeEv { s with crashed := true, st := .closed })
    (abort : s.st = .establishing →
      motive .closeEv { handshakeFinished child (onHandshakeError s) true with st := .closed })
    (idle : s.st ≠ .open_ → s.st ≠ .establishing → motive .closeEv { s with st := .closed })
    (other : ∀ n, motive (.other n) (eventToChild child s (.other n)))
    (stray : ∀ e, s.replyTo = false → motive (.openReply e) s)
    (refused : s.replyTo = true →
      motive (.openReply true) { eventToChild child s (.opened true) with st := .closed })
    (opened : s.replyTo = true → motive (.openReply false) (startHandshake env child s)) :
    ∀ ev, motive ev (handle env child s ev) := by
  intro ev
  cases ev with
  | start o => exact start o
  | data d =>
    simp only [handle]
    split
    · exact hs d ‹_›
    · exact data d ‹_›
  | closeEv =>
    simp only [handle]
    split
    · split
      · split
        · exact shut _ ‹_› ‹_› ‹_›
        · exact closed _ ‹_› ‹_› (eq_false_of_ne_true ‹_›)
      · exact noTls ‹_› ‹_›
    · split
      · exact abort ‹_›
      · exact idle ‹_› ‹_›
  | other n => exact other n
  | openReply e =>
    simp only [handle]
    cases hr : s.replyTo with
    | false => exact stray e hr
    | true =>
      cases e with
      | true => exact refused hr
      | false => exact opened hr

theorem etcCore_swallow (child : Child) (s : St K) (e : CEv) (he : s.errored = true) : etcCore child s e = s := by
  rw [etcCore, if_pos he]

theorem etcCore_deliver (child : Child) (s : St K) (e : CEv) (he : s.errored = false) (hq : queueing s = false) :
    etcCore child s e = deliver child s e := by
  rw [etcCore, if_neg (by simp [he]), if_neg (by simp [hq])]

/-- while the tunnel is being established on an open connection the event is stored -/
theorem etc_store (child : Child) (s : St K) (e : CEv) (he : s.errored = false) (hq : queueing s = true) :
    eventToChild child s e = enqueue (addRouted s e) e := by
  rw [eventToChild, etcCore, if_neg (by simp [he]), if_pos (show queueing (addRouted s e) = true from hq)]

/-- otherwise, unless a failed client handshake swallows it, the child handles it and its commands are carried out -/
theorem etc_deliver (child : Child) (s : St K) (e : CEv) {cs : List CCmd} (he : s.errored = false)
    (hq : queueing s = false) (h : child s.toChild e = cs) :
    eventToChild child s e = handleCmds { addRouted s e with toChild := s.toChild ++ [e] } cs := by
  rw [eventToChild, etcCore_deliver child (addRouted s e) e he hq, deliver, ← h]; rfl

theorem handshakeFinished_reply (child : Child) (s : St K) (err : Bool) (hr : s.replyTo = true) :
    handshakeFinished child s err =
      clearReply (eventToChild child (setSt s (if err then .closed else .open_)) (.opened err)) := by
  rw [handshakeFinished, if_pos hr]

theorem handshakeFinished_flush (child : Child) (s : St K) (err : Bool) (hr : s.replyTo = false) :
    handshakeFinished child s err =
      clearQueue (s.queue.foldl (etcCore child) (setSt s (if err then .closed else .open_))) := by
  rw [handshakeFinished, if_neg (by simp [hr])]

theorem cipherOf_append (a b : List Up) : cipherOf (a ++ b) = cipherOf a ++ cipherOf b := by
  induction a with
  | nil => simp [cipherOf]
  | cons x xs ih => cases x <;> simp [cipherOf, ih]

theorem cipherOf_sends (l : List Bytes) : cipherOf (l.map Up.send) = l.flatten := by
  induction l with
  | nil => simp [cipherOf]
  | cons x xs ih => simp [cipherOf, ih]

theorem plainOf_append (a b : List CEv) : plainOf (a ++ b) = plainOf a ++ plainOf b := by
  induction a with
  | nil => simp [plainOf]
  | cons x xs ih => cases x <;> simp [plainOf, ih]

/-! ### `receive_data` = the engine part, then the events it read -/

/-- what one `receive_data` call passes to `event_to_child`: the plaintext it read, if any, then the close -/
def recvEvents (P : Bytes) (e : RecvEnd) : List CEv :=
  (if P.isEmpty then [] else [.data P]) ++ (if e == .closed then [.closed] else [])

theorem plainOf_recvEvents (P : Bytes) (e : RecvEnd) : plainOf (recvEvents P e) = P := by
  have h2 : plainOf (if e == .closed then [.closed] else []) = [] := by split <;> rfl
  rw [recvEvents, plainOf_append, h2, List.append_nil]
  split
  · exact (List.isEmpty_iff.mp ‹_›).symm
  · simp [plainOf]

theorem foldl_recvEvents {α : Type} (f : α → CEv → α) (a : α) (P : Bytes) (e : RecvEnd) :
    (recvEvents P e).foldl f a =
      if e == .closed then f (if P.isEmpty then a else f a (.data P)) .closed else (if P.isEmpty then a else f a (.data P)) := by
  unfold recvEvents
  split <;> split <;> rfl

/-- `bio_write`, the `recv` loop with result `r`, the log entry for an SSL error, `tls_interact`; then `event_to_child` for
    what was read -/
theorem receiveData_eq (child : Child) (s : St K) (d : Bytes) {c : K.σ} (hc : s.tls = some c) :
    ∀ r, r = recvLoop K (K.inPending (feedIf c d) + 1) (feedIf c d) [] →
    receiveData child s d = (recvEvents r.1 r.2.1).foldl (eventToChild child)
      (interact (if r.2.1 == .err then emit (afterRecv s r.2.2 r.2.1) [.log 1] else afterRecv s r.2.2 r.2.1)) := by
  intro r hr
  rw [foldl_recvEvents, hr]
  unfold receiveData
  rw [hc]

theorem receiveData_none (child : Child) (s : St K) (d : Bytes) (hn : s.tls = none) :
    receiveData child s d = { s with crashed := true } := by
  unfold receiveData
  rw [hn]

/-- "not about to queue": `tunnel_state is ESTABLISHING` only together with `command_to_reply_to` -/
theorem queueing_false_iff (s : St K) : queueing s = false ↔ (s.st = .establishing → s.replyTo = true) := by
  unfold queueing
  cases s.st <;> simp [isEst]

end MitmVerif.C14.Lemmas
