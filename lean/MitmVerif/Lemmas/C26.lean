/-
  Names and record data: wherever the specification decoder `DnsRef` reads, the codec model reads the same. A1 is the
  cache-based name decoder (`unpackName_agrees`, an instance of `unpackName_all` of Lemmas/C25), A2 is `expand_record_data`
  (`rrData_ref`, with `layout_agrees` for the two layout tables). What the specification returns as RDATA is read back
  unchanged wherever it is written (`rdata_canon`) and is `rdataPlain` (`rdata_plain`). `DnsRef` is read through the
  induction principles `name_induct` and `rdataF_induct`; the message level is Lemmas/C26Msg.
-/
import MitmVerif.Model.C26
import MitmVerif.Lemmas.C25
set_option linter.unusedVariables false
set_option linter.unusedSimpArgs false
namespace MitmVerif.C26
open MitmVerif MitmVerif.C25

theorem nameF_unfold (fuel : Nat) (buf : Bytes) (off : Nat) : DnsRef.nameF fuel buf off =
    match scanRaw (buf.drop off) with
    | none => none
    | some (ls, n, none) => some (ls, n)
    | some (ls, n, some t) =>
      if t < off then
        match fuel with
        | 0 => none
        | f + 1 =>
          match DnsRef.nameF f buf t with
          | none => none
          | some (ls2, _) => some (ls ++ ls2, n)
      else none := by
  rw [DnsRef.nameF.eq_def]; rfl

/-- with fuel enough for the offset, `nameF` is the recursion without fuel: pointer targets strictly decrease -/
theorem nameF_eq (buf : Bytes) : ∀ (off f : Nat), off ≤ f → DnsRef.nameF f buf off =
    match scanRaw (buf.drop off) with
    | none => none
    | some (ls, n, none) => some (ls, n)
    | some (ls, n, some t) =>
      if t < off then
        match DnsRef.name buf t with
        | none => none
        | some (ls2, _) => some (ls ++ ls2, n)
      else none := by
  intro off
  induction off using Nat.strongRecOn with
  | _ off ih =>
    intro f hf
    rw [nameF_unfold]
    cases hs : scanRaw (buf.drop off) with
    | none => rfl
    | some r =>
      obtain ⟨ls, n, p⟩ := r
      cases p with
      | none => rfl
      | some t =>
        simp only
        by_cases ht : t < off
        · simp only [ht, if_true]
          cases f with
          | zero => omega
          | succ g =>
            -- the target is read with enough fuel on either side, so on either side it is the recursion without fuel
            simp only
            rw [ih t ht g (by omega), DnsRef.name, ih t ht t (Nat.le_refl _)]
        · simp [ht]

theorem name_unfold (buf : Bytes) (off : Nat) : DnsRef.name buf off =
    match scanRaw (buf.drop off) with
    | none => none
    | some (ls, n, none) => some (ls, n)
    | some (ls, n, some t) =>
      if t < off then
        match DnsRef.name buf t with
        | none => none
        | some (ls2, _) => some (ls ++ ls2, n)
      else none :=
  nameF_eq buf off off (Nat.le_refl _)

/-- strong induction on the offset: the specification follows a pointer only to a smaller offset -/
theorem name_induct {buf : Bytes} {P : Nat → List Bytes → Nat → Prop}
    (plain : ∀ off raws n, scanRaw (buf.drop off) = some (raws, n, none) → DnsRef.name buf off = some (raws, n) → P off raws n)
    (ptr : ∀ off raws n t ls2 m2, scanRaw (buf.drop off) = some (raws, n, some t) → t < off →
      DnsRef.name buf t = some (ls2, m2) → P t ls2 m2 → DnsRef.name buf off = some (raws ++ ls2, n) → P off (raws ++ ls2) n) :
    ∀ off ls n, DnsRef.name buf off = some (ls, n) → P off ls n := by
  intro off
  induction off using Nat.strongRecOn with
  | _ off ih =>
    intro ls n h0
    have h := h0
    rw [name_unfold] at h
    cases hs : scanRaw (buf.drop off) with
    | none => simp [hs] at h
    | some r =>
      obtain ⟨raws, n0, p⟩ := r
      simp only [hs] at h
      cases p with
      | none => simp at h; obtain ⟨rfl, rfl⟩ := h; exact plain off raws n0 hs h0
      | some t =>
        simp only at h
        by_cases ht : t < off
        · simp only [ht, if_true] at h
          cases hn : DnsRef.name buf t with
          | none => simp [hn] at h
          | some r2 =>
            obtain ⟨ls2, n2⟩ := r2
            simp [hn] at h
            obtain ⟨rfl, rfl⟩ := h
            exact ptr off raws n0 t ls2 n2 hs ht hn (ih t ht ls2 n2 hn) h0
        · simp [ht] at h

theorem name_labels_ok (buf : Bytes) : ∀ (off : Nat) (ls : List Bytes) (n : Nat),
    DnsRef.name buf off = some (ls, n) → LabelsOk ls :=
  name_induct (fun _ _ _ hs _ => scanRaw_ok hs) (fun _ _ _ _ _ _ hs _ _ ih _ => LabelsOk.append (scanRaw_ok hs) ih)

/-! ### (A1) the cache-based decoder agrees with the specification on names -/

/-- every finished cache entry is what the specification reads at its offset: the hypothesis of
    `Props.C26.compressed_name_read`. The proofs carry `CacheAll (AgreesAt I buf)`, which it implies and which
    `unpackName` keeps on every input, also where the specification reads nothing. -/
def CacheAgree (I : Idna) (buf : Bytes) (c : Cache) : Prop :=
  ∀ k t n, c.lookup k = some (some (t, n)) → ∃ ls, DnsRef.name buf k = some (ls, n) ∧ NameRel I t ls

def AgreesAt (I : Idna) (buf : Bytes) (off : Nat) (r : Text × Nat) : Prop :=
  ∀ ls n, DnsRef.name buf off = some (ls, n) → r.2 = n ∧ NameRel I r.1 ls

theorem CacheAgree.all {I : Idna} {buf : Bytes} {c : Cache} (h : CacheAgree I buf c) : CacheAll (AgreesAt I buf) c := by
  intro k r hk ls n hn
  obtain ⟨ls', hn', hr⟩ := h k r.1 r.2 hk
  rw [hn] at hn'; cases hn'
  exact ⟨rfl, hr⟩

/-- `AgreesAt` is a property of the kind `unpackName_all` carries along the pointer chase: the specification reads a
    name with a pointer only by reading the pointer's target -/
theorem unpackName_agrees {I : Idna} {buf : Bytes} {off : Nat} {cache : Cache} {depth : Nat} {r : Text × Nat} {c' : Cache}
    (hc : CacheAll (AgreesAt I buf) cache) (h : unpackName I buf off cache depth = some (r, c')) :
    AgreesAt I buf off r ∧ CacheAll (AgreesAt I buf) c' := by
  refine unpackName_all (P := AgreesAt I buf) ?_ ?_ hc h
  · intro off raws n labels hs hm ls k hn
    rw [name_unfold, hs] at hn; cases hn
    exact ⟨rfl, scanRaw_ok hs, labels, hm, rfl⟩
  · intro off raws n t labels label m hs hm ht ls k hn
    rw [name_unfold, hs] at hn
    simp only at hn
    split at hn
    · cases hn2 : DnsRef.name buf t with
      | none => simp [hn2] at hn
      | some r2 =>
        simp only [hn2, Option.some.injEq, Prod.mk.injEq] at hn
        obtain ⟨rfl, rfl⟩ := hn
        exact ⟨rfl, NameRel.nameOf (scanRaw_ok hs) hm (ht _ _ hn2).2⟩
    · cases hn

/-! ### (A2) record data: `expand_record_data` agrees with the specification's canonical RDATA -/

theorem expandName_agrees (buf : Bytes) : ∀ (off : Nat) (ls : List Bytes) (n : Nat),
    DnsRef.name buf off = some (ls, n) → ∀ seen : List Nat, (∀ k ∈ seen, off < k) →
    expandName buf off seen = some (wire ls ++ [0]) := by
  have fresh : ∀ {off : Nat} {seen : List Nat}, (∀ k ∈ seen, off < k) → seen.contains off = false := by
    intro off seen hseen
    cases hc : seen.contains off with
    | false => rfl
    | true => exact absurd (hseen off (by simpa using hc)) (Nat.lt_irrefl _)
  refine name_induct ?_ ?_
  · intro off raws n hs _ seen hseen
    rw [expandName_fresh (fresh hseen), hs]
  · intro off raws n t ls2 m2 hs ht _ ih _ seen hseen
    rw [expandName_fresh (fresh hseen), hs]
    simp only
    rw [ih (off :: seen) (List.forall_mem_cons.mpr ⟨ht, fun k hk => Nat.lt_trans ht (hseen k hk)⟩)]
    simp [wire_append]

/-- the code's layout table (generated from `_RDATA_LAYOUT`) is the RFC table of the specification -/
theorem layout_agrees (ty : Nat) : layoutOf ty = DnsRef.layout ty := by
  by_cases h : ty < 36
  · exact (by decide : ∀ t : Fin 36, layoutOf t.val = DnsRef.layout t.val) ⟨ty, h⟩
  · have e1 : layoutOf ty = none := by
      unfold layoutOf layoutTable
      have hk : ∀ k, k < 36 → (ty == k) = false := by intro k hk; simp; omega
      simp [List.lookup, hk]
    have e2 : DnsRef.layout ty = none := by
      unfold DnsRef.layout
      have : ∀ k, k < 36 → ¬ ty = k := by intro k hk; omega
      simp [this]
    rw [e1, e2]

theorem take_length_of_le {buf : Bytes} {pos rem : Nat} (h : pos + rem ≤ buf.length) :
    ((buf.drop pos).take rem).length = rem := by
  rw [List.length_take, List.length_drop]; omega

theorem rdataF_copy (buf : Bytes) {f : Field} (fs : List Field) {k : Nat} (pos rem : Nat) (hk : k ≤ rem)
    (hf : Copies f (buf.drop pos) k) : DnsRef.rdataF buf (f :: fs) pos rem =
      (DnsRef.rdataF buf fs (pos + k) (rem - k)).map ((buf.drop pos).take k ++ ·) := by
  rcases hf with rfl | ⟨rfl, c, t, hb, rfl⟩ <;> simp only [DnsRef.rdataF, Nat.not_lt.mpr hk, if_false]
  rw [hb]
  simp only [Nat.not_lt.mpr hk, if_false]

/-- `.fixed` and `.cstr` arrive as the one case `copy`, through `Copies` (Lemmas/C25) -/
theorem rdataF_induct {buf : Bytes} {P : List Field → Nat → Nat → Bytes → Prop}
    (nil : ∀ pos rem, P [] pos rem ((buf.drop pos).take rem))
    (name : ∀ fs pos rem ls n d, DnsRef.name buf pos = some (ls, n) → n ≤ rem → pos + rem ≤ buf.length →
      P fs (pos + n) (rem - n) d → P (.name :: fs) pos rem (wire ls ++ [0] ++ d))
    (copy : ∀ f fs k pos rem d, Copies f (buf.drop pos) k → k ≤ rem → pos + rem ≤ buf.length →
      P fs (pos + k) (rem - k) d → P (f :: fs) pos rem ((buf.drop pos).take k ++ d)) :
    ∀ L pos rem d, DnsRef.rdataF buf L pos rem = some d → pos + rem ≤ buf.length → P L pos rem d := by
  intro L pos rem
  fun_induction DnsRef.rdataF buf L pos rem with
  | case1 pos rem => intro d h _; cases h; exact nil pos rem
  | case4 fs pos rem ls n hn hrem ih =>
    intro d h hle
    obtain ⟨d', hd, rfl⟩ := Option.map_eq_some_iff.mp h
    exact name fs pos rem ls n d' hn (Nat.le_of_not_lt hrem) hle (ih d' hd (by omega))
  | case6 k fs pos rem hk ih =>
    intro d h hle
    obtain ⟨d', hd, rfl⟩ := Option.map_eq_some_iff.mp h
    exact copy _ fs k pos rem d' (Or.inl rfl) (Nat.le_of_not_lt hk) hle (ih d' hd (by omega))
  | case9 fs pos rem c tl hb k hk ih =>
    intro d h hle
    obtain ⟨d', hd, rfl⟩ := Option.map_eq_some_iff.mp h
    exact copy _ fs k pos rem d' (Or.inr ⟨rfl, c, tl, hb, rfl⟩) (Nat.le_of_not_lt hk) hle (ih d' hd (by omega))
  | _ => intro d h; cases h

theorem nameField_agrees {buf : Bytes} {pos rem n : Nat} {ls : List Bytes} (hn : DnsRef.name buf pos = some (ls, n))
    (hrem : n ≤ rem) : nameField buf ((buf.drop pos).take rem) pos = .done (wire ls ++ [0]) n := by
  revert rem
  refine name_induct (P := fun pos ls n => ∀ {rem}, n ≤ rem → nameField buf ((buf.drop pos).take rem) pos = .done (wire ls ++ [0]) n)
    ?_ ?_ pos ls n hn
  · intro pos raws n hs _ rem hrem
    rw [nameField_eq, scanRaw_take hs hrem]
  · intro pos raws n t ls2 m2 hs ht hn2 _ _ rem hrem
    rw [nameField_eq, scanRaw_take hs hrem]
    simp only
    obtain ⟨h2, hsc⟩ := scanRaw_ptr_pos _ _ _ _ hs
    have hq : buf.drop (pos + n - 2) = (buf.drop pos).drop (n - 2) := by
      rw [List.drop_drop]; congr 1; omega
    have hex : expandName buf (pos + n - 2) [] = some (wire ls2 ++ [0]) := by
      rw [expandName_fresh (by simp), hq, hsc]
      simp only
      rw [expandName_agrees buf t ls2 m2 hn2 [pos + n - 2] (by intro k hk; simp at hk; omega)]
      simp [wire]
    rw [hex]; simp [wire_append]

theorem walk_agrees (buf : Bytes) : ∀ (L : List Field) (pos rem : Nat) (d : Bytes),
    DnsRef.rdataF buf L pos rem = some d → pos + rem ≤ buf.length →
    walk buf L ((buf.drop pos).take rem) pos = some d := by
  refine rdataF_induct (fun _ _ => rfl) ?_ ?_
  · intro fs pos rem ls n d hn hrem _ ih
    simp only [walk, nameField_agrees hn hrem, List.drop_take, List.drop_drop, ih]
    simp
  · intro f fs k pos rem d hf hk hle ih
    have htake : ((buf.drop pos).take rem).take k = (buf.drop pos).take k := by rw [List.take_take, Nat.min_eq_left hk]
    rw [walk_copy buf fs pos (by rw [take_length_of_le hle]; exact hk) (hf.of_take htake), List.drop_take, List.drop_drop, ih, htake]
    rfl

/-- (A2) on every record the specification reads, the decoder computes the specification's canonical RDATA, or gives up
    because that is too long for the 16-bit length field of the re-encoding -/
theorem rrData_ref {buf : Bytes} {pos len ty : Nat} {d : Bytes} (h : DnsRef.rdata buf pos len ty = some d)
    (hle : pos + len ≤ buf.length) (hlen : len < 65536) :
    rrData buf pos len ty = if 65535 < d.length then none else some d := by
  unfold DnsRef.rdata at h
  unfold rrData
  rw [layout_agrees]
  cases hL : DnsRef.layout ty with
  | none =>
    simp only [hL, Option.some.injEq] at h ⊢
    have : ¬ 65535 < d.length := by rw [← h, take_length_of_le hle]; omega
    rw [if_neg this, h]
  | some L => simp only [hL] at h ⊢; rw [walk_agrees buf L pos len d h hle]

/-! ### canonical RDATA reads back as itself -/

/-- what (B) of Lemmas/C26Msg needs of record data: `pack` writes it at another position of another buffer, and there the
    specification must read it unchanged -/
def CanonRdata (ty : Nat) (d : Bytes) : Prop :=
  ∀ (buf2 : Bytes) (pos2 : Nat) (rest : Bytes), buf2.drop pos2 = d ++ rest → DnsRef.rdata buf2 pos2 d.length ty = some d

theorem refName_wire {buf : Bytes} {off : Nat} {ls : List Bytes} {rest : Bytes}
    (h : buf.drop off = wire ls ++ 0 :: rest) (hok : LabelsOk ls) :
    DnsRef.name buf off = some (ls, (wire ls).length + 1) := by
  rw [name_unfold, h, scanRaw_wire ls rest hok]

theorem rdataF_canon (buf : Bytes) : ∀ (L : List Field) (pos rem : Nat) (d : Bytes),
    DnsRef.rdataF buf L pos rem = some d → pos + rem ≤ buf.length →
    ∀ (buf2 : Bytes) (pos2 : Nat) (rest : Bytes), buf2.drop pos2 = d ++ rest →
    DnsRef.rdataF buf2 L pos2 d.length = some d := by
  refine rdataF_induct ?_ ?_ ?_
  · intro pos rem buf2 pos2 rest hb
    simp only [DnsRef.rdataF]
    rw [hb, List.take_left]
  · intro fs pos rem ls n d hn _ _ ih buf2 pos2 rest hb
    have hok := name_labels_ok buf pos ls n hn
    have hb' : buf2.drop pos2 = wire ls ++ 0 :: (d ++ rest) := by simpa using hb
    have hnext : buf2.drop (pos2 + ((wire ls).length + 1)) = d ++ rest := by
      have := drop_of_drop_append (a := wire ls ++ [0]) (b := d ++ rest) (by simpa using hb)
      simpa using this
    simp only [DnsRef.rdataF, refName_wire hb' hok]
    have hlen : ¬ (wire ls ++ (0 :: d)).length < (wire ls).length + 1 := by simp
    have hsub : (wire ls ++ (0 :: d)).length - ((wire ls).length + 1) = d.length := by simp; omega
    simp only [List.append_assoc, List.singleton_append, hlen, if_false, hsub]
    rw [ih buf2 _ rest hnext]
    simp
  · intro f fs k pos rem d hf hk hle ih buf2 pos2 rest hb
    have hcl : ((buf.drop pos).take k).length = k := take_length_of_le (by omega)
    rw [List.append_assoc] at hb
    have htake : (buf2.drop pos2).take k = (buf.drop pos).take k := by rw [hb]; exact List.take_left' hcl
    have hnext : buf2.drop (pos2 + k) = d ++ rest := by have := drop_of_drop_append hb; rwa [hcl] at this
    rw [rdataF_copy buf2 fs pos2 _ (by simp [hcl]) (hf.of_take htake),
      List.length_append, hcl, Nat.add_sub_cancel_left, ih buf2 _ rest hnext, htake]
    rfl

theorem rdata_canon {buf : Bytes} {pos len ty : Nat} {d : Bytes} (h : DnsRef.rdata buf pos len ty = some d)
    (hle : pos + len ≤ buf.length) : CanonRdata ty d := by
  intro buf2 pos2 rest hb
  unfold DnsRef.rdata at h ⊢
  cases hL : DnsRef.layout ty with
  | none => simp [hL] at h ⊢; rw [hb, List.take_left]
  | some L =>
    simp only [hL] at h ⊢
    exact rdataF_canon buf L pos len d h hle buf2 pos2 rest hb

/-! ### the specification's canonical RDATA is `rdataPlain` -/

theorem rdataF_plain (buf : Bytes) : ∀ (L : List Field) (pos rem : Nat) (d : Bytes),
    DnsRef.rdataF buf L pos rem = some d → pos + rem ≤ buf.length → plainWalk L d = true := by
  refine rdataF_induct (fun _ _ => rfl) ?_ ?_
  · intro fs pos rem ls n d hn _ _ ih
    rw [plainWalk_wire fs d (name_labels_ok buf pos ls n hn)]
    exact ih
  · intro f fs k pos rem d hf hk hle ih
    rw [plainWalk_copied fs d (by rw [List.length_drop]; omega) hf]
    exact ih

theorem rdata_plain {buf : Bytes} {pos len ty : Nat} {d : Bytes} (h : DnsRef.rdata buf pos len ty = some d)
    (hle : pos + len ≤ buf.length) : rdataPlain ty d = true := by
  unfold DnsRef.rdata at h
  unfold rdataPlain
  rw [layout_agrees]
  cases hL : DnsRef.layout ty with
  | none => rfl
  | some L => simp only [hL] at h ⊢; exact rdataF_plain buf L pos len d h hle

end MitmVerif.C26
