/-
  C34 — the one-byte `split`s and the `join`s of `Model/C34.lean` are `splitSep` and `joinBy` of `Lemmas/Split.lean`.
-/
import MitmVerif.Model.C34
import MitmVerif.Lemmas.Split
namespace MitmVerif.C34

theorem splitSlash_eq (a : Str) : splitSlash a = splitSep 47 a := by
  induction a with
  | nil => rfl
  | cons c r ih => rw [splitSlash, ih, splitSep]; cases splitSep 47 r <;> rfl

theorem splitAmp_eq (s : Str) : splitAmp s = splitSep 38 s := by
  induction s with
  | nil => rfl
  | cons c r ih => rw [splitAmp, ih, splitSep]; cases splitSep 38 r <;> rfl

theorem joinSlash_eq (qs : List Str) : joinSlash qs = joinBy [47] qs := by
  fun_induction joinSlash qs with
  | case1 | case2 => rfl
  | case3 x r h ih => rw [ih, joinBy_cons _ _ h, List.append_assoc]; rfl

theorem joinSep_eq (ps : List Str) : joinSep ps = joinBy [59, 32] ps := by
  fun_induction joinSep ps with
  | case1 | case2 => rfl
  | case3 x r h ih => rw [ih, joinBy_cons _ _ h, List.append_assoc]; rfl

theorem joinCRLF_eq (ls : List Bytes) : joinCRLF ls = joinBy [13, 10] ls := by
  fun_induction joinCRLF ls with
  | case1 | case2 => rfl
  | case3 x r h ih => rw [ih, joinBy_cons _ _ h, List.append_assoc]; rfl

end MitmVerif.C34
