/-
  Lemmas for C06: the reference reader `Ref` applied to what `assembleRequestHead` / `assembleResponseHead` write.
  A head is read back line by line (`head_read`); the framing the reader derives from fields that announce their body
  (`Announced`); a whole request and a whole response (`ref_parse_assembled`, `ref_parse_resp_assembled`).  With them
  the decimal numbers both sides write and read (`natDec`, `parseDec`, three-digit status codes).
-/
import MitmVerif.Model.C06
import MitmVerif.Lemmas.Split
import MitmVerif.Lemmas.Strip
import MitmVerif.Lemmas.Decimal
namespace MitmVerif.C06
open MitmVerif

theorem splitAtLF_append (l rest : Bytes) (h : ∀ c ∈ l, c ≠ 10) :
    Ref.splitAtLF (l ++ 10 :: rest) = some (l, rest) := by
  induction l <;> simp_all [Ref.splitAtLF]

theorem lineOf_cr (l : Bytes) (h : ∀ c ∈ l, c ≠ 13) : Ref.lineOf (l ++ [13]) = some l := by
  simpa [Ref.lineOf] using fun hm => h 13 hm rfl

def clean (b : Bytes) : Prop := ∀ c ∈ b, c ≠ 10 ∧ c ≠ 13

theorem clean_append {a b : Bytes} (ha : clean a) (hb : clean b) : clean (a ++ b) := by
  intro c hc
  rcases List.mem_append.mp hc with h | h
  · exact ha c h
  · exact hb c h

/-- a request line or status line: three parts, a space between them -/
theorem clean_spaced {a b c : Bytes} (ha : clean a) (hb : clean b) (hc : clean c) :
    clean (a ++ [32] ++ b ++ [32] ++ c) :=
  have h32 : clean ([32] : Bytes) := by unfold clean; decide
  clean_append (clean_append (clean_append (clean_append ha h32) hb) h32) hc

theorem clean_http11 : clean sHttp11 := by unfold clean; decide

theorem headLines_step (f : Nat) (l rest : Bytes) (hl : clean l) (hne : l ≠ []) :
    Ref.headLines (f + 1) (l ++ crlf ++ rest) =
      (match Ref.headLines f rest with
       | some (ls, r) => some (l :: ls, r)
       | none => none) := by
  have e : l ++ crlf ++ rest = (l ++ [13]) ++ 10 :: rest := by simp [crlf]
  have hsplit : Ref.splitAtLF ((l ++ [13]) ++ 10 :: rest) = some (l ++ [13], rest) := by
    apply splitAtLF_append
    intro c hc
    rcases List.mem_append.mp hc with h | h
    · exact (hl c h).1
    · simp at h; subst h; decide
  have hline : Ref.lineOf (l ++ [13]) = some l := lineOf_cr l (fun c hc => (hl c hc).2)
  rw [e]
  conv => lhs; unfold Ref.headLines
  simp only [hsplit, hline]
  cases l with
  | nil => exact absurd rfl hne
  | cons c cs => rfl

theorem headLines_end (f : Nat) (rest : Bytes) : Ref.headLines (f + 1) (crlf ++ rest) = some ([], rest) := by
  simp [Ref.headLines, crlf, Ref.splitAtLF, Ref.lineOf]

theorem headLines_fieldLines (lines : List Bytes) (rest : Bytes) (f : Nat)
    (hcl : ∀ l ∈ lines, clean l ∧ l ≠ []) (hf : lines.length < f) :
    Ref.headLines f (lines.flatMap (· ++ crlf) ++ crlf ++ rest) = some (lines, rest) := by
  induction lines generalizing f with
  | nil =>
    cases f with
    | zero => simp at hf
    | succ f => simpa using headLines_end f rest
  | cons l ls ih =>
    cases f with
    | zero => simp at hf
    | succ f =>
      have h1 := hcl l (by simp)
      have e : (l :: ls).flatMap (· ++ crlf) ++ crlf ++ rest = l ++ crlf ++ (ls.flatMap (· ++ crlf) ++ crlf ++ rest) := by
        simp [List.flatMap_cons, List.append_assoc]
      rw [e, headLines_step f l _ h1.1 h1.2]
      have := ih f (fun x hx => hcl x (by simp [hx])) (by simp at hf; omega)
      rw [this]

theorem splitOn_eq (sep : UInt8) (l : Bytes) : splitOn sep l = splitSep sep l := by
  induction l with
  | nil => rfl
  | cons c r ih => rw [splitOn, ih, splitSep]; cases splitSep sep r <;> rfl

theorem joinWith_eq (sep : Bytes) (ps : List Bytes) : joinWith sep ps = joinBy sep ps := by
  fun_induction joinWith sep ps with
  | case1 | case2 => rfl
  | case3 x xs h ih => rw [ih, joinBy_cons _ _ h]

theorem lineWs_false (c : UInt8) (h : isLineWs c = false) :
    c ≠ 32 ∧ c ≠ 10 ∧ c ≠ 13 ∧ Ref.badTargetByte c = false := by
  simp [isLineWs, isPyWs] at h
  simp [Ref.badTargetByte, h]

theorem requestLine_parse (m p : Bytes) (hm : ∀ c ∈ m, isLineWs c = false) (hp : ∀ c ∈ p, isLineWs c = false)
    (hmne : m ≠ []) (hpne : p ≠ []) :
    Ref.parseRequestLine (m ++ [32] ++ p ++ [32] ++ sHttp11) = some (m, p, sHttp11) := by
  have hs : splitOn 32 (m ++ [32] ++ p ++ [32] ++ sHttp11) = [m, p, sHttp11] := by
    have e : m ++ [32] ++ p ++ [32] ++ sHttp11 = m ++ 32 :: (p ++ 32 :: sHttp11) := by simp
    rw [e, splitOn_eq, splitSep_append_sep fun h => (lineWs_false _ (hm _ h)).1 rfl,
      splitSep_append_sep fun h => (lineWs_false _ (hp _ h)).1 rfl, splitSep_no_sep (by decide)]
  have hbad : ∀ x : Bytes, (∀ c ∈ x, isLineWs c = false) → x.any Ref.badTargetByte = false :=
    fun x hx => List.any_eq_false.mpr fun c hc => by simp [(lineWs_false c (hx c hc)).2.2.2]
  have hv : Ref.isVersion sHttp11 = true := by decide
  unfold Ref.parseRequestLine
  rw [hs]
  simp [hmne, hpne, hv, hbad m hm, hbad p hp]

theorem statusLine_parse (a b c : UInt8) (ha : isDigit a = true) (hb : isDigit b = true) (hc : isDigit c = true)
    (rsn : Bytes) :
    Ref.parseStatusLine (sHttp11 ++ [32] ++ [a, b, c] ++ [32] ++ rsn)
      = some (sHttp11, decVal a * 100 + decVal b * 10 + decVal c, joinWith [32] (splitOn 32 rsn)) := by
  have hd32 : 32 ∉ [a, b, c] := by
    intro hq
    have hqd : isDigit 32 = true := by
      simp at hq
      rcases hq with rfl | rfl | rfl <;> assumption
    revert hqd; decide
  have e : sHttp11 ++ [32] ++ [a, b, c] ++ [32] ++ rsn = sHttp11 ++ 32 :: ([a, b, c] ++ 32 :: rsn) := by simp
  have hv : Ref.isVersion sHttp11 = true := by decide
  unfold Ref.parseStatusLine
  rw [e, splitOn_eq, splitOn_eq, splitSep_append_sep (by decide), splitSep_append_sep hd32]
  cases hr : splitSep 32 rsn with
  | nil => exact absurd hr (splitSep_ne_nil 32 rsn)
  | cons p1 prest => simp [hv, ha, hb, hc]

theorem tokenByte_ne (c : UInt8) (h : isTokenByte c = true) : c ≠ 58 ∧ c ≠ 10 ∧ c ≠ 13 := by
  refine ⟨?_, ?_, ?_⟩ <;> (rintro rfl; revert h; decide)

theorem token_clean (n : Bytes) (h : isToken n = true) : clean n := by
  intro c hc
  simp [isToken] at h
  exact (tokenByte_ne c (h.2 c hc)).2

theorem token_ne_nil (n : Bytes) (h : isToken n = true) : n ≠ [] := by
  rintro rfl; simp [isToken] at h

theorem fieldLine_parse (n v : Bytes) (hn : isToken n = true) (hv : ∀ c ∈ v, c ≠ 0) :
    Ref.parseFieldLine (n ++ colonSp ++ v) = some (n, stripOws v) := by
  have hcolon : ∀ c ∈ n, (c != 58) = true := by
    intro c hc
    simp [isToken] at hn
    simpa using (tokenByte_ne c (hn.2 c hc)).1
  have e : n ++ colonSp ++ v = n ++ 58 :: (32 :: v) := by simp [colonSp]
  have h0 : 0 ∉ v := fun h => hv 0 h rfl
  unfold Ref.parseFieldLine
  rw [e, List.takeWhile_append_of_pos hcolon, List.dropWhile_append_of_pos hcolon]
  simp [hn, h0, show stripOws (32 :: v) = stripOws v from trim_cons_ws rfl v]

/-- what the reference reader makes of a field written by `fieldLine` -/
def readBack (f : Field) : Field := (f.1, stripOws f.2)

theorem parseFields_lines (fs : List Field) (h : ∀ f ∈ fs, isToken f.1 = true ∧ ∀ c ∈ f.2, c ≠ 0) :
    Ref.parseFields (fs.map fun f => f.1 ++ colonSp ++ f.2) = some (fs.map readBack) := by
  induction fs with
  | nil => simp [Ref.parseFields]
  | cons f rest ih =>
    have h1 := h f (by simp)
    have := ih (fun x hx => h x (by simp [hx]))
    simp only [List.map_cons, Ref.parseFields]
    rw [fieldLine_parse f.1 f.2 h1.1 h1.2, this]
    rfl

theorem fieldLines_eq (fs : List Field) :
    fieldLines fs = (fs.map fun f => f.1 ++ colonSp ++ f.2).flatMap (· ++ crlf) := by
  simp only [fieldLines, List.flatMap_map]
  congr

theorem lines_length_le (lines : List Bytes) : lines.length ≤ (lines.flatMap (· ++ crlf)).length := by
  induction lines with
  | nil => simp
  | cons l ls ih => simp [crlf] at ih ⊢; omega

def fieldClean (f : Field) : Prop := isToken f.1 = true ∧ ∀ c ∈ f.2, c ≠ 0 ∧ c ≠ 10 ∧ c ≠ 13

theorem head_read (first : Bytes) (fs : List Field) (rest : Bytes) (hfirst : clean first) (hne : first ≠ [])
    (hfs : ∀ f ∈ fs, fieldClean f) :
    (first ++ crlf ++ fieldLines fs ++ crlf ++ rest).isEmpty = false ∧
    ∃ ls, Ref.headLines ((first ++ crlf ++ fieldLines fs ++ crlf ++ rest).length + 1)
            (first ++ crlf ++ fieldLines fs ++ crlf ++ rest) = some (first :: ls, rest)
      ∧ Ref.parseFields ls = some (fs.map readBack) := by
  let flines := fs.map fun f => f.1 ++ colonSp ++ f.2
  have hbytes : first ++ crlf ++ fieldLines fs ++ crlf ++ rest
      = (first :: flines).flatMap (· ++ crlf) ++ crlf ++ rest := by
    simp [fieldLines_eq, flines, List.flatMap_cons, List.append_assoc]
  have hlines : ∀ l ∈ first :: flines, clean l ∧ l ≠ [] := by
    intro l hl
    rcases List.mem_cons.mp hl with h | h
    · subst h; exact ⟨hfirst, hne⟩
    · rcases List.mem_map.mp h with ⟨f, hf, rfl⟩
      have hc := hfs f hf
      have hcs : clean colonSp := by unfold clean; decide
      exact ⟨clean_append (clean_append (token_clean f.1 hc.1) hcs) (fun c hcm => (hc.2 c hcm).2),
        by simp [token_ne_nil f.1 hc.1]⟩
  have hlen : (first :: flines).length < ((first :: flines).flatMap (· ++ crlf) ++ crlf ++ rest).length + 1 := by
    have := lines_length_le (first :: flines)
    simp only [List.length_append]
    omega
  rw [hbytes]
  exact ⟨by cases first <;> simp_all, flines, headLines_fieldLines _ rest _ hlines hlen,
    parseFields_lines fs fun f hf => ⟨(hfs f hf).1, fun c hc => ((hfs f hf).2 c hc).1⟩⟩

theorem digit_table : ∀ n : Fin 10, isDigit (UInt8.ofNat (48 + n.val)) = true ∧ decVal (UInt8.ofNat (48 + n.val)) = n.val
    ∧ isPyWs (UInt8.ofNat (48 + n.val)) = false ∧ isOws (UInt8.ofNat (48 + n.val)) = false
    ∧ UInt8.ofNat (48 + n.val) ≠ 44 := by decide

theorem digit_cases (c : UInt8) (h : isDigit c = true) : ∃ n : Fin 10, c = UInt8.ofNat (48 + n.val) := by
  have : 48 ≤ c.toNat ∧ c.toNat ≤ 57 := by simpa [isDigit] using h
  exact ⟨⟨c.toNat - 48, by omega⟩, by simp [show 48 + (c.toNat - 48) = c.toNat by omega]⟩

theorem natDigits_eq (f n : Nat) : natDigits f n = (digitsF f n).map fun d => UInt8.ofNat (48 + d) := by
  fun_induction natDigits f n with
  | case1 => rfl
  | case2 f n h => rw [digitsF, if_pos h]; rfl
  | case3 f n h ih => rw [digitsF, if_neg h, ih, List.map_append]; rfl

theorem natDec_eq (n : Nat) : natDec n = (digits n).map fun d => UInt8.ofNat (48 + d) :=
  natDigits_eq (n + 1) n

theorem foldl_decStep_digits (ds : List Nat) (h : ∀ d ∈ ds, d < 10) (a : Nat) :
    (ds.map fun d => UInt8.ofNat (48 + d)).foldl Ref.decStep (some a) = some (ofDigits a ds) := by
  induction ds generalizing a with
  | nil => rfl
  | cons d ds ih =>
    have t := digit_table ⟨d, h d List.mem_cons_self⟩
    rw [List.map_cons, List.foldl_cons, Ref.decStep, if_pos t.1, t.2.1, ih fun x hx => h x (List.mem_cons_of_mem _ hx)]
    rfl

theorem natDec_digits (n : Nat) : ∀ c ∈ natDec n, isDigit c = true := by
  rw [natDec_eq]
  intro c hc
  obtain ⟨d, hd, rfl⟩ := List.mem_map.mp hc
  exact (digit_table ⟨d, digits_lt n d hd⟩).1

theorem parseDec_natDec (n : Nat) : Ref.parseDec (natDec n) = some n := by
  rw [Ref.parseDec, natDec_eq, foldl_decStep_digits _ (digits_lt n), ofDigits_zero_digits]
  simp [digits_ne_nil]

theorem natDec_three (n : Nat) (h1 : 100 ≤ n) (h2 : n < 1000) :
    natDec n = [UInt8.ofNat (48 + n / 100), UInt8.ofNat (48 + n / 10 % 10), UInt8.ofNat (48 + n % 10)] := by
  rw [natDec_eq, digits_three n h1 h2]
  rfl

theorem natDec_of_digits (a b c : UInt8) (ha : isDigit a = true) (hb : isDigit b = true) (hc : isDigit c = true)
    (hne : a ≠ 48) :
    natDec (decVal a * 100 + decVal b * 10 + decVal c) = [a, b, c] ∧
      100 ≤ decVal a * 100 + decVal b * 10 + decVal c ∧ decVal a * 100 + decVal b * 10 + decVal c ≤ 999 := by
  obtain ⟨x, rfl⟩ := digit_cases a ha
  obtain ⟨y, rfl⟩ := digit_cases b hb
  obtain ⟨z, rfl⟩ := digit_cases c hc
  rw [(digit_table x).2.1, (digit_table y).2.1, (digit_table z).2.1]
  have hx : x.val ≠ 0 := fun h0 => hne (by rw [h0]; rfl)
  have e1 : (x.val * 100 + y.val * 10 + z.val) / 100 = x.val := by omega
  have e2 : (x.val * 100 + y.val * 10 + z.val) / 10 % 10 = y.val := by omega
  have e3 : (x.val * 100 + y.val * 10 + z.val) % 10 = z.val := by omega
  refine ⟨?_, by omega, by omega⟩
  rw [natDec_three _ (by omega) (by omega), e1, e2, e3]

theorem natDec_three_digits (n : Nat) (h : 100 ≤ n ∧ n ≤ 999) :
    ∃ a b c, natDec n = [a, b, c] ∧ isDigit a = true ∧ isDigit b = true ∧ isDigit c = true ∧ a ≠ 48 ∧
      decVal a * 100 + decVal b * 10 + decVal c = n := by
  have dx := digit_table ⟨n / 100, by omega⟩
  have dy := digit_table ⟨n / 10 % 10, by omega⟩
  have dz := digit_table ⟨n % 10, by omega⟩
  dsimp only at dx dy dz
  refine ⟨_, _, _, natDec_three n h.1 (by omega), dx.1, dy.1, dz.1, ?_, ?_⟩
  · intro e
    have := dx.2.1
    rw [e] at this
    have h0 : decVal 48 = 0 := rfl
    omega
  · rw [dx.2.1, dy.2.1, dz.2.1]; omega

theorem statusLine_natDec (st : Nat) (hst : 100 ≤ st ∧ st ≤ 999) (rsn : Bytes) :
    Ref.parseStatusLine (sHttp11 ++ [32] ++ natDec st ++ [32] ++ rsn)
      = some (sHttp11, st, joinWith [32] (splitOn 32 rsn)) := by
  obtain ⟨a, b, c, hdec, ha, hb, hc, _, hval⟩ := natDec_three_digits st hst
  rw [hdec, statusLine_parse a b c ha hb hc, hval]

theorem filter_readBack (n : Bytes) (fs : List Field) :
    (fs.map readBack).filter (nameIs n) = (fs.filter (nameIs n)).map readBack := by
  induction fs with
  | nil => rfl
  | cons f rest ih =>
    have : nameIs n (readBack f) = nameIs n f := rfl
    cases h : nameIs n f <;> simp [this, h, ih]

theorem digit_not_ws (c : UInt8) (h : isDigit c = true) : isPyWs c = false ∧ isOws c = false ∧ c ≠ 44 := by
  obtain ⟨n, rfl⟩ := digit_cases c h
  exact (digit_table n).2.2

theorem pyStrip_digits (v : Bytes) (hd : ∀ c ∈ v, isDigit c = true) : pyStrip v = v :=
  trim_all_false fun c hc => (digit_not_ws c (hd c hc)).1

theorem digits_item (v : Bytes) (hd : ∀ c ∈ v, isDigit c = true) :
    ([v].flatMap (splitOn 44)).map stripOws = [v] ∧ stripOws v = v := by
  have hs : stripOws v = v := trim_all_false fun c hc => (digit_not_ws c (hd c hc)).2.1
  simp [splitOn_eq, splitSep_no_sep fun h => (digit_not_ws _ (hd _ h)).2.2 rfl, hs]

theorem hasName_iff (n : Bytes) (fs : List Field) : hasName n fs = !(fs.filter (nameIs n)).isEmpty := by
  induction fs with
  | nil => rfl
  | cons f rest ih => cases h : nameIs n f <;> simp_all [hasName]

/-- What `validate_headers` leaves of the framing fields of a message that is not HTTP/1.1, once the sender's
    Content-Length is known to be right: no Transfer-Encoding, and at most one Content-Length, the decimal number `len`. -/
def Announced (fs : List Field) (len : Nat) : Prop :=
  fs.filter (nameIs sTE) = [] ∧
    (fs.filter (nameIs sCL) = [] ∨
     ∃ g, fs.filter (nameIs sCL) = [g] ∧ (∀ c ∈ g.2, isDigit c = true) ∧ Ref.parseDec g.2 = some len)

theorem Announced.framing {fs : List Field} {len : Nat} (h : Announced fs len) :
    Ref.framing sHttp11 (fs.map readBack) = some (if hasName sCL fs then .cl len else .none) := by
  obtain ⟨hte, hcl | ⟨g, hcl, hd, hn⟩⟩ := h
  · simp [Ref.framing, filter_readBack, hasName_iff, hte, hcl]
  · have hi := digits_item g.2 hd
    unfold Ref.framing
    simp only [filter_readBack, hasName_iff, hte, hcl, List.map_cons, List.map_nil, readBack, hi.2, hi.1]
    simp [hn]

/-- `hb`: a request is never close-delimited, so without a Content-Length the reader takes no body -/
theorem ref_parse_assembled (m p : Bytes) (fs : List Field) (body : Bytes)
    (hm : ∀ c ∈ m, isLineWs c = false) (hp : ∀ c ∈ p, isLineWs c = false) (hmne : m ≠ []) (hpne : p ≠ [])
    (hfs : ∀ f ∈ fs, fieldClean f) (ha : Announced fs body.length) (hb : hasName sCL fs = false → body = []) :
    Ref.parse (assembleRequestHead m p sHttp11 fs ++ body)
      = some [⟨m, p, sHttp11, fs.map readBack, body⟩] := by
  have hws : ∀ x : Bytes, (∀ c ∈ x, isLineWs c = false) → clean x :=
    fun x hx c hc => ⟨(lineWs_false c (hx c hc)).2.1, (lineWs_false c (hx c hc)).2.2.1⟩
  have hclean : clean (m ++ [32] ++ p ++ [32] ++ sHttp11) := clean_spaced (hws m hm) (hws p hp) clean_http11
  obtain ⟨hne, ls, hhead, hpf⟩ := head_read (m ++ [32] ++ p ++ [32] ++ sHttp11) fs body hclean (by simp [hmne]) hfs
  have hbytes : assembleRequestHead m p sHttp11 fs ++ body
      = m ++ [32] ++ p ++ [32] ++ sHttp11 ++ crlf ++ fieldLines fs ++ crlf ++ body := by
    simp [assembleRequestHead]
  have hrl := requestLine_parse m p hm hp hmne hpne
  unfold Ref.parse
  rw [hbytes]
  generalize m ++ [32] ++ p ++ [32] ++ sHttp11 ++ crlf ++ fieldLines fs ++ crlf ++ body = B at *
  unfold Ref.parseRequests
  simp only [hne, hhead, hrl, hpf, ha.framing]
  cases hc : hasName sCL fs with
  | false => obtain rfl := hb hc; simp [Ref.parseRequests]
  | true => simp [Ref.parseRequests]

/-- for a final response to a request that is no CONNECT the reference reader's "no body whatever the fields say"
    test is mitmproxy's `bodiless`; without a Content-Length the body ends with the connection -/
theorem Announced.framingResp {fs : List Field} {len : Nat} (h : Announced fs len) (st : Nat) (method : Bytes)
    (hfinal : 200 ≤ st) (hconn : (asciiUpper method == sConnect) = false) :
    Ref.framingResp sHttp11 st method (fs.map readBack) =
      some (if bodiless method st then .none else if hasName sCL fs then .cl len else .eof) := by
  have h1 : ¬ st ≤ 199 := by omega
  obtain ⟨hte, hcl | ⟨g, hcl, hd, hn⟩⟩ := h
  · unfold Ref.framingResp bodiless
    simp only [filter_readBack, hasName_iff, hte, hcl, hconn, h1, List.map_nil, List.isEmpty_nil, Bool.not_true,
      Bool.false_and, Bool.false_eq_true, if_false, if_true, decide_false, Bool.and_false, Bool.or_false]
    split <;> rfl
  · have hi := digits_item g.2 hd
    unfold Ref.framingResp bodiless
    simp only [filter_readBack, hasName_iff, hte, hcl, hconn, h1, readBack, hi.1, hi.2, hn, List.map_nil,
      List.isEmpty_nil, Bool.not_true, Bool.false_and, Bool.false_eq_true, if_false, List.isEmpty_cons, List.map_cons,
      List.all_nil, if_true, decide_false, Bool.and_false, Bool.or_false, Bool.not_false]
    split <;> rfl

/-- `heof`: a body that no Content-Length announces ends with the connection.  `200 ≤ st` and `hconn`: the response is final
    and opens no tunnel, so the reader's no-body test is mitmproxy's `bodiless` (`Announced.framingResp`) and the one method
    given is used up by this response. -/
theorem ref_parse_resp_assembled (st : Nat) (rsn method : Bytes) (fs : List Field) (body : Bytes) (eof : Bool)
    (hst : 200 ≤ st ∧ st ≤ 999) (hrsn : clean rsn) (hconn : (asciiUpper method == sConnect) = false)
    (hfs : ∀ f ∈ fs, fieldClean f) (ha : Announced fs body.length)
    (heof : bodiless method st = false → hasName sCL fs = false → eof = true) :
    Ref.parseResp eof [method] (assembleResponseHead sHttp11 st rsn fs ++ (if bodiless method st then [] else body))
      = some [⟨sHttp11, st, joinWith [32] (splitOn 32 rsn), fs.map readBack,
               if bodiless method st then [] else body⟩] := by
  have hnd : clean (natDec st) := by
    intro q hq
    have := natDec_digits st q hq
    constructor <;> (rintro rfl; revert this; decide)
  have hclean : clean (sHttp11 ++ [32] ++ natDec st ++ [32] ++ rsn) := clean_spaced clean_http11 hnd hrsn
  obtain ⟨hne, ls, hhead, hpf⟩ := head_read (sHttp11 ++ [32] ++ natDec st ++ [32] ++ rsn) fs
    (if bodiless method st then [] else body) hclean (by simp [sHttp11]) hfs
  have hbytes : assembleResponseHead sHttp11 st rsn fs ++ (if bodiless method st then [] else body)
      = sHttp11 ++ [32] ++ natDec st ++ [32] ++ rsn ++ crlf ++ fieldLines fs ++ crlf
          ++ (if bodiless method st then [] else body) := by
    simp [assembleResponseHead]
  have hsl := statusLine_natDec st ⟨by omega, hst.2⟩ rsn
  have hnot : ¬(100 ≤ st ∧ st ≤ 199 ∧ st ≠ 101) := by omega
  have h101 : ¬ st = 101 := by omega
  unfold Ref.parseResp
  rw [hbytes]
  generalize sHttp11 ++ [32] ++ natDec st ++ [32] ++ rsn ++ crlf ++ fieldLines fs ++ crlf
    ++ (if bodiless method st then [] else body) = B at hne hhead ⊢
  unfold Ref.parseResponses
  simp only [hne, hhead, hsl, hpf, List.headD_cons, ha.framingResp st method hst.1 hconn, hconn, hnot, decide_false,
    Bool.false_eq_true, if_false, List.drop_one, List.tail_cons, Bool.false_and, Bool.or_false, decide_eq_true_eq]
  have hemp : ∀ f e m, Ref.parseResponses (f + 1) e m [] = some [] := by
    intro f e m; simp [Ref.parseResponses]
  cases hB : bodiless method st with
  | true => simp [h101, hemp]
  | false =>
    cases hc : hasName sCL fs with
    | true => simp [h101, hemp]
    | false => simp [h101, hemp, heof hB hc]

end MitmVerif.C06
