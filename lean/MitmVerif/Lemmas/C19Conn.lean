/-
  C19 — the connection model of Model/C19.lean (`Sess`, `step`, `run`): the relay layer on one event and on a replay,
  the four outcomes of `_ask`, the invariant `Inv` along every event history, the first flight fed segment by segment
  (`session_asks`), and the invariant `Inv2` along the admissible histories (`AdmRun`).
-/
import MitmVerif.Lemmas.C19
namespace MitmVerif.C19
open MitmVerif

theorem recvFrom_append (b : Bool) (h1 h2 : List Ev) : recvFrom b (h1 ++ h2) = recvFrom b h1 ++ recvFrom b h2 := by
  induction h1 with
  | nil => rfl
  | cons e es ih =>
    cases e <;> cases b <;> simp [recvFrom, ih]

theorem recvFrom_dataC (segs : List Bytes) : recvFrom true (segs.map Ev.dataC) = segs.flatten := by
  induction segs with
  | nil => rfl
  | cons x xs ih => simp [recvFrom, ih]

theorem sentTo_append (b : Bool) (o1 o2 : List Out) : sentTo b (o1 ++ o2) = sentTo b o1 ++ sentTo b o2 := by
  induction o1 with
  | nil => rfl
  | cons o os ih =>
    cases o with
    | send t d => by_cases h : t = b <;> simp [sentTo, h, ih]
    | _ => simp [sentTo, ih]

theorem hooks_append (o1 o2 : List Out) : hooks (o1 ++ o2) = hooks o1 ++ hooks o2 := by
  induction o1 with
  | nil => rfl
  | cons o os ih => cases o <;> simp [hooks, ih]

/-- fields that the relay never touches -/
structure SameCfg (s t : Sess) : Prop where
  queue : t.queue = s.queue
  stack : t.stack = s.stack
  flow : t.flow = s.flow
  tcp : t.tcp = s.tcp

theorem relayEv_same (s : Sess) (e : Ev) : SameCfg s (relayEv s e) := by
  cases e with
  | closeC | closeS =>
    simp only [relayEv]
    split
    · split <;> exact ⟨rfl, rfl, rfl, rfl⟩
    · exact ⟨rfl, rfl, rfl, rfl⟩
  | _ => exact ⟨rfl, rfl, rfl, rfl⟩

theorem relayEv_tcp (s : Sess) (e : Ev) : (relayEv s e).tcp = s.tcp := (relayEv_same s e).tcp

theorem relayEv_spec (s : Sess) (e : Ev) (hp : s.phase = .relay) :
    ((relayEv s e).phase = .relay ∨ (relayEv s e).phase = .done) ∧
    (∀ b, sentTo b (relayEv s e).out = sentTo b s.out ++ recvFrom b [e]) ∧
    (s.flow = false → hooks (relayEv s e).out = hooks s.out) := by
  cases e with
  | dataC d | dataS d =>
    refine ⟨Or.inl (by simp [relayEv, Sess.emit, hp]), fun b => ?_, fun hf => ?_⟩
    · cases b <;> simp [relayEv, Sess.emit, sentTo_append, apply_ite (sentTo _), sentTo, recvFrom]
    · simp [relayEv, Sess.emit, hooks_append, hooks, hf]
  | closeC | closeS =>
    -- whichever branch is taken, only close commands and, with a flow, the end hook are emitted
    simp only [relayEv]
    split
    · split <;> exact ⟨by simp [Sess.emit, hp],
        fun b => by simp [Sess.emit, sentTo_append, apply_ite (sentTo b), sentTo, recvFrom],
        fun hf => by simp [Sess.emit, hooks_append, apply_ite hooks, hooks, hf]⟩
    · exact ⟨Or.inr rfl,
        fun b => by simp [Sess.emit, sentTo_append, apply_ite (sentTo b), sentTo, recvFrom],
        fun hf => by simp [Sess.emit, hooks_append, hooks, hf]⟩
  | connOk | connErr => exact ⟨Or.inl hp, fun b => by simp [relayEv, recvFrom], fun _ => rfl⟩

/-- a relay layer that is not relaying (finished, or not yet connected) takes no event -/
theorem relayAll_stop (s : Sess) (evs : List Ev) (h : s.phase ≠ .relay) : relayAll s evs = s := by
  cases evs with
  | nil => rfl
  | cons e es => rw [relayAll, if_neg h]

theorem relayAll_same (s : Sess) (evs : List Ev) : SameCfg s (relayAll s evs) := by
  induction evs generalizing s with
  | nil => exact ⟨rfl, rfl, rfl, rfl⟩
  | cons e es ih =>
    have h := relayEv_same s e
    have h' := ih (relayEv s e)
    rw [relayAll]
    split
    · exact ⟨h'.queue.trans h.queue, h'.stack.trans h.stack, h'.flow.trans h.flow, h'.tcp.trans h.tcp⟩
    · exact ⟨rfl, rfl, rfl, rfl⟩

theorem relayAll_cfg (s : Sess) (q : List Ev) (hp : s.phase = .relay) :
    (relayAll s q).tcp = s.tcp := (relayAll_same s q).tcp

/-- under which the replay of buffered events cannot finish the relay: over TCP one side can still be read (EOFs were
    noted on arrival, the replay leaves `canRead` alone until it finishes), or no close is among the events -/
def Guard (s : Sess) (q : List Ev) : Prop :=
  (s.tcp = true ∧ (s.client.canRead = true ∨ s.server.canRead = true)) ∨ (Ev.closeC ∉ q ∧ Ev.closeS ∉ q)

theorem relayEv_guard (s : Sess) (e : Ev) (q : List Ev) (hp : s.phase = .relay) (hg : Guard s (e :: q)) :
    (relayEv s e).phase = .relay ∧ Guard (relayEv s e) q := by
  have tail : ∀ x, x ∉ e :: q → x ∉ q := fun x h h' => h (List.mem_cons_of_mem _ h')
  cases e with
  | dataC d | dataS d | connOk | connErr => exact ⟨hp, hg.imp id (And.imp (tail _) (tail _))⟩
  | closeC | closeS =>
    -- an EOF with the other side still readable is passed on as a half-close, which leaves `canRead` alone
    rcases hg with ⟨ht, hr⟩ | hn
    · have : (!s.client.canRead && !s.server.canRead) = false := by rcases hr with h | h <;> simp [h]
      simp only [relayEv, ht, if_true, this, Bool.false_eq_true, if_false]
      exact ⟨hp, Or.inl ⟨ht, hr⟩⟩
    · simp at hn

/-- a guarded replay never finishes the relay: every buffered event is handed on -/
theorem relayAll_guard (s : Sess) (q : List Ev) (hp : s.phase = .relay) (hg : Guard s q) :
    (relayAll s q).phase = .relay := by
  induction q generalizing s with
  | nil => simpa [relayAll] using hp
  | cons e es ih =>
    simp only [relayAll, hp, if_true]
    obtain ⟨h1, h2⟩ := relayEv_guard s e es hp hg
    exact ih _ h1 h2

/-- the relay finishes only when nothing can be read any more -/
theorem relayEv_done (s : Sess) (e : Ev) (hp : s.phase = .relay) (hd : (relayEv s e).phase = .done)
    (hc : e = .closeC → s.tcp = false → s.client.canRead = false)
    (hs : e = .closeS → s.tcp = false → s.server.canRead = false) :
    (relayEv s e).client.canRead = false ∧ (relayEv s e).server.canRead = false := by
  cases e with
  | dataC d | dataS d | connOk | connErr => simp [relayEv, Sess.emit, hp] at hd
  | closeC | closeS =>
    cases ht : s.tcp with
    | true =>
      -- over TCP the relay finishes on the test that neither side can be read, and marks both closed
      simp only [relayEv, ht, if_true] at hd ⊢
      split at hd
      · rename_i h; simp [h]
      · simp [Sess.emit, hp] at hd
    | false =>
      -- over UDP it closes the other side; the side that ended was marked on arrival
      simp [relayEv, ht, Sess.emit, hc, hs]

/-- the relay layer's `start`: the stack is recorded and, with a flow, the start hook runs -/
def started (s : Sess) (st : List LK) (ig : Bool) : Sess :=
  { s with stack := st, flow := !ig, out := s.out ++ if !ig then [Out.hook 0] else [] }

theorem started_out (s : Sess) (st : List LK) (ig : Bool) (hout : s.out = []) :
    (∀ b, sentTo b (started s st ig).out = []) ∧ ((!ig) = false → hooks (started s st ig).out = []) := by
  cases ig <;> simp [started, hout, sentTo, hooks]

/-- the four ways `_ask` can come out: still waiting; a relay layer as the whole stack, with the server connected (what was
    buffered is replayed at once) or not (it waits behind the connect); another stack -/
theorem askNL_cases {Pat : Type} (E : Env Pat) (c : NCfg Pat) (s : Sess) (P : Sess → Prop)
    (hwait : nextLayer E c s.dc s.ds = .needMore → P s)
    (hrelay : ∀ st ig, nextLayer E c s.dc s.ds = .ok st → st = [LK.tcp ig] ∨ st = [LK.udp ig] → s.connected = true →
      P (relayAll { started s st ig with phase := .relay, queue := [] } s.queue))
    (hconn : ∀ st ig, nextLayer E c s.dc s.ds = .ok st → st = [LK.tcp ig] ∨ st = [LK.udp ig] → s.connected = false →
      P { started s st ig with phase := .connecting, out := (started s st ig).out ++ [.openServer] })
    (hother : ∀ st, nextLayer E c s.dc s.ds = .ok st → (∀ ig, st ≠ [LK.tcp ig] ∧ st ≠ [LK.udp ig]) →
      P { s with phase := .intercepted, stack := st }) :
    P (askNL E c s) := by
  have start : ∀ st ig, nextLayer E c s.dc s.ds = .ok st → st = [LK.tcp ig] ∨ st = [LK.udp ig] →
      P (startRelay { s with stack := st, flow := !ig } s.queue) := fun st ig hn hst => by
    cases hc : s.connected with
    | true => simpa [startRelay, Sess.emit, started, hc] using hrelay st ig hn hst hc
    | false => simpa [startRelay, Sess.emit, started, hc] using hconn st ig hn hst hc
  unfold askNL
  cases hn : nextLayer E c s.dc s.ds with
  | needMore => exact hwait hn
  | ok st =>
    simp only
    split
    · exact start _ _ hn (Or.inl rfl)
    · exact start _ _ hn (Or.inr rfl)
    · rename_i h1 h2
      exact hother st hn (fun ig => ⟨h1 ig, h2 ig⟩)

/-- the relay layer is the whole stack (`flow`: it was created with `ignore = False`), and without a flow no hook ran -/
def RelayOnly (s : Sess) : Prop :=
  (∃ ig, (s.stack = [LK.tcp ig] ∨ s.stack = [LK.udp ig]) ∧ s.flow = !ig) ∧ (s.flow = false → hooks s.out = [])

theorem RelayOnly.of_same {s t : Sess} (h : RelayOnly s) (hstack : t.stack = s.stack) (hflow : t.flow = s.flow)
    (hk : s.flow = false → hooks t.out = hooks s.out) : RelayOnly t := by
  obtain ⟨⟨ig, hs, hf⟩, hh⟩ := h
  refine ⟨⟨ig, by rw [hstack]; exact hs, by rw [hflow]; exact hf⟩, fun hf' => ?_⟩
  rw [hflow] at hf'
  rw [hk hf', hh hf']

/-- nothing invented, altered, reordered or duplicated: what was sent is a prefix of what arrived -/
def SentPrefix (s : Sess) (hist : List Ev) : Prop := ∀ b, sentTo b s.out <+: recvFrom b hist

theorem SentPrefix.of_nil {s : Sess} {hist : List Ev} (h : ∀ b, sentTo b s.out = []) : SentPrefix s hist :=
  fun b => h b ▸ List.nil_prefix

theorem SentPrefix.later {s : Sess} {hist : List Ev} (h : SentPrefix s hist) (evs : List Ev) :
    SentPrefix s (hist ++ evs) :=
  fun b => (h b).trans (recvFrom_append b hist evs ▸ List.prefix_append _ _)

/-- where the bytes received along `hist` are, phase by phase: still queued in order (undecided, connecting), all sent
    (relay), or sent up to a prefix (done: a finished relay swallows what comes later); in the other phases nothing was
    sent. Holds along EVERY history; what needs an admissible environment is `Inv2`. -/
def Inv (s : Sess) (hist : List Ev) : Prop :=
  match s.phase with
  | .undecided => s.out = [] ∧ s.stack = [] ∧ (∀ b, recvFrom b s.queue = recvFrom b hist) ∧
      s.dc = recvFrom true hist ∧ s.ds = recvFrom false hist
  | .connecting => RelayOnly s ∧ ∀ b, sentTo b s.out = [] ∧ recvFrom b s.queue = recvFrom b hist
  | .relay => RelayOnly s ∧ ∀ b, sentTo b s.out = recvFrom b hist
  | .done => RelayOnly s ∧ SentPrefix s hist
  | .failed => RelayOnly s ∧ ∀ b, sentTo b s.out = []
  | .intercepted => (∀ ig, s.stack ≠ [LK.tcp ig] ∧ s.stack ≠ [LK.udp ig]) ∧ ∀ b, sentTo b s.out = []
  | .aborted => s.stack = [] ∧ ∀ b, sentTo b s.out = []

/-- for EVERY history, admissible or not, and whatever phase it ends in -/
theorem Inv.sentPrefix {s : Sess} {hist : List Ev} (h : Inv s hist) : SentPrefix s hist := by
  unfold Inv at h
  cases hp : s.phase <;> rw [hp] at h
  · exact .of_nil (fun b => by rw [h.1]; rfl)
  · exact .of_nil h.2
  · exact .of_nil h.2
  · exact .of_nil (fun b => (h.2 b).1)
  · exact fun b => h.2 b ▸ List.prefix_refl _
  · exact h.2
  · exact .of_nil h.2

/-- a replay by a relay layer that has accounted for everything but `q`: what it hands on is sent, and if it finishes
    on the way the rest is swallowed -/
theorem relayAll_inv (s : Sess) (q hist : List Ev) (hp : s.phase = .relay) (hst : RelayOnly s)
    (h : ∀ b, sentTo b s.out ++ recvFrom b q = recvFrom b hist) : Inv (relayAll s q) hist := by
  induction q generalizing s with
  | nil =>
    unfold Inv; rw [relayAll, hp]
    exact ⟨hst, fun b => by simpa [recvFrom] using h b⟩
  | cons e es ih =>
    simp only [relayAll, hp, if_true]
    obtain ⟨hph, hsent, hhook⟩ := relayEv_spec s e hp
    have hro := hst.of_same (relayEv_same s e).stack (relayEv_same s e).flow hhook
    have h' : ∀ b, sentTo b (relayEv s e).out ++ recvFrom b es = recvFrom b hist := fun b => by
      rw [hsent b, List.append_assoc, ← recvFrom_append]; exact h b
    rcases hph with hph | hph
    · exact ih _ hph hro h'
    · rw [relayAll_stop _ es (by rw [hph]; nofun)]
      unfold Inv; rw [hph]
      exact ⟨hro, fun b => ⟨_, h' b⟩⟩

theorem askNL_inv {Pat : Type} (E : Env Pat) (c : NCfg Pat) (s : Sess) (hist : List Ev)
    (hp : s.phase = .undecided) (hI : Inv s hist) : Inv (askNL E c s) hist := by
  have hI' := hI
  unfold Inv at hI'
  rw [hp] at hI'
  obtain ⟨hout, hstk, hq, hdc, hds⟩ := hI'
  refine askNL_cases E c s (Inv · hist) (fun _ => hI) ?_ ?_ ?_
  · intro st ig _ hst _
    obtain ⟨hsent, hhook⟩ := started_out s st ig hout
    exact relayAll_inv _ _ _ rfl ⟨⟨ig, hst, rfl⟩, hhook⟩ (fun b => by rw [hsent b, hq b]; rfl)
  · intro st ig _ hst _
    obtain ⟨hsent, hhook⟩ := started_out s st ig hout
    unfold Inv
    exact ⟨⟨⟨ig, hst, rfl⟩, fun hf => by simp [hooks_append, hhook hf, hooks]⟩,
      fun b => ⟨by simp [sentTo_append, hsent b, sentTo], hq b⟩⟩
  · intro st _ h
    unfold Inv
    exact ⟨h, fun b => by show sentTo b s.out = []; rw [hout]; rfl⟩

theorem step_inv {Pat : Type} (E : Env Pat) (c : NCfg Pat) (s : Sess) (hist : List Ev) (e : Ev)
    (hI : Inv s hist) : Inv (step E c s e) (hist ++ [e]) := by
  -- the invariant does not look at the two connection states, which is all that `noteEv` changes
  have hn : Inv (noteEv s e) hist := by cases e <;> exact hI
  unfold step
  generalize noteEv s e = n at hn ⊢
  simp only
  unfold Inv at hn
  cases hp : n.phase <;> rw [hp] at hn
  case undecided =>
    obtain ⟨hout, hstk, hq, hdc, hds⟩ := hn
    cases e with
    | dataC d | dataS d =>
      apply askNL_inv E c _ _ rfl
      unfold Inv; simp only
      exact ⟨hout, hstk, fun b => by simp [recvFrom_append, recvFrom, hq b], by simp [recvFrom_append, recvFrom, hdc],
        by simp [recvFrom_append, recvFrom, hds]⟩
    | closeC =>
      unfold Inv; simp only [Sess.emit, hout]
      exact ⟨hstk, fun b => by simp [sentTo]⟩
    | closeS | connOk | connErr =>
      unfold Inv; simp only [hp]
      exact ⟨hout, hstk, fun b => by simp [recvFrom_append, recvFrom, hq b], by simp [recvFrom_append, recvFrom, hdc],
        by simp [recvFrom_append, recvFrom, hds]⟩
  case connecting =>
    obtain ⟨hro, hq⟩ := hn
    cases e with
    | connOk =>
      refine relayAll_inv _ _ _ rfl hro (fun b => ?_)
      simp only
      rw [(hq b).1, (hq b).2, recvFrom_append]
      simp [recvFrom]
    | connErr =>
      unfold Inv RelayOnly
      simp only [Sess.emit]
      refine ⟨⟨hro.1, fun hf => ?_⟩, fun b => ?_⟩
      · rw [hooks_append, hro.2 hf]
        cases n.client.closed <;> simp [hf, hooks]
      · rw [sentTo_append, (hq b).1]
        cases n.client.closed <;> cases n.flow <;> simp [sentTo]
    | dataC d | dataS d | closeC | closeS =>
      unfold Inv; simp only
      refine ⟨hro, fun b => ⟨(hq b).1, ?_⟩⟩
      rw [recvFrom_append, recvFrom_append, (hq b).2]
  case relay =>
    -- one event at the relay layer is the replay of a queue of one
    have := relayAll_inv n [e] (hist ++ [e]) hp hn.1 (fun b => by rw [hn.2 b, recvFrom_append])
    simpa [relayAll, hp] using this
  case done =>
    unfold Inv; simp only [hp]
    exact ⟨hn.1, hn.2.later [e]⟩
  case failed | intercepted | aborted =>
    unfold Inv; simp only [hp]
    exact hn

theorem run_inv {Pat : Type} (E : Env Pat) (c : NCfg Pat) (s : Sess) (hist evs : List Ev)
    (hI : Inv s hist) : Inv (run E c s evs) (hist ++ evs) := by
  induction evs generalizing s hist with
  | nil => simpa [run] using hI
  | cons e es ih =>
    have := ih (step E c s e) (hist ++ [e]) (step_inv E c s hist e hI)
    simpa [run, List.append_assoc] using this

theorem init_inv (tcp connected : Bool) : Inv (Sess.init tcp connected) [] := by
  unfold Inv Sess.init
  simp [recvFrom]

/-! ## the first flight through the connection model: the session decides exactly where `_next_layer` answers -/

/-- a stack has been instantiated and nothing has ended the connection -/
def Decided (s : Sess) : Prop := s.phase = .relay ∨ s.phase = .connecting ∨ s.phase = .intercepted

theorem not_mem_snoc {q : List Ev} {e x : Ev} (h : x ∉ q) (hx : x ≠ e) : x ∉ q ++ [e] := by
  simpa [h] using hx

/-- after the decision more client data changes neither the stack nor the kind of phase -/
theorem step_dataC_decided {Pat : Type} (E : Env Pat) (c : NCfg Pat) (s : Sess) (d : Bytes) (hp : Decided s) :
    (step E c s (.dataC d)).stack = s.stack ∧ Decided (step E c s (.dataC d)) := by
  rcases hp with hp | hp | hp <;> simp [Decided, step, noteEv, hp, relayEv, Sess.emit]

theorem run_dataC_decided {Pat : Type} (E : Env Pat) (c : NCfg Pat) (s : Sess) (segs : List Bytes) (hp : Decided s) :
    (run E c s (segs.map Ev.dataC)).stack = s.stack ∧ Decided (run E c s (segs.map Ev.dataC)) := by
  induction segs generalizing s with
  | nil => exact ⟨rfl, hp⟩
  | cons d ds ih =>
    obtain ⟨h1, h2⟩ := step_dataC_decided E c s d hp
    have := ih (step E c s (.dataC d)) h2
    simp only [List.map_cons, run, List.foldl_cons] at this ⊢
    exact ⟨this.1.trans h1, this.2⟩

/-- one `_ask` with no close buffered: it waits exactly where `_next_layer` does, and else instantiates that stack -/
theorem askNL_first {Pat : Type} (E : Env Pat) (c : NCfg Pat) (s : Sess)
    (hq : Ev.closeC ∉ s.queue ∧ Ev.closeS ∉ s.queue) :
    match nextLayer E c s.dc s.ds with
    | .needMore => askNL E c s = s
    | .ok st => (askNL E c s).stack = st ∧ Decided (askNL E c s) := by
  refine askNL_cases E c s (fun t => match nextLayer E c s.dc s.ds with
    | .needMore => t = s
    | .ok st => t.stack = st ∧ Decided t) ?_ ?_ ?_ ?_
  · intro hn; rw [hn]
  · intro st ig hn _ _; rw [hn]
    exact ⟨(relayAll_same _ s.queue).stack, Or.inl (relayAll_guard _ s.queue rfl (Or.inr hq))⟩
  · intro st ig hn _ _; rw [hn]
    exact ⟨rfl, Or.inr (Or.inl rfl)⟩
  · intro st hn _; rw [hn]
    exact ⟨rfl, Or.inr (Or.inr rfl)⟩

/-- **the session asks like `askSegs`**: feeding the first flight segment by segment, the connection model stays undecided
    exactly as long as `_next_layer` says NeedsMoreData on the accumulated bytes, and then instantiates exactly the stack
    `_next_layer` returns there -/
theorem session_asks {Pat : Type} (E : Env Pat) (c : NCfg Pat) (s0 : Sess) (segs : List Bytes)
    (hp : s0.phase = .undecided) (hds : s0.ds = []) (hq : Ev.closeC ∉ s0.queue ∧ Ev.closeS ∉ s0.queue) :
    match askSegs (fun d => nextLayer E c d []) s0.dc segs with
    | .needMore => (run E c s0 (segs.map Ev.dataC)).phase = .undecided ∧
        (run E c s0 (segs.map Ev.dataC)).dc = s0.dc ++ segs.flatten
    | .ok st => (run E c s0 (segs.map Ev.dataC)).stack = st ∧ Decided (run E c s0 (segs.map Ev.dataC)) := by
  induction segs generalizing s0 with
  | nil => simp [askSegs, run, hp]
  | cons d ds ih =>
    simp only [askSegs, List.map_cons, run, List.foldl_cons, List.flatten_cons]
    have hstep : step E c s0 (.dataC d)
        = askNL E c { s0 with queue := s0.queue ++ [Ev.dataC d], dc := s0.dc ++ d } := by
      simp [step, noteEv, hp]
    have hq1 : Ev.closeC ∉ s0.queue ++ [Ev.dataC d] ∧ Ev.closeS ∉ s0.queue ++ [Ev.dataC d] :=
      ⟨not_mem_snoc hq.1 nofun, not_mem_snoc hq.2 nofun⟩
    have hask := askNL_first E c { s0 with queue := s0.queue ++ [Ev.dataC d], dc := s0.dc ++ d } hq1
    have hn' : nextLayer E c (s0.dc ++ d) s0.ds = nextLayer E c (s0.dc ++ d) [] := by rw [hds]
    simp only [hn'] at hask
    rw [hstep]
    cases hn : nextLayer E c (s0.dc ++ d) [] with
    | needMore =>
      rw [hn] at hask
      have := ih { s0 with queue := s0.queue ++ [Ev.dataC d], dc := s0.dc ++ d } hp hds hq1
      simp only [run] at this
      rw [hask]
      simpa [List.append_assoc] using this
    | ok st =>
      rw [hn] at hask
      -- the rest of the flight leaves the stack alone
      obtain ⟨h1, h2⟩ := run_dataC_decided E c _ ds hask.2
      exact ⟨h1.trans hask.1, h2⟩

/-- what the environment (server.py's read loops) can deliver in state `s`: data and EOF only from a connection that is
    still readable, a connect result only while one is awaited. For UDP, an association that ends before the relay is
    active leaves nowhere to relay to (`UDPLayer.done` swallows later datagrams, code and model alike): such histories
    are outside the stream-equality theorem. -/
def Adm (s : Sess) : Ev → Prop
  | .dataC _ => s.client.canRead = true
  | .dataS _ => s.server.canRead = true
  | .closeC => s.client.canRead = true ∧ (s.tcp = true ∨ s.phase ≠ .connecting)
  | .closeS => s.server.canRead = true ∧ (s.tcp = true ∨ s.phase ≠ .undecided)
  | .connOk => s.phase = .connecting
  | .connErr => s.phase = .connecting

def AdmRun {Pat : Type} (E : Env Pat) (c : NCfg Pat) : Sess → List Ev → Prop
  | _, [] => True
  | s, e :: es => Adm s e ∧ AdmRun E c (step E c s e) es

theorem noteEv_same (s : Sess) (e : Ev) :
    (noteEv s e).phase = s.phase ∧ (noteEv s e).out = s.out ∧ (noteEv s e).queue = s.queue ∧
    (noteEv s e).connected = s.connected ∧ (noteEv s e).tcp = s.tcp := by
  cases e <;> simp [noteEv]

/-- the part of the invariant that needs admissibility -/
def Inv2 (s : Sess) (hist : List Ev) : Prop :=
  match s.phase with
  | .undecided => s.client.canRead = true ∧ (s.connected = false → s.server.canRead = false) ∧
      (s.tcp = false → Ev.closeC ∉ s.queue ∧ Ev.closeS ∉ s.queue)
  | .connecting => s.server.canRead = false ∧ (s.tcp = false → Ev.closeC ∉ s.queue ∧ Ev.closeS ∉ s.queue)
  | .done => s.client.canRead = false ∧ s.server.canRead = false ∧ ∀ b, sentTo b s.out = recvFrom b hist
  | _ => True

theorem inv2_of_relay (t : Sess) (hist : List Ev) (h : t.phase = .relay) : Inv2 t hist := by
  unfold Inv2; rw [h]; trivial

theorem askNL_inv2 {Pat : Type} (E : Env Pat) (c : NCfg Pat) (s : Sess) (hist : List Ev)
    (hp : s.phase = .undecided) (h2 : Inv2 s hist) : Inv2 (askNL E c s) hist := by
  have h2' := h2
  unfold Inv2 at h2'; rw [hp] at h2'
  obtain ⟨hcr, hconn, hudp⟩ := h2'
  refine askNL_cases E c s (Inv2 · hist) (fun _ => h2) ?_ ?_ ?_
  · intro st ig _ _ _
    apply inv2_of_relay
    apply relayAll_guard _ _ rfl
    cases ht : s.tcp with
    | true => exact Or.inl ⟨ht, Or.inl hcr⟩
    | false => exact Or.inr (hudp ht)
  · intro st ig _ _ hc
    exact ⟨hconn hc, hudp⟩
  · intro st _ _
    unfold Inv2; trivial

theorem step_inv2 {Pat : Type} (E : Env Pat) (c : NCfg Pat) (s : Sess) (hist : List Ev) (e : Ev)
    (hI : Inv s hist) (h2 : Inv2 s hist) (ha : Adm s e) : Inv2 (step E c s e) (hist ++ [e]) := by
  obtain ⟨nph, nout, nq, nconn, ntcp⟩ := noteEv_same s e
  unfold step
  simp only [nph]
  cases hp : s.phase with
  | undecided =>
    unfold Inv2 at h2; rw [hp] at h2
    obtain ⟨hcr, hconn, hudp⟩ := h2
    cases e with
    | dataC d | dataS d =>
      apply askNL_inv2 E c _ _ rfl
      unfold Inv2; simp only [nq, nconn, ntcp]
      exact ⟨hcr, hconn, fun h => ⟨not_mem_snoc (hudp h).1 nofun, not_mem_snoc (hudp h).2 nofun⟩⟩
    | closeC => unfold Inv2; trivial
    | closeS =>
      -- over UDP a server that closes before the decision is outside the admissible histories
      have ht : s.tcp = true := ha.2.resolve_right (fun h => h hp)
      unfold Inv2; simp only [nq, nconn, ntcp]
      exact ⟨hcr, fun _ => by simp [noteEv, ht], fun h => by rw [ht] at h; cases h⟩
    | connOk | connErr => simp only [Adm, hp] at ha; cases ha
  | connecting =>
    unfold Inv2 at h2; rw [hp] at h2
    obtain ⟨hsr, hudp⟩ := h2
    cases e with
    | connOk =>
      simp only
      apply inv2_of_relay
      apply relayAll_guard _ _ rfl
      rw [nq]
      cases ht : s.tcp with
      | true => exact Or.inl ⟨by rw [← ht]; exact ntcp, Or.inr rfl⟩
      | false => exact Or.inr (hudp ht)
    | connErr => unfold Inv2; trivial
    | dataC d =>
      unfold Inv2; simp only [nq, ntcp]
      exact ⟨hsr, fun h => ⟨not_mem_snoc (hudp h).1 nofun, not_mem_snoc (hudp h).2 nofun⟩⟩
    | closeC =>
      have ht : s.tcp = true := ha.2.resolve_right (fun h => h hp)
      unfold Inv2; simp only [nq, ntcp]
      exact ⟨hsr, fun h => by rw [ht] at h; cases h⟩
    | dataS d | closeS =>
      -- nothing is read from a server that is not connected yet
      simp [Adm, hsr] at ha
  | relay =>
    simp only
    unfold MitmVerif.C19.Inv at hI; rw [hp] at hI
    obtain ⟨_, hs⟩ := hI
    obtain ⟨h1, h3, _⟩ := relayEv_spec (noteEv s e) e (by rw [nph, hp])
    rcases h1 with h1 | h1
    · unfold Inv2; rw [h1]; trivial
    · have hd := relayEv_done (noteEv s e) e (by rw [nph, hp]) h1
        (by intro he ht; subst he; rw [ntcp] at ht; simp [noteEv, ht])
        (by intro he ht; subst he; rw [ntcp] at ht; simp [noteEv, ht])
      unfold Inv2; rw [h1]
      refine ⟨hd.1, hd.2, ?_⟩
      intro b
      rw [h3 b, nout, hs b, recvFrom_append]
  | done =>
    unfold Inv2 at h2; rw [hp] at h2
    obtain ⟨hc, hsv, hs⟩ := h2
    -- nothing can arrive any more
    cases e <;> simp [Adm, hc, hsv, hp] at ha
  | failed | intercepted | aborted => unfold Inv2; simp only [nph, hp]

theorem run_inv2 {Pat : Type} (E : Env Pat) (c : NCfg Pat) (s : Sess) (hist evs : List Ev)
    (hI : Inv s hist) (h2 : Inv2 s hist) (ha : AdmRun E c s evs) :
    Inv (run E c s evs) (hist ++ evs) ∧ Inv2 (run E c s evs) (hist ++ evs) := by
  induction evs generalizing s hist with
  | nil => simpa [run] using ⟨hI, h2⟩
  | cons e es ih =>
    obtain ⟨ha1, ha2⟩ := ha
    have := ih (step E c s e) (hist ++ [e]) (step_inv E c s hist e hI) (step_inv2 E c s hist e hI h2 ha1) ha2
    simpa [run, List.append_assoc] using this

theorem init_inv2 (tcp connected : Bool) : Inv2 (Sess.init tcp connected) [] := by
  unfold Inv2 Sess.init
  simp

end MitmVerif.C19
