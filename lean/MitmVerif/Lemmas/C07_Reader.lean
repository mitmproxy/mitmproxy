/-
  C07 — the body readers (`stepByte` / `feed`) read once: an item that ends the message leaves the reader stopped
  (`feed_stops`), and one chunk frame of the writers is read back as its bytes and a chunk boundary (`feed_chunk`).
-/
import MitmVerif.Model.C07_Reader
import MitmVerif.Model.C07_Writer
import MitmVerif.Lemmas.C01_Roundtrip
namespace MitmVerif.C07
open MitmVerif

/-- an item that ends the message: its end, a protocol error, a trailer section -/
def hasEnd : List Item → Bool
  | [] => false
  | .byte _ :: r => hasEnd r
  | .cut :: r => hasEnd r
  | _ :: _ => true

theorem feed_stop (seg : Bytes) : feed .stop seg = (.stop, []) := by
  induction seg with
  | nil => rfl
  | cons c cs ih => simp [feed, stepByte, ih]

def Stops (r : RSt × List Item) : Prop := hasEnd r.2 = true → r.1 = .stop

theorem stops_ite {c : Prop} [Decidable c] {a b : RSt × List Item} (ha : Stops a) (hb : Stops b) :
    Stops (if c then a else b) := by
  split
  · exact ha
  · exact hb

/-- the proof follows the branches of `stepByte`: each ends in `stop`, or emits nothing, or emits only body bytes -/
theorem stepByte_stops (s : RSt) (c : UInt8) : Stops (stepByte s c) := by
  have no : ∀ s : RSt, Stops (s, []) := fun _ h => nomatch h
  have yes : ∀ l : List Item, Stops (.stop, l) := fun _ _ => rfl
  cases s with
  | cl rem => exact stops_ite (yes _) (fun h => nomatch h)
  | untilEof => exact fun h => nomatch h
  | data rem => exact stops_ite (fun h => nomatch h) (fun h => nomatch h)
  | dataEnd k => exact stops_ite (stops_ite (no _) (yes _)) (stops_ite (no _) (yes _))
  | size l => exact stops_ite (stops_ite (yes _) (stops_ite (no _) (no _))) (stops_ite (no _) (no _))
  | trailer cr => exact stops_ite (stops_ite (yes _) (yes _)) (stops_ite (yes _) (stops_ite (no _) (yes _)))
  | stop => exact yes _

theorem hasEnd_append (a b : List Item) : hasEnd (a ++ b) = (hasEnd a || hasEnd b) := by
  induction a with
  | nil => simp [hasEnd]
  | cons x xs ih => cases x <;> simp [hasEnd, ih]

theorem feed_stops (s : RSt) (seg : Bytes) : Stops (feed s seg) := by
  induction seg generalizing s with
  | nil => exact fun h => nomatch h
  | cons c cs ih =>
    intro h
    simp only [feed, hasEnd_append, Bool.or_eq_true] at h ⊢
    rcases h with h | h
    · rw [stepByte_stops s c h, feed_stop]
    · exact ih _ h

/-- h11's hex digits are C01's, with the same values, and CR is none of them -/
theorem hexVal_of_isHex (c : UInt8) (h : C01.Ref.isHex c = true) :
    hexVal c = some (C01.Ref.hexVal c) ∧ c ≠ 0x0d := by
  simp only [C01.Ref.isHex, C01.isDigit, Bool.or_eq_true, Bool.and_eq_true, decide_eq_true_eq] at h
  refine ⟨?_, fun hc => by rw [hc] at h; revert h; decide⟩
  simp only [hexVal, C01.Ref.hexVal, C01.isDigit, Bool.and_eq_true, decide_eq_true_eq]
  rcases h with (h | h) | h
  · rw [if_pos h, if_pos h]
  · have h1 : ¬ (48 ≤ c.toNat ∧ c.toNat ≤ 57) := by omega
    have h2 : ¬ (97 ≤ c.toNat ∧ c.toNat ≤ 102) := by omega
    have h3 : ¬ c.toNat ≥ 97 := by omega
    rw [if_neg h1, if_neg h2, if_pos h, if_neg h1, if_neg h3]
  · have h1 : ¬ (48 ≤ c.toNat ∧ c.toNat ≤ 57) := by omega
    rw [if_neg h1, if_pos h, if_neg h1, if_pos h.1]

theorem stepByte_size_hex (c : UInt8) (hc : C01.Ref.isHex c = true) (k v : Nat) (hk : k < 20) :
    stepByte (.size { digits := k, value := v }) c =
      (.size { digits := k + 1, value := C01.hexStep v c }, []) := by
  obtain ⟨h1, h2⟩ := hexVal_of_isHex c hc
  have hnb : ¬ k + 1 > 20 := by omega
  simp [stepByte, sizeContent, h1, h2, hnb, C01.hexStep]

theorem feed_size_digits (ds : Bytes) (hd : ds.all C01.Ref.isHex = true) (k v : Nat) (rest : Bytes)
    (hk : k + ds.length ≤ 20) :
    feed (.size { digits := k, value := v }) (ds ++ rest) =
      feed (.size { digits := k + ds.length, value := ds.foldl C01.hexStep v }) rest := by
  induction ds generalizing k v with
  | nil => rfl
  | cons c cs ih =>
    simp only [List.all_cons, Bool.and_eq_true] at hd
    simp only [List.length_cons] at hk
    simp only [List.cons_append, feed, stepByte_size_hex c hd.1 k v (by omega), List.nil_append]
    rw [ih hd.2 _ _ (by omega), List.length_cons, List.foldl_cons, Nat.add_right_comm, Nat.add_assoc]

theorem feed_size_crlf (k v : Nat) (hk : k ≠ 0) (hv : v ≠ 0) (rest : Bytes) :
    feed (.size { digits := k, value := v }) (crlf ++ rest) = feed (.data v) rest := by
  simp [crlf, feed, stepByte, hk, hv]

theorem feed_last_chunk : feed (.size {}) [48, 13, 10, 13, 10] = (.stop, [.eom]) := by decide

theorem feed_data (d : Bytes) (hd : d ≠ []) (rest : Bytes) :
    feed (.data d.length) (d ++ rest) =
      ((feed (.dataEnd 0) rest).1, d.map Item.byte ++ Item.cut :: (feed (.dataEnd 0) rest).2) := by
  induction d with
  | nil => exact absurd rfl hd
  | cons c cs ih =>
    by_cases hcs : cs = []
    · subst hcs; simp [feed, stepByte]
    · have hl : ¬ (cs.length + 1 ≤ 1) := by
        have : 0 < cs.length := List.length_pos_iff.mpr hcs
        omega
      simp only [List.length_cons, List.cons_append, feed, stepByte, hl, if_false, Nat.add_sub_cancel]
      rw [ih hcs]
      simp

theorem feed_data_end (rest : Bytes) : feed (.dataEnd 0) (crlf ++ rest) = feed (.size {}) rest := by
  simp [crlf, feed, stepByte]

/-- `h20`: h11's `chunk_header` regex takes at most 20 hex digits (`sizeContent` sets `bad` at the 21st); `SizesOk` in
    Props/C07 -/
theorem feed_chunk (c : Bytes) (hc : c ≠ []) (h20 : (C01.hexDigits c.length).length ≤ 20) (rest : Bytes) :
    feed (.size {}) (frameData true c ++ rest) =
      ((feed (.size {}) rest).1, c.map Item.byte ++ Item.cut :: (feed (.size {}) rest).2) := by
  obtain ⟨hv, hall, hne⟩ := C01.hexDigits_spec c.length
  have hv : (C01.hexDigits c.length).foldl C01.hexStep 0 = c.length := hv
  have hlen := List.length_pos_iff.mpr hne
  have hpos := List.length_pos_iff.mpr hc
  simp only [frameData, hc, if_false, if_true, List.append_assoc]
  rw [feed_size_digits _ hall 0 0 _ (by omega), hv, feed_size_crlf _ _ (by omega) (by omega), feed_data c hc,
    feed_data_end]

end MitmVerif.C07
