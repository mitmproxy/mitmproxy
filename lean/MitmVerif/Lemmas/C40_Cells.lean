/-
  Lemmas for C40: objects as lists of references into a heap of cells.

  In all three layers of the model (the flow store of Model/C40.lean, the message objects of Model/C40_Obj.lean, the
  object graphs of Model/C40_Obj2.lean) an object owns a list `r` of addresses in a heap `c : Addr → C` with an
  allocation pointer `n`, and `get_state()` reads the heap through that list.  `Refs n r` is the well-formedness all
  three use.  `Moves c n r c' n' r'` is what any operation on one object guarantees about the cells; it composes
  (`Moves.trans`), so a history of operations is one operation, and it is all the frame rule needs (`Moves.frame`).
  The primitive operations `Moves.write`, `.rebind`, `.append` and `.alloc` come with the list that is read through the
  new references, `.sublist` only forgets references; every edit of every layer is one of them or two in a row.
-/
import MitmVerif.Model.C40
namespace MitmVerif.C40

variable {C : Type} {c c' c'' : Addr → C} {n n' n'' : Nat} {r r' r'' r2 : List Addr}

theorem upd_self (h : Addr → C) (a : Addr) (v : C) : upd h a v a = v := if_pos rfl
theorem upd_ne (h : Addr → C) {a x : Addr} (v : C) (hx : x ≠ a) : upd h a v x = h x := if_neg hx

theorem map_upd_not_mem (h : Addr → C) (ad : Addr) (v : C) (l : List Addr) (hn : ad ∉ l) :
    l.map (upd h ad v) = l.map h :=
  List.map_congr_left fun _ hx => upd_ne h v fun e => hn (e ▸ hx)

theorem map_upd_nodup (h : Addr → C) (v : C) :
    ∀ (l : List Addr) (j : Nat) (ad : Addr), l.Nodup → l[j]? = some ad →
      l.map (upd h ad v) = (l.map h).set j v := by
  intro l j ad hnd hj
  obtain ⟨hjl, rfl⟩ := List.getElem?_eq_some_iff.mp hj
  apply List.ext_getElem
  · rw [List.length_map, List.length_set, List.length_map]
  · intro i h1 h2
    rw [List.getElem_map, List.getElem_set]
    by_cases e : j = i
    · subst e
      rw [if_pos rfl, upd_self]
    · rw [if_neg e, List.getElem_map]
      exact upd_ne _ _ fun e' => e ((List.getElem_inj hnd).mp e').symm

theorem nodup_set_fresh : ∀ (l : List Addr) (j : Nat) (x : Addr), l.Nodup → x ∉ l → (l.set j x).Nodup := by
  intro l
  induction l with
  | nil => intro j x _ _; simp
  | cons y ys ih =>
    intro j x hnd hx
    rw [List.nodup_cons] at hnd
    simp at hx
    cases j with
    | zero => simp [List.nodup_cons]; exact ⟨hx.2, hnd.2⟩
    | succ j =>
      simp only [List.set_cons_succ, List.nodup_cons]
      refine ⟨?_, ih j x hnd.2 hx.2⟩
      intro hm
      rcases List.mem_or_eq_of_mem_set hm with h1 | h1
      · exact hnd.1 h1
      · exact hx.1 h1.symm

theorem alloc_content (h : Addr → C) (n : Addr) (vs : List C) :
    (List.range' n vs.length).map (allocHeap h n vs) = vs := by
  apply List.ext_getElem
  · rw [List.length_map, List.length_range']
  · intro i h1 h2
    rw [List.getElem_map, List.getElem_range', Nat.one_mul, allocHeap, if_pos (Nat.le_add_right n i),
      Nat.add_sub_cancel_left, List.getElem?_eq_getElem h2]
    rfl

theorem alloc_old (h : Addr → C) (n : Addr) (vs : List C) {x : Addr} (hx : x < n) :
    allocHeap h n vs x = h x := if_neg (Nat.not_le.mpr hx)

theorem getElem?_set_of_some {α : Type} {l : List α} {a : Nat} {x : α} (y : α) (h : l[a]? = some x) :
    (l.set a y)[a]? = some y :=
  have ⟨hlt, _⟩ := List.getElem?_eq_some_iff.mp h
  List.getElem?_set_self hlt

theorem set_map_of_none {α β : Type} {l : List α} {j : Nat} (f : α → β) (v : β) (h : l[j]? = none) :
    (l.map f).set j v = l.map f :=
  List.set_eq_of_length_le (Nat.le_trans (Nat.le_of_eq (List.length_map _)) (List.getElem?_eq_none_iff.mp h))


/-- the cells of an object in a heap with allocation pointer `n`: pairwise distinct and allocated -/
def Refs (n : Nat) (r : List Addr) : Prop := r.Nodup ∧ ∀ a ∈ r, a < n

theorem Refs.nil : Refs n [] := ⟨.nil, fun _ h => nomatch h⟩

theorem Refs.fresh (hr : Refs n r) : n ∉ r := fun hm => Nat.lt_irrefl _ (hr.2 _ hm)

/-- An operation took an object with cells `r`, in the heap `c` with allocation pointer `n`, to one with cells `r'`
    in the heap `c'` with pointer `n'`: the result is well formed, allocated cells outside `r` keep their content, and
    the cells of the result are cells of `r` or new (addresses from `n` on). -/
def Moves (c : Addr → C) (n : Nat) (r : List Addr) (c' : Addr → C) (n' : Nat) (r' : List Addr) : Prop :=
  Refs n' r' ∧ n ≤ n' ∧ (∀ a, a < n → a ∉ r → c' a = c a) ∧ ∀ a ∈ r', a ∈ r ∨ n ≤ a

namespace Moves

theorem wf (hm : Moves c n r c' n' r') : Refs n' r' := hm.1

/-- an object made from nothing consists of new cells -/
theorem fresh (hm : Moves c n [] c' n' r') : ∀ a ∈ r', n ≤ a := fun a ha => (hm.2.2.2 a ha).resolve_left nofun

theorem inPlace (hr : Refs n r) (h : ∀ a, a ∉ r → c' a = c a) : Moves c n r c' n r :=
  ⟨hr, Nat.le_refl _, fun a _ ha => h a ha, fun _ ha => Or.inl ha⟩

theorem refl (hr : Refs n r) : Moves c n r c n r := .inPlace hr fun _ _ => rfl

theorem trans (h1 : Moves c n r c' n' r') (h2 : Moves c' n' r' c'' n'' r'') : Moves c n r c'' n'' r'' := by
  obtain ⟨_, l1, k1, m1⟩ := h1
  obtain ⟨w2, l2, k2, m2⟩ := h2
  refine ⟨w2, Nat.le_trans l1 l2, fun a ha hn => ?_, fun a ha => (m2 a ha).elim (m1 a) fun h => Or.inr (Nat.le_trans l1 h)⟩
  -- a cell outside `r` below `n` is not in `r'` either, so the second operation keeps it as well
  rw [k2 a (Nat.lt_of_lt_of_le ha l1) fun hm => (m1 a hm).elim hn fun h => Nat.lt_irrefl _ (Nat.lt_of_lt_of_le ha h)]
  exact k1 a ha hn

/-- The frame rule.  The cells `r2` of an object sharing nothing with `r` are unchanged, still allocated, and the
    result shares nothing with them. -/
theorem frame (hm : Moves c n r c' n' r') (h2 : Refs n r2) (hd : ∀ a ∈ r, a ∉ r2) :
    (∀ a ∈ r2, c' a = c a) ∧ Refs n' r2 ∧ ∀ a ∈ r', a ∉ r2 := by
  obtain ⟨_, hl, hk, hm⟩ := hm
  refine ⟨fun a ha => hk a (h2.2 a ha) fun h1 => hd a h1 ha,
    ⟨h2.1, fun a ha => Nat.lt_of_lt_of_le (h2.2 a ha) hl⟩, fun a ha ha2 => ?_⟩
  exact (hm a ha).elim (fun h1 => hd a h1 ha2) fun h1 => Nat.lt_irrefl _ (Nat.lt_of_lt_of_le (h2.2 a ha2) h1)

/-- references are dropped (`pop`, `.trailers = None`); the cells stay allocated and keep their content -/
theorem sublist (hr : Refs n r) (hs : r'.Sublist r) : Moves c n r c n r' :=
  ⟨⟨hr.1.sublist hs, fun a ha => hr.2 a (hs.subset ha)⟩, Nat.le_refl _, fun _ _ _ => rfl,
    fun _ ha => Or.inl (hs.subset ha)⟩

theorem write (hr : Refs n r) {j : Nat} {ad : Addr} (hj : r[j]? = some ad) (v : C) :
    Moves c n r (upd c ad v) n r ∧ r.map (upd c ad v) = (r.map c).set j v :=
  ⟨.inPlace hr fun _ ha => upd_ne _ _ fun e => ha (e ▸ List.mem_iff_getElem?.mpr ⟨j, hj⟩),
    map_upd_nodup _ _ _ _ _ hr.1 hj⟩

theorem new (hr : Refs n r) (v : C) (hnd : r'.Nodup) (hm : ∀ a ∈ r', a ∈ r ∨ a = n) :
    Moves c n r (upd c n v) (n + 1) r' :=
  ⟨⟨hnd, fun a ha => (hm a ha).elim (fun h => Nat.lt_succ_of_lt (hr.2 a h)) fun h => h ▸ Nat.lt_succ_self _⟩,
    Nat.le_succ _, fun _ ha _ => upd_ne _ _ (Nat.ne_of_lt ha), fun a ha => (hm a ha).imp_right fun h => Nat.le_of_eq h.symm⟩

/-- reference `j` is pointed at a new cell (nothing happens to the list if there is no reference `j`) -/
theorem rebind (hr : Refs n r) (j : Nat) (v : C) :
    Moves c n r (upd c n v) (n + 1) (r.set j n) ∧ (r.set j n).map (upd c n v) = (r.map c).set j v :=
  ⟨.new hr v (nodup_set_fresh _ _ _ hr.1 hr.fresh) fun _ ha => List.mem_or_eq_of_mem_set ha,
    by rw [List.map_set, upd_self, map_upd_not_mem _ _ _ _ hr.fresh]⟩

theorem append (hr : Refs n r) (v : C) :
    Moves c n r (upd c n v) (n + 1) (r ++ [n]) ∧ (r ++ [n]).map (upd c n v) = r.map c ++ [v] :=
  ⟨.new hr v ((List.nodup_cons.mpr ⟨hr.fresh, hr.1⟩).perm (List.perm_append_singleton n r).symm)
      fun _ ha => (List.mem_append.mp ha).imp_right List.mem_singleton.mp,
    by rw [List.map_append, List.map_singleton, upd_self, map_upd_not_mem _ _ _ _ hr.fresh]⟩

/-- a whole new reference list: what `from_state` does -/
theorem alloc (vs : List C) :
    Moves c n r (allocHeap c n vs) (n + vs.length) (List.range' n vs.length) ∧
      (List.range' n vs.length).map (allocHeap c n vs) = vs :=
  ⟨⟨⟨List.nodup_range' 1, fun _ ha => (List.mem_range'_1.mp ha).2⟩, Nat.le_add_right _ _,
      fun _ ha _ => alloc_old _ _ _ ha, fun _ ha => Or.inr (List.mem_range'_1.mp ha).1⟩, alloc_content _ _ _⟩

end Moves

end MitmVerif.C40
