/-
  C09 — what can remain in transports when handle_client returns, WITHOUT the hypothesis on the layer: only entries
  of connections the layer asked for after handle_client had collected the transports to wait for (`late`).
  The hypothesis meant is `lateOpen = false` (no connection was asked for that late), which `no_transports_after_return`
  of Props/C09 carries; under it no task is marked (`flag`), and `fin2` / `ret2` say what `Inv.fin` / `Inv.ret` of
  Lemmas/C09 say.  The proof of preservation needs `Inv` of the state before the label (callback order, wait counter),
  so `Reach.late` carries both along.
-/
import MitmVerif.Lemmas.C09
namespace MitmVerif.C09

structure LateInv (s : St) : Prop where
  fin2 : s.hpc = .final → ∀ c ∈ s.conns, c.entry = true → c.late = false → hasWait c = true
  ret2 : s.hpc = .returned → ∀ c ∈ s.conns, c.entry = true → c.late = true
  flag : ∀ c ∈ s.conns, c.late = true → s.lateOpen = true

theorem init_late (n : Nat) : LateInv (init n) := by
  constructor <;> simp [init]

/-- the task states of `s'` come from those of `s` without touching `late`, without creating entries, and
    without losing asyncio.wait's callback on a task that still has its entry -/
def Refines (s s' : St) : Prop :=
  s'.hpc = s.hpc ∧ s'.lateOpen = s.lateOpen ∧ ∀ c' ∈ s'.conns, ∃ c ∈ s.conns, c'.late = c.late ∧ (c'.entry = true → c.entry = true) ∧
    (c'.entry = true → hasWait c = true → hasWait c' = true)

theorem Refines.rfl' (s : St) : Refines s s := ⟨rfl, rfl, fun c hc => ⟨c, hc, rfl, id, fun _ h => h⟩⟩

theorem Refines.trans {s s' s'' : St} (h1 : Refines s s') (h2 : Refines s' s'') : Refines s s'' := by
  refine ⟨h2.1.trans h1.1, h2.2.1.trans h1.2.1, ?_⟩
  intro c'' hc''
  obtain ⟨c', hc', a1, a2, a3⟩ := h2.2.2 c'' hc''
  obtain ⟨c, hc, b1, b2, b3⟩ := h1.2.2 c' hc'
  exact ⟨c, hc, a1.trans b1, fun h => b2 (a2 h), fun h hw => a3 h (b3 (a2 h) hw)⟩

theorem LateInv.refine {s s' : St} (hi : LateInv s) (hr : Refines s s') : LateInv s' := by
  constructor
  · intro hf c' hc' he hl
    obtain ⟨c, hc, a1, a2, a3⟩ := hr.2.2 c' hc'
    exact a3 he (hi.fin2 (hr.1 ▸ hf) c hc (a2 he) (a1 ▸ hl))
  · intro hf c' hc' he
    obtain ⟨c, hc, a1, a2, _⟩ := hr.2.2 c' hc'
    rw [a1]; exact hi.ret2 (hr.1 ▸ hf) c hc (a2 he)
  · intro c' hc' hl
    obtain ⟨c, hc, a1, _, _⟩ := hr.2.2 c' hc'
    rw [hr.2.1]; exact hi.flag c hc (a1 ▸ hl)

theorem Refines.set {s : St} {i : Nat} {c c' : Conn} (hc : s.conns[i]? = some c)
    (h1 : c'.late = c.late) (h2 : c'.entry = true → c.entry = true)
    (h3 : c'.entry = true → hasWait c = true → hasWait c' = true) (s' : St)
    (hs : s'.hpc = s.hpc) (hlo : s'.lateOpen = s.lateOpen) (hconns : s'.conns = s.conns.set i c') : Refines s s' := by
  refine ⟨hs, hlo, ?_⟩
  intro d hd
  rw [hconns] at hd
  rcases List.mem_or_eq_of_mem_set hd with hd | rfl
  · exact ⟨d, hd, rfl, id, fun _ h => h⟩
  · exact ⟨c, List.mem_of_getElem? hc, h1, h2, h3⟩

theorem Refines.semEffect (s : St) (i : Nat) (c : Conn) (a : Act) : Refines s (semEffect s i c a) := by
  refine semEffect_keeps (P := Refines s) (fun _ _ _ h => ⟨h.1, h.2.1, h.2.2⟩)
    (fun t ad h => h.trans ?_) (Refines.rfl' s) i c a
  rcases wakeNext_cases t ad with h | ⟨j, d, _, hd, _, _, h⟩ <;> rw [h]
  · exact Refines.rfl' t
  · exact Refines.set (c' := { d with pc := .semWoken }) hd rfl id (fun _ h => h) _ rfl rfl rfl

/-- the layer's commands: what is opened while handle_client waits (or after it returned) is marked late -/
theorem LateInv.apply {s s' : St} {cmds : List Cmd} (hi : LateInv s) (h : applyCmds s cmds = some s') : LateInv s' := by
  obtain ⟨new, hooks, lo, rfl, hn, hlo⟩ := applyCmds_spec cmds s s' h
  -- a new task carries the mark exactly when handle_client is in (or past) its final wait
  have hnew : ∀ c ∈ new, c.late = isLate s.hpc := by
    intro c hc
    obtain ⟨k, a, rfl⟩ := hn c hc
    rfl
  refine ⟨fun hf => List.forall_mem_append.mpr ⟨hi.fin2 hf, fun c hc _ hl => ?_⟩,
    fun hf => List.forall_mem_append.mpr ⟨hi.ret2 hf, fun c hc _ => ?_⟩, fun c hc hl => ?_⟩
  · rw [hnew c hc, show s.hpc = .final from hf] at hl
    cases hl
  · rw [hnew c hc, show s.hpc = .returned from hf]
    rfl
  · cases hlo' : lo with
    | true => rfl
    | false =>
      obtain ⟨hl0, hnil⟩ := hlo hlo'
      rcases List.mem_append.mp hc with hc | hc
      · rw [hi.flag c hc hl] at hl0; cases hl0
      · rw [hnil (by rw [← hnew c hc]; exact hl)] at hc; cases hc

/-- every label preserves it (the lifecycle invariant `Inv` of the state before the label is used) -/
theorem LateInv.preserved {s s' : St} {l : Label} (hinv : Inv s) (hi : LateInv s) (h : step s l = some s') :
    LateInv s' := by
  obtain ⟨s1, cmds, ha, _, hlo, hmove⟩ := step_tasks h
  refine LateInv.apply ?_ ha
  rcases hmove with ⟨h1, _, _, h4⟩ | ⟨hpc, rfl⟩ | ⟨hpc, hzero, rfl⟩ | ⟨i, a, c, c', hc, hs, rfl⟩ |
      ⟨i, c, rest, hc, ⟨hcbs, rfl⟩ | ⟨hcbs, rfl⟩⟩
  · rcases h4 with h4 | h4
    · exact hi.refine ⟨h4, hlo, fun c hc => ⟨c, h1 ▸ hc, rfl, id, fun _ h => h⟩⟩
    · exact ⟨fun hf => (by rw [hf] at h4; cases h4), fun hf => (by rw [hf] at h4; cases h4),
        fun c hc hl => hlo ▸ hi.flag c (h1 ▸ hc) hl⟩
  · -- the final wait starts: every task that still has an entry gets asyncio.wait's callback
    have hnw := hinv.nowait (by rw [hpc]; rfl)
    refine ⟨fun _ c hc he _ => ?_, nofun, fun c hc hl => ?_⟩ <;> obtain ⟨d, hd, rfl⟩ := List.mem_map.mp hc
    · exact (regWait_inv (hinv.conn d hd) (hinv.cb d hd) (hnw d hd)).2.2 he
    · have : (regWait d).late = d.late := by unfold regWait; split <;> rfl
      exact hi.flag d hd (this ▸ hl)
  · -- the wait counted down to zero, so nothing it waited for has an entry any more
    refine ⟨nofun, fun _ c hc he => ?_, hi.flag⟩
    cases hl : c.late with
    | true => rfl
    | false => have := hinv.hcount_pos hc (hi.fin2 hpc c hc he hl); omega
  · obtain ⟨_, h3, h5, h7⟩ := (stepS_spec hs).1
    refine hi.refine ((Refines.set hc h7 h3 (fun _ hw => ?_) { s with conns := s.conns.set i c' } rfl rfl rfl).trans
      (Refines.semEffect _ i c a))
    simpa [hasWait, h5] using hw
  · exact hi.refine (Refines.set (c' := { c with cbs := rest, entry := false }) hc rfl nofun nofun _ rfl rfl rfl)
  · refine hi.refine (Refines.set (c' := { c with cbs := rest }) hc rfl id (fun he => ?_) _ rfl rfl rfl)
    -- the completion callback runs last: release_transport has run, the entry is gone
    rcases (hinv.cb c (List.mem_of_getElem? hc)).2 he with h' | h' <;> rw [hcbs] at h' <;> cases h'

theorem Reach.late {n : Nat} {s : St} (h : Reach n s) : LateInv s := by
  obtain ⟨ls, hl⟩ := h
  exact (run_induct (P := fun s => Inv s ∧ LateInv s)
    (fun _ _ _ hp hs => ⟨hp.1.preserved hs, hp.2.preserved hp.1 hs⟩) ls _ _ ⟨init_inv n, init_late n⟩ hl).2

end MitmVerif.C09
