/-
  Lemmas for C06, the HTTP/2 side of the conversion: hyper-h2's validators, mitmproxy's header-block parsers and formatters.
  What an accepted header block gives: the two parts `split_pseudo_headers` makes of it, the inversions of
  `parse_h2_request_headers` / `parse_h2_response_headers`, and what hyper-h2's validators (`h2ValidReq`, `h2ValidResp`)
  and content-length check (`h2ClOk`) say of the message read from it (`request_parts`, `response_parts`, `cl_law_core`).
  What is written is read back: a block made of pseudo-headers followed by regular fields — what
  `format_h2_request_headers` / `format_h2_response_headers` write — is read as the message with those parts
  (`parse_format`, `parse_status_block`); fields normalised for an HTTP/1 source stay regular (`normalizeH1_regular`).
-/
import MitmVerif.Lemmas.C06
namespace MitmVerif.C06
open MitmVerif

theorem splitPseudo_shape (b : Block) (acc ps fs : List Field) (h : splitPseudo b acc = some (ps, fs)) :
    ∃ pre, b = pre ++ fs ∧ ps = acc ++ pre ∧ ∀ f ∈ pre, isPseudo f = true := by
  revert h
  fun_induction splitPseudo b acc
  case case3 f rest acc hf _ ih =>
    intro h
    obtain ⟨pre, e, e2, hp⟩ := ih h
    exact ⟨f :: pre, by rw [e]; rfl, by simp [e2], by simpa [hf] using hp⟩
  case case2 => nofun
  all_goals (rintro ⟨⟩; exact ⟨[], rfl, by simp, by simp⟩)

theorem splitPseudo_nil (b : Block) (ps fs : List Field) (h : splitPseudo b [] = some (ps, fs)) :
    b = ps ++ fs ∧ ∀ f ∈ ps, isPseudo f = true := by
  obtain ⟨pre, e, e2, hp⟩ := splitPseudo_shape b [] ps fs h
  rw [List.nil_append] at e2
  subst e2
  exact ⟨e, hp⟩

theorem lookup_mem (n v : Bytes) (l : List Field) (h : lookup n l = some v) : (n, v) ∈ l := by
  simp only [lookup, Option.map_eq_some_iff] at h
  obtain ⟨f, hf, rfl⟩ := h
  have hn : f.1 = n := by simpa using List.find?_some hf
  rw [← hn]
  exact List.mem_of_find?_eq_some hf

theorem fieldOk_parts (f : Field) (h : fieldOk f = true) :
    lower f.1 = f.1 ∧ ∀ c ∈ f.2, c ≠ 0 ∧ c ≠ 10 ∧ c ≠ 13 := by
  simp only [fieldOk, Bool.and_eq_true, h2NameOk, h2ValueOk] at h
  constructor
  · have : ∀ c ∈ f.1, asciiLowerB c = c := by
      intro c hc
      have := (List.all_eq_true.mp h.1.1.1.1.1) c hc
      simp only [Bool.and_eq_true, Bool.not_eq_true', decide_eq_true_eq] at this
      have h1 : ¬(65 ≤ c.toNat ∧ c.toNat ≤ 90) := by
        intro h; have := this.1.1; simp [h.1, h.2] at this
      simp [asciiLowerB, h1]
    simpa [lower, asciiLower] using List.map_congr_left this
  · intro c hc
    simpa [and_assoc] using (List.all_eq_true.mp h.1.1.1.2.1.1) c hc

theorem normalizeH2_id (fs : List Field) (h : ∀ f ∈ fs, fieldOk f = true) : normalizeH2 fs = fs := by
  have : ∀ f ∈ fs, (if pyIsLower f.1 then f else (lower f.1, f.2)) = f := by
    intro f hf
    rw [(fieldOk_parts f (h f hf)).1]
    simp
  simpa [normalizeH2] using List.map_congr_left this

theorem pseudoSeq_tail (b : Block) (seen : List Bytes) (h : pseudoSeqOk seen true b = true) :
    ∀ f ∈ b, isPseudo f = false := by
  induction b with
  | nil => simp
  | cons g rest ih =>
    unfold pseudoSeqOk at h
    cases hg : isPseudo g <;> simp_all

/-- in a block that passed `_reject_pseudo_header_fields` no pseudo-header follows a regular field, so what
    `splitPseudo` leaves as the fields are regular fields -/
theorem split_fields_regular (b : Block) (seen : List Bytes) (acc ps fs : List Field)
    (hseq : pseudoSeqOk seen false b = true) (hs : splitPseudo b acc = some (ps, fs)) :
    ∀ f ∈ fs, isPseudo f = false := by
  fun_induction splitPseudo b acc generalizing seen
  case case1 => simp_all
  case case2 => simp at hs
  case case3 f rest acc hf _ ih =>
    unfold pseudoSeqOk at hseq
    simp only [hf, if_true, Bool.and_eq_true] at hseq
    exact ih _ hseq.2 hs
  case case4 f rest acc hf =>
    unfold pseudoSeqOk at hseq
    cases hs
    simpa [hf] using pseudoSeq_tail rest seen (by simpa [hf] using hseq)

theorem parseH2Request_some (authOk : Bool) (b : Block) (r : Req) (hp : parseH2Request authOk b = some r) :
    ∃ ps, splitPseudo b [] = some (ps, r.fields) ∧ lookup pPath ps = some r.path ∧
      r.authority = (lookup pAuthority ps).getD [] ∧ (r.authority.isEmpty = false → authOk = true) := by
  revert hp
  fun_cases parseH2Request authOk b
  case case4 ps fs hs m s p hpa _ _ a rest _ ha =>
    rintro ⟨⟩
    exact ⟨_, hs, hpa, rfl, by simpa using ha⟩
  all_goals nofun

theorem parseH2Response_some (b : Block) (st : Nat) (fs : List Field) (hp : parseH2Response b = some (st, fs)) :
    ∃ ps, splitPseudo b [] = some (ps, fs) ∧ (pStatus, natDec st) ∈ ps ∧ 100 ≤ st ∧ st ≤ 999 := by
  revert hp
  fun_cases parseH2Response b
  case case2 ps fs' hs a b' c hl hcond =>
    rintro ⟨⟩
    simp only [Bool.and_eq_true, bne_iff_ne] at hcond
    have hd := natDec_of_digits a b' c hcond.1.1.1.1 hcond.1.1.1.2 hcond.1.1.2 hcond.1.2
    exact ⟨ps, hs, hd.1 ▸ lookup_mem _ _ _ hl, hd.2⟩
  all_goals nofun

theorem valid_split (b : Block) (ps fs : List Field) (hok : b.all fieldOk = true)
    (hseq : pseudoSeqOk [] false b = true) (hs : splitPseudo b [] = some (ps, fs)) :
    (∀ f ∈ ps, f ∈ b ∧ fieldOk f = true) ∧ ∀ f ∈ fs, fieldOk f = true ∧ isPseudo f = false := by
  obtain ⟨e, _⟩ := splitPseudo_nil b ps fs hs
  have hall := List.all_eq_true.mp hok
  have hl : ∀ f ∈ ps, f ∈ b := fun f hf => by rw [e]; exact List.mem_append_left _ hf
  exact ⟨fun f hf => ⟨hl f hf, hall f (hl f hf)⟩, fun f hf =>
    ⟨hall f (by rw [e]; exact List.mem_append_right _ hf), split_fields_regular b [] [] ps fs hseq hs f hf⟩⟩

theorem request_parts (authOk : Bool) (b : Block) (r : Req)
    (hv : h2ValidReq b = true) (hp : parseH2Request authOk b = some r) :
    (∀ f ∈ r.fields, fieldOk f = true ∧ isPseudo f = false) ∧ r.path ≠ [] ∧
      ∀ c ∈ r.authority, c ≠ 0 ∧ c ≠ 10 ∧ c ≠ 13 := by
  obtain ⟨ps, hs, hpa, ha, _⟩ := parseH2Request_some authOk b r hp
  simp only [h2ValidReq, Bool.and_eq_true] at hv
  obtain ⟨hps, hfs⟩ := valid_split b ps r.fields hv.1.1.1.1 hv.1.1.1.2 hs
  refine ⟨hfs, ?_, ?_⟩
  · have := (List.all_eq_true.mp hv.2) r.path (by
      simp only [valuesOf, List.mem_map, List.mem_filter]
      exact ⟨(pPath, r.path), ⟨(hps _ (lookup_mem _ _ _ hpa)).1, by simp⟩, rfl⟩)
    intro e; rw [e] at this; simp at this
  · rw [ha]
    cases hl : lookup pAuthority ps with
    | none => simp
    | some a => exact (fieldOk_parts _ (hps _ (lookup_mem _ _ _ hl)).2).2

theorem response_parts (b : Block) (st : Nat) (fs : List Field)
    (hv : h2ValidResp b = true) (hp : parseH2Response b = some (st, fs)) :
    (∀ f ∈ fs, fieldOk f = true ∧ isPseudo f = false) ∧ 100 ≤ st ∧ st ≤ 999 := by
  obtain ⟨ps, hs, _, hst⟩ := parseH2Response_some b st fs hp
  simp only [h2ValidResp, Bool.and_eq_true] at hv
  exact ⟨(valid_split b ps fs hv.1.1 hv.1.2 hs).2, hst⟩

theorem pseudo_not_cl (f : Field) (h : isPseudo f = true) : (f.1 == sCL) = false := by
  cases hq : f.1 == sCL with
  | false => rfl
  | true =>
    have e : f.1 = sCL := by simpa using hq
    unfold isPseudo at h
    rw [e] at h
    revert h; decide

/-- `hguard`: without a DATA frame hyper-h2 compares nothing (`bodyLen = 0 ||` in `h2ClOk`), so for an empty body the law has
    to be asked of the block.  `endOnTrailers := false`: a stream ended by trailers only passes "not more than announced". -/
theorem cl_law_core (b : Block) (ps fs : List Field) (body : Bytes)
    (hs : splitPseudo b [] = some (ps, fs)) (hfs : ∀ f ∈ fs, fieldOk f = true ∧ isPseudo f = false)
    (hck : h2ClOk false b body.length (endOnTrailers := false) = true)
    (hguard : body = [] → ∀ v ∈ valuesOf sCL b, Ref.parseDec v = some 0) :
    ∀ g, fs.filter (nameIs sCL) = [g] → Ref.parseDec g.2 = some body.length := by
  obtain ⟨hb, hpre⟩ := splitPseudo_nil b ps fs hs
  -- the content-length values hyper-h2 sees are those of the fields: pseudo-headers have other names, and the
  -- names of the fields are in lower case already
  have hvals : valuesOf sCL b = (fs.filter (nameIs sCL)).map (·.2) := by
    have h1 : ps.filter (fun f => f.1 == sCL) = [] :=
      List.filter_eq_nil_iff.mpr fun f hf => by simp [pseudo_not_cl f (hpre f hf)]
    have h2 : fs.filter (fun f => f.1 == sCL) = fs.filter (nameIs sCL) :=
      List.filter_congr fun f hf => by
        rw [nameIs, (fieldOk_parts f (hfs f hf).1).1]
    rw [valuesOf, hb, List.filter_append, h1, h2, List.nil_append]
  intro g hg
  rw [hg] at hvals
  simp only [List.map_cons, List.map_nil] at hvals
  simp only [h2ClOk, hvals] at hck
  cases hd : Ref.parseDec g.2 with
  | none => simp [hd] at hck
  | some n =>
    simp [hd] at hck
    rcases hck.2 with h0 | h1
    · have hbn : body = [] := by cases body <;> simp_all
      have := hguard hbn g.2 (by rw [hvals]; simp)
      rw [hd] at this
      rw [hbn]; exact this
    · rw [h1]

theorem splitPseudo_regular (fs acc : List Field) (h : ∀ f ∈ fs, isPseudo f = false) :
    splitPseudo fs acc = some (acc, fs) := by
  cases fs with
  | nil => rfl
  | cons f rest => simp [splitPseudo, h f (by simp)]

theorem byte_forall (P : UInt8 → Prop) (h : ∀ n : Fin 256, P (UInt8.ofNat n.val)) (c : UInt8) : P c := by
  have := h ⟨c.toNat, UInt8.toNat_lt c⟩
  simpa using this

theorem lower_token_byte : ∀ c : UInt8, isTokenByte c = true → isPyWs (asciiLowerB c) = false ∧ asciiLowerB c ≠ 58 :=
  byte_forall _ (by decide +kernel)

theorem lower_not_upper (d : UInt8) : ¬(65 ≤ (asciiLowerB d).toNat ∧ (asciiLowerB d).toNat ≤ 90) := by
  unfold asciiLowerB
  split
  · rw [UInt8.toNat_add]
    have : (32 : UInt8).toNat = 32 := rfl
    omega
  · assumption

/-- a field name that is a token is still no pseudo-header name after `normalize_h1_headers`: lower-casing a token
    leaves no whitespace to strip and no colon in front -/
theorem normalizeH1_regular (fs : List Field) (h : ∀ f ∈ fs, isToken f.1 = true) :
    ∀ f ∈ normalizeH1 fs, isPseudo f = false := by
  intro f hf
  simp only [normalizeH1, List.mem_filter, List.mem_map] at hf
  obtain ⟨⟨g, hg, rfl⟩, _⟩ := hf
  have htok := h g hg
  simp only [isToken, Bool.and_eq_true, List.all_eq_true] at htok
  have hlow : ∀ c ∈ lower g.1, isPyWs c = false ∧ c ≠ 58 := by
    intro c hc
    simp only [lower, asciiLower, List.mem_map] at hc
    obtain ⟨d, hd, rfl⟩ := hc
    exact lower_token_byte d (htok.2 d hd)
  show ((pyStrip (lower g.1)).head? == some 58) = false
  rw [show pyStrip (lower g.1) = lower g.1 from trim_all_false fun c hc => (hlow c hc).1]
  cases hh : (lower g.1).head? with
  | none => rfl
  | some c => simpa using (hlow c (List.mem_of_mem_head? hh)).2

theorem pseudo_ne :
    (pMethod == pScheme) = false ∧ (pMethod == pPath) = false ∧ (pMethod == pAuthority) = false ∧
    (pScheme == pMethod) = false ∧ (pScheme == pPath) = false ∧ (pScheme == pAuthority) = false ∧
    (pPath == pMethod) = false ∧ (pPath == pScheme) = false ∧ (pPath == pAuthority) = false ∧
    (pAuthority == pMethod) = false ∧ (pAuthority == pScheme) = false ∧ (pAuthority == pPath) = false := by decide

theorem parse_format (authOk : Bool) (m sc p : Bytes) (a : Option Bytes) (fs : List Field)
    (hreg : ∀ f ∈ fs, isPseudo f = false) (hok : ∀ v, a = some v → v.isEmpty = false → authOk = true) :
    parseH2Request authOk ((pMethod, m) :: (pScheme, sc) :: (pPath, p) :: (a.toList.map (pAuthority, ·) ++ fs))
      = some ⟨m, sc, a.getD [], p, fs⟩ := by
  have hps : ∀ n v, n.head? = some 58 → isPseudo (n, v) = true := fun n v h => by simp [isPseudo, h]
  have e1 := hps pMethod m rfl
  have e2 := hps pScheme sc rfl
  have e3 := hps pPath p rfl
  cases a with
  | none =>
    have hs := splitPseudo_regular fs [(pMethod, m), (pScheme, sc), (pPath, p)] hreg
    have hsp : splitPseudo ((pMethod, m) :: (pScheme, sc) :: (pPath, p) :: fs) [] =
        some ([(pMethod, m), (pScheme, sc), (pPath, p)], fs) := by
      simp [splitPseudo, e1, e2, e3, hs, pseudo_ne]
    simp [parseH2Request, hsp, lookup, without, pseudo_ne]
  | some v =>
    have e4 := hps pAuthority v rfl
    have hs := splitPseudo_regular fs [(pMethod, m), (pScheme, sc), (pPath, p), (pAuthority, v)] hreg
    have hsp : splitPseudo ((pMethod, m) :: (pScheme, sc) :: (pPath, p) :: (pAuthority, v) :: fs) [] =
        some ([(pMethod, m), (pScheme, sc), (pPath, p), (pAuthority, v)], fs) := by
      simp [splitPseudo, e1, e2, e3, e4, hs, pseudo_ne]
    have := hok v rfl
    simp [parseH2Request, hsp, lookup, without, pseudo_ne]
    simpa using this

theorem formatH2Response_eq (st : Nat) (fs : List Field) :
    formatH2Response st fs true = (pStatus, natDec st) :: normalizeH2 fs ∧
    formatH2Response st fs false = (pStatus, natDec st) :: normalizeH1 fs := by
  have h1 : pyIsLower pStatus = true := by decide
  have h2 : pyStrip (lower pStatus) = pStatus := by decide
  have h3 : pStatus ∉ Gen.C06.connectionHeaders := by decide
  constructor
  · simp [formatH2Response, normalizeH2, h1]
  · simp [formatH2Response, normalizeH1, h2, h3, pyStrip_digits _ (natDec_digits st)]

theorem parse_status_block (st : Nat) (hst : 100 ≤ st ∧ st ≤ 999) (fs : List Field)
    (hreg : ∀ f ∈ fs, isPseudo f = false) :
    parseH2Response ((pStatus, natDec st) :: fs) = some (st, fs) := by
  obtain ⟨a, b, c, hdec, ha, hb, hc, hne, hval⟩ := natDec_three_digits st hst
  have hs := splitPseudo_regular fs [(pStatus, [a, b, c])] hreg
  have hps : ∀ v, isPseudo (pStatus, v) = true := fun v => by simp [isPseudo, pStatus]
  have hsp : splitPseudo ((pStatus, [a, b, c]) :: fs) [] = some ([(pStatus, [a, b, c])], fs) := by
    simp [splitPseudo, hps, hs]
  have hne' : (a != 48) = true := by simpa using hne
  simp [hdec, parseH2Response, hsp, lookup, without, ha, hb, hc, hne', hval]

end MitmVerif.C06
