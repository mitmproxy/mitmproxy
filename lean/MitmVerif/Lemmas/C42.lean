/-
  C42 — the parser of the model reads every well-formed rendering back (`main` / `mainL`).

  `parseAt k n` is the parser of precedence level `k` (0 operand, 1 `!`, 2 `&`, 3 `|`, 4 juxtaposition; `n` is the fuel
  for parentheses).  `Cond k b rest` is what must follow an expression read at level `k` for the parser to stop exactly
  there: the last token ends (`Fol`), and as the level rises no `&`, no `|`, nothing but `)` is ahead.  `main` shows, by
  induction over the concrete syntax, that a rendering followed by such a `rest` is read at the level of its outermost
  construct; `atLevel` carries this to every looser level, where the looser operators find nothing to do (`lift1`);
  between two members of a run the separator that comes next supplies the condition of the level below (`cond_tail`,
  with `C.start` for what a rendering begins with).  Levels 2 to 4 are one case through `Kind` (`parseAt_chain`).
  Underneath are the tokens: a rendered leaf is read back (`pAtom_atom`), its code being found in its table because
  `WordEnd` lets only the whole alphanumeric run match (`firstSome_code`).
-/
import MitmVerif.Model.C42_Spec
namespace MitmVerif.C42

/-- what ends an unquoted word (`CharsNotIn` stops there and nothing of the word is lost) -/
def Delim : Str → Prop
  | [] => True
  | c :: _ => isWs c = true ∨ c = ')'

/-- what may follow any last token: `WordEnd` holds behind an operator code and a digit run is maximal there -/
def OpDelim : Str → Prop
  | [] => True
  | c :: _ => isWs c = true ∨ c = ')' ∨ c = '&' ∨ c = '|'

/-- what may follow an expression that ends in an unquoted word (`b`) or not -/
def Fol (b : Bool) (rest : Str) : Prop := OpDelim rest ∧ (b = true → Delim rest)

/-- the first character that is not white space is not `c` -/
def NoOp (c : Char) (rest : Str) : Prop := lit c rest = none

/-- only white space, or white space and `)`, follows -/
def Closed (rest : Str) : Prop := skipWs rest = [] ∨ ∃ r, skipWs rest = ')' :: r

theorem skipWs_ws {w : Str} (hw : AllWs w) (s : Str) : skipWs (w ++ s) = skipWs s := by
  induction w with
  | nil => rfl
  | cons c w ih =>
    have h1 : isWs c = true := hw.1
    simp [skipWs, h1, ih hw.2]

theorem skipWs_cons {c : Char} (h : isWs c = false) (s : Str) : skipWs (c :: s) = c :: s := by
  simp [skipWs, h]

theorem lit_ws {w : Str} (hw : AllWs w) (c : Char) (s : Str) : lit c (w ++ s) = lit c s := by
  simp [lit, skipWs_ws hw]

theorem lit_hit {c : Char} (h : isWs c = false) (s : Str) : lit c (c :: s) = some s := by
  simp [lit, skipWs_cons h]

theorem lit_miss {c d : Char} (h : isWs d = false) (hne : d ≠ c) (s : Str) : lit c (d :: s) = none := by
  simp [lit, skipWs_cons h, hne]

theorem allWs_append {a b : Str} (ha : AllWs a) (hb : AllWs b) : AllWs (a ++ b) := by
  induction a with
  | nil => exact hb
  | cons c a ih => exact ⟨ha.1, ih ha.2⟩

theorem skipWs_allWs {w : Str} (hw : AllWs w) : skipWs w = [] := by
  have := skipWs_ws hw []
  simpa [skipWs] using this

theorem skipWs_idem (s : Str) : skipWs (skipWs s) = skipWs s := by
  induction s with
  | nil => rfl
  | cons c s ih =>
    cases h : isWs c with
    | true => simp [skipWs, h, ih]
    | false => simp [skipWs, h]

/-- the run stops here: end of input or a character outside the class -/
def StopAt (p : Char → Bool) : Str → Prop
  | [] => True
  | c :: _ => p c = false

theorem takeW_append (p : Char → Bool) (a rest : Str) (ha : ∀ c ∈ a, p c = true) (hr : StopAt p rest) :
    takeW p (a ++ rest) = (a, rest) := by
  induction a with
  | nil =>
    cases rest with
    | nil => rfl
    | cons c r => simp [takeW, show p c = false from hr]
  | cons c a ih =>
    have hc : p c = true := ha c (by simp)
    have := ih (fun d hd => ha d (by simp [hd]))
    simp [takeW, hc, this]

theorem allWordCh_iff (a : Str) : AllWordCh a ↔ ∀ c ∈ a, isWordCh c = true := by
  induction a with
  | nil => simp [AllWordCh]
  | cons c a ih => simp [AllWordCh, ih]

theorem allDigit_iff (d : Str) : AllDigit d ↔ ∀ c ∈ d, isDigit c = true := by
  induction d with
  | nil => simp [AllDigit]
  | cons c d ih => simp [AllDigit, ih]

theorem ws_not_wordCh {c : Char} (h : isWs c = true) : isWordCh c = false := by
  simp [isWordCh, h]

theorem wordCh_not_ws {c : Char} (h : isWordCh c = true) : isWs c = false := by
  cases hw : isWs c with
  | false => rfl
  | true => simp [isWordCh, hw] at h

theorem ws_cases {c : Char} (h : isWs c = true) : c = ' ' ∨ c = '\n' ∨ c = '\t' ∨ c = '\r' := by
  have : ((c = ' ' ∨ c = '\n') ∨ c = '\t') ∨ c = '\r' := by simpa [isWs] using h
  rcases this with ((h | h) | h) | h <;> simp [h]

theorem ws_not_alnum {c : Char} (h : isWs c = true) : isAlnum c = false := by
  rcases ws_cases h with rfl | rfl | rfl | rfl <;> decide

theorem digit_alnum {c : Char} (h : isDigit c = true) : isAlnum c = true := by
  simp [isAlnum, h]

theorem ws_not_digit {c : Char} (h : isWs c = true) : isDigit c = false :=
  Bool.eq_false_iff.mpr fun hd => Bool.false_ne_true ((ws_not_alnum h).symm.trans (digit_alnum hd))

theorem digit_not_ws {c : Char} (h : isDigit c = true) : isWs c = false := by
  cases hw : isWs c with
  | false => rfl
  | true => rw [ws_not_digit hw] at h; cases h

theorem quote_facts {q : Char} (h : q = '"' ∨ q = '\'') :
    q ≠ '\\' ∧ isWs q = false ∧ isWordCh q = false ∧ q ≠ '~' ∧ q ≠ '!' ∧ q ≠ '&' ∧ q ≠ '|' := by
  rcases h with rfl | rfl <;> decide

theorem wordCh_not_tilde {c : Char} (h : isWordCh c = true) : c ≠ '~' := by
  intro e; subst e; revert h; decide

theorem tilde_not_ws : isWs '~' = false := by decide

theorem delim_stop_word {rest : Str} (h : Delim rest) : StopAt isWordCh rest := by
  cases rest with
  | nil => trivial
  | cons c r =>
    rcases h with h | rfl
    · exact ws_not_wordCh h
    · exact (by decide : isWordCh ')' = false)

theorem opDelim_wordEnd {rest : Str} (h : OpDelim rest) : wordEnd rest = true := by
  cases rest with
  | nil => rfl
  | cons c r =>
    rcases h with h | rfl | rfl | rfl
    · simp [wordEnd, ws_not_alnum h]
    · exact (by decide : wordEnd [')'] = true)
    · exact (by decide : wordEnd ['&'] = true)
    · exact (by decide : wordEnd ['|'] = true)

theorem opDelim_stop_digit {rest : Str} (h : OpDelim rest) : StopAt isDigit rest := by
  cases rest with
  | nil => trivial
  | cons c r =>
    rcases h with h | rfl | rfl | rfl
    · exact ws_not_digit h
    · exact (by decide : isDigit ')' = false)
    · exact (by decide : isDigit '&' = false)
    · exact (by decide : isDigit '|' = false)

def AllAlnum : Str → Prop
  | [] => True
  | c :: s => isAlnum c = true ∧ AllAlnum s

instance (s : Str) : Decidable (AllAlnum s) := decAll isAlnum AllAlnum trivial (fun _ _ => Iff.rfl) s

/-- `Literal(c') + WordEnd` against the text `c ++ rest`, both codes alphanumeric and `rest` not starting with an
alphanumeric character: a proper prefix `c'` of `c` is followed by an alphanumeric character and fails `WordEnd`, any
other `c' ≠ c` does not match the text, so only `c' = c` succeeds -/
theorem stripCode (c' c rest : Str) (h' : AllAlnum c') (h : AllAlnum c) (hr : wordEnd rest = true) :
    wordEndO (stripPrefix c' (c ++ rest)) = if c' = c then some rest else none := by
  induction c' generalizing c with
  | nil =>
    cases c with
    | nil => simp [stripPrefix, wordEndO, hr]
    | cons x c => simp [stripPrefix, wordEndO, wordEnd, h.1]
  | cons y c' ih =>
    cases c with
    | nil =>
      cases rest with
      | nil => simp [stripPrefix, wordEndO]
      | cons r rest =>
        have hr' : isAlnum r = false := by simpa [wordEnd] using hr
        have hy : isAlnum y = true := h'.1
        have : y ≠ r := by intro e; rw [e] at hy; rw [hy] at hr'; cases hr'
        simp [stripPrefix, wordEndO, this]
    | cons x c =>
      by_cases hxy : y = x
      · subst hxy
        have := ih c h'.2 h.2
        simp only [List.cons_append, stripPrefix, if_true]
        rw [this]
        by_cases hc : c' = c <;> simp [hc]
      · simp [stripPrefix, wordEndO, hxy]

theorem tryCode_code (c' c rest : Str) (h' : AllAlnum c') (h : AllAlnum c) (hr : wordEnd rest = true) :
    tryCode c' ('~' :: (c ++ rest)) = if c' = c then some rest else none := by
  have := stripCode c' c rest h' h hr
  simpa [tryCode, stripPrefix] using this

theorem tryCode_not_tilde (c' : Str) {d : Char} (hd : d ≠ '~') (s : Str) : tryCode c' (d :: s) = none := by
  have : ¬ ('~' = d) := fun e => hd e.symm
  simp [tryCode, stripPrefix, wordEndO, this]

theorem tryCode_nil (c' : Str) : tryCode c' [] = none := by
  simp [tryCode, stripPrefix, wordEndO]

theorem firstSome_none {α β : Type} (f : α → Option β) (l : List α) (h : ∀ a ∈ l, f a = none) :
    firstSome f l = none := by
  induction l with
  | nil => rfl
  | cons a l ih =>
    simp [firstSome, h a (by simp), ih (fun b hb => h b (by simp [hb]))]

/-- against `~code` followed by a non-alphanumeric character, a list of codes is searched for `code` itself;
`g` is what the alternative does behind the code -/
theorem firstSome_code {β : Type} (f : Str → Option β) (g : Str → Str → Option β) (codes : List Str) (c tail : Str)
    (hf : ∀ c', f c' = match tryCode c' ('~' :: (c ++ tail)) with | some r => g c' r | none => none)
    (hcodes : ∀ c' ∈ codes, AllAlnum c') (hc : AllAlnum c) (ht : wordEnd tail = true) :
    firstSome f codes = if c ∈ codes then g c tail else none := by
  induction codes with
  | nil => rfl
  | cons a l ih =>
    have ih' := ih (fun x hx => hcodes x (List.mem_cons_of_mem _ hx))
    rw [firstSome, hf a, tryCode_code a c tail (hcodes a List.mem_cons_self) hc ht]
    by_cases h : a = c
    · subst h
      cases hg : g a tail <;> simp [hg, ih']
    · have : ¬ c = a := fun e => h e.symm
      simp [h, this, ih']

/-- facts about the generated tables (checked by evaluation whenever the tables change) -/
theorem codes_alnum : ∀ c ∈ Gen.unaryCodes ++ Gen.rexCodes ++ Gen.intCodes, AllAlnum c := by decide +kernel
theorem rex_not_unary : ∀ c ∈ Gen.rexCodes, ∀ c' ∈ Gen.unaryCodes, c' ≠ c := by decide +kernel
theorem int_not_unary : ∀ c ∈ Gen.intCodes, ∀ c' ∈ Gen.unaryCodes, c' ≠ c := by decide +kernel
theorem int_not_rex : ∀ c ∈ Gen.intCodes, ∀ c' ∈ Gen.rexCodes, c' ≠ c := by decide +kernel

theorem unary_alnum {c : Str} (h : c ∈ Gen.unaryCodes) : AllAlnum c := codes_alnum c (by simp [h])
theorem rex_alnum {c : Str} (h : c ∈ Gen.rexCodes) : AllAlnum c := codes_alnum c (by simp [h])
theorem int_alnum {c : Str} (h : c ∈ Gen.intCodes) : AllAlnum c := codes_alnum c (by simp [h])

theorem unary_code (c tail : Str) (hc : AllAlnum c) (ht : wordEnd tail = true) :
    firstSome (tryUnary ('~' :: (c ++ tail))) Gen.unaryCodes
      = if c ∈ Gen.unaryCodes then some (Ast.unary c, tail) else none :=
  firstSome_code _ (fun c' r => some (Ast.unary c', r)) _ c tail (fun _ => rfl) (fun _ => unary_alnum) hc ht

theorem rex_code (c tail : Str) (hc : AllAlnum c) (ht : wordEnd tail = true) :
    firstSome (tryRex ('~' :: (c ++ tail))) Gen.rexCodes
      = if c ∈ Gen.rexCodes then (match pRegex tail with | some (a, r) => some (Ast.rex c a, r) | none => none)
        else none :=
  firstSome_code _ (fun c' r => match pRegex r with | some (a, r') => some (Ast.rex c' a, r') | none => none)
    _ c tail (fun _ => rfl) (fun _ => rex_alnum) hc ht

theorem int_code (c tail : Str) (hc : AllAlnum c) (ht : wordEnd tail = true) :
    firstSome (tryInt ('~' :: (c ++ tail))) Gen.intCodes
      = if c ∈ Gen.intCodes then (match pInt tail with | some (n, r) => some (Ast.int c n, r) | none => none)
        else none :=
  firstSome_code _ (fun c' r => match pInt r with | some (n, r') => some (Ast.int c' n, r') | none => none)
    _ c tail (fun _ => rfl) (fun _ => int_alnum) hc ht

theorem pAtom_no_code (s : Str) (h : ∀ c', tryCode c' (skipWs s) = none) :
    pAtom s = match pRegex (skipWs s) with
      | some (a, r) => some (Ast.rex Gen.bareCode a, r)
      | none => none := by
  have u : firstSome (tryUnary (skipWs s)) Gen.unaryCodes = none :=
    firstSome_none _ _ (fun c' _ => by simp [tryUnary, h])
  have r : firstSome (tryRex (skipWs s)) Gen.rexCodes = none :=
    firstSome_none _ _ (fun c' _ => by simp [tryRex, h])
  have i : firstSome (tryInt (skipWs s)) Gen.intCodes = none :=
    firstSome_none _ _ (fun c' _ => by simp [tryInt, h])
  simp only [pAtom, u, r, i]
  rfl

theorem pQuoted_items (q : Char) (hq : q ≠ '\\') (items : List QItem) (rest : Str) (h : ItemsWF q items) :
    pQuoted q (renderItems items ++ q :: rest) = some (renderItems items, rest) := by
  induction items with
  | nil => rw [pQuoted.eq_def]; simp [renderItems]
  | cons i items ih =>
    have ih' := ih h.2
    cases i with
    | raw c =>
      obtain ⟨h1, h2, h3, h4⟩ : c ≠ q ∧ c ≠ '\\' ∧ c ≠ '\n' ∧ c ≠ '\r' := h.1
      simp only [renderItems, QItem.render, List.cons_append, List.nil_append]
      rw [pQuoted.eq_def]; simp [h1, h2, h3, h4, ih']
    | esc c =>
      have hb : ¬ ('\\' = q) := fun e => hq e.symm
      have hn : c ≠ '\n' := by
        rcases h.1 with (rfl | rfl | rfl | rfl) | ⟨_, h⟩
        · decide
        · decide
        · decide
        · decide
        · exact h
      simp only [renderItems, QItem.render, List.cons_append, List.nil_append]
      rw [pQuoted.eq_def]; simp [hb, hn, ih']

theorem escItem_plain {c : Char} (q : Char) (h : (QItem.esc c).WF q) : c ≠ 'x' ∧ c ≠ 'u' ∧ c ≠ '0' := by
  rcases h with (rfl | rfl | rfl | rfl) | ⟨h, _⟩
  · decide
  · decide
  · decide
  · decide
  · refine ⟨?_, ?_, ?_⟩ <;> (intro e; subst e; revert h; decide)

theorem unqF_items (q : Char) (items : List QItem) (h : ItemsWF q items) :
    ∀ n, (renderItems items).length ≤ n → unqF n (renderItems items) = valueItems items := by
  induction items with
  | nil => intro n _; cases n <;> (rw [unqF.eq_def]; simp [renderItems, valueItems])
  | cons i items ih =>
    intro n hn
    cases i with
    | raw c =>
      have h2 : c ≠ '\\' := h.1.2.1
      cases n with
      | zero => simp [renderItems, QItem.render] at hn
      | succ n =>
        have hn' : (renderItems items).length ≤ n := by
          simp [renderItems, QItem.render] at hn; omega
        simp only [renderItems, QItem.render, List.cons_append, List.nil_append]
        rw [unqF.eq_def]; simp [h2, valueItems, QItem.value, ih h.2 n hn']
    | esc c =>
      obtain ⟨hx, hu, h0⟩ := escItem_plain q h.1
      cases n with
      | zero => simp [renderItems, QItem.render] at hn
      | succ n =>
        have hn' : (renderItems items).length ≤ n := by
          simp [renderItems, QItem.render] at hn; omega
        simp only [renderItems, QItem.render, List.cons_append, List.nil_append]
        rw [unqF.eq_def]; simp [hx, hu, h0, valueItems, QItem.value, ih h.2 n hn']

theorem pRegex_arg (a : Arg) (w rest : Str) (ha : a.WF) (hw : AllWs w) (hr : a.isWord = true → Delim rest) :
    pRegex (w ++ (a.render ++ rest)) = some (a.value, rest) := by
  unfold pRegex
  rw [skipWs_ws hw]
  cases a with
  | word a =>
    obtain ⟨hne, hall⟩ : a ≠ [] ∧ AllWordCh a := ha
    cases a with
    | nil => exact absurd rfl hne
    | cons c a' =>
      have hc : isWordCh c = true := hall.1
      have := takeW_append isWordCh (c :: a') rest ((allWordCh_iff _).1 hall) (delim_stop_word (hr rfl))
      simp only [Arg.render, List.cons_append] at this ⊢
      rw [skipWs_cons (wordCh_not_ws hc)]
      simp [hc, this, Arg.value]
  | quoted q items =>
    obtain ⟨hq, hit⟩ : (q = '"' ∨ q = '\'') ∧ ItemsWF q items := ha
    obtain ⟨h1, h2, h3, _⟩ := quote_facts hq
    have e : Arg.render (.quoted q items) ++ rest = q :: (renderItems items ++ q :: rest) := by
      simp [Arg.render]
    rw [e, skipWs_cons h2]
    have hq' : q = '"' ∨ q = '\'' := hq
    simp [h3, hq', pQuoted_items q h1 items rest hit, Arg.value, unq, unqF_items q items hit _ (Nat.le_refl _)]

theorem pInt_digits (d w rest : Str) (hne : d ≠ []) (hd : AllDigit d) (hw : AllWs w) (hr : StopAt isDigit rest) :
    pInt (w ++ (d ++ rest)) = some (digitsVal d, rest) := by
  unfold pInt
  rw [skipWs_ws hw]
  cases d with
  | nil => exact absurd rfl hne
  | cons c d' =>
    have hc : isDigit c = true := hd.1
    have := takeW_append isDigit (c :: d') rest ((allDigit_iff _).1 hd) hr
    simp only [List.cons_append] at this ⊢
    rw [skipWs_cons (digit_not_ws hc), this]

theorem ws_head_wordEnd {w : Str} (hne : w ≠ []) (hw : AllWs w) (s : Str) : wordEnd (w ++ s) = true := by
  cases w with
  | nil => exact absurd rfl hne
  | cons c w => simp [wordEnd, ws_not_alnum hw.1]

theorem atom_head (a : AtomC) (ha : a.WF) (rest : Str) :
    ∃ c r, a.render ++ rest = c :: r ∧ isWs c = false ∧ c ≠ '&' ∧ c ≠ '|' ∧ c ≠ '!' := by
  have tilde : isWs '~' = false ∧ '~' ≠ '&' ∧ '~' ≠ '|' ∧ '~' ≠ '!' := by decide
  cases a with
  | unary c => exact ⟨'~', c ++ rest, by simp [AtomC.render], tilde⟩
  | rex c w a => exact ⟨'~', c ++ (w ++ (a.render ++ rest)), by simp [AtomC.render], tilde⟩
  | int c w d => exact ⟨'~', c ++ (w ++ (d ++ rest)), by simp [AtomC.render], tilde⟩
  | bare a =>
    cases a with
    | word a =>
      obtain ⟨⟨hne, hall⟩, hop⟩ : (a ≠ [] ∧ AllWordCh a) ∧ (true = true → notOpStart a) := ha
      cases a with
      | nil => exact absurd rfl hne
      | cons c a' =>
        obtain ⟨h1, h2, h3⟩ : c ≠ '!' ∧ c ≠ '&' ∧ c ≠ '|' := hop rfl
        exact ⟨c, a' ++ rest, by simp [AtomC.render, Arg.render], wordCh_not_ws hall.1, h2, h3, h1⟩
    | quoted q items =>
      obtain ⟨⟨hq, _⟩, _⟩ := ha
      obtain ⟨_, h2, _, _, h5, h6, h7⟩ := quote_facts hq
      exact ⟨q, renderItems items ++ q :: rest, by simp [AtomC.render, Arg.render], h2, h6, h7, h5⟩

theorem pAtom_atom (a : AtomC) (w rest : Str) (ha : a.WF) (hw : AllWs w) (hf : Fol a.endsWord rest) :
    pAtom (w ++ (a.render ++ rest)) = some (a.ast, rest) := by
  cases a with
  | unary c =>
    have hc : c ∈ Gen.unaryCodes := ha
    have e : skipWs (w ++ (AtomC.render (.unary c) ++ rest)) = '~' :: (c ++ rest) := by
      simp [skipWs_ws hw, AtomC.render, skipWs_cons tilde_not_ws]
    simp only [pAtom, e]
    rw [unary_code c rest (unary_alnum hc) (opDelim_wordEnd hf.1), if_pos hc]
    rfl
  | rex c w' a =>
    obtain ⟨hc, hne, hw', haw⟩ : c ∈ Gen.rexCodes ∧ w' ≠ [] ∧ AllWs w' ∧ a.WF := ha
    have e : skipWs (w ++ (AtomC.render (.rex c w' a) ++ rest)) = '~' :: (c ++ (w' ++ (a.render ++ rest))) := by
      simp [skipWs_ws hw, AtomC.render, skipWs_cons tilde_not_ws]
    have we := ws_head_wordEnd hne hw' (a.render ++ rest)
    have hr : a.isWord = true → Delim rest := fun h => hf.2 (by simpa [AtomC.endsWord] using h)
    simp only [pAtom, e]
    rw [unary_code c _ (rex_alnum hc) we, if_neg (fun h => rex_not_unary c hc c h rfl),
      rex_code c _ (rex_alnum hc) we, if_pos hc, pRegex_arg a w' rest haw hw' hr]
    rfl
  | int c w' d =>
    obtain ⟨hc, hne, hw', hdne, hd⟩ : c ∈ Gen.intCodes ∧ w' ≠ [] ∧ AllWs w' ∧ d ≠ [] ∧ AllDigit d := ha
    have e : skipWs (w ++ (AtomC.render (.int c w' d) ++ rest)) = '~' :: (c ++ (w' ++ (d ++ rest))) := by
      simp [skipWs_ws hw, AtomC.render, skipWs_cons tilde_not_ws]
    have we := ws_head_wordEnd hne hw' (d ++ rest)
    simp only [pAtom, e]
    rw [unary_code c _ (int_alnum hc) we, if_neg (fun h => int_not_unary c hc c h rfl),
      rex_code c _ (int_alnum hc) we, if_neg (fun h => int_not_rex c hc c h rfl),
      int_code c _ (int_alnum hc) we, if_pos hc, pInt_digits d w' rest hdne hd hw' (opDelim_stop_digit hf.1)]
    rfl
  | bare a =>
    have haw : a.WF := ha.1
    obtain ⟨c0, r0, e0, hws, _⟩ := atom_head (.bare a) ha rest
    have hnt : c0 ≠ '~' := by
      cases a with
      | word a =>
        cases a with
        | nil => exact absurd rfl haw.1
        | cons c a' =>
          simp [AtomC.render, Arg.render] at e0
          rw [← e0.1]; exact wordCh_not_tilde haw.2.1
      | quoted q items =>
        simp [AtomC.render, Arg.render] at e0
        rw [← e0.1]; exact (quote_facts haw.1).2.2.2.1
    have e : skipWs (w ++ (AtomC.render (.bare a) ++ rest)) = a.render ++ rest := by
      rw [skipWs_ws hw, e0, skipWs_cons hws]; exact e0.symm
    have hr : a.isWord = true → Delim rest := fun h => hf.2 (by simpa [AtomC.endsWord] using h)
    have e1 : a.render ++ rest = c0 :: r0 := e0
    rw [pAtom_no_code _ (by rw [e, e1]; exact fun c' => tryCode_not_tilde c' hnt r0), e]
    have pr := pRegex_arg a [] rest haw trivial hr
    rw [List.nil_append] at pr
    rw [pr]
    rfl

theorem pAtom_skip (s : Str) : pAtom (skipWs s) = pAtom s := by
  simp [pAtom, skipWs_idem]

theorem lit_skip (c : Char) (s : Str) : lit c (skipWs s) = lit c s := by
  simp [lit, skipWs_idem]

theorem pAtom_none_nil : pAtom [] = none := by
  rw [pAtom_no_code [] tryCode_nil]
  rfl

theorem pAtom_none_cons {c : Char} (r0 : Str) (hws : isWs c = false) (h1 : c ≠ '~') (h2 : isWordCh c = false)
    (h3 : c ≠ '"') (h4 : c ≠ '\'') : pAtom (c :: r0) = none := by
  rw [pAtom_no_code _ (by rw [skipWs_cons hws]; exact fun c' => tryCode_not_tilde c' h1 r0)]
  simp [skipWs_cons hws, pRegex, h2, h3, h4]

theorem pL0_skip (g : P) (s : Str) : pL0 g (skipWs s) = pL0 g s := by
  simp [pL0, pAtom_skip, lit_skip]

theorem pL0_ws (g : P) {w : Str} (hw : AllWs w) (s : Str) : pL0 g (w ++ s) = pL0 g s := by
  rw [← pL0_skip g (w ++ s), skipWs_ws hw, pL0_skip]

theorem pL1_skip (g : P) (s : Str) : pL1 g (skipWs s) = pL1 g s := by
  induction s with
  | nil => rfl
  | cons c s ih =>
    cases h : isWs c with
    | true => simp [skipWs, h, pL1, ih]
    | false => simp [skipWs, h]

theorem pL1_ws (g : P) {w : Str} (hw : AllWs w) (s : Str) : pL1 g (w ++ s) = pL1 g s := by
  rw [← pL1_skip g (w ++ s), skipWs_ws hw, pL1_skip]

theorem pL1_operand (g : P) {c : Char} (r : Str) (hws : isWs c = false) (hne : c ≠ '!') :
    pL1 g (c :: r) = pL0 g (c :: r) := by
  simp [pL1, hws, hne]

theorem pL1_bang (g : P) (s : Str) (t : Ast) (r : Str) (h : pL1 g s = some (t, r)) :
    pL1 g ('!' :: s) = some (Ast.not t, r) := by
  have : isWs '!' = false := by decide
  simp [pL1, this, h]

theorem pL0_none_nil (g : P) : pL0 g [] = none := by
  simp [pL0, pAtom_none_nil, lit, skipWs]

theorem pL0_none_close (g : P) (r : Str) : pL0 g (')' :: r) = none := by
  have h : pAtom (')' :: r) = none :=
    pAtom_none_cons r (by decide) (by decide) (by decide) (by decide) (by decide)
  have l : lit '(' (')' :: r) = none := lit_miss (by decide) (by decide) r
  simp [pL0, h, l]

theorem pL0_group (g : P) (s : Str) (t : Ast) {w : Str} (hw : AllWs w) (rest : Str)
    (h : g s = some (t, w ++ ')' :: rest)) : pL0 g ('(' :: s) = some (t, rest) := by
  have hat : pAtom ('(' :: s) = none :=
    pAtom_none_cons _ (by decide) (by decide) (by decide) (by decide) (by decide)
  have hl : lit '(' ('(' :: s) = some s := lit_hit (by decide) _
  have hr : lit ')' (w ++ ')' :: rest) = some rest := by
    rw [lit_ws hw]; exact lit_hit (by decide) _
  simp [pL0, hat, hl, h, hr]

theorem pL1_none_closed (g : P) (rest : Str) (h : Closed rest) : pL1 g rest = none := by
  rw [← pL1_skip]
  rcases h with h | ⟨r, h⟩
  · rw [h]; simp [pL1, pL0_none_nil]
  · rw [h, pL1_operand g r (by decide) (by decide), pL0_none_close]

theorem chainP_none (mk : List Ast → Ast) (op : Option Char) (item : P) (s : Str) (h : item s = none) :
    chainP mk op item s = none := by
  simp [chainP, h]

theorem pL3_none_closed (g : P) (rest : Str) (h : Closed rest) : pL3 g rest = none :=
  chainP_none _ _ _ _ (chainP_none _ _ _ _ (pL1_none_closed g rest h))

theorem closed_noOp {rest : Str} (h : Closed rest) (c : Char) (hc : c ≠ ')') : NoOp c rest := by
  unfold NoOp lit
  rcases h with h | ⟨r, h⟩
  · rw [h]
  · rw [h]; simp [Ne.symm hc]

/-- the repetition stops at once -/
def Stops (op : Option Char) (item : P) (rest : Str) : Prop :=
  litOpt op rest = none ∨ ∃ s1, litOpt op rest = some s1 ∧ item s1 = none

theorem loopP_stop (op : Option Char) (item : P) (rest : Str) (h : Stops op item rest) :
    ∀ n, loopP op item n rest = ([], rest) := by
  intro n
  cases n with
  | zero => rfl
  | succ n =>
    rcases h with h | ⟨s1, h1, h2⟩
    · simp [loopP, h]
    · simp [loopP, h1, h2]

theorem chainP_single (mk : List Ast → Ast) (op : Option Char) (item : P) (s : Str) (t : Ast) (rest : Str)
    (h : item s = some (t, rest)) (hs : Stops op item rest) : chainP mk op item s = some (t, rest) := by
  simp [chainP, h, loopP_stop op item rest hs]

def parseAt : Nat → Nat → P
  | 0, n => pL0 (pExpr n)
  | 1, n => pL1 (pExpr n)
  | 2, n => pL2 (pExpr n)
  | 3, n => pL3 (pExpr n)
  | _, n => pBody (pExpr n)

/-- what must follow an expression parsed at level `k` for the parser to stop exactly there -/
def Cond (k : Nat) (b : Bool) (rest : Str) : Prop :=
  Fol b rest ∧ (2 ≤ k → NoOp '&' rest) ∧ (3 ≤ k → NoOp '|' rest) ∧ (4 ≤ k → Closed rest)

theorem Cond.mono {j k : Nat} {b : Bool} {rest : Str} (hjk : j ≤ k) (h : Cond k b rest) : Cond j b rest :=
  ⟨h.1, fun hj => h.2.1 (by omega), fun hj => h.2.2.1 (by omega), fun hj => h.2.2.2 (by omega)⟩

/-- one level up: the looser operator is not there, so the same tree comes back -/
theorem lift1 (n : Nat) (s : Str) (t : Ast) (rest : Str) (b : Bool) (j : Nat) (hj : j < 4)
    (hstart : j = 0 → ∃ c r, skipWs s = c :: r ∧ isWs c = false ∧ c ≠ '!')
    (h : parseAt j n s = some (t, rest)) (hc : Cond (j + 1) b rest) : parseAt (j + 1) n s = some (t, rest) := by
  match j, hj with
  | 0, _ =>
    obtain ⟨c, r, e, hws, hne⟩ := hstart rfl
    show pL1 (pExpr n) s = some (t, rest)
    rw [← pL1_skip, e, pL1_operand _ r hws hne, ← e, pL0_skip]
    exact h
  | 1, _ =>
    exact chainP_single _ _ _ s t rest h (Or.inl (hc.2.1 (by omega)))
  | 2, _ =>
    exact chainP_single _ _ _ s t rest h (Or.inl (hc.2.2.1 (by omega)))
  | 3, _ =>
    exact chainP_single _ _ _ s t rest h
      (Or.inr ⟨rest, rfl, pL3_none_closed _ rest (hc.2.2.2 (by omega))⟩)

theorem parseAt_ws (k n : Nat) {w : Str} (hw : AllWs w) (s : Str) : parseAt k n (w ++ s) = parseAt k n s := by
  have h1 : pL1 (pExpr n) (w ++ s) = pL1 (pExpr n) s := pL1_ws _ hw s
  have h2 : pL2 (pExpr n) (w ++ s) = pL2 (pExpr n) s := by simp [pL2, chainP, h1]
  have h3 : pL3 (pExpr n) (w ++ s) = pL3 (pExpr n) s := by simp [pL3, chainP, h2]
  have h4 : pBody (pExpr n) (w ++ s) = pBody (pExpr n) s := by simp [pBody, chainP, h3]
  match k with
  | 0 => exact pL0_ws _ hw s
  | 1 => exact h1
  | 2 => exact h2
  | 3 => exact h3
  | _ + 4 => exact h4

theorem parseAt_chain (kd : Kind) (n : Nat) :
    parseAt kd.level n = chainP kd.mk kd.op (parseAt (kd.level - 1) n) := by
  cases kd <;> rfl

theorem kind_level (kd : Kind) : 2 ≤ kd.level ∧ kd.level ≤ 4 := by
  cases kd <;> simp [Kind.level]

theorem C.level_le_four (e : C) : e.level ≤ 4 := by
  cases e with
  | chain k _ _ => exact (kind_level k).2
  | _ => simp [C.level]

theorem C.start : (e : C) → e.WF → ∀ rest : Str,
    ∃ c r, skipWs (e.render ++ rest) = c :: r ∧ isWs c = false ∧ c ≠ '&' ∧ c ≠ '|' ∧ (e.level = 0 → c ≠ '!')
  | .atom w a, h, rest => by
    simp only [C.WF] at h
    obtain ⟨c, r, e, hws, h1, h2, h3⟩ := atom_head a h.2 rest
    refine ⟨c, r, ?_, hws, h1, h2, fun _ => h3⟩
    simp only [C.render, List.append_assoc]
    rw [skipWs_ws h.1, e, skipWs_cons hws]
  | .group w1 e w2, h, rest => by
    simp only [C.WF] at h
    refine ⟨'(', e.render ++ (w2 ++ [')']) ++ rest, ?_, by decide, by decide, by decide, fun _ => by decide⟩
    simp only [C.render, List.append_assoc, List.cons_append]
    rw [skipWs_ws h.1, skipWs_cons (by decide)]
  | .not w e, h, rest => by
    simp only [C.WF] at h
    refine ⟨'!', e.render ++ rest, ?_, by decide, by decide, by decide, fun h0 => by simp [C.level] at h0⟩
    simp only [C.render, List.append_assoc, List.cons_append]
    rw [skipWs_ws h.1, skipWs_cons (by decide)]
  | .chain k f r, h, rest => by
    simp only [C.WF] at h
    obtain ⟨c, r0, e, hws, h1, h2, _⟩ := C.start f h.2.1 (r.render k ++ rest)
    refine ⟨c, r0, ?_, hws, h1, h2, fun h0 => ?_⟩
    · simp only [C.render, List.append_assoc]; exact e
    · have := (kind_level k).1; simp [C.level] at h0; omega

theorem C.render_ne_nil (e : C) (h : e.WF) : 1 ≤ e.render.length := by
  obtain ⟨c, r, e0, _⟩ := C.start e h []
  cases hr : e.render with
  | nil => rw [hr] at e0; simp [skipWs] at e0
  | cons _ _ => simp

/-- behind white space, where an unquoted word may end and only `)` or nothing is ahead, every level may stop -/
theorem cond_ws (b : Bool) {w r : Str} (hw : AllWs w) (hd : Delim r) (hcl : Closed r) : Cond 4 b (w ++ r) := by
  have hcl' : Closed (w ++ r) := by unfold Closed; rwa [skipWs_ws hw]
  have hd' : Delim (w ++ r) := by
    cases w with
    | nil => exact hd
    | cons c w => exact Or.inl hw.1
  have ho : OpDelim (w ++ r) := by
    cases hwr : w ++ r with
    | nil => trivial
    | cons c x => rw [hwr] at hd'; exact hd'.elim Or.inl (fun h => Or.inr (Or.inl h))
  exact ⟨⟨ho, fun _ => hd'⟩, fun _ => closed_noOp hcl' _ (by decide), fun _ => closed_noOp hcl' _ (by decide), fun _ => hcl'⟩

/-- between two items of a run: what follows the earlier item lets it be parsed one level tighter -/
theorem cond_tail (kd : Kind) (b : Bool) (r : CL) (hwf : r.WF kd b) (rest : Str)
    (hc : Cond kd.level (r.endsWord b) rest) : Cond (kd.level - 1) b (r.render kd ++ rest) := by
  cases r with
  | nil =>
    simp only [CL.render, CL.endsWord, List.nil_append] at hc ⊢
    exact Cond.mono (by omega) hc
  | cons w e r' =>
    simp only [CL.WF] at hwf
    obtain ⟨hw, hne, _, he, _⟩ := hwf
    simp only [CL.render, List.append_assoc]
    have hfol : Fol b (w ++ (kd.opStr ++ (e.render ++ (r'.render kd ++ rest)))) := by
      constructor
      · cases w with
        | nil =>
          cases kd with
          | and => exact Or.inr (Or.inr (Or.inl rfl))
          | or => exact Or.inr (Or.inr (Or.inr rfl))
          | juxt => exact absurd rfl (hne (Or.inr rfl))
        | cons c w => exact Or.inl hw.1
      · intro hb
        cases w with
        | nil => exact absurd rfl (hne (Or.inl hb))
        | cons c w => exact Or.inl hw.1
    obtain ⟨c, r0, e0, hws, h1, h2, _⟩ := C.start e he (r'.render kd ++ rest)
    refine ⟨hfol, fun h2k => ?_, fun h3k => ?_, fun h4k => ?_⟩
    · unfold NoOp
      rw [lit_ws hw]
      cases kd with
      | and => simp [Kind.level] at h2k
      | or => exact lit_miss (by decide) (by decide) _
      | juxt =>
        simp only [Kind.opStr, List.nil_append]
        unfold lit; rw [e0]; simp [h1]
    · unfold NoOp
      rw [lit_ws hw]
      cases kd with
      | and => simp [Kind.level] at h3k
      | or => simp [Kind.level] at h3k
      | juxt =>
        simp only [Kind.opStr, List.nil_append]
        unfold lit; rw [e0]; simp [h2]
    · have := (kind_level kd).2; omega

/-- from the own level of an expression to every looser level -/
theorem atLevel (e : C) (he : e.WF)
    (hmain : ∀ (n : Nat) (rest : Str), e.render.length ≤ n → Cond e.level e.endsWord rest →
      parseAt e.level n (e.render ++ rest) = some (e.ast, rest)) :
    ∀ (k n : Nat) (rest : Str), e.level ≤ k → k ≤ 4 → e.render.length ≤ n → Cond k e.endsWord rest →
      parseAt k n (e.render ++ rest) = some (e.ast, rest) := by
  intro k n rest hk
  induction hk with
  | refl => intro _ hn hc; exact hmain n rest hn hc
  | @step k hk ih =>
    intro h4 hn hc
    obtain ⟨c, r, e0, hws, _, _, hbang⟩ := C.start e he rest
    exact lift1 n _ _ rest _ k (by omega) (fun h0 => ⟨c, r, e0, hws, hbang (Nat.le_zero.mp (h0 ▸ hk))⟩)
      (ih (by omega) hn (Cond.mono (by omega) hc)) hc

theorem litOpt_hit (kd : Kind) {w : Str} (hw : AllWs w) (X : Str) :
    ∃ Y, litOpt kd.op (w ++ (kd.opStr ++ X)) = some Y ∧ ∀ k n, parseAt k n Y = parseAt k n X := by
  cases kd with
  | and => exact ⟨X, by simp [Kind.op, Kind.opStr, litOpt, lit_ws hw, lit_hit (show isWs '&' = false by decide)], fun _ _ => rfl⟩
  | or => exact ⟨X, by simp [Kind.op, Kind.opStr, litOpt, lit_ws hw, lit_hit (show isWs '|' = false by decide)], fun _ _ => rfl⟩
  | juxt => exact ⟨w ++ X, by simp [Kind.op, Kind.opStr, litOpt], fun k n => parseAt_ws k n hw X⟩

mutual
/-- the parser reads a well-formed rendering back, at the level of its outermost construct -/
theorem main : (e : C) → e.WF → ∀ (n : Nat) (rest : Str), e.render.length ≤ n → Cond e.level e.endsWord rest →
    parseAt e.level n (e.render ++ rest) = some (e.ast, rest)
  | .atom w a, h, n, rest, _, hc => by
    simp only [C.WF] at h
    simp only [C.render, C.level, C.ast, C.endsWord, List.append_assoc] at hc ⊢
    show pL0 (pExpr n) _ = _
    simp [pL0, pAtom_atom a w rest h.2 h.1 hc.1]
  | .group w1 e w2, h, n, rest, hn, _ => by
    simp only [C.WF] at h
    obtain ⟨hw1, hw2, he⟩ := h
    have hlen : e.render.length + 2 ≤ n := by
      simp only [C.render, List.length_append, List.length_cons, List.length_nil] at hn; omega
    cases n with
    | zero => omega
    | succ m =>
      have ih := atLevel e he (main e he) 4 m (w2 ++ ')' :: rest) e.level_le_four (Nat.le_refl _) (by omega)
        (cond_ws _ hw2 (Or.inr rfl) (Or.inr ⟨rest, skipWs_cons (by decide) _⟩))
      have e1 : (C.group w1 e w2).render ++ rest = w1 ++ ('(' :: (e.render ++ (w2 ++ ')' :: rest))) := by
        simp [C.render]
      show pL0 (pExpr (m + 1)) _ = _
      rw [e1, pL0_ws _ hw1]
      exact pL0_group _ _ _ hw2 rest ih
  | .not w e, h, n, rest, hn, hc => by
    simp only [C.WF] at h
    obtain ⟨hw, hl, he⟩ := h
    have hlen : e.render.length ≤ n := by
      simp only [C.render, List.length_append, List.length_cons] at hn; omega
    have ih := atLevel e he (main e he) 1 n rest hl (by omega) hlen (by simpa [C.endsWord, C.level] using hc)
    have e1 : (C.not w e).render ++ rest = w ++ ('!' :: (e.render ++ rest)) := by simp [C.render]
    show pL1 (pExpr n) _ = _
    rw [e1, pL1_ws _ hw]
    exact pL1_bang _ _ _ _ ih
  | .chain kd f r, h, n, rest, hn, hc => by
    simp only [C.WF] at h
    obtain ⟨hfl, hf, hnil, hr⟩ := h
    have hlen : f.render.length + (r.render kd).length ≤ n := by
      simp only [C.render, List.length_append] at hn; omega
    simp only [C.level, C.endsWord] at hc
    have ihf := atLevel f hf (main f hf) (kd.level - 1) n (r.render kd ++ rest) (by omega)
      (by have := (kind_level kd).2; omega) (by omega) (cond_tail kd f.endsWord r hr rest hc)
    have ihr := mainL r kd f.endsWord hr n (r.render kd ++ rest).length rest (by omega)
      (by simp) hc
    have e1 : (C.chain kd f r).render ++ rest = f.render ++ (r.render kd ++ rest) := by simp [C.render]
    simp only [C.level]
    rw [e1, parseAt_chain]
    cases r with
    | nil => simp [CL.isNil] at hnil
    | cons w e r' =>
      simp only [CL.asts] at ihr
      simp only [chainP, ihf, ihr, C.ast, CL.asts]
theorem mainL : (l : CL) → (kd : Kind) → (prev : Bool) → l.WF kd prev → ∀ (n fuel : Nat) (rest : Str),
    (l.render kd).length ≤ n → (l.render kd).length ≤ fuel → Cond kd.level (l.endsWord prev) rest →
    loopP kd.op (parseAt (kd.level - 1) n) fuel (l.render kd ++ rest) = (l.asts, rest)
  | .nil, kd, prev, _, n, fuel, rest, _, _, hc => by
    simp only [CL.render, CL.asts, List.nil_append]
    apply loopP_stop
    cases kd with
    | and => exact Or.inl (hc.2.1 (by simp [Kind.level]))
    | or => exact Or.inl (hc.2.2.1 (by simp [Kind.level]))
    | juxt => exact Or.inr ⟨rest, rfl, pL3_none_closed _ rest (hc.2.2.2 (by simp [Kind.level]))⟩
  | .cons w e r', kd, prev, h, n, fuel, rest, hn, hfuel, hc => by
    simp only [CL.WF] at h
    obtain ⟨hw, _, hel, he, hr'⟩ := h
    have hpos := C.render_ne_nil e he
    have hlen : w.length + kd.opStr.length + e.render.length + (r'.render kd).length ≤ n := by
      simp only [CL.render, List.length_append] at hn; omega
    have hlenf : w.length + kd.opStr.length + e.render.length + (r'.render kd).length ≤ fuel := by
      simp only [CL.render, List.length_append] at hfuel; omega
    simp only [CL.endsWord] at hc
    have ihe := atLevel e he (main e he) (kd.level - 1) n (r'.render kd ++ rest) (by omega)
      (by have := (kind_level kd).2; omega) (by omega) (cond_tail kd e.endsWord r' hr' rest hc)
    cases fuel with
    | zero => omega
    | succ f =>
      have ihr := mainL r' kd e.endsWord hr' n f rest (by omega) (by omega) hc
      obtain ⟨Y, hY, hP⟩ := litOpt_hit kd hw (e.render ++ (r'.render kd ++ rest))
      have e1 : (CL.cons w e r').render kd ++ rest = w ++ (kd.opStr ++ (e.render ++ (r'.render kd ++ rest))) := by
        simp [CL.render]
      rw [e1]
      simp [loopP, hY, hP, ihe, ihr, CL.asts]
end

end MitmVerif.C42
