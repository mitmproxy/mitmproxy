/-
  C42 — evaluation as a Boolean formula over the leaves: `evalV v t` is the formula `t` stands for under a valuation
  `v` of its leaves; `eval` is `evalV` under "leaf ↦ its own verdict", and `evalV` reads `v` on the leaves only.
-/
import MitmVerif.Model.C42
namespace MitmVerif.C42

mutual
/-- the leaves (`_Action` objects) of a tree, left to right -/
def leaves : Ast → List Ast
  | .unary c => [.unary c]
  | .rex c a => [.rex c a]
  | .int c n => [.int c n]
  | .not t => leaves t
  | .and l => leavesL l
  | .or l => leavesL l
def leavesL : List Ast → List Ast
  | [] => []
  | t :: l => leaves t ++ leavesL l
end

mutual
/-- the Boolean formula a tree stands for, under a valuation `v` of its leaves -/
def evalV (v : Ast → Bool) : Ast → Bool
  | .unary c => v (.unary c)
  | .rex c a => v (.rex c a)
  | .int c n => v (.int c n)
  | .not t => !evalV v t
  | .and l => allV v l
  | .or l => anyV v l
def allV (v : Ast → Bool) : List Ast → Bool
  | [] => true
  | t :: l => evalV v t && allV v l
def anyV (v : Ast → Bool) : List Ast → Bool
  | [] => false
  | t :: l => evalV v t || anyV v l
end

theorem evalAll_eq {Flow : Type} (sem : Sem Flow) (f : Flow) (l : List Ast) :
    evalAll sem l f = l.all (fun t => eval sem t f) := by
  induction l with
  | nil => simp [evalAll]
  | cons t l ih => simp [evalAll, ih]

theorem evalAny_eq {Flow : Type} (sem : Sem Flow) (f : Flow) (l : List Ast) :
    evalAny sem l f = l.any (fun t => eval sem t f) := by
  induction l with
  | nil => simp [evalAny]
  | cons t l ih => simp [evalAny, ih]

mutual
theorem eval_evalV {Flow : Type} (sem : Sem Flow) (f : Flow) : (t : Ast) →
    eval sem t f = evalV (fun a => eval sem a f) t
  | .unary c => by simp [evalV]
  | .rex c a => by simp [evalV]
  | .int c n => by simp [evalV]
  | .not t => by simp [eval, evalV, eval_evalV sem f t]
  | .and l => by simp only [eval, evalV]; exact evalAll_allV sem f l
  | .or l => by simp only [eval, evalV]; exact evalAny_anyV sem f l
theorem evalAll_allV {Flow : Type} (sem : Sem Flow) (f : Flow) : (l : List Ast) →
    evalAll sem l f = allV (fun a => eval sem a f) l
  | [] => by simp [evalAll, allV]
  | t :: l => by simp only [evalAll, allV]; rw [← eval_evalV sem f t, ← evalAll_allV sem f l]
theorem evalAny_anyV {Flow : Type} (sem : Sem Flow) (f : Flow) : (l : List Ast) →
    evalAny sem l f = anyV (fun a => eval sem a f) l
  | [] => by simp [evalAny, anyV]
  | t :: l => by simp only [evalAny, anyV]; rw [← eval_evalV sem f t, ← evalAny_anyV sem f l]
end

mutual
theorem evalV_congr (v v' : Ast → Bool) : (t : Ast) → (∀ a ∈ leaves t, v a = v' a) → evalV v t = evalV v' t
  | .unary c, h => by simpa [evalV, leaves] using h
  | .rex c a, h => by simpa [evalV, leaves] using h
  | .int c n, h => by simpa [evalV, leaves] using h
  | .not t, h => by simp only [evalV]; rw [evalV_congr v v' t (by simpa [leaves] using h)]
  | .and l, h => by simp only [evalV]; exact allV_congr v v' l (by simpa [leaves] using h)
  | .or l, h => by simp only [evalV]; exact anyV_congr v v' l (by simpa [leaves] using h)
theorem allV_congr (v v' : Ast → Bool) : (l : List Ast) → (∀ a ∈ leavesL l, v a = v' a) → allV v l = allV v' l
  | [], _ => rfl
  | t :: l, h => by
    simp only [allV]
    rw [evalV_congr v v' t (fun a ha => h a (by simp [leavesL, ha])),
        allV_congr v v' l (fun a ha => h a (by simp [leavesL, ha]))]
theorem anyV_congr (v v' : Ast → Bool) : (l : List Ast) → (∀ a ∈ leavesL l, v a = v' a) → anyV v l = anyV v' l
  | [], _ => rfl
  | t :: l, h => by
    simp only [anyV]
    rw [evalV_congr v v' t (fun a ha => h a (by simp [leavesL, ha])),
        anyV_congr v v' l (fun a ha => h a (by simp [leavesL, ha]))]
end

end MitmVerif.C42
