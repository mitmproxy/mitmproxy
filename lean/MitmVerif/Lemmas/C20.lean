/-
  C20 — the model's functions by equations.

  `parse_http_basic_auth`: `str.split()` on words and separators (`splitWs_word_sep`, `splitWs_word`), the cut at the
  first colon, which is `splitFirst 58` of Lemmas/Split (`splitColon1_eq`), in both directions (`splitColon1_first`,
  `splitColon1_some`; `splitColonAll_some` for the split at every colon), and the parser on a value that splits into a
  scheme and a token (`parseBasic_of_split`).

  One step of the connection machine, seen from the connection it arrives on: with a validator configured, `step`
  decides from the connection's own phase, the event and "is this connection memoised" alone (`cstep`), and touches
  the state in one way: the connection's phase is set and the connection is memoised or not (`State.upd`).  `step_eq`
  says so; everything about steps and histories is proved from it.
-/
import MitmVerif.Model.C20
import MitmVerif.Lemmas.Split
namespace MitmVerif.C20

theorem splitWsAux_word (sp : Nat → Bool) (w : Text) (hw : ∀ c ∈ w, sp c = false) :
    ∀ (rest cur : Text), splitWsAux sp (w ++ rest) cur = splitWsAux sp rest (w.reverse ++ cur) := by
  induction w with
  | nil => intro rest cur; simp
  | cons c cs ih =>
    intro rest cur
    have hc : sp c = false := hw c (by simp)
    have hcs : ∀ x ∈ cs, sp x = false := fun x hx => hw x (by simp [hx])
    simp only [List.cons_append, splitWsAux, hc, Bool.false_eq_true, if_false]
    rw [ih hcs]
    simp

theorem splitWs_word_sep (sp : Nat → Bool) {w : Text} (hw : ∀ c ∈ w, sp c = false) (hne : w ≠ []) {s : Nat}
    (hs : sp s = true) (rest : Text) : splitWs sp (w ++ s :: rest) = w :: splitWs sp rest := by
  have h1 : (w.reverse ++ ([] : Text)).isEmpty = false := by simpa using hne
  rw [splitWs, splitWsAux_word sp w hw, splitWsAux, if_pos hs, h1]
  simp [splitWs]

theorem splitWs_word (sp : Nat → Bool) {w : Text} (hw : ∀ c ∈ w, sp c = false) (hne : w ≠ []) :
    splitWs sp w = [w] := by
  have h := splitWsAux_word sp w hw [] []
  rw [List.append_nil] at h
  simp [splitWs, h, splitWsAux, hne]

theorem splitColon1_eq (s : Text) : splitColon1 s = splitFirst 58 s := by
  induction s with
  | nil => rfl
  | cons c r ih => rw [splitColon1, ih, splitFirst]

theorem splitColon1_first (u p : Text) (hu : ∀ c ∈ u, c ≠ 58) :
    splitColon1 (u ++ 58 :: p) = some (u, p) := by
  rw [splitColon1_eq, splitFirst_append (fun h => hu _ h rfl)]

theorem parseBasic_of_split (L : Lib) {s scheme tok u p : Text} (hs : splitWs L.isSpace s = [scheme, tok])
    (hl : scheme.map L.lower = basicWord) (hsur : tok.any isSurrogate = false)
    (hd : L.decodeCred tok = some (u ++ 58 :: p)) (hu : ∀ c ∈ u, c ≠ 58) : parseBasic L s = some (u, p) := by
  unfold parseBasic parseBasicWith
  rw [hs]
  simp [hl, hsur, hd, splitColon1_first u p hu]

theorem splitColon1_some {s u p : Text} (h : splitColon1 s = some (u, p)) : s = u ++ 58 :: p ∧ ∀ c ∈ u, c ≠ 58 := by
  rw [splitColon1_eq] at h
  obtain ⟨hs, hu⟩ := splitFirst_some h
  exact ⟨hs, fun c hc h58 => hu (h58 ▸ hc)⟩

/-- `s.split(":")` unpacked into exactly two parts: one colon in the whole text -/
theorem splitColonAll_some {s u p : Text} (h : splitColonAll s = some (u, p)) :
    s = u ++ 58 :: p ∧ (∀ c ∈ u, c ≠ 58) ∧ ∀ c ∈ p, c ≠ 58 := by
  unfold splitColonAll at h
  cases hc : splitColon1 s with
  | none => simp [hc] at h
  | some up =>
    obtain ⟨hs, hu⟩ := splitColon1_some hc
    simp only [hc] at h
    split at h
    · cases h
    · rename_i hnc
      cases h
      exact ⟨hs, hu, fun c hcm hc58 => hnc (by simpa [hc58] using hcm)⟩

theorem hdrDel_none (hs : List Hdr) (n : Bytes) : ∀ h ∈ hdrDel hs n, nameIs n h = false := by
  intro h hh
  simp only [hdrDel, List.mem_filter, Bool.not_eq_eq_eq_not, Bool.not_true] at hh
  exact hh.2

/-- what an event does on its connection: new phase, "memoise the connection", outcome.
    `known`: the connection is in `authenticated` already.  Matched by phase and then by event, not on the pair as in
    `step`: the cases do not overlap, and a case analysis meets no pile of negated patterns. -/
def cstep (L : Lib) (v : Validator) (m : Mode) (known : Bool) (p : Phase) (e : Ev) : Phase × Bool × Out :=
  match p with
  | .closed => (.closed, false, .ignored)
  | .http t =>
    match e with
    | .req connect big hs =>
      if !connect && big then (.closed, false, .tooLarge)
      else if connect then
        if m.isHttpProxy && !t then
          if credsOk L v m hs then (.http true, true, .tunnel) else (.http t, false, .deny (authCode m))
        else (.closed, false, .invalid)
      else if known then (.http t, false, .fwd hs)
      else if credsOk L v m hs then (.http t, false, .fwd (hdrDel hs (authName m)))
      else (.http t, false, .deny (authCode m))
    | _ => (.closed, false, .unmodelled)
  | .sGreet =>
    match e with
    | .sGreet ms => if ms.contains 2 then (.sAuth, false, .sMethod 2) else (.closed, false, .sNoMethod)
    | _ => (.closed, false, .unmodelled)
  | .sAuth =>
    match e with
    | .sAuth u p =>
      if v.accepts L (L.sockDecode u) (L.sockDecode p) then (.sConnect, true, .sAuthOk)
      else (.closed, false, .sAuthFail)
    | _ => (.closed, false, .unmodelled)
  | .sConnect =>
    match e with
    | .sConnect => (.http true, false, .sConnected)
    | _ => (.closed, false, .unmodelled)

/-- the state after connection `cid` has moved to phase `d.1`, memoised if `d.2.1` -/
def State.upd (σ : State) (cid : Nat) (d : Phase × Bool × Out) : State :=
  ({ σ with authd := if d.2.1 then cid :: σ.authd else σ.authd }).setPhase cid d.1

theorem State.upd_keep {σ : State} {cid : Nat} {p : Phase} (hp : σ.phase cid = p) (o : Out) :
    σ.upd cid (p, false, o) = σ := by
  subst hp
  obtain ⟨a, ph⟩ := σ
  simp only [State.upd, State.setPhase, State.mk.injEq]
  exact ⟨rfl, funext fun c => by split <;> simp [*]⟩

theorem State.mem_upd_authd {σ : State} {cid c : Nat} {d : Phase × Bool × Out} :
    c ∈ (σ.upd cid d).authd ↔ c ∈ σ.authd ∨ (c = cid ∧ d.2.1 = true) := by
  show c ∈ (if d.2.1 then cid :: σ.authd else σ.authd) ↔ _
  cases d.2.1 <;> simp [or_comm]

theorem State.upd_phase_self (σ : State) (cid : Nat) (d : Phase × Bool × Out) : (σ.upd cid d).phase cid = d.1 :=
  if_pos rfl

theorem State.upd_phase_ne (σ : State) {cid c : Nat} (d : Phase × Bool × Out) (h : c ≠ cid) :
    (σ.upd cid d).phase c = σ.phase c :=
  if_neg h

theorem httpConnectHook_some (L : Lib) (v : Validator) (authd : List Nat) (cid : Nat) (m : Mode) (hs : List Hdr) :
    httpConnectHook L (some v) authd cid m hs =
      if credsOk L v m hs then (cid :: authd, .pass (hdrDel hs (authName m))) else (authd, .deny (authCode m)) := by
  by_cases hc : credsOk L v m hs = true <;> simp [httpConnectHook, authenticateHttp, hc]

theorem requestheadersHook_some (L : Lib) (v : Validator) (authd : List Nat) (cid : Nat) (m : Mode) (hs : List Hdr) :
    requestheadersHook L (some v) authd cid m false hs =
      if authd.contains cid then .pass hs
      else if credsOk L v m hs then .pass (hdrDel hs (authName m)) else .deny (authCode m) := by
  by_cases hc : credsOk L v m hs = true <;> simp [requestheadersHook, authenticateHttp, hc]

theorem step_eq (L : Lib) (v : Validator) (m : Mode) (σ : State) (cid : Nat) (e : Ev) :
    step L (some v) m σ cid e =
      (σ.upd cid (cstep L v m (σ.authd.contains cid) (σ.phase cid) e),
       (cstep L v m (σ.authd.contains cid) (σ.phase cid) e).2.2) := by
  -- where the phase stays and nothing is memoised, `step` returns `σ` itself
  have keep : ∀ {p} {o s : Out}, σ.phase cid = p → (σ, s) = (σ.upd cid (p, false, o), s) :=
    fun hp => congrArg (·, _) (State.upd_keep hp _).symm
  unfold step
  cases hp : σ.phase cid <;> cases e
  case http.req t connect big hs =>
    simp only [cstep, httpConnectHook_some, requestheadersHook_some]
    generalize credsOk L v m hs = c
    generalize σ.authd.contains cid = k
    generalize (m.isHttpProxy && !t) = pl
    cases connect <;> cases big <;> cases pl <;> cases c <;> cases k <;> first | rfl | exact keep hp
  case sGreet.sGreet ms =>
    simp only [cstep, Option.isSome_some, if_true]
    cases ms.contains 2 <;> rfl
  case sAuth.sAuth u p =>
    simp only [cstep, socks5AuthHook]
    cases v.accepts L (L.sockDecode u) (L.sockDecode p) <;> rfl
  case closed.req | closed.sGreet | closed.sAuth | closed.sConnect => exact keep hp
  all_goals rfl

/-- what `cstep` grants it grants for a reason: the connection is memoised only on credentials the validator accepts,
    it enters a tunnel / relay phase only by being memoised now, and nothing is forwarded for a connection that is
    neither memoised, nor presenting accepted credentials, nor an authenticated SOCKS5 client naming its destination -/
theorem cstep_safe (L : Lib) (v : Validator) (m : Mode) (k : Bool) (p : Phase) (e : Ev) :
    ((cstep L v m k p e).2.1 = true → presentsAccepted L v m e = true) ∧
    ((cstep L v m k p e).1 = .http true ∨ (cstep L v m k p e).1 = .sConnect →
      (p = .http true ∨ p = .sConnect) ∨ (cstep L v m k p e).2.1 = true) ∧
    ((cstep L v m k p e).2.2.forwards = true → k = true ∨ presentsAccepted L v m e = true ∨ p = .sConnect) := by
  fun_cases cstep L v m k p e <;> simp [presentsAccepted, Out.forwards, *]

/-- a request is forwarded only as a plain request: verbatim on a memoised connection, without the credential
    fields on one that presents accepted credentials -/
theorem cstep_fwd {L : Lib} {v : Validator} {m : Mode} {k : Bool} {p : Phase} {e : Ev} {hs' : List Hdr}
    (h : (cstep L v m k p e).2.2 = .fwd hs') :
    ∃ hs, e = .req false false hs ∧
      if k then hs' = hs else credsOk L v m hs = true ∧ hs' = hdrDel hs (authName m) := by
  revert h
  fun_cases cstep L v m k p e <;> simp_all

/-- a tunnel is established only by a CONNECT with accepted credentials -/
theorem cstep_tunnel {L : Lib} {v : Validator} {m : Mode} {k : Bool} {p : Phase} {e : Ev}
    (h : (cstep L v m k p e).2.2 = .tunnel) : ∀ c big hs, e = .req c big hs → credsOk L v m hs = true := by
  revert h
  fun_cases cstep L v m k p e <;> simp [*]

/-- an invariant of single steps is an invariant of histories; the step may use that its event occurs in the history -/
theorem finalState_induct (L : Lib) (V : Option Validator) (modes : Nat → Mode) (I : State → Prop) :
    ∀ (es : List (Nat × Ev)), (∀ σ, ∀ x ∈ es, I σ → I (step L V (modes x.1) σ x.1 x.2).1) →
      ∀ σ, I σ → I (finalState L V modes σ es)
  | [], _, _, h => h
  | x :: es, hstep, σ, h =>
    finalState_induct L V modes I es (fun σ y hy => hstep σ y (List.mem_cons_of_mem _ hy)) _
      (hstep σ x List.mem_cons_self h)

/-- the `i`-th answer of a history is the answer of a step from the state its first `i` events lead to -/
theorem run_getElem (L : Lib) (V : Option Validator) (modes : Nat → Mode) :
    ∀ (es : List (Nat × Ev)) (σ : State) (i : Nat),
      (run L V modes σ es)[i]? =
        es[i]?.map fun x => (step L V (modes x.1) (finalState L V modes σ (es.take i)) x.1 x.2).2
  | [], _, _ => rfl
  | _ :: _, _, 0 => rfl
  | x :: es, σ, i + 1 => run_getElem L V modes es (step L V (modes x.1) σ x.1 x.2).1 i

end MitmVerif.C20
