/-
  C09 — the per-address semaphore (asyncio.Semaphore transcribed in Model/C09.lean): counter + holders +
  handed-over waiters is constant, for every schedule including cancellations of queued waiters.
-/
import MitmVerif.Lemmas.C09
namespace MitmVerif.C09

/-- slots of address `a` accounted to task `x`: it holds one, or a releaser has handed it one -/
def fl (a : Nat) (x : Conn) : Nat := (if holdsAt a x then 1 else 0) + (if wokenAt a x then 1 else 0)

structure SemInv (s : St) : Prop where
  cnt : ∀ a, s.semv a + s.conns.countP (holdsAt a) + s.conns.countP (wokenAt a) = s.size
  wl : ∀ a, ∀ j ∈ s.waiters a, ∃ d, s.conns[j]? = some d ∧ d.addr = some a

theorem init_sem (n : Nat) : SemInv (init n) := by
  constructor <;> simp [init]

theorem SemInv.congr {s s' : St} (hi : SemInv s) (h1 : s'.conns = s.conns) (h2 : s'.semv = s.semv)
    (h3 : s'.waiters = s.waiters) (h4 : s'.size = s.size) : SemInv s' := by
  constructor
  · intro a; rw [h1, h2, h4]; exact hi.cnt a
  · intro a j hj; rw [h3] at hj; rw [h1]; exact hi.wl a j hj

/-- task `i` changes state, the counter and the queue change with it: the accounts stay balanced if they are
    balanced locally -/
theorem SemInv.update {s : St} {i : Nat} {c c' : Conn} {v' : Nat → Nat} {w' : Nat → List Nat}
    (hi : SemInv s) (hc : s.conns[i]? = some c) (haddr : c'.addr = c.addr ∨ c.addr = none)
    (hcnt : ∀ a, v' a + fl a c' = s.semv a + fl a c)
    (hwl : ∀ a j, j ∈ w' a → j ∈ s.waiters a ∨ (j = i ∧ c.addr = some a)) :
    SemInv { s with conns := s.conns.set i c', semv := v', waiters := w' } := by
  constructor
  · intro a
    show v' a + (s.conns.set i c').countP (holdsAt a) + (s.conns.set i c').countP (wokenAt a) = s.size
    have h1 := count_set (p := holdsAt a) (c' := c') hc
    have h2 := count_set (p := wokenAt a) (c' := c') hc
    have h3 := hi.cnt a
    have h4 := hcnt a
    simp only [fl] at h4
    omega
  · intro a j hj
    show ∃ d, (s.conns.set i c')[j]? = some d ∧ d.addr = some a
    -- task `i` itself, when `a` is its address
    have self : c.addr = some a → ∃ d, (s.conns.set i c')[i]? = some d ∧ d.addr = some a := by
      intro h
      rcases haddr with haddr | haddr
      · exact ⟨c', by simp [(List.getElem?_eq_some_iff.mp hc).1], haddr ▸ h⟩
      · rw [haddr] at h; cases h
    rcases hwl a j hj with h | ⟨rfl, h⟩
    · obtain ⟨d, hd, hda⟩ := hi.wl a j h
      by_cases hij : i = j
      · subst hij
        rw [hc] at hd; cases hd
        exact self hda
      · exact ⟨d, by simp [hij, hd], hda⟩
    · exact self h

theorem fl_ne {a ad : Nat} {c : Conn} (had : c.addr = some ad) (h : a ≠ ad) : fl a c = 0 := by
  have : (ad == a) = false := by simpa using fun h' => h h'.symm
  simp [fl, holdsAt, wokenAt, had, this]

theorem fl_none {a : Nat} {c : Conn} (had : c.addr = none) : fl a c = 0 := by
  simp [fl, holdsAt, wokenAt, had]

/-- the counter of `ad` and the account of a task dialling `ad` change together: balance at `ad` is balance
    everywhere -/
theorem bal_at {c c' : Conn} {ad : Nat} (had : c.addr = some ad) (had' : c'.addr = some ad) {f : Nat → Nat} {v : Nat}
    (h : v + fl ad c' = f ad + fl ad c) (a : Nat) : upd f ad v a + fl a c' = f a + fl a c := by
  by_cases ha : a = ad
  · subst ha; simpa [upd] using h
  · simp [upd, ha, fl_ne had ha, fl_ne had' ha]

theorem mem_upd {w : Nat → List Nat} {ad : Nat} {l : List Nat} {a j : Nat} (h : j ∈ upd w ad l a) :
    j ∈ w a ∨ (a = ad ∧ j ∈ l) := by
  by_cases ha : a = ad
  · subst ha; exact .inr ⟨rfl, by simpa [upd] using h⟩
  · simp only [upd, ha, if_false] at h; exact .inl h

theorem mem_upd_erase {w : Nat → List Nat} {ad i a j : Nat} (h : j ∈ upd w ad ((w ad).erase i) a) : j ∈ w a := by
  rcases mem_upd h with h | ⟨rfl, h⟩
  · exact h
  · exact List.mem_of_mem_erase h

/-- `_wake_up_next`: the slot moves from the counter to the woken waiter -/
theorem SemInv.wake {s : St} (hi : SemInv s) (ad : Nat) : SemInv (wakeNext s ad) := by
  rcases wakeNext_cases s ad with h | ⟨j, d, hjw, hd, hpc, hv, h⟩ <;> rw [h]
  · exact hi
  · obtain ⟨d', hd', hda⟩ := hi.wl ad j hjw
    rw [hd] at hd'; cases hd'
    refine hi.update (c' := { d with pc := .semWoken }) (w' := s.waiters) hd (.inl rfl)
      (bal_at (c' := { d with pc := .semWoken }) hda hda ?_)
      (fun a j h => .inl h)
    simp [fl, holdsAt, wokenAt, hpc, holding, hda]
    omega

theorem semEffect_plain (s : St) (i : Nat) (c : Conn) (a : Act) (h : ¬ isSemAct c.pc a = true) :
    semEffect s i c a = s := by
  unfold semEffect
  split
  · rfl
  · split <;> simp_all [isSemAct]

theorem SemInv.stepS {s : St} {i : Nat} {c c' : Conn} {a : Act} {cmds : List Cmd}
    (hi : SemInv s) (hc : s.conns[i]? = some c) (h : stepS c a (semGuard s c a) = some (c', cmds)) :
    SemInv (semEffect { s with conns := s.conns.set i c' } i c a) := by
  -- the task's state is replaced; counter and queue stay as they are
  have plain : (c'.addr = c.addr ∨ c.addr = none) → (∀ x, fl x c' = fl x c) →
      SemInv { s with conns := s.conns.set i c' } := fun haddr hfl =>
    hi.update (v' := s.semv) (w' := s.waiters) hc haddr (fun x => by rw [hfl x]) (fun _ _ h => .inl h)
  have hspec := (stepS_spec h).2
  split at hspec
  case isFalse hsem =>
    obtain ⟨haddr, hhold, hwoken⟩ := hspec
    rw [semEffect_plain _ _ _ _ hsem]
    refine plain (haddr.imp_right And.left) fun x => ?_
    have hw : (c'.pc == PC.semWoken) = (c.pc == PC.semWoken) := by rw [Bool.eq_iff_iff]; simp [hwoken]
    rcases haddr with haddr | ⟨hnone, hpre⟩
    · simp [fl, holdsAt, wokenAt, haddr, hhold, hw]
    · -- the address is being set: the task is not inside the semaphore yet
      simp [fl, holdsAt, wokenAt, hnone, hpre, ← hw, holding]
  case isTrue =>
    obtain ⟨hc', hcase⟩ := hspec
    have haddr : c'.addr = c.addr := by rw [hc']
    cases had : c.addr with
    | none =>
      -- no address: the task never reaches the semaphore
      have : semEffect { s with conns := s.conns.set i c' } i c a = { s with conns := s.conns.set i c' } := by
        simp [semEffect, had]
      rw [this]
      exact plain (.inl haddr) fun x => by rw [fl_none had, fl_none (haddr.trans had)]
    | some ad =>
      have upd_self : ∀ {β : Type} (f : Nat → β), upd f ad (f ad) = f := fun f => by
        funext x
        unfold upd
        split
        · rename_i hx; rw [hx]
        · rfl
      rcases hcase with ⟨hpc, rfl, hg, hpc'⟩ | ⟨hpc, rfl, hg, hpc'⟩ | ⟨hpc, rfl, hpc'⟩ | ⟨hpc, rfl, hpc'⟩ |
          ⟨hpc, rfl, hpc'⟩ | ⟨hpc, rfl, hpc'⟩ <;>
        rw [hpc'] at hc' <;> subst hc' <;> simp only [semEffect, had, hpc]
      · -- preSem, semwait: queue
        refine (hi.update (c' := { c with pc := .inSem, addr := some ad }) (v' := upd s.semv ad (s.semv ad))
          (w' := upd s.waiters ad (s.waiters ad ++ [i])) hc (.inl had.symm) (bal_at had rfl ?_) ?_).congr
          rfl (upd_self _).symm rfl rfl
        · simp [fl, holdsAt, wokenAt, hpc, holding]
        · intro a' j hj
          rcases mem_upd hj with hj | ⟨rfl, hj⟩
          · exact .inl hj
          · rcases List.mem_append.mp hj with hj | hj
            · exact .inl hj
            · exact .inr ⟨by simpa using hj, had⟩
      · -- preSem, semacq: not locked, take a slot
        have hv : s.semv ad ≠ 0 := by
          simp [semGuard, had, hpc, locked] at hg
          exact hg.1
        refine hi.update (c' := { c with pc := .inConn, addr := some ad }) (v' := upd s.semv ad (s.semv ad - 1))
          (w' := s.waiters) hc (.inl had.symm) (bal_at had rfl ?_) (fun _ _ h => .inl h)
        simp [fl, holdsAt, wokenAt, hpc, holding, had]
        omega
      · -- semWoken, semacq: resumed with the slot
        refine SemInv.wake ?_ ad
        refine (hi.update (c' := { c with pc := .inConn, addr := some ad }) (v' := upd s.semv ad (s.semv ad))
          (w' := upd s.waiters ad ((s.waiters ad).erase i)) hc (.inl had.symm) (bal_at had rfl ?_) ?_).congr
          rfl (upd_self _).symm rfl rfl
        · simp [fl, holdsAt, wokenAt, hpc, holding, had]
        · exact fun _ _ hj => .inl (mem_upd_erase hj)
      · -- semCancelled, semcancel: leave the queue, the counter is not touched
        refine (hi.update (c' := { c with pc := .preSE .canc, addr := some ad }) (v' := upd s.semv ad (s.semv ad))
          (w' := upd s.waiters ad ((s.waiters ad).erase i)) hc (.inl had.symm) (bal_at had rfl ?_) ?_).congr
          rfl (upd_self _).symm rfl rfl
        · simp [fl, holdsAt, wokenAt, hpc, holding, Mode.held]
        · exact fun _ _ hj => .inl (mem_upd_erase hj)
      · -- semWoken, semcancel: cancelled after the hand-off: the slot goes back
        refine SemInv.wake ?_ ad
        refine hi.update (c' := { c with pc := .preSE .canc, addr := some ad })
          (v' := upd s.semv ad (s.semv ad + 1)) (w' := upd s.waiters ad ((s.waiters ad).erase i)) hc (.inl had.symm)
          (bal_at had rfl ?_) ?_
        · simp [fl, holdsAt, wokenAt, hpc, holding, had, Mode.held]
        · exact fun _ _ hj => .inl (mem_upd_erase hj)
      · -- preRel, semrel: release
        refine SemInv.wake ?_ ad
        refine hi.update (c' := { c with pc := .finishing, addr := some ad })
          (v' := upd s.semv ad (s.semv ad + 1)) (w' := s.waiters) hc (.inl had.symm) (bal_at had rfl ?_)
          (fun _ _ h => .inl h)
        simp [fl, holdsAt, wokenAt, hpc, holding, had]

theorem SemInv.apply {s s' : St} {cmds : List Cmd} (hi : SemInv s) (h : applyCmds s cmds = some s') : SemInv s' := by
  obtain ⟨new, hooks, lo, rfl, hn, _⟩ := applyCmds_spec cmds s s' h
  have hz : ∀ a, new.countP (holdsAt a) = 0 ∧ new.countP (wokenAt a) = 0 := by
    intro a
    constructor <;> rw [List.countP_eq_zero] <;> intro c hc <;> obtain ⟨k, ad, rfl⟩ := hn c hc <;>
      simp [holdsAt, wokenAt, newConn, holding]
  constructor
  · intro a
    show s.semv a + (s.conns ++ new).countP (holdsAt a) + (s.conns ++ new).countP (wokenAt a) = s.size
    rw [List.countP_append, List.countP_append, (hz a).1, (hz a).2]
    exact hi.cnt a
  · intro a j hj
    obtain ⟨d, hd, hda⟩ := hi.wl a j hj
    exact ⟨d, by rw [← hd]; exact List.getElem?_append_left (List.getElem?_eq_some_iff.mp hd).1, hda⟩

theorem regWait_flags (d : Conn) (a : Nat) :
    holdsAt a (regWait d) = holdsAt a d ∧ wokenAt a (regWait d) = wokenAt a d ∧ (regWait d).addr = d.addr := by
  unfold regWait; split <;> simp [holdsAt, wokenAt]

theorem SemInv.preserved {s s' : St} {l : Label} (hi : SemInv s) (h : step s l = some s') : SemInv s' := by
  obtain ⟨s1, cmds, ha, hsize, _, hmove⟩ := step_tasks h
  refine SemInv.apply ?_ ha
  rcases hmove with ⟨h1, h2, h3, _⟩ | ⟨_, rfl⟩ | ⟨_, _, rfl⟩ | ⟨i, a, c, c', hc, hs, rfl⟩ |
      ⟨i, c, rest, hc, ⟨_, rfl⟩ | ⟨_, rfl⟩⟩
  · exact hi.congr h1 h2 h3 hsize
  · -- asyncio.wait registration: addresses and program counters are untouched
    constructor
    · intro a
      show s.semv a + (s.conns.map regWait).countP (holdsAt a) + (s.conns.map regWait).countP (wokenAt a) = s.size
      have e : ∀ p : Conn → Bool, (∀ d, p (regWait d) = p d) → (s.conns.map regWait).countP p = s.conns.countP p :=
        fun p hp => by rw [List.countP_map]; exact List.countP_congr fun d _ => by simp [hp d]
      rw [e _ fun d => (regWait_flags d a).1, e _ fun d => (regWait_flags d a).2.1]
      exact hi.cnt a
    · intro a j hj
      obtain ⟨d, hd, hda⟩ := hi.wl a j hj
      exact ⟨regWait d, by simp [List.getElem?_map, hd], by rw [(regWait_flags d a).2.2]; exact hda⟩
  · exact ⟨hi.cnt, hi.wl⟩
  · exact hi.stepS hc hs
  · exact hi.update (c' := { c with cbs := rest, entry := false }) (v' := s.semv) (w' := s.waiters) hc (.inl rfl)
      (fun _ => rfl) (fun _ _ h => .inl h)
  · exact (hi.update (c' := { c with cbs := rest }) (v' := s.semv) (w' := s.waiters) hc (.inl rfl)
      (fun _ => rfl) (fun _ _ h => .inl h)).congr rfl rfl rfl rfl

theorem Reach.sem {n : Nat} {s : St} (h : Reach n s) : SemInv s := by
  obtain ⟨ls, hl⟩ := h
  exact run_induct (fun _ _ _ hi hs => SemInv.preserved hi hs) ls _ _ (init_sem n) hl

end MitmVerif.C09
