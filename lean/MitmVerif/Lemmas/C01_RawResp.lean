/- status line: `line.split(None, 2)` and the reference reader agree on version and status code -/
import MitmVerif.Lemmas.C01_Raw
namespace MitmVerif.C01
open MitmVerif

theorem splitWs2_two {w1 w2 tail : Bytes} (h1 : w1 ≠ [] ∧ ∀ x ∈ w1, isPyWs x = false)
    (h2 : w2 ≠ [] ∧ ∀ x ∈ w2, isPyWs x = false) (ht : tail = [] ∨ ∃ t', tail = 32 :: t') :
    ∃ r, splitWs2 (w1 ++ 32 :: (w2 ++ tail)) = w1 :: w2 :: r ∧ r.length ≤ 1 := by
  -- a word at the front of a line is what `split` takes off it
  have word : ∀ {w s : Bytes}, (w ≠ [] ∧ ∀ x ∈ w, isPyWs x = false) → (s = [] ∨ ∃ s', s = 32 :: s') →
      lstripBy isPyWs (w ++ s) = w ++ s ∧ (w ++ s).isEmpty = false ∧
      (w ++ s).takeWhile (fun c => !isPyWs c) = w ∧ (w ++ s).dropWhile (fun c => !isPyWs c) = s := by
    intro w s hw hs
    have hnw : ∀ x ∈ w, (!isPyWs x) = true := fun x hx => by simp [hw.2 x hx]
    obtain ⟨c, cs, rfl⟩ := List.exists_cons_of_ne_nil hw.1
    refine ⟨(lstripBy_eq _ _).trans (trimL_id (hw.2 c (by simp))), rfl, ?_⟩
    rcases hs with rfl | ⟨s', rfl⟩
    · simpa using takeWhile_all _ _ hnw
    · rw [List.takeWhile_append_of_pos hnw, List.dropWhile_append_of_pos hnw]
      simp [show isPyWs 32 = true by decide]
  obtain ⟨a1, a2, a3, a4⟩ := word h1 (.inr ⟨w2 ++ tail, rfl⟩)
  obtain ⟨b1, b2, b3, b4⟩ := word h2 ht
  have hstrip : lstripBy isPyWs (32 :: (w2 ++ tail)) = w2 ++ tail := by
    rw [lstripBy, if_pos (by decide), b1]
  simp only [splitWs2, a1, a2, a3, a4, hstrip, b2, b3, b4, Bool.false_eq_true, if_false]
  split
  · exact ⟨[], rfl, by simp⟩
  · exact ⟨[_], rfl, by simp⟩

theorem readResponseLine_of_statusLine {l v reason : Bytes} {st : Nat} {h : RespHead}
    (hs : Ref.statusLine l = some (v, st, reason)) (hr : readResponseLine l = some h) :
    h.version = v ∧ h.status = st := by
  -- version SP three digits, then the end of the line or SP: `split` finds the same version and digits
  have common : ∀ (a b c : UInt8) (tail : Bytes), l.drop 8 = 32 :: ([a, b, c] ++ tail) → (tail = [] ∨ ∃ t', tail = 32 :: t') →
      isDigit a = true → isDigit b = true → isDigit c = true → versionOk (l.take 8) = true →
      h.version = l.take 8 ∧ h.status = natOfDigits [a, b, c] := by
    intro a b c tail hd ht ha hb hc hv
    obtain ⟨r, hsp, hr1⟩ := splitWs2_two (version_no_ws hv) (digits_no_ws ha hb hc) ht
    rw [← hd, List.take_append_drop] at hsp
    unfold readResponseLine at hr
    rw [hsp] at hr
    match r, hr1 with
    | [], _ | [_], _ =>
      dsimp only at hr
      split at hr
      · cases hr; exact ⟨rfl, rfl⟩
      · cases hr
  revert hs
  fun_cases Ref.statusLine l
  case case2 hv sp a b c hd hc =>
    intro hs
    simp only [Option.some.injEq, Prod.mk.injEq, Bool.and_eq_true, decide_eq_true_eq] at hs hc
    obtain ⟨rfl, rfl, rfl⟩ := hs
    obtain ⟨⟨⟨rfl, ha⟩, hb⟩, hcc⟩ := hc
    exact common a b c [] hd (.inl rfl) ha hb hcc (by simpa using hv)
  case case4 hv sp a b c sp2 rsn hd hc =>
    intro hs
    simp only [Option.some.injEq, Prod.mk.injEq, Bool.and_eq_true, decide_eq_true_eq] at hs hc
    obtain ⟨rfl, rfl, rfl⟩ := hs
    obtain ⟨⟨⟨⟨rfl, ha⟩, hb⟩, hcc⟩, rfl⟩ := hc
    exact common a b c (32 :: rsn) hd (.inr ⟨rsn, rfl⟩) ha hb hcc (by simpa using hv)
  all_goals rintro ⟨⟩

end MitmVerif.C01
