/-
  C19 — lemmas about what the NextLayer addon computes from the bytes seen so far (Model/C19.lean up to `nextLayer`):
  the two regex scanners of `_get_host_header` line by line and against the RFC field syntax, `_get_client_hello` and
  `_ignore_connection` under more bytes, the verdict, asking segment by segment (`askSegs`), and the stacks
  `_next_layer` builds.  The connection from the NextLayer on is Lemmas/C19Conn.lean.
  Rests on Lemmas/C13 for the ClientHello: `C13.parse_append` (a parse other than "incomplete" is final) and
  `C13.startsLike_append` (three bytes decide whether data starts like a record).
-/
import MitmVerif.Model.C19
import MitmVerif.Lemmas.C13
import MitmVerif.Lemmas.Strip
namespace MitmVerif.C19
open MitmVerif

theorem startsCI_append_true (lit d q : Bytes) (h : startsCI lit d = true) : startsCI lit (d ++ q) = true := by
  induction lit generalizing d with
  | nil => simp [startsCI]
  | cons p ps ih =>
    cases d with
    | nil => simp [startsCI] at h
    | cons x xs =>
      simp only [startsCI, Bool.and_eq_true, decide_eq_true_eq, List.cons_append] at h ⊢
      exact ⟨h.1, ih xs h.2⟩

theorem startsCI_length (lit d : Bytes) (h : startsCI lit d = true) : lit.length ≤ d.length := by
  induction lit generalizing d with
  | nil => simp
  | cons p ps ih =>
    cases d with
    | nil => simp [startsCI] at h
    | cons x xs =>
      simp only [startsCI, Bool.and_eq_true] at h
      simpa using ih xs h.2

theorem startsCI_line (lit l r : Bytes) (h : asciiLowerB LF ∉ lit) : startsCI lit (l ++ LF :: r) = startsCI lit l := by
  induction lit generalizing l with
  | nil => simp [startsCI]
  | cons p ps ih =>
    cases l with
    | nil =>
      have : asciiLowerB LF ≠ p := fun e => h (by simp [e])
      simp [startsCI, this]
    | cons x xs => simp [startsCI, ih xs (fun hm => h (List.mem_cons_of_mem _ hm))]

/-! ## complete lines

  Both regexes read line by line (`.` excludes LF): what `expected`, `hostGroup` and `startsEOL` answer on data that
  holds a line feed is a function of the bytes in front of the first one. -/

/-- a function of the first line does not see what is appended behind a complete line -/
theorem firstLine_append {β : Type} (f : Bytes → β) (hf : ∀ l r r', LF ∉ l → f (l ++ LF :: r) = f (l ++ LF :: r'))
    (d q : Bytes) (h : LF ∈ d) : f (d ++ q) = f d := by
  obtain ⟨l, r, rfl, hl⟩ := List.eq_append_cons_of_mem h
  simpa using hf l (r ++ q) r hl

theorem findHttp_append_true (d q : Bytes) (h : findHttp d = true) : findHttp (d ++ q) = true := by
  induction d with
  | nil => simp [findHttp] at h
  | cons b tl ih =>
    simp only [findHttp, List.cons_append] at h ⊢
    by_cases hs : startsCI httpLit (b :: tl) = true
    · have := startsCI_append_true httpLit (b :: tl) q hs
      simp only [List.cons_append] at this
      simp [this]
    · simp only [hs] at h
      by_cases hb : b = LF
      · simp [hb] at h
      · simp only [hb, if_false] at h
        simp [hb, ih h]

theorem expected_append_true (p q : Bytes) (h : expected p = true) : expected (p ++ q) = true := by
  match p, h with
  | a :: b :: c :: x :: tl, h =>
    simp only [expected, Bool.and_eq_true, List.cons_append] at h ⊢
    exact ⟨h.1, findHttp_append_true tl q h.2⟩

theorem findHttp_line (l r : Bytes) (h : LF ∉ l) : findHttp (l ++ LF :: r) = findHttp l := by
  induction l with
  | nil =>
    have h0 : startsCI httpLit (LF :: r) = false := startsCI_line httpLit [] r (by decide)
    simp [findHttp, h0]
  | cons b tl ih =>
    have := startsCI_line httpLit (b :: tl) r (by decide)
    simp only [List.cons_append] at this
    simp only [List.cons_append, findHttp, this, ih (fun hm => h (List.mem_cons_of_mem _ hm))]

/-- the bytes seen so far may still grow into a request line that the first regex accepts -/
def reqLinePending (p : Bytes) : Bool := expected p == false && !p.contains LF && (p.take 3).all isAlpha

theorem expected_take3 (d : Bytes) (h : expected d = true) : ∀ b ∈ d.take 3, isAlpha b = true := by
  match d, h with
  | a :: b :: c :: x :: tl, h =>
    simp only [expected, Bool.and_eq_true] at h
    simp [h.1.1.1.1, h.1.1.1.2, h.1.1.2]

theorem expected_line (l r r' : Bytes) (h : LF ∉ l) : expected (l ++ LF :: r) = expected (l ++ LF :: r') := by
  -- a line feed among the first three bytes: no match, whatever follows
  have short : l.length ≤ 2 → ∀ z, expected (l ++ LF :: z) = false := fun hl z => by
    cases he : expected (l ++ LF :: z) with
    | false => rfl
    | true =>
      have hm : LF ∈ (l ++ LF :: z).take 3 := by
        rw [List.take_append, List.take_of_length_le (by omega)]
        exact List.mem_append_right _ (by rw [List.take_cons (by omega)]; exact List.mem_cons_self)
      exact absurd (expected_take3 _ he LF hm) (by decide)
  match l, h, short with
  | a :: b :: c :: x :: tl, h, _ =>
    simp only [List.cons_append, expected, findHttp_line tl _ (fun hm => h (by simp [hm]))]
  | [a, b, c], _, _ => simp [expected]
  | [], _, short | [_], _, short | [_, _], _, short => rw [short (by simp), short (by simp)]

theorem expected_append_false (p q : Bytes) (h : expected p = false) (hp : reqLinePending p = false) :
    expected (p ++ q) = false := by
  by_cases hlf : LF ∈ p
  · rw [firstLine_append expected expected_line p q hlf, h]
  · -- no complete line, yet nothing pending: the first three bytes are not all letters, and they stay
    have h3 : (p.take 3).all isAlpha = false := by simpa [reqLinePending, h, hlf] using hp
    cases he : expected (p ++ q) with
    | false => rfl
    | true =>
      rw [← Bool.not_eq_true, List.all_eq_true] at h3
      exact absurd (fun b hb => expected_take3 _ he b (by rw [List.take_append]; exact List.mem_append_left _ hb)) h3

theorem lineUpToLF_exact (l rest : Bytes) (h : LF ∉ l) : lineUpToLF (l ++ LF :: rest) = some l := by
  induction l with
  | nil => simp [lineUpToLF]
  | cons a tl ih =>
    have ha : a ≠ LF := fun e => h (by simp [e])
    have ht : LF ∉ tl := fun hm => h (List.mem_cons_of_mem _ hm)
    simp [lineUpToLF, ha, ih ht]

theorem lineUpToLF_no_lf (d : Bytes) (h : LF ∉ d) : lineUpToLF d = none := by
  induction d with
  | nil => rfl
  | cons a tl ih =>
    have ha : a ≠ LF := fun e => h (by simp [e])
    simp [lineUpToLF, ha, ih (fun hm => h (List.mem_cons_of_mem _ hm))]

theorem stripL_stop (d : Bytes) (c : UInt8) (r : Bytes) (hc : isOWS c = false) :
    stripL (d ++ c :: r) = stripL d ++ c :: r := by
  unfold stripL
  rw [List.dropWhile_append]
  split
  · rename_i he
    rw [List.isEmpty_iff.mp he, List.dropWhile_cons, hc]
    rfl
  · rfl

theorem not_mem_stripL_drop (d : Bytes) (n : Nat) (b : UInt8) (h : b ∉ d) : b ∉ stripL (d.drop n) :=
  fun hm => h ((List.drop_sublist n d).mem ((List.dropWhile_sublist _).mem hm))

/-- the Host group on a complete line `l` (given without its line feed) -/
def hostLine (l : Bytes) : Option Bytes :=
  if startsCI hostLit l then some (stripR (chopCR (stripL (l.drop 5)))) else none

theorem hostGroup_line (l r : Bytes) (h : LF ∉ l) : hostGroup (l ++ LF :: r) = hostLine l := by
  unfold hostGroup hostLine
  rw [startsCI_line hostLit l r (by decide)]
  split
  · rename_i hs
    have hlen : 5 ≤ l.length := startsCI_length hostLit l hs
    rw [List.drop_append_of_le_length hlen, stripL_stop _ LF r (by decide),
      lineUpToLF_exact _ r (not_mem_stripL_drop l 5 LF h)]
  · rfl

theorem hostGroup_no_lf (d : Bytes) (h : LF ∉ d) : hostGroup d = none := by
  unfold hostGroup
  split
  · rw [lineUpToLF_no_lf _ (not_mem_stripL_drop d 5 LF h)]
  · rfl

theorem hostGroup_append (d q : Bytes) (h : LF ∈ d) : hostGroup (d ++ q) = hostGroup d :=
  firstLine_append hostGroup (fun l r r' hl => by rw [hostGroup_line l r hl, hostGroup_line l r' hl]) d q h

theorem startsEOL_no_lf (d : Bytes) (h : LF ∉ d) : startsEOL d = false := by
  match d, h with
  | [], _ => rfl
  | [a], h => simpa [startsEOL, eq_comm] using h
  | a :: b :: r, h =>
    simp only [List.mem_cons, not_or] at h
    simp [startsEOL, Ne.symm h.1, Ne.symm h.2.1]

theorem startsEOL_append (d q : Bytes) (h : LF ∈ d) : startsEOL (d ++ q) = startsEOL d :=
  firstLine_append startsEOL (fun l _ _ _ => match l with | [] => rfl | [_] => rfl | _ :: _ :: _ => rfl) d q h

theorem scan_no_lf (d : Bytes) (h : LF ∉ d) : scan d = .needMore := by
  induction d with
  | nil => rfl
  | cons a tl ih =>
    have ha : a ≠ LF := fun e => h (by simp [e])
    have htl : LF ∉ tl := fun hm => h (List.mem_cons_of_mem _ hm)
    simp [scan, ha, ih htl]

/-- **prefix stability of the header scan**: a match found in the data so far is the match in any extension -/
theorem scan_append (p q : Bytes) (r : Option Bytes) (h : scan p = .ok r) : scan (p ++ q) = .ok r := by
  induction p with
  | nil => simp [scan] at h
  | cons a tl ih =>
    simp only [scan, List.cons_append] at h ⊢
    split at h
    · rename_i ha
      rw [if_pos ha]
      by_cases hlf : LF ∈ tl
      · -- the line behind this terminator is complete: it is read as before
        rw [hostGroup_append tl q hlf, startsEOL_append tl q hlf]
        cases hg : hostGroup tl with
        | some v => rw [hg] at h; exact h
        | none =>
          rw [hg] at h
          cases he : startsEOL tl with
          | true => rw [he] at h; exact h
          | false => rw [he] at h; exact ih h
      · rw [hostGroup_no_lf tl hlf, startsEOL_no_lf tl hlf, scan_no_lf tl hlf] at h
        cases h
    · rename_i ha
      rw [if_neg ha]
      exact ih h

/-! ## the scanner on well-formed heads = the RFC field syntax -/

/-- what `scan` does when it stands right behind a line terminator -/
def atLine (rest : Bytes) : Res (Option Bytes) :=
  match hostGroup rest with
  | some v => .ok (if v.isEmpty then none else some v)
  | none => if startsEOL rest then .ok none else scan rest

theorem scan_skip (l rest : Bytes) (h : LF ∉ l) : scan (l ++ LF :: rest) = atLine rest := by
  induction l with
  | nil =>
    show scan (LF :: rest) = atLine rest
    rw [scan]
    rfl
  | cons a tl ih =>
    have ha : a ≠ LF := fun e => h (by simp [e])
    have ht : LF ∉ tl := fun hm => h (List.mem_cons_of_mem _ hm)
    simp only [List.cons_append, scan, ha, if_false]
    exact ih ht

/-- either terminator is a line feed with, in front of it, nothing or the CR that `\r?` absorbs -/
theorem eol_split (lf : Bool) (z : Bytes) :
    ∃ c, (c = [] ∨ c = [CR]) ∧ ∀ l : Bytes, l ++ (eol lf ++ z) = (l ++ c) ++ LF :: z := by
  cases lf
  · exact ⟨[CR], Or.inr rfl, fun l => by simp [eol]⟩
  · exact ⟨[], Or.inl rfl, fun l => by simp [eol]⟩

theorem not_mem_append_cr (b : UInt8) (l c : Bytes) (hb : b ≠ CR) (h : b ∉ l) (hc : c = [] ∨ c = [CR]) : b ∉ l ++ c := by
  rcases hc with rfl | rfl <;> simpa [hb] using h

theorem scan_skip_eol (lf : Bool) (l rest : Bytes) (h : LF ∉ l) : scan (l ++ (eol lf ++ rest)) = atLine rest := by
  obtain ⟨c, hc, he⟩ := eol_split lf rest
  rw [he, scan_skip _ rest (not_mem_append_cr LF l c (by decide) h hc)]

theorem stripL_ows_append (o r : Bytes) (h : ∀ b ∈ o, isOWS b = true) : stripL (o ++ r) = stripL r :=
  List.dropWhile_append_of_pos h

/-- `\r?` takes the CR of a CRLF and nothing from a line that has no CR -/
theorem chopCR_eol (x c : Bytes) (hx : CR ∉ x) (hc : c = [] ∨ c = [CR]) : chopCR (x ++ c) = x := by
  rcases hc with rfl | rfl
  · rw [List.append_nil]
    unfold chopCR
    cases hl : x.getLast? with
    | none => rfl
    | some c =>
      obtain ⟨ys, rfl⟩ := List.getLast?_eq_some_iff.mp hl
      have : c ≠ CR := fun e => hx (by simp [e])
      simp [this]
  · simp [chopCR]

theorem tchar_facts (b : UInt8) (h : isTchar b = true) : b ≠ CR ∧ b ≠ LF ∧ b ≠ colon := by
  refine ⟨?_, ?_, ?_⟩ <;> (rintro rfl; exact absurd h (by decide))

theorem ows_facts (b : UInt8) (h : isOWS b = true) : b ≠ CR ∧ b ≠ LF := by
  simp only [isOWS, Bool.or_eq_true, decide_eq_true_eq] at h
  rcases h with h | h <;> subst h <;> decide

theorem body_no_eol (f : Field) (hw : f.WF) : ∀ b ∈ f.body, b ≠ CR ∧ b ≠ LF := by
  obtain ⟨_, hn, h1, h2, hv, _, _⟩ := hw
  intro b hm
  simp only [Field.body, List.mem_append, List.mem_cons] at hm
  rcases hm with hm | hm | (hm | hm) | hm
  · exact ⟨(tchar_facts _ (hn _ hm)).1, (tchar_facts _ (hn _ hm)).2.1⟩
  · subst hm; decide
  · exact ows_facts _ (h1 _ hm)
  · exact hv _ hm
  · exact ows_facts _ (h2 _ hm)

theorem body_no_cr (f : Field) (hw : f.WF) : CR ∉ f.body := fun hm => (body_no_eol f hw _ hm).1 rfl

theorem body_no_lf (f : Field) (hw : f.WF) : LF ∉ f.body := fun hm => (body_no_eol f hw _ hm).2 rfl

theorem lowerB_colon : asciiLowerB colon = colon := by decide

theorem lowerB_ne_colon (b : UInt8) (h : b ≠ colon) : asciiLowerB b ≠ colon := by
  have key : ∀ n : Fin 256, UInt8.ofNat n.val ≠ colon → asciiLowerB (UInt8.ofNat n.val) ≠ colon := by decide +kernel
  have := key ⟨b.toNat, UInt8.toNat_lt b⟩
  simp only [UInt8.ofNat_toNat] at this
  exact this h

/-- no tchar lower-cases to a colon, so the `:` of the literal `host:` can only meet the field's own colon -/
theorem startsCI_host_name (n r : Bytes) (hn : ∀ b ∈ n, isTchar b = true) :
    startsCI hostLit (n ++ colon :: r) = isHostName n := by
  have nc : ∀ b ∈ n, asciiLowerB b ≠ colon := fun b hb => lowerB_ne_colon b (tchar_facts b (hn b hb)).2.2
  have c58 : asciiLowerB 58 = 58 := by decide
  match n, nc with
  | [], _ => simp [startsCI, hostLit, isHostName, colon, c58]
  | [a], _ => simp [startsCI, hostLit, isHostName, colon, c58]
  | [a, b], _ => simp [startsCI, hostLit, isHostName, colon, c58]
  | [a, b, c], _ => simp [startsCI, hostLit, isHostName, colon, c58]
  | [a, b, c, d], _ => simp [startsCI, hostLit, isHostName, colon, c58]
  | a :: b :: c :: d :: e :: t, nc =>
    have he : asciiLowerB e ≠ 58 := nc e (by simp)
    simp [startsCI, hostLit, isHostName, he]

theorem hostLine_field (f : Field) (hw : f.WF) (c : Bytes) (hc : c = [] ∨ c = [CR]) :
    hostLine (f.body ++ c) = if isHostName f.name then some f.value else none := by
  obtain ⟨_, hname, h1, h2, hv, hhead, hlast⟩ := hw
  have hb : f.body ++ c = f.name ++ colon :: (f.ows1 ++ (f.value ++ f.ows2 ++ c)) := by simp [Field.body]
  unfold hostLine
  rw [hb, startsCI_host_name f.name _ hname]
  cases hn : isHostName f.name with
  | false => rfl
  | true =>
    have hdrop : ∀ x, List.drop 5 (f.name ++ colon :: x) = x := fun x => by
      simp only [isHostName, Bool.and_eq_true, beq_iff_eq] at hn
      match hnm : f.name, hn.2 with
      | [a, b, c, d], _ => rfl
    -- leading whitespace goes, then the CR, then trailing whitespace
    have hl : stripL (f.value ++ f.ows2 ++ c) = stripL (f.value ++ f.ows2) ++ c := by
      rcases hc with rfl | rfl
      · simp
      · exact stripL_stop _ CR [] (by decide)
    have hcr : CR ∉ stripL (f.value ++ f.ows2) := fun hm => by
      rcases List.mem_append.mp ((List.dropWhile_sublist _).mem hm) with e | e
      · exact (hv _ e).1 rfl
      · exact (ows_facts _ (h2 _ e)).1 rfl
    rw [if_pos rfl, if_pos rfl, hdrop, stripL_ows_append _ _ h1, hl, chopCR_eol _ c hcr hc]
    cases hval : f.value with
    | nil => rw [List.nil_append, ← List.append_nil f.ows2, stripL_ows_append _ _ h2]; rfl
    | cons v0 vs =>
      have hv0 : isOWS v0 = false := hhead v0 (by simp [hval])
      rw [show stripL (v0 :: vs ++ f.ows2) = v0 :: vs ++ f.ows2 from trimL_id hv0]
      exact congrArg some (trimR_append_all (List.all_eq_true.mpr h2) (by rw [← hval]; exact hlast))

theorem hostGroup_field (f : Field) (hw : f.WF) (lf : Bool) (z : Bytes) :
    hostGroup (f.body ++ (eol lf ++ z)) = if isHostName f.name then some f.value else none := by
  obtain ⟨c, hc, he⟩ := eol_split lf z
  rw [he, hostGroup_line _ z (not_mem_append_cr LF _ c (by decide) (body_no_lf f hw) hc), hostLine_field f hw c hc]

theorem startsEOL_field (f : Field) (hw : f.WF) (z : Bytes) : startsEOL (f.body ++ z) = false := by
  obtain ⟨hne, hn, _⟩ := hw
  cases hname : f.name with
  | nil => exact absurd hname hne
  | cons a t =>
    have ha := tchar_facts a (hn a (by simp [hname]))
    simp [Field.body, hname, startsEOL, ha.1, ha.2.1]

/-- the scan standing behind a line terminator in front of well-formed field lines — each ended by CRLF or by a bare LF,
    in any mixture — and the blank line reads the FIRST Host field -/
theorem atLine_fields (fs : List (Field × Bool)) (hw : ∀ p ∈ fs, p.1.WF) (endLf : Bool) (z : Bytes) :
    atLine (fs.flatMap (fun p => p.1.body ++ eol p.2) ++ (eol endLf ++ z)) = .ok (specHost (fs.map (·.1))) := by
  induction fs with
  | nil =>
    cases endLf <;> simp [atLine, eol, hostGroup, startsCI, hostLit, asciiLowerB, CR, LF, startsEOL, specHost]
  | cons p fs ih =>
    obtain ⟨f, lf⟩ := p
    have hf : f.WF := hw (f, lf) (by simp)
    have hrest : ∀ g ∈ fs, g.1.WF := fun g hg => hw g (List.mem_cons_of_mem _ hg)
    simp only [List.flatMap_cons, List.append_assoc, List.map_cons]
    simp only [atLine, hostGroup_field f hf lf, specHost]
    cases hn : isHostName f.name with
    | true => rfl
    | false =>
      simp only [startsEOL_field f hf]
      rw [scan_skip_eol lf _ _ (body_no_lf f hf)]
      simpa [List.append_assoc] using ih hrest

theorem findHttp_skip (l r : Bytes) (h : LF ∉ l) : findHttp (l ++ httpVer ++ r) = true := by
  induction l with
  | nil => simp [findHttp, httpVer, startsCI, httpLit, asciiLowerB]
  | cons b tl ih =>
    have hb : b ≠ LF := fun e => h (by simp [e])
    have ht : LF ∉ tl := fun hm => h (List.mem_cons_of_mem _ hm)
    simp only [List.cons_append, findHttp]
    rw [if_neg hb, ih ht, ite_self]

/-- the three letters are the regex's `[A-Z]{3,}`; a token method that starts otherwise is finding F-C19c -/
theorem expected_of_request_line (a b c : UInt8) (m target r : Bytes)
    (ha : isAlpha a = true) (hb : isAlpha b = true) (hc : isAlpha c = true)
    (hm : ∀ x ∈ m, isTchar x = true) (ht : ∀ x ∈ target, x ≠ CR ∧ x ≠ LF) :
    expected (requestLine (a :: b :: c :: m) target ++ r) = true := by
  have hnl : LF ∉ m ++ 0x20 :: (target ++ [0x20]) := by
    intro hmem
    simp only [List.mem_append, List.mem_cons, List.mem_nil_iff, or_false] at hmem
    rcases hmem with h | h | h | h
    · exact (tchar_facts _ (hm _ h)).2.1 rfl
    · exact absurd h (by decide)
    · exact (ht _ h).2 rfl
    · exact absurd h (by decide)
  have hform : requestLine (a :: b :: c :: m) target ++ r
      = a :: b :: c :: ((m ++ 0x20 :: (target ++ [0x20])) ++ httpVer ++ r) := by
    simp [requestLine, List.append_assoc]
  rw [hform]
  cases hl : m ++ 0x20 :: (target ++ [0x20]) with
  | nil => simp at hl
  | cons x tl =>
    rw [hl] at hnl
    have hx : x ≠ LF := fun e => hnl (by simp [e])
    have htl : LF ∉ tl := fun hmem => hnl (List.mem_cons_of_mem _ hmem)
    simp only [List.cons_append, expected, ha, hb, hc, Bool.true_and, Bool.and_eq_true, bne_iff_ne, ne_eq]
    exact ⟨hx, findHttp_skip tl r htl⟩

theorem requestLine_no_eol (method target : Bytes) (hm : ∀ x ∈ method, isTchar x = true)
    (ht : ∀ x ∈ target, x ≠ CR ∧ x ≠ LF) : ∀ b ∈ requestLine method target, b ≠ CR ∧ b ≠ LF := by
  intro b hmem
  simp only [requestLine, List.mem_append, List.mem_cons] at hmem
  rcases hmem with h | h | h | h | h
  · exact ⟨(tchar_facts _ (hm _ h)).1, (tchar_facts _ (hm _ h)).2.1⟩
  · subst h; decide
  · exact ht _ h
  · subst h; decide
  · revert b; decide

theorem requestLine_no_cr (method target : Bytes) (hm : ∀ x ∈ method, isTchar x = true)
    (ht : ∀ x ∈ target, x ≠ CR ∧ x ≠ LF) : CR ∉ requestLine method target :=
  fun h => (requestLine_no_eol method target hm ht _ h).1 rfl

theorem requestLine_no_lf (method target : Bytes) (hm : ∀ x ∈ method, isTchar x = true)
    (ht : ∀ x ∈ target, x ≠ CR ∧ x ≠ LF) : LF ∉ requestLine method target :=
  fun h => (requestLine_no_eol method target hm ht _ h).2 rfl

theorem clientHello_append_tcp {Pat : Type} (E : Env Pat) (port : Option Nat) (p q : Bytes) (r : Option Bytes)
    (h3 : 3 ≤ p.length) (h : clientHello E true port p = .ok r) : clientHello E true port (p ++ q) = .ok r := by
  unfold clientHello at h ⊢
  simp only [if_true] at h ⊢
  rw [C13.startsLike_append false p q h3]
  by_cases hs : C13.startsLike false p = true
  · simp only [hs, if_true] at h ⊢
    have hne : C13.parse false p ≠ .incomplete := by
      intro e; rw [e] at h; cases h
    rw [C13.parse_append false p q hne]
    exact h
  · simpa [hs] using h

theorem startsLike_length (dtls : Bool) (p : Bytes) (h : C13.startsLike dtls p = true) : 3 ≤ p.length := by
  match p, h with
  | a :: b :: c :: r, _ => simp

theorem startsLikeQuic_of_dtls (d : Bytes) (port : Option Nat) (h : C13.startsLike true d = true) :
    startsLikeQuic d port = false := by
  unfold startsLikeQuic
  rw [if_pos h, ite_self]

theorem clientHello_append_dtls {Pat : Type} (E : Env Pat) (port : Option Nat) (p q : Bytes) (r : Option Bytes)
    (hd : C13.startsLike true p = true) (h : clientHello E false port p = .ok r) :
    clientHello E false port (p ++ q) = .ok r := by
  have h3 := startsLike_length true p hd
  have hd' : C13.startsLike true (p ++ q) = true := by rw [C13.startsLike_append true p q h3]; exact hd
  unfold clientHello at h ⊢
  simp only [Bool.false_eq_true, if_false, startsLikeQuic_of_dtls p port hd, startsLikeQuic_of_dtls (p ++ q) port hd',
    hd, hd', if_true] at h ⊢
  have hne : C13.parse true p ≠ .incomplete := by
    intro e; rw [e] at h; cases h
  rw [C13.parse_append true p q hne]
  exact h

/-- the verdict looks at the data only through the Host header and the ClientHello: where both answers are final, so is
    the verdict -/
theorem ignoreConnection_final {Pat : Type} (E : Env Pat) (c : Cfg Pat) (p p' ds : Bytes)
    (hh : ∀ r, hostHeader c.tcp p ds = .ok r → hostHeader c.tcp p' ds = .ok r)
    (hc : ∀ port r, clientHello E c.tcp port p = .ok r → clientHello E c.tcp port p' = .ok r)
    (b : Bool) (h : ignoreConnection E c p ds = .ok b) : ignoreConnection E c p' ds = .ok b := by
  unfold ignoreConnection candidates at h ⊢
  split at h
  · rename_i h1; rw [if_pos h1]; exact h
  · rename_i h1
    rw [if_neg h1]
    split at h
    · rename_i h2; rw [if_pos h2]; exact h
    · rename_i h2
      rw [if_neg h2]
      cases ha : c.address with
      | none => simpa [ha] using h
      | some a =>
        simp only [ha] at h ⊢
        cases h1 : hostHeader c.tcp p ds with
        | needMore => simp [h1] at h
        | ok v =>
          cases h2 : clientHello E c.tcp (some a.2) p with
          | needMore => simp [h1, h2] at h
          | ok s => simpa [h1, h2, hh v h1, hc _ s h2] using h

theorem anyMatch_eq_true {Pat : Type} (E : Env Pat) (pats : List Pat) (hs : List Bytes) :
    anyMatch E pats hs = true ↔ ∃ h ∈ hs, ∃ r ∈ pats, E.rx r h = true := by
  simp [anyMatch, List.any_eq_true]

theorem verdict_eq_true {Pat : Type} (E : Env Pat) (c : Cfg Pat) (hs : List Bytes) :
    verdict E c hs = true ↔ hs ≠ [] ∧
      ((c.allowPats ≠ [] ∧ anyMatch E c.allowPats hs = false) ∨
       (c.ignorePats ≠ [] ∧ anyMatch E c.ignorePats hs = true)) := by
  simp only [verdict, ← List.isEmpty_eq_false_iff, ne_eq]
  cases hs.isEmpty <;> cases c.allowPats.isEmpty <;> cases c.ignorePats.isEmpty <;> simp

theorem ignoreConnection_eq_true {Pat : Type} (E : Env Pat) (c : Cfg Pat) (dc ds : Bytes) (hs : List Bytes)
    (hc : candidates E c dc ds = .ok hs) :
    ignoreConnection E c dc ds = .ok true ↔ exempt c = false ∧ verdict E c hs = true := by
  unfold ignoreConnection
  rw [hc]
  cases h0 : c.ignorePats.isEmpty && c.allowPats.isEmpty
  · cases exempt c <;> simp
  · -- no pattern at all: the early exit agrees with `verdict`
    simp only [Bool.and_eq_true] at h0
    simp [verdict, h0.1, h0.2]

/-! ## segment-by-segment asking (NextLayer._ask after every DataReceived) -/

/-- ask after every segment with everything received so far; the first answer other than needMore stands -/
def askSegs {β : Type} (f : Bytes → Res β) : Bytes → List Bytes → Res β
  | _, [] => .needMore
  | acc, s :: ss =>
    match f (acc ++ s) with
    | .needMore => askSegs f (acc ++ s) ss
    | r => r

/-- the accumulated bytes at which the first answer is given -/
def decidingPrefix {β : Type} (f : Bytes → Res β) : Bytes → List Bytes → Option Bytes
  | _, [] => none
  | acc, s :: ss =>
    match f (acc ++ s) with
    | .needMore => decidingPrefix f (acc ++ s) ss
    | _ => some (acc ++ s)

/-- the deciding prefix is a prefix of the flight and gets an answer, and that answer is what asking segment by segment
    gives, whatever arrives behind it -/
theorem askSegs_deciding {β : Type} (f : Bytes → Res β) (acc : Bytes) (segs more : List Bytes) (p : Bytes)
    (h : decidingPrefix f acc segs = some p) :
    ∃ b q, f p = .ok b ∧ askSegs f acc (segs ++ more) = .ok b ∧ acc ++ segs.flatten = p ++ q := by
  induction segs generalizing acc with
  | nil => simp [decidingPrefix] at h
  | cons s ss ih =>
    simp only [decidingPrefix, askSegs, List.cons_append] at h ⊢
    cases hf : f (acc ++ s) with
    | needMore =>
      simp only [hf] at h ⊢
      obtain ⟨b, q, h1, h2, h3⟩ := ih (acc ++ s) h
      exact ⟨b, q, h1, h2, by simpa [List.append_assoc] using h3⟩
    | ok b =>
      simp only [hf] at h
      cases h
      exact ⟨b, ss.flatten, hf, rfl, by simp [List.append_assoc]⟩

/-- if an answer at the deciding prefix is final, every segmentation gives the answer on the whole flight -/
theorem askSegs_of_stable {β : Type} (f : Bytes → Res β) (segs : List Bytes) (p : Bytes)
    (h : decidingPrefix f [] segs = some p) (hst : ∀ q b, f p = .ok b → f (p ++ q) = .ok b) :
    askSegs f [] segs = f segs.flatten := by
  obtain ⟨b, q, h1, h2, h3⟩ := askSegs_deciding f [] segs [] p h
  rw [List.append_nil] at h2
  rw [h2, ← List.nil_append segs.flatten, h3, hst q b h1]

theorem askSegs_needMore {β : Type} (f : Bytes → Res β) (acc : Bytes) (segs : List Bytes) (hne : segs ≠ [])
    (h : askSegs f acc segs = .needMore) : f (acc ++ segs.flatten) = .needMore := by
  induction segs generalizing acc with
  | nil => exact absurd rfl hne
  | cons s ss ih =>
    simp only [askSegs] at h
    cases hf : f (acc ++ s) with
    | ok b => simp [hf] at h
    | needMore =>
      simp only [hf] at h
      cases ss with
      | nil => simpa using hf
      | cons t ts =>
        have := ih (acc ++ s) (by simp) h
        simpa [List.append_assoc] using this

theorem decidingPrefix_none {β : Type} (f : Bytes → Res β) (acc : Bytes) (segs : List Bytes)
    (h : decidingPrefix f acc segs = none) : askSegs f acc segs = .needMore := by
  induction segs generalizing acc with
  | nil => rfl
  | cons s ss ih =>
    simp only [decidingPrefix, askSegs] at h ⊢
    cases hf : f (acc ++ s) with
    | ok b => simp [hf] at h
    | needMore => simp only [hf] at h ⊢; exact ih _ h

/-- a verdict asked segment by segment is the stack `_next_layer` builds for it, asked segment by segment -/
theorem askSegs_nextLayer {Pat : Type} (E : Env Pat) (c : NCfg Pat) (acc : Bytes) (segs : List Bytes) (b : Bool)
    (h : askSegs (fun d => ignoreConnection E c.toCfg d []) acc segs = .ok b) :
    ∃ p, askSegs (fun d => nextLayer E c d []) acc segs
      = .ok (if b then [relayLayer c.tcp (!c.showIgnored)] else intercept E c p []) := by
  induction segs generalizing acc with
  | nil => simp [askSegs] at h
  | cons s ss ih =>
    simp only [askSegs] at h ⊢
    cases hf : ignoreConnection E c.toCfg (acc ++ s) [] with
    | needMore =>
      simp only [hf] at h
      simp only [nextLayer, hf]
      exact ih (acc ++ s) h
    | ok b' =>
      simp only [hf] at h
      cases h
      exact ⟨acc ++ s, by cases b <;> simp [nextLayer, hf]⟩

/-! ## `intercept` never builds a pass-through layer -/

/-- the stack is not empty and every layer in it shows the connection to addons -/
def Visible (st : List LK) : Prop := st ≠ [] ∧ ∀ l ∈ st, l.intercepts = true

instance (st : List LK) : Decidable (Visible st) := by unfold Visible; infer_instance

theorem reverseStack_visible (s : Scheme) (tcp tlsLike dtlsLike : Bool) :
    Visible (reverseStack s tcp tlsLike dtlsLike) := by
  cases s <;> cases tcp <;> cases tlsLike <;> cases dtlsLike <;> decide

theorem explicitStack_visible (upstream tcp tlsLike : Bool) : Visible (explicitStack upstream tcp tlsLike) := by
  cases upstream <;> cases tcp <;> cases tlsLike <;> decide

theorem visible_ite (b : Bool) {x y : List LK} (hx : Visible x) (hy : Visible y) : Visible (if b then x else y) := by
  cases b <;> assumption

theorem intercept_visible {Pat : Type} (E : Env Pat) (c : NCfg Pat) (dc ds : Bytes) : Visible (intercept E c dc ds) := by
  unfold intercept
  cases c.top with
  | reverse s => exact reverseStack_visible ..
  | httpProxy => exact explicitStack_visible ..
  | upstream => exact explicitStack_visible ..
  | other =>
    -- a chain of `if`s, each answering with a literal stack
    repeat refine visible_ite _ (by decide) ?_
    decide

end MitmVerif.C19
