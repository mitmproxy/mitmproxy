/-
  C17 — the store refines an abstract "registrations + bounded FIFO cache keyed by (cn, sans)".

  `Refines` ties the dict to the abstract store through `Inv` alone: under a generated key the dict holds what `find?` finds
  in the queue (`lookup_gen_eq_cacheFind`), so `firstHit` over `potentialKeys` is "first registered name, else the cache".
  Also here, independent of the refinement: `Op.undisturbing` and `getCert_stable` (a request repeated across operations that
  register none of its potential names is answered by the same entry while that entry is custom or queued).
-/
import MitmVerif.Lemmas.C17
namespace MitmVerif.C17

variable {org crl : Option Bytes}

/-- the abstract store: what is registered under each name, and the generated certificates in creation order
    (each carries its own key `(cn, sans)`); nothing else -/
structure Abs where
  custom : Bytes → Option Entry
  cache : List Entry
  next : Nat

def Abs.empty : Abs := ⟨fun _ => none, [], 0⟩

def firstSome (f : Bytes → Option Entry) : List Bytes → Option Entry
  | [] => none
  | n :: ns => match f n with
    | some e => some e
    | none => firstSome f ns

def cacheFind (cn : Option Bytes) (sans : List San) (c : List Entry) : Option Entry :=
  c.find? (fun e => decide (e.cn = cn ∧ e.sans = sans))

/-- abstract get_cert: first registered potential name, else the cache, else generate + FIFO-evict -/
def absGet (cap : Nat) (ok : Bool) (a : Abs) (cn : Option Bytes) (sans : List San)
    (org crl : Option Bytes) : Abs × Res :=
  match firstSome a.custom (potentialNames cn sans) with
  | some e => (a, .hit e)
  | none =>
    match cacheFind cn sans a.cache with
    | some e => (a, .hit e)
    | none =>
      if ok then
        ({ a with cache := if cap < (a.cache ++ [(⟨false, a.next, cn, sans, org, crl⟩ : Entry)]).length
                            then (a.cache ++ [(⟨false, a.next, cn, sans, org, crl⟩ : Entry)]).tail
                            else a.cache ++ [(⟨false, a.next, cn, sans, org, crl⟩ : Entry)],
                  next := a.next + 1 }, .fresh ⟨false, a.next, cn, sans, org, crl⟩)
      else (a, .err)

def absAdd (a : Abs) (id : Nat) (cn : Option Bytes) (sans : List San) (names : List Bytes) : Abs :=
  { a with custom := fun n => if n ∈ addKeys cn sans names then some ⟨true, id, cn, sans, none, none⟩ else a.custom n }

def absStep (cap : Nat) (a : Abs) : Op → Abs × Option Res
  | .get ok cn sans org crl => let r := absGet cap ok a cn sans org crl; (r.1, some r.2)
  | .add id cn sans names => (absAdd a id cn sans names, none)

/-- everything observable: the result of every operation of a history -/
def trace (cap : Nat) (s : Store) : List Op → List (Option Res)
  | [] => []
  | op :: ops => (step cap s op).2 :: trace cap (step cap s op).1 ops

def absTrace (cap : Nat) (a : Abs) : List Op → List (Option Res)
  | [] => []
  | op :: ops => (absStep cap a op).2 :: absTrace cap (absStep cap a op).1 ops

def absRun (cap : Nat) (a : Abs) : List Op → Abs
  | [] => a
  | op :: ops => absRun cap (absStep cap a op).1 ops

structure Refines (cap : Nat) (s : Store) (a : Abs) : Prop where
  inv : Inv cap s
  names : ∀ n, lookup (.name n) s.certs = a.custom n
  cache : a.cache = s.queue
  next : a.next = s.next

theorem refines_empty (cap : Nat) : Refines cap Store.empty Abs.empty :=
  ⟨inv_empty cap, by intro n; simp [Store.empty, Abs.empty, lookup], rfl, rfl⟩

theorem firstHit_names {m : List (Key × Entry)} {f : Bytes → Option Entry}
    (h : ∀ n, lookup (.name n) m = f n) (ns : List Bytes) :
    firstHit m (ns.map Key.name) = firstSome f ns := by
  fun_induction firstSome f ns <;> simp_all [firstHit]

theorem lookup_gen_eq_cacheFind {cap : Nat} {s : Store} (h : Inv cap s) (cn : Option Bytes) (sans : List San) :
    lookup (.gen cn sans) s.certs = cacheFind cn sans s.queue := by
  unfold cacheFind
  cases hf : s.queue.find? (fun e => decide (e.cn = cn ∧ e.sans = sans)) with
  | some e' =>
    have hp := List.find?_some hf
    have hm := List.mem_of_find?_eq_some hf
    simp only [decide_eq_true_eq] at hp
    have := (h.1.queue_ok e' hm).2.2
    rw [hp.1, hp.2] at this
    exact this
  | none =>
    cases hl : lookup (.gen cn sans) s.certs with
    | none => rfl
    | some e =>
      have hc := h.1.certs_ok _ _ (lookup_mem hl)
      have := List.find?_eq_none.mp hf e hc.2.2.2
      simp [hc.2.1, hc.2.2.1] at this

theorem refines_step {cap : Nat} {s : Store} {a : Abs} (h : Refines cap s a) (op : Op) :
    (step cap s op).2 = (absStep cap a op).2 ∧ Refines cap (step cap s op).1 (absStep cap a op).1 := by
  cases op with
  | add id cn sans names =>
    exact ⟨rfl, inv_addCert h.inv id cn sans names, fun n => by simp only [step, absStep, addCert, absAdd, lookup_setAll, h.names],
      h.cache, h.next⟩
  | get ok cn sans org crl =>
    simp only [step, absStep]
    have hfirst : firstHit s.certs (potentialKeys cn sans) =
        match firstSome a.custom (potentialNames cn sans) with
        | some e => some e
        | none => cacheFind cn sans a.cache := by
      simp only [potentialKeys, firstHit_append, firstHit_names h.names, firstHit, h.cache,
        lookup_gen_eq_cacheFind h.inv]
      cases firstSome a.custom (potentialNames cn sans) with
      | some e => rfl
      | none => simp only; cases cacheFind cn sans s.queue <;> rfl
    -- both machines branch on the same lookups
    cases h1 : firstSome a.custom (potentialNames cn sans) with
    | some e =>
      simp only [h1] at hfirst
      simpa only [getCert, absGet, hfirst, h1, true_and] using h
    | none =>
      simp only [h1] at hfirst
      cases h2 : cacheFind cn sans a.cache with
      | some e => simpa only [getCert, absGet, hfirst, h1, h2, true_and] using h
      | none =>
        cases ok with
        | false => simpa only [getCert, absGet, hfirst, h1, h2, Bool.false_eq_true, if_false, true_and] using h
        | true =>
          obtain ⟨hinv', hn'⟩ := getCert_pres (org := org) (crl := crl) h.inv true cn sans
          have hnames' := fun n => (hn' n).trans (h.names n)
          simp only [getCert, absGet, hfirst, h1, h2, if_true] at hinv' hnames' ⊢
          exact ⟨by rw [h.next], hinv', hnames', by simp only [expire_snd, h.cache, h.next], by simp only [h.next]⟩

theorem refines_trace {cap : Nat} (ops : List Op) {s : Store} {a : Abs} (h : Refines cap s a) :
    trace cap s ops = absTrace cap a ops ∧ Refines cap (run cap s ops) (absRun cap a ops) := by
  induction ops generalizing s a with
  | nil => exact ⟨rfl, h⟩
  | cons op ops ih =>
    obtain ⟨h1, h2⟩ := refines_step h op
    obtain ⟨h3, h4⟩ := ih h2
    exact ⟨by simp only [trace, absTrace, h1, h3], h4⟩

/-- the abstract cache never exceeds the capacity (directly, on the abstract machine) -/
theorem abs_cache_le (cap : Nat) (ops : List Op) (a : Abs) (h : a.cache.length ≤ cap) :
    (absRun cap a ops).cache.length ≤ cap := by
  fun_induction absRun cap a ops with
  | case1 => exact h
  | case2 a op ops ih =>
    apply ih
    cases op with
    | add id cn sans names => exact h
    | get ok cn sans org crl =>
      simp only [absStep]
      fun_cases absGet cap ok a cn sans org crl
      · exact h
      · exact h
      · simp only; split <;> simp_all <;> omega
      · exact h

/-- `op` cannot change what the request `(cn, sans)` is answered with by way of a registration: it is a `get_cert`, or an
    `add_cert` none of whose registered names is a potential key of the request -/
def Op.undisturbing (cn : Option Bytes) (sans : List San) : Op → Prop
  | .get _ _ _ _ _ => True
  | .add _ cn' sans' names => ∀ n ∈ addKeys cn' sans' names, n ∉ potentialNames cn sans

theorem lookup_potential_run {cap : Nat} {cn : Option Bytes} {sans : List San} (mid : List Op)
    (hmid : ∀ op ∈ mid, Op.undisturbing cn sans op) {s : Store} (h : Inv cap s) (n : Bytes)
    (hn : n ∈ potentialNames cn sans) : lookup (.name n) (run cap s mid).certs = lookup (.name n) s.certs := by
  induction mid generalizing s with
  | nil => rfl
  | cons op ops ih =>
    simp only [run]
    rw [ih (fun o ho => hmid o (List.mem_cons_of_mem _ ho)) (inv_step h op)]
    cases op with
    | get ok c ss o cr => exact (getCert_pres h ok c ss).2 n
    | add id c ss names =>
      simp only [step, addCert, lookup_setAll]
      exact if_neg fun hm => hmid _ List.mem_cons_self n hm hn

theorem Op.undisturbing_of_isGet {cn : Option Bytes} {sans : List San} {op : Op} (h : op.isGet = true) :
    Op.undisturbing cn sans op := by
  cases op with
  | get _ _ _ _ _ => trivial
  | add _ _ _ _ => cases h

theorem getCert_stable {cap : Nat} {s : Store} (hinv : Inv cap s) {mid : List Op} {ok ok' : Bool}
    {cn : Option Bytes} {sans : List San} {org' crl' : Option Bytes} {e : Entry}
    (hmid : ∀ op ∈ mid, Op.undisturbing cn sans op)
    (h1 : (getCert cap ok s cn sans org crl).2.entry? = some e)
    (hc : e.custom = true ∨ e ∈ (run cap (getCert cap ok s cn sans org crl).1 mid).queue) :
    (getCert cap ok' (run cap (getCert cap ok s cn sans org crl).1 mid) cn sans org' crl').2 = .hit e := by
  obtain ⟨hinv1, hn1⟩ := getCert_pres (org := org) (crl := crl) hinv ok cn sans
  have hinv2 := inv_run hinv1 mid
  generalize hs2 : run cap (getCert cap ok s cn sans org crl).1 mid = s2 at *
  have hfn : firstHit s2.certs ((potentialNames cn sans).map .name) =
      firstHit s.certs ((potentialNames cn sans).map .name) := by
    apply firstHit_congr
    intro k hk
    obtain ⟨n, hn, rfl⟩ := List.mem_map.mp hk
    rw [← hs2, lookup_potential_run mid hmid hinv1 n hn, hn1]
  rw [getCert_snd] at h1 ⊢
  simp only [potentialKeys, firstHit_append, hfn] at h1 ⊢
  cases hname : firstHit s.certs ((potentialNames cn sans).map Key.name) with
  | some e0 =>
    simp only [hname] at h1 ⊢
    exact congrArg Res.hit (Option.some.inj h1)
  | none =>
    simp only [hname, firstHit] at h1 ⊢
    have hgen : e.custom = false ∧ e.cn = cn ∧ e.sans = sans := by
      cases hl : lookup (.gen cn sans) s.certs with
      | some e2 =>
        simp only [hl] at h1
        obtain rfl := Option.some.inj h1
        have := hinv.1.certs_ok _ _ (lookup_mem hl)
        exact ⟨this.1, this.2.1, this.2.2.1⟩
      | none =>
        simp only [hl] at h1
        cases ok <;> cases h1
        exact ⟨rfl, rfl, rfl⟩
    have hq : e ∈ s2.queue := hc.resolve_left (by simp [hgen.1])
    have := (hinv2.1.queue_ok e hq).2.2
    rw [hgen.2.1, hgen.2.2] at this
    simp [this]

end MitmVerif.C17
