/-
  C33 — `url.parse` and the URL setter, in both directions: what urlsplit's cleaning and scheme cut do on a URL as the getter
  writes it, and, inverted, what an accepted URL went through and where the characters of the result come from.  Used by
  `Props/C33.lean` and, for the HAR importer's use of the same functions, by `Props/C41.lean`.
-/
import MitmVerif.Lemmas.C33Rest
namespace MitmVerif.C33

theorem hostport_ne (s h : Str) (p : Nat) (hne : h ≠ []) : hostport s h p ≠ [] := by
  unfold hostport bracket
  split <;> split <;> simp [hne]

/-- the getter's URL for a request that is not a CONNECT and whose path starts with `/` -/
theorem url_eq_unparse (r : Req) (hm : r.method.map upperC ≠ S "CONNECT") (hs : r.path.head? = some 47) :
    url r = unparse r.scheme r.host r.port r.path := by
  have : r.path ≠ [42] := by intro e; rw [e] at hs; simp at hs
  unfold url; simp [hm, this]

/-! ### urlsplit's cleaning and scheme cut on a clean URL -/
theorem schemeChar_plain (c : Nat) (h : isSchemeChar c = true) : c ≠ 58 ∧ isUnsafe c = false := by
  simp only [isSchemeChar, isAsciiAlpha, Bool.or_eq_true, Bool.and_eq_true, decide_eq_true_eq] at h
  simp only [isUnsafe, Bool.or_eq_false_iff, decide_eq_false_iff_not]
  omega

theorem headD_append (s t : Str) (hs0 : s ≠ []) : (s ++ t).headD 0 = s.headD 0 := by
  cases s with
  | nil => exact absurd rfl hs0
  | cons _ _ => rfl

theorem cleanUrl_clean (u : Str) (h0 : isAsciiAlpha (u.headD 0) = true) (hu : ∀ c ∈ u, isUnsafe c = false) :
    cleanUrl u = u := by
  have hd : u.dropWhile isC0OrSpace = u := by
    cases u with
    | nil => rfl
    | cons c r =>
      apply List.dropWhile_cons_of_neg
      have : 65 ≤ c := by simp [isAsciiAlpha] at h0; omega
      simp only [isC0OrSpace, decide_eq_true_eq]
      omega
  unfold cleanUrl
  rw [hd, List.filter_eq_self]
  intro c hc
  simp [hu c hc]

theorem schemeSplit_scheme (s rest : Str) (hs0 : s ≠ []) (hal : isAsciiAlpha (s.headD 0) = true)
    (hsc : s.all isSchemeChar = true) : schemeSplit (s ++ 58 :: rest) = (lower s, rest) := by
  have hcut := takeWhile_stop (fun c => c != 58) s 58 rest
    (fun c hc => by simpa using (schemeChar_plain c (List.all_eq_true.mp hsc c hc)).1) (by decide)
  unfold schemeSplit
  rw [hcut.1, headD_append s _ hs0, if_pos ⟨by simp, hs0, hal, hsc⟩]
  simp

/-! ### what an accepted URL went through -/

/-- which URLs `url.parse` accepts and what it returns, step by step -/
theorem urlParse_some (P : UrlLib) (u s h : Str) (p : Nat) (path : Str) :
    urlParse P u = some (s, h, p, path) ↔
      ∃ nl hn po, P.split u = some (s, nl, path) ∧ hostname nl = some hn ∧ P.idnaRt hn = some h ∧
        (∀ c ∈ u, c < 128) ∧ portOf nl = some po ∧ P.validHost hn = true ∧
        p = (match po with
          | some n => if n = 0 then (if s = S "https" then 443 else 80) else n
          | none => if s = S "https" then 443 else 80) := by
  constructor
  · fun_cases urlParse P u
    case case7 sc nl full hs hn hh hd hi hany po hpo dflt port hv =>
      intro hp
      simp only [Option.some.injEq, Prod.mk.injEq] at hp
      obtain ⟨rfl, rfl, rfl, rfl⟩ := hp
      exact ⟨nl, hn, po, hs, hh, hi, by simpa using hany, hpo, by simpa using hv, rfl⟩
    all_goals intro hp; cases hp
  · rintro ⟨nl, hn, po, hs, hh, hi, ha, hpo, hv, rfl⟩
    have hany : u.any (fun c => c ≥ 128) = false := by
      rw [List.any_eq_false]
      intro c hc
      have := ha c hc
      simp; omega
    unfold urlParse
    simp only [hs, hh, hi, hany, hpo, hv]
    rfl

/-- the split of `pyLib` is urlsplit's reading with the rest re-assembled (and given a leading `/`) -/
theorem pyLib_split_some (Q : PyLib) (u sc nl full : Str) (hs : (pyLib Q).split u = some (sc, nl, full)) :
    ∃ rest, pySplit Q.validBracketed u = some (sc, nl, rest) ∧
      full = (if (Q.normRest sc rest).head? = some 47 then Q.normRest sc rest else 47 :: Q.normRest sc rest) := by
  obtain ⟨⟨a, b, c⟩, hq, e⟩ := Option.map_eq_some_iff.mp hs
  simp only [Prod.mk.injEq] at e
  obtain ⟨rfl, rfl, rfl⟩ := e
  exact ⟨c, hq, rfl⟩

/-- whatever `url.parse` accepts, the path it returns is the re-assembled rest (with a `/` in front if it lacks one) under the
    scheme it returns -/
theorem urlParse_path_form (Q : PyLib) (u s h : Str) (p : Nat) (path : Str)
    (hp : urlParse (pyLib Q) u = some (s, h, p, path)) :
    ∃ rest, path = (if (Q.normRest s rest).head? = some 47 then Q.normRest s rest else 47 :: Q.normRest s rest) := by
  obtain ⟨nl, _, _, hs, _⟩ := (urlParse_some _ u s h p path).mp hp
  obtain ⟨rest, _, e⟩ := pyLib_split_some Q u s nl path hs
  exact ⟨rest, e⟩

/-- an accepted assignment stores what `url.parse` made of the URL and refreshes Host header and authority -/
theorem setUrl_some (P : UrlLib) (r : Req) (u : Str) (r' : Req) (h : setUrl P r u = some r') :
    ∃ s hh p path, urlParse P u = some (s, hh, p, path) ∧
      r' = { setPort P (setHost P { r with scheme := s } hh) p with path := path } := by
  revert h
  fun_cases setUrl P r u <;> intro h
  · cases h
  · rename_i s hh p path hp
    exact ⟨s, hh, p, path, hp, (Option.some.inj h).symm⟩

/-! ### where the characters of the result come from -/
theorem schemeSplit_snd_sub (U : Str) : ∀ x ∈ (schemeSplit U).2, x ∈ U := by
  unfold schemeSplit
  split
  · intro x hx; exact List.mem_of_mem_drop hx
  · intro x hx; exact hx

/-- the netloc and the rest that urlsplit's reading returns consist of characters of the URL, none of them TAB, LF or CR -/
theorem pySplit_sub (vb : Str → Bool) (u sc nl rest : Str) (h : pySplit vb u = some (sc, nl, rest)) :
    ∀ x, x ∈ nl ∨ x ∈ rest → x ∈ u ∧ isUnsafe x = false := by
  have hsr : ∀ x ∈ (schemeSplit (cleanUrl u)).2, x ∈ u ∧ isUnsafe x = false := by
    intro x hx
    obtain ⟨h1, h2⟩ := List.mem_filter.mp (schemeSplit_snd_sub _ x hx)
    exact ⟨(List.dropWhile_sublist _).subset h1, by simpa using h2⟩
  revert h
  fun_cases pySplit vb u <;> intro h
  · cases h
  · cases h
  · simp only [Option.some.injEq, Prod.mk.injEq] at h
    intro x hx
    rw [← h.2.1, ← h.2.2] at hx
    apply hsr x
    rcases hx with hx | hx
    · exact List.mem_of_mem_drop ((List.takeWhile_sublist _).subset hx)
    · exact List.mem_of_mem_drop ((List.dropWhile_sublist _).subset hx)
  · simp only [Option.some.injEq, Prod.mk.injEq] at h
    intro x hx
    rw [← h.2.1, ← h.2.2] at hx
    rcases hx with hx | hx
    · cases hx
    · exact hsr x hx

theorem lowerC_lt (c : Nat) (h : c < 128) : lowerC c < 128 := by unfold lowerC; split <;> omega

/-- the hostname urllib reads consists of (lower-cased) characters of the netloc, or `%` -/
theorem hostname_ascii (nl hn : Str) (h : hostname nl = some hn) (hnl : ∀ c ∈ nl, c < 128) : ∀ c ∈ hn, c < 128 := by
  -- the host part of hostinfo is made of characters of the netloc
  have hi_sub : ∀ x ∈ (hostinfo nl).1, x ∈ nl := by
    have al : ∀ x ∈ afterLast 64 nl, x ∈ nl := fun x hx =>
      List.mem_reverse.mp ((List.takeWhile_sublist _).subset (List.mem_reverse.mp hx))
    intro x
    fun_cases hostinfo nl <;> intro hx <;> apply al
    · rename_i hb
      exact partition_snd_sub 91 _ x (by rw [hb]; exact partition_fst_sub 93 _ x hx)
    · exact partition_fst_sub 58 _ x hx
  revert h
  fun_cases hostname nl <;> intro h
  · cases h
  · intro c hc
    rw [← Option.some.inj h] at hc
    simp only [List.mem_append] at hc
    rcases hc with (hc | hc) | hc
    · obtain ⟨y, hy, rfl⟩ := List.mem_map.mp hc
      exact lowerC_lt y (hnl y (hi_sub y (partition_fst_sub 37 _ y hy)))
    · split at hc
      · simp at hc; omega
      · cases hc
    · exact hnl c (hi_sub c (partition_snd_sub 37 _ c hc))

/-- everything `url.parse` checked on the way to a result -/
theorem urlParse_facts (Q : PyLib) (u s h : Str) (p : Nat) (path : Str)
    (hp : urlParse (pyLib Q) u = some (s, h, p, path)) :
    ∃ hn, Q.idnaRt hn = some h ∧ Q.validHost hn = true ∧ (∀ c ∈ hn, c < 128) ∧ 1 ≤ p ∧ p ≤ 65535 := by
  obtain ⟨nl, hn, po, hs, hh, hi, hascii, hpo, hv, rfl⟩ := (urlParse_some _ u s h p path).mp hp
  obtain ⟨rest, hq, _⟩ := pyLib_split_some Q u s nl path hs
  refine ⟨hn, hi, hv, hostname_ascii nl hn hh (fun c hc => hascii c (pySplit_sub _ u s nl rest hq c (Or.inl hc)).1), ?_⟩
  -- the port: what portOf returned (≤ 65535, and 0 is replaced) or the scheme's default
  revert hpo
  fun_cases portOf nl <;> intro hpo <;> cases hpo
  · simp only; split <;> omega
  · simp only
    split
    · split <;> omega
    · omega

theorem withRest_normRest (Q : PyLib) : (withRest Q).normRest = normRestPy := rfl

/-- every character of the path `url.parse` returns is ASCII and none is TAB, LF or CR -/
theorem urlParse_path_chars (Q : PyLib) (u s h : Str) (p : Nat) (path : Str)
    (hp : urlParse (pyLib (withRest Q)) u = some (s, h, p, path)) : ∀ c ∈ path, c < 128 ∧ c ≠ 9 ∧ c ≠ 10 ∧ c ≠ 13 := by
  obtain ⟨nl, _, _, hs, _, _, hascii, _⟩ := (urlParse_some _ u s h p path).mp hp
  obtain ⟨rest, hq, rfl⟩ := pyLib_split_some (withRest Q) u s nl path hs
  intro c hc
  have hc' : c = 47 ∨ c ∈ normRestPy s rest := by
    rw [withRest_normRest] at hc
    split at hc
    · exact Or.inr hc
    · exact List.mem_cons.mp hc
  rcases hc' with rfl | hc'
  · decide
  · rcases normRestPy_sub s rest c hc' with m | rfl | rfl | rfl
    · obtain ⟨mu, mun⟩ := pySplit_sub _ u s nl rest hq c (Or.inr m)
      simp only [isUnsafe, Bool.or_eq_false_iff, decide_eq_false_iff_not] at mun
      exact ⟨hascii c mu, mun.1.1, mun.1.2, mun.2⟩
    · decide
    · decide
    · decide

end MitmVerif.C33
