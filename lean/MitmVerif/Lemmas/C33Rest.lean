/-
  C33 — what follows the netloc.  urlparse cuts it into path, `;params`, query and fragment (`parts`) and urlunparse glues the four
  again (`C34.unparseTarget`); `normRestPy` is the one after the other, and the request-target views of C34 read and write the same
  four parts.  `parts_unparse`: reading back what was glued returns the parts, for every quadruple that is well formed (`PartsWF`),
  as everything that `parts` returns is.  Hence `normRestPy` is idempotent, and the path that `url.parse` stores is a fixed point of it.
  Every cut is `str.partition` or a `takeWhile`; the lemmas about them come first and also serve the authority readers of `Props/C33.lean`.
  Before them, the decimal digits of a port: `decDigits` writes the `digits` of `Lemmas/Decimal.lean` (`decDigits_eq`) and `parseDec` reads
  them as `ofDigits` does (`parseDec_map`); `Lemmas/C48Url.lean` uses them as well.
-/
import MitmVerif.Model.C33
import MitmVerif.Model.C34
import MitmVerif.Lemmas.Lists
import MitmVerif.Lemmas.Decimal
namespace MitmVerif.C33
open MitmVerif.C34 (Target unparseTarget targetParts)

/-! ### decimal ports -/
theorem isDigit_add (k : Nat) (h : k < 10) : isDigit (48 + k) = true := by
  simp [isDigit]; omega

theorem decDigitsF_eq (f n : Nat) : decDigitsF f n = (digitsF f n).map (48 + ·) := by
  fun_induction decDigitsF f n with
  | case1 => rfl
  | case2 f n h => rw [digitsF, if_pos h]; rfl
  | case3 f n h ih => rw [digitsF, if_neg h, ih, List.map_append]; rfl

theorem decDigits_eq (n : Nat) : decDigits n = (digits n).map (48 + ·) := decDigitsF_eq (n + 1) n

theorem parseDec_map (ds : List Nat) : parseDec (ds.map (48 + ·)) = ofDigits 0 ds := by
  rw [parseDec, List.foldl_map]
  simp only [Nat.add_sub_cancel_left]
  rfl

theorem decDigits_digits (n : Nat) : ∀ c ∈ decDigits n, isDigit c = true := by
  rw [decDigits_eq, List.forall_mem_map]
  exact fun d hd => isDigit_add d (digits_lt n d hd)

theorem decDigits_ne (n : Nat) : decDigits n ≠ [] := by
  rw [decDigits_eq, Ne, List.map_eq_nil_iff]
  exact digits_ne_nil n

/-! ### cutting at a delimiter: takeWhile / dropWhile, and `str.partition` as the two -/
theorem all_ne (c : Nat) (l : Str) (h : c ∉ l) : ∀ x ∈ l, (x != c) = true := by
  intro x hx
  have : x ≠ c := fun e => h (e ▸ hx)
  simpa using this

/-- `str.partition(c)`: the text before the first `c`, whether there is one, and the text behind it -/
theorem partition_eq (c : Nat) (s : Str) :
    partition c s = (s.takeWhile (· != c), s.contains c, (s.dropWhile (· != c)).drop 1) := by
  fun_induction partition c s with
  | case1 => rfl
  | case2 r => simp
  | case3 x r h ih => simp [ih, h, Ne.symm h]

theorem partition_fst_notin (c : Nat) (s : Str) : c ∉ (partition c s).1 := by
  rw [partition_eq]
  exact fun m => by simpa using List.all_eq_true.mp List.all_takeWhile c m

theorem partition_fst_sub (c : Nat) (s : Str) : ∀ x ∈ (partition c s).1, x ∈ s := by
  rw [partition_eq]
  exact fun x hx => (List.takeWhile_sublist _).subset hx

theorem partition_snd_sub (c : Nat) (s : Str) : ∀ x ∈ (partition c s).2.2, x ∈ s := by
  rw [partition_eq]
  exact fun x hx => (List.dropWhile_sublist _).subset (List.mem_of_mem_drop hx)

theorem partition_notin (c : Nat) (a : Str) (h : c ∉ a) : partition c a = (a, false, []) := by
  rw [partition_eq, (takeWhile_all _ _ (all_ne c a h)).1, (takeWhile_all _ _ (all_ne c a h)).2]
  simp [h]

theorem partition_stop (c : Nat) (a r : Str) (h : c ∉ a) : partition c (a ++ c :: r) = (a, true, r) := by
  obtain ⟨e1, e2⟩ := takeWhile_stop (· != c) a c r (all_ne c a h) (by simp)
  rw [partition_eq, e1, e2]
  simp

theorem mem_sfx (c : Nat) (x : Str) (y : Nat) (h : y ∈ sfx c x) : y = c ∨ y ∈ x := by
  unfold sfx at h
  split at h
  · cases h
  · exact List.mem_cons.mp h

theorem notin_sfx (y c : Nat) (x : Str) (hc : y ≠ c) (hx : y ∉ x) : y ∉ sfx c x :=
  fun m => (mem_sfx c x y m).elim hc hx

theorem cut_sfx (c : Nat) (a x : Str) (h : c ∉ a) :
    (a ++ sfx c x).takeWhile (· != c) = a ∧ (a ++ sfx c x).dropWhile (· != c) = sfx c x := by
  rw [List.takeWhile_append_of_pos (all_ne c a h), List.dropWhile_append_of_pos (all_ne c a h)]
  unfold sfx
  split <;> simp

/-- re-reading `a ++ sfx c x`: before the first `c` is `a`, after it `x` -/
theorem partition_sfx (c : Nat) (a x : Str) (h : c ∉ a) :
    (partition c (a ++ sfx c x)).1 = a ∧ (partition c (a ++ sfx c x)).2.2 = x := by
  rw [partition_eq, (cut_sfx c a x h).1, (cut_sfx c a x h).2]
  unfold sfx
  split <;> simp [*]

theorem partition_cons_ne (c d : Nat) (s : Str) (h : d ≠ c) :
    partition c (d :: s) = (d :: (partition c s).1, (partition c s).2.1, (partition c s).2.2) := by
  simp [partition, h]

/-! ### the last `/` -/
theorem lastSlash_append (u : Str) : (lastSlash u).1 ++ (lastSlash u).2 = u := by
  fun_induction lastSlash u with
  | case1 => rfl
  | case2 r h1 ih => rw [h1] at ih; simpa using ih
  | case3 c r h1 hc ih => rw [h1] at ih; simpa using ih
  | case4 c r h1 ih => simp [ih]

theorem lastSlash_snd_notin (u : Str) : 47 ∉ (lastSlash u).2 := by
  fun_induction lastSlash u with
  | case1 => simp
  | case2 r h1 ih => exact ih
  | case3 c r h1 hc ih => simp only [List.mem_cons, not_or]; exact ⟨fun e => hc e.symm, ih⟩
  | case4 c r h1 ih => exact ih

theorem lastSlash_snd_sub (u : Str) : ∀ c ∈ (lastSlash u).2, c ∈ u := fun _ hc =>
  lastSlash_append u ▸ List.mem_append_right _ hc

theorem lastSlash_fst_ends (u : Str) : (lastSlash u).1 = [] ∨ (lastSlash u).1.getLast? = some 47 := by
  fun_induction lastSlash u with
  | case1 => left; rfl
  | case2 r h1 ih => simp
  | case3 c r h1 hc ih => simp
  | case4 c r h1 ih =>
    right
    rcases ih with h | h
    · exact absurd h h1
    · rw [List.getLast?_cons_of_ne_nil h1]; exact h

theorem lastSlash_cons47 (u : Str) : lastSlash (47 :: u) = (47 :: (lastSlash u).1, (lastSlash u).2) := by
  conv => lhs; unfold lastSlash
  by_cases h1 : (lastSlash u).1 = []
  · simp [h1]
  · simp [h1]

theorem lastSlash_noslash (a : Str) (h : 47 ∉ a) : lastSlash a = ([], a) := by
  induction a with
  | nil => rfl
  | cons c a ih =>
    have hc : c ≠ 47 := fun e => h (by simp [e])
    have := ih (fun m => h (List.mem_cons_of_mem _ m))
    unfold lastSlash
    simp [this, hc]

theorem lastSlash_of_parts (h a : Str) (hh : h = [] ∨ h.getLast? = some 47) (ha : 47 ∉ a) : lastSlash (h ++ a) = (h, a) := by
  induction h with
  | nil => simpa using lastSlash_noslash a ha
  | cons c h' ih =>
    have hlast : (c :: h').getLast? = some 47 := by
      rcases hh with e | e
      · cases e
      · exact e
    by_cases hn : h' = []
    · subst hn
      have hc : c = 47 := by simpa using hlast
      subst hc
      simp only [List.cons_append, List.nil_append]
      rw [lastSlash_cons47, lastSlash_noslash a ha]
    · have hl' : h'.getLast? = some 47 := by
        rw [List.getLast?_cons_of_ne_nil hn] at hlast; exact hlast
      have := ih (Or.inr hl')
      simp only [List.cons_append]
      unfold lastSlash
      rw [this]
      simp [hn]

/-! ### `;params` -/
theorem splitParams_sub (u : Str) : (∀ x ∈ (splitParams u).1, x ∈ u) ∧ (∀ x ∈ (splitParams u).2, x ∈ u) := by
  unfold splitParams
  have hu := lastSlash_append u
  by_cases hf : (partition 59 (lastSlash u).2).2.1 = true
  · simp only [hf, if_true]
    constructor
    · intro x hx
      rw [← hu]
      rcases List.mem_append.mp hx with h | h
      · exact List.mem_append_left _ h
      · exact List.mem_append_right _ (partition_fst_sub 59 _ x h)
    · intro x hx
      rw [← hu]
      exact List.mem_append_right _ (partition_snd_sub 59 _ x hx)
  · simp only [hf, Bool.false_eq_true, if_false]
    exact ⟨fun x hx => hx, fun x hx => by cases hx⟩

/-- the parameters lie after the last `/`, and the last segment of the path that is left holds no `;` -/
theorem splitParams_seg (u : Str) : 47 ∉ (splitParams u).2 ∧ 59 ∉ (lastSlash (splitParams u).1).2 := by
  unfold splitParams
  split
  · refine ⟨fun m => lastSlash_snd_notin _ (partition_snd_sub 59 _ 47 m), ?_⟩
    rw [lastSlash_of_parts _ _ (lastSlash_fst_ends u) fun m => lastSlash_snd_notin u (partition_fst_sub 59 _ 47 m)]
    exact partition_fst_notin 59 _
  · rename_i hf
    refine ⟨by simp, ?_⟩
    rw [partition_eq] at hf
    simpa using hf

theorem lastSlash_append_noslash (x a : Str) (ha : 47 ∉ a) : lastSlash (x ++ a) = ((lastSlash x).1, (lastSlash x).2 ++ a) := by
  have e : x ++ a = (lastSlash x).1 ++ ((lastSlash x).2 ++ a) := by rw [← List.append_assoc, lastSlash_append]
  rw [e]
  apply lastSlash_of_parts _ _ (lastSlash_fst_ends x)
  simp only [List.mem_append, not_or]
  exact ⟨lastSlash_snd_notin x, ha⟩

/-- writing `path ;params` and reading it back, when the last segment of the path holds no `;` -/
theorem splitParams_build (np P : Str) (hseg : 59 ∉ (lastSlash np).2) (h47 : 47 ∉ P) : splitParams (np ++ sfx 59 P) = (np, P) := by
  unfold sfx
  by_cases hP : P = []
  · simp only [hP, if_true, List.append_nil]
    unfold splitParams
    simp [partition_notin 59 _ hseg]
  · simp only [hP, if_false]
    unfold splitParams
    have h47' : 47 ∉ 59 :: P := by simp only [List.mem_cons, not_or]; exact ⟨by decide, h47⟩
    rw [lastSlash_append_noslash np (59 :: P) h47']
    simp only
    rw [partition_stop 59 _ P hseg]
    simp [lastSlash_append]

theorem splitParams_cons47 (u : Str) : splitParams (47 :: u) = (47 :: (splitParams u).1, (splitParams u).2) := by
  unfold splitParams
  rw [lastSlash_cons47]
  by_cases hf : (partition 59 (lastSlash u).2).2.1 = true
  · simp [hf]
  · simp [hf]

/-! ### the four parts of what follows the netloc -/
/-- urlparse's `;params` step: only the schemes in `uses_params` have them split off -/
def params (s q : Str) : Str × Str := if usesParams s then splitParams q else (q, [])

/-- urlparse's reading of what follows the netloc: cut at the first `#`, then at the first `?`, then `;params`.
    `normRestPy` glues these parts again (`normRestPy_eq`), and the request-target views of C34 read them (`targetParts_eq`). -/
def parts (s r : Str) : Target :=
  { path := (params s (partition 63 (partition 35 r).1).1).1, params := (params s (partition 63 (partition 35 r).1).1).2,
    query := (partition 63 (partition 35 r).1).2.2, fragment := (partition 35 r).2.2 }

theorem normRestPy_eq (s r : Str) : normRestPy s r = unparseTarget (parts s r) := rfl

theorem targetParts_eq (s p : Str) : targetParts s p = parts s (if p = [42] then [] else p) := rfl

/-- the quadruples that `urlunparse` followed by `urlparse` gives back: no part holds a delimiter that would end it earlier, the
    parameters hold no `/`, and under a `uses_params` scheme the last segment of the path holds no `;` -/
structure PartsWF (s : Str) (t : Target) : Prop where
  path35 : 35 ∉ t.path
  path63 : 63 ∉ t.path
  seg59 : usesParams s = true → 59 ∉ (lastSlash t.path).2
  params35 : 35 ∉ t.params
  params63 : 63 ∉ t.params
  params47 : 47 ∉ t.params
  query35 : 35 ∉ t.query
  noParams : usesParams s = false → t.params = []

theorem parts_wf (s r : Str) : PartsWF s (parts s r) := by
  have hf35 := partition_fst_notin 35 r
  have hq63 := partition_fst_notin 63 (partition 35 r).1
  have hq := partition_fst_sub 63 (partition 35 r).1
  have hQ := partition_snd_sub 63 (partition 35 r).1
  unfold parts params
  by_cases hu : usesParams s = true
  · simp only [hu, if_true]
    obtain ⟨s1, s2⟩ := splitParams_sub (partition 63 (partition 35 r).1).1
    obtain ⟨g1, g2⟩ := splitParams_seg (partition 63 (partition 35 r).1).1
    exact ⟨fun m => hf35 (hq _ (s1 _ m)), fun m => hq63 (s1 _ m), fun _ => g2, fun m => hf35 (hq _ (s2 _ m)), fun m => hq63 (s2 _ m),
      g1, fun m => hf35 (hQ _ m), fun h => by rw [hu] at h; cases h⟩
  · simp only [hu, Bool.false_eq_true, if_false]
    exact ⟨fun m => hf35 (hq _ m), hq63, fun h => absurd h hu, by simp, by simp, by simp, fun m => hf35 (hQ _ m), fun _ => rfl⟩

theorem parts_unparse (s : Str) (t : Target) (wf : PartsWF s t) : parts s (unparseTarget t) = t := by
  have h63 : 63 ∉ t.path ++ sfx 59 t.params := by
    simp [wf.path63, notin_sfx 63 59 _ (by decide) wf.params63]
  have h35 : 35 ∉ t.path ++ sfx 59 t.params ++ sfx 63 t.query := by
    simp [wf.path35, notin_sfx 35 59 _ (by decide) wf.params35, notin_sfx 35 63 _ (by decide) wf.query35]
  obtain ⟨p1, p2⟩ := partition_sfx 35 _ t.fragment h35
  obtain ⟨p3, p4⟩ := partition_sfx 63 _ t.query h63
  unfold parts unparseTarget
  simp only [p1, p2, p3, p4]
  unfold params
  by_cases hu : usesParams s = true
  · simp only [hu, if_true, splitParams_build t.path t.params (wf.seg59 hu) wf.params47]
  · have hu' : usesParams s = false := by simpa using hu
    simp only [hu', Bool.false_eq_true, if_false, wf.noParams hu', sfx, if_true, List.append_nil]
    have := wf.noParams hu'
    cases t; simp_all

/-! ### normRestPy -/
theorem normRestPy_cons47 (s y : Str) : normRestPy s (47 :: y) = 47 :: normRestPy s y := by
  unfold normRestPy
  rw [partition_cons_ne 35 47 y (by decide)]
  simp only
  rw [partition_cons_ne 63 47 _ (by decide)]
  simp only
  by_cases hu : usesParams s = true
  · simp only [hu, if_true, splitParams_cons47, List.cons_append]
  · simp only [hu, Bool.false_eq_true, if_false, List.cons_append]

theorem normRestPy_idem (s r : Str) : normRestPy s (normRestPy s r) = normRestPy s r := by
  rw [normRestPy_eq s r, normRestPy_eq, parts_unparse s _ (parts_wf s r)]

/-- the path `url.parse` stores — the re-assembled rest, with a `/` put in front if it lacks one — is a fixed point of the re-assembly -/
theorem normRestPy_stored (s r : Str) :
    normRestPy s (if (normRestPy s r).head? = some 47 then normRestPy s r else 47 :: normRestPy s r) =
      (if (normRestPy s r).head? = some 47 then normRestPy s r else 47 :: normRestPy s r) := by
  by_cases h : (normRestPy s r).head? = some 47
  · simp only [h, if_true]; exact normRestPy_idem s r
  · simp only [h, if_false]; rw [normRestPy_cons47, normRestPy_idem]

/-- the re-assembled text consists of characters of the original and the three delimiters -/
theorem normRestPy_sub (s r : Str) : ∀ x ∈ normRestPy s r, x ∈ r ∨ x = 59 ∨ x = 63 ∨ x = 35 := by
  intro x hx
  have hf := partition_fst_sub 35 r
  have hp : x ∈ (params s (partition 63 (partition 35 r).1).1).1 ∨ x ∈ (params s (partition 63 (partition 35 r).1).1).2 →
      x ∈ (partition 63 (partition 35 r).1).1 := by
    unfold params
    split
    · exact fun h => h.elim ((splitParams_sub _).1 x) ((splitParams_sub _).2 x)
    · exact fun h => h.elim id (fun h => by cases h)
  rcases List.mem_append.mp hx with hx | hx
  · rcases List.mem_append.mp hx with hx | hx
    · rcases List.mem_append.mp hx with hx | hx
      · exact Or.inl (hf _ (partition_fst_sub 63 _ x (hp (Or.inl hx))))
      · rcases mem_sfx 59 _ x hx with e | e
        · exact Or.inr (Or.inl e)
        · exact Or.inl (hf _ (partition_fst_sub 63 _ x (hp (Or.inr e))))
    · rcases mem_sfx 63 _ x hx with e | e
      · exact Or.inr (Or.inr (Or.inl e))
      · exact Or.inl (hf _ (partition_snd_sub 63 _ x e))
  · rcases mem_sfx 35 _ x hx with e | e
    · exact Or.inr (Or.inr (Or.inr e))
    · exact Or.inl (partition_snd_sub 35 r x e)

end MitmVerif.C33
