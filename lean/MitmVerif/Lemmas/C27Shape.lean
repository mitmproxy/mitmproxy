/-
  C27: whole-history shape of traces — what follows a `dns_error` hook, a failed connect and (without upstream) a `dns_request`
  hook, and where exceptions can come from.
  `K` = "an exception may leave the layer" (`True`: unconditional shape; `False`: no exception at all, under the hypotheses
  that the addons' responses fit and `DFits False c` — which holds over UDP only, see `DFits`).
-/
import MitmVerif.Lemmas.C27Inv
import MitmVerif.Lemmas.C25Msg
set_option linter.unusedVariables false
set_option linter.unusedSimpArgs false
namespace MitmVerif.C27
open MitmVerif MitmVerif.C25

def Decoded (I : Idna) (m : Msg) : Prop := ∃ b, unpack I b = some m
def Packable (I : Idna) (m : Msg) : Prop := ∃ b, pack I m = some b

/-- `pack_message(m, transport)` succeeds: the message encodes, and over TCP its encoding fits the 16-bit length prefix -/
def Fits (c : Cfg) (m : Msg) : Prop := ∃ b w, pack c.I m = some b ∧ wireOf? c.tcp b = some w

theorem Fits_udp {c : Cfg} {m : Msg} (hudp : c.tcp = false) (h : Packable c.I m) : Fits c m := by
  obtain ⟨b, hb⟩ := h
  exact ⟨b, wireOf c.tcp b, hb, by simp [wireOf?, hudp]⟩

theorem Decoded.packable {I : Idna} {m : Msg} (h : Decoded I m) : Packable I m := by
  obtain ⟨b, hb⟩ := h
  exact pack_ok (unpack_wellFormed0 hb)

/-- the SERVFAIL of a decoded query is well formed: it keeps the query's header fields and question section and has no
    records -/
theorem Decoded.servfail_wellFormed {I : Idna} {q : Msg} (h : Decoded I q) : WellFormed I (servfail q) := by
  obtain ⟨b, hb⟩ := h
  obtain ⟨a1, a2, _, _, a5, _, _, _, a9, _, _, _⟩ := unpack_wellFormed0 hb
  exact ⟨a1, a2, by simp [servfail, fail], by simp [servfail, fail, SERVFAIL], a5, by simp [servfail, fail],
    by simp [servfail, fail], by simp [servfail, fail], a9, by simp [servfail, fail], by simp [servfail, fail],
    by simp [servfail, fail]⟩

theorem Decoded.servfail_packable {I : Idna} {q : Msg} (h : Decoded I q) : Packable I (servfail q) :=
  pack_ok (wellFormed_iff.mp h.servfail_wellFormed).1

theorem parse_decoded (I : Idna) (x : Bytes) : ∀ m ∈ (parse I x).1, Decoded I m := by
  fun_induction parse I x with
  | case4 a b rest h0 hl m' hu r ih => exact List.forall_mem_cons.mpr ⟨⟨_, hu⟩, ih⟩
  | _ => simp

theorem extract_decoded (I : Idna) (tcp : Bool) (buf d : Bytes) : ∀ m ∈ (extract I tcp buf d).1, Decoded I m := by
  intro m hm
  unfold extract at hm
  split at hm
  · exact parse_decoded I _ m hm
  · split at hm
    · simp at hm
    · rename_i m' hu
      simp at hm; rw [hm]; exact ⟨_, hu⟩

/-! ### the shape of traces -/

def isRespOrErrHook (nxt : Option Out) : Prop :=
  (∃ f, nxt = some (.hook .response f)) ∨ ∃ f, nxt = some (.hook .error f)

/-- what must directly follow an output (`nxt` = the next output of the trace, if any); for a `dns_request` hook only on a
    connection without upstream -/
def Follows (K : Prop) (c : Cfg) : Out → Option Out → Prop
  | .crash, _ => K
  | .hook .error f, nxt => ∃ q, f.request = some q ∧ Decoded c.I q ∧
      ((∃ b w, pack c.I (servfail q) = some b ∧ wireOf? c.tcp b = some w ∧ nxt = some (.toClient (servfail q) w)) ∨
       (K ∧ ¬ Fits c (servfail q) ∧ nxt = some .crash))
  | .hook .request _, nxt => c.upstream = false → isRespOrErrHook nxt
  | .opened .fail, nxt => ∃ f, nxt = some (.hook .error f)
  | .opened .killed, nxt => ∃ f, nxt = some (.hook .error f)
  | _, _ => True

/-- every output of the trace is followed as `F` demands -/
def Chain (F : Out → Option Out → Prop) : List Out → Prop
  | [] => True
  | o :: rest => F o rest.head? ∧ Chain F rest

theorem Chain.append {F : Out → Option Out → Prop} (hF : ∀ o x, F o none → F o x) :
    ∀ (a b : List Out), Chain F a → Chain F b → Chain F (a ++ b)
  | [], _, _, hb => hb
  | [o], _, ha, hb => ⟨hF o _ ha.1, hb⟩
  | o :: o2 :: r, b, ha, hb => ⟨ha.1, Chain.append hF (o2 :: r) b ha.2 hb⟩

/-- unfolding `Chain` at a position -/
theorem Chain.at {F : Out → Option Out → Prop} : ∀ (pre : List Out) (o : Out) (post : List Out),
    Chain F (pre ++ o :: post) → F o post.head?
  | [], _, _, h => h.1
  | _ :: pre, o, post, h => Chain.at pre o post h.2

abbrev Shape (K : Prop) (c : Cfg) : List Out → Prop := Chain (Follows K c)

theorem Follows_none {K : Prop} {c : Cfg} (o : Out) (x : Option Out) (h : Follows K c o none) : Follows K c o x := by
  cases o with
  | hook hk f =>
    cases hk with
    | request => exact fun hu => (h hu).elim (fun ⟨_, e⟩ => nomatch e) fun ⟨_, e⟩ => nomatch e
    | response => trivial
    | error => simp_all [Follows]
  | opened r => cases r <;> simp_all [Follows]
  | crash => exact h
  | _ => trivial

/-- every decoded message (client query, upstream reply) and the SERVFAIL of every decoded query can be sent — or
    exceptions are allowed.  `m` ranges over EVERYTHING the codec decodes from any bytes, not over the messages of a history.
    So `DFits True c` is trivial, `DFits False c` is true over UDP (`Decoded.packable`, `Decoded.servfail_packable`, `Fits_udp`)
    and FALSE over TCP: some decodable message encodes to more than 65535 bytes (Props/C26
    `oversize_reencoding_counterexample`; one TXT record of 65535 bytes under the root name, canonical for every codec). -/
def DFits (K : Prop) (c : Cfg) : Prop := ∀ m, Decoded c.I m → (K ∨ Fits c m) ∧ (K ∨ Fits c (servfail m))

/-- the responses the addons set come from the script, which only gets shorter -/
theorem popAct_script (σ : Core) : (∀ m, (popAct σ).1 = .respond m → m ∈ addonMsgs σ.acts) ∧
    ∀ m ∈ addonMsgs (popAct σ).2.acts, m ∈ addonMsgs σ.acts :=
  have h := popAct_spec (Q := (· ∈ addonMsgs σ.acts)) σ fun _ h => h
  ⟨h.2.1, h.1⟩

theorem Sends.shape {K : Prop} {c : Cfg} {mk : Msg → Bytes → Out} {σ : Core} {m : Msg} {s : Core × List Out}
    (h : Sends c mk σ m s) (hm : K ∨ Fits c m) (hmk : ∀ w, Follows K c (mk m w) none) : Shape K c s.2 := by
  cases h with
  | sent => exact ⟨hmk _, trivial⟩
  | raised hn => exact ⟨hm.resolve_right hn, trivial⟩

theorem Responds.shape {K : Prop} {c : Cfg} {σ : Core} {k : Nat} {f : Flow} {m : Msg} {s : Core × List Out}
    (h : Responds c σ k f m s) (hm : K ∨ Fits c m) (ha : ∀ r, (popAct σ).1 = .respond r → K ∨ Fits c r) :
    isRespOrErrHook s.2.head? ∧ Shape K c s.2 := by
  cases h with
  | cleared => exact ⟨Or.inl ⟨_, rfl⟩, trivial, trivial⟩
  | answered hr hs =>
    exact ⟨Or.inl ⟨_, rfl⟩, trivial, hs.shape ((resolve_some hr).elim (ha _) fun e => e ▸ hm) fun _ => trivial⟩

/-- The shape of what one decoded message makes the layer emit. No invariant of the flow table enters beyond "every stored
    flow has a request": what is sent is the message itself, its SERVFAIL, or a response of the script. -/
theorem Handled.shape {K : Prop} {c : Cfg} {σ : Core} {fc : Bool} {x : Msg} {r : Core × List Out} (h : Handled c σ fc x r)
    (hreq : ∀ k f, (k, f) ∈ σ.flows → ∃ q, f.request = some q) (hacts : ∀ m ∈ addonMsgs σ.acts, K ∨ Fits c m)
    (hx : Decoded c.I x) (hxf : (K ∨ Fits c x) ∧ (K ∨ Fits c (servfail x))) : Shape K c r.2 := by
  -- with an upstream nothing is demanded behind the `dns_request` hook
  have up : ∀ {nxt}, ¬ ((askedFlow σ x).error = true ∨ ¬ c.upstream = true) → Follows K c (.hook .request (askFlow σ x)) nxt :=
    fun h hu => absurd (Or.inr (by simp [hu])) h
  cases h with
  | answered ha hs =>
    have g := hs.shape (hacts _ ((popAct_script σ).1 _ (askedFlow_response ha))) fun r hr => by
      rw [popAct_askedCore] at hr
      exact hacts r ((popAct_script σ).2 r ((popAct_script _).1 r hr))
    exact ⟨fun _ => g.1, g.2⟩
  | @failed _ _ _ s _ _ hpre hs =>
    -- the SERVFAIL, or the exception of `pack_message`, directly behind the `dns_error` hook
    have hfol : Follows K c (.hook .error { askedFlow σ x with error := true }) s.2.head? := ⟨x, askedFlow_request σ x, hx, by
      cases hs with
      | sent hb hw => exact Or.inl ⟨_, _, hb, hw, rfl⟩
      | raised hn => exact Or.inr ⟨hxf.2.resolve_right hn, hn, rfl⟩⟩
    have g := hs.shape hxf.2 fun _ => trivial
    rcases hpre with rfl | ⟨hne, rfl | rfl⟩
    · exact ⟨fun _ => Or.inr ⟨_, rfl⟩, hfol, g⟩
    · exact ⟨up hne, ⟨_, rfl⟩, hfol, g⟩
    · exact ⟨up hne, ⟨_, rfl⟩, hfol, g⟩
  | forwarded _ _ hne hpre hs =>
    have g := hs.shape hxf.1 fun _ => trivial
    rcases hpre with rfl | rfl
    · exact ⟨up hne, g⟩
    · exact ⟨up hne, trivial, g⟩
  | ignored => trivial
  | orphan hl hr =>
    obtain ⟨q, h1⟩ := hreq _ _ (mem_of_lookup hl)
    exact nomatch hr.symm.trans h1
  | relayed _ _ _ hs => exact (hs.shape hxf.1 fun r hr => hacts r ((popAct_script σ).1 r hr)).2

/-- the shape of whole traces: `A` are the responses of the script (`Inv`) -/
theorem run_shape (K : Prop) (c : Cfg) (hD : DFits K c) {A : List Msg} (hA : ∀ m ∈ A, K ∨ Fits c m) (evs : List Ev) (σ : State)
    (hinv : Inv A σ.core) : Shape K c (run c σ evs).2 := by
  refine Sequential.of_run_inv (R := fun _ r => Shape K c r.2) ⟨fun _ => trivial, Chain.append Follows_none _ _⟩ c A
    (fun fc buf d m hm τ hi => ?_) (fun hk => ?_) evs σ hinv
  · have hd := extract_decoded c.I c.tcp buf d m hm
    exact (handled c τ fc m).shape (fun k f hkf => (hi.1 k f hkf).imp fun _ h => h.1) (fun m hm => hA m (hi.2 m hm)) hd (hD m hd)
  · rcases hk.out with e | e | e <;> simp [e, Chain, Follows]

/-- … read at a position: in every history each output is followed as `Follows` demands -/
theorem run_follows (K : Prop) (c : Cfg) (hD : DFits K c) {A : List Msg} (hA : ∀ m ∈ A, K ∨ Fits c m) (evs : List Ev) (σ : State)
    (hinv : Inv A σ.core) {pre post : List Out} {o : Out} (htr : (run c σ evs).2 = pre ++ o :: post) :
    Follows K c o post.head? :=
  Chain.at pre o post (htr ▸ run_shape K c hD hA evs σ hinv)

end MitmVerif.C27
