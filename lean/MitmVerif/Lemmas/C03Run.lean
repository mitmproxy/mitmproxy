/-
  C03 — lifting to the concrete layer (sizes + `_paused_event_queue`): after any sequence of inputs the core
  satisfies the invariant and its monitor state is the monitor run over everything emitted so far.
-/
import MitmVerif.Lemmas.C03Inv
import MitmVerif.Lemmas.C03Mon
namespace MitmVerif.C03

def Good (s : St) : Prop :=
  InvB s.core = true ∧ (s.core.bad = true ∨ s.core.m = scan s.outs)

theorem good_init (l t : Nat) : Good (init l t) := by
  refine ⟨?_, Or.inr rfl⟩
  show InvB {} = true
  exact inv_init

theorem procEv_bad (c : Core) (ev : AEv) (p q : Bool) (hb : c.bad = true) : (procEv c ev p q).c.bad = true := by
  unfold procEv; simp [hb, mk]

theorem procDone_bad (c : Core) (ev : AEv) (p : Bool) (hb : c.bad = true) : (procDone c ev p).c.bad = true := by
  unfold procDone; simp [hb, mk]

theorem scan_tracks {c : Core} {outs : List Out} {w : W} (hL : c.bad = true ∨ c.m = scan outs)
    (hbad : c.bad = true → w.c.bad = true) (ht : w.c.bad = true ∨ Tracks c.m w) :
    w.c.bad = true ∨ w.c.m = scan (outs ++ w.out) := by
  rcases hL with hb | hm
  · exact .inl (hbad hb)
  · refine ht.imp id fun ht => ?_
    rw [ht, hm, scan_append]

theorem good_handleNow (s : St) (ev : Ev) (queued : Bool) (hg : Good s)
    (hpre : ev.isDone = true ∨ s.core.paused = none) : Good (handleNow s ev queued) := by
  obtain ⟨hI, hL⟩ := hg
  unfold handleNow
  by_cases hd : ev.isDone = true
  · simp only [hd, ↓reduceIte]
    exact ⟨inv_procDone _ _ _ hI, scan_tracks hL (procDone_bad _ _ _) (tracks_procDone _ _ _)⟩
  · have hp : s.core.paused = none := hpre.resolve_left hd
    simp only [hd, Bool.false_eq_true, ↓reduceIte]
    exact ⟨inv_procEv _ _ _ _ hI hp, scan_tracks hL (procEv_bad _ _ _ _) (tracks_procEv _ _ _ _)⟩

theorem good_run (l t : Nat) (evs : List Ev) : Good (run l t evs) :=
  run_invariant Good (fun _ _ h => h) good_handleNow l t (good_init l t) evs

end MitmVerif.C03
