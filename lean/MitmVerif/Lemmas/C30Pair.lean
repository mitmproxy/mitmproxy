/-
  C30 — the pairing of a NEW client-initiated stream with the C29 relay model as the child (`relayOps`): the first
  event on an unknown client id registers a stream layer whose child has fired its start hook and waits
  (`first_event_registers`); the child answers the completion of that hook with OpenConnection
  (`relay_asks_to_connect`).  Props/C30.lean combines both with `open_connection_pairs_the_stream`.
-/
import MitmVerif.Lemmas.C30
namespace MitmVerif.C30.Lemmas
open MitmVerif MitmVerif.C30
open MitmVerif.C29 (Side Conn)

/-- the TCP child of a stream that has fired its start hook and waits for its completion -/
def Waits (st : C29.State) : Prop :=
  st.phase = .start ∧ st.pending = .startHook ∧ st.connected = false ∧ st.flow = true

theorem c29_start (st : C29.State) (hp : st.phase = .idle) (hf : st.flow = true) :
    C29.step st .start = { C29.emit { st with phase := .start } (.hook .start) with pending := .startHook } := by
  unfold C29.step
  split
  · simp [hf]
  · rename_i h; exact absurd hp h

theorem c29_buffer (st : C29.State) (hq : st.pending = .startHook) (ev : C29.Ev) :
    C29.deliver st ev = { st with queue := st.queue ++ [ev] } := by
  unfold C29.deliver; rw [hq]

theorem c29_data (st : C29.State) (hp : st.phase = .start) (src : Side) (d : Bytes) :
    C29.step st (.data src d) = C29.deliver st (.data src d) := by
  unfold C29.step
  split
  · rename_i h; rw [hp] at h; cases h
  · rfl

theorem c29_closed (st : C29.State) (hp : st.phase = .start) (sd : Side) (f : Bool) :
    C29.step st (.closed sd f) =
      C29.deliver (st.setConn sd (if f then .shut else { st.conn sd with canRead := false })) (.closed sd) := by
  unfold C29.step
  split
  · rename_i h; rw [hp] at h; cases h
  · rfl

theorem c29_starthook (st : C29.State) (hp : st.phase = .start) (hq : st.pending = .startHook) (hc : st.connected = false) :
    C29.step st (.hookDone none) =
      C29.drain st.queue { C29.emit { st with pending := .none } .openServer with pending := .connect } := by
  unfold C29.step
  split
  · rename_i h; rw [hp] at h; cases h
  · simp only [hq, C29.enterRelayOrConnect, hc, Bool.false_eq_true, if_false]
    simp [C29.emit]

theorem c29_drain_paused (q : List C29.Ev) (st : C29.State) (h : st.pending = .connect) :
    C29.drain q st = { st with queue := q } := by
  cases q with
  | nil => simp [C29.drain]
  | cons e t => unfold C29.drain; rw [h]

/-- the child state as `relayOps.step` hands it to the C29 model: the stream's connection states put in, the log emptied -/
def adj (st : C29.State) (c s : Conn) : C29.State := { st with client := c, server := s, connectAs := s, trace := [] }

theorem relay_step_eq (st : C29.State) (c s : Conn) (i : C29.Input) :
    relayOps.step st c s i = ({ C29.step (adj st c s) i with trace := [] }, (C29.step (adj st c s) i).trace) := rfl

theorem relay_start (c s : Conn) :
    (relayOps.step (relayOps.mkStream false) c s .start).2 = [.hook .start] ∧
    Waits (relayOps.step (relayOps.mkStream false) c s .start).1 := by
  rw [relay_step_eq, c29_start (adj (relayOps.mkStream false) c s) rfl rfl]
  simp [C29.emit, adj, relayOps, C29.init, Waits]

theorem relay_buffers (st : C29.State) (h : Waits st) (c s : Conn) (i : C29.Input)
    (hi : (∃ src d, i = .data src d) ∨ (∃ sd f, i = .closed sd f)) :
    (relayOps.step st c s i).2 = [] ∧ Waits (relayOps.step st c s i).1 := by
  obtain ⟨h1, h2, h3, h4⟩ := h
  have a1 : (adj st c s).phase = .start := h1
  have a2 : (adj st c s).pending = .startHook := h2
  rcases hi with ⟨src, d, rfl⟩ | ⟨sd, f, rfl⟩
  · rw [relay_step_eq, c29_data _ a1, c29_buffer _ a2]
    simp [Waits, adj, h1, h2, h3, h4]
  · rw [relay_step_eq, c29_closed _ a1, c29_buffer _ (by cases sd <;> simpa [C29.State.setConn] using a2)]
    cases sd <;> simp [Waits, adj, C29.State.setConn, h1, h2, h3, h4]

theorem relay_asks_to_connect (st : C29.State) (h : Waits st) (c s : Conn) :
    (relayOps.step st c s (.hookDone none)).2 = [.openServer] := by
  obtain ⟨h1, h2, h3, h4⟩ := h
  have a1 : (adj st c s).phase = .start := h1
  have a2 : (adj st c s).pending = .startHook := h2
  have a3 : (adj st c s).connected = false := h3
  rw [relay_step_eq, c29_starthook _ a1 a2 a3, c29_drain_paused _ _ (by simp)]
  simp [C29.emit, adj]

/-- a freshly registered client-initiated stream whose TCP child waits for its start hook -/
def FreshTS (id : Nat) (n : Next) (ts : TS C29.State) : Prop :=
  ts.s.cid = id ∧ ts.s.sid = none ∧ Waits ts.s.child ∧ ts.next = n ∧ ts.halt = false

theorem translate_nil {σ : Type} (ops : ChildOps σ) (ts : TS σ) : translate ops FUEL ts [] = ts := rfl

theorem translate_one {σ : Type} (ops : ChildOps σ) (n : Nat) (ts : TS σ) (c : C29.Output) :
    translate ops (n + 1) ts [c] = procOne ops (translate ops n) ts c := rfl

theorem fresh_start (id : Nat) (n : Next) (ts : TS C29.State) (h1 : ts.s.cid = id) (h2 : ts.s.sid = none)
    (h3 : ts.s.child = relayOps.mkStream false) (h4 : ts.next = n) (h5 : ts.halt = false) :
    FreshTS id n (eventToChild relayOps ts .start) := by
  unfold eventToChild
  simp only [h5, Bool.false_eq_true, if_false, h3]
  obtain ⟨o, w⟩ := relay_start ts.s.cConn ts.s.sConn
  rw [o]
  simp only [translate, FUEL, List.foldl_cons, List.foldl_nil, procOne, Bool.false_eq_true, if_false]
  exact ⟨h1, h2, w, h4, rfl⟩

theorem fresh_buffer (id : Nat) (n : Next) (ts : TS C29.State) (h : FreshTS id n ts) (i : C29.Input)
    (hi : (∃ src d, i = .data src d) ∨ (∃ sd f, i = .closed sd f)) : FreshTS id n (eventToChild relayOps ts i) := by
  obtain ⟨h1, h2, h3, h4, h5⟩ := h
  unfold eventToChild
  simp only [h5, Bool.false_eq_true, if_false]
  obtain ⟨o, w⟩ := relay_buffers ts.s.child h3 ts.s.cConn ts.s.sConn i hi
  rw [o, translate_nil]
  exact ⟨h1, h2, w, h4, rfl⟩

theorem fresh_close (id : Nat) (n : Next) (ts : TS C29.State) (h : FreshTS id n ts) :
    FreshTS id n (closeLayer relayOps ts .client) := by
  obtain ⟨h1, h2, h3, h4, h5⟩ := h
  unfold closeLayer closeStreamLayer
  simp only [h5, Bool.false_eq_true, if_false]
  generalize hs1 : ts.s.setConn Side.client { ts.s.conn Side.client with canRead := false } = s1
  have k1 : s1.cid = id ∧ s1.sid = none ∧ Waits s1.child := by
    subst hs1; exact ⟨h1, h2, h3⟩
  have hid : s1.idOf Side.client ≠ none := by simp [Stream.idOf]
  simp only [hid, if_false]
  split
  · exact ⟨k1.1, k1.2.1, k1.2.2, h4, rfl⟩
  · obtain ⟨o, w⟩ := relay_buffers _ (show Waits (s1.setEnded Side.client).child from k1.2.2)
      (s1.setEnded Side.client).cConn (s1.setEnded Side.client).sConn (.closed .client false) (Or.inr ⟨_, _, rfl⟩)
    rw [o, translate_nil]
    exact ⟨k1.1, k1.2.1, w, h4, rfl⟩

/-- first step: data (with or without FIN) on an unknown client-initiated id registers a layer whose child waits -/
theorem first_event_registers (m : Mux C29.State) (id : Nat) (d : Bytes) (fin : Bool) (hd : m.done = false)
    (hfind : m.find true id = none) (hci : isClientInit id = true) :
    ∃ ts : TS C29.State, FreshTS id m.next ts ∧
      (step relayOps m (.streamData true id d fin)).1.streams = m.streams ++ [ts.s] ∧
      (step relayOps m (.streamData true id d fin)).1.next = m.next ∧
      (step relayOps m (.streamData true id d fin)).1.done = false := by
  unfold step
  simp only [hd, Bool.false_eq_true, if_false]
  unfold streamEvent
  simp only [hfind, hci, bne_self_eq_false, Bool.false_eq_true, if_false, if_true]
  unfold Mux.withStream
  simp only
  -- the body applied to the fresh layer
  have h0 := fresh_start id m.next
    ({ s := { cid := id, sid := none, cConn := clientConnFor id, sConn := Conn.shut, cEnded := false, sEnded := false,
              child := relayOps.mkStream (!true) }, next := m.next, out := [], halt := false } : TS C29.State)
    rfl rfl rfl rfl rfl
  generalize eventToChild relayOps _ .start = ts0 at h0 ⊢
  have h1 : FreshTS id m.next
      (if d.isEmpty = true then ts0 else eventToChild relayOps ts0 (.data (sideOf true) d)) := by
    split
    · exact h0
    · exact fresh_buffer id m.next _ h0 _ (Or.inl ⟨_, _, rfl⟩)
  generalize (if d.isEmpty = true then ts0 else eventToChild relayOps ts0 (.data (sideOf true) d)) = ts1 at h1 ⊢
  have h2 : FreshTS id m.next (if fin = true then closeLayer relayOps ts1 (sideOf true) else ts1) := by
    split
    · exact fresh_close id m.next ts1 h1
    · exact h1
  refine ⟨_, h2, ?_, h2.2.2.2.1, hd⟩
  simp [List.set_append_right]

end MitmVerif.C30.Lemmas
