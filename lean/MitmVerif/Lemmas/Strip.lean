/-
  `s.lstrip()`, `s.rstrip()`, `s.strip()` for any test `p` of what is stripped, over any element type, once for all
  properties: `trimL p l = l.dropWhile p`, `trimR p l = (l.reverse.dropWhile p).reverse`, `trim p l = trimR p (trimL p l)`.
  Most models write `strip` in exactly this form (`C32.strip`, `C35.strip`, `C06.pyStrip`, …: the bridge is `rfl`); `C01`
  has recursive `lstripBy` / `rstripBy`, proved equal to these forms in Lemmas/C01.lean.
-/
namespace MitmVerif
variable {α : Type}

def trimL (p : α → Bool) (l : List α) : List α := l.dropWhile p
def trimR (p : α → Bool) (l : List α) : List α := (l.reverse.dropWhile p).reverse
def trim (p : α → Bool) (l : List α) : List α := trimR p (trimL p l)

theorem trimL_suffix (p : α → Bool) (l : List α) : trimL p l <:+ l := List.dropWhile_suffix p

theorem trimR_prefix (p : α → Bool) (l : List α) : trimR p l <+: l := by
  rw [trimR, ← List.reverse_suffix, List.reverse_reverse]
  exact List.dropWhile_suffix p

theorem trim_infix (p : α → Bool) (l : List α) : trim p l <:+: l :=
  (trimR_prefix p _).isInfix.trans (trimL_suffix p l).isInfix

theorem mem_trim {p : α → Bool} {l : List α} {x : α} (h : x ∈ trim p l) : x ∈ l := (trim_infix p l).subset h

theorem trimL_head (p : α → Bool) (l : List α) : ∀ c, (trimL p l).head? = some c → p c = false := by
  intro c h
  have := List.head?_dropWhile_not p l
  rw [← trimL, h] at this
  simpa using this

theorem trimR_last (p : α → Bool) (l : List α) : ∀ c, (trimR p l).getLast? = some c → p c = false := by
  intro c h
  rw [trimR, List.getLast?_reverse] at h
  exact trimL_head p l.reverse c h

theorem trimL_decomp {p : α → Bool} (l : List α) : ∃ s, l = s ++ trimL p l ∧ s.all p = true :=
  ⟨l.takeWhile p, by rw [trimL, List.takeWhile_append_dropWhile], List.all_takeWhile⟩

theorem trimR_decomp {p : α → Bool} (l : List α) : ∃ s, l = trimR p l ++ s ∧ s.all p = true :=
  ⟨(l.reverse.takeWhile p).reverse, by
    rw [trimR, ← List.reverse_append, List.takeWhile_append_dropWhile, List.reverse_reverse],
    by rw [List.all_reverse]; exact List.all_takeWhile⟩

theorem trimL_all_append {p : α → Bool} {s x : List α} (hs : s.all p = true)
    (hx : ∀ c, x.head? = some c → p c = false) : trimL p (s ++ x) = x := by
  rw [trimL, List.dropWhile_append_of_pos (by simpa using hs)]
  cases x with
  | nil => rfl
  | cons c t => simp [hx c rfl]

theorem trimR_append_all {p : α → Bool} {s x : List α} (hs : s.all p = true)
    (hx : ∀ c, x.getLast? = some c → p c = false) : trimR p (x ++ s) = x := by
  have := trimL_all_append (p := p) (s := s.reverse) (x := x.reverse) (by simpa using hs) (by simpa using hx)
  rw [trimR, List.reverse_append, ← trimL, this, List.reverse_reverse]

/-- what `trimR` leaves begins as the list began -/
theorem trimR_head {p : α → Bool} {l : List α} {a : α} {x : List α} (h : trimR p l = a :: x) : ∃ l', l = a :: l' := by
  obtain ⟨t, ht⟩ := h ▸ trimR_prefix p l
  exact ⟨x ++ t, ht.symm⟩

theorem trimL_id {p : α → Bool} {a : α} {l : List α} (h : p a = false) : trimL p (a :: l) = a :: l := by
  simp [trimL, h]

theorem trim_ends (p : α → Bool) (l : List α) :
    (∀ c, (trim p l).head? = some c → p c = false) ∧ (∀ c, (trim p l).getLast? = some c → p c = false) := by
  refine ⟨fun c hc => ?_, trimR_last p _⟩
  cases hx : trim p l with
  | nil => simp [hx] at hc
  | cons a x =>
    obtain ⟨l', hl'⟩ := trimR_head hx
    rw [hx] at hc
    cases hc
    exact trimL_head p l _ (by rw [hl']; rfl)

/-- a list whose first and last element are kept is left as it is -/
theorem trim_fix {p : α → Bool} {x : List α} (h1 : ∀ c, x.head? = some c → p c = false)
    (h2 : ∀ c, x.getLast? = some c → p c = false) : trim p x = x := by
  have a := trimL_all_append (p := p) (s := []) rfl h1
  have b := trimR_append_all (p := p) (s := []) rfl h2
  rw [List.nil_append] at a
  rw [List.append_nil] at b
  rw [trim, a, b]

theorem trim_idem (p : α → Bool) (l : List α) : trim p (trim p l) = trim p l :=
  trim_fix (trim_ends p l).1 (trim_ends p l).2

theorem trim_all_false {p : α → Bool} {l : List α} (h : ∀ c ∈ l, p c = false) : trim p l = l :=
  trim_fix (fun c hc => h c (List.mem_of_head? hc)) (fun c hc => h c (List.mem_of_getLast? hc))

theorem trimR_all_false {p : α → Bool} {l : List α} (h : ∀ c ∈ l, p c = false) : trimR p l = l := by
  simpa using trimR_append_all (p := p) (s := []) (x := l) rfl (fun c hc => h c (List.mem_of_getLast? hc))

theorem trim_of_trimR {p : α → Bool} {l : List α} {a : α} {x : List α}
    (h : trimR p l = a :: x) (ha : p a = false) : trim p l = a :: x := by
  obtain ⟨l', rfl⟩ := trimR_head h
  rw [trim, trimL_id ha, h]

/-- what is put in front of a list of which `trimR` leaves something is kept -/
theorem trimR_append_keep {p : α → Bool} (a : List α) {l : List α} {r : α} {rs : List α}
    (h : trimR p l = r :: rs) : trimR p (a ++ l) = a ++ r :: rs := by
  obtain ⟨s, hb, hs⟩ := trimR_decomp (p := p) l
  have hl := trimR_last p l
  rw [h] at hb hl
  rw [hb, ← List.append_assoc]
  refine trimR_append_all hs fun c hc => hl c ?_
  rwa [List.getLast?_append, List.getLast?_cons, Option.some_or, ← List.getLast?_cons] at hc

theorem trim_cons_ws {p : α → Bool} {c : α} (hc : p c = true) (l : List α) : trim p (c :: l) = trim p l := by
  simp [trim, trimL, hc]

theorem trim_congr {p q : α → Bool} {l : List α} (h : ∀ c ∈ l, p c = q c) : trim p l = trim q l := by
  have dw : ∀ {l : List α}, (∀ c ∈ l, p c = q c) → l.dropWhile p = l.dropWhile q := by
    intro l
    induction l with
    | nil => exact fun _ => rfl
    | cons c t ih =>
      intro h
      simp only [List.dropWhile_cons, h c List.mem_cons_self, ih fun x hx => h x (List.mem_cons_of_mem _ hx)]
  unfold trim trimR trimL
  rw [dw h, dw fun c hc => h c ((List.dropWhile_suffix q).subset (List.mem_reverse.mp hc))]

end MitmVerif
