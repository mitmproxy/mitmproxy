/-
  Lemmas for C06, the HTTP/1 side of the conversion: what `validate_request` / `validate_headers` leave of a message,
  the field list `Http1Client.send` writes (`toH1Fields`: Host inserted, cookies joined by `set_all`, Content-Length
  added), the reason phrase `Http1Server.send` supplies, and the two read-back theorems — what is written for such a
  request (`request_read_back`) or response (`response_read_back`) is read by the reference reader as exactly that one
  message.  Where the message comes from (an HTTP/2 header block in Props/C06) only matters for the hypotheses: no
  NUL, CR or LF in the values.
-/
import MitmVerif.Lemmas.C06
namespace MitmVerif.C06
open MitmVerif

theorem clStrict_digits (v : Bytes) (h : clStrict v = true) : ∀ c ∈ v, isDigit c = true := by
  revert h
  fun_cases clStrict v <;> simp_all

theorem validateHeaders_parts (fs : List Field) (isReq noTe : Bool) (len : Nat)
    (hh : validateHeaders fs false isReq noTe = true)
    (hlaw : ∀ g, fs.filter (nameIs sCL) = [g] → Ref.parseDec g.2 = some len) :
    (∀ f ∈ fs, isToken f.1 = true) ∧ Announced fs len := by
  simp only [validateHeaders, Bool.and_eq_true] at hh
  obtain ⟨hall, hfr⟩ := hh
  have hte : fs.filter (nameIs sTE) = [] := by
    cases hte : fs.filter (nameIs sTE) with
    | nil => rfl
    | cons t ts =>
      exfalso
      simp only [hte, List.map_cons] at hfr
      cases ts <;> simp at hfr
  refine ⟨?_, hte, ?_⟩
  · intro f hf
    have := (List.all_eq_true.mp hall) f hf
    simp only [Bool.and_eq_true] at this
    exact this.1
  · simp only [hte, List.map_nil] at hfr
    cases hcl : fs.filter (nameIs sCL) with
    | nil => left; rfl
    | cons g gs =>
      right
      cases gs with
      | nil => exact ⟨g, rfl, clStrict_digits g.2 (by simpa [hcl] using hfr), hlaw g hcl⟩
      | cons g2 gs2 => simp [hcl] at hfr

theorem validate_parts (r : Req) (hval : validateRequest r false = true) :
    r.method ≠ [] ∧ (∀ c ∈ r.method, isLineWs c = false) ∧ (∀ c ∈ r.path, isLineWs c = false)
      ∧ validateHeaders r.fields false true false = true := by
  simp only [validateRequest, Bool.and_eq_true, Bool.not_eq_true', List.any_eq_false, Bool.not_eq_true] at hval
  obtain ⟨⟨⟨⟨_, hm1⟩, hm2⟩, hp⟩, hh⟩ := hval
  exact ⟨by intro e; simp [e] at hm1, hm2, hp, hh⟩

theorem setAll_filter (key value : Bytes) (q : Field → Bool) (l : List Field) (d : Bool)
    (hq : ∀ f : Field, lower f.1 == lower key → q f = false ∧ q (f.1, value) = false) :
    (setAll key value l d).filter q = l.filter q := by
  fun_induction setAll key value l d
  case case1 => rfl
  case case2 => simp [(hq (key, value) (by simp)).1]
  case case3 f rest h ih => simp [ih, (hq f h).1]
  case case4 f rest d h _ ih => simp [ih, (hq f h).1, (hq f h).2]
  case case5 f rest d h ih => simp [List.filter_cons, ih]

theorem setAll_values (key value : Bytes) (l : List Field) (d : Bool) :
    ((setAll key value l d).filter (nameIs (lower key))).map (·.2) = if d then [] else [value] := by
  fun_induction setAll key value l d <;> simp [nameIs, *]

theorem setAll_forall (P : Field → Prop) (key value : Bytes) (l : List Field) (d : Bool)
    (hl : ∀ g ∈ l, P g ∧ P (g.1, value)) (hk : P (key, value)) : ∀ f ∈ setAll key value l d, P f := by
  fun_induction setAll key value l d
  case case1 => simp
  case case2 => simpa using hk
  case case3 f rest h ih => exact ih fun x hx => hl x (List.mem_cons_of_mem _ hx)
  case case4 f rest d h _ ih =>
    simpa [(hl f (by simp)).2] using ih fun x hx => hl x (List.mem_cons_of_mem _ hx)
  case case5 f rest d h ih =>
    simpa [(hl f (by simp)).1] using ih fun x hx => hl x (List.mem_cons_of_mem _ hx)

theorem joinCookies_def (fs : List Field) :
    joinCookies fs = if (cookieValues fs).length > 1 then setAll sCookieL (joinWith sSemiSp (cookieValues fs)) fs false else fs := rfl

theorem nameIs_mk (n k v : Bytes) : nameIs n (k, v) = (lower k == n) := rfl

theorem filter_joinCookies (q : Field → Bool) (fs : List Field)
    (hq : ∀ f : Field, (lower f.1 == lower sCookieL) = true → ∀ v, q (f.1, v) = false) :
    (joinCookies fs).filter q = fs.filter q := by
  rw [joinCookies_def]
  split
  · exact setAll_filter _ _ _ _ _ fun f hf => ⟨hq f hf f.2, hq f hf _⟩
  · rfl

theorem filter_insertHost (q : Field → Bool) (r : Req) (hq : q (sHost, r.authority) = false) :
    (insertHost r).filter q = r.fields.filter q := by
  unfold insertHost
  split <;> simp [hq]

theorem cookie_ne (n : Bytes) (hn : n ≠ sCookieL) (f : Field) (h : (lower f.1 == lower sCookieL) = true)
    (v : Bytes) : nameIs n (f.1, v) = false := by
  have e : lower sCookieL = sCookieL := by decide
  rw [e] at h
  have : lower f.1 = sCookieL := by simpa using h
  simpa [nameIs, this] using fun h2 => hn h2.symm

/-- neither the Host inserted nor the Cookie fields joined have a name other than theirs -/
theorem filter_joined (n : Bytes) (hn1 : n ≠ sCookieL) (hn2 : n ≠ sHostL) (r : Req) :
    (joinCookies (insertHost r)).filter (nameIs n) = r.fields.filter (nameIs n) := by
  rw [filter_joinCookies _ _ (cookie_ne n hn1), filter_insertHost]
  have e : lower sHost = sHostL := by decide
  simpa [nameIs, e] using fun h => hn2 h.symm

theorem filter_addFraming (q : Field → Bool) (fs : List Field) (body : Bytes)
    (hq : q (sCL, natDec body.length) = false) : (addFraming fs body).filter q = fs.filter q := by
  unfold addFraming
  split <;> simp [List.filter_append, hq]

theorem addFraming_announced (fs : List Field) (body : Bytes) (h : Announced fs body.length) :
    Announced (addFraming fs body) body.length ∧ (hasName sCL (addFraming fs body) = false → body = []) := by
  have hte : hasName sTE fs = false := by simp [hasName_iff, h.1]
  unfold addFraming
  split
  · rename_i hc
    simp only [Bool.and_eq_true, Bool.not_eq_true'] at hc
    have hnone : fs.filter (nameIs sCL) = [] := by simpa [hasName_iff] using hc.1.2
    have h1 : nameIs sTE (sCL, natDec body.length) = false := by rw [nameIs_mk]; decide
    have h2 : nameIs sCL (sCL, natDec body.length) = true := by rw [nameIs_mk]; decide
    exact ⟨⟨by simp [List.filter_append, h.1, h1], .inr ⟨(sCL, natDec body.length),
      by simp [List.filter_append, hnone, h2], natDec_digits _, parseDec_natDec _⟩⟩,
      fun hn => by simp [hasName, h2] at hn⟩
  · rename_i hc
    exact ⟨h, fun hn => by simpa [hn, hte] using hc⟩

theorem toH1_announced (r : Req) (body : Bytes) (h : Announced r.fields body.length) :
    Announced (toH1Fields r body) body.length ∧ (hasName sCL (toH1Fields r body) = false → body = []) :=
  addFraming_announced _ body
    ⟨by rw [filter_joined sTE (by decide) (by decide)]; exact h.1,
     by rw [filter_joined sCL (by decide) (by decide)]; exact h.2⟩

theorem toH1_clean (r : Req) (body : Bytes) (hfields : ∀ f ∈ r.fields, fieldClean f)
    (hauth : ∀ c ∈ r.authority, c ≠ 0 ∧ c ≠ 10 ∧ c ≠ 13) : ∀ f ∈ toH1Fields r body, fieldClean f := by
  have hins : ∀ f ∈ insertHost r, fieldClean f := by
    intro f hf
    unfold insertHost at hf
    split at hf
    · rcases List.mem_cons.mp hf with rfl | h
      · exact ⟨(by decide : isToken sHost = true), hauth⟩
      · exact hfields f h
    · exact hfields f hf
  have hjoin : ∀ f ∈ joinCookies (insertHost r), fieldClean f := by
    rw [joinCookies_def]
    split
    · have hval : ∀ c ∈ joinWith sSemiSp (cookieValues (insertHost r)), c ≠ 0 ∧ c ≠ 10 ∧ c ≠ 13 := by
        rw [joinWith_eq]
        apply joinBy_forall (fun c => c ≠ 0 ∧ c ≠ 10 ∧ c ≠ 13) (sep := sSemiSp) (by decide)
        intro v hv'
        simp only [cookieValues, List.mem_map, List.mem_filter] at hv'
        obtain ⟨g, ⟨hg, _⟩, rfl⟩ := hv'
        exact (hins g hg).2
      exact setAll_forall fieldClean _ _ _ _ (fun g hg => ⟨hins g hg, (hins g hg).1, hval⟩)
        ⟨(by decide : isToken sCookieL = true), hval⟩
    · exact hins
  intro f hf
  unfold toH1Fields addFraming at hf
  split at hf
  · rcases List.mem_append.mp hf with h | h
    · exact hjoin f h
    · rw [List.mem_singleton.mp h]
      refine ⟨(by decide : isToken sCL = true), fun c hc => ?_⟩
      have hd := natDec_digits _ c hc
      refine ⟨?_, ?_, ?_⟩ <;> (rintro rfl; revert hd; decide)
  · exact hjoin f hf

/-- `hf`, `hauth`, `hpath` are what hyper-h2's validator gives for the header block the request was parsed from
    (Lemmas/C06_H2 `request_parts`), `hcl` what its content-length check gives (Props/C06 `cl_law_from_h2_check`). -/
theorem request_read_back (r : Req) (body : Bytes) (hval : validateRequest r false = true)
    (hf : ∀ f ∈ r.fields, ∀ c ∈ f.2, c ≠ 0 ∧ c ≠ 10 ∧ c ≠ 13) (hauth : ∀ c ∈ r.authority, c ≠ 0 ∧ c ≠ 10 ∧ c ≠ 13)
    (hpath : r.path ≠ [])
    (hcl : ∀ g, r.fields.filter (nameIs sCL) = [g] → Ref.parseDec g.2 = some body.length) :
    Ref.parse (assembleRequestHead r.method r.path sHttp11 (toH1Fields r body) ++ body)
      = some [⟨r.method, r.path, sHttp11, (toH1Fields r body).map readBack, body⟩] := by
  have vp := validate_parts r hval
  obtain ⟨tok, ha⟩ := validateHeaders_parts _ _ _ _ vp.2.2.2 hcl
  obtain ⟨ha, hb⟩ := toH1_announced r body ha
  exact ref_parse_assembled r.method r.path (toH1Fields r body) body vp.2.1 vp.2.2.1 vp.1 hpath
    (toH1_clean r body (fun f h => ⟨tok f h, hf f h⟩) hauth) ha hb

theorem reasons_clean : ∀ p ∈ Gen.C06.reasons, p.2.all (fun c => c != 10 && c != 13) = true := by decide

theorem reason_clean (st : Nat) : clean (reason st) := by
  unfold reason
  cases hf : Gen.C06.reasons.find? (fun p => p.1 == st) with
  | none => simp [clean]
  | some p =>
    intro c hc
    simpa using List.all_eq_true.mp (reasons_clean p (List.mem_of_find?_eq_some hf)) c (by simpa using hc)

/-- The reader's `eof` argument is `!bodiless && !hasName sCL`: the connection is taken to close after the message exactly
    when a body is allowed and no Content-Length delimits it (Props/C06 `closeAfter`). -/
theorem response_read_back (method : Bytes) (st : Nat) (fs : List Field) (body : Bytes)
    (hst : 200 ≤ st ∧ st ≤ 999) (hconn : (asciiUpper method == sConnect) = false)
    (hval : validateHeaders fs false false (decide (100 ≤ st ∧ st ≤ 199) || st = 204) = true)
    (hf : ∀ f ∈ fs, ∀ c ∈ f.2, c ≠ 0 ∧ c ≠ 10 ∧ c ≠ 13)
    (hcl : ∀ g, fs.filter (nameIs sCL) = [g] → Ref.parseDec g.2 = some body.length) :
    Ref.parseResp (!bodiless method st && !hasName sCL fs) [method]
        (assembleResponseHead sHttp11 st (reason st) fs ++ (if bodiless method st then [] else body))
      = some [⟨sHttp11, st, joinWith [32] (splitOn 32 (reason st)), fs.map readBack,
               if bodiless method st then [] else body⟩] := by
  obtain ⟨tok, ha⟩ := validateHeaders_parts fs false _ _ hval hcl
  exact ref_parse_resp_assembled st _ method fs body _ hst (reason_clean st) hconn (fun f h => ⟨tok f h, hf f h⟩) ha
    fun hB hc => by simp [hB, hc]

end MitmVerif.C06
