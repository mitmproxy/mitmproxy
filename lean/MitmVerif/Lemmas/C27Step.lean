/-
  C27, events: what a data event of either direction does (`dataEv`, `deliver`), the segmentation law of the layer
  (`seg_law`), and a step as the message loop followed by a close (`step_out`). Through the last, `Sequential` relations pass
  from the body of the message loop to steps and runs. Also: buffers that hold no complete frame (`Stable`), the malformed
  length prefix (`bad_length`).
-/
import MitmVerif.Lemmas.C27Frame
import MitmVerif.Lemmas.C27Handled
set_option linter.unusedVariables false
set_option linter.unusedSimpArgs false
namespace MitmVerif.C27
open MitmVerif MitmVerif.C25

/-! ### data events of either direction (`fc`: the data comes from the client) -/

theorem step_not_query (c : Cfg) (σ : State) (ev : Ev) (h : σ.core.phase ≠ .query) : step c σ ev = (σ, []) := by
  simp [step, h]

def dataEv : Bool → Bytes → Ev
  | true, d => .clientData d
  | false, d => .serverData d

/-- the buffer a data event of this direction extends -/
def bufOf : Bool → State → Bytes
  | true, σ => σ.reqBuf
  | false, σ => σ.respBuf

def setBuf : Bool → State → Core → Bytes → State
  | true, σ, r, b => { σ with core := r, reqBuf := b }
  | false, σ, r, b => { σ with core := r, respBuf := b }

/-- closing the connection of this direction after a framing error -/
def closeDir : Bool → Core → Core × Out
  | true, σ => ({ σ with phase := .done }, .closeClient)
  | false, σ => ({ σ with phase := .done, serverOpen := false }, .closeServer)

/-- `state_query` reads data of this direction -/
abbrev Serving (fc : Bool) (σ : Core) : Prop := σ.phase = .query ∧ (fc = false → σ.serverOpen = true)

/-- `stepClient` and `stepServer` once the framing has produced `x` -/
def deliver (c : Cfg) (fc : Bool) (σ : State) (x : List Msg × Bytes × Bool) : State × List Out :=
  let r := handleMsgs c fc σ.core x.1
  if r.1.phase = .crashed then (ended r.1, r.2)
  else if x.2.2 then (ended (closeDir fc r.1).1, r.2 ++ [(closeDir fc r.1).2])
  else (setBuf fc σ r.1 x.2.1, r.2)

theorem step_dataEv (c : Cfg) (fc : Bool) (σ : State) (d : Bytes) :
    step c σ (dataEv fc d) =
      if Serving fc σ.core then deliver c fc σ (extract c.I c.tcp (bufOf fc σ) d) else (σ, []) := by
  by_cases hq : σ.core.phase = .query
  · cases fc
    · by_cases ho : σ.core.serverOpen = true
      · simp [step, dataEv, Serving, hq, ho]; rfl
      · simp [step, dataEv, Serving, hq, ho]
    · simp [step, dataEv, Serving, hq]; rfl
  · simp [step_not_query c σ _ hq, Serving, hq]

theorem Serving.of_kept {fc : Bool} {σ : Core} {r : Core × List Out} (hs : Serving fc σ) (hk : Kept σ r)
    (hc : r.1.phase ≠ .crashed) : Serving fc r.1 :=
  ⟨(hk.1.resolve_right fun h => hc h.1).trans hs.1, fun h => hk.2 (hs.2 h)⟩

theorem bufOf_setBuf (fc : Bool) (σ : State) (r : Core) (b : Bytes) :
    bufOf fc (setBuf fc σ r b) = b ∧ (setBuf fc σ r b).core = r ∧
    ∀ r' b', setBuf fc (setBuf fc σ r b) r' b' = setBuf fc σ r' b' := by
  cases fc <;> exact ⟨rfl, rfl, fun _ _ => rfl⟩

/-! ### the segmentation law -/

/-- `parse_append` lifted to the layer; the case split is how the first segment can end: an exception in the message loop, a
    framing error (both leave `state_query`, so `b` is ignored on either side), or the rest kept in the buffer -/
theorem seg_law (c : Cfg) (htcp : c.tcp = true) (fc : Bool) (σ : State) (a b : Bytes) :
    step c σ (dataEv fc (a ++ b)) =
      ((step c (step c σ (dataEv fc a)).1 (dataEv fc b)).1,
       (step c σ (dataEv fc a)).2 ++ (step c (step c σ (dataEv fc a)).1 (dataEv fc b)).2) := by
  by_cases hs : Serving fc σ.core
  · rw [step_dataEv c fc σ a, step_dataEv c fc σ (a ++ b), if_pos hs, if_pos hs]
    simp only [extract, htcp, if_true]
    rw [← List.append_assoc, parse_append]
    generalize parse c.I (bufOf fc σ ++ a) = P
    obtain ⟨ms, rest, bad⟩ := P
    cases bad
    · by_cases hcr : (handleMsgs c fc σ.core ms).1.phase = .crashed
      · -- an exception while handling the messages of the first segment
        simp [deliver, hcr, handleMsgs_append, handleMsgs_crashed, step_not_query, ended]
      · have hs2 := hs.of_kept (handleMsgs_kept c fc ms σ.core) hcr
        obtain ⟨hb, hcore, hset⟩ := bufOf_setBuf fc σ (handleMsgs c fc σ.core ms).1 rest
        simp only [deliver, hcr, step_dataEv, extract, htcp, if_true, if_false, Bool.false_eq_true]
        simp only [hcore, hb, if_pos hs2, hset, handleMsgs_append]
        split
        · simp
        · split <;> simp
    · -- the first segment already ends the connection
      have hne : (deliver c fc σ (ms, rest, true)).1.core.phase ≠ .query := by
        simp only [deliver]
        split
        · rename_i h; simp [ended, h]
        · cases fc <;> simp [ended, closeDir]
      simp [step_not_query c _ _ hne]
  · simp [step_dataEv, hs]

/-! ### buffers between two events hold no complete frame; a malformed length prefix -/

/-- the buffer of this direction holds no complete frame; `StableC c σ` and `StableR c σ` below are `Stable c true σ` and
    `Stable c false σ` unfolded: Props/C27 applies `step_stable` and `run_stable` at goals stated with them -/
def Stable (c : Cfg) (fc : Bool) (σ : State) : Prop := parse c.I (bufOf fc σ) = ([], bufOf fc σ, false)

def StableC (c : Cfg) (σ : State) : Prop := parse c.I σ.reqBuf = ([], σ.reqBuf, false)

def StableR (c : Cfg) (σ : State) : Prop := parse c.I σ.respBuf = ([], σ.respBuf, false)

theorem step_data_nil (c : Cfg) (htcp : c.tcp = true) (fc : Bool) (σ : State) (h : Stable c fc σ) :
    step c σ (dataEv fc []) = (σ, []) := by
  rw [step_dataEv]
  split
  · rename_i hs
    have hne : σ.core.phase ≠ .crashed := by rw [hs.1]; simp
    have hset : setBuf fc σ σ.core (bufOf fc σ) = σ := by cases fc <;> rfl
    simp [deliver, extract, htcp, show parse c.I (bufOf fc σ) = _ from h, handleMsgs, hne, hset]
  · rfl

/-- complete frames followed by a zero length prefix (whatever follows it): the messages in front of it are handled, then
    the connection of this direction is closed, unless an exception left the layer while handling them -/
theorem bad_length (c : Cfg) (htcp : c.tcp = true) (fc : Bool) (σ : State) (hs : Serving fc σ.core) (d x rest : Bytes)
    (ms : List Msg) (hx : bufOf fc σ ++ d = x ++ 0 :: 0 :: rest) (hms : parse c.I x = (ms, [], false)) :
    let r := step c σ (dataEv fc d)
    let h := handleMsgs c fc σ.core ms
    r.1.core.phase ≠ .query ∧
    (r.1.core.phase = .done → r = (ended (closeDir fc h.1).1, h.2 ++ [(closeDir fc h.1).2])) ∧
    (r.1.core.phase = .crashed → .crash ∈ r.2) := by
  have hp : parse c.I (bufOf fc σ ++ d) = (ms, [], true) := by
    rw [hx, parse_append, hms]
    simp [parse_cons2]
  intro r h
  have hr : r = deliver c fc σ (ms, [], true) := by
    simp only [r, step_dataEv, if_pos hs, extract, htcp, if_true, hp]
  rw [hr]
  unfold deliver
  dsimp only
  split
  · next hc =>
    exact ⟨by simp [ended, hc], by simp [ended, hc],
      fun _ => ((handleMsgs_kept c fc ms σ.core).1.resolve_left (by rw [hs.1, hc]; simp)).2⟩
  · exact ⟨by cases fc <;> simp [ended, closeDir], fun _ => rfl, by cases fc <;> simp [ended, closeDir]⟩

theorem step_stable (c : Cfg) (fc : Bool) (σ : State) (ev : Ev) (h : Stable c fc σ) : Stable c fc (step c σ ev).1 := by
  have hend : ∀ τ, Stable c fc (ended τ) := by intro τ; cases fc <;> exact parse_nil c.I
  have data : ∀ fc' d, Stable c fc (step c σ (dataEv fc' d)).1 := by
    intro fc' d
    rw [step_dataEv]
    split
    · unfold deliver
      dsimp only
      split
      · exact hend _
      · split
        · exact hend _
        · cases fc <;> cases fc'
          · exact extract_rest_stable c _ d h
          · exact h
          · exact h
          · exact extract_rest_stable c _ d h
    · exact h
  cases ev with
  | clientData d => exact data true d
  | serverData d => exact data false d
  | clientClose => unfold step; split; exact h; exact hend _
  | serverClose =>
    unfold step
    split
    · exact h
    · dsimp only
      split
      · exact hend _
      · exact h

theorem run_stable (c : Cfg) (fc : Bool) : ∀ (evs : List Ev) (σ : State), Stable c fc σ → Stable c fc (run c σ evs).1
  | [], _, h => h
  | ev :: evs, σ, h => run_stable c fc evs _ (step_stable c fc σ ev h)

theorem run_append (c : Cfg) : ∀ (l1 l2 : List Ev) (σ : State),
    run c σ (l1 ++ l2) = ((run c (run c σ l1).1 l2).1, (run c σ l1).2 ++ (run c (run c σ l1).1 l2).2) := by
  intro l1
  induction l1 with
  | nil => intro l2 σ; simp [run]
  | cons e l1 ih => intro l2 σ; simp [run, ih, List.append_assoc]

/-! ### from the message loop to steps and runs -/

/-- a piece of work that at most closes a connection: flows, script and `seen` stay -/
structure Closes (σ : Core) (k : Core × List Out) : Prop where
  out : k.2 = [] ∨ k.2 = [.closeClient] ∨ k.2 = [.closeServer]
  flows : k.1.flows = σ.flows
  acts : k.1.acts = σ.acts
  seen : k.1.seen = σ.seen

theorem Closes.mem {σ : Core} {k : Core × List Out} (h : Closes σ k) {o : Out} (ho : o ∈ k.2) :
    o = .closeClient ∨ o = .closeServer := by
  rcases h.out with e | e | e <;> simp_all

theorem deliver_out (c : Cfg) (fc : Bool) (σ : State) (x : List Msg × Bytes × Bool) : ∃ tail,
    Closes (handleMsgs c fc σ.core x.1).1 ((deliver c fc σ x).1.core, tail) ∧
    (deliver c fc σ x).2 = (handleMsgs c fc σ.core x.1).2 ++ tail := by
  unfold deliver
  dsimp only
  split
  · exact ⟨[], ⟨Or.inl rfl, rfl, rfl, rfl⟩, (List.append_nil _).symm⟩
  · split
    · cases fc
      · exact ⟨_, ⟨Or.inr (Or.inr rfl), rfl, rfl, rfl⟩, rfl⟩
      · exact ⟨_, ⟨Or.inr (Or.inl rfl), rfl, rfl, rfl⟩, rfl⟩
    · cases fc <;> exact ⟨[], ⟨Or.inl rfl, rfl, rfl, rfl⟩, (List.append_nil _).symm⟩

/-- A step is a close, or (data of a direction the layer reads) the message loop on the messages extracted from it followed
    by a close. -/
theorem step_out (c : Cfg) (σ : State) (ev : Ev) :
    Closes σ.core ((step c σ ev).1.core, (step c σ ev).2) ∨
    ∃ fc d tail, ev = dataEv fc d ∧ Serving fc σ.core ∧
      Closes (handleMsgs c fc σ.core (extract c.I c.tcp (bufOf fc σ) d).1).1 ((step c σ ev).1.core, tail) ∧
      (step c σ ev).2 = (handleMsgs c fc σ.core (extract c.I c.tcp (bufOf fc σ) d).1).2 ++ tail := by
  have data : ∀ fc d, Closes σ.core ((step c σ (dataEv fc d)).1.core, (step c σ (dataEv fc d)).2) ∨
      ∃ tail, Serving fc σ.core ∧
        Closes (handleMsgs c fc σ.core (extract c.I c.tcp (bufOf fc σ) d).1).1 ((step c σ (dataEv fc d)).1.core, tail) ∧
        (step c σ (dataEv fc d)).2 = (handleMsgs c fc σ.core (extract c.I c.tcp (bufOf fc σ) d).1).2 ++ tail := by
    intro fc d
    rw [step_dataEv]
    split
    · next hs => exact Or.inr ((deliver_out c fc σ _).imp fun _ h => ⟨hs, h⟩)
    · exact Or.inl ⟨Or.inl rfl, rfl, rfl, rfl⟩
  cases ev with
  | clientData d => exact (data true d).imp_right fun ⟨tail, h⟩ => ⟨true, d, tail, rfl, h⟩
  | serverData d => exact (data false d).imp_right fun ⟨tail, h⟩ => ⟨false, d, tail, rfl, h⟩
  | clientClose =>
    refine Or.inl ?_
    simp only [step]
    split
    · exact ⟨Or.inl rfl, rfl, rfl, rfl⟩
    · split
      · exact ⟨Or.inr (Or.inr rfl), rfl, rfl, rfl⟩
      · exact ⟨Or.inl rfl, rfl, rfl, rfl⟩
  | serverClose =>
    refine Or.inl ?_
    simp only [step]
    split
    · exact ⟨Or.inl rfl, rfl, rfl, rfl⟩
    · split
      · exact ⟨Or.inr (Or.inl rfl), rfl, rfl, rfl⟩
      · exact ⟨Or.inl rfl, rfl, rfl, rfl⟩

/-- A relation that holds of doing nothing and of one thing after another holds of every step and run when it holds of
    the body of the message loop for the messages the framing extracts, and of closing a connection. -/
theorem Sequential.of_step {R : Core → Core × List Out → Prop} (hR : Sequential R) (c : Cfg)
    (hmsg : ∀ fc buf d, ∀ m ∈ (extract c.I c.tcp buf d).1, ∀ τ, R τ (handleMsg c fc τ m))
    (hclose : ∀ {σ : Core} {k : Core × List Out}, Closes σ k → R σ k)
    (σ : State) (ev : Ev) : R σ.core ((step c σ ev).1.core, (step c σ ev).2) := by
  obtain hk | ⟨fc, d, tail, _, _, hk, ho⟩ := step_out c σ ev
  · exact hclose hk
  · rw [ho]
    exact hR.seq (hR.loop c fc _ σ.core (hmsg fc _ d)) (hclose hk)

theorem Sequential.of_run {R : Core → Core × List Out → Prop} (hR : Sequential R) (c : Cfg)
    (hmsg : ∀ fc buf d, ∀ m ∈ (extract c.I c.tcp buf d).1, ∀ τ, R τ (handleMsg c fc τ m))
    (hclose : ∀ {σ : Core} {k : Core × List Out}, Closes σ k → R σ k) :
    ∀ (evs : List Ev) (σ : State), R σ.core ((run c σ evs).1.core, (run c σ evs).2)
  | [], σ => hR.nil _
  | ev :: evs, σ => hR.seq (hR.of_step c hmsg hclose σ ev) (hR.of_run c hmsg hclose evs _)

end MitmVerif.C27
