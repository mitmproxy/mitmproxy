/-
  C36 — `load` through a `read` environment: through ANY handle that reads like a file (`Reads`) it is `Model/C36.load`
  on what the handle has not delivered yet (`loadVia_reads`); a buffered reader over any segmentation of the stream is
  such a handle, with the concatenation of the segments as its content (`readN_flatten`).
-/
import MitmVerif.Model.C36_Read
namespace MitmVerif.C36

theorem readN_flatten : ∀ (segs : List Bytes) (k : Nat),
    (readN segs k).1 = segs.flatten.take k ∧ (readN segs k).2.flatten = segs.flatten.drop k := by
  intro segs
  induction segs with
  | nil => intro k; simp [readN]
  | cons seg rest ih =>
    intro k
    simp only [readN]
    split
    · rename_i h
      simp only [List.flatten_cons]
      refine ⟨?_, ?_⟩
      · rw [List.take_append]; simp [Nat.sub_eq_zero_of_le h]
      · rw [List.drop_append]; simp [Nat.sub_eq_zero_of_le h]
    · rename_i h
      have hlt : seg.length ≤ k := by omega
      obtain ⟨h1, h2⟩ := ih (k - seg.length)
      simp only [List.flatten_cons]
      refine ⟨?_, ?_⟩
      · rw [List.take_append, List.take_of_length_le hlt, h1]
      · rw [List.drop_append, List.drop_of_length_le hlt, h2]; simp

private def proj {α : Type} (p : α × List Bytes) : α × Bytes := (p.1, p.2.flatten)

/-- `rd` behaves like `read` on a file: `content h` is what the handle `h` has not delivered yet, `rd h k` returns
    its first `k` bytes and leaves the rest -/
def Reads {σ : Type} (rd : σ → Nat → Bytes × σ) (content : σ → Bytes) : Prop :=
  ∀ h k, (rd h k).1 = (content h).take k ∧ content (rd h k).2 = (content h).drop k

theorem head_take_one (l : Bytes) : (l.take 1).head? = l.head? := by cases l <;> simp

variable {σ : Type} {rd : σ → Nat → Bytes × σ} {content : σ → Bytes}

/-- the byte-wise digit loop is `takeWhile isDigit` with the 12-digit limit and the colon check; `t` is the byte in
    hand followed by what the handle still holds -/
theorem digitLoop_reads (hrd : Reads rd content) : ∀ (t ds : Bytes) (f : Nat) (h : σ), content h = t.drop 1 →
    ds.length ≤ 12 → 14 ≤ ds.length + f →
    (digitLoop rd f ds t.head? h).map (fun p => (p.1, content p.2)) =
      (if (ds ++ t.takeWhile isDigit).length > 12 then .error .value
       else match t.dropWhile isDigit with
         | [] => .error .value
         | c :: body => if c = 0x3a then .ok (ds ++ t.takeWhile isDigit, body) else .error .value) := by
  intro t
  induction t with
  | nil =>
    intro ds f h _ h12 hf
    cases f with
    | zero => omega
    | succ f =>
      have : ¬ ds.length > 12 := by omega
      simp [digitLoop, this, Except.map]
  | cons ch t' ih =>
    intro ds f h hc h12 hf
    cases f with
    | zero => omega
    | succ f =>
      simp only [List.head?_cons, digitLoop]
      by_cases hd : isDigit ch = true
      · simp only [hd, if_true, List.takeWhile_cons, List.dropWhile_cons]
        by_cases hl : (ds ++ [ch]).length > 12
        · have : (ds ++ ch :: List.takeWhile isDigit t').length > 12 := by
            simp only [List.length_append, List.length_cons, List.length_nil] at hl ⊢; omega
          simp only [hl, if_true, this, Except.map]
        · simp only [hl, if_false]
          obtain ⟨r1, r2⟩ := hrd h 1
          rw [r1, hc, List.drop_succ_cons, List.drop_zero, head_take_one,
            ih (ds ++ [ch]) f _ (by rw [r2, hc]; rfl) (by omega)
              (by simp only [List.length_append, List.length_cons, List.length_nil]; omega)]
          simp only [List.append_assoc, List.cons_append, List.nil_append]
      · simp only [hd, Bool.false_eq_true, if_false, List.takeWhile_cons, List.dropWhile_cons, List.append_nil]
        have : ¬ ds.length > 12 := by omega
        simp only [this, if_false]
        by_cases hx : ch = 0x3a
        · simp [hx, Except.map, hc]
        · simp [hx, Except.map]

theorem loadVia_reads (hrd : Reads rd content) (m d : Nat) (h : σ) :
    (loadVia rd m d ((content h).length + 2) h).map (fun p => (p.1, content p.2)) = load m d (content h) := by
  obtain ⟨r1, r2⟩ := hrd h 1
  unfold loadVia load
  cases hc : content h with
  | nil => simp [r1, hc, Except.map]
  | cons c t =>
    have hdl := digitLoop_reads hrd (c :: t) [] 14 (rd h 1).2 (by rw [r2, hc]) (by simp) (by simp)
    simp only [List.head?_cons, List.nil_append] at hdl
    simp only [r1, hc, List.take_succ_cons, List.take_zero, List.head?_cons, List.isEmpty_cons, Bool.false_eq_true, if_false]
    generalize digitLoop rd 14 [] (some c) (rd h 1).2 = res at hdl ⊢
    generalize List.takeWhile isDigit (c :: t) = tw at hdl ⊢
    -- `hdl`: the loop fails exactly where `load` gives up on the prefix (too many digits, nothing behind them, no colon)
    split at hdl
    next h12 => rw [if_pos h12]; cases res <;> cases hdl; rfl
    next h12 =>
      rw [if_neg h12]
      split at hdl
      next heq => rw [heq]; cases res <;> cases hdl; rfl
      next c1 body heq =>
        rw [heq]
        split at hdl
        next hx =>
          -- the prefix is read: `ds` are its digits and `h1` holds what follows the colon
          obtain _ | ⟨ds, h1⟩ := res <;> cases hdl
          simp only [hx, ne_eq, not_true_eq_false, if_false]
          by_cases hemp : ds.isEmpty = true
          · simp only [hemp, if_true]; rfl
          · by_cases hm : decVal ds > m
            · simp only [hemp, hm, if_true]; rfl
            · obtain ⟨a1, a2⟩ := hrd h1 (decVal ds)
              obtain ⟨b1, b2⟩ := hrd (rd h1 (decVal ds)).2 1
              simp only [hemp, hm, if_false, b1, a1, a2, head_take_one]
              cases hdrop : List.drop (decVal ds) (content h1) with
              | nil => rfl
              | cons tag rest =>
                simp only [List.head?_cons]
                cases parseTop ((c :: t).length + 2) d tag (List.take (decVal ds) (content h1)) with
                | error e => rfl
                | ok v => simp [Except.map, b2, a2, hdrop]
        next hx => simp only [ne_eq, hx, not_false_eq_true, if_true]; cases res <;> cases hdl; rfl

theorem loadVia_flat (m d : Nat) (s : Bytes) : loadVia flatRd m d (s.length + 2) s = load m d s := by
  rw [← loadVia_reads (rd := flatRd) (content := fun s => s) (fun _ _ => ⟨rfl, rfl⟩) m d s]
  cases loadVia flatRd m d (s.length + 2) s <;> rfl

end MitmVerif.C36
