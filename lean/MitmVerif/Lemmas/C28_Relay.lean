/-
  C28 — what the relay does with one wsproto event (`Relay`): the case analysis of `procEv` and of everything it calls.
  The invariants of Lemmas/C28_Run hold of one event by cases on `Relay` (`procEv_relay`), so that none of them has to
  unfold `procEv`; only its lemmas on one message in fragments, on injection and on the first close go back to
  `procMsg` / `finishMsg` / `procClose_spec`.
-/
import MitmVerif.Model.C28
namespace MitmVerif.C28

theorem appendLast_snoc (pre : List Bytes) (x d : Bytes) : appendLast (pre ++ [x]) d = pre ++ [x ++ d] := by
  induction pre with
  | nil => simp [appendLast]
  | cons y rest ih =>
    cases h : rest ++ [x] with
    | nil => simp at h
    | cons z zs =>
      simp only [List.cons_append, h, appendLast]
      rw [← h, ih]

/-- a buffer is `[]` or ends in a last fragment: the two cases of `appendLast` -/
theorem appendLast_flatten (buf : List Bytes) (d : Bytes) : (appendLast buf d).flatten = buf.flatten ++ d := by
  rcases List.eq_nil_or_concat buf with rfl | ⟨pre, x, rfl⟩ <;> simp [appendLast, List.concat_eq_append, appendLast_snoc]

theorem appendLast_ne_nil (buf : List Bytes) (d : Bytes) : appendLast buf d ≠ [] := by
  rcases List.eq_nil_or_concat buf with rfl | ⟨pre, x, rfl⟩ <;> simp [appendLast, List.concat_eq_append, appendLast_snoc]

theorem appendLast_appendLast (b : List Bytes) (d1 d2 : Bytes) :
    appendLast (appendLast b d1) d2 = appendLast b (d1 ++ d2) := by
  rcases List.eq_nil_or_concat b with rfl | ⟨pre, x, rfl⟩ <;> simp [appendLast, List.concat_eq_append, appendLast_snoc]

/-- `closeSend` only moves the two wsproto states on, and hands no message to a peer -/
theorem closeSend_spec (code : Nat) (reason : Option Bytes) (st : St) (c : Bool) :
    (∃ wC wS, (closeSend code reason st c).1 = { st with wsC := wC, wsS := wS }) ∧
    ∀ tc t fr, Out.sendMsg tc t fr ∉ (closeSend code reason st c).2 := by
  have setWs : ∀ w, ∃ wC wS, st.setWs c w = { st with wsC := wC, wsS := wS } := fun w => by
    cases c <;> exact ⟨_, _, rfl⟩
  unfold closeSend
  split
  · exact ⟨setWs _, by simp⟩
  · split
    · exact ⟨setWs _, by simp⟩
    · exact ⟨⟨_, _, rfl⟩, by simp⟩

/-- a close event moves the wsproto states on, is recorded, and ends the relay; no message is sent -/
theorem procClose_spec (fc : Bool) (s : St) (kind : CloseKind) (code : Nat) (reason : Option Bytes) :
    ∃ wC wS out, procClose fc s kind code reason =
        ({ s with wsC := wC, wsS := wS, closed := some (fc, code, reason), done := true }, out) ∧
      ∀ tc t fr, Out.sendMsg tc t fr ∉ out := by
  simp only [procClose]
  generalize hs0 : ({ s.setWs fc (srcAfterClose kind (s.ws fc)) with closed := some (fc, code, reason) } : St) = s0
  obtain ⟨⟨a, b, h1⟩, o1⟩ := closeSend_spec code reason s0 false
  generalize closeSend code reason s0 false = r1 at h1 o1 ⊢
  obtain ⟨⟨a', b', h2⟩, o2⟩ := closeSend_spec code reason r1.1 true
  generalize closeSend code reason r1.1 true = r2 at h2 o2 ⊢
  refine ⟨a', b', r1.2 ++ r2.2 ++ [.hookEnd], ?_, fun tc t fr h => ?_⟩
  · rw [h2, h1, ← hs0]
    cases fc <;> rfl
  · simp only [List.mem_append, List.mem_singleton, reduceCtorEq, or_false] at h
    exact h.elim (o1 tc t fr) (o2 tc t fr)

/-- What `procEv` does with the event `e` of direction `fc` in state `s`: the state it leaves and what it outputs. -/
inductive Relay (fs : Nat) (pol : Policy) (fc inj : Bool) (s : St) : WsEv → St × List Out → Prop
  /-- a relay that has crashed ignores everything -/
  | stuck (e : WsEv) : s.crashed = true → Relay fs pol fc inj s e (s, [])
  /-- a frame that does not finish its message is added to `frame_buf` -/
  | part (t : Bool) (d : Bytes) (ff : Bool) (b : List Bytes) : b.flatten = (s.buf fc).flatten ++ d →
      Relay fs pol fc inj s (.msg t d ff false) (s.setBuf fc b, [])
  /-- a finished message is recorded as the addons leave it (`m`); one they drop is not sent on -/
  | dropped (t : Bool) (d : Bytes) (ff : Bool) (m : Msg) :
      m = applyAction ⟨t, fc, (s.buf fc).flatten ++ d, inj, false⟩
            (pol s.msgs.length ⟨t, fc, (s.buf fc).flatten ++ d, inj, false⟩) →
      m.dropped = true →
      Relay fs pol fc inj s (.msg t d ff true)
        ({ s.setBuf fc [[]] with msgs := s.msgs ++ [m] }, [.hookMsg s.msgs.length])
  /-- … any other is sent on as one burst, cut where the original frames were if the length is unchanged -/
  | sent (t : Bool) (d : Bytes) (ff : Bool) (m : Msg) :
      m = applyAction ⟨t, fc, (s.buf fc).flatten ++ d, inj, false⟩
            (pol s.msgs.length ⟨t, fc, (s.buf fc).flatten ++ d, inj, false⟩) →
      m.dropped = false → s.ws (!fc) = .wopen →
      Relay fs pol fc inj s (.msg t d ff true)
        ({ s.setBuf fc [[]] with msgs := s.msgs ++ [m] },
         [.hookMsg s.msgs.length,
          .sendMsg (!fc) t (fragmentize fs ((appendLast (s.buf fc) d).map List.length) t m.content)])
  | ping (p : Bytes) : s.ws (!fc) = .wopen → Relay fs pol fc inj s (.ping p) (s, [.sendPing (!fc) p])
  | pong (p : Bytes) : s.ws (!fc) = .wopen → Relay fs pol fc inj s (.pong p) (s, [.sendPong (!fc) p])
  /-- wsproto refuses to send on a connection that is no longer open: the relay crashes, whatever it had done before -/
  | unsent (e : WsEv) (s' : St) (out : List Out) : s.ws (!fc) ≠ .wopen → s'.crashed = true →
      (∀ tc t fr, Out.sendMsg tc t fr ∉ out) → Relay fs pol fc inj s e (s', out)
  | close (kind : CloseKind) (code : Nat) (reason : Option Bytes) (wC wS : WsState) (out : List Out) :
      (∀ tc t fr, Out.sendMsg tc t fr ∉ out) →
      Relay fs pol fc inj s (.close kind code reason)
        ({ s with wsC := wC, wsS := wS, closed := some (fc, code, reason), done := true }, out)

theorem procEv_relay (fs : Nat) (pol : Policy) (fc inj : Bool) (s : St) (e : WsEv) :
    Relay fs pol fc inj s e (procEv fs pol fc inj s e) := by
  by_cases hc : s.crashed = true
  · simp only [procEv, hc, if_true]; exact .stuck e hc
  · simp only [procEv, hc, Bool.false_eq_true, ↓reduceIte]
    cases e with
    | msg t d ff mf =>
      cases mf with
      | false => simp only [procMsg, Bool.false_eq_true, ↓reduceIte]; split <;> exact .part t d ff _ (by simp [appendLast_flatten])
      | true =>
        simp only [procMsg, finishMsg, appendLast_flatten, ↓reduceIte]
        split
        · exact .dropped t d ff _ rfl ‹_›
        · split
          · exact .sent t d ff _ rfl (Bool.eq_false_iff.2 ‹_›) ‹_›
          · exact .unsent _ _ _ ‹_› rfl (by simp)
    | ping p => simp only [procCtl]; split; exact .ping p ‹_›; exact .unsent _ _ _ ‹_› rfl (by simp)
    | pong p => simp only [procCtl]; split; exact .pong p ‹_›; exact .unsent _ _ _ ‹_› rfl (by simp)
    | close kind code reason =>
      obtain ⟨wC, wS, out, h, hout⟩ := procClose_spec fc s kind code reason
      show Relay _ _ _ _ _ _ (procClose fc s kind code reason)
      rw [h]
      exact .close kind code reason wC wS out hout

end MitmVerif.C28
