/-
  Lemmas for C05: the invariants of `Http2Client`'s stream-id translation, queue and resume rule.

  Every transition is first presented as ONE record update of the state it starts from (`process_eq`, `upward_eq`,
  `midMapped`, `Reacted`, `Moved`).  The model writes several of them with the case distinction around the update
  (`if … then { σ with conn := … } else σ`), so that no field of the result reduces; with the distinction inside the
  written fields every other field is that of the old state by definition, and an invariant that does not read the
  written fields is carried over by the anonymous constructor.

  The steps are walked once: every lemma about `tick`, the resume loop and `step` carries, beside the invariants of this
  file, any property that `Rides`.
-/
import MitmVerif.Lemmas.C05
namespace MitmVerif.C05
open MitmVerif

/-! ### one event handled by `_handle_event2` -/

def procConn (c : Conn) (o : Nat) : Ev → Conn
  | .hdr fin => { c with streams := aset o ⟨c.iws, !fin, true, false⟩ c.streams, out := c.out ++ [Frame.hdr o fin] }
  | .data b => if c.liveS o then c.sendData o b false else c
  | .trailers => if c.liveS o then c.sendTrailers o else c
  | .eom => if c.liveS o then c.endStream o else c
  | .err => if !c.closedS o then c.resetStream o else c

/-- `process` as one record update: whatever is not named here is untouched by definition -/
theorem process_eq (σ : St) (o : Nat) (ev : Ev) :
    σ.process o ev = { σ with conn := procConn σ.conn o ev, nextId := if ev.isHdr then o + 2 else σ.nextId,
                              ms := if ev.isHdr then aset o false σ.ms else σ.ms } := by
  cases ev with
  | hdr fin => rfl
  | _ => simp only [St.process, procConn]; split <;> rfl

theorem process_conn (σ : St) (o : Nat) (ev : Ev) : (σ.process o ev).conn = procConn σ.conn o ev := by
  rw [process_eq]

def qkeys (σ : St) : List Nat := σ.queue.map (·.1)

/-! ### the invariants -/

structure MapInv (σ : St) : Prop where
  fwd : ∀ t o, alookup t σ.ours = some o → alookup o σ.theirs = some t
  bwd : ∀ o t, alookup o σ.theirs = some t → alookup t σ.ours = some o
  lt : ∀ o t, alookup o σ.theirs = some t → o < σ.nextId

def hdrFirst (evs : List Ev) : Prop := ∃ fin rest, evs = Ev.hdr fin :: rest ∧ ∀ e ∈ rest, e.isHdr = false

theorem hdrFirst_snoc (l : List Ev) (e : Ev) (h : hdrFirst l) (he : e.isHdr = false) : hdrFirst (l ++ [e]) := by
  obtain ⟨fin, rest, rfl, hr⟩ := h
  exact ⟨fin, rest ++ [e], by simp, List.forall_mem_append.2 ⟨hr, List.forall_mem_singleton.2 he⟩⟩

structure QueueOk (σ : St) : Prop where
  nodup : (qkeys σ).Nodup
  ent : ∀ p ∈ σ.queue, alookup p.1 σ.ours = none ∧ hdrFirst p.2

/-- all events waiting on the call stack belong to streams that already have an upstream id -/
def AllMapped (σ : St) : Prop := ∀ q ∈ σ.stack, (alookup q.1 σ.ours).isSome = true ∧ q.2.isHdr = false

/-- the call stack while the resume loop runs: at most the events on top belong to a stream without an upstream id —
    the one just taken from the queue — and then there is a free slot for it -/
def StackOk (σ : St) : Prop :=
  match σ.stack with
  | [] => True
  | (t, ev) :: rest =>
    (∀ q ∈ rest, (q.1 = t ∨ (alookup q.1 σ.ours).isSome = true) ∧ q.2.isHdr = false) ∧
    ((alookup t σ.ours).isSome = true → ev.isHdr = false) ∧
    (alookup t σ.ours = none → ev.isHdr = true ∧ σ.noFree = false ∧ t ∉ qkeys σ)

def evsOf (t : Nat) (l : List (Nat × Ev)) : List Ev := (l.filter (fun p => p.1 == t)).map (·.2)
def fwOf (t : Nat) (σ : St) : List Ev := (σ.fw.filter (fun p => p.1 == t)).map (·.2.2)
def qOf (t : Nat) (σ : St) : List Ev := (alookup t σ.queue).getD []

/-- every event handed to the connection is, in order, either already passed on, or waiting in the queue, or being
    handled by the resume loop -/
def Cons (σ : St) : Prop := ∀ t, fwOf t σ ++ qOf t σ ++ evsOf t σ.stack = evsOf t σ.sub

def FwOk (σ : St) : Prop := ∀ e ∈ σ.fw, alookup e.1 σ.ours = some e.2.1
def AllocOk (σ : St) : Prop := ∀ a ∈ σ.allocs, a.2.1 < a.2.2
def opened (σ : St) : List Nat := σ.allocs.map (·.1)

theorem evsOf_append (t : Nat) (a b : List (Nat × Ev)) : evsOf t (a ++ b) = evsOf t a ++ evsOf t b := by
  simp [evsOf]

theorem evsOf_cons_same (t : Nat) (e : Ev) (l : List (Nat × Ev)) : evsOf t ((t, e) :: l) = e :: evsOf t l := by
  simp [evsOf]

theorem evsOf_cons_ne (t u : Nat) (e : Ev) (l : List (Nat × Ev)) (h : u ≠ t) : evsOf t ((u, e) :: l) = evsOf t l := by
  simp [evsOf, h]

theorem evsOf_map_same (t : Nat) (evs : List Ev) : evsOf t (evs.map fun e => (t, e)) = evs := by
  induction evs with
  | nil => rfl
  | cons e rest ih => simp [evsOf] at ih ⊢; exact ih

theorem evsOf_nil_of_not_mem (t : Nat) (l : List (Nat × Ev)) (h : ∀ q ∈ l, q.1 ≠ t) : evsOf t l = [] := by
  unfold evsOf
  rw [List.filter_eq_nil_iff.2 fun q hq => by simpa using h q hq]
  rfl

theorem evsOf_map_ne (t u : Nat) (evs : List Ev) (h : u ≠ t) : evsOf t (evs.map fun e => (u, e)) = [] :=
  evsOf_nil_of_not_mem t _ fun q hq => by
    obtain ⟨_, _, rfl⟩ := List.mem_map.mp hq
    exact h

/-! ### invariant bundles -/

def headNew (σ : St) : List Nat :=
  match σ.stack with
  | (t, _) :: _ => if alookup t σ.ours = none then [t] else []
  | [] => []

def UpOk (σ : St) : Prop := ∀ u ∈ σ.up, ∀ o, u.2.2 = some o → alookup u.1 σ.ours = some o

/-- between handling an event and the resume check -/
structure MidInv (σ : St) : Prop where
  map : MapInv σ
  q : QueueOk σ
  am : AllMapped σ
  cons : Cons σ
  fw : FwOk σ
  al : AllocOk σ
  arr : opened σ ++ qkeys σ = σ.arr
  up : UpOk σ

/-- while the resume loop runs -/
structure DrainInv (σ : St) : Prop where
  map : MapInv σ
  q : QueueOk σ
  st : StackOk σ
  cons : Cons σ
  fw : FwOk σ
  al : AllocOk σ
  arr : opened σ ++ headNew σ ++ qkeys σ = σ.arr
  up : UpOk σ
  cap : σ.stack = [] → σ.queue = [] ∨ σ.noFree = true

/-- between two calls of `_handle_event` -/
structure QInv (σ : St) : Prop where
  map : MapInv σ
  q : QueueOk σ
  st : σ.stack = []
  cons : Cons σ
  fw : FwOk σ
  al : AllocOk σ
  arr : opened σ ++ qkeys σ = σ.arr
  up : UpOk σ
  cap : σ.queue = [] ∨ σ.noFree = true

theorem stackOk_of_allMapped (σ : St) (h : AllMapped σ) : StackOk σ ∧ headNew σ = [] := by
  unfold StackOk headNew
  cases hs : σ.stack with
  | nil => exact ⟨trivial, rfl⟩
  | cons q rest =>
    obtain ⟨t, ev⟩ := q
    have hq := h (t, ev) (by rw [hs]; simp)
    refine ⟨⟨?_, fun _ => hq.2, ?_⟩, ?_⟩
    · intro q hq'
      have := h q (by rw [hs]; exact List.mem_cons_of_mem _ hq')
      exact ⟨Or.inr this.1, this.2⟩
    · intro hn; rw [hn] at hq; simp at hq
    · obtain ⟨o, ha⟩ := Option.isSome_iff_exists.1 hq.1
      simp [ha]

theorem queued_unmapped (σ : St) (hq : QueueOk σ) (t : Nat) (o : Nat) (h : alookup t σ.ours = some o) :
    alookup t σ.queue = none ∧ t ∉ qkeys σ := by
  have hn : t ∉ qkeys σ := by
    intro hm
    simp only [qkeys, List.mem_map] at hm
    obtain ⟨p, hp, rfl⟩ := hm
    have := (hq.ent p hp).1
    rw [this] at h; simp at h
  exact ⟨(alookup_eq_none_iff t σ.queue).mpr hn, hn⟩

theorem resume_inv (σ : St) (h : MidInv σ) : DrainInv σ.resume := by
  have hst := stackOk_of_allMapped σ h.am
  have base : (σ.queue = [] ∨ σ.noFree = true) → DrainInv σ := fun hc =>
    ⟨h.map, h.q, hst.1, h.cons, h.fw, h.al, by rw [hst.2]; simpa using h.arr, h.up, fun _ => hc⟩
  unfold St.resume
  cases hqe : σ.queue with
  | nil => exact base (Or.inl hqe)
  | cons p rest =>
    obtain ⟨u, evs⟩ := p
    by_cases hnf : σ.noFree = true
    · simp only [hnf, if_true]; exact base (Or.inr hnf)
    · simp only [hnf, Bool.false_eq_true, if_false]
      have hnf' : σ.noFree = false := by simpa using hnf
      obtain ⟨hun, fin, r, hevs, hr⟩ := h.q.ent (u, evs) (by rw [hqe]; simp)
      have hun : alookup u σ.ours = none := hun
      have hevs : evs = Ev.hdr fin :: r := hevs
      subst hevs
      have hnd : (u :: rest.map (·.1)).Nodup := by have := h.q.nodup; simpa [qkeys, hqe] using this
      have hu_rest : u ∉ rest.map (·.1) := (List.nodup_cons.mp hnd).1
      have hu_stack : ∀ q ∈ σ.stack, q.1 ≠ u := by
        intro q hq he
        have := (h.am q hq).1
        rw [he, hun] at this; simp at this
      refine ⟨⟨h.map.fwd, h.map.bwd, h.map.lt⟩, ⟨?_, ?_⟩, ?_, ?_, h.fw, h.al, ?_, h.up, ?_⟩
      · simpa [qkeys] using (List.nodup_cons.mp hnd).2
      · intro p hp; exact h.q.ent p (by rw [hqe]; exact List.mem_cons_of_mem _ hp)
      · -- StackOk
        unfold StackOk
        simp only [List.map_cons, List.cons_append]
        refine ⟨?_, ?_, ?_⟩
        · intro q hq
          rcases List.mem_append.mp hq with h1 | h1
          · simp only [List.mem_map] at h1
            obtain ⟨e, he, rfl⟩ := h1
            exact ⟨Or.inl rfl, hr e he⟩
          · have := h.am q h1
            exact ⟨Or.inr this.1, this.2⟩
        · intro hm; rw [hun] at hm; simp at hm
        · intro _
          refine ⟨rfl, ?_, ?_⟩
          · rw [← hnf']; rfl
          · simpa [qkeys] using hu_rest
      · -- Cons
        intro t
        have hc := h.cons t
        simp only [fwOf, qOf] at hc ⊢
        rw [evsOf_append]
        by_cases htu : u = t
        · subst htu
          rw [evsOf_map_same, evsOf_nil_of_not_mem u σ.stack hu_stack] at *
          have : alookup u rest = none := (alookup_eq_none_iff u rest).mpr hu_rest
          rw [this]
          rw [hqe] at hc
          simpa [alookup] using hc
        · rw [evsOf_map_ne t u _ htu]
          rw [hqe] at hc
          simpa [alookup, htu] using hc
      · -- arrival order
        have : headNew ({ σ with queue := rest, stack := (Ev.hdr fin :: r).map (fun e => (u, e)) ++ σ.stack } : St) = [u] := by
          simp [headNew, hun]
        rw [this]
        have := h.arr
        simp only [qkeys, hqe, List.map_cons] at this
        simpa [qkeys, opened] using this
      · intro he
        simp at he

/-! ### one call of `_handle_event` for a client event -/

/-- the state between `_handle_event2` for the event on top of the stack (client stream `t`, upstream id `o`) and the
    resume check: a record update of `σ`, so whatever it does not name is untouched by definition -/
def midMapped (σ : St) (t o : Nat) (ev : Ev) (rest : List (Nat × Ev)) : St :=
  { σ with stack := rest, conn := procConn σ.conn o ev, nextId := if ev.isHdr then o + 2 else σ.nextId,
           ms := if ev.isHdr then aset o false σ.ms else σ.ms, fw := σ.fw ++ [(t, o, ev)] }

/-- client stream `t` gets the next upstream id -/
def allocId (σ : St) (t : Nat) : St :=
  { σ with ours := σ.ours ++ [(t, σ.nextId)], theirs := aset σ.nextId t σ.theirs,
           allocs := σ.allocs ++ [(t, σ.conn.openCount, σ.limit)] }

def midAlloc (σ : St) (t : Nat) (ev : Ev) (rest : List (Nat × Ev)) : St := midMapped (allocId σ t) t σ.nextId ev rest

theorem tick_eq (σ : St) (t : Nat) (ev : Ev) (rest : List (Nat × Ev)) (hs : σ.stack = (t, ev) :: rest)
    (hc : σ.closed = false) :
    σ.tick = (match alookup t σ.ours with
      | some o => (midMapped σ t o ev rest).resume
      | none => if σ.noFree then ({ σ with stack := rest } : St).enqueue t ev else (midAlloc σ t ev rest).resume) := by
  unfold St.tick
  rw [hs]
  show (if ({ σ with stack := rest } : St).closed = true then _ else _) = _
  have hc' : ({ σ with stack := rest } : St).closed = false := hc
  rw [if_neg (by rw [hc']; simp)]
  simp only [process_eq]
  cases alookup t σ.ours <;> rfl

theorem fwOf_snoc (t t' o : Nat) (ev : Ev) (fw : List (Nat × Nat × Ev)) :
    ((fw ++ [(t, o, ev)]).filter (fun p => p.1 == t')).map (·.2.2) =
      (fw.filter (fun p => p.1 == t')).map (·.2.2) ++ (if t = t' then [ev] else []) := by
  by_cases h : t = t' <;> simp [List.filter_append, h]

theorem fwOf_of_snoc {σ m : St} {t o : Nat} {ev : Ev} (h : m.fw = σ.fw ++ [(t, o, ev)]) (t' : Nat) :
    fwOf t' m = fwOf t' σ ++ (if t = t' then [ev] else []) := by
  unfold fwOf; rw [h]; exact fwOf_snoc t t' o ev σ.fw

theorem fwOf_nil_of_unmapped (σ : St) (hf : FwOk σ) (t : Nat) (ho : alookup t σ.ours = none) : fwOf t σ = [] := by
  unfold fwOf
  have : σ.fw.filter (fun p => p.1 == t) = [] := by
    rw [List.filter_eq_nil_iff]
    intro e he hh
    have a := hf e he
    have e1 : e.1 = t := by simpa using hh
    rw [e1, ho] at a
    cases a
  rw [this]; rfl

/-- passing the event on top of the stack on keeps every event accounted for -/
theorem cons_forward {σ : St} {t : Nat} {ev : Ev} {rest : List (Nat × Ev)} (o : Nat) (h : Cons σ)
    (hs : σ.stack = (t, ev) :: rest) (hq : alookup t σ.queue = none) : Cons (midMapped σ t o ev rest) := by
  intro t'
  have hc := h t'
  simp only [fwOf, qOf] at hc ⊢
  show ((σ.fw ++ [(t, o, ev)]).filter _).map _ ++ (alookup t' σ.queue).getD [] ++ evsOf t' rest = evsOf t' σ.sub
  rw [fwOf_snoc]
  rw [hs] at hc
  by_cases htt : t = t'
  · subst htt
    rw [evsOf_cons_same] at hc
    rw [hq] at hc ⊢
    simp only [if_true, Option.getD_none, List.append_nil] at hc ⊢
    rw [← hc]; simp
  · rw [evsOf_cons_ne t' t ev rest htt] at hc
    simpa [htt] using hc

/-- an event of a stream that already has an upstream id -/
theorem tick_mapped_inv (σ : St) (t o : Nat) (ev : Ev) (rest : List (Nat × Ev)) (h : DrainInv σ)
    (hs : σ.stack = (t, ev) :: rest) (ho : alookup t σ.ours = some o) : MidInv (midMapped σ t o ev rest) := by
  have hst := h.st
  unfold StackOk at hst
  rw [hs] at hst
  obtain ⟨hrest, hmap, _⟩ := hst
  have hnh : ev.isHdr = false := hmap (by rw [ho]; rfl)
  have harr := h.arr
  simp only [headNew, hs, ho] at harr
  refine ⟨⟨h.map.fwd, h.map.bwd, fun o' t' hh => ?_⟩, ⟨h.q.nodup, h.q.ent⟩, fun q hq => ?_,
    cons_forward o h.cons hs (queued_unmapped σ h.q t o ho).1,
    List.forall_mem_append.2 ⟨h.fw, List.forall_mem_singleton.2 ho⟩, h.al, ?_, h.up⟩
  · show o' < (if ev.isHdr then o + 2 else σ.nextId)
    rw [hnh]; exact h.map.lt o' t' hh
  · refine ⟨(hrest q hq).1.elim (fun h1 => ?_) id, (hrest q hq).2⟩
    show (alookup q.1 σ.ours).isSome = true
    rw [h1, ho]; rfl
  · show opened σ ++ qkeys σ = σ.arr
    simpa using harr

/-- the id maps once client stream `t`, so far without an upstream id, has got the next one -/
theorem allocId_ours (σ : St) (t : Nat) (ho : alookup t σ.ours = none) (t2 o2 : Nat) :
    alookup t2 (allocId σ t).ours = some o2 ↔ alookup t2 σ.ours = some o2 ∨ (t2 = t ∧ o2 = σ.nextId) := by
  show alookup t2 (σ.ours ++ [(t, σ.nextId)]) = some o2 ↔ _
  rw [alookup_append]
  by_cases htt : t2 = t
  · subst htt; simp [ho, alookup, eq_comm]
  · cases alookup t2 σ.ours <;> simp [alookup, htt, Ne.symm htt]

theorem allocId_theirs (σ : St) (t : Nat) (hm : MapInv σ) (o2 t2 : Nat) :
    alookup o2 (allocId σ t).theirs = some t2 ↔ alookup o2 σ.theirs = some t2 ∨ (o2 = σ.nextId ∧ t2 = t) := by
  show alookup o2 (aset σ.nextId t σ.theirs) = some t2 ↔ _
  rw [alookup_aset]
  by_cases hoo : σ.nextId = o2
  · subst hoo
    have : ∀ t', alookup σ.nextId σ.theirs ≠ some t' := fun t' e => Nat.lt_irrefl _ (hm.lt _ _ e)
    simp [this, eq_comm]
  · simp [hoo, Ne.symm hoo]

/-- the first event of a stream for which there is a free slot: it gets the next upstream id -/
theorem tick_alloc_inv (σ : St) (t : Nat) (ev : Ev) (rest : List (Nat × Ev)) (h : DrainInv σ)
    (hs : σ.stack = (t, ev) :: rest) (ho : alookup t σ.ours = none) : MidInv (midAlloc σ t ev rest) := by
  have hst := h.st
  unfold StackOk at hst
  rw [hs] at hst
  obtain ⟨hrest, _, hun⟩ := hst
  obtain ⟨hh, hfree, hnq⟩ := hun ho
  have ours := allocId_ours σ t ho
  have theirs := allocId_theirs σ t h.map
  have old : ∀ t2 o2, alookup t2 σ.ours = some o2 → alookup t2 (allocId σ t).ours = some o2 :=
    fun t2 o2 h' => (ours t2 o2).mpr (.inl h')
  have hnew : alookup t (allocId σ t).ours = some σ.nextId := (ours t _).mpr (.inr ⟨rfl, rfl⟩)
  have harr := h.arr
  simp only [headNew, hs, ho, if_true] at harr
  refine ⟨⟨fun t' o' hh' => ?_, fun o' t' hh' => ?_, fun o' t' hh' => ?_⟩, ⟨h.q.nodup, fun p hp => ?_⟩, fun q hq => ?_,
    cons_forward σ.nextId h.cons hs ((alookup_eq_none_iff t σ.queue).mpr hnq),
    List.forall_mem_append.2 ⟨fun e he => old _ _ (h.fw e he), List.forall_mem_singleton.2 hnew⟩, fun a ha => ?_,
    by simpa [opened, allocId, midAlloc, midMapped, qkeys] using harr, fun u hu o' ho' => old _ _ (h.up u hu o' ho')⟩
  · show alookup o' (allocId σ t).theirs = some t'
    exact (theirs o' t').mpr (((ours t' o').mp hh').imp (h.map.fwd t' o') fun e => ⟨e.2, e.1⟩)
  · show alookup t' (allocId σ t).ours = some o'
    exact (ours t' o').mpr (((theirs o' t').mp hh').imp (h.map.bwd o' t') fun e => ⟨e.2, e.1⟩)
  · show o' < (if ev.isHdr then σ.nextId + 2 else σ.nextId)
    rw [hh, if_pos rfl]
    rcases (theirs o' t').mp hh' with h1 | h1
    · have := h.map.lt o' t' h1; omega
    · omega
  · refine ⟨?_, (h.q.ent p hp).2⟩
    cases hl : alookup p.1 (allocId σ t).ours with
    | none => exact hl
    | some o2 =>
      rcases (ours p.1 o2).mp hl with h1 | h1
      · rw [(h.q.ent p hp).1] at h1; cases h1
      · exact absurd (h1.1 ▸ List.mem_map_of_mem hp) hnq
  · refine ⟨(hrest q hq).1.elim (fun h1 => ?_) (fun h1 => ?_), (hrest q hq).2⟩
    · show (alookup q.1 (allocId σ t).ours).isSome = true
      rw [h1, hnew]; rfl
    · obtain ⟨o2, hl⟩ := Option.isSome_iff_exists.1 h1
      show (alookup q.1 (allocId σ t).ours).isSome = true
      rw [old _ _ hl]; rfl
  · rcases List.mem_append.mp ha with h1 | h1
    · exact h.al a h1
    · simp at h1; subst h1
      have : σ.noFree = false := hfree
      simp only [St.noFree, decide_eq_false_iff_not] at this
      show σ.conn.openCount < σ.limit
      omega

/-! ### what a further invariant has to show to be carried along -/

/-- `σ'` is `σ` with at most queue, stack, the events passed up, the allocation and arrival records, the concurrency limits
    and `done` rewritten -/
def Moved (σ σ' : St) : Prop :=
  σ' = { σ with queue := σ'.queue, stack := σ'.stack, up := σ'.up, allocs := σ'.allocs, arr := σ'.arr, prov := σ'.prov,
                maxc := σ'.maxc, closed := σ'.closed }

theorem resume_moved (σ : St) : Moved σ σ.resume := by
  unfold St.resume
  split
  · rfl
  · split <;> rfl

/-- what has to be shown of a property `P` of states for the lemmas below (`tick_drain`, `drain_inv`, `step_inv`) to carry
    it along with the mapping invariants: it does not look at the fields `Moved` lets differ, and it survives
    `_handle_event2` for the event on top of the stack.  The rest of every step only moves events between stack and
    queue.  For the mapping invariants by themselves `P` is `True` (`reach_inv`). -/
structure Rides (P : St → Prop) : Prop where
  moved : ∀ (σ : St) queue stack up allocs arr prov maxc closed, P σ →
    P { σ with queue := queue, stack := stack, up := up, allocs := allocs, arr := arr, prov := prov, maxc := maxc,
               closed := closed }
  mapped : ∀ σ t o ev rest, DrainInv σ → σ.stack = (t, ev) :: rest → alookup t σ.ours = some o → P σ →
    P (midMapped σ t o ev rest)
  alloc : ∀ σ t ev rest, DrainInv σ → σ.stack = (t, ev) :: rest → alookup t σ.ours = none → P σ →
    P (midAlloc σ t ev rest)

theorem Rides.carry {P : St → Prop} (L : Rides P) {σ σ' : St} (e : Moved σ σ') (h : P σ) : P σ' := by
  unfold Moved at e
  rw [e]; exact L.moved σ _ _ _ _ _ _ _ _ h

/-! ### the resume loop as a whole -/

theorem resume_pending (σ : St) : σ.resume.pending = σ.pending ∧ σ.resume.closed = σ.closed := by
  unfold St.resume
  split
  · exact ⟨rfl, rfl⟩
  · rename_i t evs rest hq
    split
    · exact ⟨rfl, rfl⟩
    · refine ⟨?_, rfl⟩
      simp only [St.pending, hq, List.length_append, List.length_map, List.map_cons, List.sum_cons]
      omega

theorem tick_drain {P : St → Prop} (L : Rides P) (σ : St) (h : DrainInv σ) (hs : P σ) (hne : σ.stack ≠ [])
    (hc : σ.closed = false) :
    (DrainInv σ.tick ∧ P σ.tick) ∧ σ.tick.pending + 1 = σ.pending ∧ σ.tick.closed = false := by
  cases hst : σ.stack with
  | nil => exact absurd hst hne
  | cons q rest =>
    obtain ⟨t, ev⟩ := q
    rw [tick_eq σ t ev rest hst hc]
    have mid : ∀ m : St, MidInv m → P m → m.queue = σ.queue → m.stack = rest → m.closed = σ.closed →
        (DrainInv m.resume ∧ P m.resume) ∧ m.resume.pending + 1 = σ.pending ∧ m.resume.closed = false :=
      fun m hm hp f3 f4 f10 => by
      refine ⟨⟨resume_inv _ hm, L.carry (resume_moved m) hp⟩, ?_, by rw [(resume_pending m).2, f10]; exact hc⟩
      rw [(resume_pending m).1]
      simp only [St.pending, f3, f4, hst, List.length_cons]
      omega
    cases ho : alookup t σ.ours with
    | some o => exact mid _ (tick_mapped_inv σ t o ev rest h hst ho) (L.mapped σ t o ev rest h hst ho hs) rfl rfl rfl
    | none =>
      have hsk := h.st
      unfold StackOk at hsk
      rw [hst] at hsk
      simp only []
      rw [if_neg (by rw [(hsk.2.2 ho).2.1]; simp)]
      exact mid _ (tick_alloc_inv σ t ev rest h hst ho) (L.alloc σ t ev rest h hst ho hs) rfl rfl rfl

theorem drain_of_empty (f : Nat) (σ : St) (h : σ.stack = []) : St.drain f σ = σ := by
  cases f with
  | zero => rfl
  | succ f => simp [St.drain, h]

theorem drain_succ (f : Nat) (σ : St) (hne : σ.stack ≠ []) : St.drain (f + 1) σ = St.drain f σ.tick := by
  cases hs : σ.stack with
  | nil => exact absurd hs hne
  | cons q rest => simp [St.drain, hs]

theorem qinv_of_drain_empty (σ : St) (h : DrainInv σ) (he : σ.stack = []) : QInv σ := by
  have harr := h.arr
  simp only [headNew, he] at harr
  exact ⟨h.map, h.q, he, h.cons, h.fw, h.al, by simpa using harr, h.up, h.cap he⟩

/-- the loop terminates within the events that are pending, and ends with no stream waiting for a slot that is free -/
theorem drain_inv {P : St → Prop} (L : Rides P) (f : Nat) (σ : St) (h : DrainInv σ) (hs : P σ) (hc : σ.closed = false)
    (hf : σ.pending < f) : (QInv (St.drain f σ) ∧ P (St.drain f σ)) ∧ (St.drain f σ).closed = false := by
  induction f generalizing σ with
  | zero => omega
  | succ f ih =>
    by_cases he : σ.stack = []
    · rw [drain_of_empty _ _ he]; exact ⟨⟨qinv_of_drain_empty σ h he, hs⟩, hc⟩
    · have ht := tick_drain L σ h hs he hc
      rw [drain_succ f σ he]
      exact ih σ.tick ht.1.1 ht.1.2 ht.2.2 (by omega)

/-! ### a client event arrives -/

/-- what the HTTP layer guarantees about the events of one stream: the first one, and only the first one, is the
    request head -/
def Good (σ : St) (t : Nat) (ev : Ev) : Prop :=
  ((alookup t σ.ours = none ∧ t ∉ qkeys σ) → ev.isHdr = true) ∧
  (ev.isHdr = true → alookup t σ.ours = none ∧ t ∉ qkeys σ)

def arrive (σ : St) (t : Nat) (ev : Ev) : St :=
  { σ with sub := σ.sub ++ [(t, ev)], stack := [(t, ev)],
           arr := if (alookup t σ.ours).isNone && !(σ.queue.map (·.1)).contains t then σ.arr ++ [t] else σ.arr }

theorem step_client_eq (σ : St) (t : Nat) (ev : Ev) (hc : σ.closed = false) :
    σ.step (.client t ev) = St.drain ((arrive σ t ev).pending + 1) (arrive σ t ev) := by
  show (if σ.closed = true then σ else _) = _
  rw [if_neg (by rw [hc]; simp)]
  rfl

theorem arrive_drainInv (σ : St) (t : Nat) (ev : Ev) (h : QInv σ) (hg : Good σ t ev)
    (hcase : (alookup t σ.ours).isSome = true ∨ σ.noFree = false) : DrainInv (arrive σ t ev) := by
  have hqe : (alookup t σ.ours = none) → σ.queue = [] := by
    intro hn
    rcases hcase with h1 | h1
    · rw [hn] at h1; simp at h1
    · rcases h.cap with h2 | h2
      · exact h2
      · rw [h1] at h2; simp at h2
  refine ⟨⟨h.map.fwd, h.map.bwd, h.map.lt⟩, ⟨h.q.nodup, h.q.ent⟩, ?_, ?_, h.fw, h.al, ?_, h.up, ?_⟩
  · -- StackOk
    unfold StackOk arrive
    simp only []
    refine ⟨by intro q hq; simp at hq, ?_, ?_⟩
    · intro hm
      exact eq_false_of_ne_true fun hh => by rw [(hg.2 hh).1] at hm; simp at hm
    · intro hn
      have hq0 := hqe hn
      have hnq : t ∉ qkeys σ := by simp [qkeys, hq0]
      refine ⟨hg.1 ⟨hn, hnq⟩, ?_, hnq⟩
      rcases hcase with h1 | h1
      · rw [hn] at h1; simp at h1
      · rw [← h1]; rfl
  · intro t'
    have hc := h.cons t'
    simp only [fwOf, qOf, h.st, evsOf] at hc
    simp only [fwOf, qOf, arrive, evsOf_append]
    simp only [evsOf] at hc ⊢
    simp at hc ⊢
    rw [← hc]
    simp [List.append_assoc]
  · -- arrival order
    have harr := h.arr
    cases ho : alookup t σ.ours with
    | some o =>
      simp only [headNew, arrive, ho, Option.isNone_some, Bool.false_and, Bool.false_eq_true, if_false]
      simpa [opened, qkeys] using harr
    | none =>
      have hq0 := hqe ho
      simp only [headNew, arrive, ho, hq0, if_true, Option.isNone_none, List.map_nil, Bool.true_and]
      simp only [qkeys, hq0, List.map_nil, List.append_nil] at harr
      simp [opened, qkeys] at harr ⊢
      rw [← harr]
  · intro he; simp [arrive] at he

def enqueued (σ : St) (t : Nat) (ev : Ev) : St := ({ (arrive σ t ev) with stack := [] } : St).enqueue t ev

/-- no free slot: the event joins the queue (a new stream at the end) -/
theorem enqueue_qinv (σ : St) (t : Nat) (ev : Ev) (h : QInv σ) (hg : Good σ t ev)
    (hn : alookup t σ.ours = none) (hnf : σ.noFree = true) : QInv (enqueued σ t ev) := by
  refine ⟨⟨h.map.fwd, h.map.bwd, h.map.lt⟩, ⟨?_, ?_⟩, rfl, ?_, h.fw, h.al, ?_, h.up, ?_⟩
  · show ((aset t _ σ.queue).map (·.1)).Nodup
    rw [aset_keys]
    split
    · exact h.q.nodup
    · rename_i hnm
      have := h.q.nodup
      simp only [qkeys] at this
      exact List.nodup_append.mpr ⟨this, by simp, by
        intro a ha b hb; simp at hb; subst hb; intro e; subst e; exact hnm ha⟩
  · intro p hp
    have hp' : p ∈ aset t ((alookup t σ.queue).getD [] ++ [ev]) σ.queue := hp
    rcases mem_aset _ _ _ _ hp' with h1 | h1
    · subst h1
      refine ⟨hn, ?_⟩
      cases hl : alookup t σ.queue with
      | none =>
        have hh := hg.1 ⟨hn, (alookup_eq_none_iff t σ.queue).mp hl⟩
        cases ev with
        | hdr fin => exact ⟨fin, [], by simp, by simp⟩
        | _ => simp [Ev.isHdr] at hh
      | some evs =>
        have hmem := alookup_mem t evs σ.queue hl
        obtain ⟨_, fin, r, he, hr⟩ := h.q.ent (t, evs) hmem
        have he : evs = Ev.hdr fin :: r := he
        have hnh : ev.isHdr = false :=
          eq_false_of_ne_true fun hh => (hg.2 hh).2 (List.mem_map_of_mem (f := (·.1)) hmem)
        exact hdrFirst_snoc evs ev ⟨fin, r, he, hr⟩ hnh
    · exact h.q.ent p h1
  · intro t'
    have hc := h.cons t'
    simp only [fwOf, qOf, h.st, evsOf] at hc
    show fwOf t' σ ++ (alookup t' (aset t ((alookup t σ.queue).getD [] ++ [ev]) σ.queue)).getD [] ++ evsOf t' [] =
      evsOf t' (σ.sub ++ [(t, ev)])
    rw [evsOf_append]
    simp only [fwOf, evsOf] at hc ⊢
    simp at hc ⊢
    by_cases htt : t = t'
    · subst htt
      rw [alookup_aset_same]
      simp
      rw [← hc]; simp
    · have : t' ≠ t := fun e => htt e.symm
      rw [alookup_aset_ne _ _ _ _ this]
      simp [htt]
      exact hc
  · show opened σ ++ (aset t _ σ.queue).map (·.1) = (arrive σ t ev).arr
    rw [aset_keys]
    have harr := h.arr
    simp only [qkeys] at harr
    simp only [arrive, hn, Option.isNone_none, Bool.true_and]
    by_cases hm : t ∈ σ.queue.map (·.1)
    · have : (σ.queue.map (·.1)).contains t = true := by simpa using hm
      simp only [hm, if_true, this, Bool.not_true, Bool.false_eq_true, if_false]
      exact harr
    · have : (σ.queue.map (·.1)).contains t = false := by simpa using hm
      simp only [hm, if_false, this, Bool.not_false, if_true]
      rw [← harr, List.append_assoc]
  · right
    rw [← hnf]
    rfl

/-- a client event on an open connection either starts the resume loop with the event on the stack, or — a new
    stream and no free slot — just joins the queue; it never closes the connection -/
theorem step_client_inv {P : St → Prop} (L : Rides P) (σ : St) (t : Nat) (ev : Ev) (h : QInv σ) (hc : σ.closed = false)
    (hg : Good σ t ev) (ha : P (arrive σ t ev)) :
    (QInv (σ.step (.client t ev)) ∧ P (σ.step (.client t ev))) ∧ (σ.step (.client t ev)).closed = false := by
  rw [step_client_eq σ t ev hc]
  have loop := fun hcase => drain_inv L _ _ (arrive_drainInv σ t ev h hg hcase) ha hc (Nat.lt_succ_self _)
  cases ho : alookup t σ.ours with
  | some o => exact loop (Or.inl (by rw [ho]; rfl))
  | none =>
    cases hnf : σ.noFree with
    | false => exact loop (Or.inr hnf)
    | true =>
      have htick : (arrive σ t ev).tick = enqueued σ t ev := by
        rw [tick_eq (arrive σ t ev) t ev [] rfl hc]
        have : alookup t (arrive σ t ev).ours = none := ho
        have hnf' : (arrive σ t ev).noFree = true := hnf
        rw [this, if_pos hnf']
        rfl
      rw [drain_succ _ _ (List.cons_ne_nil _ _), htick, drain_of_empty _ _ rfl]
      exact ⟨⟨enqueue_qinv σ t ev h hg ho hnf, L.moved (arrive σ t ev) _ _ _ _ _ _ _ _ ha⟩, hc⟩

/-! ### what the server says -/

/-- the transition changed nothing the mapping / queue invariants talk about -/
structure Same (σ σ' : St) : Prop where
  ours : σ'.ours = σ.ours
  theirs : σ'.theirs = σ.theirs
  queue : σ'.queue = σ.queue
  stack : σ'.stack = σ.stack
  sub : σ'.sub = σ.sub
  fw : σ'.fw = σ.fw
  allocs : σ'.allocs = σ.allocs
  arr : σ'.arr = σ.arr
  nextId : σ'.nextId = σ.nextId

/-- `σ'` is `σ` with at most `up`, `crashed`, `ms`, `closed` and `prov` rewritten (what mitmproxy's reactions to received
    events write): after rewriting with this equation every other field of `σ'` is that of `σ` by definition -/
def Reacted (σ σ' : St) : Prop :=
  σ' = { σ with up := σ'.up, crashed := σ'.crashed, ms := σ'.ms, closed := σ'.closed, prov := σ'.prov }

theorem Reacted.same {σ σ' : St} (h : Reacted σ σ') : Same σ σ' := by
  unfold Reacted at h
  rw [h]; exact ⟨rfl, rfl, rfl, rfl, rfl, rfl, rfl, rfl, rfl⟩

/-- a property that does not look at those fields carries over -/
theorem Reacted.carry {P : St → Prop} {σ σ' : St} (h : Reacted σ σ')
    (hP : ∀ up crashed ms closed prov, P { σ with up := up, crashed := crashed, ms := ms, closed := closed, prov := prov }) :
    P σ' := by
  unfold Reacted at h
  rw [h]; exact hP _ _ _ _ _

theorem upward_eq (σ : St) (o : Nat) (k : UpKind) :
    σ.upward o k = { σ with up := σ.up ++ (match alookup o σ.theirs with | some t => [(t, k, some o)] | none => []),
                            crashed := σ.crashed || (alookup o σ.theirs).isNone } := by
  unfold St.upward
  cases alookup o σ.theirs <;> simp

/-- an event passed up carries the client stream id that is mapped to the upstream id it arrived on -/
theorem upward_ok (σ : St) (o : Nat) (k : UpKind) (hm : MapInv σ) (hu : UpOk σ) : UpOk (σ.upward o k) := by
  rw [upward_eq]
  intro u hu' o' ho'
  rcases List.mem_append.mp hu' with h1 | h1
  · exact hu u h1 o' ho'
  · cases hl : alookup o σ.theirs with
    | none => rw [hl] at h1; cases h1
    | some t =>
      rw [hl] at h1
      simp at h1; subst h1
      simp at ho'; subst ho'
      exact hm.bwd o t hl

theorem upward_ms (σ : St) (o : Nat) (k : UpKind) : (σ.upward o k).ms = σ.ms := by rw [upward_eq]

/-! Apart from passing events up, mitmproxy's reaction to what hyper-h2 reports changes only `Http2Connection.streams`
    (which gains no key), `done` and the provisional concurrency limit.  An event is passed up only for a stream in
    `Http2Connection.streams` — except received trailers (`G`: the ids they are reported for). -/

structure Reacts (P : St → Prop) (G : Nat → Prop) : Prop where
  up : ∀ σ o k, (alookup o σ.ms).isSome = true ∨ G o → P σ → P (σ.upward o k)
  ms : ∀ σ ms closed prov, (∀ o, (alookup o ms).isSome = true → (alookup o σ.ms).isSome = true) → P σ →
    P { σ with ms := ms, closed := closed, prov := prov }

theorem closeConnection_pres {P : St → Prop} {G : Nat → Prop} (R : Reacts P G) (σ : St) (h : P σ) :
    P σ.closeConnection := by
  have fold : ∀ (l : List (Nat × Bool)) σ', σ'.ms = σ.ms → (∀ p ∈ l, p ∈ σ.ms) → P σ' →
      P (l.foldl (fun σ p => σ.upward p.1 .err) σ') := by
    intro l
    induction l with
    | nil => exact fun _ _ _ h => h
    | cons p rest ih =>
      exact fun σ' hm hl h => ih _ ((upward_ms σ' p.1 .err).trans hm) (fun q hq => hl q (List.mem_cons_of_mem _ hq))
        (R.up σ' p.1 .err (Or.inl (by rw [hm]; exact alookup_isSome_of_mem p σ.ms (hl p (by simp)))) h)
  exact R.ms _ [] true _ (fun o e => by simp [alookup] at e) (fold σ.ms σ rfl (fun _ h => h) h)

theorem handleH2_pres {P : St → Prop} {G : Nat → Prop} (R : Reacts P G) (σ : St) (e : SEv)
    (hG : ∀ o, e = .respTrailers o → G o) (h : P σ) : P (σ.handleH2 e).1 := by
  have cc := closeConnection_pres R σ h
  have erase : ∀ (σ' : St) o, σ'.ms = σ.ms → P σ' → P { σ' with ms := aerase o σ.ms } := fun σ' o hm h' =>
    R.ms σ' _ σ'.closed σ'.prov (fun o' e => by rw [hm]; exact alookup_aerase_isSome o o' σ.ms e) h'
  cases e with
  | respHdr o fin ok =>
    simp only [St.handleH2]
    split
    · exact cc
    · rename_i hne
      have hm : alookup o σ.ms = some false := by simpa using hne
      split
      · exact cc
      · refine R.up _ o _ (Or.inl (by simp [alookup_aset_same])) (R.ms σ (aset o true σ.ms) σ.closed σ.prov (fun o' e => ?_) h)
        by_cases ho : o' = o
        · rw [ho, hm]; rfl
        · rwa [alookup_aset_ne _ _ _ _ ho] at e
  | respData o len fin =>
    simp only [St.handleH2]
    split
    · rename_i hm
      split
      · exact h
      · exact R.up σ o _ (Or.inl (by rw [hm]; rfl)) h
    · exact cc
    · exact h
  | respTrailers o => exact R.up σ o _ (Or.inr (hG o rfl)) h
  | ended o =>
    simp only [St.handleH2]
    have h1 : P (if alookup o σ.ms == some true then σ.upward o .eom else σ) ∧
        (if alookup o σ.ms == some true then σ.upward o .eom else σ).ms = σ.ms := by
      split
      · rename_i hm
        have hm : alookup o σ.ms = some true := by simpa using hm
        exact ⟨R.up σ o _ (Or.inl (by rw [hm]; rfl)) h, upward_ms σ o _⟩
      · exact ⟨h, rfl⟩
    generalize (if alookup o σ.ms == some true then σ.upward o .eom else σ) = X at h1 ⊢
    split
    · rw [h1.2]; exact erase X o h1.2 h1.1
    · exact h1.1
  | reset o =>
    simp only [St.handleH2]
    split
    · rename_i hs
      exact erase _ o (upward_ms σ o _) (R.up σ o .err (Or.inl hs) h)
    · exact h
  | protoErr => exact cc
  | goaway => exact cc
  | settings a b c => exact R.ms σ σ.ms σ.closed none (fun _ e => e) h
  | winUpd a b => exact h
  | info a => exact h
  | other => exact h

theorem handleAll_pres {P : St → Prop} {G : Nat → Prop} (R : Reacts P G) (evs : List SEv)
    (hG : ∀ e ∈ evs, ∀ o, e = .respTrailers o → G o) (σ : St) (h : P σ) : P (St.handleAll σ evs) := by
  induction evs generalizing σ with
  | nil => exact h
  | cons e rest ih =>
    have h1 := handleH2_pres R σ e (hG e (by simp)) h
    simp only [St.handleAll]
    split
    · exact h1
    · exact ih (fun e' he' => hG e' (List.mem_cons_of_mem _ he')) _ h1

theorem reacted_reacts (σ : St) : Reacts (Reacted σ) (fun _ => True) := by
  refine ⟨fun σ' o k _ h => ?_, fun σ' ms closed prov _ h => ?_⟩ <;> unfold Reacted at h ⊢
  · rw [upward_eq, h]
  · rw [h]

theorem closeConnection_reacted (σ : St) : Reacted σ σ.closeConnection :=
  closeConnection_pres (reacted_reacts σ) σ rfl

theorem handleAll_reacted (evs : List SEv) (σ : St) : Reacted σ (St.handleAll σ evs) :=
  handleAll_pres (reacted_reacts σ) evs (fun _ _ _ _ => trivial) σ rfl

theorem upOk_reacts : Reacts (fun σ' => MapInv σ' ∧ UpOk σ') (fun _ => True) :=
  ⟨fun σ' o k _ h => ⟨by rw [upward_eq]; exact ⟨h.1.fwd, h.1.bwd, h.1.lt⟩, upward_ok σ' o k h.1 h.2⟩,
   fun _ _ _ _ _ h => ⟨⟨h.1.fwd, h.1.bwd, h.1.lt⟩, h.2⟩⟩

/-- `QInv` is kept only while the connection is open: `close_connection` fails the queue and nothing but the id maps and
    `up` is followed afterwards (`step_closed`: a closed connection ignores every input) -/
structure Inv (σ : St) : Prop where
  map : MapInv σ
  up : UpOk σ
  live : σ.closed = false → QInv σ

theorem failQueued_inv (σ : St) (hm : MapInv σ) (hu : UpOk σ) (hc : σ.closed = true) : Inv σ.failQueued := by
  refine ⟨⟨hm.fwd, hm.bwd, hm.lt⟩, ?_, ?_⟩
  · intro u hu' o ho
    have hu'' : u ∈ σ.up ++ σ.queue.map (fun p => (p.1, UpKind.err, none)) := hu'
    rcases List.mem_append.mp hu'' with h1 | h1
    · exact hu u h1 o ho
    · simp only [List.mem_map] at h1
      obtain ⟨p, _, rfl⟩ := h1
      simp at ho
  · intro hcf
    have : σ.failQueued.closed = σ.closed := rfl
    rw [this, hc] at hcf; simp at hcf

theorem step_closed (σ : St) (i : Input) (hc : σ.closed = true) : σ.step i = σ := by
  cases i <;> simp [St.step, hc]

/-- hyper-h2 has taken in the segment -/
def received (σ : St) (evs : List SEv) : St :=
  { σ with conn := σ.conn.absorb evs,
           maxc := evs.foldl (fun m e => match e with | .settings (some v) _ _ => v | _ => m) σ.maxc }

/-- … and mitmproxy has reacted to its events; the queue has not been looked at yet -/
def handled (σ : St) (evs : List SEv) : St := St.handleAll (received σ evs) evs

theorem handled_reacted (σ : St) (evs : List SEv) : Reacted (received σ evs) (handled σ evs) :=
  handleAll_reacted evs _

theorem step_server_eq (σ : St) (evs : List SEv) (hc : σ.closed = false) :
    σ.step (.server evs) = if (handled σ evs).closed = true then (handled σ evs).failQueued
      else St.drain ((handled σ evs).resume.pending + 1) (handled σ evs).resume := by
  simp only [St.step]
  rw [if_neg (by rw [hc]; simp)]
  rfl

/-- absorbing the segment into hyper-h2's state touches nothing of the mapping, and neither do mitmproxy's reactions -/
theorem handled_ok (σ : St) (evs : List SEv) (h : Inv σ) :
    MapInv (handled σ evs) ∧ UpOk (handled σ evs) ∧
    (σ.closed = false → (handled σ evs).closed = false →
      DrainInv (handled σ evs).resume ∧ (handled σ evs).resume.closed = false) := by
  have hb := handleAll_pres upOk_reacts evs (fun _ _ _ _ => trivial) (received σ evs)
    ⟨⟨h.map.fwd, h.map.bwd, h.map.lt⟩, h.up⟩
  refine ⟨hb.1, hb.2, fun hc hcb => ⟨resume_inv _ ?_, by rw [(resume_pending _).2]; exact hcb⟩⟩
  have q := h.live hc
  have hu : UpOk (handled σ evs) := hb.2
  have e : handled σ evs = _ := handled_reacted σ evs
  rw [e] at hu ⊢
  refine ⟨⟨h.map.fwd, h.map.bwd, h.map.lt⟩, ⟨q.q.nodup, q.q.ent⟩, fun x hx => ?_, q.cons, q.fw, q.al, q.arr, hu⟩
  have hx : x ∈ σ.stack := hx
  rw [q.st] at hx; cases hx

/-- one input: the invariant, and with it any `P` that rides — given `P` at the one point of the step that is not moving
    events between stack and queue -/
theorem step_inv {P : St → Prop} (L : Rides P) (σ : St) (i : Input) (h : Inv σ) (hs : P σ)
    (hi : match i with
      | .client t ev => Good σ t ev ∧ P (arrive σ t ev)
      | .server evs => P (handled σ evs)
      | .connClosed => P σ.closeConnection) :
    Inv (σ.step i) ∧ P (σ.step i) := by
  cases hc : σ.closed with
  | true => rw [step_closed σ _ hc]; exact ⟨h, hs⟩
  | false =>
    have ofQ : ∀ {σ' : St}, QInv σ' ∧ P σ' → Inv σ' ∧ P σ' := fun q => ⟨⟨q.1.map, q.1.up, fun _ => q.1⟩, q.2⟩
    cases i with
    | client t ev => exact ofQ (step_client_inv L σ t ev (h.live hc) hc hi.1 hi.2).1
    | server evs =>
      obtain ⟨hm, hu, hd⟩ := handled_ok σ evs h
      rw [step_server_eq σ evs hc]
      split
      · rename_i hcb; exact ⟨failQueued_inv _ hm hu hcb, L.moved (handled σ evs) _ _ _ _ _ _ _ _ hi⟩
      · rename_i hcb
        obtain ⟨hdr, hcl⟩ := hd hc (by simpa using hcb)
        exact ofQ (drain_inv L _ _ hdr (L.carry (resume_moved _) hi) hcl (Nat.lt_succ_self _)).1
    | connClosed =>
      simp only [St.step]
      rw [if_neg (by rw [hc]; simp)]
      have cc := closeConnection_pres upOk_reacts σ ⟨h.map, h.up⟩
      exact ⟨failQueued_inv _ cc.1 cc.2 rfl, L.moved σ.closeConnection _ _ _ _ _ _ _ _ hi⟩

theorem init_inv : Inv St.init := by
  have hm : MapInv St.init :=
    ⟨by intro t o hh; simp [St.init, alookup] at hh, by intro o t hh; simp [St.init, alookup] at hh,
     by intro o t hh; simp [St.init, alookup] at hh⟩
  have hu : UpOk St.init := by intro u hu; simp [St.init] at hu
  exact ⟨hm, hu, fun _ => ⟨hm, ⟨by simp [qkeys, St.init], by intro p hp; simp [St.init] at hp⟩, rfl, fun t => rfl,
    by intro e he; simp [St.init] at he, by intro a ha; simp [St.init] at ha, rfl, hu, Or.inl rfl⟩⟩

/-- the states the real client can be in: the HTTP layer hands over, per stream, the request head first and once -/
inductive Reach : St → Prop where
  | init : Reach St.init
  | client (σ : St) (t : Nat) (ev : Ev) : Reach σ → Good σ t ev → Reach (σ.step (.client t ev))
  | server (σ : St) (evs : List SEv) : Reach σ → Reach (σ.step (.server evs))
  | connClosed (σ : St) : Reach σ → Reach (σ.step .connClosed)

theorem rides_true : Rides fun _ => True :=
  ⟨fun _ _ _ _ _ _ _ _ _ _ => trivial, fun _ _ _ _ _ _ _ _ _ => trivial, fun _ _ _ _ _ _ _ _ => trivial⟩

theorem reach_inv (σ : St) (h : Reach σ) : Inv σ := by
  induction h with
  | init => exact init_inv
  | client σ t ev _ hg ih => exact (step_inv rides_true σ (.client t ev) ih trivial ⟨hg, trivial⟩).1
  | server σ evs _ ih => exact (step_inv rides_true σ (.server evs) ih trivial trivial).1
  | connClosed σ _ ih => exact (step_inv rides_true σ .connClosed ih trivial trivial).1

end MitmVerif.C05
