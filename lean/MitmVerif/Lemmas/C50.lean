/-
  C50 — what the helper functions of the model do on the values the model itself produces.  The symbol tables
  (`to_str` / `from_str`), the hex fallback of `ResourceRecord.from_json` on the two strings `_data_json` writes,
  `mapOpt`, texts as bytes and the big-endian fields of A and HTTPS rdata, and the concrete object code `listObjCode`.
-/
import MitmVerif.Model.C50_All
import Std.Data.String.ToNat
namespace MitmVerif.Lemmas.C50
open MitmVerif MitmVerif.C49 MitmVerif.C50

/-! ### symbol names -/

theorem revLookup_none (tab : List (Nat × String)) (s : List Char)
    (h : ∀ e ∈ tab, e.2.toList ≠ s) : revLookup tab s = none := by
  induction tab with
  | nil => rfl
  | cons e rest ih =>
    obtain ⟨n, name⟩ := e
    simp only [revLookup]
    have h1 := h (n, name) (by simp)
    simp only [ne_eq] at h1
    simp only [h1, if_false]
    exact ih (fun e he => h e (List.mem_cons_of_mem _ he))

theorem lookup_mem {α β : Type} [BEq α] [LawfulBEq α] (tab : List (α × β)) (k : α) (v : β)
    (h : tab.lookup k = some v) : (k, v) ∈ tab := by
  obtain ⟨l₁, l₂, e, _⟩ := List.lookup_eq_some_iff.mp h
  simp [e]

theorem removePrefix_append (p l : List Char) : removePrefix p (p ++ l) = l := by
  simp [removePrefix]

theorem removeSuffix_append (l : List Char) (c : Char) : removeSuffix [c] (l ++ [c]) = l := by
  simp [removeSuffix]

/-- a table whose names are found again under their own number and contain no '(' round-trips every number -/
theorem sym_roundtrip (tab : List (Nat × String)) (pre : String)
    (hinj : ∀ e ∈ tab, revLookup tab e.2.toList = some e.1)
    (hparen : ∀ e ∈ tab, '(' ∉ e.2.toList) (n : Nat) :
    fromStr tab pre (toStr tab pre n) = some n := by
  unfold toStr
  split
  · rename_i s hs
    simp [fromStr, hinj _ (lookup_mem tab n s hs)]
  · have hnone : revLookup tab (pre.toList ++ '(' :: (Nat.repr n).toList ++ [')']) = none :=
      revLookup_none _ _ fun e he heq => by simpa [heq] using hparen e he
    unfold fromStr
    rw [hnone]
    have e1 : pre.toList ++ '(' :: (Nat.repr n).toList ++ [')'] =
        (pre.toList ++ ['(']) ++ ((Nat.repr n).toList ++ [')']) := by simp
    rw [e1, removePrefix_append, removeSuffix_append]
    have : String.ofList (Nat.repr n).toList = Nat.repr n := by simp; rfl
    rw [this]
    exact Nat.toNat?_repr n

theorem digit_allowed (c : Char) (h : c.isDigit = true) : allowed c.toNat = true := by
  have h' : 48 ≤ c.toNat ∧ c.toNat ≤ 57 := by
    unfold Char.isDigit at h
    rw [Bool.and_eq_true] at h
    exact ⟨of_decide_eq_true h.1, of_decide_eq_true h.2⟩
  have hcc : isCc c.toNat = false := by
    unfold isCc
    have h1 : ¬ c.toNat < 32 := by omega
    have h3 : ¬ (127 ≤ c.toNat) := by omega
    simp [h1, h3]
  simp [allowed, hcc]

/-- `to_str(n)` of any symbol table whose names and prefix are clean is clean, for every n -/
theorem toStr_clean (tab : List (Nat × String)) (pre : String)
    (htab : ∀ e ∈ tab, (e.2.toList.map Char.toNat).all allowed = true)
    (hpre : (pre.toList.map Char.toNat).all allowed = true) (n : Nat) :
    Clean ((toStr tab pre n).map Char.toNat) := by
  unfold toStr
  split
  · rename_i s hs
    exact fun c hc => List.all_eq_true.mp (htab _ (lookup_mem tab n s hs)) c hc
  · intro c hc
    simp only [List.map_append, List.map_cons, List.mem_append, List.mem_cons, List.mem_map, List.map_nil,
      List.not_mem_nil, or_false] at hc
    rcases hc with (⟨ch, hch, rfl⟩ | rfl | ⟨ch, hch, rfl⟩) | rfl
    · exact List.all_eq_true.mp hpre _ (List.mem_map.mpr ⟨ch, hch, rfl⟩)
    · decide
    · have : ch ∈ Nat.toDigits 10 n := by simpa [Nat.repr] using hch
      exact digit_allowed ch (Nat.isDigit_of_mem_toDigits (by omega) (by omega) this)
    · decide

/-! ### the hex fallback -/

theorem hexDigit_table : ∀ n : Fin 16, hexVal (hexDigitN n.val) = some n.val ∧ isWs (hexDigitN n.val) = false ∧
    hexDigitN n.val ≠ 32 ∧ UInt8.ofNat (hexDigitN n.val) ≠ 0x3a ∧ UInt8.ofNat (hexDigitN n.val) ≠ 0x25 := by decide

theorem mem_hexChars {bs : Bytes} {c : Nat} (h : c ∈ hexChars bs) : ∃ n : Fin 16, c = hexDigitN n.val := by
  simp only [hexChars, List.mem_flatMap, List.mem_cons, List.not_mem_nil, or_false] at h
  obtain ⟨b, _, rfl | rfl⟩ := h
  · exact ⟨⟨b.toNat / 16, by have := UInt8.toNat_lt b; omega⟩, rfl⟩
  · exact ⟨⟨b.toNat % 16, by omega⟩, rfl⟩

theorem fromhex_hexChars (bs : Bytes) : fromhex (hexChars bs) = some bs := by
  induction bs with
  | nil => simp [hexChars, fromhex]
  | cons b bs ih =>
    have hb := UInt8.toNat_lt b
    obtain ⟨v1, w1, _⟩ := hexDigit_table ⟨b.toNat / 16, by omega⟩
    obtain ⟨v2, _⟩ := hexDigit_table ⟨b.toNat % 16, by omega⟩
    have hcons : hexChars (b :: bs) = hexDigitN (b.toNat / 16) :: hexDigitN (b.toNat % 16) :: hexChars bs := by
      simp [hexChars]
    simp only at v1 v2 w1
    rw [hcons, fromhex]
    simp only [w1, Bool.false_eq_true, if_false, v1, v2]
    rw [ih]
    simp [Nat.div_add_mod']

theorem hexChars_no_space (bs : Bytes) : ∀ c ∈ hexChars bs, c ≠ 32 := by
  intro c hc
  obtain ⟨n, rfl⟩ := mem_hexChars hc
  exact (hexDigit_table n).2.2.1

theorem hexChars_no_sep (b : Bytes) (sep : UInt8) (hs : sep = 0x3a ∨ sep = 0x25) :
    sep ∉ Codecs.bytesOf (hexChars b) := by
  intro hmem
  obtain ⟨c, hc, rfl⟩ := List.mem_map.mp hmem
  obtain ⟨n, rfl⟩ := mem_hexChars hc
  have := (hexDigit_table n).2.2.2
  rcases hs with h | h <;> simp_all

theorem beforeSpParen_append (h r : List Nat) (hh : ∀ c ∈ h, c ≠ 32) :
    beforeSpParen (h ++ r) = h ++ beforeSpParen r := by
  induction h with
  | nil => rfl
  | cons c rest ih =>
    have hc : c ≠ 32 := hh c (by simp)
    simp only [List.cons_append, beforeSpParen, hc, false_and, if_false]
    rw [ih (fun x hx => hh x (List.mem_cons_of_mem _ hx))]

/-- the fallback reads the hex digits and ignores a tail that starts with " (" -/
theorem hexFallback_hex (bs : Bytes) (r : List Nat) (hr : beforeSpParen r = []) :
    hexFallback (.str (hexStr bs ++ r)) = some bs := by
  have : removePrefix [48, 120] (hexStr bs ++ r) = hexChars bs ++ r := by simp [removePrefix, hexStr]
  rw [hexFallback, this, beforeSpParen_append _ _ (hexChars_no_space bs), hr, List.append_nil, fromhex_hexChars]

theorem hexFallback_hexStr (bs : Bytes) : hexFallback (.str (hexStr bs)) = some bs := by
  simpa using hexFallback_hex bs [] rfl

theorem hexFallback_invalidStr (tn : List Nat) (bs : Bytes) :
    hexFallback (.str (invalidStr tn bs)) = some bs :=
  hexFallback_hex bs _ (by simp [invalidTail, beforeSpParen])

/-! ### lists of records -/

theorem mapOpt_map {α β} (f : α → β) (g : β → Option α) (l : List α)
    (h : ∀ a ∈ l, g (f a) = some a) : mapOpt g (l.map f) = some l := by
  induction l with
  | nil => rfl
  | cons a rest ih =>
    simp only [List.map, mapOpt]
    rw [h a (by simp), ih (fun x hx => h x (List.mem_cons_of_mem _ hx))]

/-! ### texts as bytes, big-endian fields -/

theorem bytesOf_textOf (t : C25.Text) : Codecs.bytesOf (Codecs.textOf t) = t := by
  induction t with
  | nil => rfl
  | cons c r ih => simp only [Codecs.textOf, Codecs.bytesOf, List.map_cons, List.map_map] at ih ⊢; simp [ih]

theorem be32_quad (a b c d : UInt8) :
    Codecs.be32 (((a.toNat * 256 + b.toNat) * 256 + c.toNat) * 256 + d.toNat) = [a, b, c, d] := by
  have ha := UInt8.toNat_lt a
  have hb := UInt8.toNat_lt b
  have hc := UInt8.toNat_lt c
  have hd := UInt8.toNat_lt d
  have h : ∀ v, v = ((a.toNat * 256 + b.toNat) * 256 + c.toNat) * 256 + d.toNat →
      v / 16777216 = a.toNat ∧ v / 65536 % 256 = b.toNat ∧ v / 256 % 256 = c.toNat ∧ v % 256 = d.toNat := by
    intro v hv; omega
  obtain ⟨h1, h2, h3, h4⟩ := h _ rfl
  simp [Codecs.be32, h1, h2, h3, h4]

open MitmVerif.C50.Https in
theorem enc16_dec16 (a b : UInt8) : enc16 (dec16 a b) = [a, b] := by
  have ha := UInt8.toNat_lt a
  have hb := UInt8.toNat_lt b
  have h1 : (a.toNat * 256 + b.toNat) / 256 = a.toNat := by omega
  have h2 : (a.toNat * 256 + b.toNat) % 256 = b.toNat := by omega
  simp [enc16, dec16, h1, h2]

open MitmVerif.C50.Https in
theorem dec16_lt (a b : UInt8) : dec16 a b < 65536 := by
  have ha := UInt8.toNat_lt a
  have hb := UInt8.toNat_lt b
  simp only [dec16]; omega

/-! ### the length-prefixed object code reads back what it wrote -/

section ObjCode
open MitmVerif.C50.Codecs MitmVerif.C50.Https

theorem decodeList_code (v rest : List Nat) : decodeList (codeList v ++ rest) = some (v, rest) := by
  simp [decodeList, codeList]

theorem decodeKey_code (k : JKey) (rest : List Nat) : decodeKey (codeKey k ++ rest) = some (k, rest) := by
  cases k with
  | name s =>
    have hid : List.map (Char.ofNat ∘ Char.toNat) s.toList = s.toList := by
      simp [Function.comp_def]
    simp [codeKey, decodeKey, decodeList_code, List.map_map, hid]
  | num n => simp [codeKey, decodeKey]

theorem decodeParams_code : ∀ (ps : List (JKey × Bytes)) (rest : List Nat),
    decodeParams ps.length (ps.flatMap codeParam ++ rest) = some (ps, rest) := by
  intro ps
  induction ps with
  | nil => intro rest; simp [decodeParams]
  | cons kv r ih =>
    intro rest
    obtain ⟨k, v⟩ := kv
    simp only [List.length_cons, List.flatMap_cons, codeParam, List.append_assoc, decodeParams, decodeKey_code,
      decodeList_code, ih]
    simp [List.map_map, Function.comp_def]

end ObjCode

end MitmVerif.Lemmas.C50
