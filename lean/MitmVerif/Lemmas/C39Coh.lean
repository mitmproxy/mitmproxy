/-
  C39 — coherence of the addon's `current_path` with the file system's open handle: replaying the actions of any
  operation moves the open handle exactly to the addon's new `curPath`.  That is `step_cur`, one `cases` on `step_outcome`;
  hence the two agree along every history (`run_cur`).  The handle is followed through `curAfter`, the projection of `fsRun`
  that forgets the file contents.
-/
import MitmVerif.Lemmas.C39
namespace MitmVerif.Lemmas.C39
open MitmVerif.C39
variable {F C : Type}

def curStep (c : Option Path) : Act C → Option Path
  | .opn p _ => some p
  | .cls => none
  | .wr _ => c

def curAfter (c : Option Path) (io : List (Act C)) : Option Path := io.foldl curStep c

theorem fsRun_cur (io : List (Act C)) : ∀ fs : FS C, (fsRun fs io).cur = curAfter fs.cur io := by
  induction io with
  | nil => intro fs; rfl
  | cons a l ih =>
    intro fs
    simp only [fsRun, List.foldl_cons, curAfter] at ih ⊢
    rw [ih]
    congr 1
    cases a with
    | opn p b => rfl
    | cls => rfl
    | wr r => simp only [fsStep, curStep]; cases hc : fs.cur <;> simp [hc]

theorem curAfter_append (c : Option Path) (a b : List (Act C)) :
    curAfter c (a ++ b) = curAfter (curAfter c a) b := by
  simp [curAfter, List.foldl_append]

theorem curAfter_add (env : Env F C) (flt : Option F) (w : FlowId → C) (f : FlowId) (c : Option Path) :
    curAfter c (add env flt w f) = c := by
  unfold add; split <;> rfl

theorem curAfter_rotIo (env : Env F C) (s : St F C) (spec : Spec) :
    curAfter s.curPath (rotIo env s spec) = some (env.fmt spec.pat s.now) := by
  unfold rotIo
  split
  · assumption
  · rfl

theorem doneOp_cur (env : Env F C) (s : St F C) (hw : W s) : curAfter s.curPath (doneOp env s).2 = none := by
  rcases doneOp_cases env s with ⟨hs, h⟩ | ⟨flt, _, h⟩
  · have hp := hw.path
    rw [hs] at hp
    rw [h]
    exact Option.isSome_eq_false_iff.mp hp.symm |> Option.isNone_iff_eq_none.mp
  · rw [h, curAfter_append]; rfl

theorem step_cur (env : Env F C) (s : St F C) (e : Ev F C) (hi : Inv s) :
    curAfter s.curPath (step env s e).2 = (step env s e).1.curPath := by
  have h := step_outcome env s e hi
  generalize step env s e = r at h
  cases h with
  | idle | start | edit | tick | exit => rfl
  | save h f spec => simp only [curAfter_append, curAfter_rotIo, curAfter_add]
  | done | unset => exact doneOp_cur env s hi.toW
  | opened | reopened => exact curAfter_rotIo env s _

theorem run_cur (env : Env F C) (evs : List (Ev F C)) :
    ∀ (s : St F C) (fs : FS C), Inv s → fs.cur = s.curPath →
      (fsRun fs (run env s evs).2).cur = (run env s evs).1.curPath := by
  induction evs with
  | nil => intro s fs _ h; exact h
  | cons e es ih =>
    intro s fs hi h
    simp only [run]
    have hsplit : fsRun fs ((step env s e).2 ++ (run env (step env s e).1 es).2) =
        fsRun (fsRun fs (step env s e).2) (run env (step env s e).1 es).2 := by
      simp [fsRun, List.foldl_append]
    rw [hsplit]
    apply ih _ _ (step_inv env s e hi)
    rw [fsRun_cur, h]; exact step_cur env s e hi

end MitmVerif.Lemmas.C39
