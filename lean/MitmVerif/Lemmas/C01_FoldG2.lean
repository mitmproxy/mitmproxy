/- obs-fold, byte level (continued): head lines ending in CR LF or a bare LF; `Ref.unfold` through the parts it joins, and its
   equations; a recorded field as the head lines it is written as, and how the reference reader reads them back -/
import MitmVerif.Lemmas.C01_FoldG
namespace MitmVerif.C01
open MitmVerif

/-! ### lines terminated by CR LF or by a bare LF -/

def renderG : List (Bytes × Bool) → Bytes
  | [] => []
  | (l, b) :: rest => l ++ sepOf b ++ renderG rest

theorem takeLine_sep {l : Bytes} (h : cleanLine l) (b : Bool) (rest : Bytes) :
    Ref.takeLine (l ++ sepOf b ++ rest) = some (.ok l, rest) := by
  induction l with
  | nil => cases b <;> simp [Ref.takeLine, sepOf]
  | cons c cs ih =>
    have hc13 : c ≠ 13 := fun e => h.1 (by simp [e])
    have hc10 : c ≠ 10 := fun e => h.2 (by simp [e])
    have ih' := ih ⟨fun e => h.1 (by simp [e]), fun e => h.2 (by simp [e])⟩
    simp only [List.cons_append, List.append_assoc] at ih' ⊢
    simp [Ref.takeLine, hc13, hc10, ih']

theorem headLines_renderG : ∀ (ls : List (Bytes × Bool)) (f : Nat) (tail : Bytes),
    (∀ lt ∈ ls, cleanLine lt.1 ∧ lt.1 ≠ []) → ls.length < f →
    Ref.headLines f (renderG ls ++ crlf ++ tail) = .ok (ls.map (·.1), tail)
  | [], f, tail, _, hf => by
    cases f with
    | zero => omega
    | succ f => simp [renderG, Ref.headLines, crlf, Ref.takeLine]
  | (l, b) :: ls, f, tail, h, hf => by
    cases f with
    | zero => omega
    | succ f =>
      have hl := h (l, b) (by simp)
      have ih := headLines_renderG ls f tail (fun x hx => h x (by simp [hx])) (by simp at hf; omega)
      have hne : l.isEmpty = false := by cases l <;> simp at hl ⊢
      have ht : Ref.takeLine (renderG ((l, b) :: ls) ++ crlf ++ tail) = some (.ok l, renderG ls ++ crlf ++ tail) := by
        simpa only [renderG, List.append_assoc] using takeLine_sep hl.1 b (renderG ls ++ crlf ++ tail)
      simp only [Ref.headLines, ht, hne, Bool.false_eq_true, ↓reduceIte, ih, List.map_cons]

theorem renderG_length (ls : List (Bytes × Bool)) : ls.length ≤ (renderG ls).length := by
  induction ls with
  | nil => simp [renderG]
  | cons x xs ih =>
    obtain ⟨l, b⟩ := x
    cases b <;> simp [renderG, sepOf] <;> omega

theorem renderG_append (a b : List (Bytes × Bool)) : renderG (a ++ b) = renderG a ++ renderG b := by
  induction a with
  | nil => rfl
  | cons x xs ih => obtain ⟨l, t⟩ := x; simp [renderG, ih, List.append_assoc]

/-- the lines of `cur ++ continuations`, each with its terminator; the last one ends with CR LF -/
def partLines : Bytes → List (Bool × Bytes) → List (Bytes × Bool)
  | cur, [] => [(cur, true)]
  | cur, (b, q) :: rest => (cur, b) :: partLines q rest

theorem renderG_partLines : ∀ (qs : List (Bool × Bytes)) (cur : Bytes), renderG (partLines cur qs) = joinG cur qs ++ crlf
  | [], cur => by simp [partLines, renderG, joinG, sepOf, crlf]
  | (b, q) :: rest, cur => by
    have ih := renderG_partLines rest q
    simp only [partLines, renderG, ih, joinG, List.flatMap_cons, List.append_assoc]

theorem partLines_fst : ∀ (qs : List (Bool × Bytes)) (cur : Bytes), (partLines cur qs).map (·.1) = cur :: qs.map (·.2)
  | [], cur => rfl
  | (b, q) :: rest, cur => by simp [partLines, partLines_fst rest q]

/-! ### `Ref.unfold`: the parts it joins, and its equations -/

/-- the parts `Ref.unfold` joins: the value split at LF, one CR removed before each LF -/
def lineParts (v : Bytes) : List Bytes :=
  (splitOn 10 v).dropLast.map stripOneCR ++ (match (splitOn 10 v).getLast? with | some l => [l] | none => [])

theorem unfold_of_parts {v p : Bytes} {ps : List Bytes} (h : lineParts v = p :: ps) :
    Ref.unfold v = ps.foldl foldStep (stripBy isOws p) := by
  have : Ref.unfold v = match (lineParts v).map (stripBy isOws) with
      | [] => []
      | p :: ps => ps.foldl (fun acc q => stripBy isOws (acc ++ [32] ++ q)) p := by
    unfold Ref.unfold lineParts
    rfl
  rw [this, h]
  exact List.foldl_map

theorem lineParts_line {q : Bytes} (h : (10 : UInt8) ∉ q) : lineParts q = [q] := by
  simp [lineParts, splitOn_eq, splitSep_no_sep h]

theorem lineParts_cons {q : Bytes} (h : (10 : UInt8) ∉ q) (w : Bytes) :
    lineParts (q ++ 10 :: w) = stripOneCR q :: lineParts w := by
  have hne := splitSep_ne_nil 10 w
  simp [lineParts, splitOn_eq, splitSep_append_sep h, List.dropLast_cons_of_ne_nil hne, List.getLast?_cons_of_ne_nil hne]

theorem lineParts_ne_nil (v : Bytes) : lineParts v ≠ [] := by
  induction v using sep_induction (10 : UInt8) with
  | last p hp => simp [lineParts_line hp]
  | piece p r hp _ => simp [lineParts_cons hp]

theorem stripOneCR_append (q : Bytes) : stripOneCR (q ++ [13]) = q := by
  simp [stripOneCR]

theorem stripOneCR_clean {q : Bytes} (h : (13 : UInt8) ∉ q) : stripOneCR q = q := by
  unfold stripOneCR
  cases hl : q.getLast? with
  | none => rfl
  | some c =>
    have : c ≠ 13 := fun e => h (e ▸ List.mem_of_getLast? hl)
    simp [this]

/-- a clean line and its terminator come off as the first part: this is where the CR before a LF goes -/
theorem lineParts_sep {l : Bytes} (h : cleanLine l) (t : Bool) (w : Bytes) :
    lineParts (l ++ sepOf t ++ w) = l :: lineParts w := by
  cases t
  · simpa [sepOf, stripOneCR_clean h.1] using lineParts_cons h.2 w
  · have := lineParts_cons (q := l ++ [13]) (by simp [h.2]) w
    simpa [sepOf, stripOneCR_append] using this

theorem lineParts_renderG : ∀ (tls : List (Bytes × Bool)) (w : Bytes), (∀ lt ∈ tls, cleanLine lt.1) →
    lineParts (renderG tls ++ w) = tls.map (·.1) ++ lineParts w
  | [], w, _ => rfl
  | (l, t) :: rest, w, h => by
    rw [renderG, List.append_assoc, lineParts_sep (h _ List.mem_cons_self),
      lineParts_renderG rest w fun x hx => h x (List.mem_cons_of_mem _ hx)]
    rfl

theorem lineParts_fold {q : Bytes} (hq : (10 : UInt8) ∉ q) (v : Bytes) :
    lineParts (v ++ 13 :: 10 :: q) = lineParts v ++ [q] := by
  induction v using sep_induction (10 : UInt8) with
  | last p hp =>
    have : p ++ 13 :: 10 :: q = (p ++ [13]) ++ 10 :: q := by simp
    rw [this, lineParts_cons (by simp [hp]), stripOneCR_append, lineParts_line hq, lineParts_line hp]
    rfl
  | piece p r hp ih => rw [List.append_assoc, List.cons_append, lineParts_cons hp, lineParts_cons hp, ih]; rfl

theorem unfold_line {v : Bytes} (h : (10 : UInt8) ∉ v) : Ref.unfold v = stripBy isOws v :=
  unfold_of_parts (lineParts_line h)

theorem unfold_fold (v : Bytes) {q : Bytes} (hq : (10 : UInt8) ∉ q) :
    Ref.unfold (v ++ 13 :: 10 :: q) = foldStep (Ref.unfold v) q := by
  have h := lineParts_fold hq v
  cases hp : lineParts v with
  | nil => exact absurd hp (lineParts_ne_nil v)
  | cons p ps =>
    rw [hp] at h
    rw [unfold_of_parts h, unfold_of_parts hp]
    exact List.foldl_append

theorem lineParts_joinG : ∀ (qs : List (Bool × Bytes)) (q0 : Bytes), cleanLine q0 → (∀ bq ∈ qs, cleanLine bq.2) →
    lineParts (joinG q0 qs) = q0 :: qs.map (·.2)
  | [], q0, h0, _ => by simpa [joinG] using lineParts_line h0.2
  | (b, q) :: rest, q0, h0, h => by
    have hj : joinG q0 ((b, q) :: rest) = q0 ++ sepOf b ++ joinG q rest := by simp [joinG, List.append_assoc]
    rw [hj, lineParts_sep h0, lineParts_joinG rest q (h (b, q) (by simp)) fun x hx => h x (by simp [hx])]
    rfl

theorem unfold_joinG (q0 : Bytes) (qs : List (Bool × Bytes)) (h0 : cleanLine q0) (h : ∀ bq ∈ qs, cleanLine bq.2) :
    Ref.unfold (joinG q0 qs) = foldVal q0 (qs.map (·.2)) :=
  unfold_of_parts (lineParts_joinG qs q0 h0 h)

theorem unfold_plain {v : Bytes} (h : cleanLine v ∧ stripBy isOws v = v) : Ref.unfold v = v :=
  (unfold_line h.1.2).trans h.2

theorem unfold_dec {v : Bytes} (hv : valueOk v = true) : Ref.unfold v = foldVal (dec v).1 ((dec v).2.map (·.2)) := by
  obtain ⟨hq0, _, hqs⟩ := (dec_ok v hv).1
  have := unfold_joinG _ _ hq0 (fun bq hbq => (hqs bq hbq).1)
  rwa [joinG_dec] at this

theorem unfold_no_nul {v : Bytes} (hv : valueOk v = true) : (0 : UInt8) ∉ Ref.unfold v := by
  obtain ⟨_, hz, hqs⟩ := (dec_ok v hv).1
  rw [unfold_dec hv]
  apply no_nul_foldVal _ _ (stripBy_not_mem hz)
  intro q hq
  obtain ⟨bq, hbq, rfl⟩ := List.mem_map.mp hq
  exact (hqs bq hbq).2.1

/-! ### a recorded field as head lines -/

/-- the head lines a recorded field is written as, each with its terminator: the value is split where it contains a fold -/
def fieldLines (f : Field) : List (Bytes × Bool) := partLines (f.1 ++ colonSp ++ (dec f.2).1) (dec f.2).2

theorem assembleFields_lines (fs : List Field) : assembleFields fs = renderG (fs.flatMap fieldLines) := by
  induction fs with
  | nil => rfl
  | cons f rest ih =>
    obtain ⟨n, v⟩ := f
    have hj : joinG (n ++ colonSp ++ (dec v).1) (dec v).2 = n ++ colonSp ++ v := by
      conv => rhs; rw [← joinG_dec v]
      simp [joinG, List.append_assoc]
    simp only [List.flatMap_cons, renderG_append, assembleFields, ih, fieldLines, renderG_partLines, hj]

theorem obs_fold_field (f : Field) (rest : List Bytes) (acc : List Field) (hn : isToken f.1 = true) (hv : valueOk f.2 = true) :
    Ref.fieldsAux ((fieldLines f).map (·.1) ++ rest) acc = Ref.fieldsAux rest ((f.1, Ref.unfold f.2) :: acc) := by
  have hws : ∀ q ∈ (dec f.2).2.map (·.2), startsWs q := by
    intro q hq
    obtain ⟨bq, hbq, rfl⟩ := List.mem_map.mp hq
    exact ((dec_ok f.2 hv).1.2.2 bq hbq).2.2
  rw [fieldLines, partLines_fst, List.cons_append, fieldsAux_first _ _ _ acc hn, fieldsAux_cont _ _ _ _ acc hws, unfold_dec hv]
  rfl

theorem fieldsAux_lines : ∀ (fs acc : List Field), (∀ f ∈ fs, isToken f.1 = true ∧ valueOk f.2 = true) →
    Ref.fieldsAux ((fs.flatMap fieldLines).map (·.1)) acc = .ok (acc.reverse ++ fs.map fun f => (f.1, Ref.unfold f.2))
  | [], acc, _ => by simp [Ref.fieldsAux]
  | f :: rest, acc, h => by
    obtain ⟨hn, hv⟩ := h f (by simp)
    rw [List.flatMap_cons, List.map_append, obs_fold_field f _ acc hn hv,
      fieldsAux_lines rest _ (fun x hx => h x (by simp [hx]))]
    simp

theorem fieldLines_clean (f : Field) (hn : isToken f.1 = true) (hv : valueOk f.2 = true) :
    ∀ lt ∈ fieldLines f, cleanLine lt.1 ∧ lt.1 ≠ [] := by
  obtain ⟨hq0, _, hqs⟩ := (dec_ok f.2 hv).1
  obtain ⟨_, h13, h10, hne, _⟩ := token_no_colon hn
  intro lt hlt
  have hl := List.mem_map_of_mem (f := (·.1)) hlt
  simp only [fieldLines, partLines_fst, List.mem_cons, List.mem_map] at hl
  rcases hl with he | ⟨bq, hbq, he⟩
  · rw [he]
    refine ⟨⟨by simp [colonSp, h13, hq0.1], by simp [colonSp, h10, hq0.2]⟩, ?_⟩
    cases hnm : f.1 with
    | nil => exact absurd hnm hne
    | cons c cs => simp
  · obtain ⟨hc, _, c, t, hq, _⟩ := hqs bq hbq
    rw [← he]
    exact ⟨hc, by rw [hq]; simp⟩

/-- the head stage of the round-trip theorems of Props/C01. The fuel `length + 1` (what `Ref.parseRequest` /
    `Ref.parseResponse` pass) is enough because every line takes at least one byte (`renderG_length`). -/
theorem head_stage {first : Bytes} {fs : List Field} (hfirst : cleanLine first ∧ first ≠ [])
    (htok : ∀ f ∈ fs, isToken f.1 = true ∧ valueOk f.2 = true) (tail : Bytes) :
    ∃ ls, Ref.headLines ((first ++ crlf ++ assembleFields fs ++ crlf ++ tail).length + 1)
        (first ++ crlf ++ assembleFields fs ++ crlf ++ tail) = .ok (first :: ls, tail) ∧
      Ref.fields ls = .ok (fs.map fun f => (f.1, Ref.unfold f.2)) := by
  have hwire : first ++ crlf ++ assembleFields fs ++ crlf ++ tail =
      renderG ((first, true) :: fs.flatMap fieldLines) ++ crlf ++ tail := by
    simp only [assembleFields_lines, renderG, sepOf, ↓reduceIte, crlf, List.append_assoc]
  have hlines : ∀ lt ∈ (first, true) :: fs.flatMap fieldLines, cleanLine lt.1 ∧ lt.1 ≠ [] := by
    intro lt hl
    simp only [List.mem_cons, List.mem_flatMap] at hl
    rcases hl with rfl | ⟨f, hf, hl⟩
    · exact hfirst
    · exact fieldLines_clean f (htok f hf).1 (htok f hf).2 lt hl
  refine ⟨(fs.flatMap fieldLines).map (·.1), ?_, ?_⟩
  · rw [hwire]
    have hlen := renderG_length ((first, true) :: fs.flatMap fieldLines)
    exact headLines_renderG _ _ tail hlines (by simp only [List.length_append]; omega)
  · have hnul : ((fs.map fun f => (f.1, Ref.unfold f.2)).all fun f => !f.2.contains 0) = true := by
      rw [List.all_eq_true]
      intro g hg
      obtain ⟨f, hf, rfl⟩ := List.mem_map.mp hg
      simpa using unfold_no_nul (htok f hf).2
    simp only [Ref.fields, fieldsAux_lines fs [] htok, List.reverse_nil, List.nil_append, hnul, ↓reduceIte]

/-! ### the framing fields are read alike by both readers when their values carry no fold and no surrounding OWS -/

theorem getAll_unfold (fs : List Field) (n : Bytes) (h : ∀ f ∈ fs, asciiLower f.1 = n → Ref.unfold f.2 = f.2) :
    getAll (fs.map fun f => (f.1, Ref.unfold f.2)) n = getAll fs n := by
  induction fs with
  | nil => rfl
  | cons f rest ih =>
    have ih' := ih (fun x hx => h x (by simp [hx]))
    simp only [getAll, List.map_cons, List.filter_cons] at ih' ⊢
    by_cases hm : asciiLower f.1 = n
    · simp only [hm, decide_true, ↓reduceIte, List.map_cons, h f (by simp) hm, ih']
    · simp only [hm, decide_false, Bool.false_eq_true, ↓reduceIte, ih']

theorem framing_unfold (fs : List Field)
    (h : ∀ f ∈ fs, (asciiLower f.1 = sTE ∨ asciiLower f.1 = sCL) → Ref.unfold f.2 = f.2) (v : Bytes) (k : Kind) (m : Bytes) :
    Ref.framing (fs.map fun f => (f.1, Ref.unfold f.2)) v k m = Ref.framing fs v k m := by
  unfold Ref.framing
  rw [getAll_unfold fs sTE (fun f hf hn => h f hf (Or.inl hn)), getAll_unfold fs sCL (fun f hf hn => h f hf (Or.inr hn))]

end MitmVerif.C01
