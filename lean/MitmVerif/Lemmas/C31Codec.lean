/-
  Lemmas for C31, codec layer: what the generated tables say about `kindOf`, the equations of `encoding.decode` /
  `encoding.encode` (`decodeStep` / `encodeStep`) on a cache hit and on a miss, the one thing a call can do to the
  cache (`CacheStep`), and the invariant `Inv` with the lemmas through which it is used.

  `FreshFor C nd f` says that the value `f` handed to a step function is the uncached library result of the call
  `nd` that the operation names; `freshOf` supplies exactly that (`freshFor_freshOf`).
-/
import MitmVerif.Model.C31
namespace MitmVerif.C31
open MitmVerif MitmVerif.Gen.C31

variable {C : Codecs} {c c' : Cache}

/-! ### coherence of the generated tables (re-proved whenever the tables are regenerated) -/

theorem identityEnc_eq : identityEnc = identityDec := by decide +kernel
theorem cachedEnc_eq : cachedEnc = cachedDec := by decide +kernel
theorem cachedDec_custom : ∀ n ∈ cachedDec,
    identityDec.contains n = false ∧ customDec.contains n = true ∧ customEnc.contains n = true := by decide +kernel

theorem kind_identity_iff (n : Bytes) : kindOf n = .identity ↔ identityDec.contains n = true := by
  unfold kindOf
  rw [identityEnc_eq]
  cases identityDec.contains n
  · simp only [Bool.and_self, Bool.false_eq_true, if_false]
    repeat' split
    all_goals simp
  · simp

theorem kind_cached_iff (n : Bytes) : kindOf n = .cached ↔ cachedDec.contains n = true := by
  unfold kindOf
  rw [identityEnc_eq, cachedEnc_eq]
  cases h : cachedDec.contains n
  · simp only [Bool.and_self, Bool.false_and, Bool.false_eq_true, if_false]
    repeat' split
    all_goals simp
  · obtain ⟨h1, h2, h3⟩ := cachedDec_custom n (List.contains_iff_mem.mp h)
    simp only [h1, h2, h3]
    simp

theorem identityDec_eq_false {n : Bytes} (h : kindOf n ≠ .identity) : identityDec.contains n = false :=
  Bool.eq_false_iff.mpr (fun hc => h ((kind_identity_iff n).mpr hc))

theorem cachedDec_eq_false {n : Bytes} (h : kindOf n ≠ .cached) : cachedDec.contains n = false :=
  Bool.eq_false_iff.mpr (fun hc => h ((kind_cached_iff n).mpr hc))

theorem decHit_some {c : Cache} {x n er d : Bytes} (h : decHit c x n er = some d) : c = some ⟨x, n, er, d⟩ := by
  unfold decHit at h
  cases c with
  | none => cases h
  | some e =>
    obtain ⟨x', n', er', d'⟩ := e
    simp only at h
    split at h
    · rename_i hc
      cases h
      rw [hc.1, hc.2.1, hc.2.2]
    · cases h

theorem encHit_some {c : Cache} {d n er x : Bytes} (h : encHit c d n er = some x) : c = some ⟨x, n, er, d⟩ := by
  unfold encHit at h
  cases c with
  | none => cases h
  | some e =>
    obtain ⟨x', n', er', d'⟩ := e
    simp only at h
    split at h
    · rename_i hc
      cases h
      rw [hc.1, hc.2.1, hc.2.2]
    · cases h

theorem encHit_entry (x n er d : Bytes) : encHit (some ⟨x, n, er, d⟩) d n er = some x := by simp [encHit]

theorem Inv.empty (C : Codecs) : Inv C none := by
  intro e he
  cases he

theorem Inv.of_decHit (hi : Inv C c) {x n er d : Bytes} (h : decHit c x n er = some d) :
    kindOf n = .cached ∧ C.dec n er x = .ok d :=
  hi _ (decHit_some h)

theorem Inv.of_encHit (hi : Inv C c) {d n er x : Bytes} (h : encHit c d n er = some x) :
    kindOf n = .cached ∧ C.dec n er x = .ok d :=
  hi _ (encHit_some h)

theorem Inv.decHit_none (hi : Inv C c) {n : Bytes} (hk : kindOf n ≠ .cached) (x er : Bytes) :
    decHit c x n er = none := by
  cases h : decHit c x n er with
  | none => rfl
  | some d => exact absurd (hi.of_decHit h).1 hk

theorem Inv.encHit_none (hi : Inv C c) {n : Bytes} (hk : kindOf n ≠ .cached) (d er : Bytes) :
    encHit c d n er = none := by
  cases h : encHit c d n er with
  | none => rfl
  | some x => exact absurd (hi.of_encHit h).1 hk

/-- `f` is the uncached library result of the call `nd` names (nothing is asked of `f` when no call is made) -/
def FreshFor (C : Codecs) (nd : Need) (f : Res) : Prop :=
  match nd with
  | .no => True
  | .dec n e x => f = C.dec n e x
  | .enc n e d => f = C.enc n e d

theorem freshFor_freshOf (C : Codecs) (s : State) (op : Op) : FreshFor C (need s op) (freshOf C s op) := by
  unfold freshOf
  generalize need s op = nd
  cases nd with
  | no => trivial
  | dec n e x => rfl
  | enc n e d => rfl

theorem needDec_of {coding : Bytes} (er x : Bytes) (h : kindOf (asciiLower coding) ≠ .identity) :
    needDec coding er x = .dec (asciiLower coding) er x := by
  simp only [needDec, identityDec_eq_false h, Bool.false_eq_true, if_false]

theorem needEnc_of {coding : Bytes} (er d : Bytes) (h : kindOf (asciiLower coding) ≠ .identity) :
    needEnc coding er d = .enc (asciiLower coding) er d := by
  simp only [needEnc, identityEnc_eq, identityDec_eq_false h, Bool.false_eq_true, if_false]

theorem FreshFor.dec {coding er x : Bytes} {f : Res} (hf : FreshFor C (needDec coding er x) f)
    (h : kindOf (asciiLower coding) ≠ .identity) : f = C.dec (asciiLower coding) er x := by
  rw [needDec_of er x h] at hf
  exact hf

theorem FreshFor.enc {coding er d : Bytes} {f : Res} (hf : FreshFor C (needEnc coding er d) f)
    (h : kindOf (asciiLower coding) ≠ .identity) : f = C.enc (asciiLower coding) er d := by
  rw [needEnc_of er d h] at hf
  exact hf

theorem uncachedDec_identity (C : Codecs) {coding : Bytes} (er x : Bytes) (h : kindOf (asciiLower coding) = .identity) :
    uncachedDec C coding er x = .ok x := by
  simp only [uncachedDec, (kind_identity_iff _).mp h, if_true]

theorem uncachedDec_of (C : Codecs) {coding : Bytes} (er x : Bytes) (h : kindOf (asciiLower coding) ≠ .identity) :
    uncachedDec C coding er x = C.dec (asciiLower coding) er x := by
  simp only [uncachedDec, identityDec_eq_false h, Bool.false_eq_true, if_false]

theorem uncachedEnc_of (C : Codecs) {coding : Bytes} (er d : Bytes) (h : kindOf (asciiLower coding) ≠ .identity) :
    uncachedEnc C coding er d = C.enc (asciiLower coding) er d := by
  simp only [uncachedEnc, identityEnc_eq, identityDec_eq_false h, Bool.false_eq_true, if_false]

theorem decodeStep_hit {c : Cache} {x coding er d : Bytes} (f : Res)
    (h : decHit c x (asciiLower coding) er = some d) : decodeStep c x coding er f = (.ok d, c) := by
  unfold decodeStep
  dsimp only
  rw [h]

/-- the miss branch of the model with the table look-ups replaced by `kindOf` (`encodeStep_miss` likewise) -/
theorem decodeStep_miss {c : Cache} {x coding er : Bytes} (f : Res) (h : decHit c x (asciiLower coding) er = none) :
    decodeStep c x coding er f =
      if kindOf (asciiLower coding) = .identity then (.ok x, c)
      else (f, match f with
        | .ok d => if kindOf (asciiLower coding) = .cached then some ⟨x, asciiLower coding, er, d⟩ else c
        | _ => c) := by
  unfold decodeStep
  dsimp only
  rw [h]
  by_cases hk : kindOf (asciiLower coding) = .identity
  · have hc : cachedDec.contains (asciiLower coding) = false := cachedDec_eq_false (by rw [hk]; decide)
    simp only [(kind_identity_iff _).mp hk, hk, hc, if_true, Bool.false_eq_true, if_false]
  · simp only [identityDec_eq_false hk, hk, Bool.false_eq_true, if_false, kind_cached_iff]
    rfl

theorem encodeStep_hit {c : Cache} {d coding er x : Bytes} (f : Res)
    (h : encHit c d (asciiLower coding) er = some x) : encodeStep c d coding er f = (.ok x, c) := by
  unfold encodeStep
  dsimp only
  rw [h]

theorem encodeStep_miss {c : Cache} {d coding er : Bytes} (f : Res) (h : encHit c d (asciiLower coding) er = none) :
    encodeStep c d coding er f =
      if kindOf (asciiLower coding) = .identity then (.ok d, c)
      else (f, match f with
        | .ok x => if kindOf (asciiLower coding) = .cached then some ⟨x, asciiLower coding, er, d⟩ else c
        | _ => c) := by
  unfold encodeStep
  dsimp only
  rw [h, identityEnc_eq, cachedEnc_eq]
  by_cases hk : kindOf (asciiLower coding) = .identity
  · have hc : cachedDec.contains (asciiLower coding) = false := cachedDec_eq_false (by rw [hk]; decide)
    simp only [(kind_identity_iff _).mp hk, hk, hc, if_true, Bool.false_eq_true, if_false]
  · simp only [identityDec_eq_false hk, hk, Bool.false_eq_true, if_false, kind_cached_iff]
    rfl

/-! ### what a call can do to the cache (facts about the model alone) -/

/-- `c'` is `c`, or the entry made from the one uncached codec call `nd` having returned `fresh` -/
def CacheStep (c : Cache) (nd : Need) (fresh : Res) (c' : Cache) : Prop :=
  c' = c ∨
  (∃ n e x d, nd = .dec n e x ∧ fresh = .ok d ∧ cachedDec.contains n = true ∧ c' = some ⟨x, n, e, d⟩) ∨
  (∃ n e d x, nd = .enc n e d ∧ fresh = .ok x ∧ cachedDec.contains n = true ∧ c' = some ⟨x, n, e, d⟩)

theorem CacheStep.of_no {c c' : Cache} {f : Res} (h : CacheStep c .no f c') : c' = c := by
  rcases h with h | ⟨_, _, _, _, h, _⟩ | ⟨_, _, _, _, h, _⟩
  · exact h
  · cases h
  · cases h

theorem CacheStep.pres {c c' : Cache} {nd : Need} {f : Res} (h : CacheStep c nd f c') {P : Entry → Prop}
    (hP : ∀ e, c = some e → P e)
    (hd : ∀ n e x d, nd = .dec n e x → f = .ok d → kindOf n = .cached → P ⟨x, n, e, d⟩)
    (he : ∀ n e d x, nd = .enc n e d → f = .ok x → kindOf n = .cached → P ⟨x, n, e, d⟩) :
    ∀ e, c' = some e → P e := by
  intro ent hent
  rcases h with h | ⟨n, e, x, d, hn, hf, hc, h⟩ | ⟨n, e, d, x, hn, hf, hc, h⟩
  · exact hP ent (h ▸ hent)
  · cases h.symm.trans hent
    exact hd n e x d hn hf ((kind_cached_iff n).mpr hc)
  · cases h.symm.trans hent
    exact he n e d x hn hf ((kind_cached_iff n).mpr hc)

theorem CacheStep.inv {nd : Need} {f : Res} (h : CacheStep c nd f c') (hi : Inv C c)
    (hf : FreshFor C nd f) : Inv C c' := by
  apply h.pres hi
  · intro n e x d hn hd hk
    subst hn
    exact ⟨hk, hf.symm.trans hd⟩
  · intro n e d x hn hx hk
    subst hn
    exact ⟨hk, C.roundtrip n e d x hk (hf.symm.trans hx)⟩

theorem decodeStep_cacheStep (c : Cache) (x coding er : Bytes) (f : Res) :
    CacheStep c (needDec coding er x) f (decodeStep c x coding er f).2 := by
  cases h : decHit c x (asciiLower coding) er with
  | some d => rw [decodeStep_hit f h]; exact Or.inl rfl
  | none =>
    rw [decodeStep_miss f h]
    by_cases hk : kindOf (asciiLower coding) = .identity
    · rw [if_pos hk]; exact Or.inl rfl
    · rw [if_neg hk]
      by_cases hc : kindOf (asciiLower coding) = .cached
      · cases f with
        | ok d => exact Or.inr (Or.inl ⟨_, er, x, d, needDec_of er x hk, rfl, (kind_cached_iff _).mp hc, by simp only [hc, if_true]⟩)
        | _ => exact Or.inl rfl
      · cases f with
        | ok d => exact Or.inl (by simp only [hc, if_false])
        | _ => exact Or.inl rfl

theorem encodeStep_cacheStep (c : Cache) (d coding er : Bytes) (f : Res) :
    CacheStep c (needEnc coding er d) f (encodeStep c d coding er f).2 := by
  cases h : encHit c d (asciiLower coding) er with
  | some x => rw [encodeStep_hit f h]; exact Or.inl rfl
  | none =>
    rw [encodeStep_miss f h]
    by_cases hk : kindOf (asciiLower coding) = .identity
    · rw [if_pos hk]; exact Or.inl rfl
    · rw [if_neg hk]
      by_cases hc : kindOf (asciiLower coding) = .cached
      · cases f with
        | ok x => exact Or.inr (Or.inr ⟨_, er, d, x, needEnc_of er d hk, rfl, (kind_cached_iff _).mp hc, by simp only [hc, if_true]⟩)
        | _ => exact Or.inl rfl
      · cases f with
        | ok x => exact Or.inl (by simp only [hc, if_false])
        | _ => exact Or.inl rfl

theorem decodeStep_err_cache (c : Cache) (x coding er : Bytes) (f : Res)
    (h : ∀ d, (decodeStep c x coding er f).1 ≠ .ok d) : (decodeStep c x coding er f).2 = c := by
  cases hh : decHit c x (asciiLower coding) er with
  | some d => rw [decodeStep_hit f hh]
  | none =>
    rw [decodeStep_miss f hh] at h ⊢
    by_cases hk : kindOf (asciiLower coding) = .identity
    · rw [if_pos hk]
    · rw [if_neg hk] at h ⊢
      cases f with
      | ok d => exact absurd rfl (h d)
      | _ => rfl

/-- encoding the same content again, with the same codec answer, changes nothing: a new entry made by the first
    call serves the second -/
theorem encodeStep_again (c : Cache) (d coding er : Bytes) (f f2 : Res)
    (hf : kindOf (asciiLower coding) ≠ .identity → f2 = f) :
    encodeStep (encodeStep c d coding er f).2 d coding er f2 = encodeStep c d coding er f := by
  cases h : encHit c d (asciiLower coding) er with
  | some x => rw [encodeStep_hit f h, encodeStep_hit f2 h]
  | none =>
    rw [encodeStep_miss f h]
    by_cases hk : kindOf (asciiLower coding) = .identity
    · rw [if_pos hk, encodeStep_miss f2 h, if_pos hk]
    · rw [if_neg hk, hf hk]
      by_cases hc : kindOf (asciiLower coding) = .cached
      · cases f with
        | ok x => simp only [hc, if_true]; rw [encodeStep_hit _ (encHit_entry x _ er d)]
        | _ => simp only; rw [encodeStep_miss _ h, if_neg hk]
      · cases f with
        | ok x => simp only [hc, if_false]; rw [encodeStep_miss _ h, if_neg hk]; simp only [hc, if_false]
        | _ => simp only; rw [encodeStep_miss _ h, if_neg hk]

/-! ### results of `encoding.decode` / `encoding.encode` under the invariant -/

/-- the cache is transparent for decoding: the result is the uncached one -/
theorem decodeStep_res (hi : Inv C c) (x coding er : Bytes) (f : Res)
    (hf : FreshFor C (needDec coding er x) f) :
    (decodeStep c x coding er f).1 = uncachedDec C coding er x := by
  cases h : decHit c x (asciiLower coding) er with
  | some d =>
    obtain ⟨hk, hdec⟩ := hi.of_decHit h
    rw [decodeStep_hit f h, uncachedDec_of C er x (by rw [hk]; decide), hdec]
  | none =>
    rw [decodeStep_miss f h]
    by_cases hk : kindOf (asciiLower coding) = .identity
    · rw [if_pos hk, uncachedDec_identity C er x hk]
    · rw [if_neg hk, uncachedDec_of C er x hk, hf.dec hk]

theorem decodeStep_identity (hi : Inv C c) (x coding er : Bytes) (f : Res)
    (hk : kindOf (asciiLower coding) = .identity) : decodeStep c x coding er f = (.ok x, c) := by
  rw [decodeStep_miss f (hi.decHit_none (by rw [hk]; decide) x er), if_pos hk]

theorem encodeStep_identity (hi : Inv C c) (d coding er : Bytes) (f : Res)
    (hk : kindOf (asciiLower coding) = .identity) : encodeStep c d coding er f = (.ok d, c) := by
  rw [encodeStep_miss f (hi.encHit_none (by rw [hk]; decide) d er), if_pos hk]

theorem encodeStep_other (hi : Inv C c) (d coding er : Bytes) (f : Res)
    (h1 : kindOf (asciiLower coding) ≠ .identity) (h2 : kindOf (asciiLower coding) ≠ .cached) :
    encodeStep c d coding er f = (f, c) := by
  rw [encodeStep_miss f (hi.encHit_none h2 d er), if_neg h1]
  cases f <;> simp only [h2, if_false]

theorem encodeStep_cachedKind (hi : Inv C c) (d coding er : Bytes) (f : Res)
    (hk : kindOf (asciiLower coding) = .cached) (hf : FreshFor C (needEnc coding er d) f) :
    ∃ x c', encodeStep c d coding er f = (.ok x, c') ∧ C.dec (asciiLower coding) er x = .ok d ∧
      (encHit c d (asciiLower coding) er = some x ∨
        (encHit c d (asciiLower coding) er = none ∧ C.enc (asciiLower coding) er d = .ok x)) := by
  have hni : kindOf (asciiLower coding) ≠ .identity := by rw [hk]; decide
  cases h : encHit c d (asciiLower coding) er with
  | some x => exact ⟨x, c, encodeStep_hit f h, (hi.of_encHit h).2, Or.inl rfl⟩
  | none =>
    obtain ⟨x, hx⟩ := C.enc_total (asciiLower coding) er d hk
    refine ⟨x, some ⟨x, asciiLower coding, er, d⟩, ?_, C.roundtrip _ _ _ _ hk hx, Or.inr ⟨rfl, hx⟩⟩
    rw [encodeStep_miss f h, if_neg hni, hf.enc hni, hx]
    simp only [hk, if_true]

theorem encodeStep_canon (hi : Inv C c) (d coding er : Bytes) (f : Res)
    (hf : FreshFor C (needEnc coding er d) f) (hg : nonCanonicalHit C c d (asciiLower coding) er = false) :
    (encodeStep c d coding er f).1 = uncachedEnc C coding er d := by
  cases h : encHit c d (asciiLower coding) er with
  | some x =>
    have hk := (hi.of_encHit h).1
    have hx : C.enc (asciiLower coding) er d = .ok x := by simpa [nonCanonicalHit, h] using hg
    rw [encodeStep_hit f h, uncachedEnc_of C er d (by rw [hk]; decide), hx]
  | none =>
    rw [encodeStep_miss f h]
    by_cases hk : kindOf (asciiLower coding) = .identity
    · rw [if_pos hk]
      simp only [uncachedEnc, identityEnc_eq, (kind_identity_iff _).mp hk, if_true]
    · rw [if_neg hk, uncachedEnc_of C er d hk, hf.enc hk]

end MitmVerif.C31
