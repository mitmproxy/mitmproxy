/-
  C48 — lemmas: the chunk-framed body reads back.
-/
import MitmVerif.Lemmas.C48Raw
import MitmVerif.Lemmas.C48Body
namespace MitmVerif.Lemmas.C48
open MitmVerif MitmVerif.C48

theorem hexDigit_ne_cr : ∀ n : Fin 16, hexDigit n.val ≠ 13 := by decide

theorem valRev_hexRev : ∀ (f n : Nat), n < f → valRev (hexRev f n) = some n := by
  intro f
  induction f with
  | zero => intro n h; omega
  | succ f ih =>
    intro n h
    unfold hexRev
    by_cases hn : n < 16
    · simp [hn, valRev, hexVal_hexDigit ⟨n, hn⟩]
    · have hlt : n % 16 < 16 := by omega
      have hdiv : n / 16 < f := by omega
      simp only [hn, if_false, valRev, hexVal_hexDigit ⟨_, hlt⟩, ih _ hdiv]
      congr 1; omega

theorem hexRev_noCR : ∀ (f n : Nat), noByte 13 (hexRev f n) = true := by
  intro f
  induction f with
  | zero => intro n; simp [hexRev, noByte]
  | succ f ih =>
    intro n
    unfold hexRev
    by_cases hn : n < 16
    · have := hexDigit_ne_cr ⟨n, hn⟩
      simp [hn, noByte, this]
    · have hlt : n % 16 < 16 := by omega
      have h1 := hexDigit_ne_cr ⟨_, hlt⟩
      have h2 := ih (n / 16)
      simp only [hn, if_false]
      unfold noByte at h2 ⊢
      simp [h1, h2]

theorem hexRev_ne_nil (n : Nat) : hexRev (n + 1) n ≠ [] := by
  unfold hexRev; by_cases hn : n < 16 <;> simp [hn]

theorem parseHex_hexNat (n : Nat) : parseHex (hexNat n) = some n := by
  unfold parseHex hexNat
  have : (hexRev (n + 1) n).reverse.isEmpty = false := by simpa using hexRev_ne_nil n
  simp [this, valRev_hexRev (n + 1) n (by omega)]

theorem hexNat_noCR (n : Nat) : noByte 13 (hexNat n) = true := by
  have := hexRev_noCR (n + 1) n
  unfold hexNat noByte at *
  simpa using this

theorem parseChunked_final (f : Nat) : parseChunked (f + 1) [48, 13, 10, 13, 10] = some [] := by
  have h1 : takeLine [48, 13, 10, 13, 10] = some ([48], [13, 10]) := takeLine_append [48] [13, 10] (by decide)
  have h2 : parseHex [48] = some 0 := by decide
  simp [parseChunked, h1, h2, crlf]

theorem parseChunked_chunkedBody (body : Bytes) (f : Nat) (hf : 2 ≤ f) : parseChunked f (chunkedBody body) = some body := by
  obtain ⟨g, rfl⟩ : ∃ g, f = g + 2 := ⟨f - 2, by omega⟩
  unfold chunkedBody
  by_cases hb : body.isEmpty = true
  · have : body = [] := by simpa using hb
    subst this
    simpa using parseChunked_final (g + 1)
  · simp only [hb, Bool.false_eq_true, if_false]
    have hsplit : hexNat body.length ++ crlf ++ body ++ crlf ++ [48, 13, 10, 13, 10] =
        hexNat body.length ++ crlf ++ (body ++ (13 :: 10 :: [48, 13, 10, 13, 10])) := by simp [crlf]
    rw [hsplit]
    have hlen : body.length ≠ 0 := by
      intro h0; have : body = [] := List.length_eq_zero_iff.mp h0; simp [this] at hb
    rw [parseChunked, takeLine_append _ _ (hexNat_noCR _)]
    simp only [parseHex_hexNat, hlen, if_false]
    have hl : ¬ (body ++ (13 :: 10 :: [48, 13, 10, 13, 10])).length < body.length + 2 := by simp
    simp only [hl, if_false, List.drop_left, List.take_left]
    rw [parseChunked_final g]
    simp

end MitmVerif.Lemmas.C48
