/-
  C05 ⟵ C03: the order of the events `Http2Client` is handed (`Good` in Lemmas/C05_Map.lean, `Good2` in Lemmas/C05_Sub.lean) is the order in
  which the model of `HttpStream` (Model/C03.lean) emits `SendHttp(…, context.server)`: the request head first and
  once, body data only while the request is being streamed, trailers only right before the end of the message, one end
  of message, an error only after the head — for EVERY run of the model (any inputs, any addon actions, any
  body-size verdicts, any interleaving with the `_paused_event_queue`).
-/
import MitmVerif.Lemmas.C03Trace
namespace MitmVerif.C03

/-- where the server-bound part of the stream is: nothing sent, request open, trailers sent, ended / cancelled -/
inductive SP where
  | s0 | s1 | s2 | sc | bad
  deriving DecidableEq, Repr

def srvStep : SP → Tag → SP
  | .s0, .rh => .s1
  | .s1, .rd => .s1
  | .s1, .rt => .s2
  | .s1, .re => .sc
  | .s2, .re => .sc
  | .s1, .rx => .sc
  | .sc, .rx => .sc
  | _, _ => .bad

/-- the monitor over the emitted commands: only `SendHttp(…, context.server)` matters -/
def adv (p : SP) : Out → SP
  | .send false t => srvStep p t
  | _ => p

/-- what `J` needs to know at each suspension point.  It overlaps with `pausedOK` (Model/C03_Inv.lean) but is not a part
    of it: `J` is proved on its own, without assuming `InvB`. -/
def pOK (cs : CS) (attached : Bool) : K → Bool
  | .reqHeadersHook _ => cs == .waitHdr
  | .streamConn false => cs == .waitHdr
  | .streamConn true => cs == .consume
  | .requestHookStream => cs == .stream
  | .requestHook => cs == .done && !attached
  | .respHeadersEmul => cs == .done && !attached
  | .conn => cs == .done && !attached
  | .respHeadersHook _ => attached
  | .peErr false _ => cs == .errored
  | .cbsHdr false => attached
  | .cbsErr false => attached
  | _ => true

/-- nothing was sent yet exactly as long as no request head went to a server connection -/
def pAtt : SP → Bool → Bool
  | .s0, a => !a
  | .s1, a => a
  | .sc, a => a
  | _, _ => false

/-- the monitor never rejected, and trailers are always followed by the end of the message at once -/
def pFine : SP → Bool
  | .bad => false
  | .s2 => false
  | _ => true

def isS1 : SP → Bool
  | .s1 => true
  | _ => false

/-- the invariant that ties the monitor to the state of the stream (a function of the few fields it mentions) -/
def JF (p : SP) (bad attached pt hasFlow : Bool) (cs : CS) (ss : SS) (paused : Option K) : Bool :=
  pFine p &&
  (bad ||
  (pAtt p attached
   && imp (paused.isSome || cs != .waitHdr) hasFlow
   && imp (cs == .stream) (isS1 p)
   && imp (cs == .waitHdr || cs == .consume || cs == .uninit) (!attached)
   && imp (paused.isNone && !pt && cs == .done && !attached) (ss == .done || ss == .errored)
   && (match paused with | none => true | some k => pOK cs attached k)))

def J (p : SP) (c : Core) : Bool := JF p c.bad c.attached c.pt c.hasFlow c.cs c.ss c.paused

@[simp] theorem adv_send_true (p : SP) (t : Tag) : adv p (.send true t) = p := rfl
@[simp] theorem adv_hook (p : SP) (h : Hook) : adv p (.hook h) = p := rfl
@[simp] theorem adv_drop (p : SP) : adv p .drop = p := rfl
@[simp] theorem adv_getConn (p : SP) : adv p .getConn = p := rfl
@[simp] theorem adv_openConn (p : SP) : adv p .openConn = p := rfl
@[simp] theorem adv_closeServer (p : SP) : adv p .closeServer = p := rfl
@[simp] theorem adv_crash (p : SP) : adv p .crash = p := rfl
@[simp] theorem adv_streamStart (p : SP) : adv p .streamStart = p := rfl
theorem foldl_adv_outIf (p : SP) (b : Bool) (o : Out) : (outIf b o).foldl adv p = if b then adv p o else p := by
  cases b <;> rfl

theorem J_fin (p : SP) (q : Bool) (w : W) : J p (W.fin q w).c = J p w.c := rfl

end MitmVerif.C03
