/-
  C48 — lemmas: printf format round trip, the `-d` / `<<<` tails of the exported command lines.
-/
import MitmVerif.Lemmas.C48
import MitmVerif.Lemmas.Lists
namespace MitmVerif.Lemmas.C48
open MitmVerif MitmVerif.C48 MitmVerif.C48.Sh

theorem hexVal_hexDigit : ∀ n : Fin 16, hexVal (hexDigit n.val) = some n.val := by decide

theorem hexDigit_plain : ∀ n : Fin 16, hexDigit n.val ≠ 92 ∧ hexDigit n.val ≠ 37 := by decide

theorem ctl_ne (c : UInt8) (h : c.toNat < 32) : c ≠ 92 ∧ c ≠ 37 := by
  constructor <;> (intro hc; subst hc; simp at h)

/-- what a printf without `\x` support (dash) makes of one encoded byte -/
def dashByte (c : UInt8) : Bytes :=
  if c.toNat < 32 then [92, 120, hexDigit (c.toNat / 16), hexDigit (c.toNat % 16)] else [c]

/-- one byte as `printf_escapes` encoded it comes out of a printf that knows `\xHH` (bash) as that byte, and out of one
    that does not (dash) with the escape spelled out -/
theorem printf_escByte (hex : Bool) (c : UInt8) (rest : Bytes) :
    pfGo hex .n (escByte c ++ rest) = (pfGo hex .n rest).map ((if hex then [c] else dashByte c) ++ ·) := by
  unfold escByte dashByte
  by_cases h1 : c.toNat < 32
  · have hhi : c.toNat / 16 < 16 := by omega
    have hlo : c.toNat % 16 < 16 := by omega
    simp only [h1, if_true, List.cons_append, List.nil_append]
    cases hex
    · obtain ⟨a1, a2⟩ := hexDigit_plain ⟨_, hhi⟩
      obtain ⟨b1, b2⟩ := hexDigit_plain ⟨_, hlo⟩
      simp [pfGo, pfStep, a1, a2, b1, b2]
      cases pfGo false .n rest <;> simp
    · simp [pfGo, pfStep, hexVal_hexDigit ⟨_, hhi⟩, hexVal_hexDigit ⟨_, hlo⟩]
      cases pfGo true .n rest <;> simp [byte_recompose]
  · simp only [h1, if_false, ite_self]
    by_cases h2 : c = 92
    · subst h2; simp [pfGo, pfStep]; cases pfGo hex .n rest <;> simp
    · by_cases h3 : c = 37
      · subst h3; simp [pfGo, pfStep]; cases pfGo hex .n rest <;> simp
      · simp [h2, h3, pfGo, pfStep]

theorem printf_esc (hex : Bool) : ∀ t : Bytes,
    printfFmt hex (t.flatMap escByte) = some (t.flatMap fun c => if hex then [c] else dashByte c) := by
  intro t
  unfold printfFmt
  induction t with
  | nil => simp [pfGo]
  | cons c r ih => simp [List.flatMap_cons, printf_escByte, ih]

theorem sPrintf_safe : sPrintf.all safe = true := by decide

def sSubstOpen : Bytes := [34, 36, 40, 112, 114, 105, 110, 116, 102, 32]    -- "$(printf␠
def sSubstClose : Bytes := [41, 34]                                          -- )"

/-- `"$(printf FMT)"` at the start of a word is read as the word that `printf` prints, minus trailing newlines -/
theorem reads_subst (hex : Bool) (fmt out : Bytes) (hp : printfFmt hex fmt = some out) (hdash : fmt.head? ≠ some 45) :
    Reads hex (sSubstOpen ++ quote fmt ++ sSubstClose) [mkWord (stripNl out)] := reads_word fun acc => by
  have hopen : steps hex ⟨.normal, none, acc, none⟩ sSubstOpen =
      some ⟨.normal, none, [⟨sPrintf, false⟩], some (some ⟨[], false⟩, acc)⟩ := rfl
  rw [steps_append, steps_append, hopen]
  simp only [Option.bind_some]
  rw [steps_quote hex fmt _ rfl rfl]
  simp [sSubstClose, steps, step, finish, sPrintf, hp, Word.append, hdash, mkWord]

theorem reads_here (hex : Bool) : Reads hex sHere [⟨sHere, true⟩] := reads_word fun _ => rfl

theorem stripNl_of_last (t : Bytes) (h : t.getLast? ≠ some 10) : stripNl t = t := by
  unfold stripNl
  rw [← List.head?_reverse] at h
  cases hr : t.reverse with
  | nil => simp [List.reverse_eq_nil_iff.mp hr]
  | cons x xs =>
    have : x ≠ 10 := by intro hx; rw [hr, hx] at h; exact h rfl
    simp [List.dropWhile, this]
    rw [← List.reverse_cons, ← hr]; simp

theorem escText_head (t : Bytes) : (escText t).head? ≠ some 45 := by
  cases t with
  | nil => simp [escText]
  | cons c r =>
    unfold escText
    by_cases hc : c = 45
    · simp [hc]
    · simp only [hc, if_false, List.flatMap_cons]
      unfold escByte
      by_cases h1 : c.toNat < 32
      · simp [h1]
      · by_cases h2 : c = 92
        · subst h2; simp
        · by_cases h3 : c = 37
          · subst h3; simp
          · simp [h1, h2, h3, hc]

/-- the format the exporter writes for `t`, printed: `t` under bash, `t` with its control bytes spelled `\xHH` under dash -/
theorem printf_escText (hex : Bool) (t : Bytes) :
    printfFmt hex (escText t) = some (if hex then t else t.flatMap dashByte) := by
  have hflat : (t.flatMap fun c => if hex then [c] else dashByte c) = if hex then t else t.flatMap dashByte := by
    cases hex
    · rfl
    · simp
  rw [← hflat]
  cases t with
  | nil => simp [escText, printfFmt, pfGo]
  | cons c r =>
    unfold escText
    by_cases hc : c = 45
    · subst hc
      have := printf_esc hex r
      unfold printfFmt at this ⊢
      cases hex <;> simp [pfGo, pfStep, this, dashByte]
    · simp only [hc, if_false]
      exact printf_esc hex (c :: r)

/-- what the shell receives for the console form of the text `t`: the text itself, or — when control characters make
    the exporter go through `printf` — what that shell's printf prints, minus trailing newlines -/
def received (hex : Bool) (t : Bytes) : Bytes :=
  if hasCtl t then stripNl (if hex then t else t.flatMap dashByte) else t

theorem received_plain (hex : Bool) (t : Bytes) (h : hasCtl t = false) : received hex t = t := by
  simp only [received, h, Bool.false_eq_true, if_false]

theorem received_ctl (hex : Bool) (t : Bytes) (h : hasCtl t = true) :
    received hex t = stripNl (if hex then t else t.flatMap dashByte) := by
  simp only [received, h, if_true]

theorem reads_content (hex : Bool) (t : Bytes) : Reads hex (contentForConsole t) [mkWord (received hex t)] := by
  unfold contentForConsole received
  cases hasCtl t with
  | false => exact reads_quote hex t
  | true => exact reads_subst hex _ _ (printf_escText hex t) (escText_head t)

/-- the lines the exporter writes for a text body: the quoted arguments, then ` FLAG CONTENT` -/
theorem reads_export (hex : Bool) (args : List Bytes) (t : Bytes) {flag : Bytes} {w : Word} (hf : Reads hex flag [w]) :
    Reads hex (joinSp (args.map quote) ++ ([32] ++ flag ++ [32]) ++ contentForConsole t)
      (args.map mkWord ++ [w, mkWord (received hex t)]) := by
  simpa using (reads_join hex args).space (hf.space (reads_content hex t))

end MitmVerif.Lemmas.C48

