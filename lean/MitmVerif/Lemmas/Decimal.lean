/-
  `str(n)` and `int(s)` on digits, once for all properties: the decimal digits of a number as numbers `0..9`, most
  significant first (`digits`), and the value of a list of digits read from the left into an accumulator (`ofDigits`).
  The models render with their own recursions (fuel and append in C06, C33, C36, C40; a reversed accumulator in C12, C42) into
  their own character types, and read with their own folds; the lemma module of a property proves that its renderer is
  `(digits n).map <its digit character>` and that its reader on such a list is `ofDigits`, and takes the rest from here.
-/
namespace MitmVerif

/-- fuel `f > n` is enough; `digits` supplies it -/
def digitsF : Nat → Nat → List Nat
  | 0, _ => []
  | f + 1, n => if n < 10 then [n] else digitsF f (n / 10) ++ [n % 10]

def digits (n : Nat) : List Nat := digitsF (n + 1) n

def ofDigits (a : Nat) (ds : List Nat) : Nat := ds.foldl (fun a d => a * 10 + d) a

theorem digitsF_fuel : ∀ (f g n : Nat), n < f → n < g → digitsF f n = digitsF g n := by
  intro f
  induction f with
  | zero => intro g n h; omega
  | succ f ih =>
    intro g n hf hg
    cases g with
    | zero => omega
    | succ g =>
      rw [digitsF, digitsF]
      split
      · rfl
      · rw [ih g _ (by omega) (by omega)]

theorem digitsF_eq (f n : Nat) (h : n < f) : digitsF f n = digits n := digitsF_fuel f (n + 1) n h (Nat.lt_succ_self n)

/-- the equation by which `digits` is reasoned about -/
theorem digits_eq (n : Nat) : digits n = if n < 10 then [n] else digits (n / 10) ++ [n % 10] := by
  rw [digits, digitsF]
  split
  · rfl
  · rw [digitsF_eq _ _ (by omega)]

theorem digits_lt (n : Nat) : ∀ d ∈ digits n, d < 10 := by
  induction n using Nat.strongRecOn with
  | _ n ih =>
    rw [digits_eq]
    split
    · intro d hd; rw [List.mem_singleton.mp hd]; assumption
    · intro d hd
      rcases List.mem_append.mp hd with hd | hd
      · exact ih (n / 10) (by omega) d hd
      · rw [List.mem_singleton.mp hd]; omega

theorem digits_ne_nil (n : Nat) : digits n ≠ [] := by
  rw [digits_eq]; split <;> simp

theorem ofDigits_append (a : Nat) (ds : List Nat) (d : Nat) : ofDigits a (ds ++ [d]) = ofDigits a ds * 10 + d := by
  simp [ofDigits]

theorem ofDigits_digits (n : Nat) : ∀ a, ofDigits a (digits n) = a * 10 ^ (digits n).length + n := by
  induction n using Nat.strongRecOn with
  | _ n ih =>
    intro a
    rw [digits_eq]
    split
    · simp [ofDigits]
    · rw [ofDigits_append, ih (n / 10) (by omega), List.length_append, List.length_singleton, Nat.pow_succ, ← Nat.mul_assoc,
        Nat.add_mul]
      omega

theorem ofDigits_zero_digits (n : Nat) : ofDigits 0 (digits n) = n := by
  rw [ofDigits_digits, Nat.zero_mul, Nat.zero_add]

theorem digits_length_le (n : Nat) : ∀ k, 0 < k → n < 10 ^ k → (digits n).length ≤ k := by
  induction n using Nat.strongRecOn with
  | _ n ih =>
    intro k hk hn
    rw [digits_eq]
    split
    · exact hk
    · obtain ⟨j, rfl⟩ : ∃ j, k = j + 1 := ⟨k - 1, by omega⟩
      rw [Nat.pow_succ] at hn
      have hj : 0 < j := Nat.pos_of_ne_zero fun h => by subst h; omega
      have := ih (n / 10) (by omega) j hj (Nat.div_lt_of_lt_mul (by omega))
      rw [List.length_append, List.length_singleton]
      omega

/-- a number with a leading digit other than zero has no leading zero -/
theorem digits_head_pos (n : Nat) (h : 0 < n) : ∀ d, (digits n).head? = some d → 0 < d := by
  induction n using Nat.strongRecOn with
  | _ n ih =>
    intro d hd
    rw [digits_eq] at hd
    split at hd
    · cases hd; exact h
    · rw [List.head?_append] at hd
      cases hh : (digits (n / 10)).head? with
      | none => exact absurd (List.head?_eq_none_iff.mp hh) (digits_ne_nil _)
      | some d' =>
        rw [hh] at hd
        cases hd
        exact ih (n / 10) (by omega) (by omega) d hh

theorem digits_three (n : Nat) (h1 : 100 ≤ n) (h2 : n < 1000) : digits n = [n / 100, n / 10 % 10, n % 10] := by
  have e : n / 10 / 10 = n / 100 := by omega
  rw [digits_eq, if_neg (by omega), digits_eq, if_neg (by omega), digits_eq, if_pos (by omega), e]
  rfl

end MitmVerif
