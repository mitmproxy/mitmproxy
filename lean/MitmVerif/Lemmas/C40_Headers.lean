/-
  Lemmas for C40: the header multi-dict of Model/C40_Http.lean seen through `get_all`.  `del` and `set_all(k, [v])` have
  one equation each saying what `get_all` answers afterwards for every name (`getAll_del`, `getAll_setAllAux`); `in` is
  a function of `get_all` (`has_iff_getAll`), as `get` is by definition, so every fact about `hdrGet` / `hdrHas` in
  Props/C40 is read off these two equations (`Headers.add` has none: nothing is stated about it).  Also what the
  refinement of `set_content` to C31 needs besides: the three header names it touches differ under `kconv`
  (`names_distinct`), and it leaves the trailers as they are.
-/
import MitmVerif.Model.C40_Http
namespace MitmVerif.C40

theorem getAll_cons (kv : Bytes × Bytes) (h : Fields) (k : Bytes) :
    hdrGetAll (kv :: h) k = if kconv kv.1 = kconv k then kv.2 :: hdrGetAll h k else hdrGetAll h k := by
  unfold hdrGetAll
  rw [List.filterMap_cons]
  by_cases e : kconv kv.1 = kconv k
  · rw [if_pos e, if_pos e]
  · rw [if_neg e, if_neg e]

theorem getAll_del (h : Fields) (k k' : Bytes) :
    hdrGetAll (hdrDel h k) k' = if kconv k' = kconv k then [] else hdrGetAll h k' := by
  induction h with
  | nil => exact (ite_self _).symm
  | cons kv rest ih =>
    rw [getAll_cons, hdrDel, List.filter_cons]
    by_cases h1 : kconv kv.1 = kconv k
    · rw [if_neg fun (e : decide (kconv kv.1 ≠ kconv k) = true) => of_decide_eq_true e h1, ← hdrDel, ih]
      by_cases h2 : kconv k' = kconv k
      · rw [if_pos h2, if_pos h2]
      · rw [if_neg h2, if_neg h2, if_neg fun e => h2 (e.symm.trans h1)]
    · rw [if_pos (decide_eq_true h1), ← hdrDel, getAll_cons, ih]
      by_cases h2 : kconv k' = kconv k
      · rw [if_pos h2, if_pos h2, if_neg fun e => h1 (e.trans h2)]
      · rw [if_neg h2, if_neg h2]

/-- `u` is the flag of `setAllAux`: a field for `k` has been written already, further ones are dropped -/
theorem getAll_setAllAux (k v k' : Bytes) : ∀ (h : Fields) (u : Bool),
    hdrGetAll (setAllAux k v h u) k' =
      if kconv k' = kconv k then (if u then [] else [v]) else hdrGetAll h k' := by
  intro h
  induction h with
  | nil =>
    intro u
    by_cases h2 : kconv k' = kconv k
    · cases u <;> simp [setAllAux, hdrGetAll, h2]
    · cases u <;> simp [setAllAux, hdrGetAll, h2, Ne.symm h2]
  | cons kv rest ih =>
    intro u
    obtain ⟨k0, v0⟩ := kv
    by_cases h1 : kconv k0 = kconv k
    · by_cases h2 : kconv k' = kconv k
      · cases u <;> simp [setAllAux, getAll_cons, ih, h1, h2]
      · cases u <;> simp [setAllAux, getAll_cons, ih, h1, h2, Ne.symm h2]
    · by_cases h2 : kconv k' = kconv k
      · simp [setAllAux, getAll_cons, ih, h1, h2]
      · simp [setAllAux, getAll_cons, ih, h1, h2]

theorem has_iff_getAll (h : Fields) (k : Bytes) : hdrHas h k = !(hdrGetAll h k).isEmpty := by
  induction h with
  | nil => rfl
  | cons kv rest ih =>
    rw [getAll_cons, hdrHas, List.any_cons, ← hdrHas, ih]
    by_cases he : kconv kv.1 = kconv k
    · rw [if_pos he, decide_eq_true he]
      rfl
    · rw [if_neg he, decide_eq_false he]
      rfl

theorem names_distinct :
    kconv contentLength ≠ kconv contentEncoding ∧ kconv contentLength ≠ kconv transferEncoding ∧
    kconv contentEncoding ≠ kconv transferEncoding := by decide

theorem setContent_trailers (m : Msg) (v : Option Bytes) : (setContent m v).trailers = m.trailers := by
  unfold setContent; split
  · rfl
  · split <;> rfl

theorem setContentCE_trailers (m : Msg) (v : Option Bytes) (r : EncRes) :
    (setContentCE m v r).trailers = m.trailers := by
  unfold setContentCE
  cases v with
  | none => rfl
  | some b => cases r <;> (simp only; split <;> rfl)

end MitmVerif.C40
