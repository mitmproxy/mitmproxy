/-
  C42 — what the parsers of the model return, and that the fuel is immaterial.

  One relation between two parenthesis parsers carries both: `Alike L p p'` says that on texts shorter than `L` the two
  return the same, and that what they return is a tree the grammar can express and a suffix no longer than the text.
  Every combinator of the grammar maps alike parsers to alike parsers (`pL0_alike` … `pBody_alike`); the parenthesis
  parser is only ever called behind a "(", on strictly shorter text, which is why the bound may grow by one there.
  Taken of `pExpr n` with itself this is the range of the parser (`pExpr_sound`), taken of two fuels it is
  `pExpr_fuel`: `pExpr n` is the same function on texts shorter than `n` for every `n`.
-/
import MitmVerif.Model.C42_Print
namespace MitmVerif.C42

theorem skipWs_len (s : Str) : (skipWs s).length ≤ s.length := by
  fun_induction skipWs s <;> simp <;> omega

theorem lit_lt (c : Char) (s r : Str) (h : lit c s = some r) : r.length < s.length := by
  have := skipWs_len s
  unfold lit at h
  split at h
  · simp_all; omega
  · cases h

theorem litOpt_le (op : Option Char) (s r : Str) (h : litOpt op s = some r) : r.length ≤ s.length := by
  cases op with
  | none => simp [litOpt] at h; simp [h]
  | some c => exact Nat.le_of_lt (lit_lt c s r h)

theorem stripPrefix_le (p s r : Str) (h : stripPrefix p s = some r) : r.length ≤ s.length := by
  fun_induction stripPrefix p s <;> simp_all <;> omega

theorem tryCode_le (code s r : Str) (h : tryCode code s = some r) : r.length ≤ s.length := by
  unfold tryCode wordEndO at h
  split at h
  · rename_i hs
    have := stripPrefix_le _ _ _ hs
    simp_all
  · cases h

theorem takeW_le (p : Char → Bool) (s : Str) : (takeW p s).2.length ≤ s.length := by
  fun_induction takeW p s <;> simp <;> omega

theorem pQuoted_le (q : Char) (s : Str) : ∀ a r, pQuoted q s = some (a, r) → r.length ≤ s.length := by
  fun_induction pQuoted q s <;> intro a r h <;> simp_all <;> omega

theorem pRegex_le (s a r : Str) (h : pRegex s = some (a, r)) : r.length ≤ s.length := by
  have hs := skipWs_len s
  unfold pRegex at h
  split at h
  · cases h
  · rename_i c r0 hk
    rw [hk] at hs
    split at h
    · have := takeW_le isWordCh (c :: r0)
      simp_all; omega
    · split at h
      · split at h
        · rename_i hp
          have := pQuoted_le _ _ _ _ hp
          simp_all; omega
        · cases h
      · cases h

theorem pInt_le (s : Str) (n : Nat) (r : Str) (h : pInt s = some (n, r)) : r.length ≤ s.length := by
  have h1 := takeW_le isDigit (skipWs s)
  have h2 := skipWs_len s
  unfold pInt at h
  split at h
  · cases h
  · simp_all; omega

theorem firstSome_mem {α β : Type} (f : α → Option β) (l : List α) (b : β) (h : firstSome f l = some b) :
    ∃ a ∈ l, f a = some b := by
  induction l with
  | nil => simp [firstSome] at h
  | cons a l ih =>
    cases hf : f a with
    | some b' =>
      simp [firstSome, hf] at h
      exact ⟨a, by simp, by rw [hf, h]⟩
    | none =>
      simp [firstSome, hf] at h
      obtain ⟨a', ha', h'⟩ := ih h
      exact ⟨a', by simp [ha'], h'⟩

theorem bare_is_rex : Gen.bareCode ∈ Gen.rexCodes := by decide +kernel

/-- which alternative of `pAtom` answered, and what it read -/
theorem pAtom_inv (s : Str) (t : Ast) (r : Str) (h : pAtom s = some (t, r)) :
    (∃ c ∈ Gen.unaryCodes, tryCode c (skipWs s) = some r ∧ t = .unary c) ∨
    (∃ c ∈ Gen.rexCodes, ∃ r' a, tryCode c (skipWs s) = some r' ∧ pRegex r' = some (a, r) ∧ t = .rex c a) ∨
    (∃ c ∈ Gen.intCodes, ∃ r' n, tryCode c (skipWs s) = some r' ∧ pInt r' = some (n, r) ∧ t = .int c n) ∨
    (∃ a, pRegex (skipWs s) = some (a, r) ∧ t = .rex Gen.bareCode a) := by
  unfold pAtom at h
  simp only [] at h
  split at h
  · rename_i hu
    obtain ⟨c, hc, hf⟩ := firstSome_mem _ _ _ (hu.trans h)
    unfold tryUnary at hf
    split at hf
    · rename_i ht
      cases hf
      exact Or.inl ⟨c, hc, ht, rfl⟩
    · cases hf
  · split at h
    · rename_i hr
      obtain ⟨c, hc, hf⟩ := firstSome_mem _ _ _ (hr.trans h)
      unfold tryRex at hf
      split at hf
      · rename_i r' ht
        split at hf
        · rename_i hp
          cases hf
          exact Or.inr (Or.inl ⟨c, hc, r', _, ht, hp, rfl⟩)
        · cases hf
      · cases hf
    · split at h
      · rename_i hi
        obtain ⟨c, hc, hf⟩ := firstSome_mem _ _ _ (hi.trans h)
        unfold tryInt at hf
        split at hf
        · rename_i r' ht
          split at hf
          · rename_i hp
            cases hf
            exact Or.inr (Or.inr (Or.inl ⟨c, hc, r', _, ht, hp, rfl⟩))
          · cases hf
        · cases hf
      · split at h
        · rename_i hp
          cases h
          exact Or.inr (Or.inr (Or.inr ⟨_, hp, rfl⟩))
        · cases h

theorem pAtom_sound (s : Str) (t : Ast) (r : Str) (h : pAtom s = some (t, r)) :
    Printable t ∧ r.length ≤ s.length := by
  have hs := skipWs_len s
  rcases pAtom_inv s t r h with ⟨c, hc, ht, rfl⟩ | ⟨c, hc, r', a, ht, hp, rfl⟩ | ⟨c, hc, r', n, ht, hp, rfl⟩ | ⟨a, hp, rfl⟩
  · have := tryCode_le _ _ _ ht
    exact ⟨by simpa [Printable] using hc, by omega⟩
  · have := tryCode_le _ _ _ ht
    have := pRegex_le _ _ _ hp
    exact ⟨by simpa [Printable] using hc, by omega⟩
  · have := tryCode_le _ _ _ ht
    have := pInt_le _ _ _ hp
    exact ⟨by simpa [Printable] using hc, by omega⟩
  · have := pRegex_le _ _ _ hp
    exact ⟨by simpa [Printable] using bare_is_rex, by omega⟩

def Alike (L : Nat) (p p' : P) : Prop :=
  ∀ s, s.length < L → p s = p' s ∧ ∀ t r, p s = some (t, r) → Printable t ∧ r.length ≤ s.length

theorem pL0_alike {L : Nat} {g g' : P} (h : Alike L g g') : Alike (L + 1) (pL0 g) (pL0 g') := by
  intro s hs
  unfold pL0
  cases ha : pAtom s with
  | some x => exact ⟨rfl, fun t r e => pAtom_sound s t r (ha.trans e)⟩
  | none =>
    cases h1 : lit '(' s with
    | none => exact ⟨rfl, fun _ _ e => by cases e⟩
    | some s1 =>
      have a := lit_lt _ _ _ h1
      obtain ⟨e, snd⟩ := h s1 (by omega)
      refine ⟨by simp only [e], fun t r ht => ?_⟩
      simp only at ht
      split at ht
      · cases ht
      · rename_i t' s2 h2
        split at ht
        · cases ht
        · rename_i s3 h3
          have b := snd t' s2 h2
          have c := lit_lt _ _ _ h3
          cases ht
          exact ⟨b.1, by omega⟩

theorem pL1_alike {L : Nat} {g g' : P} (h : Alike L g g') : Alike (L + 1) (pL1 g) (pL1 g') := by
  intro s
  induction s with
  | nil => exact pL0_alike h []
  | cons c s ih =>
    intro hs
    have e := ih (by simp at hs; omega)
    have e0 := pL0_alike h (c :: s) hs
    refine ⟨by simp only [pL1, e.1, e0.1], fun t r ht => ?_⟩
    simp only [pL1] at ht
    split at ht
    · have := e.2 t r ht
      exact ⟨this.1, Nat.le_succ_of_le this.2⟩
    · split at ht
      · split at ht
        · rename_i t' r' hp
          have := e.2 t' r' hp
          cases ht
          exact ⟨by simpa [Printable] using this.1, Nat.le_succ_of_le this.2⟩
        · exact e0.2 t r ht
      · exact e0.2 t r ht

theorem loopP_alike {L : Nat} (op : Option Char) {item item' : P} (h : Alike L item item') (n : Nat) (s : Str) :
    s.length < L → loopP op item n s = loopP op item' n s ∧
      PrintableL (loopP op item n s).1 ∧ (loopP op item n s).2.length ≤ s.length := by
  fun_induction loopP op item n s with
  | case1 => intro _; exact ⟨rfl, trivial, Nat.le_refl _⟩
  | case2 n s h1 => intro _; simp [loopP, h1, PrintableL]
  | case3 n s s1 h1 h2 =>
    intro hs
    have a := litOpt_le _ _ _ h1
    simp [loopP, h1, ← (h s1 (by omega)).1, h2, PrintableL]
  | case4 n s s1 h1 t s2 h2 ih =>
    intro hs
    have a := litOpt_le _ _ _ h1
    obtain ⟨e, snd⟩ := h s1 (by omega)
    have b := snd t s2 h2
    obtain ⟨e', c⟩ := ih (by omega)
    exact ⟨by simp [loopP, h1, ← e, h2, e'], ⟨b.1, c.1⟩, by simp; omega⟩

theorem chainP_alike {L : Nat} (mk : List Ast → Ast) (hmk : mk = Ast.and ∨ mk = Ast.or) (op : Option Char) {item item' : P}
    (h : Alike L item item') : Alike L (chainP mk op item) (chainP mk op item') := by
  intro s hs
  obtain ⟨e, snd⟩ := h s hs
  unfold chainP
  rw [← e]
  cases h1 : item s with
  | none => exact ⟨rfl, fun _ _ e => by cases e⟩
  | some x =>
    have a := snd x.1 x.2 h1
    obtain ⟨e', b⟩ := loopP_alike op h x.2.length x.2 (by omega)
    refine ⟨by simp only [e'], fun t r ht => ?_⟩
    simp only at ht
    split at ht
    · rename_i r' h2
      rw [h2] at b
      cases ht
      exact ⟨a.1, Nat.le_trans b.2 a.2⟩
    · rename_i l r' hne h2
      have hl : 2 ≤ (x.1 :: l).length := by
        cases l with
        | nil => exact absurd rfl hne
        | cons _ _ => simp
      cases ht
      rw [h2] at b
      refine ⟨?_, Nat.le_trans b.2 a.2⟩
      rcases hmk with rfl | rfl <;> exact ⟨hl, a.1, b.1⟩

theorem pBody_alike {L : Nat} {g g' : P} (h : Alike L g g') : Alike (L + 1) (pBody g) (pBody g') :=
  chainP_alike _ (Or.inl rfl) _ (chainP_alike _ (Or.inr rfl) _ (chainP_alike _ (Or.inl rfl) _ (pL1_alike h)))

theorem pExpr_alike_self : ∀ n L, Alike L (pExpr n) (pExpr n) := by
  intro n
  induction n with
  | zero => intro L s _; exact ⟨rfl, fun t r h => by simp [pExpr] at h⟩
  | succ n ih => intro L s hs; exact pBody_alike (ih L) s (by omega)

theorem pExpr_sound (n : Nat) (s : Str) (t : Ast) (r : Str) (h : pExpr n s = some (t, r)) :
    Printable t ∧ r.length ≤ s.length :=
  (pExpr_alike_self n (s.length + 1) s (by omega)).2 t r h

theorem parseStruct_printable (s : Str) (t : Ast) (h : parseStruct s = some t) : Printable t := by
  unfold parseStruct at h
  split at h
  · rename_i t' r hp
    split at h
    · cases h
      exact (pExpr_sound _ s t r hp).1
    · cases h
  · cases h

/-- inside parentheses the text is shorter, and there the smaller fuels agree -/
theorem pExpr_fuel : ∀ (L n m : Nat), L ≤ n → L ≤ m → Alike L (pExpr n) (pExpr m) := by
  intro L
  induction L with
  | zero => intro n m _ _ s hs; omega
  | succ L ih =>
    intro n m hn hm
    cases n with
    | zero => omega
    | succ n =>
      cases m with
      | zero => omega
      | succ m => exact pBody_alike (ih n m (by omega) (by omega))

end MitmVerif.C42
