/-
  Lemmas for C05: whole-history form of the byte conservation — in every reachable state, what was written to the wire
  for an upstream stream followed by what is still buffered for it is a prefix of the body data the HTTP layer handed
  over for ITS client stream (all of it, as long as the stream may still send): nothing foreign, nothing twice,
  nothing reordered, across all windows, frame sizes, resets, GOAWAY, queueing and the resume loop.
-/
import MitmVerif.Lemmas.C05_Sub
namespace MitmVerif.C05
open MitmVerif

/-- `c'` holds for stream `x` a prefix of what `c` held, all of it if the stream may still send; nothing came to life -/
def Shr (c c' : Conn) (x : Nat) : Prop :=
  c'.held x <+: c.held x ∧ (c'.liveS x = true → c.liveS x = true ∧ c'.held x = c.held x)

theorem Shr.rfl' (c : Conn) (x : Nat) : Shr c c x := ⟨List.prefix_refl _, fun h => ⟨h, rfl⟩⟩

theorem Shr.trans {a b c : Conn} {x : Nat} (h1 : Shr a b x) (h2 : Shr b c x) : Shr a c x :=
  ⟨h2.1.trans h1.1, fun hl => by
    have k2 := h2.2 hl
    have k1 := h1.2 k2.1
    exact ⟨k1.1, k2.2.trans k1.2⟩⟩

theorem shr_of_eq (c c' : Conn) (x : Nat) (hh : c'.held x = c.held x) (hl : c'.liveS x = true → c.liveS x = true) :
    Shr c c' x := ⟨by rw [hh]; exact List.prefix_refl _, fun h => ⟨hl h, hh⟩⟩

theorem held_erase_prefix (c : Conn) (s x : Nat) : ({ c with bufs := aerase s c.bufs } : Conn).held x <+: c.held x := by
  unfold Conn.held Conn.bufBytes
  rw [buf_aerase]
  split
  · show dataOf x c.out ++ chunkBytes [] <+: _
    simp [chunkBytes]
  · exact List.prefix_refl _

theorem shr_ops (c0 : Conn) (x : Nat) : BufOps (fun c => Shr c0 c x) := by
  refine ⟨fun c s h => h.trans (shr_of_eq c _ x (by unfold Conn.held Conn.bufBytes; rw [buf_moveToEnd]) (fun e => e)),
    fun c s w ch rest hb h => h.trans (shr_of_eq c _ x (held_flushStep c s x w ch rest hb)
      (fun e => by rw [liveS_flushStep, Bool.and_eq_true] at e; exact e.1)),
    fun c s hl h => h.trans ⟨held_erase_prefix c s x, fun hx => ⟨hx, ?_⟩⟩,
    fun c hl h => h.trans ⟨?_, fun hx => ?_⟩⟩
  · have hne : s ≠ x := fun e => by rw [e] at hl; exact absurd (hl.symm.trans hx) (by simp)
    unfold Conn.held Conn.bufBytes
    rw [buf_aerase]; simp [hne]
  · unfold Conn.held Conn.bufBytes
    show dataOf x c.out ++ chunkBytes [] <+: _
    simp [chunkBytes]
  · exact absurd ((hl x).symm.trans hx) (by simp)

theorem absorb_shr (c : Conn) (evs : List SEv) (x : Nat) : Shr c (c.absorb evs) x :=
  have w := foldl_absorbH2_absorbed evs c
  (absorb_ops (shr_ops c x) c evs
    (shr_of_eq _ _ x (by unfold Conn.held Conn.bufBytes Conn.buf; rw [w.out, w.bufs])
      (fun h => by rw [w.live, Bool.and_eq_true] at h; exact h.1))).1

/-! ### one client event -/

def dataBytes : List Ev → Bytes
  | [] => []
  | .data b :: rest => b ++ dataBytes rest
  | _ :: rest => dataBytes rest

theorem dataBytes_append (a b : List Ev) : dataBytes (a ++ b) = dataBytes a ++ dataBytes b := by
  induction a with
  | nil => rfl
  | cons e rest ih => cases e <;> simp [dataBytes, ih]

theorem held_sendTrailers (c : Conn) (s x : Nat) : (c.sendTrailers s).held x = c.held x := by
  unfold Conn.sendTrailers
  split
  · rfl
  · unfold Conn.held Conn.bufBytes
    rw [(held_rawTrailers c s x).1, (held_rawTrailers c s x).2]

theorem held_endStream (c : Conn) (s x : Nat) : (c.endStream s).held x = c.held x := by
  unfold Conn.endStream
  split
  · rfl
  · rw [held_sendData]; split <;> simp

theorem held_resetStream (c : Conn) (s x : Nat) :
    (c.resetStream s).held x = dataOf x c.out ++ (if s = x then [] else c.bufBytes x) := by
  unfold Conn.resetStream Conn.held Conn.bufBytes
  show dataOf x ((Conn.updS _ s _).out ++ [Frame.rst s]) ++ chunkBytes ((Conn.updS _ s _).buf x) = _
  rw [buf_updS, out_updS, buf_aerase, dataOf_append]
  split <;> simp [dataOf, chunkBytes]

theorem held_procConn_hdr (c : Conn) (o x : Nat) (fin : Bool) : (procConn c o (.hdr fin)).held x = c.held x := by
  unfold Conn.held Conn.bufBytes
  show dataOf x (c.out ++ [Frame.hdr o fin]) ++ chunkBytes (c.buf x) = _
  rw [dataOf_append]; simp [dataOf]

theorem procConn_shr_other (c : Conn) (o x : Nat) (ev : Ev) (h : o ≠ x) : Shr c (procConn c o ev) x := by
  refine shr_of_eq _ _ x ?_ (fun e => by rw [← (procConn_untouched c o x ev h).2.1]; exact e)
  cases ev with
  | hdr fin => exact held_procConn_hdr c o x fin
  | data b => simp only [procConn]; split; rw [held_sendData]; simp [h]; rfl
  | trailers => simp only [procConn]; split; exact held_sendTrailers c o x; rfl
  | eom => simp only [procConn]; split; exact held_endStream c o x; rfl
  | err => simp only [procConn]; split; rw [held_resetStream]; simp only [h, if_false]; rfl; rfl

/-- for its upstream stream: a prefix of the body data handed over so far, all of it while the stream may send -/
def PB (c : Conn) (o : Nat) (B : Bytes) : Prop := c.held o <+: B ∧ (c.liveS o = true → c.held o = B)

theorem pb_shr {c c' : Conn} {o : Nat} {B : Bytes} (h : PB c o B) (s : Shr c c' o) : PB c' o B :=
  ⟨s.1.trans h.1, fun hl => (s.2 hl).2.trans (h.2 (s.2 hl).1)⟩

theorem procConn_pb_self (c : Conn) (o : Nat) (F : List Ev) (ev : Ev) (hnh : ev.isHdr = false)
    (h : PB c o (dataBytes F)) : PB (procConn c o ev) o (dataBytes (F ++ [ev])) := by
  rw [dataBytes_append]
  cases ev with
  | hdr fin => simp [Ev.isHdr] at hnh
  | data b =>
    simp only [procConn, dataBytes, List.append_nil]
    split
    · rename_i hl
      have e : (c.sendData o b false).held o = dataBytes F ++ b := by
        rw [held_sendData, h.2 hl]; simp
      exact ⟨by rw [e]; exact List.prefix_refl _, fun _ => e⟩
    · rename_i hl
      exact ⟨h.1.trans (List.prefix_append _ _), fun e => absurd e hl⟩
  | trailers =>
    simp only [dataBytes, List.append_nil]
    refine pb_shr h ?_
    simp only [procConn]
    split
    · rename_i hl
      exact shr_of_eq _ _ o (held_sendTrailers c o o) (fun _ => hl)
    · exact Shr.rfl' c o
  | eom =>
    simp only [dataBytes, List.append_nil]
    refine pb_shr h ?_
    simp only [procConn]
    split
    · rename_i hl
      exact shr_of_eq _ _ o (held_endStream c o o) (fun _ => hl)
    · exact Shr.rfl' c o
  | err =>
    simp only [dataBytes, List.append_nil]
    refine pb_shr h ?_
    simp only [procConn]
    split
    · refine ⟨?_, fun hl => ?_⟩
      · rw [held_resetStream]; simp only [if_true, List.append_nil]
        unfold Conn.held; exact List.prefix_append _ _
      · rw [liveS_resetStream_same] at hl; cases hl
    · exact Shr.rfl' c o

/-! ### the whole client -/

/-- what holds of every upstream id under the head-first hypothesis `Good` alone: its bytes, and that a client stream
    has one only once its first event was passed on -/
structure BInv (σ : St) : Prop where
  fresh : ∀ x, σ.nextId ≤ x → σ.conn.held x = []
  pb : ∀ t o, alookup t σ.ours = some o → PB σ.conn o (dataBytes (fwOf t σ))
  started : ∀ t o, alookup t σ.ours = some o → fwOf t σ ≠ []

theorem held_nil_shr {c c' : Conn} {x : Nat} (h : c.held x = []) (s : Shr c c' x) : c'.held x = [] := by
  have := s.1; rw [h] at this; exact List.prefix_nil.mp this

/-- `BInv` after a forwarded event follows from what the event does to its own upstream stream -/
theorem fwd_b {σ m : St} {t o : Nat} {ev : Ev} (f : Fwd σ m t o ev) (hs : BInv σ)
    (hp : PB (procConn σ.conn o ev) o (dataBytes (fwOf t σ ++ [ev]))) : BInv m := by
  refine ⟨fun x hx => ?_, fun t2 o2 ho2 => ?_, fun t2 o2 ho2 => ?_⟩
  · obtain ⟨hx', hne⟩ := f.next x hx
    rw [f.conn]
    exact held_nil_shr (hs.fresh x hx') (procConn_shr_other σ.conn o x ev hne)
  · rw [f.conn, f.fw]
    rcases f.ours t2 o2 ho2 with ⟨rfl, rfl⟩ | ⟨htt, hne, ho2'⟩
    · simpa using hp
    · simp only [htt, if_false, List.append_nil]
      exact pb_shr (hs.pb t2 o2 ho2') (procConn_shr_other σ.conn o o2 ev hne)
  · rw [f.fw]
    rcases f.ours t2 o2 ho2 with ⟨rfl, _⟩ | ⟨_, _, ho2'⟩
    · simp
    · exact fun e => hs.started t2 o2 ho2' (List.append_eq_nil_iff.mp e).1

theorem midMapped_b (σ : St) (t o : Nat) (ev : Ev) (rest : List (Nat × Ev)) (h : DrainInv σ)
    (hst : σ.stack = (t, ev) :: rest) (ho : alookup t σ.ours = some o) (hs : BInv σ) :
    BInv (midMapped σ t o ev rest) := by
  obtain ⟨f, hnh⟩ := midMapped_fwd σ t o ev rest h hst ho
  exact fwd_b f hs (procConn_pb_self σ.conn o _ ev hnh (hs.pb t o ho))

theorem midAlloc_b (σ : St) (t : Nat) (ev : Ev) (rest : List (Nat × Ev)) (h : DrainInv σ)
    (hst : σ.stack = (t, ev) :: rest) (ho : alookup t σ.ours = none) (hs : BInv σ) :
    BInv (midAlloc σ t ev rest) := by
  obtain ⟨f, fin, rfl⟩ := midAlloc_fwd σ t ev rest h hst ho
  refine fwd_b f hs ?_
  rw [fwOf_nil_of_unmapped σ h.fw t ho]
  have e : (procConn σ.conn σ.nextId (Ev.hdr fin)).held σ.nextId = [] := by
    rw [held_procConn_hdr]; exact hs.fresh σ.nextId (Nat.le_refl _)
  exact ⟨by rw [e]; exact List.nil_prefix, fun _ => by rw [e]; rfl⟩

theorem bInv_rides : Rides BInv :=
  ⟨fun _ _ _ _ _ _ _ _ _ h => ⟨h.fresh, h.pb, h.started⟩, midMapped_b, midAlloc_b⟩

theorem init_b : BInv St.init := by
  refine ⟨fun x _ => rfl, ?_, ?_⟩ <;> intro t o ho <;> simp [St.init, alookup] at ho

/-- the byte invariant holds in every reachable state (`Reach`: only the head-first hypothesis `Good` is needed) -/
theorem reach_b (σ : St) (h : Reach σ) : BInv σ := by
  induction h with
  | init => exact init_b
  | client σ t ev hr hg ih =>
    exact (step_inv bInv_rides σ (.client t ev) (reach_inv σ hr) ih ⟨hg, ih.fresh, ih.pb, ih.started⟩).2
  | server σ evs hr ih =>
    exact (step_inv bInv_rides σ (.server evs) (reach_inv σ hr) ih
      ((handled_reacted σ evs).carry fun _ _ _ _ _ =>
        ⟨fun x hx => held_nil_shr (ih.fresh x hx) (absorb_shr σ.conn evs x),
         fun t o ho => pb_shr (ih.pb t o ho) (absorb_shr σ.conn evs o), ih.started⟩)).2
  | connClosed σ hr ih =>
    exact (step_inv bInv_rides σ .connClosed (reach_inv σ hr) ih
      ((closeConnection_reacted σ).carry fun _ _ _ _ _ => ⟨ih.fresh, ih.pb, ih.started⟩)).2

end MitmVerif.C05
