/-
  C28 — the wire format (Model/C28_Wire.lean) read back.  One frame: `encodeFrame` is split into first byte, `lenBytes`
  and tail (`encodeFrame_eq`), against which `decodeFrame` is run piece by piece (`decode_header`, `parseLen_ext`,
  `takePayload_*`).  Streams and event lists: induction over the frames, with fuel above their number.  One message:
  the events of `dataFrames` over a well-framed burst are its fragments (`dataFrames_events`); through the incremental
  decoder (`…U`) either every text fragment is complete UTF-8 (`dataFrames_eventsU_strict`) or the payloads are cut
  anywhere and the events are what `decodeChunks` hands over (`dataFrames_eventsU`).  `client` is everywhere the role of
  the RECEIVING endpoint.  Rests on Lemmas/C28 for `StrictOk` and the Fragmentizer.
-/
import MitmVerif.Model.C28_Wire
import MitmVerif.Lemmas.C28
namespace MitmVerif.C28.Wire
open MitmVerif MitmVerif.C28

theorem byte_toNat {n : Nat} (h : n < 256) : (byte n).toNat = n := by
  simp [byte, UInt8.toNat_ofNat']; omega

theorem xor_cancel (x k : UInt8) : (x ^^^ k) ^^^ k = x := by
  rw [UInt8.xor_assoc, UInt8.xor_self, UInt8.xor_zero]

theorem maskGo_length (key : Bytes) (p : Bytes) : ∀ i, (maskGo key i p).length = p.length := by
  induction p with
  | nil => intro i; rfl
  | cons x xs ih => intro i; simp [maskGo, ih]

theorem maskGo_invol (key : Bytes) (p : Bytes) : ∀ i, maskGo key i (maskGo key i p) = p := by
  induction p with
  | nil => intro i; rfl
  | cons x xs ih => intro i; simp [maskGo, ih, xor_cancel]

theorem mask_length (key p : Bytes) : (mask key p).length = p.length := maskGo_length key p 0
theorem mask_invol (key p : Bytes) : mask key (mask key p) = p := maskGo_invol key p 0

theorem beVal_be16 (n : Nat) (h : n < 65536) (rest : Bytes) : beVal ((be16 n ++ rest).take 2) = n := by
  have h1 : n / 256 < 256 := by omega
  have h2 : n % 256 < 256 := by omega
  simp [be16, beVal, byte_toNat h1, byte_toNat h2]; omega

/-- one step of reading big-endian digits back: the digits above `d`, then the digit at `d` -/
theorem horner (n d' d : Nat) (hd : d' = d * 256) : n / d' * 256 + n / d % 256 = n / d := by
  rw [hd, ← Nat.div_div_eq_div_mul]; exact Nat.div_add_mod' _ _

theorem beVal_be64 (n : Nat) (h : n < 18446744073709551616) (rest : Bytes) : beVal ((be64 n ++ rest).take 8) = n := by
  simp only [be64, beVal, List.cons_append, List.nil_append, List.take_succ_cons, List.take_zero, List.foldl_cons,
    List.foldl_nil, byte_toNat (Nat.mod_lt _ (by decide : 0 < 256)), Nat.zero_mul, Nat.zero_add]
  rw [Nat.mod_eq_of_lt (a := n / 72057594037927936) (by omega),
    horner n _ 281474976710656 rfl, horner n _ 1099511627776 rfl, horner n _ 4294967296 rfl,
    horner n _ 16777216 rfl, horner n _ 65536 rfl, horner n _ 256 rfl]
  exact Nat.div_add_mod' n 256

/-- the 7-bit length code `_serialize_frame` writes for a payload of `n` bytes, and the extended length after it -/
def len7 (n : Nat) : Nat := if n ≤ 125 then n else if n ≤ 65535 then 126 else 127
def lenExt (n : Nat) : Bytes := if n ≤ 125 then [] else if n ≤ 65535 then be16 n else be64 n
def lenBytes (m n : Nat) : Bytes := byte (m + len7 n) :: lenExt n

/-- `parse_extended_payload_length` reads back what `_serialize_frame` wrote -/
theorem parseLen_ext (n : Nat) (t : Bytes) (hn : n < 9223372036854775808) :
    parseLen (len7 n) (lenExt n ++ t) = .ok n t := by
  unfold parseLen len7 lenExt
  by_cases h1 : n ≤ 125
  · rw [if_pos h1, if_pos h1, if_neg (by omega), if_neg (by omega)]; rfl
  · by_cases h2 : n ≤ 65535
    · rw [if_neg h1, if_neg h1, if_pos h2, if_pos h2, if_pos rfl, if_neg (by simp [be16]),
        beVal_be16 n (by omega) t, if_neg (by omega)]
      simp [be16]
    · rw [if_neg h1, if_neg h1, if_neg h2, if_neg h2, if_neg (by omega), if_pos rfl, if_neg (by simp [be64]),
        beVal_be64 n (by omega) t, if_neg (by omega), if_neg (by omega)]
      simp [be64]

/-- a flag in the top bit and a 7-bit value are read back from one byte -/
theorem flagByte (flag : Bool) (k : Nat) (hk : k < 128) :
    (byte ((if flag then 128 else 0) + k)).toNat = (if flag then 128 else 0) + k ∧
    decide (128 ≤ (if flag then 128 else 0) + k) = flag ∧ ((if flag then 128 else 0) + k) % 128 = k := by
  cases flag <;> simp [byte_toNat (n := 128 + k) (by omega), byte_toNat (n := k) (by omega)] <;> omega

theorem takePayload_masked (fin : Bool) (rsv op : Nat) (k p rest : Bytes) (hk : k.length = 4) :
    takePayload fin rsv op true p.length (k ++ mask k p ++ rest) =
      .ok { fin := fin, rsv := rsv, opcode := op, key := some k, payload := p } rest := by
  have h4 : (k ++ mask k p ++ rest).take 4 = k := by
    rw [List.append_assoc, List.take_left' hk]
  have hd : (k ++ mask k p ++ rest).drop 4 = mask k p ++ rest := by
    rw [List.append_assoc, List.drop_left' hk]
  have hml := mask_length k p
  unfold takePayload
  simp only [if_true, h4, hd]
  rw [if_neg (by simp [hk]), if_neg (by simp [hml])]
  rw [List.take_left' hml, List.drop_left' hml, mask_invol]

theorem takePayload_plain (fin : Bool) (rsv op : Nat) (p rest : Bytes) :
    takePayload fin rsv op false p.length (p ++ rest) =
      .ok { fin := fin, rsv := rsv, opcode := op, key := none, payload := p } rest := by
  unfold takePayload
  simp

theorem decode_header (client : Bool) (rsvOk : Nat → Nat → Bool) (fin : Bool) (rsv op : Nat) (masked : Bool)
    (n : Nat) (t : Bytes)
    (hrsv : rsv < 8) (hop : validOpcode op = true)
    (hctl : isControl op = true → fin = true ∧ n ≤ 125) (hn : n < 9223372036854775808)
    (hok : rsvOk op rsv = true) (hrole : masked = !client) :
    decodeFrame client rsvOk
      (byte ((if fin then 128 else 0) + rsv * 16 + op) :: (lenBytes (if masked then 128 else 0) n ++ t)) =
    takePayload fin rsv op masked n t := by
  have hop16 : op < 16 := by
    simp [validOpcode] at hop; omega
  have h7 : len7 n < 128 := by
    unfold len7
    split
    · omega
    · split <;> omega
  obtain ⟨hb0, hfin, -⟩ := flagByte fin (rsv * 16 + op) (by omega)
  obtain ⟨hb1, hm, hl⟩ := flagByte masked (len7 n) h7
  rw [← Nat.add_assoc] at hb0 hfin
  have hrsv' : ((if fin then 128 else 0) + rsv * 16 + op) / 16 % 8 = rsv := by
    cases fin <;> simp <;> omega
  have hop' : ((if fin then 128 else 0) + rsv * 16 + op) % 16 = op := by
    cases fin <;> simp <;> omega
  have hctl1 : (isControl op && !fin) = false ∧ (isControl op && decide (125 < len7 n)) = false := by
    cases hc : isControl op with
    | false => simp
    | true => simp [(hctl hc).1, len7, (hctl hc).2]
  have hrole' : (masked && client) = false ∧ (!masked && !client) = false := by
    subst hrole; cases client <;> exact ⟨rfl, rfl⟩
  simp only [lenBytes, List.cons_append, decodeFrame, hb0, hfin, hrsv', hop', hop, hctl1, hb1, hm, hl,
    parseLen_ext n t hn, hok, hrole', Bool.not_true, Bool.false_eq_true, if_false]

theorem encodeFrame_eq (f : Frame) (rest : Bytes) :
    encodeFrame f ++ rest =
      byte ((if f.fin then 128 else 0) + f.rsv * 16 + f.opcode) ::
        (lenBytes (if f.key.isSome then 128 else 0) f.payload.length ++
          (match f.key with | some k => k ++ mask k f.payload ++ rest | none => f.payload ++ rest)) := by
  have : (if f.payload.length ≤ 125 then [byte ((if f.key.isSome then 128 else 0) + f.payload.length)]
      else if f.payload.length ≤ 65535 then byte ((if f.key.isSome then 128 else 0) + 126) :: be16 f.payload.length
      else byte ((if f.key.isSome then 128 else 0) + 127) :: be64 f.payload.length) =
      lenBytes (if f.key.isSome then 128 else 0) f.payload.length := by
    unfold lenBytes len7 lenExt
    split
    · rfl
    · split <;> rfl
  unfold encodeFrame
  simp only [this]
  cases hk : f.key <;> simp [List.append_assoc]

theorem frame_roundtrip' (client : Bool) (rsvOk : Nat → Nat → Bool) (f : Frame) (rest : Bytes)
    (hwf : f.wf client) (hok : rsvOk f.opcode f.rsv = true) :
    decodeFrame client rsvOk (encodeFrame f ++ rest) = .ok f rest := by
  obtain ⟨h1, h2, h3, h4, h5⟩ := hwf
  rw [encodeFrame_eq]
  cases hk : f.key with
  | some k =>
    rw [hk] at h5
    have := decode_header client rsvOk f.fin f.rsv f.opcode true f.payload.length (k ++ mask k f.payload ++ rest)
      h1 h2 h3 h4 hok (by simp [h5.2])
    simp only [Option.isSome_some, if_true] at this ⊢
    rw [this, takePayload_masked _ _ _ _ _ _ h5.1]
    cases f; simp_all
  | none =>
    rw [hk] at h5
    have := decode_header client rsvOk f.fin f.rsv f.opcode false f.payload.length (f.payload ++ rest)
      h1 h2 h3 h4 hok (by simp [h5])
    simp only [Option.isSome_none, Bool.false_eq_true, if_false] at this ⊢
    rw [this, takePayload_plain]
    cases f; simp_all

def FramesOk (client : Bool) (rsvOk : Nat → Nat → Bool) (frames : List Frame) : Prop :=
  ∀ f ∈ frames, f.wf client ∧ rsvOk f.opcode f.rsv = true

theorem stream_roundtrip' (client : Bool) (rsvOk : Nat → Nat → Bool) (frames : List Frame)
    (h : FramesOk client rsvOk frames) :
    ∀ fuel, frames.length < fuel → decodeStream client rsvOk fuel (frames.flatMap encodeFrame) = (frames, [], false) := by
  induction frames with
  | nil => intro fuel _; cases fuel <;> simp [decodeStream, decodeFrame]
  | cons f fs ih =>
    intro fuel hf
    obtain ⟨n, rfl⟩ : ∃ n, fuel = n + 1 := ⟨fuel - 1, by simp at hf; omega⟩
    obtain ⟨hf1, hfs⟩ := List.forall_mem_cons.1 h
    simp only [List.flatMap_cons, decodeStream, frame_roundtrip' client rsvOk f _ hf1.1 hf1.2, ih hfs n (by simpa using hf)]

theorem streamEvents_encode (client : Bool) (rsvOk : Nat → Nat → Bool) (frames : List Frame)
    (h : FramesOk client rsvOk frames) :
    ∀ fuel ms, frames.length < fuel →
      streamEvents client rsvOk fuel ms (frames.flatMap encodeFrame) = (framesEvents ms frames).map (·.2) := by
  induction frames with
  | nil => intro fuel ms _; cases fuel <;> simp [streamEvents, decodeFrame, framesEvents]
  | cons f fs ih =>
    intro fuel ms hf
    obtain ⟨n, rfl⟩ : ∃ n, fuel = n + 1 := ⟨fuel - 1, by simp at hf; omega⟩
    obtain ⟨hf1, hfs⟩ := List.forall_mem_cons.1 h
    have ih := fun ms1 => ih hfs n ms1 (by simpa using hf)
    simp only [List.flatMap_cons, streamEvents, framesEvents, frame_roundtrip' client rsvOk f _ hf1.1 hf1.2, ih]
    cases frameEvent ms f with
    | none => rfl
    | some r =>
      dsimp only
      split
      · rfl
      · cases framesEvents r.1 fs <;> rfl

/-- the event of one data frame of `dataFrames`, at the decoder state `dataFrames` leaves it in -/
theorem frameEvent_data (text first fin : Bool) (key : Option Bytes) (p : Bytes) :
    frameEvent (if first then none else some (if text then 1 else 2))
      { fin := fin, rsv := 0, opcode := (if first then (if text then 1 else 2) else 0), key := key, payload := p } =
    some (if fin then none else some (if text then 1 else 2), WsEv.msg text p true fin) := by
  cases first <;> cases text <;> simp [frameEvent]

theorem dataFrames_not_close (text first : Bool) : ¬ ((if first then (if text then 1 else 2) else 0) = 8) := by
  cases first <;> cases text <;> simp

theorem dataFrames_events (text : Bool) (keys : Nat → Option Bytes) (fr : List (Bytes × Bool)) :
    wellFramed fr = true → ∀ (start : Nat) (first : Bool),
    framesEvents (if first then none else some (if text then 1 else 2)) (dataFrames text keys start first fr) =
      some (none, fr.map (fun pf => WsEv.msg text pf.1 true pf.2)) := by
  intro h
  fun_induction wellFramed fr with
  | case1 => cases h
  | case2 p fin =>
    subst h
    intro start first
    cases first <;> cases text <;> simp [dataFrames, framesEvents, frameEvent]
  | case3 p fin rest _ ih =>
    simp only [Bool.and_eq_true, Bool.not_eq_true'] at h
    obtain ⟨rfl, hwf⟩ := h
    intro start first
    have hih := ih hwf (start + 1) false
    simp only [Bool.false_eq_true, if_false] at hih
    rw [dataFrames, framesEvents, frameEvent_data]
    simp [dataFrames_not_close, hih]

theorem reassemble_burst (t : Bool) (fr : List (Bytes × Bool)) :
    wellFramed fr = true → ∀ acc : Option (Bool × Bytes),
    reassemble acc (fr.map (fun pf => WsEv.msg t pf.1 true pf.2)) =
      [match acc with
       | some (t0, c) => (t0, c ++ (fr.map (·.1)).flatten)
       | none => (t, (fr.map (·.1)).flatten)] := by
  fun_induction wellFramed fr with
  | case1 => intro h; cases h
  | case2 p fin =>
    intro h acc
    subst h
    cases acc <;> simp [reassemble]
  | case3 p fin rest _ ih =>
    intro h acc
    simp only [Bool.and_eq_true, Bool.not_eq_true'] at h
    obtain ⟨hfin, hwf⟩ := h
    subst hfin
    simp only [List.map_cons, reassemble, Bool.false_eq_true, if_false, ih hwf]
    cases acc <;> simp [List.append_assoc]

theorem dataFrames_length (text : Bool) (keys : Nat → Option Bytes) (fr : List (Bytes × Bool)) :
    ∀ start first, (dataFrames text keys start first fr).length = fr.length := by
  induction fr with
  | nil => intro _ _; rfl
  | cons pf rest ih => intro s f; obtain ⟨p, fin⟩ := pf; simp [dataFrames, ih]

/-- the keys fit the sender's role (a client masks every frame with a 4-byte key, a server never); `client` is the
    role of the RECEIVER, as in `decodeFrame` and `Frame.wf` -/
def KeysOk (client : Bool) (keys : Nat → Option Bytes) : Prop :=
  ∀ i, match keys i with | some k => k.length = 4 ∧ client = false | none => client = true

theorem dataFrames_ok (client : Bool) (text : Bool) (keys : Nat → Option Bytes) (fr : List (Bytes × Bool))
    (hk : KeysOk client keys) (hsz : ∀ pf ∈ fr, pf.1.length < 9223372036854775808) :
    ∀ start first, FramesOk client noExt (dataFrames text keys start first fr) := by
  induction fr with
  | nil => intro _ _ f hf; simp [dataFrames] at hf
  | cons pf rest ih =>
    obtain ⟨p, fin⟩ := pf
    intro start first f hf
    simp only [dataFrames, List.mem_cons] at hf
    rcases hf with rfl | hf
    · refine ⟨⟨by simp, ?_, ?_, hsz (p, fin) (by simp), hk start⟩, by simp [noExt]⟩
      · cases first <;> cases text <;> simp [validOpcode]
      · cases first <;> cases text <;> simp [isControl]
    · exact ih (fun q hq => hsz q (List.mem_cons_of_mem _ hq)) (start + 1) false f hf

/-- over `streamEvents`, the receive path without the UTF-8 step, which no driver op runs: `message_wire_roundtripU` is
    the form for the decoder compared with wsproto -/
theorem message_wire_roundtrip (client : Bool) (t : Bool) (keys : Nat → Option Bytes) (fr : List (Bytes × Bool))
    (hwf : wellFramed fr = true) (hk : KeysOk client keys) (hsz : ∀ pf ∈ fr, pf.1.length < 9223372036854775808)
    (fuel : Nat) (hfuel : fr.length < fuel) :
    streamEvents client noExt fuel none ((dataFrames t keys 0 true fr).flatMap encodeFrame)
      = some (fr.map (fun pf => WsEv.msg t pf.1 true pf.2)) ∧
    reassemble none (fr.map (fun pf => WsEv.msg t pf.1 true pf.2)) = [(t, (fr.map (·.1)).flatten)] := by
  constructor
  · rw [streamEvents_encode client noExt _ (dataFrames_ok client t keys fr hk hsz 0 true) fuel none
        (by rw [dataFrames_length]; exact hfuel)]
    have := dataFrames_events t keys fr hwf 0 true
    simp only [if_true] at this
    rw [this]; rfl
  · exact reassemble_burst t fr hwf none

/-! ### text frames through the incremental decoder -/

theorem streamEventsU_encode (client : Bool) (rsvOk : Nat → Nat → Bool) (frames : List Frame)
    (h : FramesOk client rsvOk frames) :
    ∀ fuel ms pend, frames.length < fuel →
      streamEventsU client rsvOk fuel ms pend (frames.flatMap encodeFrame) = (framesEventsU ms pend frames).map (·.2.2) := by
  induction frames with
  | nil => intro fuel ms pend _; cases fuel <;> simp [streamEventsU, decodeFrame, framesEventsU]
  | cons f fs ih =>
    intro fuel ms pend hf
    obtain ⟨n, rfl⟩ : ∃ n, fuel = n + 1 := ⟨fuel - 1, by simp at hf; omega⟩
    obtain ⟨hf1, hfs⟩ := List.forall_mem_cons.1 h
    have ih := fun ms1 p1 => ih hfs n ms1 p1 (by simpa using hf)
    simp only [List.flatMap_cons, streamEventsU, framesEventsU, frame_roundtrip' client rsvOk f _ hf1.1 hf1.2, ih]
    cases frameEventU ms pend f with
    | none => rfl
    | some r =>
      dsimp only
      split
      · rfl
      · cases framesEventsU r.1 r.2.1 fs <;> rfl

/-- `frameEvent_data` through the decoder: a text payload is decoded (from scratch in the first frame), a binary
    payload passes -/
theorem frameEventU_data (text first fin : Bool) (key : Option Bytes) (pend p : Bytes) :
    frameEventU (if first then none else some (if text then 1 else 2)) pend
      { fin := fin, rsv := 0, opcode := (if first then (if text then 1 else 2) else 0), key := key, payload := p } =
    if text then
      match incDecode (if first then [] else pend) p fin with
      | none => none
      | some r => some (if fin then none else some 1, r.2, WsEv.msg true r.1 true fin)
    else some (if fin then none else some 2, pend, WsEv.msg false p true fin) := by
  unfold frameEventU
  rw [frameEvent_data]
  cases text <;> cases first <;> simp <;> split <;> simp [*]

/-- the data frames of a text message whose payloads are cut anywhere, through the decoder -/
theorem dataFrames_eventsU (keys : Nat → Option Bytes) (cs : List Bytes) :
    cs ≠ [] → ∀ (start : Nat) (first : Bool) (pend : Bytes),
    framesEventsU (if first then none else some 1) pend (dataFrames true keys start first (flagged cs)) =
      match decodeChunks (if first then [] else pend) cs with
      | none => none
      | some r => some (none, r.2, (flagged r.1).map (fun pf => WsEv.msg true pf.1 true pf.2)) := by
  induction cs with
  | nil => intro h; exact absurd rfl h
  | cons c rest ih =>
    intro _ start first pend
    have hop8 : ¬ ((if first then 1 else 0) = 8) := dataFrames_not_close true first
    have hU := fun fin => frameEventU_data true first fin (keys start) pend c
    simp only [if_true] at hU
    cases rest with
    | nil =>
      simp only [flagged, dataFrames, if_true, framesEventsU, decodeChunks, hU]
      cases incDecode (if first then [] else pend) c true with
      | none => simp
      | some r => simp [hop8, flagged]
    | cons c2 rest' =>
      simp only [flagged, dataFrames, if_true, framesEventsU, decodeChunks, hU]
      cases hi : incDecode (if first then [] else pend) c false with
      | none => simp
      | some r =>
        simp only [hop8, if_false]
        rw [ih (by simp) (start + 1) false r.2]
        simp only [Bool.false_eq_true, if_false]
        cases hd2 : decodeChunks r.2 (c2 :: rest') with
        | none => simp
        | some r2 =>
          have hl := decodeChunks_length (c2 :: rest') r.2 r2 hd2
          obtain ⟨o2, p2⟩ := r2
          cases o2 with
          | nil => simp at hl
          | cons y ys => simp [flagged]

/-- frames whose text payloads are complete UTF-8 each: the decoder-aware events are the plain fragment events and
    nothing is held back between frames -/
theorem dataFrames_eventsU_strict (text : Bool) (keys : Nat → Option Bytes) (fr : List (Bytes × Bool))
    (hv : text = true → ∀ pf ∈ fr, StrictOk pf.1) :
    wellFramed fr = true → ∀ (start : Nat) (first : Bool),
    framesEventsU (if first then none else some (if text then 1 else 2)) [] (dataFrames text keys start first fr) =
      some (none, [], fr.map (fun pf => WsEv.msg text pf.1 true pf.2)) := by
  induction fr with
  | nil => intro h; simp [wellFramed] at h
  | cons pf rest ih =>
    obtain ⟨p, fin⟩ := pf
    intro h start first
    have hp : text = true → incDecode [] p fin = some (p, []) := fun ht =>
      incDecode_strictOk p fin (hv ht (p, fin) (by simp))
    have hfeU : frameEventU (if first then none else some (if text then 1 else 2)) []
        { fin := fin, rsv := 0, opcode := (if first then (if text then 1 else 2) else 0), key := keys start, payload := p }
        = some (if fin then none else some (if text then 1 else 2), [], WsEv.msg text p true fin) := by
      rw [frameEventU_data]
      cases text
      · rfl
      · simp [hp rfl]
    have hop8 := dataFrames_not_close text first
    cases rest with
    | nil =>
      simp only [wellFramed] at h; subst h
      rw [dataFrames, framesEventsU, hfeU]
      simp [hop8, framesEventsU, dataFrames]
    | cons q rest' =>
      simp only [wellFramed, Bool.and_eq_true, Bool.not_eq_true'] at h
      obtain ⟨hfin, hwf⟩ := h
      subst hfin
      have hih := ih (fun ht pf hpf => hv ht pf (List.mem_cons_of_mem _ hpf)) hwf (start + 1) false
      simp only [Bool.false_eq_true, if_false] at hih
      rw [dataFrames, framesEventsU, hfeU]
      simp only [hop8, if_false, Bool.false_eq_true]
      rw [hih]
      simp

/-- `message_wire_roundtrip` over the decoder the driver runs (`streamEventsU`) -/
theorem message_wire_roundtripU (client : Bool) (t : Bool) (keys : Nat → Option Bytes) (fr : List (Bytes × Bool))
    (hwf : wellFramed fr = true) (hk : KeysOk client keys) (hsz : ∀ pf ∈ fr, pf.1.length < 9223372036854775808)
    (hv : t = true → ∀ pf ∈ fr, StrictOk pf.1)
    (fuel : Nat) (hfuel : fr.length < fuel) :
    streamEventsU client noExt fuel none [] ((dataFrames t keys 0 true fr).flatMap encodeFrame)
      = some (fr.map (fun pf => WsEv.msg t pf.1 true pf.2)) ∧
    reassemble none (fr.map (fun pf => WsEv.msg t pf.1 true pf.2)) = [(t, (fr.map (·.1)).flatten)] := by
  constructor
  · rw [streamEventsU_encode client noExt _ (dataFrames_ok client t keys fr hk hsz 0 true) fuel none []
        (by rw [dataFrames_length]; exact hfuel)]
    have := dataFrames_eventsU_strict t keys fr hv hwf 0 true
    simp only [if_true] at this
    rw [this]; rfl
  · exact reassemble_burst t fr hwf none

/-- the burst the relay sends for a recorded message, serialised with any keys and read through the strict incremental
    decoder, is that one message -/
theorem burst_roundtripU (fs : Nat) (lens : List Nat) (client t : Bool) (m : Msg) (keys : Nat → Option Bytes)
    (fuel : Nat) (hmt : m.text = t) (hk : KeysOk client keys)
    (hsz : ∀ pf ∈ fragmentize fs lens t m.content, pf.1.length < 9223372036854775808)
    (hfuel : (fragmentize fs lens t m.content).length < fuel) :
    (streamEventsU client noExt fuel none []
        ((dataFrames t keys 0 true (fragmentize fs lens t m.content)).flatMap encodeFrame)).map
      (reassemble none) = some [(t, wire m)] := by
  subst hmt
  obtain ⟨h1, h2⟩ := message_wire_roundtripU client m.text keys _ (fragmentize_wellFramed fs lens m.text m.content) hk hsz
    (fun ht => by rw [ht]; exact fragmentize_strictOk fs lens m.content) fuel hfuel
  rw [h1, Option.map_some, h2, fragmentize_wire]
  rfl

/-! ### a close event ends its batch -/

theorem frameEvent_close (ms : MState) (f : Frame) (ms' : MState) (e : WsEv)
    (h : frameEvent ms f = some (ms', e)) (h8 : f.opcode ≠ 8) : e.isClose = false := by
  revert h
  fun_cases frameEvent ms f
  all_goals intro h; cases h
  -- left are the frames that are accepted: the event of a close frame is excluded by `h8`, the others are no close
  all_goals first | contradiction | rfl

theorem frameEventU_close (ms : MState) (pend : Bytes) (f : Frame) (ms' : MState) (p' : Bytes)
    (e : WsEv) (h : frameEventU ms pend f = some (ms', p', e)) (h8 : f.opcode ≠ 8) : e.isClose = false := by
  unfold frameEventU at h
  split at h
  · cases h
  · split at h <;> cases h
    rfl
  · rename_i hfe
    cases h
    exact frameEvent_close _ _ _ _ hfe h8

theorem closeLast_cons (e : WsEv) (es : List WsEv) (he : e.isClose = false) (h : closeLast es = true) :
    closeLast (e :: es) = true := by
  cases es <;> simp_all [closeLast]

end MitmVerif.C28.Wire
