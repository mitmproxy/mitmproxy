/-
  C52 — helper lemmas: association-list dictionary operations, successive `list.remove`, `popKey` (what a
  request without reuse leaves of the pending list), the invariant tying `flowmap` to `recorded`, and what one
  request does in terms of the pending list (`request_spec`).
-/
import MitmVerif.Model.C52
set_option linter.unusedSectionVars false
namespace MitmVerif.C52

section
variable {O Req Key : Type} [DecidableEq Req] [DecidableEq Key]

def keys (fm : FlowMap Req Key) : List Key := fm.map (·.1)

/-- what looking up `flowmap` gives for a key whose pending recordings are `l`: the code deletes a list it has emptied,
    so `flowmap` never holds an empty bucket -/
def optNE {α : Type} (l : List α) : Option (List α) := if l.isEmpty then none else some l

/-! ### dictionary operations -/

theorem fmLookup_not_mem {fm : FlowMap Req Key} {k : Key} (h : k ∉ keys fm) : fmLookup fm k = none := by
  fun_induction fmLookup fm k <;> grind [keys]

theorem lookup_head_ne {k0 k : Key} {l0 : List (Rec Req)} {rest : FlowMap Req Key} (hne : k0 ≠ k) :
    fmLookup ((k0, l0) :: rest) k = fmLookup rest k := by simp [fmLookup, hne]

theorem fmLookup_append (fm : FlowMap Req Key) (k : Key) (r : Rec Req) (k' : Key) :
    fmLookup (fmAppend fm k r) k' =
      if k' = k then some ((fmLookup fm k).getD [] ++ [r]) else fmLookup fm k' := by
  fun_induction fmAppend fm k r <;> grind [fmLookup]

theorem mem_keys_append (fm : FlowMap Req Key) (k : Key) (r : Rec Req) (x : Key) :
    x ∈ keys (fmAppend fm k r) ↔ x ∈ keys fm ∨ x = k := by
  fun_induction fmAppend fm k r <;> grind [keys]

theorem nodup_append {fm : FlowMap Req Key} (k : Key) (r : Rec Req) (h : (keys fm).Nodup) :
    (keys (fmAppend fm k r)).Nodup := by
  fun_induction fmAppend fm k r with
  | case1 => simp [keys]
  | case2 => exact h
  | case3 k' l rest k r hk ih =>
    simp only [keys, List.map_cons, List.nodup_cons] at h ⊢
    exact ⟨fun hm => ((mem_keys_append rest k r k').mp hm).elim h.1 hk, ih h.2⟩

theorem keys_del_sub (fm : FlowMap Req Key) (k x : Key) (h : x ∈ keys (fmDel fm k)) : x ∈ keys fm := by
  fun_induction fmDel fm k <;> grind [keys]

theorem nodup_del {fm : FlowMap Req Key} (k : Key) (h : (keys fm).Nodup) : (keys (fmDel fm k)).Nodup := by
  fun_induction fmDel fm k with
  | case1 => exact h
  | case2 => exact (List.nodup_cons.mp h).2
  | case3 k' l rest k hk ih =>
    simp only [keys, List.map_cons, List.nodup_cons] at h ⊢
    exact ⟨fun hm => h.1 (keys_del_sub rest k _ hm), ih h.2⟩

theorem fmLookup_del {fm : FlowMap Req Key} (k k' : Key) (h : (keys fm).Nodup) :
    fmLookup (fmDel fm k) k' = if k' = k then none else fmLookup fm k' := by
  fun_induction fmDel fm k with
  | case1 => simp [fmLookup]
  | case2 k l rest =>
    have := fmLookup_not_mem (List.nodup_cons.mp h).1
    grind [fmLookup]
  | case3 k₀ l rest k hk ih =>
    have := ih (List.nodup_cons.mp h).2
    grind [fmLookup]

theorem keys_set (fm : FlowMap Req Key) (k : Key) (l : List (Rec Req)) : keys (fmSet fm k l) = keys fm := by
  fun_induction fmSet fm k l <;> simp_all [keys]

theorem fmLookup_set (fm : FlowMap Req Key) (k k' : Key) (l : List (Rec Req)) :
    fmLookup (fmSet fm k l) k' = if k' = k then (fmLookup fm k).map (fun _ => l) else fmLookup fm k' := by
  fun_induction fmSet fm k l <;> grind [fmLookup]

/-- the bucket under a present key `k` becomes `rest`; an empty bucket is deleted -/
theorem fmLookup_put {fm : FlowMap Req Key} (k k' : Key) (rest : List (Rec Req)) (h : (keys fm).Nodup)
    (hk : (fmLookup fm k).isSome = true) :
    fmLookup (if rest.isEmpty then fmDel fm k else fmSet fm k rest) k' = if k' = k then optNE rest else fmLookup fm k' := by
  unfold optNE
  split
  · rw [fmLookup_del _ _ h]
  · rw [fmLookup_set]
    split
    · rw [Option.map_eq_some_iff.mpr ⟨_, (Option.eq_some_of_isSome hk), rfl⟩]
    · rfl

/-! ### successive `list.remove` -/

theorem eraseAll_cons (l : List (Rec Req)) (p : Rec Req) (ps : List (Rec Req)) :
    eraseAll l (p :: ps) = eraseAll (l.erase p) ps := rfl

theorem eraseAll_nil (l : List (Rec Req)) : eraseAll l [] = l := rfl

theorem eraseAll_append (l ps qs : List (Rec Req)) : eraseAll l (ps ++ qs) = eraseAll (eraseAll l ps) qs := by
  simp [eraseAll, List.foldl_append]

/-- elements different from the head are erased below it -/
theorem eraseAll_under (y : Rec Req) (l qs : List (Rec Req)) (h : y ∉ qs) :
    eraseAll (y :: l) qs = y :: eraseAll l qs := by
  induction qs generalizing l with
  | nil => rfl
  | cons q qs ih =>
    simp only [List.mem_cons, not_or] at h
    have hne : ¬ (y == q) = true := by simpa using h.1
    rw [eraseAll_cons, eraseAll_cons, List.erase_cons_tail hne, ih _ h.2]

/-! ### the pending list after a request without reuse -/

/-- what `next_flow` without reuse leaves of the pending list `l`, `p` being "has the key of the request": of the
    recordings with that key, those up to and including the first that has a response are gone -/
def popKey (p : Rec Req → Bool) : List (Rec Req) → List (Rec Req)
  | [] => []
  | x :: l => if p x then (if x.hasResp then l else popKey p l) else x :: popKey p l

theorem head?_dropWhile_not {α : Type} (f : α → Bool) (b : List α) :
    (b.dropWhile (fun x => !f x)).head? = b.find? f := by
  induction b with
  | nil => rfl
  | cons x b ih => cases hx : f x <;> simp [hx, ih]

/-- `next_flow` computes `popKey` on the bucket: it removes from the pending list the response-less head of the
    bucket and the first recording with a response, if there is one -/
theorem eraseAll_popped (p : Rec Req → Bool) (l : List (Rec Req)) :
    eraseAll l ((l.filter p).takeWhile (fun r => !r.hasResp) ++ ((l.filter p).dropWhile (fun r => !r.hasResp)).head?.toList)
      = popKey p l := by
  induction l with
  | nil => rfl
  | cons x l ih =>
    by_cases hp : p x = true
    · by_cases hx : x.hasResp = true
      · simp [popKey, hp, hx, eraseAll]
      · simp [popKey, hp, hx, eraseAll_cons, ih]
    · rw [popKey, if_neg hp, List.filter_cons_of_neg hp, eraseAll_under, ih]
      -- what is erased comes from the bucket, and `x` is not in the bucket
      intro hm
      have hsub : x ∈ (l.filter p).takeWhile (fun r => !r.hasResp) ++ (l.filter p).dropWhile (fun r => !r.hasResp) :=
        (List.mem_append.mp hm).elim (List.mem_append_left _) fun h =>
          List.mem_append_right _ (List.mem_of_mem_head? (by simpa using h))
      rw [List.takeWhile_append_dropWhile] at hsub
      exact hp (List.mem_filter.mp hsub).2

theorem popKey_filter_self (p : Rec Req → Bool) (l : List (Rec Req)) :
    (popKey p l).filter p = ((l.filter p).dropWhile (fun r => !r.hasResp)).tail := by
  fun_induction popKey p l <;> simp_all

theorem popKey_filter_other (p g : Rec Req → Bool) (hd : ∀ x, p x = true → g x = false) (l : List (Rec Req)) :
    (popKey p l).filter g = l.filter g := by
  fun_induction popKey p l <;> simp_all [List.filter_cons]

theorem popKey_sublist (p : Rec Req → Bool) (l : List (Rec Req)) : (popKey p l).Sublist l := by
  fun_induction popKey p l with
  | case1 => exact .slnil
  | case2 x l => exact List.sublist_cons_self x l
  | case3 x l _ _ ih => exact ih.cons x
  | case4 x l _ ih => exact ih.cons_cons x

/-- the served recording and what stays pending together occur in the pending list -/
theorem popKey_count (p : Rec Req → Bool) (l : List (Rec Req)) (r : Rec Req) :
    (l.find? (fun x => p x && x.hasResp)).toList.count r + (popKey p l).count r ≤ l.count r := by
  fun_induction popKey p l <;> simp_all [List.count_cons] <;> omega

theorem popKey_append (p : Rec Req → Bool) (pre post : List (Rec Req)) (r : Rec Req)
    (hpre : ∀ x ∈ pre, (!(p x && x.hasResp)) = true) (hr : (p r && r.hasResp) = true) :
    popKey p (pre ++ r :: post) = pre.filter (fun x => !p x) ++ post := by
  induction pre with
  | nil => simp_all [popKey]
  | cons x pre ih =>
    have hx := hpre x List.mem_cons_self
    have := ih fun y hy => hpre y (List.mem_cons_of_mem _ hy)
    by_cases hp : p x = true <;> simp_all [popKey]

end

/-! ### the invariant -/
section
variable {O Req Key : Type} [DecidableEq Req] [DecidableEq Key] (hash : O → Req → Key)

/-- the pending recordings with key `k`, in recording order -/
def bucket (o : O) (recd : List (Rec Req)) (k : Key) : List (Rec Req) :=
  recd.filter (fun r => decide (hash o r.req = k))

/-- `flowmap` is determined by `recorded`: under each key the pending recordings with that key, in recording order,
    and no entry for a key without any (`optNE`). `http` is needed for `configure`, which re-adds `recorded` through
    `addOne` and would drop a non-HTTP flow. -/
structure Inv (s : State O Req Key) : Prop where
  nodup : (keys s.flowmap).Nodup
  look : ∀ k, fmLookup s.flowmap k = optNE (bucket hash s.opts s.recorded k)
  http : ∀ r ∈ s.recorded, r.isHttp = true

theorem inv_empty (o : O) : Inv hash ({ opts := o, recorded := [], flowmap := [] } : State O Req Key) :=
  ⟨by simp [keys], by intro k; simp [fmLookup, bucket, optNE], by simp⟩

theorem inv_addOne {s : State O Req Key} (h : Inv hash s) (r : Rec Req) : Inv hash (addOne hash s r) := by
  unfold addOne
  by_cases hr : r.isHttp = true
  · simp only [hr, if_true]
    refine ⟨nodup_append _ _ h.nodup, ?_, ?_⟩
    · intro k'
      simp only
      rw [fmLookup_append, h.look]
      by_cases hk : k' = hash s.opts r.req
      · subst hk
        simp only [if_true, bucket, List.filter_append]
        simp [optNE]
        split <;> simp_all
      · have hk' : ¬ hash s.opts r.req = k' := fun h' => hk h'.symm
        simp [hk, bucket, List.filter_append, hk']
        simpa [bucket] using h.look k'
    · intro x hx
      simp only [List.mem_append, List.mem_singleton] at hx
      rcases hx with hx | hx
      · exact h.http x hx
      · subst hx; exact hr
  · simp only [hr]; exact h

theorem addOne_opts (s : State O Req Key) (r : Rec Req) : (addOne hash s r).opts = s.opts := by
  unfold addOne; split <;> rfl

theorem addOne_recorded (s : State O Req Key) (r : Rec Req) :
    (addOne hash s r).recorded = s.recorded ++ [r].filter (·.isHttp) := by
  unfold addOne; by_cases hr : r.isHttp = true <;> simp [hr]

theorem inv_addFlows {s : State O Req Key} (h : Inv hash s) (rs : List (Rec Req)) : Inv hash (addFlows hash s rs) := by
  unfold addFlows
  induction rs generalizing s with
  | nil => exact h
  | cons r rs ih => exact ih (inv_addOne hash h r)

theorem addFlows_opts (s : State O Req Key) (rs : List (Rec Req)) : (addFlows hash s rs).opts = s.opts := by
  unfold addFlows
  induction rs generalizing s with
  | nil => rfl
  | cons r rs ih => simp only [List.foldl_cons]; rw [ih, addOne_opts]

theorem addFlows_recorded (s : State O Req Key) (rs : List (Rec Req)) :
    (addFlows hash s rs).recorded = s.recorded ++ rs.filter (·.isHttp) := by
  unfold addFlows
  induction rs generalizing s with
  | nil => simp
  | cons r rs ih =>
    simp only [List.foldl_cons]; rw [ih, addOne_recorded]
    by_cases hr : r.isHttp = true <;> simp [hr]

theorem inv_loadFlows (s : State O Req Key) (rs : List (Rec Req)) : Inv hash (loadFlows hash s rs) :=
  inv_addFlows hash (inv_empty hash s.opts) rs

theorem loadFlows_recorded (s : State O Req Key) (rs : List (Rec Req)) :
    (loadFlows hash s rs).recorded = rs.filter (·.isHttp) := by
  unfold loadFlows; rw [addFlows_recorded]; simp

theorem loadFlows_opts (s : State O Req Key) (rs : List (Rec Req)) : (loadFlows hash s rs).opts = s.opts := by
  unfold loadFlows; rw [addFlows_opts]

theorem inv_configure (s : State O Req Key) (o : O) : Inv hash (configure hash s o) := inv_loadFlows hash _ _

theorem configure_opts (s : State O Req Key) (o : O) : (configure hash s o).opts = o := by
  unfold configure recompute; rw [loadFlows_opts]

theorem configure_recorded {s : State O Req Key} (h : Inv hash s) (o : O) :
    (configure hash s o).recorded = s.recorded := by
  unfold configure recompute; rw [loadFlows_recorded]
  simp only
  apply List.filter_eq_self.mpr
  exact h.http

/-- replay is inactive exactly when nothing is pending -/
theorem flowmap_empty_iff {s : State O Req Key} (h : Inv hash s) : s.flowmap.isEmpty = true ↔ s.recorded = [] := by
  constructor
  · intro he
    have he' : s.flowmap = [] := by simpa using he
    cases hr : s.recorded with
    | nil => rfl
    | cons r rest =>
      have := h.look (hash s.opts r.req)
      rw [he', hr] at this
      simp [fmLookup, optNE, bucket] at this
  · intro hr
    cases hf : s.flowmap with
    | nil => rfl
    | cons e rest =>
      have := h.look e.1
      rw [hf, hr] at this
      simp [fmLookup, optNE, bucket] at this

/-- the buckets of `flowmap` together are a permutation of `recorded` -/
theorem flatten_perm (o : O) : ∀ (fm : FlowMap Req Key) (recd : List (Rec Req)),
    (keys fm).Nodup → (∀ k, fmLookup fm k = optNE (bucket hash o recd k)) →
    (fm.flatMap (·.2)).Perm recd := by
  intro fm
  induction fm with
  | nil =>
    intro recd _ hl
    cases recd with
    | nil => exact List.Perm.refl _
    | cons r rest =>
      have := hl (hash o r.req)
      simp [fmLookup, optNE, bucket] at this
  | cons e rest ih =>
    obtain ⟨k0, l0⟩ := e
    intro recd hnd hl
    simp only [keys, List.map_cons, List.nodup_cons] at hnd
    have h0 := hl k0
    simp only [fmLookup, if_true] at h0
    have hl0 : l0 = bucket hash o recd k0 := by
      unfold optNE at h0
      split at h0
      · simp at h0
      · simpa using h0
    let recd' := recd.filter (fun x => !decide (hash o x.req = k0))
    have hrest : (rest.flatMap (·.2)).Perm recd' := by
      apply ih recd' hnd.2
      intro k
      by_cases hk : k = k0
      · subst hk
        rw [fmLookup_not_mem hnd.1]
        simp [recd', bucket, optNE, List.filter_filter]
      · have hne : k0 ≠ k := fun h' => hk h'.symm
        rw [← lookup_head_ne (l0 := l0) hne, hl k]
        congr 1
        simp only [recd', bucket, List.filter_filter]
        apply List.filter_congr
        intro x _
        by_cases hx : hash o x.req = k
        · have : ¬ hash o x.req = k0 := by rw [hx]; exact hk
          simp [hx, hk]
        · simp [hx]
    simp only [List.flatMap_cons]
    rw [hl0]
    exact (List.Perm.append_left _ hrest).trans (List.filter_append_perm _ recd)

theorem count_eq_length (s : State O Req Key) : count s = (s.flowmap.flatMap (·.2)).length := by
  unfold count
  induction s.flowmap with
  | nil => rfl
  | cons e rest ih => simp only [List.map_cons, List.sum_cons, List.flatMap_cons, List.length_append, ih]

end
/-! ### what one request does, in terms of the pending recordings in recording order -/
section
variable {O Req Key : Type} [DecidableEq Req] [DecidableEq Key] (hash : O → Req → Key)

/-- does the recording `x` have the same matching key as the request `q` under options `o` -/
def sameKey (o : O) (q : Req) (x : Rec Req) : Bool := decide (hash o x.req = hash o q)

def noResp (r : Rec Req) : Bool := !r.hasResp

theorem nextFlow_none {s : State O Req Key} {q : Req} (b : Bool)
    (hl : fmLookup s.flowmap (hash s.opts q) = none) : nextFlow hash s q b = (s, .nothing) := by
  simp [nextFlow, hl]

theorem nextFlow_reuse {s : State O Req Key} {q : Req} {bk : List (Rec Req)}
    (hl : fmLookup s.flowmap (hash s.opts q) = some bk) :
    nextFlow hash s q true = (s, match bk.find? (·.hasResp) with | some r => .found r | none => .nothing) := by
  cases hf : bk.find? (·.hasResp) <;> simp [nextFlow, hl, hf]

theorem nextFlow_pop {s : State O Req Key} {q : Req} {b0 : Rec Req} {bs : List (Rec Req)}
    (hl : fmLookup s.flowmap (hash s.opts q) = some (b0 :: bs)) :
    nextFlow hash s q false =
      ({ s with flowmap := if ((b0 :: bs).dropWhile (fun r => !r.hasResp)).tail.isEmpty then fmDel s.flowmap (hash s.opts q)
                           else fmSet s.flowmap (hash s.opts q) ((b0 :: bs).dropWhile (fun r => !r.hasResp)).tail,
                recorded := eraseAll s.recorded ((b0 :: bs).takeWhile (fun r => !r.hasResp) ++
                  ((b0 :: bs).dropWhile (fun r => !r.hasResp)).head?.toList) },
       match (b0 :: bs).find? (·.hasResp) with | some r => .found r | none => .nothing) := by
  rw [← head?_dropWhile_not]
  simp only [nextFlow, hl]
  cases (b0 :: bs).dropWhile (fun r => !r.hasResp) <;> simp

theorem request_inactive {s : State O Req Key} (h : Inv hash s) (hr : s.recorded = []) (q : Req) (c : RCfg) :
    request hash s q c = (s, .forwarded) := by
  have := (flowmap_empty_iff hash h).mpr hr
  simp [request, this]

theorem bucket_eq (o : O) (recd : List (Rec Req)) (q : Req) :
    bucket hash o recd (hash o q) = recd.filter (sameKey hash o q) := rfl

/-- **one request**: the invariant is kept; with reuse the state is unchanged, without it the pending list becomes
    `popKey`; the first pending recording (recording order) with an equal key and a response is served, and if there
    is none the request is forwarded while nothing is pending and treated as configured otherwise -/
theorem request_spec {s : State O Req Key} (h : Inv hash s) (q : Req) (c : RCfg) :
    Inv hash (request hash s q c).1 ∧
    ((c.reuse || c.nopop) = true → (request hash s q c).1 = s) ∧
    ((c.reuse || c.nopop) = false → (request hash s q c).1.recorded = popKey (sameKey hash s.opts q) s.recorded) ∧
    (request hash s q c).2 =
      match s.recorded.find? (fun x => sameKey hash s.opts q x && x.hasResp) with
      | some r => .served r
      | none => if s.recorded = [] then .forwarded else unmatched c := by
  by_cases hr : s.recorded = []
  · rw [request_inactive hash h hr, hr]
    exact ⟨h, fun _ => rfl, fun _ => rfl, rfl⟩
  have hfe : s.flowmap.isEmpty = false := Bool.eq_false_iff.mpr (mt (flowmap_empty_iff hash h).mp hr)
  have hfind : (s.recorded.filter (sameKey hash s.opts q)).find? (·.hasResp)
      = s.recorded.find? (fun x => sameKey hash s.opts q x && x.hasResp) := by
    rw [List.find?_filter]; congr 1; funext a; simp
  have hpop := eraseAll_popped (sameKey hash s.opts q) s.recorded
  have hl := h.look (hash s.opts q)
  rw [bucket_eq] at hl
  rw [← hfind, if_neg hr]
  cases hb : s.recorded.filter (sameKey hash s.opts q) with
  | nil =>
    rw [hb] at hl hpop
    have hreq : request hash s q c = (s, unmatched c) := by
      simp [request, hfe, nextFlow_none hash _ hl]
    rw [hreq]
    exact ⟨h, fun _ => rfl, fun _ => hpop, rfl⟩
  | cons b0 bs =>
    rw [hb] at hl hpop
    replace hl : fmLookup s.flowmap (hash s.opts q) = some (b0 :: bs) := hl
    cases hc : (c.reuse || c.nopop) with
    | true =>
      have hreq : request hash s q c =
          (s, match (b0 :: bs).find? (·.hasResp) with | some r => .served r | none => unmatched c) := by
        simp only [request, hfe, hc, nextFlow_reuse hash hl]
        cases (b0 :: bs).find? (·.hasResp) <;> rfl
      rw [hreq]
      exact ⟨h, fun _ => rfl, nofun, rfl⟩
    | false =>
      have hreq : request hash s q c =
          ({ s with flowmap := if ((b0 :: bs).dropWhile (fun r => !r.hasResp)).tail.isEmpty then fmDel s.flowmap (hash s.opts q)
                               else fmSet s.flowmap (hash s.opts q) ((b0 :: bs).dropWhile (fun r => !r.hasResp)).tail,
                    recorded := popKey (sameKey hash s.opts q) s.recorded },
           match (b0 :: bs).find? (·.hasResp) with | some r => .served r | none => unmatched c) := by
        simp only [request, hfe, hc, nextFlow_pop hash hl, hpop]
        cases (b0 :: bs).find? (·.hasResp) <;> rfl
      rw [hreq]
      refine ⟨⟨?_, fun k' => ?_, fun x hx => h.http x ((popKey_sublist _ _).subset hx)⟩, nofun, fun _ => rfl, rfl⟩
      · simp only
        split
        · exact nodup_del _ h.nodup
        · rw [keys_set]; exact h.nodup
      · simp only
        rw [fmLookup_put _ _ _ h.nodup (by rw [hl]; rfl)]
        split
        · rename_i hk
          rw [hk, bucket_eq, popKey_filter_self, hb]
        · rename_i hk
          rw [h.look k']
          unfold bucket
          rw [popKey_filter_other]
          intro x hx
          have : hash s.opts x.req = hash s.opts q := by simpa [sameKey] using hx
          simpa [this] using fun h' : hash s.opts q = k' => hk h'.symm

end
end MitmVerif.C52
