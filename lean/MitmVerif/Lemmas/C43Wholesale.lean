/-
  C43 — the wholesale operations `_refilter`, `set_order` and the settings purge: each of the two loops with its
  invariant, what the operation guarantees (`RefilterSpec`, `OrderSpec`), and the list it builds, which is exactly the
  stable sort (`insertAll`) of the matching stored flows, or of the old list by the new keys.
-/
import MitmVerif.Lemmas.C43Blocks
namespace MitmVerif.C43

def refStep (acc : VS) (f : Nat) : VS := if visible acc f then baseAdd acc f else acc

/-- what `refilter_spec` reads of the result of the loop of `_refilter`, field by field; it follows (`Built.loopInv`) from
    `Built` below, which is what the loop maintains -/
structure LoopInv (s0 acc : VS) (done : List Nat) : Prop where
  attrs : acc.attrs = s0.attrs
  store : acc.store = s0.store
  filt : acc.filt = s0.filt
  showMarked : acc.showMarked = s0.showMarked
  slot : acc.slot = s0.slot
  reversed : acc.reversed = s0.reversed
  focusFollow : acc.focusFollow = s0.focusFollow
  focus : acc.focus = s0.focus
  crash : acc.crash = s0.crash
  trace : acc.trace = s0.trace
  err : acc.err = s0.err
  viewNodup : acc.view.Nodup
  viewIn : ∀ g, g ∈ acc.view → g ∈ done ∧ visible s0 g = true
  viewAll : ∀ g, g ∈ done → visible s0 g = true → g ∈ acc.view
  sorted : SortedBy (ck acc) acc.view
  fresh : ∀ g, g ∈ acc.view → acc.cache g acc.slot = some (gen s0 g)
  settingsSub : ∀ g, g ∈ acc.settings → g ∈ s0.settings ∨ g ∈ s0.store

theorem LoopInv.rest {s0 acc : VS} {done : List Nat} (h : LoopInv s0 acc done) : Rest s0 acc :=
  ⟨h.attrs, h.store, h.filt, h.showMarked, h.slot, h.reversed, h.focusFollow, h.focus, h.crash, h.trace, h.err⟩

/-- what the loop maintains, from which the rest of `LoopInv` follows: the list built so far is the stable sort, by the
    current keys, of the visible flows met, and these keys are the cached ones -/
structure Built (s0 acc : VS) (done : List Nat) : Prop where
  rest : Rest s0 acc
  view : acc.view = insertAll (gen s0) (done.filter (fun g => visible s0 g))
  fresh : ∀ g, g ∈ acc.view → acc.cache g acc.slot = some (gen s0 g)
  settingsSub : ∀ g, g ∈ acc.settings → g ∈ s0.settings ∨ g ∈ s0.store

theorem Built.mem {s0 acc : VS} {done : List Nat} (h : Built s0 acc done) (g : Nat) :
    g ∈ acc.view ↔ g ∈ done ∧ visible s0 g = true := by
  rw [h.view, (insertAll_perm _ _).mem_iff, List.mem_filter]

theorem Built.step {s0 acc : VS} {done : List Nat} {f : Nat} (h : Built s0 acc done) (hst : f ∈ s0.store)
    (hnd : f ∉ done) : Built s0 (refStep acc f) (done ++ [f]) := by
  have hnv : f ∉ acc.view := fun hm => hnd ((h.mem f).mp hm).1
  unfold refStep
  rw [h.rest.visible f]
  cases hvf : visible s0 f with
  | true =>
    simp only [if_true]
    refine ⟨h.rest.trans (rest_baseAdd acc f), ?_, ?_, ?_⟩
    · simp only [List.filter_append, List.filter_cons, hvf, if_true, List.filter_nil]
      rw [insertAll_snoc, ← h.view]
      exact (baseAdd_view acc f).trans (sortedInsert_congr f acc.view
        (by simp only [ck, freshen, setCache_self]; exact h.rest.gen f)
        (fun a ha => by
          have hne : a ≠ f := fun h' => hnv (h' ▸ ha)
          simp only [ck, freshen, setCache_other acc f _ a hne, h.fresh a ha, Option.getD_some]))
    · intro g hg
      by_cases hgf : g = f
      · subst hgf; rw [baseAdd_self, h.rest.gen]
      · rw [baseAdd_other acc f g hgf]
        exact h.fresh g (((mem_baseAdd_view acc f g).mp hg).resolve_left hgf)
    · intro g hg
      rcases (mem_baseAdd_settings acc f g).mp hg with hg | hg
      · exact h.settingsSub g hg
      · exact Or.inr (hg ▸ hst)
  | false =>
    refine ⟨h.rest, ?_, h.fresh, h.settingsSub⟩
    simp only [List.filter_append, List.filter_cons, hvf, Bool.false_eq_true, if_false, List.filter_nil, List.append_nil]
    exact h.view

theorem Built.loopInv {s0 acc : VS} {done : List Nat} (h : Built s0 acc done) (hnd : done.Nodup) : LoopInv s0 acc done :=
  have r := h.rest
  ⟨r.attrs, r.store, r.filt, r.showMarked, r.slot, r.reversed, r.focusFollow, r.focus, r.crash, r.trace, r.err,
    h.view ▸ (insertAll_perm _ _).nodup_iff.mpr (hnd.filter _), fun g hg => (h.mem g).mp hg,
    fun g hg hv => (h.mem g).mpr ⟨hg, hv⟩,
    sortedBy_congr (fun a ha => by simp only [ck, h.fresh a (h.view ▸ ha), Option.getD_some]) (h.view ▸ insertAll_sorted _ _),
    h.fresh, h.settingsSub⟩

/-- `_refilter` is its loop over the whole store, then the focus handler and `sig_view_refresh`; the loop leaves the
    invariant, and the stable sort of the visible stored flows as the list -/
theorem refilter_loop {s : VS} (hnd : s.store.Nodup) :
    ∃ s1, refilter s = emit (onRefresh s1) .vrefresh ∧ LoopInv { s with view := [] } s1 s.store ∧
      s1.view = insertAll (gen { s with view := [] }) (s.store.filter (fun g => visible { s with view := [] } g)) :=
  have h : Built { s with view := [] } (s.store.foldl refStep { s with view := [] }) s.store :=
    foldl_prefix_inv (fun done acc => Built { s with view := [] } acc done)
      (fun _ _ _ _ e h => h.step (split_nodup hnd e).1 (split_nodup hnd e).2)
      ⟨Rest.refl _, rfl, nofun, fun _ hg => Or.inl hg⟩
  ⟨_, rfl, h.loopInv hnd, h.view⟩

structure RefilterSpec (s s' : VS) : Prop where
  core : Core s' []
  focus : FocusOK s'
  crash : s'.crash = s.crash
  sigs : sigs s' = sigs s ++ [.vrefresh]
  store : s'.store = s.store
  err : s'.err = s.err
  settings : SB s s'
  attrs : s'.attrs = s.attrs

/-- `_refilter` rebuilds a correct view from any state whose store is duplicate-free -/
theorem refilter_spec {s : VS} (hnd : s.store.Nodup) :
    RefilterSpec s (refilter s) := by
  obtain ⟨s1, e, hl, _⟩ := refilter_loop hnd
  rw [e]
  have r : Rest s s1 := (rest_withView s []).trans hl.rest
  have hcore1 : Core s1 [] := by
    refine ⟨r.store ▸ hnd, hl.viewNodup, ?_, hl.sorted, ?_, ?_⟩
    · intro g hg; rw [r.store]; exact (hl.viewIn g hg).1
    · intro g hg; exact ⟨_, hl.fresh g hg, fun _ => (hl.rest.gen g).symm⟩
    · intro g hg _
      rw [hl.rest.visible]
      exact ⟨fun h => (hl.viewIn g h).2, fun h => hl.viewAll g (r.store ▸ hg) h⟩
  have T := told r (fun g hg => hl.settingsSub g hg) hcore1 (refocus_onRefresh s1) .vrefresh (by simp)
  exact ⟨T.core, T.focus, T.crash, T.sigs, T.store, T.err, T.settings, T.attrs⟩

/-- `_refilter`: the new list is the stable sort (by the current keys, ties in store order) of the stored flows that
    pass the filter -/
theorem refilter_view {s : VS} (hnd : s.store.Nodup) :
    (refilter s).view = insertAll (gen (refilter s)) ((refilter s).store.filter (fun g => visible (refilter s) g)) := by
  obtain ⟨s1, e, hl, hv⟩ := refilter_loop hnd
  rw [e]
  have hfr := (refocus_onRefresh s1).frame
  generalize onRefresh s1 = t at hfr
  have hgen : gen (emit t .vrefresh) = gen { s with view := [] } := funext fun g => (hfr.gen g).trans (hl.rest.gen g)
  have hvis : (fun g => visible (emit t .vrefresh) g) = (fun g => visible { s with view := [] } g) :=
    funext fun g => (hfr.visible g).trans (hl.rest.visible g)
  rw [hgen, hvis, show (emit t .vrefresh).store = s.store from hfr.store.trans hl.store]
  exact hfr.view.trans hv

theorem core_purge {s : VS} {x : List Nat} (h : Core s x) : Core (purge s) x :=
  core_congr h rfl rfl rfl rfl rfl rfl (fun g hg => by simp [purge, h.viewSub g hg])

theorem purge_settings (s : VS) : ∀ g, g ∈ (purge s).settings → g ∈ (purge s).store := by
  intro g hg
  have := (List.mem_filter.mp hg).2
  show g ∈ s.store
  simpa using this

/-- the settings purge and a further signal touch neither the list nor anything it is compared with (`clear_not_marked`
    after its re-filter) -/
theorem sortOfStore_emit_purge {t : VS} (g : Sig)
    (h : t.view = insertAll (gen t) (t.store.filter (fun x => visible t x))) :
    (emit (purge t) g).view =
      insertAll (gen (emit (purge t) g)) ((emit (purge t) g).store.filter (fun x => visible (emit (purge t) g) x)) := h

structure FreshAll (s0 acc : VS) (done : List Nat) : Prop where
  attrs : acc.attrs = s0.attrs
  store : acc.store = s0.store
  view : acc.view = s0.view
  filt : acc.filt = s0.filt
  showMarked : acc.showMarked = s0.showMarked
  slot : acc.slot = s0.slot
  reversed : acc.reversed = s0.reversed
  focus : acc.focus = s0.focus
  crash : acc.crash = s0.crash
  trace : acc.trace = s0.trace
  err : acc.err = s0.err
  fresh : ∀ g, g ∈ done → acc.cache g acc.slot = some (gen s0 g)
  settings : ∀ g, g ∈ acc.settings → g ∈ s0.settings ∨ g ∈ done

theorem freshAll_step {s0 acc : VS} {done : List Nat} (h : FreshAll s0 acc done) (f : Nat) :
    FreshAll s0 (freshen acc f) (done ++ [f]) := by
  have r := rest_setCache acc f (gen acc f)
  unfold freshen
  refine ⟨r.attrs.trans h.attrs, r.store.trans h.store, (setCache_view acc f _).trans h.view, r.filt.trans h.filt,
    r.showMarked.trans h.showMarked, r.slot.trans h.slot, r.reversed.trans h.reversed, r.focus.trans h.focus,
    r.crash.trans h.crash, r.trace.trans h.trace, r.err.trans h.err, ?_, ?_⟩
  · intro g hg
    by_cases hgf : g = f
    · subst hgf; rw [setCache_self, gen_eq_of h.attrs h.slot]
    · rw [setCache_other _ _ _ _ hgf]
      exact h.fresh g ((List.mem_append.mp hg).resolve_right (fun hm => hgf (List.mem_singleton.mp hm)))
  · intro g hg
    rcases (mem_setCache_settings acc f _ g).mp hg with hg | hg
    · exact (h.settings g hg).imp_right (List.mem_append_left _)
    · exact Or.inr (by simp [hg])

/-- `set_order` is its loop over the whole list, which re-keys every shown flow, then the stable re-sort by these keys -/
theorem setOrder_loop (s : VS) (sl : Nat) :
    ∃ s2, FreshAll { s with slot := sl } s2 s.view ∧ opSetOrder s sl = { s2 with view := insertAll (ck s2) s2.view } :=
  ⟨_, foldl_prefix_inv (l := s.view) (fun done acc => FreshAll { s with slot := sl } acc done)
      (fun _ a _ _ _ h => freshAll_step h a)
      ⟨rfl, rfl, rfl, rfl, rfl, rfl, rfl, rfl, rfl, rfl, rfl, nofun, fun _ hg => Or.inl hg⟩, rfl⟩

structure OrderSpec (s s' : VS) (D : List Nat) : Prop where
  core : Core s' D
  focus : FocusOK s'
  crash : s'.crash = s.crash
  sigs : sigs s' = sigs s
  view : ∀ g, g ∈ s'.view ↔ g ∈ s.view
  store : s'.store = s.store
  err : s'.err = s.err
  settings : SB s s'

theorem setOrder_spec {s : VS} {D : List Nat} (h : Core s D) (hfo : FocusOK s) (sl : Nat) :
    OrderSpec s (opSetOrder s sl) D ∧ Keep s (opSetOrder s sl) := by
  obtain ⟨s2, hl, e⟩ := setOrder_loop s sl
  rw [e]
  have hperm : (insertAll (ck s2) s2.view).Perm s.view := by
    rw [hl.view]; exact insertAll_perm _ _
  have hmem : ∀ g, g ∈ insertAll (ck s2) s2.view ↔ g ∈ s.view := fun g => hperm.mem_iff
  refine ⟨⟨⟨hl.store ▸ h.storeNodup, hperm.nodup_iff.mpr h.viewNodup, ?_,
    insertAll_sorted _ _, ?_, ?_⟩, ?_, hl.crash, by simp [sigs, hl.trace], hmem, hl.store, hl.err, ?_⟩, hl.attrs, hl.store⟩
  · intro g hg
    exact hl.store ▸ h.viewSub g ((hmem g).mp hg)
  · intro g hg
    exact ⟨_, hl.fresh g ((hmem g).mp hg), fun _ => (gen_eq_of hl.attrs hl.slot g).symm⟩
  · intro g hg hx
    show g ∈ insertAll (ck s2) s2.view ↔ visible s2 g = true
    rw [hmem, visible_eq_of hl.attrs hl.showMarked hl.filt]
    exact h.vis g (hl.store ▸ hg) hx
  · cases hfc : s.focus with
    | none =>
      have hnil : s.view = [] := by unfold FocusOK at hfo; rw [hfc] at hfo; exact hfo
      exact focusOK_of_nil (hl.focus.trans hfc) (hnil ▸ hperm).eq_nil
    | some g => exact focusOK_of_mem (hl.focus.trans hfc) ((hmem g).mpr (focusOK_some hfo g hfc))
  · intro g hg
    exact (hl.settings g hg).imp_right (h.viewSub g)

/-- `set_order`: the new list is the stable sort of the old list by the new keys -/
theorem setOrder_view {s : VS} (sl : Nat) :
    (opSetOrder s sl).view = insertAll (gen (opSetOrder s sl)) s.view := by
  obtain ⟨s2, hl, e⟩ := setOrder_loop s sl
  rw [e]
  show insertAll (ck s2) s2.view = insertAll (gen s2) s.view
  rw [hl.view]
  apply insertAll_congr
  intro a ha
  simp only [ck, hl.fresh a ha, Option.getD_some, gen_eq_of hl.attrs hl.slot]

end MitmVerif.C43
