/- raw bytes: whenever the strict reference reader can split a head into lines, h11's `maybe_extract_lines` (as used by
   mitmproxy) splits it into the very same lines; and `line.split()` cuts a request line the reference reader accepts into the
   same three parts -/
import MitmVerif.Lemmas.C01_FoldG2
namespace MitmVerif.C01
open MitmVerif

theorem takeLine_decomp (b l r : Bytes) (h : Ref.takeLine b = some (.ok l, r)) :
    cleanLine l ∧ ∃ t : Bool, b = l ++ sepOf t ++ r := by
  fun_induction Ref.takeLine b generalizing l
  case case2 => cases h; exact ⟨⟨by simp, by simp⟩, false, rfl⟩
  case case3 => cases h; exact ⟨⟨by simp, by simp⟩, true, rfl⟩
  case case7 c rest hc10 hc13 l' r' ht ih =>
    cases h
    obtain ⟨hcl, t, hb⟩ := ih l' ht
    exact ⟨⟨by simp [hcl.1, Ne.symm hc13], by simp [hcl.2, Ne.symm hc10]⟩, t, by simp [hb]⟩
  -- the other branches return no line, or a bare CR
  all_goals simp_all

/-- `tls`: the lines, each with its terminator (`sepOf`); `e`: the terminator of the empty line that ends the head -/
theorem headLines_wire (f : Nat) (b : Bytes) (ls : List Bytes) (rest : Bytes) (h : Ref.headLines f b = .ok (ls, rest)) :
    ∃ (tls : List (Bytes × Bool)) (e : Bool), tls.map (·.1) = ls ∧ (∀ lt ∈ tls, cleanLine lt.1 ∧ lt.1 ≠ []) ∧
      b = renderG tls ++ sepOf e ++ rest := by
  fun_induction Ref.headLines f b generalizing ls
  case case4 f b l r ht hemp =>
    obtain ⟨_, t, hb⟩ := takeLine_decomp b l r ht
    obtain rfl : l = [] := List.isEmpty_iff.mp hemp
    cases h
    exact ⟨[], t, rfl, by simp, by simpa [renderG] using hb⟩
  case case5 f b l r ht hne ls' rest' hr ih =>
    obtain ⟨hcl, t, hb⟩ := takeLine_decomp b l r ht
    cases h
    obtain ⟨tls, e, h1, h2, h3⟩ := ih ls' hr
    refine ⟨(l, t) :: tls, e, by simp [h1], ?_, by simp [renderG, hb, h3, List.append_assoc]⟩
    intro lt hlt
    rcases List.mem_cons.mp hlt with rfl | hlt
    · exact ⟨hcl, fun e' => hne (List.isEmpty_iff.mpr e')⟩
    · exact h2 lt hlt
  all_goals cases h

/-! ### `maybe_extract_lines` on the wire form -/

private theorem blankAt_not_lf {c : UInt8} (s : Bytes) (h : c ≠ 10) : blankAt (c :: s) = none := by
  cases s with
  | nil => rfl
  | cons d ds => simp [blankAt, h]

theorem findBlank_clean : ∀ (l s : Bytes), (10 : UInt8) ∉ l → findBlank (l ++ s) = (findBlank s).map (· + l.length)
  | [], s, _ => by cases h : findBlank s <;> simp [h]
  | c :: t, s, h => by
    have hc : c ≠ 10 := fun e => h (by simp [e])
    have ih := findBlank_clean t s (fun e => h (by simp [e]))
    simp only [List.cons_append, findBlank, blankAt_not_lf _ hc, ih]
    cases findBlank s <;> simp; omega

/-- after a line terminator that is followed by a non-empty clean line nothing matches -/
theorem findBlank_sep (t : Bool) (x : UInt8) (s : Bytes) (hx10 : x ≠ 10) (hx13 : x ≠ 13) :
    findBlank (sepOf t ++ x :: s) = (findBlank (x :: s)).map (· + (sepOf t).length) := by
  have hb : blankAt (10 :: x :: s) = none := by simp [blankAt, hx10, hx13]
  cases t
  · simp only [sepOf, Bool.false_eq_true, ↓reduceIte, List.cons_append, List.nil_append, findBlank]
    rw [hb]
    cases findBlank (x :: s) <;> simp
  · simp only [sepOf, ↓reduceIte, List.cons_append, List.nil_append]
    rw [findBlank, blankAt_not_lf _ (by decide), findBlank, hb]
    cases findBlank (x :: s) <;> simp

/-- the terminator of the last line followed by the empty line -/
theorem findBlank_end (t e : Bool) (rest : Bytes) :
    findBlank (sepOf t ++ sepOf e ++ rest) = some ((sepOf t).length + (sepOf e).length) := by
  cases t <;> cases e <;> simp [sepOf, findBlank, blankAt]

theorem findBlank_wire : ∀ (tls : List (Bytes × Bool)) (e : Bool) (rest : Bytes), tls ≠ [] →
    (∀ lt ∈ tls, cleanLine lt.1 ∧ lt.1 ≠ []) →
    findBlank (renderG tls ++ sepOf e ++ rest) = some ((renderG tls).length + (sepOf e).length)
  | [], _, _, h, _ => absurd rfl h
  | [(l, t)], e, rest, _, h => by
    have hl := h (l, t) (by simp)
    have := findBlank_clean l (sepOf t ++ sepOf e ++ rest) hl.1.2
    simp only [renderG, List.append_nil, List.append_assoc] at this ⊢
    rw [this]
    have := findBlank_end t e rest
    simp only [List.append_assoc] at this
    rw [this]; simp; omega
  | (l, t) :: (l2, t2) :: more, e, rest, _, h => by
    have hl := h (l, t) (by simp)
    have hl2 := h (l2, t2) (by simp)
    have ih := findBlank_wire ((l2, t2) :: more) e rest (by simp) (fun x hx => h x (by simp [hx]))
    cases l2 with
    | nil => exact absurd rfl hl2.2
    | cons x xs =>
      have hx10 : x ≠ 10 := fun e' => hl2.1.2 (by simp [e'])
      have hx13 : x ≠ 13 := fun e' => hl2.1.1 (by simp [e'])
      have h1 := findBlank_clean l (sepOf t ++ (renderG ((x :: xs, t2) :: more) ++ sepOf e ++ rest)) hl.1.2
      have h2 := findBlank_sep t x (xs ++ sepOf t2 ++ renderG more ++ sepOf e ++ rest) hx10 hx13
      simp only [renderG, List.append_assoc, List.cons_append] at h1 h2 ih ⊢
      rw [h1, h2, ih]
      simp; omega

/-- h11 splits the head at LF and removes one CR from the end of each piece: all but the last are the parts `lineParts` names -/
theorem stripped_dropLast (v : Bytes) : ((splitOn 10 v).map stripOneCR).dropLast = (lineParts v).dropLast := by
  unfold lineParts
  rw [splitOn_eq]
  cases h : (splitSep 10 v).getLast? with
  | none => exact absurd (List.getLast?_eq_none_iff.mp h) (splitSep_ne_nil _ _)
  | some l => rw [List.dropLast_concat, List.map_dropLast]

/-- so on the wire form it gives the lines back, after deleting the two empty strings behind them -/
theorem split_wire (tls : List (Bytes × Bool)) (e : Bool) (h : ∀ lt ∈ tls, cleanLine lt.1) :
    ((splitOn 10 (renderG tls ++ sepOf e)).map stripOneCR).dropLast.dropLast = tls.map (·.1) := by
  have he : lineParts (sepOf e) = [[], []] := by cases e <;> rfl
  rw [stripped_dropLast, lineParts_renderG tls _ h, he, List.append_cons, List.dropLast_concat, List.dropLast_concat]

theorem extractLines_of_headLines (f : Nat) (b : Bytes) (l : Bytes) (ls : List Bytes) (rest : Bytes)
    (h : Ref.headLines f b = .ok (l :: ls, rest)) :
    extractLines b = .lines (l :: ls) rest ∧ ∀ x ∈ l :: ls, cleanLine x := by
  obtain ⟨tls, e, h1, h2, h3⟩ := headLines_wire f b (l :: ls) rest h
  refine ⟨?_, fun x hx => ?_⟩
  · obtain ⟨⟨l0, t0⟩, more, rfl⟩ : ∃ lt more, tls = lt :: more := by
      cases tls with
      | nil => cases h1
      | cons lt more => exact ⟨lt, more, rfl⟩
    obtain ⟨hcl, hne⟩ := h2 (l0, t0) List.mem_cons_self
    obtain ⟨a, as, rfl⟩ := List.exists_cons_of_ne_nil hne
    have ha10 : a ≠ 10 := fun e' => hcl.2 (by simp [e'])
    have ha13 : a ≠ 13 := fun e' => hcl.1 (by simp [e'])
    have hfb := findBlank_wire _ e rest (by simp) h2
    have hsp := split_wire _ e (fun x hx => (h2 x hx).1)
    rw [← List.length_append] at hfb
    obtain ⟨tl, hw⟩ : ∃ tl, renderG ((a :: as, t0) :: more) ++ sepOf e = a :: tl := ⟨_, by simp only [renderG, List.cons_append]; rfl⟩
    generalize renderG ((a :: as, t0) :: more) ++ sepOf e = w at hfb hsp h3 hw
    subst hw h3
    -- the first byte is neither LF nor CR, so `maybe_extract_lines` cuts behind the first blank line
    simp only [List.cons_append, extractLines, ha10, ha13, false_and, if_false]
    rw [← List.cons_append, hfb]
    simp only [List.take_left', List.drop_left', hsp, h1]
  · rw [← h1] at hx
    obtain ⟨lt, hlt, rfl⟩ := List.mem_map.mp hx
    exact (h2 lt hlt).1

/-! ### the request line: `line.split()` and the reference reader's split at single SP give the same three parts -/

theorem splitWs_sp (s : Bytes) : splitWs (32 :: s) = splitWs s := by
  simp [splitWs, show isPyWs 32 = true by decide]

theorem splitWs_word : ∀ (p s : Bytes), p ≠ [] → (∀ x ∈ p, isPyWs x = false) → (s = [] ∨ ∃ s', s = 32 :: s') →
    splitWs (p ++ s) = p :: splitWs s
  | [], _, h, _, _ => absurd rfl h
  | [c], s, _, h, hs => by
    have hc := h c (by simp)
    have h32 : isPyWs 32 = true := by decide
    rcases hs with rfl | ⟨s', rfl⟩ <;> simp [splitWs, hc, h32]
  | c :: d :: rest, s, _, h, hs => by
    have hc := h c (by simp)
    have hd := h d (by simp)
    have ih := splitWs_word (d :: rest) s (by simp) (fun x hx => h x (by simp [hx])) hs
    simp only [List.cons_append] at ih ⊢
    simp only [splitWs, hc, hd, Bool.false_eq_true, ↓reduceIte]
    simp only [splitWs, hd, Bool.false_eq_true, ↓reduceIte] at ih
    rw [ih]

theorem versionOk_shape {v : Bytes} (h : versionOk v = true) :
    ∃ a b, v = [72, 84, 84, 80, 47, a, 46, b] ∧ isDigit a = true ∧ isDigit b = true := by
  unfold versionOk at h
  split at h
  · exact ⟨_, _, rfl, by simpa using h⟩
  · cases h

theorem version_no_ws {v : Bytes} (h : versionOk v = true) : v ≠ [] ∧ ∀ x ∈ v, isPyWs x = false := by
  obtain ⟨a, b, rfl, ha, hb⟩ := versionOk_shape h
  have fixed : isPyWs 72 = false ∧ isPyWs 84 = false ∧ isPyWs 80 = false ∧ isPyWs 47 = false ∧ isPyWs 46 = false := by decide
  simp [fixed, digit_not_pyWs _ ha, digit_not_pyWs _ hb]

theorem digits_no_ws {a b c : UInt8} (ha : isDigit a = true) (hb : isDigit b = true) (hc : isDigit c = true) :
    [a, b, c] ≠ [] ∧ ∀ x ∈ [a, b, c], isPyWs x = false := by
  refine ⟨by simp, fun x hx => ?_⟩
  simp only [List.mem_cons, List.not_mem_nil, or_false] at hx
  rcases hx with rfl | rfl | rfl <;> exact digit_not_pyWs _ ‹_›

theorem splitWs_of_requestLine {l m t v : Bytes} (hl : cleanLine l) (h : Ref.requestLine l = some (m, t, v)) :
    splitWs l = [m, t, v] := by
  -- a piece between single SPs that the reference reader accepts is a word for `split()`
  have hws : ∀ p ∈ splitOn 32 l, Ref.noWs p = true → p ≠ [] ∧ ∀ x ∈ p, isPyWs x = false := by
    intro p hp hn
    rw [splitOn_eq] at hp
    simp only [Ref.noWs, Bool.and_eq_true, Bool.not_eq_true', List.all_eq_true] at hn
    refine ⟨by intro e; subst e; simp at hn, fun x hx => ?_⟩
    have hinf := (splitSep_piece_infix 32 l p hp).subset hx
    have hn' := hn.2 x hx
    simp only [Bool.or_eq_false_iff, decide_eq_false_iff_not] at hn'
    exact (isPyWs_false_iff x).mpr ⟨fun e => splitSep_pieces 32 l p hp (e ▸ hx), hn'.1.1, fun e => hl.2 (e ▸ hinf),
      hn'.1.2, hn'.2, fun e => hl.1 (e ▸ hinf)⟩
  have hj := joinBy_splitSep 32 l
  rw [← splitOn_eq] at hj
  revert h
  fun_cases Ref.requestLine l
  case case1 a b c hs hok =>
    rintro ⟨⟩
    simp only [Bool.and_eq_true] at hok
    rw [hs] at hj hws
    obtain ⟨ha, haw⟩ := hws m (by simp) hok.1.1
    obtain ⟨hb, hbw⟩ := hws t (by simp) hok.1.2
    obtain ⟨hc, hcw⟩ := version_no_ws hok.2
    have : l = m ++ 32 :: (t ++ 32 :: (v ++ [])) := by simpa [joinBy] using hj.symm
    rw [this, splitWs_word m _ ha haw (.inr ⟨_, rfl⟩), splitWs_sp, splitWs_word t _ hb hbw (.inr ⟨_, rfl⟩), splitWs_sp,
      splitWs_word v _ hc hcw (.inl rfl)]
    rfl
  all_goals rintro ⟨⟩

theorem readRequestLine_version {authOk : Bytes → Bytes → Bool} {l m t v : Bytes} {h : ReqHead}
    (hs : splitWs l = [m, t, v]) (hr : readRequestLine authOk l = some h) : h.version = v := by
  revert hr
  -- every branch that returns a head takes its version from the third part of the split
  fun_cases readRequestLine authOk l
  all_goals rintro ⟨⟩
  all_goals simp_all

end MitmVerif.C01
