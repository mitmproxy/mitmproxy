/-
  C23 — the canonical text forms of IPv4 / IPv4-mapped addresses (`dotted`, `mappedText` of Lemmas/C22Render) are
  fixed points of the host normalisation (`lower()`, `removesuffix(".")`).  ASCII lower-casing leaves them alone
  (digits, dots, colons and a lower-case `ffff`) and they end in a digit.  With the read-back lemmas of
  Lemmas/C22Render this discharges the parse hypotheses of the spelling-class theorems for these texts.
-/
import MitmVerif.Model.C23
import MitmVerif.Lemmas.C22Render
namespace MitmVerif.Lemmas.C23
open MitmVerif MitmVerif.C22 MitmVerif.C23 MitmVerif.Lemmas.C22

private theorem lower_octet (v : Nat) (hv : v < 256) : (renderOctet v).map asciiLowerB = renderOctet v := by
  have h : ∀ c ∈ renderOctet v, asciiLowerB c = id c := by
    intro c hc
    have hd := renderOctet_digits ⟨v, hv⟩ c hc
    simp only [isDigit, Bool.and_eq_true, decide_eq_true_eq] at hd
    simp only [asciiLowerB, id]
    split
    · omega
    · rfl
  rw [List.map_congr_left h, List.map_id]

theorem lower_dotted (a b c d : Nat) (ha : a < 256) (hb : b < 256) (hc : c < 256) (hd : d < 256) :
    (dotted a b c d).map asciiLowerB = dotted a b c d := by
  simp only [dotted, List.map_append, List.map_cons, lower_octet a ha, lower_octet b hb, lower_octet c hc,
    lower_octet d hd]
  rfl

theorem lower_mapped (a b c d : Nat) (ha : a < 256) (hb : b < 256) (hc : c < 256) (hd : d < 256) :
    (mappedText a b c d).map asciiLowerB = mappedText a b c d := by
  simp only [mappedText, List.map_append, lower_dotted a b c d ha hb hc hd]
  rfl

private theorem last_not_dot (x : Text) (d : Nat) (hd : d < 256) :
    (x ++ renderOctet d).getLast? ≠ some 0x2e := by
  have hne : renderOctet d ≠ [] := renderOctet_ne_nil ⟨d, hd⟩
  rw [List.getLast?_append, List.getLast?_eq_some_getLast hne]
  intro e
  exact (digit_not_sep _ (renderOctet_digits ⟨d, hd⟩ _ (List.getLast_mem hne))).1 (Option.some.inj e)

/-- a lower-case text that ends in an octet is a fixed point of `lower().removesuffix(".")` -/
private theorem normHost_ends_octet (x : Text) (d : Nat) (hd : d < 256)
    (hl : (x ++ renderOctet d).map asciiLowerB = x ++ renderOctet d) :
    normHost (x ++ renderOctet d) = x ++ renderOctet d := by
  have h := last_not_dot x d hd
  simp only [normHost, hl, dropTrailingDot]
  generalize x ++ renderOctet d = t at h
  simp [h]

theorem normHost_dotted (a b c d : Nat) (ha : a < 256) (hb : b < 256) (hc : c < 256) (hd : d < 256) :
    normHost (dotted a b c d) = dotted a b c d := by
  have e : dotted a b c d = (renderOctet a ++ 0x2e :: (renderOctet b ++ 0x2e :: (renderOctet c ++ [0x2e]))) ++ renderOctet d := by
    simp [dotted]
  have hl := lower_dotted a b c d ha hb hc hd
  rw [e] at hl ⊢
  exact normHost_ends_octet _ d hd hl

theorem normHost_mapped (a b c d : Nat) (ha : a < 256) (hb : b < 256) (hc : c < 256) (hd : d < 256) :
    normHost (mappedText a b c d) = mappedText a b c d := by
  have e : mappedText a b c d = ([0x3a, 0x3a, 0x66, 0x66, 0x66, 0x66, 0x3a] ++
      (renderOctet a ++ 0x2e :: (renderOctet b ++ 0x2e :: (renderOctet c ++ [0x2e])))) ++ renderOctet d := by
    simp [mappedText, dotted]
  have hl := lower_mapped a b c d ha hb hc hd
  rw [e] at hl ⊢
  exact normHost_ends_octet _ d hd hl

end MitmVerif.Lemmas.C23
