/-
  C18 — what the callback can answer, for every protocol type (`select_cases`); what `entryOk` says of a table entry
  (`entryOk_iff`); and the kernel passes over the regenerated table (the expensive part: they only change when Gen/C18.lean
  or the model changes).  The kernel compares every table entry with the hand model (`pModel`); the other four predicates
  of `entryOk` hold of the model's answer on every offer list (`entryOk_model`).  The 32 rows are checked in four chunks of
  eight (`passChunk`, one `decide +kernel` each); `chunksCover` says the chunks are the whole table, `rowGo_iff` that a pass
  of `rowGo` reads the row as `decodeRow` (hence `tableEntries`) does.
-/
import MitmVerif.Model.C18
namespace MitmVerif.C18
open MitmVerif

def passChunk (i : Nat) : List (Cfg × Nat) := ((configsC.zip Gen.C18.rows).drop (8 * i)).take 8

theorem firstIn_some {α : Type} [DecidableEq α] (alp : List α) :
    ∀ (l : List α) (r : α), firstIn alp l = some r → r ∈ l ∧ r ∈ alp
  | [], r, h => by simp [firstIn] at h
  | x :: xs, r, h => by
    unfold firstIn at h
    split at h
    · next hx => simp only [Option.some.injEq] at h; subst h; exact ⟨by simp, hx⟩
    · have := firstIn_some alp xs r h
      exact ⟨by simp [this.1], this.2⟩

/-! ### the callback, for every protocol type -/

section
variable {α : Type} [DecidableEq α] {http1 httpAll : List α} {c : Option α} {s : Upstream α} {h2on : Bool} {offers : List α}

/-- what the callback can answer: one of the offers — the override; or, without one, the upstream's protocol or an HTTP
    protocol of the enabled set -/
theorem select_cases {r : α} (h : alpnSelectG http1 httpAll c s h2on offers = some r) :
    r ∈ offers ∧ (c = some r ∨ c = none ∧ (s = .proto r ∨ r ∈ (if h2on then httpAll else http1))) := by
  unfold alpnSelectG at h
  split at h
  · split at h
    · next hx => cases h; exact ⟨hx, .inl rfl⟩
    · cases h
  · have hf := fun h => firstIn_some (if h2on then httpAll else http1) offers r h
    split at h
    · split at h
      · next hy => cases h; exact ⟨hy, .inr ⟨rfl, .inl rfl⟩⟩
      · exact ⟨(hf h).1, .inr ⟨rfl, .inr (hf h).2⟩⟩
    · cases h
    · exact ⟨(hf h).1, .inr ⟨rfl, .inr (hf h).2⟩⟩

theorem select_mem {r : α} (h : alpnSelectG http1 httpAll c s h2on offers = some r) : r ∈ offers :=
  (select_cases h).1

/-- an override is answered by itself or by nothing -/
theorem select_override (http1 httpAll : List α) (x : α) (s : Upstream α) (h2on : Bool) (offers : List α) :
    alpnSelectG http1 httpAll (some x) s h2on offers = none ∨ alpnSelectG http1 httpAll (some x) s h2on offers = some x := by
  simp only [alpnSelectG]
  split
  · exact .inr rfl
  · exact .inl rfl

/-- with http2 off, a protocol outside `http1` is selected only where the override or the upstream names it -/
theorem select_h2off {h2 : α} (hh : h2 ∉ http1) (hc : c ≠ some h2) (hs : s ≠ .proto h2) :
    alpnSelectG http1 httpAll c s false offers ≠ some h2 := fun h =>
  (select_cases h).2.elim hc fun h1 => h1.2.elim hs hh

end

/-- what `entryOk` says of an entry: it is the model's answer, and the four properties hold of it -/
theorem entryOk_iff (cfg : Cfg) (o : List Nat) (r : Option Nat) : entryOk cfg o r = true ↔
    r = alpnSelectC cfg o ∧ (∀ x, r = some x → x ∈ o) ∧
    (cfg.1 = none → (cfg.2.1 = .refused → r = none) ∧ ∀ y, cfg.2.1 = .proto y → y ∈ o → r = some y) ∧
    (cfg.1 = some Gen.C18.swpClass → r = none ∨ r = some Gen.C18.swpClass) ∧
    (cfg.2.2 = false → cfg.2.1 ≠ .proto 1 → r ≠ some 1) := by
  simp only [entryOk, Bool.and_eq_true, and_assoc]
  refine and_congr beq_iff_eq (and_congr ?_ (and_congr ?_ (and_congr ?_ ?_)))
  · cases r <;> simp [pSel]
  · obtain ⟨c, s, h⟩ := cfg
    cases c <;> cases s <;> simp [pMirror]
    exact Decidable.imp_iff_not_or.symm
  · simp [pSwp, Decidable.imp_iff_not_or]
  · cases h : cfg.2.2 <;> simp [pH2off, h, Decidable.or_iff_not_imp_left]

/-- the model's own answer passes: the four properties are those of the callback above -/
theorem entryOk_model (cfg : Cfg) (hc : cfg.1 = none ∨ cfg.1 = some Gen.C18.swpClass) (o : List Nat) :
    entryOk cfg o (alpnSelectC cfg o) = true := by
  obtain ⟨c, s, h2on⟩ := cfg
  refine (entryOk_iff ..).mpr ⟨rfl, fun x => select_mem, ?_, ?_, ?_⟩
  · rintro rfl
    exact ⟨by rintro rfl; rfl, by rintro y rfl hy; simp [alpnSelectC, alpnSelectG, hy]⟩
  · rintro rfl
    exact select_override ..
  · rintro rfl hs
    exact select_h2off (by decide) (by rcases hc with h | h <;> rw [h] <;> decide) hs

/-- a pass of `rowGo` checks exactly the entries `decodeRow` reads from the row -/
theorem rowGo_iff (cfg : Cfg) (P : List Nat → Option Nat → Bool) : ∀ (cs : List Nat) (r : Nat),
    rowGo P cs r = true ↔
      ∀ e ∈ decodeRow cfg (cs.map (decOff (Gen.C18.maxLen + 1))) r, e.1 = cfg ∧ P e.2.1 e.2.2 = true
  | [], r => by simp [rowGo, decodeRow]
  | c :: cs, 0 => by simp [rowGo, decodeRow, decodeR, rowGo_iff cfg P cs 0]
  | c :: cs, k + 1 => by simp [rowGo, decodeRow, rowGo_iff cfg P cs ((k + 1) / 9)]

/-- rows that agree with the model, under configurations without an override or with the secure-web-proxy one, pass `rowsOk` -/
theorem rowsOk_of_model {ps : List (Cfg × Nat)}
    (h : ps.all (fun p => (p.1.1 == none || p.1.1 == some Gen.C18.swpClass) &&
      rowGo (pModel p.1) Gen.C18.offerCodes p.2) = true) : rowsOk ps = true := by
  simp only [rowsOk, List.all_eq_true, Bool.and_eq_true, Bool.or_eq_true, beq_iff_eq] at h ⊢
  intro p hp
  refine (rowGo_iff p.1 _ _ _).mpr fun e he => ?_
  obtain ⟨he1, hm⟩ := (rowGo_iff p.1 _ _ _).mp (h p hp).2 e he
  rw [eq_of_beq hm]
  exact ⟨he1, entryOk_model p.1 (h p hp).1 _⟩

theorem tablePass0 : rowsOk (passChunk 0) = true := rowsOk_of_model (by decide +kernel)
theorem tablePass1 : rowsOk (passChunk 1) = true := rowsOk_of_model (by decide +kernel)
theorem tablePass2 : rowsOk (passChunk 2) = true := rowsOk_of_model (by decide +kernel)
theorem tablePass3 : rowsOk (passChunk 3) = true := rowsOk_of_model (by decide +kernel)

theorem chunksCover : configsC.zip Gen.C18.rows = passChunk 0 ++ passChunk 1 ++ passChunk 2 ++ passChunk 3 ∧
    Gen.C18.rows.length = configsC.length := by decide +kernel

end MitmVerif.C18
