/-
  C27, the flow invariant: every stored flow carries a query of the client under its id and at most a response that answers
  it; every case of `Handled` keeps it, and the trace of a run is justified in temporal order (each output by the queries
  announced before it).
-/
import MitmVerif.Lemmas.C27Step
set_option linter.unusedVariables false
set_option linter.unusedSimpArgs false
namespace MitmVerif.C27
open MitmVerif MitmVerif.C25

/-! ### the invariant and what it demands of outputs -/

/-- the messages the addon script puts into flows -/
def addonMsgs : List Act → List Msg
  | [] => []
  | .respond m :: r => m :: addonMsgs r
  | .pass :: r => addonMsgs r
  | .clear :: r => addonMsgs r
  | .err :: r => addonMsgs r

/-- `r` is a legitimate response for the query `q`: an addon made it, or it has the query's id and question section -/
def Answers (A : List Msg) (q r : Msg) : Prop := r ∈ A ∨ (r.id = q.id ∧ r.questions = q.questions)

/-- a stored flow carries a query of the client with the id it is stored under; its response answers that query -/
def FlowOk (A S : List Msg) (k : Nat) (f : Flow) : Prop :=
  ∃ q, f.request = some q ∧ q.id = k ∧ q ∈ S ∧ ∀ r, f.response = some r → Answers A q r

def Inv (A : List Msg) (σ : Core) : Prop :=
  (∀ k f, (k, f) ∈ σ.flows → FlowOk A σ.seen k f) ∧ (∀ m ∈ addonMsgs σ.acts, m ∈ A)

/-- what the property demands of one observable output, `S` = the client's queries so far -/
def OutOk (A S : List Msg) : Out → Prop
  | .hook h f => ∃ q, f.request = some q ∧ q ∈ S ∧ (h = .response → ∃ r, f.response = some r ∧ Answers A q r)
  | .toClient m _ => m ∈ A ∨ ∃ q ∈ S, q.id = m.id ∧ q.questions = m.questions
  | _ => True

/-- consuming an action of the script: what holds of every response the script will set holds of the one set now and of
    those still to come; nothing else changes -/
theorem popAct_spec {Q : Msg → Prop} (σ : Core) (h : ∀ m ∈ addonMsgs σ.acts, Q m) :
    (∀ m ∈ addonMsgs (popAct σ).2.acts, Q m) ∧ (∀ m, (popAct σ).1 = .respond m → Q m) ∧
    (popAct σ).2.flows = σ.flows ∧ (popAct σ).2.seen = σ.seen ∧ (popAct σ).2.phase = σ.phase := by
  unfold popAct
  cases ha : σ.acts with
  | nil => simp [ha] at h ⊢; simp [ha, addonMsgs]
  | cons a r =>
    cases a <;> simp_all [addonMsgs]

/-! ### traces: every output is justified by the queries that arrived *before* it -/

/-- the client query a `dns_request` hook announces -/
def reqOf : Out → List Msg
  | .hook .request f => f.request.toList
  | _ => []

/-- the client queries announced in a trace, in order of arrival -/
def queriesOf (tr : List Out) : List Msg := tr.flatMap reqOf

/-- every output of the trace satisfies `OutOk` with respect to `S` (newest first) extended by the queries announced
    up to and including that output -/
def TraceOk (A : List Msg) : List Msg → List Out → Prop
  | _, [] => True
  | S, o :: tr => OutOk A (reqOf o ++ S) o ∧ TraceOk A (reqOf o ++ S) tr

def NoQuery (tr : List Out) : Prop := ∀ o ∈ tr, reqOf o = []

theorem queriesOf_noQuery {tr : List Out} (h : NoQuery tr) : queriesOf tr = [] := by
  induction tr with
  | nil => rfl
  | cons o tr ih =>
    have h := List.forall_mem_cons.mp h
    simp [queriesOf, h.1] at ih ⊢
    exact ih h.2

theorem queriesOf_append (a b : List Out) : queriesOf (a ++ b) = queriesOf a ++ queriesOf b := by
  simp [queriesOf]

theorem reqOf_reverse (o : Out) : (reqOf o).reverse = reqOf o := by
  cases o with
  | hook h f => cases h <;> cases hr : f.request <;> simp [reqOf, hr]
  | _ => rfl

theorem TraceOk_noQuery {A S : List Msg} {tr : List Out} (hp : NoQuery tr) (h : ∀ o ∈ tr, OutOk A S o) : TraceOk A S tr := by
  induction tr with
  | nil => trivial
  | cons o tr ih =>
    have hp := List.forall_mem_cons.mp hp
    have h := List.forall_mem_cons.mp h
    simp only [TraceOk, hp.1, List.nil_append]
    exact ⟨h.1, ih hp.2 h.2⟩

theorem TraceOk_append {A : List Msg} : ∀ (t1 t2 : List Out) (S : List Msg),
    TraceOk A S (t1 ++ t2) ↔ TraceOk A S t1 ∧ TraceOk A ((queriesOf t1).reverse ++ S) t2 := by
  intro t1
  induction t1 with
  | nil => intro t2 S; simp [TraceOk, queriesOf]
  | cons o t1 ih =>
    intro t2 S
    simp only [List.cons_append, TraceOk, ih]
    have : (queriesOf (o :: t1)).reverse ++ S = (queriesOf t1).reverse ++ (reqOf o ++ S) := by
      simp [queriesOf, reqOf_reverse]
    rw [this]
    exact and_assoc.symm

/-- unfolding `TraceOk`: the output at any position is justified by the queries announced up to that position -/
theorem TraceOk_at {A : List Msg} : ∀ (pre : List Out) (S : List Msg) (o : Out) (post : List Out),
    TraceOk A S (pre ++ o :: post) → OutOk A ((queriesOf (pre ++ [o])).reverse ++ S) o := by
  intro pre S o post h
  rw [TraceOk_append] at h
  have h2 := h.2
  simp only [TraceOk] at h2
  have : (queriesOf (pre ++ [o])).reverse ++ S = reqOf o ++ ((queriesOf pre).reverse ++ S) := by
    simp [queriesOf, reqOf_reverse]
  rw [this]; exact h2.1

/-! ### the flow invariant: every case of `Handled` keeps it, and its trace is justified in temporal order -/

/-- result of a handler that announces no query: invariant kept, `seen` unchanged, outputs justified -/
def Good (A : List Msg) (σ : Core) (r : Core × List Out) : Prop :=
  Inv A r.1 ∧ r.1.seen = σ.seen ∧ ∀ o ∈ r.2, reqOf o = [] ∧ OutOk A σ.seen o

/-- such outputs put in front of a handler that ran on a state with the same `seen` -/
theorem Good.pre {A : List Msg} {σ τ : Core} {r : Core × List Out} (pre : List Out) (h : Good A τ r) (hs : τ.seen = σ.seen)
    (hpre : ∀ o ∈ pre, reqOf o = [] ∧ OutOk A σ.seen o) : Good A σ (r.1, pre ++ r.2) :=
  ⟨h.1, h.2.1.trans hs, fun o ho => (List.mem_append.mp ho).elim (hpre o) fun ho => hs ▸ h.2.2 o ho⟩

/-- the invariant reads the flow table, the script and `seen` only -/
theorem Inv.congr {A : List Msg} {σ τ : Core} (hi : Inv A σ) (hf : τ.flows = σ.flows) (ha : τ.acts = σ.acts)
    (hs : τ.seen = σ.seen) : Inv A τ :=
  ⟨fun k f hm => hs ▸ hi.1 k f (hf ▸ hm), ha ▸ hi.2⟩

/-- a hook on a flow that carries a query of the client under its id, and at most a response that answers it -/
theorem Inv.hook {A : List Msg} {σ : Core} (hinv : Inv A σ) {k : Nat} {f : Flow} {q : Msg} (hreq : f.request = some q)
    (hk : q.id = k) (hq : q ∈ σ.seen) (hr : ∀ r, f.response = some r → Answers A q r) :
    Inv A (afterHook σ k f) ∧ (afterHook σ k f).seen = σ.seen ∧
      ∀ r, (applyAct (popAct σ).1 f).response = some r → Answers A q r := by
  obtain ⟨hacts, hresp, hfl, hseen, _⟩ := popAct_spec σ hinv.2
  have hf2 : ∀ r, (applyAct (popAct σ).1 f).response = some r → Answers A q r := fun r h =>
    (applyAct_response h).elim (fun ha => Or.inl (hresp _ ha)) (hr r)
  refine ⟨⟨fun k' f' hm => ?_, hacts⟩, hseen, hf2⟩
  show FlowOk A (popAct σ).2.seen k' f'
  rw [hseen]
  rcases List.mem_cons.mp hm with h | h
  · cases h; exact ⟨q, (applyAct_request _ _).trans hreq, hk, hq, hf2⟩
  · exact hinv.1 k' f' (hfl ▸ h)

theorem Sends.good {c : Cfg} {mk : Msg → Bytes → Out} {σ : Core} {m : Msg} {s : Core × List Out} {A : List Msg}
    (h : Sends c mk σ m s) (hinv : Inv A σ) (hm : ∀ w, reqOf (mk m w) = [] ∧ OutOk A σ.seen (mk m w)) : Good A σ s := by
  cases h with
  | sent => exact ⟨hinv, rfl, by simpa using hm _⟩
  | raised => exact ⟨hinv, rfl, List.forall_mem_singleton.mpr ⟨rfl, trivial⟩⟩

theorem Responds.good {c : Cfg} {σ : Core} {k : Nat} {f : Flow} {m q : Msg} {s : Core × List Out} {A : List Msg}
    (h : Responds c σ k f m s) (hinv : Inv A σ) (hreq : f.request = some q) (hk : q.id = k) (hq : q ∈ σ.seen)
    (hm : Answers A q m) : Good A σ s := by
  obtain ⟨hi, hs, hf⟩ := hinv.hook (f := { f with response := some m }) hreq hk hq (fun r e => by cases e; exact hm)
  have hhook : ∀ o ∈ [Out.hook .response { f with response := some m }], reqOf o = [] ∧ OutOk A σ.seen o := by
    simpa using ⟨rfl, q, hreq, hq, fun _ => ⟨m, rfl, hm⟩⟩
  cases h with
  | cleared => exact Good.pre (r := (_, [])) [_] ⟨hi, rfl, by simp⟩ hs hhook
  | answered hr hs' =>
    rw [← applyAct_set_response _ f] at hr
    refine Good.pre [_] (hs'.good hi fun w => ⟨rfl, ?_⟩) hs hhook
    exact (hf _ hr).imp id fun ⟨h1, h2⟩ => ⟨q, hs ▸ hq, h1.symm, h2.symm⟩

/-- result of handling messages: invariant kept; the trace is justified in temporal order; `seen` = the announced queries -/
def GoodT (A : List Msg) (σ : Core) (r : Core × List Out) : Prop :=
  Inv A r.1 ∧ r.1.seen = (queriesOf r.2).reverse ++ σ.seen ∧ TraceOk A σ.seen r.2

theorem GoodT.trans {A : List Msg} {σ : Core} {r1 r2 : Core × List Out} (h1 : GoodT A σ r1) (h2 : GoodT A r1.1 r2) :
    GoodT A σ (r2.1, r1.2 ++ r2.2) := by
  refine ⟨h2.1, ?_, (TraceOk_append _ _ _).mpr ⟨h1.2.2, by rw [← h1.2.1]; exact h2.2.2⟩⟩
  simp only [queriesOf_append, List.reverse_append, List.append_assoc]
  rw [h2.2.1, h1.2.1]

theorem GoodT_nil {A : List Msg} {σ : Core} (h : Inv A σ) : GoodT A σ (σ, []) :=
  ⟨h, by simp [queriesOf], by simp [TraceOk]⟩

theorem Good.goodT {A : List Msg} {σ : Core} {r : Core × List Out} (h : Good A σ r) : GoodT A σ r ∧ queriesOf r.2 = [] := by
  have hp : NoQuery r.2 := fun o ho => (h.2.2 o ho).1
  exact ⟨⟨h.1, by rw [queriesOf_noQuery hp]; exact h.2.1, TraceOk_noQuery hp fun o ho => (h.2.2 o ho).2⟩, queriesOf_noQuery hp⟩

/-- behind the `dns_request` hook of the query `q`: outputs that announce nothing and are justified once `q` is known, then
    a handler that ran with `q` recorded -/
theorem Good.ask {A : List Msg} {σ τ : Core} {q : Msg} {s : Core × List Out} (pre : List Out) (h : Good A τ s)
    (hτ : τ.seen = q :: σ.seen) (hpre : ∀ o ∈ pre, reqOf o = [] ∧ OutOk A (q :: σ.seen) o) :
    GoodT A σ (s.1, .hook .request (askFlow σ q) :: pre ++ s.2) ∧
      queriesOf (.hook .request (askFlow σ q) :: pre ++ s.2) = [q] := by
  have g : Good A (seenCore σ q) (s.1, pre ++ s.2) := h.pre pre hτ hpre
  have hq : queriesOf (.hook .request (askFlow σ q) :: pre ++ s.2) = [q] := by
    have : queriesOf (Out.hook .request (askFlow σ q) :: pre ++ s.2) = [q] ++ queriesOf (pre ++ s.2) := by
      simp [queriesOf, reqOf]
    rw [this, g.goodT.2]; rfl
  refine ⟨⟨g.1, by rw [hq]; exact g.2.1, ?_⟩, hq⟩
  simp only [TraceOk, reqOf, Option.toList, List.singleton_append]
  exact ⟨⟨q, rfl, List.mem_cons_self .., nofun⟩, g.goodT.1.2.2⟩

/-- the report of a connect attempt announces nothing and needs no justification -/
theorem opened_ok {A S : List Msg} {pre : List Out} (h : ∀ o ∈ pre, ∃ x, o = .opened x) :
    ∀ o ∈ pre, reqOf o = [] ∧ OutOk A S o := fun o ho => by
  obtain ⟨x, rfl⟩ := h o ho
  exact ⟨rfl, trivial⟩

/-- every case of `Handled` keeps the invariant, its trace is justified in temporal order, and it announces exactly the
    query of the client it handles -/
theorem Handled.goodT {c : Cfg} {σ : Core} {fc : Bool} {x : Msg} {r : Core × List Out} {A : List Msg} (h : Handled c σ fc x r)
    (hinv : Inv A σ) : GoodT A σ r ∧ queriesOf r.2 = bif fc then [x] else [] := by
  -- the state after the `dns_request` hook of a query `q`
  have asked : ∀ q, Inv A (askedCore σ q) ∧ (askedCore σ q).seen = q :: σ.seen ∧
      ∀ r, (askedFlow σ q).response = some r → Answers A q r := fun q =>
    Inv.hook (σ := seenCore σ q) (f := askFlow σ q)
      ⟨fun k f hm => (hinv.1 k f hm).imp fun _ h => ⟨h.1, h.2.1, List.mem_cons_of_mem _ h.2.2.1, h.2.2.2⟩, hinv.2⟩
      rfl rfl (List.mem_cons_self ..) fun r e => nomatch (flowFor_response σ q.id).symm.trans e
  -- … and after a connect attempt
  have conn : ∀ q τ, Reconn (askedCore σ q) τ → Inv A τ ∧ τ.seen = q :: σ.seen := fun q τ hτ =>
    ⟨(asked q).1.congr hτ.flows hτ.acts hτ.seen, hτ.seen.trans (asked q).2.1⟩
  cases h with
  | answered ha hs =>
    obtain ⟨hi, hs', hf⟩ := asked x
    exact (hs.good hi (askedFlow_request σ x) rfl (hs' ▸ List.mem_cons_self ..) (hf _ ha)).ask [] hs' (by simp)
  | failed hτ _ hpre hs =>
    obtain ⟨hi, hs'⟩ := conn x _ hτ
    have hqs : x ∈ _ := hs' ▸ List.mem_cons_self ..
    obtain ⟨hi2, hs2, _⟩ := hi.hook (f := { askedFlow σ x with error := true }) (askedFlow_request σ x) rfl hqs (asked x).2.2
    have g := (hs.good hi2 fun w => ⟨rfl, Or.inr ⟨x, hs2 ▸ hqs, rfl, rfl⟩⟩).pre [.hook .error { askedFlow σ x with error := true }]
      hs2 (by simpa using ⟨rfl, x, askedFlow_request σ x, hqs, nofun⟩)
    exact g.ask _ hs' (opened_ok (by rcases hpre with rfl | ⟨_, rfl | rfl⟩ <;> simp))
  | forwarded hτ _ _ hpre hs =>
    obtain ⟨hi, hs'⟩ := conn x _ hτ
    exact (hs.good hi fun w => ⟨rfl, trivial⟩).ask _ hs' (opened_ok (by rcases hpre with rfl | rfl <;> simp))
  | ignored => exact ⟨GoodT_nil hinv, rfl⟩
  | orphan hl hr =>
    obtain ⟨q, h1, _⟩ := hinv.1 _ _ (mem_of_lookup hl)
    exact nomatch hr.symm.trans h1
  | relayed hl hr hq hs =>
    obtain ⟨q', h1, h2, h3, _⟩ := hinv.1 _ _ (mem_of_lookup hl)
    cases hr.symm.trans h1
    exact (hs.good hinv hr h2 h3 (Or.inr ⟨h2.symm, hq⟩)).goodT

theorem goodT_sequential (A : List Msg) : Sequential fun σ r => Inv A σ → GoodT A σ r :=
  ⟨fun _ => GoodT_nil, fun h1 h2 hi => (h1 hi).trans (h2 (h1 hi).1)⟩

theorem handleMsgs_goodT (c : Cfg) (A : List Msg) (fc : Bool) (ms : List Msg) (σ : Core) (hinv : Inv A σ) :
    GoodT A σ (handleMsgs c fc σ ms) :=
  (goodT_sequential A).loop c fc ms σ (fun _ _ τ hi => ((handled c τ fc _).goodT hi).1) hinv

/-- result of handling one message: invariant kept, `seen` only grows, outputs justified by the new `seen` -/
def Good' (A : List Msg) (σ : Core) (r : Core × List Out) : Prop :=
  Inv A r.1 ∧ (∀ m ∈ σ.seen, m ∈ r.1.seen) ∧ ∀ o ∈ r.2, OutOk A r.1.seen o

theorem OutOk_mono {A S S' : List Msg} (h : ∀ m ∈ S, m ∈ S') {o : Out} (ho : OutOk A S o) : OutOk A S' o := by
  cases o with
  | hook hk f => obtain ⟨q, h1, h2, h3⟩ := ho; exact ⟨q, h1, h _ h2, h3⟩
  | toClient m w =>
    rcases ho with h1 | ⟨q, h1, h2⟩
    · exact Or.inl h1
    · exact Or.inr ⟨q, h _ h1, h2⟩
  | _ => trivial

/-- every output of a trace justified in temporal order is justified by all the queries it announces -/
theorem TraceOk.all {A S : List Msg} {tr : List Out} (h : TraceOk A S tr) {o : Out} (ho : o ∈ tr) :
    OutOk A ((queriesOf tr).reverse ++ S) o := by
  obtain ⟨pre, post, rfl⟩ := List.append_of_mem ho
  refine OutOk_mono (fun m hm => ?_) (TraceOk_at pre S o post h)
  rw [show pre ++ o :: post = (pre ++ [o]) ++ post by simp, queriesOf_append, List.reverse_append, List.append_assoc]
  exact List.mem_append_right _ hm

theorem handleMsgs_good (c : Cfg) (A : List Msg) (fc : Bool) : ∀ (ms : List Msg) (σ : Core), Inv A σ →
    Good' A σ (handleMsgs c fc σ ms) := by
  intro ms σ hinv
  obtain ⟨h1, h2, h3⟩ := handleMsgs_goodT c A fc ms σ hinv
  exact ⟨h1, fun m hm => h2 ▸ List.mem_append_right _ hm, fun o ho => h2 ▸ h3.all ho⟩

/-! ### runs -/

/-- closing announces nothing and needs no justification -/
theorem Closes.goodT {A : List Msg} {σ : Core} {k : Core × List Out} (h : Closes σ k) (hi : Inv A σ) : GoodT A σ k :=
  (Good.goodT ⟨hi.congr h.flows h.acts h.seen, h.seen, fun o ho => by
    rcases h.mem ho with rfl | rfl <;> exact ⟨rfl, trivial⟩⟩).1

theorem run_goodT (c : Cfg) (A : List Msg) (evs : List Ev) (σ : State) (hinv : Inv A σ.core) :
    GoodT A σ.core ((run c σ evs).1.core, (run c σ evs).2) :=
  (goodT_sequential A).of_run c (fun fc _ _ _ _ τ hi => ((handled c τ fc _).goodT hi).1) (fun hk => hk.goodT) evs σ hinv

/-- `Sequential.of_run` (Lemmas/C27Step) for runs from a state that satisfies the flow invariant: `hmsg` may then assume
    `Inv` of the state a message is handled in, because handling a message and closing keep it -/
theorem Sequential.of_run_inv {R : Core → Core × List Out → Prop} (hR : Sequential R) (c : Cfg) (A : List Msg)
    (hmsg : ∀ fc buf d, ∀ m ∈ (extract c.I c.tcp buf d).1, ∀ τ, Inv A τ → R τ (handleMsg c fc τ m))
    (hclose : ∀ {σ : Core} {k : Core × List Out}, Closes σ k → R σ k) (evs : List Ev) (σ : State) (hinv : Inv A σ.core) :
    R σ.core ((run c σ evs).1.core, (run c σ evs).2) :=
  (Sequential.of_run (R := fun σ r => Inv A σ → Inv A r.1 ∧ R σ r)
    ⟨fun σ hi => ⟨hi, hR.nil σ⟩, fun h1 h2 hi => ⟨(h2 (h1 hi).1).1, hR.seq (h1 hi).2 (h2 (h1 hi).1).2⟩⟩ c
    (fun fc buf d m hm τ hi => ⟨((handled c τ fc m).goodT hi).1.1, hmsg fc buf d m hm τ hi⟩)
    (fun hk hi => ⟨hi.congr hk.flows hk.acts hk.seen, hclose hk⟩) evs σ hinv).2

theorem Inv_init (acts : List Act) (conns : List Bool) : Inv (addonMsgs acts) (init acts conns).core :=
  ⟨by intro k f h; simp [init] at h, by intro m h; exact h⟩

/-! ### which queries the message loop announces -/

/-- the loop announces the client's messages in order (none of the upstream's); all of them unless an exception ended it -/
theorem handleMsgs_queries (c : Cfg) (A : List Msg) (fc : Bool) : ∀ (ms : List Msg) (σ : Core), Inv A σ →
    queriesOf (handleMsgs c fc σ ms).2 <+: (bif fc then ms else []) ∧
    ((handleMsgs c fc σ ms).1.phase ≠ .crashed → queriesOf (handleMsgs c fc σ ms).2 = bif fc then ms else []) := by
  intro ms
  induction ms with
  | nil => intro σ _; cases fc <;> simp [handleMsgs, queriesOf]
  | cons m ms ih =>
    intro σ hinv
    by_cases hc : σ.phase = .crashed
    · simp [handleMsgs, hc, queriesOf]
    · obtain ⟨hg, hq⟩ := (handled c σ fc m).goodT hinv
      obtain ⟨i1, i2⟩ := ih _ hg.1
      simp only [handleMsgs, hc, if_false, queriesOf_append, hq]
      cases fc
      · exact ⟨i1, i2⟩
      · exact ⟨(List.prefix_append_right_inj [m]).mpr i1, fun hne => congrArg (m :: ·) (i2 hne)⟩

end MitmVerif.C27
