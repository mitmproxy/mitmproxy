/-
  C03 — the monitor state carried by the core is exactly the monitor run over the commands emitted:
  every call changes `m` by folding `mon` over its own output list (unless the call ends in the absorbing
  `bad` state, which forgets everything).

  The modules that walk `clientEvent` / `serverEvent` by `fun_cases` (C03Emit, this one, C03Inv, C05_C03) each import
  an earlier one of them: the auxiliary constants the walk generates must come from one module, or the modules cannot
  be imported together.
-/
import MitmVerif.Lemmas.C03Emit
namespace MitmVerif.C03

def Tracks (m0 : Mon) (w : W) : Prop := w.c.m = w.out.foldl mon m0

@[simp] theorem mon_send (m : Mon) (a : Bool) (t : Tag) : mon m (.send a t) = m := rfl
@[simp] theorem mon_drop (m : Mon) : mon m .drop = m := rfl
@[simp] theorem mon_getConn (m : Mon) : mon m .getConn = m := rfl
@[simp] theorem mon_openConn (m : Mon) : mon m .openConn = m := rfl
@[simp] theorem mon_closeServer (m : Mon) : mon m .closeServer = m := rfl
@[simp] theorem mon_crash (m : Mon) : mon m .crash = m := rfl

theorem tracks_ite (m0 : Mon) (b : Prop) [Decidable b] (x y : W) (hx : b → Tracks m0 x) (hy : ¬b → Tracks m0 y) :
    Tracks m0 (if b then x else y) :=
  W.ite_elim b x y hx hy

theorem foldl_mon_outIf (m : Mon) (b a : Bool) (t : Tag) : (outIf b (.send a t)).foldl mon m = m := by
  cases b <;> rfl

/-- One branch of a handler: unfold the helpers it calls and descend through their `if`s and `match`es; on a leaf fold
    `mon` over the commands it emits: only hooks and `streamStart` move the monitor, and the leaf records exactly those. -/
macro "trk_tree" : tactic => `(tactic|
  ((try simp only [resume, handlePE, peAfter, killedFire, killedSilent, sendResponse, startRequestStream, cbsErrFire,
      connectFinish, flowDone, onReqHeaders, ↓reduceIte, Bool.false_eq_true, reduceCtorEq])
   repeat' (with_reducible apply tracks_ite <;> intro _)
   all_goals repeat' split
   all_goals simp only [Tracks, fire, fireC, mk, crash, W.pre, connectSends, killFinishC, peRetC, List.foldl_append,
     List.foldl_cons, List.foldl_nil, foldl_mon_outIf, mon_send, mon_drop, mon_getConn, mon_openConn, mon_closeServer,
     mon_crash]))

theorem tracks_resume (d : Core) (k : K) (ok peek : Bool) : Tracks d.m (resume d k ok peek) := by
  cases k
  case peErr r ret => cases ret <;> trk_tree
  case cbsErr b => cases b <;> trk_tree
  all_goals trk_tree

theorem tracks_handlePE (d : Core) (isResp peek : Bool) : Tracks d.m (handlePE d isResp .top peek) := by
  trk_tree

theorem tracks_clientEvent (d : Core) (ev : AEv) : Tracks d.m (clientEvent d ev) := by
  fun_cases clientEvent d ev <;> trk_tree

theorem tracks_serverEvent (d : Core) (ev : AEv) : Tracks d.m (serverEvent d ev) := by
  fun_cases serverEvent d ev <;> trk_tree

theorem applyAction_m (c : Core) (h : Hook) (a : Action) : (applyAction c h a).m = c.m := by cases a <;> rfl

theorem tracks_handle (d : Core) (ev : AEv) (p : Bool) : Tracks d.m (handle d ev p) := by
  cases ev with
  | reqErr | respErr => exact tracks_handlePE _ _ _
  | reqHeaders | reqData | reqEOM | reqTrailers => exact tracks_clientEvent _ _
  | _ => exact tracks_serverEvent _ _

theorem tracks_procEv (c : Core) (ev : AEv) (p q : Bool) :
    (procEv c ev p q).c.bad = true ∨ Tracks c.m (procEv c ev p q) := by
  rcases procEv_cases c ev p q with ⟨_, h⟩ | ⟨_, h⟩ | ⟨_, _, _, h⟩ <;> rw [h]
  · exact .inr rfl
  · exact .inl rfl
  · exact .inr (tracks_handle _ _ _)

theorem doneCore_m (c : Core) (ev : AEv) : (doneCore c ev).m = c.m := by
  cases ev with
  | hookDone => exact applyAction_m _ _ _
  | _ => rfl

theorem tracks_procDone (c : Core) (ev : AEv) (p : Bool) :
    (procDone c ev p).c.bad = true ∨ Tracks c.m (procDone c ev p) := by
  rcases procDone_cases c ev p with ⟨_, h⟩ | ⟨_, h⟩ | ⟨k, _, _, _, h⟩ <;> rw [h]
  · exact .inr rfl
  · exact .inl rfl
  · exact .inr (doneCore_m c ev ▸ tracks_resume _ k _ p)

end MitmVerif.C03
