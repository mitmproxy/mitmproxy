/-
  C27, one message: `Handled` lists what handling one message does (with `Sends`, the end of a handler, and `Responds`,
  `handle_response`), proved once against `clientMsg`/`serverMsg`; every fact about the message loop is read off this list by
  cases, and passes to the loop — later to steps and runs — when it is `Sequential`.  First reading: `Kept`, the fields of
  the state that the control flow of `step` reads.
-/
import MitmVerif.Model.C27
set_option linter.unusedVariables false
set_option linter.unusedSimpArgs false
namespace MitmVerif.C27
open MitmVerif MitmVerif.C25

/-! ### the flow table, the wire form, addon actions, the script -/

theorem mem_of_lookup {l : List (Nat × Flow)} {k : Nat} {f : Flow} (h : l.lookup k = some f) : (k, f) ∈ l := by
  obtain ⟨l₁, l₂, rfl, _⟩ := List.lookup_eq_some_iff.mp h
  simp

theorem wireOf?_some {tcp : Bool} {b w : Bytes} (h : wireOf? tcp b = some w) : w = wireOf tcp b := by
  unfold wireOf? at h
  split at h <;> cases h
  rfl

theorem applyAct_request (a : Act) (f : Flow) : (applyAct a f).request = f.request := by
  cases a <;> rfl

theorem applyAct_response {a : Act} {f : Flow} {r : Msg} (h : (applyAct a f).response = some r) :
    a = .respond r ∨ f.response = some r := by
  cases a <;> simp_all [applyAct]

/-- the response a flow holds after the addon action `a` ran in a hook that saw the response `r` -/
def resolve : Act → Msg → Option Msg
  | .respond m', _ => some m'
  | .clear, _ => none
  | .pass, r => some r
  | .err, r => some r

theorem resolve_some {a : Act} {r m : Msg} (h : resolve a r = some m) : a = .respond m ∨ m = r := by
  cases a <;> simp_all [resolve]

theorem applyAct_set_response (a : Act) (f : Flow) (r : Msg) :
    (applyAct a { f with response := some r }).response = resolve a r := by cases a <;> rfl

theorem popAct_setFlow (σ : Core) (k : Nat) (f : Flow) : (popAct (setFlow σ k f)).1 = (popAct σ).1 := by
  unfold popAct setFlow; cases σ.acts <;> rfl

theorem popAct_seen (σ : Core) (l : List Msg) :
    (popAct { σ with seen := l }).1 = (popAct σ).1 ∧
    (popAct (popAct { σ with seen := l }).2).1 = (popAct (popAct σ).2).1 := by
  unfold popAct
  cases h : σ.acts with
  | nil => simp [h]
  | cons a r => cases r <;> simp [h]

/-! ### connect attempts; the flow a new query is attached to -/

/-- `τ` is `σ` after a connect attempt: only `serverOpen`, `serverFailed` and `conns` may differ, and an open upstream
    connection stays open -/
structure Reconn (σ τ : Core) : Prop where
  phase : τ.phase = σ.phase
  flows : τ.flows = σ.flows
  acts : τ.acts = σ.acts
  seen : τ.seen = σ.seen
  stays : σ.serverOpen = true → τ.serverOpen = true

theorem Reconn.refl (σ : Core) : Reconn σ σ := ⟨rfl, rfl, rfl, rfl, id⟩

theorem popConn_spec (σ : Core) :
    (popConn σ).2.flows = σ.flows ∧ (popConn σ).2.seen = σ.seen ∧ (popConn σ).2.acts = σ.acts ∧ (popConn σ).2.phase = σ.phase := by
  unfold popConn
  cases σ.conns <;> simp

theorem flowFor_fresh (σ : Core) (id : Nat) : (flowFor σ id).response = none ∧ (flowFor σ id).error = false := by
  unfold flowFor
  cases σ.flows.lookup id with
  | none => exact ⟨rfl, rfl⟩
  | some f =>
    dsimp only
    split
    · exact ⟨rfl, rfl⟩
    · next hn => cases hr : f.response <;> cases he : f.error <;> simp_all

theorem flowFor_response (σ : Core) (id : Nat) : (flowFor σ id).response = none := (flowFor_fresh σ id).1

/-! ### what handling one message does, case by case -/

/-- the state after a hook that shows the addons the flow `f` stored under `k`: one action of the script is consumed and
    the flow is stored as the addons leave it -/
def afterHook (σ : Core) (k : Nat) (f : Flow) : Core := setFlow (popAct σ).2 k (applyAct (popAct σ).1 f)

/-- the end of a handler (`mk` = `.toClient`, `.toServer`): `pack_message` and `SendData`, or the exception `pack_message`
    raises -/
inductive Sends (c : Cfg) (mk : Msg → Bytes → Out) (σ : Core) (m : Msg) : Core × List Out → Prop
  | sent {b w : Bytes} (hb : pack c.I m = some b) (hw : wireOf? c.tcp b = some w) : Sends c mk σ m (σ, [mk m w])
  | raised (h : ¬ ∃ b w, pack c.I m = some b ∧ wireOf? c.tcp b = some w) : Sends c mk σ m (crashed σ, [.crash])

/-- what `sendClient` and `sendServer` (`mk` = `.toClient`, `.toServer`) have in common -/
theorem Sends.of_eq {mk : Msg → Bytes → Out} (c : Cfg) (σ : Core) (m : Msg) {r : Core × List Out}
    (h : r = match pack c.I m with
      | none => (crashed σ, [.crash])
      | some b => match wireOf? c.tcp b with
        | none => (crashed σ, [.crash])
        | some w => (σ, [mk m w])) : Sends c mk σ m r := by
  subst h
  cases hp : pack c.I m with
  | none => exact .raised (by simp [hp])
  | some b =>
    cases hw : wireOf? c.tcp b with
    | none =>
      simp only [hw]
      exact .raised (by simp [hp, hw])
    | some w =>
      simp only [hw]
      exact .sent hp hw

theorem sendClient_sends (c : Cfg) (σ : Core) (m : Msg) : Sends c .toClient σ m (sendClient c σ m) := .of_eq c σ m rfl

theorem sendServer_sends (c : Cfg) (σ : Core) (m : Msg) : Sends c .toServer σ m (sendServer c σ m) := .of_eq c σ m rfl

theorem Sends.mem {c : Cfg} {mk : Msg → Bytes → Out} {σ : Core} {m : Msg} {s : Core × List Out} (h : Sends c mk σ m s)
    {o : Out} (ho : o ∈ s.2) : o = .crash ∨ ∃ b, pack c.I m = some b ∧ o = mk m (wireOf c.tcp b) := by
  cases h with
  | sent hb hw => exact Or.inr ⟨_, hb, by rw [← wireOf?_some hw]; simpa using ho⟩
  | raised => exact Or.inl (by simpa using ho)

/-- `handle_response` for the flow `f` stored under `k` and the response `m`: the `dns_response` hook, then what the addons
    left as the response (if anything) is sent to the client -/
inductive Responds (c : Cfg) (σ : Core) (k : Nat) (f : Flow) (m : Msg) : Core × List Out → Prop
  | cleared (h : resolve (popAct σ).1 m = none) :
      Responds c σ k f m (afterHook σ k { f with response := some m }, [.hook .response { f with response := some m }])
  | answered {r : Msg} {s : Core × List Out} (h : resolve (popAct σ).1 m = some r)
      (hs : Sends c .toClient (afterHook σ k { f with response := some m }) r s) :
      Responds c σ k f m (s.1, .hook .response { f with response := some m } :: s.2)

theorem handleResponse_responds (c : Cfg) (σ : Core) (k : Nat) (f : Flow) (m : Msg) :
    Responds c σ k f m (handleResponse c σ k f m) := by
  unfold handleResponse
  dsimp only
  rw [applyAct_set_response]
  cases h : resolve (popAct σ).1 m with
  | none => exact .cleared h
  | some r => exact .answered h (sendClient_sends c _ r)

theorem Responds.mem {c : Cfg} {σ : Core} {k : Nat} {f : Flow} {m0 : Msg} {s : Core × List Out} (h : Responds c σ k f m0 s)
    {o : Out} (ho : o ∈ s.2) : o = .hook .response { f with response := some m0 } ∨ o = .crash ∨
      ∃ m b, resolve (popAct σ).1 m0 = some m ∧ pack c.I m = some b ∧ o = .toClient m (wireOf c.tcp b) := by
  cases h with
  | cleared => exact Or.inl (by simpa using ho)
  | answered hr hs =>
    rcases List.mem_cons.mp ho with rfl | ho
    · exact Or.inl rfl
    · exact Or.inr ((hs.mem ho).imp id fun ⟨b, hb, e⟩ => ⟨_, b, hr, hb, e⟩)

theorem handleError_request (c : Cfg) (σ : Core) (k : Nat) {f : Flow} {q : Msg} (hq : f.request = some q) :
    handleError c σ k f = ((sendClient c (afterHook σ k { f with error := true }) (servfail q)).1,
      .hook .error { f with error := true } :: (sendClient c (afterHook σ k { f with error := true }) (servfail q)).2) := by
  unfold handleError
  simp only [applyAct_request, hq]
  rfl

/-- the state in which a query of the client is handled -/
abbrev seenCore (σ : Core) (q : Msg) : Core := { σ with seen := q :: σ.seen }

/-- the flow of a query of the client as the `dns_request` hook shows it -/
abbrev askFlow (σ : Core) (q : Msg) : Flow := { flowFor σ q.id with request := some q }

/-- … as the addons leave it -/
abbrev askedFlow (σ : Core) (q : Msg) : Flow := applyAct (popAct (seenCore σ q)).1 (askFlow σ q)

/-- … and the state after that hook -/
abbrev askedCore (σ : Core) (q : Msg) : Core := afterHook (seenCore σ q) q.id (askFlow σ q)

theorem askedFlow_request (σ : Core) (q : Msg) : (askedFlow σ q).request = some q := applyAct_request _ _

/-- the flow of a new query has no response: one found after the `dns_request` hook was set by the addon in that hook -/
theorem askedFlow_response {σ : Core} {q r : Msg} (h : (askedFlow σ q).response = some r) : (popAct σ).1 = .respond r :=
  (popAct_seen σ (q :: σ.seen)).1 ▸
    (applyAct_response h).resolve_right fun h' => nomatch (flowFor_response σ q.id).symm.trans h'

/-- the action consumed at the hook that follows the `dns_request` hook -/
theorem popAct_askedCore (σ : Core) (q : Msg) : (popAct (askedCore σ q)).1 = (popAct (popAct σ).2).1 :=
  (popAct_setFlow _ _ _).trans (popAct_seen σ (q :: σ.seen)).2

/-- What handling one message in state `σ` does (`true`: a query of the client, `false`: a message of the upstream
    server), case by case: the state it leaves and what it emits.  Every fact about the message loop is read off this
    list, not off the handlers. -/
inductive Handled (c : Cfg) (σ : Core) : Bool → Msg → Core × List Out → Prop
  /-- an addon has set a response at the `dns_request` hook -/
  | answered {q r : Msg} {s : Core × List Out} (ha : (askedFlow σ q).response = some r)
      (hs : Responds c (askedCore σ q) q.id (askedFlow σ q) r s) :
      Handled c σ true q (s.1, .hook .request (askFlow σ q) :: s.2)
  /-- `handle_error`: the flow is in error, there is no upstream, or it cannot be connected (`pre`: the report of the
      attempt) -/
  | failed {q : Msg} {τ : Core} {pre : List Out} {s : Core × List Out} (hτ : Reconn (askedCore σ q) τ)
      (hr : (askedFlow σ q).response = none)
      (hpre : pre = [] ∨ ¬ ((askedFlow σ q).error = true ∨ ¬ c.upstream = true) ∧ (pre = [.opened .killed] ∨ pre = [.opened .fail]))
      (hs : Sends c .toClient (afterHook τ q.id { askedFlow σ q with error := true }) (servfail q) s) :
      Handled c σ true q (s.1, .hook .request (askFlow σ q) :: pre ++ .hook .error { askedFlow σ q with error := true } :: s.2)
  /-- the query goes upstream, after a successful connect attempt if need be -/
  | forwarded {q : Msg} {τ : Core} {pre : List Out} {s : Core × List Out} (hτ : Reconn (askedCore σ q) τ)
      (hr : (askedFlow σ q).response = none) (hup : ¬ ((askedFlow σ q).error = true ∨ ¬ c.upstream = true))
      (hpre : pre = [] ∨ pre = [.opened .ok]) (hs : Sends c .toServer τ q s) :
      Handled c σ true q (s.1, .hook .request (askFlow σ q) :: pre ++ s.2)
  /-- no flow under the id of the upstream's message, or one whose query has another question section -/
  | ignored {m : Msg} (h : ∀ f, σ.flows.lookup m.id = some f → ∃ q, f.request = some q ∧ m.questions ≠ q.questions) :
      Handled c σ false m (σ, [])
  /-- a flow without request: `flow.request.questions` raises -/
  | orphan {m : Msg} {f : Flow} (hl : σ.flows.lookup m.id = some f) (hr : f.request = none) :
      Handled c σ false m (crashed σ, [.crash])
  /-- `handle_response`: the reply to the query stored under its id, which has the same question section -/
  | relayed {m q : Msg} {f : Flow} {s : Core × List Out} (hl : σ.flows.lookup m.id = some f) (hr : f.request = some q)
      (hq : m.questions = q.questions) (hs : Responds c σ m.id f m s) : Handled c σ false m s

/-- the body of the message loop -/
abbrev handleMsg (c : Cfg) (fc : Bool) (σ : Core) (x : Msg) : Core × List Out :=
  if fc = true then clientMsg c σ x else serverMsg c σ x

theorem handled (c : Cfg) (σ : Core) (fc : Bool) (x : Msg) : Handled c σ fc x (handleMsg c fc σ x) := by
  cases fc
  · show Handled c σ false x (serverMsg c σ x)
    unfold serverMsg
    cases hl : σ.flows.lookup x.id with
    | none => exact .ignored (by simp [hl])
    | some f =>
      cases hr : f.request with
      | none => simp only [hr]; exact .orphan hl hr
      | some q =>
        simp only [hr]
        split
        · next hq => exact .relayed hl hr hq (handleResponse_responds c σ x.id f x)
        · next hq => exact .ignored (by simp [hl, hr, hq])
  · show Handled c σ true x (clientMsg c σ x)
    unfold clientMsg
    obtain ⟨pf, ps, pa, pp⟩ := popConn_spec (askedCore σ x)
    have herr : ∀ τ, handleError c τ x.id (askedFlow σ x) = _ := fun τ => handleError_request c τ x.id (askedFlow_request σ x)
    -- the six branches of `handle_request`
    fun_cases handleRequest c (seenCore σ x) x.id (flowFor σ x.id) x
    · exact .answered ‹_› (handleResponse_responds c _ _ _ _)
    · rw [herr]
      exact .failed (pre := []) (Reconn.refl _) ‹_› (Or.inl rfl) (sendClient_sends c _ _)
    · exact .forwarded (pre := []) (Reconn.refl _) ‹_› ‹_› (Or.inl rfl) (sendServer_sends c _ x)
    · rw [herr]
      exact .failed (pre := [_]) (Reconn.refl _) ‹_› (Or.inr ⟨‹_›, Or.inl rfl⟩) (sendClient_sends c _ _)
    · refine .forwarded (pre := [_]) ?_ ‹_› ‹_› (Or.inr rfl) (sendServer_sends c _ x)
      exact ⟨pp, pf, pa, ps, fun _ => rfl⟩
    · rename_i hno _ _ _
      rw [herr]
      refine .failed (pre := [_]) ?_ ‹_› (Or.inr ⟨‹_›, Or.inr rfl⟩) (sendClient_sends c _ _)
      exact ⟨pp, pf, pa, ps, fun h => absurd h hno⟩

/-! ### from one message to the message loop -/

/-- a relation between the state before some work of the layer and its result (state after, outputs) that holds of doing
    nothing and of one piece of work after another -/
structure Sequential (R : Core → Core × List Out → Prop) : Prop where
  nil : ∀ σ, R σ (σ, [])
  seq : ∀ {σ r1 r2}, R σ r1 → R r1.1 r2 → R σ (r2.1, r1.2 ++ r2.2)

/-- … holds of the message loop when it holds of its body -/
theorem Sequential.loop {R : Core → Core × List Out → Prop} (hR : Sequential R) (c : Cfg) (fc : Bool) :
    ∀ (ms : List Msg) (σ : Core), (∀ m ∈ ms, ∀ τ, R τ (handleMsg c fc τ m)) → R σ (handleMsgs c fc σ ms)
  | [], σ, _ => hR.nil σ
  | m :: ms, σ, h => by
    unfold handleMsgs
    split
    · exact hR.nil σ
    · exact hR.seq (h m (List.mem_cons_self ..) σ)
        (hR.loop c fc ms _ fun m' hm' => h m' (List.mem_cons_of_mem _ hm'))

/-! ### what every handler leaves alone -/

/-- The fields the control flow of `step` reads: the phase stays as it is, or becomes `crashed` together with a `crash`
    output; an open upstream connection stays open. -/
def Kept (σ : Core) (r : Core × List Out) : Prop :=
  (r.1.phase = σ.phase ∨ (r.1.phase = .crashed ∧ Out.crash ∈ r.2)) ∧ (σ.serverOpen = true → r.1.serverOpen = true)

theorem Kept.refl (σ : Core) : Kept σ (σ, []) := ⟨Or.inl rfl, id⟩

/-- a handler run on a state that agrees with `σ` on these fields, its outputs among others -/
theorem Kept.of_eq {σ τ : Core} {r : Core × List Out} (h : Kept τ r) (hp : τ.phase = σ.phase)
    (ho : σ.serverOpen = true → τ.serverOpen = true) {out : List Out} (hsub : ∀ o ∈ r.2, o ∈ out) : Kept σ (r.1, out) :=
  ⟨h.1.imp (fun e => e.trans hp) (fun e => ⟨e.1, hsub _ e.2⟩), fun x => h.2 (ho x)⟩

theorem Kept.trans {σ : Core} {r1 r2 : Core × List Out} (h1 : Kept σ r1) (h2 : Kept r1.1 r2) : Kept σ (r2.1, r1.2 ++ r2.2) := by
  refine ⟨?_, fun x => h2.2 (h1.2 x)⟩
  rcases h2.1 with e | e
  · exact h1.1.imp (fun e' => e.trans e') (fun e' => ⟨e.trans e'.1, List.mem_append_left _ e'.2⟩)
  · exact Or.inr ⟨e.1, List.mem_append_right _ e.2⟩

theorem popAct_phase (σ : Core) : (popAct σ).2.phase = σ.phase := by
  unfold popAct; cases σ.acts <;> rfl

theorem popAct_serverOpen (σ : Core) : (popAct σ).2.serverOpen = σ.serverOpen := by
  unfold popAct; cases σ.acts <;> rfl

theorem afterHook_kept (σ : Core) (k : Nat) (f : Flow) :
    (afterHook σ k f).phase = σ.phase ∧ (afterHook σ k f).serverOpen = σ.serverOpen :=
  ⟨popAct_phase σ, popAct_serverOpen σ⟩

theorem Sends.kept {c : Cfg} {mk : Msg → Bytes → Out} {σ : Core} {m : Msg} {s : Core × List Out} (h : Sends c mk σ m s) :
    Kept σ s := by
  cases h with
  | sent => exact ⟨Or.inl rfl, id⟩
  | raised => exact ⟨Or.inr ⟨rfl, by simp⟩, id⟩

theorem Responds.kept {c : Cfg} {σ : Core} {k : Nat} {f : Flow} {m : Msg} {s : Core × List Out} (h : Responds c σ k f m s) :
    Kept σ s := by
  have ⟨hp, ho⟩ := afterHook_kept σ k { f with response := some m }
  cases h with
  | cleared => exact ⟨Or.inl hp, fun h => ho.trans h⟩
  | answered _ hs => exact hs.kept.of_eq hp (fun h => ho.trans h) fun o h => by simp [h]

theorem Handled.kept {c : Cfg} {σ : Core} {fc : Bool} {x : Msg} {r : Core × List Out} (h : Handled c σ fc x r) : Kept σ r := by
  have asked : ∀ q, (askedCore σ q).phase = σ.phase ∧ (σ.serverOpen = true → (askedCore σ q).serverOpen = true) :=
    fun q => ⟨(afterHook_kept _ _ _).1, fun h => (afterHook_kept _ _ _).2.trans h⟩
  cases h with
  | answered _ hs => exact hs.kept.of_eq (asked _).1 (asked _).2 fun o h => by simp [h]
  | failed hτ _ _ hs =>
    exact hs.kept.of_eq ((afterHook_kept _ _ _).1.trans (hτ.phase.trans (asked _).1))
      (fun h => (afterHook_kept _ _ _).2.trans (hτ.stays ((asked _).2 h))) fun o h => by simp [h]
  | forwarded hτ _ _ _ hs =>
    exact hs.kept.of_eq (hτ.phase.trans (asked _).1) (fun h => hτ.stays ((asked _).2 h)) fun o h => by simp [h]
  | ignored => exact Kept.refl σ
  | orphan => exact ⟨Or.inr ⟨rfl, by simp⟩, id⟩
  | relayed _ _ _ hs => exact hs.kept

theorem handleMsgs_crashed (c : Cfg) (fc : Bool) (σ : Core) (ms : List Msg) (h : σ.phase = .crashed) :
    handleMsgs c fc σ ms = (σ, []) := by
  cases ms with
  | nil => rfl
  | cons m ms => simp [handleMsgs, h]

theorem handleMsgs_kept (c : Cfg) (fc : Bool) (ms : List Msg) (σ : Core) : Kept σ (handleMsgs c fc σ ms) :=
  Sequential.loop ⟨Kept.refl, Kept.trans⟩ c fc ms σ fun _ _ τ => (handled c τ fc _).kept

theorem handleMsgs_append (c : Cfg) (fc : Bool) : ∀ (l1 l2 : List Msg) (σ : Core),
    handleMsgs c fc σ (l1 ++ l2) =
      ((handleMsgs c fc (handleMsgs c fc σ l1).1 l2).1, (handleMsgs c fc σ l1).2 ++ (handleMsgs c fc (handleMsgs c fc σ l1).1 l2).2) := by
  intro l1
  induction l1 with
  | nil => intro l2 σ; simp [handleMsgs]
  | cons m l1 ih =>
    intro l2 σ
    by_cases hc : σ.phase = .crashed
    · simp [handleMsgs, hc, handleMsgs_crashed]
    · simp only [List.cons_append, handleMsgs, hc, if_false]
      rw [ih]
      simp [List.append_assoc]
end MitmVerif.C27
