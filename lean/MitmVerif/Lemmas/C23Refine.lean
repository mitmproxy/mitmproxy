/-
  C23 — the per-update listener model (`update`) is the settled view of the per-event model (`lstep`).
  After the events of one complete `Servers.update` (`updateEvents`, from a state in which nothing is pending,
  `settled`) the guard sees every listener `update` predicts (`update_refines`), and with unique keys nothing else is
  listening (`update_refines_upper`).  Both read off `after_update`, which says what is listed and bound then.
-/
import MitmVerif.Model.C23
namespace MitmVerif.Lemmas.C23
open MitmVerif MitmVerif.C22 MitmVerif.C23

/-- what a new instance for spec `k` binds (no addresses when the start failed) -/
def startOf (start : List (Nat × Server)) (k : Nat) : Server := (lookupKey start k).getD ⟨.tcp, []⟩

/-- the events of one complete update, in the order `Servers.update` produces them: `_instances`
    replaced, the stop tasks of the instances that go away, the gather, the start tasks of the new ones -/
def updateEvents (S : State) (so : Bool) (modes : List Nat) (start : List (Nat × Server)) : List LEv :=
  let target := if so then modes else []
  [LEv.beginUpdate so modes] ++
  ((S.map (·.1)).filter (fun k => !target.contains k)).map LEv.stopped ++
  [LEv.stopsDone] ++
  (target.filter (fun k => (lookupKey S k).isNone)).map (fun k => LEv.started k (startOf start k))

/-- the settled per-event state that corresponds to a per-update state -/
def settled (S : State) : LState := ⟨S.map (·.1), S.map (·.1), S⟩

theorem lookupKey_mem (l : List (Nat × Server)) (k : Nat) (s : Server) (h : lookupKey l k = some s) :
    (k, s) ∈ l := by
  induction l with
  | nil => simp [lookupKey] at h
  | cons e es ih =>
    obtain ⟨k', s'⟩ := e
    by_cases hk : k' = k
    · simp_all [lookupKey]
    · exact List.mem_cons_of_mem _ (ih (by simpa [lookupKey, hk] using h))

theorem lookupKey_none_not_mem (l : List (Nat × Server)) (k : Nat) (h : lookupKey l k = none) :
    ∀ e ∈ l, e.1 ≠ k := by
  induction l with
  | nil => intro e he; simp at he
  | cons x xs ih =>
    obtain ⟨k', s'⟩ := x
    by_cases hk : k' = k
    · simp [lookupKey, hk] at h
    · intro e he
      rcases List.mem_cons.mp he with rfl | he
      · exact hk
      · exact ih (by simpa [lookupKey, hk] using h) e he

/-- `stopped` events only remove; they never touch `listed` / `target` -/
theorem after_stops (ks : List Nat) : ∀ st : LState,
    (lstateAfter st (ks.map LEv.stopped)).listed = st.listed ∧
    (lstateAfter st (ks.map LEv.stopped)).target = st.target ∧
    (∀ e, e ∈ (lstateAfter st (ks.map LEv.stopped)).bound ↔ (e ∈ st.bound ∧ e.1 ∉ ks)) := by
  induction ks with
  | nil => intro st; simp [lstateAfter]
  | cons k ks ih =>
    intro st
    simp only [List.map_cons, lstateAfter]
    obtain ⟨h1, h2, h3⟩ := ih (lstep st (LEv.stopped k))
    refine ⟨by simpa [lstep] using h1, by simpa [lstep] using h2, ?_⟩
    intro e
    rw [h3 e]
    simp only [lstep, List.mem_filter, bne_iff_ne, ne_eq, List.mem_cons, not_or]
    exact and_assoc

/-- `started` events for listed keys: afterwards exactly the started keys are bound to what they were
    started with, next to the bindings of the other keys -/
theorem after_starts (f : Nat → Server) (ks : List Nat) : ∀ st : LState,
    (∀ k ∈ ks, st.listed.contains k = true) →
    (lstateAfter st (ks.map fun k => LEv.started k (f k))).listed = st.listed ∧
    ∀ e, e ∈ (lstateAfter st (ks.map fun k => LEv.started k (f k))).bound ↔
      ((∃ k ∈ ks, e = (k, f k)) ∨ (e ∈ st.bound ∧ e.1 ∉ ks)) := by
  induction ks with
  | nil => intro st _; simp [lstateAfter]
  | cons k ks ih =>
    intro st hl
    have hstep : lstep st (LEv.started k (f k)) =
        { st with bound := (k, f k) :: st.bound.filter fun e => e.1 != k } := by
      simp only [lstep, hl k List.mem_cons_self, if_true]
    simp only [List.map_cons, lstateAfter, hstep]
    obtain ⟨h1, h2⟩ := ih { st with bound := (k, f k) :: st.bound.filter fun e => e.1 != k }
      (fun k' hk' => hl k' (List.mem_cons_of_mem _ hk'))
    refine ⟨h1, fun e => ?_⟩
    rw [h2 e]
    simp only [List.mem_cons, List.mem_filter, bne_iff_ne, ne_eq, not_or, exists_eq_or_imp]
    constructor
    · rintro (h | ⟨rfl | h, hn⟩)
      · exact Or.inl (Or.inr h)
      · exact Or.inl (Or.inl rfl)
      · exact Or.inr ⟨h.1, h.2, hn⟩
    · rintro ((rfl | h) | ⟨h, hne, hn⟩)
      · by_cases hk : k ∈ ks
        · exact Or.inl ⟨k, hk, rfl⟩
        · exact Or.inr ⟨Or.inl rfl, hk⟩
      · exact Or.inl h
      · exact Or.inr ⟨Or.inr ⟨h, hne⟩, hn⟩

theorem lstateAfter_append (a b : List LEv) : ∀ st : LState,
    lstateAfter st (a ++ b) = lstateAfter (lstateAfter st a) b := by
  induction a with
  | nil => intro st; rfl
  | cons e es ih => intro st; simp only [List.cons_append, lstateAfter, ih]

theorem update_eq (S : State) (so : Bool) (modes : List Nat) (start : List (Nat × Server)) :
    update S so modes start =
      (if so then modes else []).map fun k => (k, (lookupKey S k).getD (startOf start k)) := by
  cases so with
  | false => rfl
  | true =>
    simp only [update, if_true]
    exact List.map_congr_left fun k _ => by cases lookupKey S k <;> rfl

/-- the state once the events of one complete `Servers.update` are through, in the order the code
    produces them: `_instances` lists the configured keys; bound are the new instances with what they
    were started with and, as they were, the instances that are kept -/
theorem after_update (S : State) (so : Bool) (modes : List Nat) (start : List (Nat × Server)) :
    (lstateAfter (settled S) (updateEvents S so modes start)).listed = (if so then modes else []) ∧
    ∀ e, e ∈ (lstateAfter (settled S) (updateEvents S so modes start)).bound ↔
      ((∃ k ∈ (if so then modes else []), lookupKey S k = none ∧ e = (k, startOf start k)) ∨
       (e ∈ S ∧ e.1 ∈ (if so then modes else []))) := by
  simp only [updateEvents, List.append_assoc, lstateAfter_append, lstateAfter, List.cons_append,
    List.nil_append]
  generalize htg : (if so = true then modes else []) = target
  generalize hst1 : lstep (settled S) (LEv.beginUpdate so modes) = st1
  have h1t : st1.target = target := by rw [← hst1, ← htg]; simp [lstep]
  have h1b : st1.bound = S := by rw [← hst1]; simp [lstep, settled]
  obtain ⟨_, h2t, h2b⟩ := after_stops ((S.map (·.1)).filter (fun k => !target.contains k)) st1
  generalize lstateAfter st1 (((S.map (·.1)).filter (fun k => !target.contains k)).map LEv.stopped) = st2
    at h2t h2b ⊢
  generalize hst3 : lstep st2 LEv.stopsDone = st3
  have h3l : st3.listed = target := by rw [← hst3]; simp [lstep, h2t, h1t]
  have h3b : ∀ e, e ∈ st3.bound ↔ (e ∈ S ∧ e.1 ∈ target) := by
    intro e; rw [← hst3]; simp [lstep, h2t, h1t, h2b, h1b]
    exact fun h _ _ _ => h
  obtain ⟨h4l, h4b⟩ := after_starts (startOf start) (target.filter (fun k => (lookupKey S k).isNone)) st3
    (fun k hk => by simp [h3l, (List.mem_filter.mp hk).1])
  refine ⟨h4l.trans h3l, fun e => ?_⟩
  have hS : e ∈ S → lookupKey S e.1 ≠ none := fun he hn => lookupKey_none_not_mem S e.1 hn e he rfl
  rw [h4b e, h3b e]
  simp only [List.mem_filter, Option.isNone_iff_eq_none, and_assoc]
  constructor
  · rintro (h | ⟨h1, h2, _⟩)
    · exact Or.inl h
    · exact Or.inr ⟨h1, h2⟩
  · rintro (h | ⟨h1, h2⟩)
    · exact Or.inl h
    · exact Or.inr ⟨h1, h2, fun h => hS h1 h.2⟩

/-- **the per-update model is the settled view of the per-event model.** After the events of one complete
    `Servers.update`, in the order the code produces them, the guard sees every listener the per-update
    model `update` predicts (kept instances with their old sockets, new instances with what they bound). -/
theorem update_refines (S : State) (so : Bool) (modes : List Nat) (start : List (Nat × Server)) (s : Server)
    (hs : s ∈ (update S so modes start).live) :
    s ∈ (lstateAfter (settled S) (updateEvents S so modes start)).guardView := by
  obtain ⟨hl, hb⟩ := after_update S so modes start
  simp only [update_eq, State.live, List.map_map, List.mem_map, Function.comp] at hs
  obtain ⟨k, hk, rfl⟩ := hs
  simp only [LState.guardView, List.mem_map, List.mem_filter]
  refine ⟨(k, (lookupKey S k).getD (startOf start k)), ⟨(hb _).2 ?_, by simp [hl, hk]⟩, rfl⟩
  cases hlk : lookupKey S k with
  | none => exact Or.inl ⟨k, hk, hlk, rfl⟩
  | some inst => exact Or.inr ⟨lookupKey_mem S k inst hlk, hk⟩

/-! ### the other direction: nothing else is listening once the update is through -/

theorem lookupKey_of_mem_nodup (l : List (Nat × Server)) (k : Nat) (s : Server)
    (hm : (k, s) ∈ l) (hn : (l.map (·.1)).Nodup) : lookupKey l k = some s := by
  induction l with
  | nil => simp at hm
  | cons e es ih =>
    obtain ⟨k', s'⟩ := e
    simp only [List.map_cons, List.nodup_cons, List.mem_map, List.mem_cons, Prod.mk.injEq] at hn hm
    rcases hm with ⟨rfl, rfl⟩ | hm
    · simp [lookupKey]
    · have hk : k' ≠ k := fun h => hn.1 ⟨(k, s), hm, h.symm⟩
      simp [lookupKey, hk, ih hm hn.2]

/-- **nothing else is listening.** With unique keys in `_instances` (it is a dict): once the events of
    a complete update are through, every socket that is listening belongs to an instance the per-update
    model predicts. -/
theorem update_refines_upper (S : State) (so : Bool) (modes : List Nat) (start : List (Nat × Server))
    (hn : (S.map (·.1)).Nodup) (s : Server)
    (hs : s ∈ (lstateAfter (settled S) (updateEvents S so modes start)).listening) :
    s ∈ (update S so modes start).live := by
  simp only [LState.listening, List.mem_map] at hs
  obtain ⟨e, he, rfl⟩ := hs
  simp only [update_eq, State.live, List.map_map, List.mem_map, Function.comp]
  rcases ((after_update S so modes start).2 e).1 he with ⟨k, hk, hlk, rfl⟩ | ⟨hm, hk⟩
  · exact ⟨k, hk, by simp [hlk]⟩
  · exact ⟨e.1, hk, by simp [lookupKey_of_mem_nodup S e.1 e.2 hm hn]⟩

/-- the keys of the per-update state are exactly the configured modes: unique when the modes are -/
theorem update_keys (S : State) (so : Bool) (modes : List Nat) (start : List (Nat × Server)) :
    (update S so modes start).map (·.1) = if so then modes else [] := by
  rw [update_eq, List.map_map]
  exact List.map_id _

end MitmVerif.Lemmas.C23
