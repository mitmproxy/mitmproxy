/-
  C30 — the write side of every stream over the WHOLE command history: after mitmproxy has sent a FIN or a reset on a
  (connection, stream id) it never sends data or a reset on it again.  `Hist` is what the history says about the table
  of stream layers; every elementary change of an `event_to_child` call keeps it (`Hist.move`), hence every call does
  (`Call`, `Body`).  `step_spec` says what one event does to the table (`MuxInv`, `Stable`), to the history (`Hist`) and
  where its commands go (`Routed`).  The last section (`scanW`, `WInv`, `Derived`) states the same discipline for the
  commands of one call; nothing is proved of the model in that form and nothing else uses it.
-/
import MitmVerif.Lemmas.C30
namespace MitmVerif.C30.Lemmas
open MitmVerif MitmVerif.C30
open MitmVerif.C29 (Side Conn)

variable {σ : Type}

/-- `SendQuicStreamData` / `ResetQuicStream` on the client (`tc = true`) resp. server connection -/
def sendOn (tc : Bool) : QOut → Bool
  | .data tc' _ _ _ => tc' == tc
  | .reset tc' _ _ => tc' == tc
  | _ => false

/-- a FIN (`end_stream`) or a reset: mitmproxy closes its sending direction of that stream -/
def finOn (tc : Bool) : QOut → Bool
  | .data tc' _ _ fin => tc' == tc && fin
  | .reset tc' _ _ => tc' == tc
  | _ => false

theorem target_resetMap (oid : Option Nat) (code : Nat) (o : QOut) : target (resetMap oid code o) = target o := by
  cases o with
  | data tc id d fin =>
    simp only [resetMap]
    split <;> rfl
  | _ => rfl

theorem resetMap_sendOn (tc : Bool) (oid : Option Nat) (code : Nat) (o : QOut) :
    sendOn tc (resetMap oid code o) = sendOn tc o := by
  cases o with
  | data tc' id d fin => simp only [resetMap]; split <;> rfl
  | _ => rfl

theorem resetMap_finOn (tc : Bool) (oid : Option Nat) (code : Nat) (o : QOut) :
    finOn tc (resetMap oid code o) = finOn tc o := by
  cases o with
  | data tc' id d fin =>
    simp only [resetMap]
    split
    · rename_i h; simp [finOn, h.2.1]
    · rfl
  | _ => rfl

def sideT (tc : Bool) : Side := if tc then .client else .server

@[simp] theorem sideT_toClient (to : Side) : sideT (toClient to) = to := by cases to <;> rfl
@[simp] theorem toClient_sideT (tc : Bool) : toClient (sideT tc) = tc := by cases tc <;> rfl

theorem conn_setConn (s : Stream σ) (to side : Side) (c : Conn) :
    (s.setConn to c).conn side = if side = to then c else s.conn side := by
  cases to <;> cases side <;> simp [Stream.setConn, Stream.conn]

@[simp] theorem conn_setEnded (s : Stream σ) (to side : Side) : (s.setEnded to).conn side = s.conn side := by
  cases to <;> cases side <;> rfl

/-- if `o` is a FIN/reset addressed to the stream `t = (connection, stream id)`, then `x` is no data/reset addressed to it -/
def AfterAt (t : Bool × Nat) (o x : QOut) : Prop :=
  target o = some t → finOn t.1 o = true → target x = some t → sendOn t.1 x = false

/-- what the command history says about the table of stream layers: every stream command is addressed to a registered
    layer, whose side is unwritable if the command was a FIN/reset; nothing is sent on a stream after its FIN/reset -/
structure Hist (l : List (Stream σ)) (hist : List QOut) : Prop where
  own : ∀ o ∈ hist, ∀ t, target o = some t → ∃ s ∈ l, s.idOf (sideT t.1) = some t.2 ∧
    (finOn t.1 o = true → (s.conn (sideT t.1)).canWrite = false)
  after : ∀ t, hist.Pairwise (AfterAt t)

theorem Hist.owner {l : List (Stream σ)} {hist : List QOut} (h : Hist l hist) {o : QOut} (ho : o ∈ hist) {tc : Bool}
    {id : Nat} (ht : target o = some (tc, id)) : ∃ s ∈ l, if tc = true then s.cid = id else s.sid = some id := by
  obtain ⟨s, hs, hid, -⟩ := h.own o ho (tc, id) ht
  exact ⟨s, hs, by cases tc <;> simpa [sideT, Stream.idOf] using hid⟩

theorem hist_nil (l : List (Stream σ)) : Hist l [] :=
  ⟨fun _ h => (nomatch h), fun _ => .nil⟩

/-- the history does not mind layers being added -/
theorem Hist.mono {l l' : List (Stream σ)} {hist : List QOut} (h : Hist l hist) (hsub : ∀ s ∈ l, s ∈ l') :
    Hist l' hist :=
  ⟨fun o ho t hto => (h.own o ho t hto).imp fun s hs => ⟨hsub s hs.1, hs.2⟩, h.after⟩

theorem Hist.sublist {l : List (Stream σ)} {hist hist' : List QOut} (h : Hist l hist) (hs : hist'.Sublist hist) :
    Hist l hist' :=
  ⟨fun o ho => h.own o (hs.subset ho), fun t => (h.after t).sublist hs⟩

/-- the history does not mind a layer being replaced by one that keeps its ids and is writable at most where it was -/
theorem Hist.replace {pre post : List (Stream σ)} {s s' : Stream σ} {hist : List QOut} (h : Hist (pre ++ s :: post) hist)
    (hs : ∀ side id, s.idOf side = some id →
      s'.idOf side = some id ∧ ((s.conn side).canWrite = false → (s'.conn side).canWrite = false)) :
    Hist (pre ++ s' :: post) hist := by
  refine ⟨fun o ho t hto => ?_, h.after⟩
  obtain ⟨y, hy, hyid, hyc⟩ := h.own o ho t hto
  simp only [List.mem_append, List.mem_cons] at hy
  rcases hy with hy | rfl | hy
  · exact ⟨y, by simp [hy], hyid, hyc⟩
  · exact ⟨s', by simp, (hs _ _ hyid).1, fun hf => (hs _ _ hyid).2 (hyc hf)⟩
  · exact ⟨y, by simp [hy], hyid, hyc⟩

theorem Hist.setConn {pre post : List (Stream σ)} {s : Stream σ} {hist : List QOut} (h : Hist (pre ++ s :: post) hist)
    (side : Side) {c : Conn} (hc : (s.conn side).canWrite = false → c.canWrite = false) :
    Hist (pre ++ s.setConn side c :: post) hist := by
  refine h.replace fun sd id' h' => ⟨by simpa using h', ?_⟩
  rw [conn_setConn]
  split
  · subst sd; exact hc
  · exact id

/-- one more command: it has an owner (unwritable where the command ends a stream), and if it is a data/reset its
    stream has not been ended -/
theorem Hist.push {l : List (Stream σ)} {hist : List QOut} (h : Hist l hist) (o : QOut)
    (hown : ∀ t, target o = some t → ∃ s ∈ l, s.idOf (sideT t.1) = some t.2 ∧
      (finOn t.1 o = true → (s.conn (sideT t.1)).canWrite = false))
    (hafter : ∀ t, target o = some t → sendOn t.1 o = true → ∀ x ∈ hist, target x = some t → finOn t.1 x = false) :
    Hist l (hist ++ [o]) := by
  refine ⟨?_, fun t => List.pairwise_append.2 ⟨h.after t, List.pairwise_singleton _ _, ?_⟩⟩
  · intro x hx t htx
    rcases List.mem_append.1 hx with hx | hx
    · exact h.own x hx t htx
    · cases List.mem_singleton.1 hx; exact hown t htx
  · intro x hx y hy htx hfx hty
    cases List.mem_singleton.1 hy
    cases hso : sendOn t.1 o
    · rfl
    · rw [hafter t hty hso x hx htx] at hfx; cases hfx

theorem hist_quiet {l : List (Stream σ)} {hist outs : List QOut} (h : Hist l hist)
    (hq : ∀ o ∈ outs, target o = none) : Hist l (hist ++ outs) := by
  induction outs generalizing hist with
  | nil => simpa using h
  | cons o t ih =>
    have ho := hq o (by simp)
    rw [List.append_cons]
    exact ih (h.push o (fun _ ht => by rw [ho] at ht; cases ht) (fun _ ht => by rw [ho] at ht; cases ht))
      (fun x hx => hq x (by simp [hx]))

/-- the later commands may be post-processed by an `f` that keeps where each is addressed and what kind it is -/
theorem Hist.mapSuffix {l : List (Stream σ)} {a b : List QOut} (h : Hist l (a ++ b)) (f : QOut → QOut)
    (hft : ∀ o, target (f o) = target o) (hfs : ∀ tc o, sendOn tc (f o) = sendOn tc o)
    (hff : ∀ tc o, finOn tc (f o) = finOn tc o) : Hist l (a ++ b.map f) := by
  refine ⟨?_, fun t => ?_⟩
  · intro o ho t hto
    rcases List.mem_append.1 ho with ho | ho
    · exact h.own o (List.mem_append_left _ ho) t hto
    · obtain ⟨o', ho', rfl⟩ := List.mem_map.1 ho
      rw [hft] at hto; rw [hff]
      exact h.own o' (List.mem_append_right _ ho') t hto
  · obtain ⟨h1, h2, h3⟩ := List.pairwise_append.1 (h.after t)
    refine List.pairwise_append.2 ⟨h1, List.pairwise_map.2 (h2.imp ?_), ?_⟩
    · intro o x hox; simpa only [AfterAt, hft, hfs, hff] using hox
    · intro o ho x hx
      obtain ⟨x', hx', rfl⟩ := List.mem_map.1 hx
      simpa only [AfterAt, hft, hfs] using h3 o ho x' hx'

/-- no FIN/reset has gone to a stream whose layer is still writable on that side: its owner would be that layer, and
    unwritable -/
theorem Hist.open_side {l : List (Stream σ)} {s : Stream σ} {n : Next} {hist : List QOut} (h : Hist l hist)
    (hl : ListInv l n) (hs : s ∈ l) {to : Side} {id : Nat} (hid : s.idOf to = some id)
    (hw : (s.conn to).canWrite = true) :
    ∀ x ∈ hist, target x = some (toClient to, id) → finOn (toClient to) x = false := by
  intro x hx htx
  cases hf : finOn (toClient to) x
  · rfl
  · obtain ⟨y, hy, hyid, hyc⟩ := h.own x hx _ htx
    have hyc := hyc hf
    simp only [sideT_toClient] at hyid hyc
    cases hl.owner_unique hy hs hyid hid
    rw [hw] at hyc; cases hyc

/-- every elementary change of a call keeps the history, with the call's own commands, consistent with the table in
    which the layer stands -/
theorem Hist.move {pre post : List (Stream σ)} {n : Next} {hist : List QOut} {ts ts' : TS σ} (m : Move ts ts')
    (hl : ListInv (pre ++ ts.s :: post) n) (h : Hist (pre ++ ts.s :: post) (hist ++ ts.out)) :
    Hist (pre ++ ts'.s :: post) (hist ++ ts'.out) := by
  cases m with
  | fail => rw [TS.fail, ← List.append_assoc]; exact h.push _ nofun nofun
  | hook hk => rw [TS.push, ← List.append_assoc]; exact h.push _ nofun nofun
  | stop to id hid =>
    rw [TS.push, ← List.append_assoc]
    refine h.push _ ?_ (fun _ _ hso => by cases hso)
    rintro _ ⟨⟩
    exact ⟨ts.s, by simp, by simpa using hid, nofun⟩
  | data to id d hid hg =>
    rw [TS.push, ← List.append_assoc]
    refine h.push _ ?_ ?_
    · rintro _ ⟨⟩
      exact ⟨ts.s, by simp, by simpa using hid, by simp [finOn]⟩
    · rintro _ ⟨⟩ _
      exact h.open_side hl (by simp) hid hg
  | fin to id hid hg =>
    -- the side is still writable, so nothing has ended its stream; only then is it marked unwritable
    have hnf := h.open_side hl (by simp) hid hg
    rw [TS.push, ← List.append_assoc]
    refine Hist.push (h.setConn to fun _ => rfl) _ ?_ ?_
    · rintro _ ⟨⟩
      exact ⟨ts.s.setConn to { ts.s.conn to with canWrite := false }, by simp, by simpa using hid,
        fun _ => by simp [conn_setConn]⟩
    · rintro _ ⟨⟩ _
      exact hnf
  | unread side => exact h.setConn side id
  | ended side => exact h.replace fun sd id' h' => ⟨by cases side <;> exact h', by simp⟩
  | child c => exact h.replace fun sd id' h' => ⟨h', id⟩
  | openServer hsid =>
    -- the server side had no id, so nothing the history says was about it
    refine h.replace fun sd id' h' => ?_
    cases sd
    · exact ⟨h', id⟩
    · rw [show ts.s.idOf Side.server = ts.s.sid from rfl, hsid] at h'; cases h'

/-- the state of a call on the layer `s` of the table `pre ++ s :: post`, begun after the commands `hist` -/
structure Call (pre post : List (Stream σ)) (s : Stream σ) (n : Next) (hist : List QOut) (ts : TS σ) : Prop where
  ids : TSInv s.cid s.sid n ts
  hist : Hist (pre ++ ts.s :: post) (hist ++ ts.out)

theorem Call.move {pre post : List (Stream σ)} {s : Stream σ} {n : Next} {hist : List QOut}
    (hl : ListInv (pre ++ s :: post) n) (ts ts' : TS σ) (m : Move ts ts') (h : Call pre post s n hist ts) :
    Call pre post s n hist ts' :=
  ⟨TSInv.move _ _ m h.ids, Hist.move m (inv_replace hl h.ids) h.hist⟩

/-- what `withStream_spec` asks of the `body` argument of `Mux.withStream` / `streamEvent`: it keeps `Call`, in whatever
    table the layer stands (`body_data`, `body_reset`, `body_hook`, `body_start` are the four bodies `step` uses) -/
def Body (body : TS σ → TS σ) : Prop :=
  ∀ pre post s n hist ts, ListInv (pre ++ s :: post) n → Call pre post s n hist ts → Call pre post s n hist (body ts)

theorem body_data (ops : ChildOps σ) (fc : Bool) (d : Bytes) (fin : Bool) :
    Body (fun (ts : TS σ) =>
      let ts := if d.isEmpty then ts else eventToChild ops ts (.data (sideOf fc) d)
      if fin then closeLayer ops ts (sideOf fc) else ts) := by
  intro pre post s n hist ts hl h
  simp only
  have h1 : Call pre post s n hist (if d.isEmpty then ts else eventToChild ops ts (.data (sideOf fc) d)) := by
    split
    · exact h
    · exact eventToChild_closed ops (Call.move hl) h _
  split
  · exact closeLayer_closed ops (Call.move hl) h1 _
  · exact h1

theorem body_reset (ops : ChildOps σ) (fc : Bool) (code : Nat) :
    Body (fun (ts : TS σ) =>
      let ts' := closeLayer ops { ts with out := [] } (sideOf fc)
      { ts' with out := ts.out ++ ts'.out.map (resetMap (ts'.s.idOf (sideOf fc).other) code) }) := by
  intro pre post s n hist ts hl h
  simp only
  -- the commands of the call so far count as history while the layer is closed
  obtain ⟨⟨hT, hH⟩, hsid⟩ := closeLayer_closed ops
    (P := fun t => Call pre post s n (hist ++ ts.out) t ∧ ∀ x, ts.s.sid = some x → t.s.sid = some x)
    (fun t t' m hp => ⟨Call.move hl _ _ m hp.1, fun x hx => m.sid_kept (hp.2 x hx)⟩) (ts := { ts with out := [] })
    ⟨⟨h.ids.withOut nofun, by simpa using h.hist⟩, fun _ hx => hx⟩ (sideOf fc)
  refine ⟨hT.withOut fun o ho => ?_, ?_⟩
  · rcases List.mem_append.1 ho with ho | ho
    · exact (hT.cid.trans h.ids.cid.symm) ▸ (h.ids.good o ho).mono hsid
    · obtain ⟨o', ho', rfl⟩ := List.mem_map.1 ho
      intro tc id ht
      rw [target_resetMap] at ht
      exact hT.good o' ho' tc id ht
  · rw [← List.append_assoc]
    exact hH.mapSuffix _ (target_resetMap _ _) (fun tc o => resetMap_sendOn tc _ _ o) (fun tc o => resetMap_finOn tc _ _ o)

theorem body_hook (ops : ChildOps σ) (e : Option Bytes) :
    Body (fun (ts : TS σ) => eventToChild ops ts (.hookDone e)) :=
  fun _ _ _ _ _ _ hl h => eventToChild_closed ops (Call.move hl) h _

theorem body_start (ops : ChildOps σ) {body : TS σ → TS σ} (hb : Body body) :
    Body (fun ts => body (eventToChild ops ts .start)) :=
  fun _ _ _ _ _ _ hl h => hb _ _ _ _ _ _ hl (eventToChild_closed ops (Call.move hl) h _)

/-- what an event does to the table of stream layers and to the command history -/
structure Post (m : Mux σ) (hist : List QOut) (r : Mux σ × List QOut) : Prop where
  inv : MuxInv r.1
  stable : Stable m.streams r.1.streams
  hist : Hist r.1.streams (hist ++ r.2)

/-- the table is untouched and no stream command is produced -/
theorem Post.of_table {m : Mux σ} {hist : List QOut} {r : Mux σ × List QOut} (h : MuxInv m) (hH : Hist m.streams hist)
    (e1 : r.1.streams = m.streams) (e2 : r.1.next = m.next) (hq : ∀ o ∈ r.2, target o = none) : Post m hist r :=
  ⟨by unfold MuxInv; rw [e1, e2]; exact h, by rw [e1]; exact Stable.refl _, by rw [e1]; exact hist_quiet hH hq⟩

theorem Post.trans {m : Mux σ} {hist : List QOut} {r1 r2 : Mux σ × List QOut} (h1 : Post m hist r1)
    (h2 : Post r1.1 (hist ++ r1.2) r2) : Post m hist (r2.1, r1.2 ++ r2.2) :=
  ⟨h2.inv, h1.stable.trans h2.stable, by simpa [List.append_assoc] using h2.hist⟩

theorem dgramEvent_post (ops : ChildOps σ) {m : Mux σ} {hist : List QOut} (h : MuxInv m) (hH : Hist m.streams hist)
    (ci : C29.Input) (drop : C29.Output → Bool) : Post m hist (dgramEvent ops m ci drop) := by
  obtain ⟨e1, e2, e3⟩ := dgramEvent_table ops m ci drop
  exact .of_table h hH e1 e2 e3

theorem find_some {m : Mux σ} {fc : Bool} {id i : Nat} (hfind : m.find fc id = some i) :
    ∃ s, m.streams[i]? = some s ∧ if fc = true then s.cid = id else s.sid = some id := by
  obtain ⟨hlt, hp, -⟩ := List.findIdx?_eq_some_iff_getElem.1 hfind
  refine ⟨_, List.getElem?_eq_getElem hlt, ?_⟩
  cases fc <;> simpa using hp

theorem find_none {m : Mux σ} {fc : Bool} {id : Nat} (h : m.find fc id = none) :
    ∀ x ∈ m.streams, (if fc = true then x.cid == id else x.sid == some id) = false :=
  List.findIdx?_eq_none_iff.1 h

/-- working on the stream layer registered under (`fc`, `id`): the table stays consistent, the layer keeps its ids,
    every stream command produced is addressed to that pair, and the history stays clean -/
theorem withStream_spec {m : Mux σ} {i : Nat} {s : Stream σ} {body : TS σ → TS σ} {hist : List QOut} {fc : Bool}
    {id : Nat} (hi : m.streams[i]? = some s) (hreg : if fc = true then s.cid = id else s.sid = some id)
    (hinv : MuxInv m) (hH : Hist m.streams hist) (hb : Body body) :
    Post m hist (m.withStream i s body) ∧ Routed (m.withStream i s body).1 (m.withStream i s body).2 fc id := by
  obtain ⟨pre, post, e, hset⟩ := split_at hi
  have hl : ListInv (pre ++ s :: post) m.next := by rw [← e]; exact hinv
  have hc := hb pre post s m.next hist _ hl ⟨tsinv_start hl.1 (hl.2.1 s (by simp)), by simpa [← e] using hH⟩
  unfold Mux.withStream
  simp only [hset]
  exact ⟨⟨inv_replace hl hc.ids, by rw [e]; exact Stable.replace hc.ids pre post, hc.hist⟩, _, by simp,
    reg_kept hreg hc.ids.cid hc.ids.keep, hc.ids.good⟩

/-- the table after a new layer has been registered -/
abbrev registered (m : Mux σ) (snew : Stream σ) (fc : Bool) (id : Nat) : Mux σ :=
  { m with streams := m.streams ++ [snew], next := if fc = true then m.next else m.next.bump (allocIndex false (isUni id)) }

/-- registering a layer for an id that no layer carries and whose initiator is the sender: a step of its own, with no
    commands -/
theorem reg_post {m : Mux σ} {fc : Bool} {id : Nat} {snew : Stream σ} {hist : List QOut} (hinv : MuxInv m)
    (hH : Hist m.streams hist) (hfind : m.find fc id = none) (hpar : isClientInit id = fc)
    (hc : snew.cid = if fc = true then id else m.next.get (allocIndex false (isUni id)))
    (hs : snew.sid = if fc = true then none else some id) : Post m hist (registered m snew fc id, []) := by
  refine ⟨?_, Stable.append_right m.streams snew, by simpa using hH.mono fun _ h => List.mem_append_left _ h⟩
  show ListInv _ _
  cases fc
  · simp at hc hs ⊢
    exact inv_append_server hinv (find_none hfind) (isClientInit_false hpar) hc hs
  · simp at hc hs ⊢
    exact inv_append_client hinv (find_none hfind) (isClientInit_true hpar) hc hs

/-- a stream event: either the assertion guarding registration failed (nothing changed), or there is a layer
    registered under the event's id and every stream command is addressed to its pair -/
theorem streamEvent_spec (ops : ChildOps σ) {m : Mux σ} (fc : Bool) (id : Nat) {body : TS σ → TS σ} {hist : List QOut}
    (hinv : MuxInv m) (hH : Hist m.streams hist) (hb : Body body) :
    Post m hist (streamEvent ops m fc id body) ∧
    ((streamEvent ops m fc id body).2 = [.fault] ∨
      Routed (streamEvent ops m fc id body).1 (streamEvent ops m fc id body).2 fc id) := by
  unfold streamEvent
  split
  · rename_i i hfind
    obtain ⟨s, hs, hreg⟩ := find_some hfind
    simp only [hs]
    obtain ⟨hp, hr⟩ := withStream_spec hs hreg hinv hH hb
    exact ⟨hp, Or.inr hr⟩
  · rename_i hfind
    split
    · exact ⟨.of_table hinv hH rfl rfl (by simp [target]), Or.inl rfl⟩
    · rename_i hpar
      extract_lets idx cid next s m'
      have hreg : Post m hist (m', []) :=
        reg_post hinv hH hfind (by cases h1 : isClientInit id <;> cases fc <;> simp_all) rfl rfl
      obtain ⟨hp, hr⟩ := withStream_spec (i := m'.streams.length - 1) (s := s) (fc := fc) (id := id) (by simp [m'])
        (by cases fc <;> simp [s, cid]) hreg.inv hreg.hist (body_start ops hb)
      exact ⟨hreg.trans hp, Or.inr hr⟩

theorem fanOut_spec (ops : ChildOps σ) (side : Side) :
    ∀ (l pre : List (Stream σ)) (n : Next) (halt : Bool) (hist : List QOut),
    ListInv (pre ++ l) n → Hist (pre ++ l) hist →
    ListInv (pre ++ (fanOut ops side l n halt).1) (fanOut ops side l n halt).2.1 ∧
    Stable (pre ++ l) (pre ++ (fanOut ops side l n halt).1) ∧
    Hist (pre ++ (fanOut ops side l n halt).1) (hist ++ (fanOut ops side l n halt).2.2.1) := by
  intro l
  induction l with
  | nil =>
    intro pre n halt hist h hH
    exact ⟨by simpa [fanOut] using h, Stable.refl _, by simpa [fanOut] using hH⟩
  | cons s rest ih =>
    intro pre n halt hist h hH
    unfold fanOut
    split
    · exact ⟨by simpa using h, Stable.refl _, by simpa using hH⟩
    · simp only
      have hc := closeLayer_closed ops (Call.move h (hist := hist))
        (ts := { s := s.setConn side { s.conn side with canWrite := false }, next := n, out := [], halt := false })
        ⟨(tsinv_start h.1 (h.2.1 s (by simp))).congr (by simp) (by simp) rfl rfl,
          by simpa using hH.setConn side fun _ => rfl⟩ side
      have hl := inv_replace h hc.ids
      have hH' := hc.hist.sublist ((List.filter_sublist (p := keepOnConnClose)).append_left hist)
      generalize closeLayer ops _ side = ts at hc hl hH' ⊢
      obtain ⟨i1, ist, i2⟩ := ih (pre ++ [ts.s]) ts.next ts.halt (hist ++ ts.out.filter keepOnConnClose)
        (by simpa using hl) (by simpa using hH')
      exact ⟨by simpa using i1, (Stable.replace hc.ids pre rest).trans (by simpa using ist),
        by simpa [List.append_assoc] using i2⟩

theorem step_spec (ops : ChildOps σ) (m : Mux σ) (i : QIn) (hist : List QOut) (h : MuxInv m)
    (hH : Hist m.streams hist) :
    Post m hist (step ops m i) ∧
    ∀ fc id, eventKey i = some (fc, id) →
      (step ops m i).2 = [] ∨ (step ops m i).2 = [.fault] ∨ Routed (step ops m i).1 (step ops m i).2 fc id := by
  have quiet : ∀ outs : List QOut, (∀ o ∈ outs, target o = none) → Post m hist (m, outs) :=
    fun _ hq => .of_table h hH rfl rfl hq
  unfold step
  split
  · exact ⟨quiet _ (by simp), fun _ _ _ => Or.inl rfl⟩
  · cases i with
    | start =>
      simp only
      split
      · exact ⟨quiet _ (by simp), fun _ _ hk => by simp [eventKey] at hk⟩
      · have hp := dgramEvent_post ops (m := { m with started := true }) h hH .start (fun _ => false)
        exact ⟨⟨hp.inv, hp.stable, hp.hist⟩, fun _ _ hk => by simp [eventKey] at hk⟩
    | dgram fc d => exact ⟨dgramEvent_post ops h hH _ _, fun _ _ hk => by simp [eventKey] at hk⟩
    | hookDone tgt e =>
      cases tgt with
      | none => exact ⟨dgramEvent_post ops h hH _ _, fun _ _ hk => by simp [eventKey] at hk⟩
      | some cid =>
        simp only
        split
        · rename_i i hfind
          obtain ⟨s, hs, hreg⟩ := find_some hfind
          simp only [hs]
          obtain ⟨hp, hr⟩ := withStream_spec hs hreg h hH (body_hook ops e)
          refine ⟨hp, ?_⟩
          intro fc id hk
          simp [eventKey] at hk
          obtain ⟨rfl, rfl⟩ := hk
          exact Or.inr (Or.inr hr)
        · exact ⟨quiet _ (by simp [target]), fun _ _ _ => Or.inr (Or.inl rfl)⟩
    | streamData fc id d fin =>
      obtain ⟨hp, hr⟩ := streamEvent_spec ops fc id h hH (body_data ops fc d fin)
      refine ⟨hp, ?_⟩
      intro fc' id' hk; simp [eventKey] at hk; obtain ⟨rfl, rfl⟩ := hk; exact Or.inr hr
    | streamReset fc id code =>
      obtain ⟨hp, hr⟩ := streamEvent_spec ops fc id h hH (body_reset ops fc code)
      refine ⟨hp, ?_⟩
      intro fc' id' hk; simp [eventKey] at hk; obtain ⟨rfl, rfl⟩ := hk; exact Or.inr hr
    | connClosed fc code =>
      simp only
      obtain ⟨p1, p2, p3⟩ := connClosedPre_table m fc code
      have hp : Post m hist (connClosedPre m fc code) := .of_table h hH p1 p2 p3
      generalize connClosedPre m fc code = p at hp ⊢
      have hr := dgramEvent_post ops hp.inv hp.hist (.closed (sideOf fc) true)
        (fun o => match o with | .close c _ => c == (sideOf fc).other | _ => false)
      generalize dgramEvent ops p.1 _ _ = r at hr ⊢
      obtain ⟨f1, fst, f2⟩ := fanOut_spec ops (sideOf fc) r.1.streams [] r.1.next false _
        hr.inv (by simpa using hr.hist)
      have hf : Post r.1 (hist ++ (p.2 ++ r.2))
          (({ r.1 with streams := (fanOut ops (sideOf fc) r.1.streams r.1.next false).1,
                       next := (fanOut ops (sideOf fc) r.1.streams r.1.next false).2.1 } : Mux σ),
           (fanOut ops (sideOf fc) r.1.streams r.1.next false).2.2.1) :=
        ⟨by simpa [MuxInv] using f1, by simpa using fst, by simpa [List.append_assoc] using f2⟩
      exact ⟨(hp.trans hr).trans hf, fun _ _ hk => by simp [eventKey] at hk⟩

/-! ### one call, over its own commands

  The same discipline for a single call, in terms of the commands of that call alone and per connection side.  These are
  statements only: no lemma shows that `translate` keeps `WInv`, and the theorems above and Props/C30 use the form over
  the whole history (`Hist`). -/

/-- no data/reset after a FIN/reset (for one connection side, within one list) -/
def scanW (tc : Bool) : Bool → List QOut → Bool
  | _, [] => true
  | seen, o :: t => (if seen then !sendOn tc o else true) && scanW tc (seen || finOn tc o) t

/-- on connection `tc`: if `o` is a FIN/reset, `x` is not a data/reset -/
def AfterOn (tc : Bool) (o x : QOut) : Prop := finOn tc o = true → sendOn tc x = false

/-- `scanW` decides that the list is pairwise `AfterOn` (and free of data/resets once a FIN/reset has been seen) -/
theorem scanW_iff (tc : Bool) (seen : Bool) (l : List QOut) :
    scanW tc seen l = true ↔ (seen = true → ∀ x ∈ l, sendOn tc x = false) ∧ l.Pairwise (AfterOn tc) := by
  induction l generalizing seen with
  | nil => simp [scanW]
  | cons o t ih =>
    simp only [scanW, Bool.and_eq_true, ih, List.pairwise_cons, List.mem_cons, forall_eq_or_imp, AfterOn,
      Bool.or_eq_true]
    cases seen <;> simp
    · exact fun _ => ⟨fun h x hx hf => h hf x hx, fun h hf x hx => h x hx hf⟩
    · exact ⟨fun ⟨a, b, c⟩ => ⟨⟨a, b⟩, fun x hx _ => b x hx, c⟩, fun ⟨⟨a, b⟩, _, c⟩ => ⟨a, b, c⟩⟩

theorem scanW_pairwise {tc : Bool} {l : List QOut} : scanW tc false l = true ↔ l.Pairwise (AfterOn tc) := by
  simp [scanW_iff]

/-- write-side bookkeeping of one `event_to_child` call: `start tc` = "this call may send on that side at all"
    (the side was writable when the call began, or it is the server side and is only opened during the call) -/
structure WInv (start : Bool → Bool) (ts : TS σ) : Prop where
  scan : ∀ tc, scanW tc false ts.out = true
  fin : ∀ tc, ts.out.any (finOn tc) = true → (ts.s.conn (sideT tc)).canWrite = false
  send : ∀ tc, ts.out.any (sendOn tc) = true → start tc = true
  mono : ∀ tc, (ts.s.conn (sideT tc)).canWrite = true → start tc = true

/-- both invariants of one translation, carried together -/
def TW (c0 : Nat) (sid0 : Option Nat) (n0 : Next) (start : Bool → Bool) (ts : TS σ) : Prop :=
  TSInv c0 sid0 n0 ts ∧ WInv start ts

/-- the commands a step hands on for one layer, possibly filtered / with FINs turned into resets -/
structure Derived (ts : TS σ) (outs : List QOut) : Prop where
  scan : ∀ tc, scanW tc false outs = true
  fin : ∀ tc, outs.any (finOn tc) = true → ts.out.any (finOn tc) = true
  send : ∀ tc, outs.any (sendOn tc) = true → ts.out.any (sendOn tc) = true
  good : ∀ o ∈ outs, Good ts.s.cid ts.s.sid o

theorem Derived.filter {c0 : Nat} {sid0 : Option Nat} {n0 : Next} {start : Bool → Bool} {ts : TS σ}
    (h : TW c0 sid0 n0 start ts) (p : QOut → Bool) : Derived ts (ts.out.filter p) := by
  have hany : ∀ q : QOut → Bool, (ts.out.filter p).any q = true → ts.out.any q = true := by
    intro q hh
    simp only [List.any_eq_true, List.mem_filter] at hh ⊢
    obtain ⟨o, ⟨ho, -⟩, hf⟩ := hh
    exact ⟨o, ho, hf⟩
  exact ⟨fun tc => scanW_pairwise.2 ((scanW_pairwise.1 (h.2.scan tc)).filter p), fun tc => hany _, fun tc => hany _,
    fun o ho => h.1.good o (List.mem_filter.1 ho).1⟩

end MitmVerif.C30.Lemmas
