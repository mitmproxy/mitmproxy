/-
  C27: upstream replies nobody is waiting for; an upstream segment that completes no frame.
-/
import MitmVerif.Lemmas.C27Inv
set_option linter.unusedVariables false
set_option linter.unusedSimpArgs false
namespace MitmVerif.C27
open MitmVerif MitmVerif.C25

/-! ### replies nobody is waiting for -/

/-- the reply `m` answers the query the flow table holds for its id -/
def Solicited (σ : Core) (m : Msg) : Prop :=
  ∃ f q, σ.flows.lookup m.id = some f ∧ f.request = some q ∧ m.questions = q.questions

theorem serverMsg_unsolicited (c : Cfg) (A : List Msg) (σ : Core) (m : Msg) (hinv : Inv A σ) (h : ¬ Solicited σ m) :
    serverMsg c σ m = (σ, []) := by
  unfold serverMsg
  cases hl : σ.flows.lookup m.id with
  | none => rfl
  | some f =>
    obtain ⟨q, h1, _, _, _⟩ := hinv.1 _ _ (mem_of_lookup hl)
    simp only [h1]
    split
    · rename_i hqs; exact absurd ⟨f, q, hl, h1, hqs⟩ h
    · rfl

theorem serverMsg_solicited (c : Cfg) (σ : Core) (m : Msg) (f : Flow) (q : Msg)
    (hl : σ.flows.lookup m.id = some f) (hr : f.request = some q) (hq : m.questions = q.questions) :
    serverMsg c σ m = handleResponse c σ m.id f m := by
  unfold serverMsg
  simp [hl, hr, hq]

theorem handleMsgs_unsolicited (c : Cfg) (A : List Msg) (ms : List Msg) (σ : Core) (hinv : Inv A σ)
    (h : ∀ m ∈ ms, ¬ Solicited σ m) : handleMsgs c false σ ms = (σ, []) :=
  Sequential.loop (R := fun σ r => Inv A σ → (∀ m ∈ ms, ¬ Solicited σ m) → r = (σ, []))
    ⟨fun _ _ _ => rfl, fun h1 h2 hi hs => by
      -- the first piece of work left the state as it was, so the second ran under the same hypotheses
      cases h1 hi hs
      exact h2 hi hs⟩ c false ms σ
    (fun m hm τ hi hs => serverMsg_unsolicited c A τ m hi (hs m hm)) hinv h

/-- Data of the upstream in which no message is solicited: the only possible output is the close after a framing error, and
    only the response buffer changes. -/
theorem step_unsolicited (c : Cfg) (A : List Msg) (σ : State) (hinv : Inv A σ.core) (d : Bytes)
    (huns : ∀ m ∈ (extract c.I c.tcp σ.respBuf d).1, ¬ Solicited σ.core m) :
    (step c σ (.serverData d)).2 =
        (if σ.core.phase = .query ∧ σ.core.serverOpen = true ∧ (extract c.I c.tcp σ.respBuf d).2.2 = true then [.closeServer] else []) ∧
    ((extract c.I c.tcp σ.respBuf d).2.2 = false → (step c σ (.serverData d)).1 =
        (if σ.core.phase = .query ∧ σ.core.serverOpen = true then { σ with respBuf := (extract c.I c.tcp σ.respBuf d).2.1 } else σ)) := by
  have hmsgs := handleMsgs_unsolicited c A (extract c.I c.tcp σ.respBuf d).1 σ.core hinv huns
  rw [show Ev.serverData d = dataEv false d from rfl, step_dataEv]
  by_cases hs : σ.core.phase = .query ∧ σ.core.serverOpen = true
  · have hne : σ.core.phase ≠ .crashed := by rw [hs.1]; simp
    rw [if_pos ⟨hs.1, fun _ => hs.2⟩]
    simp only [deliver, bufOf, hmsgs, hne, if_false, hs, true_and]
    generalize extract c.I c.tcp σ.respBuf d = x
    cases hb : x.2.2 <;> simp [closeDir, setBuf]
  · rw [if_neg fun h => hs ⟨h.1, h.2 rfl⟩]
    simp only [hs, if_false, implies_true, and_true]
    exact (if_neg fun h => hs ⟨h.1, h.2.1⟩).symm

/-- a solicited reply answers a query that was handled: same id, same question section -/
theorem Solicited_seen {A : List Msg} {σ : Core} {m : Msg} (hinv : Inv A σ) (h : Solicited σ m) :
    ∃ q ∈ σ.seen, q.id = m.id ∧ q.questions = m.questions := by
  obtain ⟨f, q, hl, hr, hq⟩ := h
  obtain ⟨q', h1, h2, h3, _⟩ := hinv.1 _ _ (mem_of_lookup hl)
  rw [hr] at h1; cases h1
  exact ⟨q, h3, h2, hq.symm⟩

/-! ### a server segment that completes no frame commutes with data from the client -/

theorem buffered_server_commutes (c : Cfg) (htcp : c.tcp = true) (σ : State) (s x : Bytes)
    (hq : σ.core.phase = .query) (ho : σ.core.serverOpen = true)
    (hnone : (parse c.I (σ.respBuf ++ s)).1 = []) (hok : (parse c.I (σ.respBuf ++ s)).2.2 = false) :
    run c σ [.serverData s, .clientData x] = run c σ [.clientData x, .serverData s] := by
  -- the server's segment only extends the response buffer, in any state with this buffer that reads the server's stream
  have hs : ∀ τ : State, Serving false τ.core → τ.respBuf = σ.respBuf →
      step c τ (.serverData s) = (setBuf false τ τ.core (parse c.I (σ.respBuf ++ s)).2.1, []) := by
    intro τ h1 h3
    have hne : τ.core.phase ≠ .crashed := by rw [h1.1]; simp
    rw [show Ev.serverData s = dataEv false s from rfl, step_dataEv, if_pos h1]
    simp [deliver, extract, htcp, bufOf, h3, hnone, hok, handleMsgs, hne]
  have hsσ : Serving false σ.core := ⟨hq, fun _ => ho⟩
  simp only [run, List.append_nil, List.nil_append]
  have hc : ∀ τ : State, τ.core = σ.core → step c τ (.clientData x) = deliver c true τ (extract c.I c.tcp τ.reqBuf x) := by
    intro τ h
    rw [show Ev.clientData x = dataEv true x from rfl, step_dataEv, if_pos (by rw [h]; exact ⟨hq, nofun⟩)]
    rfl
  rw [hs σ hsσ rfl, hc σ rfl]
  dsimp only
  rw [hc (setBuf false σ σ.core (parse c.I (σ.respBuf ++ s)).2.1) rfl]
  -- the three outcomes of the client's data
  by_cases hcr : (handleMsgs c true σ.core (extract c.I c.tcp σ.reqBuf x).1).1.phase = .crashed
  · simp [deliver, setBuf, hcr, step_not_query, ended]
  · by_cases hbad : (extract c.I c.tcp σ.reqBuf x).2.2 = true
    · simp [deliver, setBuf, hcr, hbad, step_not_query, ended, closeDir]
    · simp only [deliver, setBuf, hcr, hbad, if_false, Bool.false_eq_true]
      rw [hs ⟨(handleMsgs c true σ.core (extract c.I c.tcp σ.reqBuf x).1).1, (extract c.I c.tcp σ.reqBuf x).2.1, σ.respBuf⟩
        (hsσ.of_kept (handleMsgs_kept c true _ σ.core) hcr) rfl]
      simp [setBuf]

end MitmVerif.C27
