/-
  C34 — the query and path_components views on the raw request target: reading back what `urlunparse` wrote
  (`Lemmas/C33Rest.lean`: `parts_unparse`).
-/
import MitmVerif.Lemmas.C33Rest
namespace MitmVerif.C34
open MitmVerif.C33 (PartsWF parts_wf parts_unparse targetParts_eq)

theorem targetParts_wf (scheme p : Str) : PartsWF scheme (targetParts scheme p) := parts_wf scheme _

/-- reading back what `urlunparse` wrote: the four parts come back (`*` is the one target the getter does not read as it stands) -/
theorem targetParts_unparse (scheme : Str) (t : Target) (wf : PartsWF scheme t) (hstar : unparseTarget t ≠ [42]) :
    targetParts scheme (unparseTarget t) = t := by
  rw [targetParts_eq, if_neg hstar]
  exact parts_unparse scheme t wf

/-- the query view on a request target: the assigned pairs are read back, path, `;params` and fragment stay, and writing the
    view's value back gives the same target -/
theorem query_target_roundtrip (U : UrlCodec) (hlaw : ∀ ps, U.parseQsl (U.urlencode ps) = ps) (hno : ∀ ps, 35 ∉ U.urlencode ps)
    (scheme p : Str) (ps : List (Str × Str)) (hstar : unparseTarget (setQuery U (targetParts scheme p) ps) ≠ [42]) :
    getQueryOf U scheme (setQueryOf U scheme p ps) = ps ∧
    targetParts scheme (setQueryOf U scheme p ps) = { targetParts scheme p with query := U.urlencode ps } ∧
    setQueryOf U scheme (setQueryOf U scheme p ps) (getQueryOf U scheme (setQueryOf U scheme p ps)) = setQueryOf U scheme p ps := by
  have hparts : targetParts scheme (setQueryOf U scheme p ps) = { targetParts scheme p with query := U.urlencode ps } :=
    targetParts_unparse scheme _ { targetParts_wf scheme p with query35 := hno ps } hstar
  have hget : getQueryOf U scheme (setQueryOf U scheme p ps) = ps := by
    unfold getQueryOf; rw [hparts]; exact hlaw ps
  refine ⟨hget, hparts, ?_⟩
  rw [hget]
  show unparseTarget (setQuery U (targetParts scheme (setQueryOf U scheme p ps)) ps) = _
  rw [hparts]
  rfl

end MitmVerif.C34
