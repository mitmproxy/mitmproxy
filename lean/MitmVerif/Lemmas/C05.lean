/-
  Lemmas for C05: association lists, and the send buffers of `BufferedH2Connection`.

  The quantity followed through every operation is `Conn.held c sid`: the DATA payload written for stream `sid` followed
  by what is still buffered for it.  `send_data` appends to it (`held_sendData`), one round of the flush loop
  (`flushStep` ∘ `flushPiece`) leaves it alone.  The entry points that flush — `stream_window_updated`,
  `connection_window_updated`, the post-processing of `receive_data` — are compositions of four steps (`BufOps`); a
  predicate kept by the four is kept by all of them, which is how `StreamOk` and, in later modules, `Keeps` and `Shr`
  get through.  A stream no operation is addressed to is `Untouched`.  `StreamOk` is the well-formedness of one
  buffer, `CanSubmit` what has to hold where `send_data` is called for `StreamOk` to survive; that the callers see to
  it is proved in Lemmas/C05_Sub.lean.
-/
import MitmVerif.Model.C05
namespace MitmVerif.C05
open MitmVerif

/-! ### association lists -/

theorem alookup_aset {α : Type} (k k' : Nat) (v : α) (l : List (Nat × α)) :
    alookup k' (aset k v l) = if k = k' then some v else alookup k' l := by
  induction l with
  | nil => simp [aset, alookup]
  | cons p rest ih =>
    obtain ⟨k2, v2⟩ := p
    by_cases h2 : k2 = k <;> by_cases h3 : k = k' <;> by_cases h4 : k2 = k' <;> simp_all [aset, alookup]

theorem alookup_aset_same {α : Type} (k : Nat) (v : α) (l : List (Nat × α)) : alookup k (aset k v l) = some v := by
  rw [alookup_aset, if_pos rfl]

theorem alookup_aset_ne {α : Type} (k k' : Nat) (v : α) (l : List (Nat × α)) (h : k' ≠ k) :
    alookup k' (aset k v l) = alookup k' l := by
  rw [alookup_aset, if_neg (fun e => h e.symm)]

theorem alookup_aerase {α : Type} (k k' : Nat) (l : List (Nat × α)) :
    alookup k' (aerase k l) = if k = k' then none else alookup k' l := by
  induction l with
  | nil => simp [aerase, alookup]
  | cons p rest ih =>
    obtain ⟨k2, v2⟩ := p
    simp only [aerase] at ih
    by_cases h2 : k2 = k <;> by_cases h3 : k = k' <;> by_cases h4 : k2 = k' <;> simp_all [aerase, alookup]

theorem alookup_aerase_same {α : Type} (k : Nat) (l : List (Nat × α)) : alookup k (aerase k l) = none := by
  rw [alookup_aerase, if_pos rfl]

theorem alookup_aerase_ne {α : Type} (k k' : Nat) (l : List (Nat × α)) (h : k' ≠ k) :
    alookup k' (aerase k l) = alookup k' l := by
  rw [alookup_aerase, if_neg (fun e => h e.symm)]

theorem alookup_append {α : Type} (k : Nat) (l1 l2 : List (Nat × α)) :
    alookup k (l1 ++ l2) = (match alookup k l1 with | some v => some v | none => alookup k l2) := by
  induction l1 with
  | nil => rfl
  | cons p rest ih =>
    obtain ⟨k', v'⟩ := p
    by_cases h : k' = k
    · simp [alookup, h]
    · simp [alookup, h, ih]

theorem alookup_eq_none_iff {α : Type} (k : Nat) (l : List (Nat × α)) : alookup k l = none ↔ k ∉ l.map (·.1) := by
  induction l with
  | nil => simp [alookup]
  | cons p rest ih =>
    obtain ⟨k', v⟩ := p
    by_cases h : k' = k
    · simp [alookup, h]
    · simp [alookup, h, ih, Ne.symm h]

theorem alookup_mem {α : Type} (k : Nat) (v : α) (l : List (Nat × α)) (h : alookup k l = some v) : (k, v) ∈ l := by
  induction l with
  | nil => simp [alookup] at h
  | cons p rest ih =>
    obtain ⟨k', v'⟩ := p
    by_cases hk : k' = k
    · simp [alookup, hk] at h; subst hk; subst h; simp
    · simp [alookup, hk] at h; exact List.mem_cons_of_mem _ (ih h)

theorem alookup_of_mem_nodup {α : Type} (k : Nat) (v : α) (l : List (Nat × α)) (hn : (l.map (·.1)).Nodup)
    (h : (k, v) ∈ l) : alookup k l = some v := by
  induction l with
  | nil => simp at h
  | cons p rest ih =>
    obtain ⟨k', v'⟩ := p
    simp at hn
    rcases List.mem_cons.mp h with h1 | h1
    · cases h1; simp [alookup]
    · have hne : ¬ k' = k := by
        intro e; subst e
        exact hn.1 v h1
      simp [alookup, hne]
      exact ih hn.2 h1

theorem alookup_isSome_of_mem {α : Type} (p : Nat × α) (l : List (Nat × α)) (h : p ∈ l) : (alookup p.1 l).isSome = true := by
  cases hl : alookup p.1 l with
  | none => exact absurd (List.mem_map_of_mem h) ((alookup_eq_none_iff p.1 l).mp hl)
  | some v => rfl

theorem alookup_aerase_isSome {α : Type} (k k' : Nat) (l : List (Nat × α)) (h : (alookup k' (aerase k l)).isSome = true) :
    (alookup k' l).isSome = true := by
  by_cases hk : k' = k
  · subst hk; rw [alookup_aerase_same] at h; cases h
  · rwa [alookup_aerase_ne _ _ _ hk] at h

theorem alookup_aset_isSome {α : Type} (k k' : Nat) (v : α) (l : List (Nat × α)) (h : (alookup k' l).isSome = true) :
    (alookup k' (aset k v l)).isSome = true := by
  by_cases hk : k' = k
  · subst hk; rw [alookup_aset_same]; rfl
  · rw [alookup_aset_ne _ _ _ _ hk]; exact h

theorem alookup_map_snd {α β : Type} (k : Nat) (g : α → β) (l : List (Nat × α)) :
    alookup k (l.map fun p => (p.1, g p.2)) = (alookup k l).map g := by
  induction l with
  | nil => rfl
  | cons p rest ih =>
    obtain ⟨k', v⟩ := p
    by_cases h : k' = k <;> simp [alookup, h, ih]

theorem aset_keys {α : Type} (k : Nat) (v : α) (l : List (Nat × α)) :
    (aset k v l).map (·.1) = if k ∈ l.map (·.1) then l.map (·.1) else l.map (·.1) ++ [k] := by
  induction l with
  | nil => simp [aset]
  | cons p rest ih =>
    obtain ⟨k', v'⟩ := p
    by_cases h : k' = k
    · subst h; simp [aset]
    · have h' : ¬ k = k' := fun e => h e.symm
      simp only [aset, h, if_false, List.map_cons, ih, List.mem_cons, h', false_or]
      split <;> simp

theorem mem_aset {α : Type} (k : Nat) (v : α) (l : List (Nat × α)) (p : Nat × α) (h : p ∈ aset k v l) :
    p = (k, v) ∨ p ∈ l := by
  induction l with
  | nil => simpa [aset] using h
  | cons q rest ih =>
    simp only [aset] at h
    split at h <;> simp only [List.mem_cons] at h ⊢
    · exact h.imp id .inr
    · exact h.elim (fun e => .inr (.inl e)) fun h' => (ih h').imp id .inr

/-! ### bytes of a stream: sent and buffered -/

/-- payload of the DATA frames of stream `sid`, in the order they were written -/
def dataOf (sid : Nat) : List Frame → Bytes
  | [] => []
  | .data s d _ :: rest => if s = sid then d ++ dataOf sid rest else dataOf sid rest
  | _ :: rest => dataOf sid rest

theorem dataOf_append (sid : Nat) (a b : List Frame) : dataOf sid (a ++ b) = dataOf sid a ++ dataOf sid b := by
  induction a with
  | nil => rfl
  | cons f rest ih =>
    cases f with
    | data s d fin => by_cases h : s = sid <;> simp [dataOf, h, ih]
    | hdr s fin => simp [dataOf, ih]
    | trailers s => simp [dataOf, ih]
    | rst s => simp [dataOf, ih]

def chunkBytes (l : List Chunk) : Bytes := l.flatMap (·.data)
def Conn.bufBytes (c : Conn) (sid : Nat) : Bytes := chunkBytes (c.buf sid)
/-- everything of stream `sid` the connection has taken over: written out ++ still buffered -/
def Conn.held (c : Conn) (sid : Nat) : Bytes := dataOf sid c.out ++ c.bufBytes sid

theorem buf_updS (c : Conn) (s sid : Nat) (f : Stream → Stream) : (c.updS s f).buf sid = c.buf sid := by
  unfold Conn.updS; split <;> rfl

theorem out_updS (c : Conn) (s : Nat) (f : Stream → Stream) : (c.updS s f).out = c.out := by
  unfold Conn.updS; split <;> rfl

theorem mfs_updS (c : Conn) (s : Nat) (f : Stream → Stream) : (c.updS s f).mfs = c.mfs := by
  unfold Conn.updS; split <;> rfl

theorem trl_updS (c : Conn) (s : Nat) (f : Stream → Stream) : (c.updS s f).trl = c.trl := by
  unfold Conn.updS; split <;> rfl

theorem getS_updS (c : Conn) (s sid : Nat) (f : Stream → Stream) :
    (c.updS s f).getS sid = if s = sid then (c.getS sid).map f else c.getS sid := by
  unfold Conn.updS
  cases hg : c.getS s with
  | none =>
    by_cases h : s = sid
    · subst h; simp [hg]
    · simp [h]
  | some st =>
    show alookup sid (aset s (f st) c.streams) = _
    rw [alookup_aset]
    split
    · rename_i h; subst h; simp [hg]
    · rfl

theorem getS_updS_ne (c : Conn) (s o : Nat) (f : Stream → Stream) (h : s ≠ o) : (c.updS s f).getS o = c.getS o := by
  rw [getS_updS, if_neg h]

theorem getS_updS_isSome (c : Conn) (s o : Nat) (f : Stream → Stream) :
    ((c.updS s f).getS o).isSome = (c.getS o).isSome := by
  rw [getS_updS]; split <;> simp

theorem dead_updS (c : Conn) (s : Nat) (f : Stream → Stream) : (c.updS s f).dead = c.dead := by
  unfold Conn.updS; split <;> rfl

theorem liveS_updS (c : Conn) (s sid : Nat) (f : Stream → Stream) (hf : ∀ x, s = sid → (f x).live = x.live) :
    (c.updS s f).liveS sid = c.liveS sid := by
  unfold Conn.liveS
  rw [dead_updS, getS_updS]
  by_cases h : s = sid
  · simp only [h, if_true]
    cases hg : c.getS sid with
    | none => rfl
    | some st => simp [hf st h]
  · simp [h]

theorem liveS_updS_and (c : Conn) (s x : Nat) (f : Stream → Stream) (b : Bool)
    (hf : ∀ st, (f st).live = (st.live && b)) : (c.updS s f).liveS x = (c.liveS x && (!decide (s = x) || b)) := by
  unfold Conn.liveS
  rw [dead_updS, getS_updS]
  by_cases h : s = x
  · subst h; cases c.getS s <;> simp [hf, Bool.and_assoc]
  · simp [h]

/-- a connection that differs only in buffers, output and windows -/
theorem liveS_congr (c c' : Conn) (h1 : c'.streams = c.streams) (h2 : c'.dead = c.dead) (sid : Nat) :
    c'.liveS sid = c.liveS sid := by
  unfold Conn.liveS Conn.getS; rw [h1, h2]

theorem held_rawSend (c : Conn) (s sid : Nat) (d : Bytes) (fin : Bool) :
    dataOf sid (c.rawSend s d fin).out = dataOf sid c.out ++ (if s = sid then d else []) ∧
    (c.rawSend s d fin).buf sid = c.buf sid := by
  unfold Conn.rawSend
  constructor
  · simp only [out_updS, dataOf_append]
    by_cases h : s = sid <;> simp [dataOf, h]
  · exact buf_updS c s sid _

theorem mfs_rawSend (c : Conn) (s : Nat) (d : Bytes) (fin : Bool) : (c.rawSend s d fin).mfs = c.mfs := by
  unfold Conn.rawSend; simp [mfs_updS]

theorem liveS_rawSend (c : Conn) (s x : Nat) (d : Bytes) (fin : Bool) :
    (c.rawSend s d fin).liveS x = (c.liveS x && !(decide (s = x) && fin)) := by
  show (c.updS s _).liveS x = _
  rw [liveS_updS_and c s x _ (!fin) (fun st => by simp [Stream.live, Bool.and_right_comm]), Bool.not_and]

theorem liveS_rawTrailers (c : Conn) (s x : Nat) : (c.rawTrailers s).liveS x = (c.liveS x && !decide (s = x)) := by
  show (c.updS s _).liveS x = _
  rw [liveS_updS_and c s x _ false (fun st => by simp [Stream.live]), Bool.or_false]

theorem liveS_rawSend_nofin (c : Conn) (s sid : Nat) (d : Bytes) : (c.rawSend s d false).liveS sid = c.liveS sid := by
  rw [liveS_rawSend]; simp

theorem liveS_rawSend_ne (c : Conn) (s sid : Nat) (d : Bytes) (fin : Bool) (h : s ≠ sid) :
    (c.rawSend s d fin).liveS sid = c.liveS sid := by
  rw [liveS_rawSend]; simp [h]

theorem liveS_rawSend_fin (c : Conn) (s : Nat) (d : Bytes) : (c.rawSend s d true).liveS s = false := by
  rw [liveS_rawSend]; simp

theorem liveS_rawTrailers_ne (c : Conn) (s sid : Nat) (h : s ≠ sid) : (c.rawTrailers s).liveS sid = c.liveS sid := by
  rw [liveS_rawTrailers]; simp [h]

theorem liveS_rawTrailers_same (c : Conn) (s : Nat) : (c.rawTrailers s).liveS s = false := by
  rw [liveS_rawTrailers]; simp

theorem trl_rawSend (c : Conn) (s : Nat) (d : Bytes) (fin : Bool) : (c.rawSend s d fin).trl = c.trl :=
  trl_updS c s _

theorem trl_rawTrailers (c : Conn) (s : Nat) : (c.rawTrailers s).trl = c.trl :=
  trl_updS c s _

theorem held_rawTrailers (c : Conn) (s sid : Nat) :
    dataOf sid (c.rawTrailers s).out = dataOf sid c.out ∧ (c.rawTrailers s).buf sid = c.buf sid := by
  unfold Conn.rawTrailers
  constructor
  · simp [out_updS, dataOf_append, dataOf]
  · exact buf_updS c s sid _

theorem getS_rawSend_ne (c : Conn) (s o : Nat) (d : Bytes) (fin : Bool) (h : s ≠ o) :
    (c.rawSend s d fin).getS o = c.getS o :=
  getS_updS_ne c s o _ h

theorem getS_rawSend_isSome (c : Conn) (s o : Nat) (d : Bytes) (fin : Bool) :
    ((c.rawSend s d fin).getS o).isSome = (c.getS o).isSome :=
  getS_updS_isSome c s o _

theorem getS_rawTrailers_isSome (c : Conn) (s o : Nat) : ((c.rawTrailers s).getS o).isSome = (c.getS o).isSome :=
  getS_updS_isSome c s o _

theorem buf_appendBuf (c : Conn) (s sid : Nat) (ch : Chunk) :
    (c.appendBuf s ch).buf sid = if s = sid then c.buf sid ++ [ch] else c.buf sid := by
  unfold Conn.appendBuf Conn.buf
  by_cases h : s = sid
  · subst h; simp [alookup_aset_same]
  · have : sid ≠ s := fun e => h e.symm
    simp [alookup_aset_ne _ _ _ _ this, h]

theorem buf_aset (c : Conn) (s sid : Nat) (l : List Chunk) :
    ({ c with bufs := aset s l c.bufs } : Conn).buf sid = if s = sid then l else c.buf sid := by
  show (alookup sid (aset s l c.bufs)).getD [] = _
  rw [alookup_aset]; split <;> rfl

theorem buf_aerase (c : Conn) (s sid : Nat) :
    ({ c with bufs := aerase s c.bufs } : Conn).buf sid = if s = sid then [] else c.buf sid := by
  show (alookup sid (aerase s c.bufs)).getD [] = _
  rw [alookup_aerase]; split <;> rfl

/-- stream `o` looks the same in `c'` as in `c` -/
def Untouched (c c' : Conn) (o : Nat) : Prop :=
  c'.buf o = c.buf o ∧ c'.liveS o = c.liveS o ∧ c'.getS o = c.getS o ∧ (o ∈ c'.trl ↔ o ∈ c.trl)

theorem Untouched.rfl' (c : Conn) (o : Nat) : Untouched c c o := ⟨rfl, rfl, rfl, Iff.rfl⟩

theorem Untouched.trans {a b c : Conn} {o : Nat} (h1 : Untouched a b o) (h2 : Untouched b c o) : Untouched a c o :=
  ⟨h2.1.trans h1.1, h2.2.1.trans h1.2.1, h2.2.2.1.trans h1.2.2.1, h2.2.2.2.trans h1.2.2.2⟩

theorem rawSend_untouched (c : Conn) (s o : Nat) (d : Bytes) (fin : Bool) (h : s ≠ o) :
    Untouched c (c.rawSend s d fin) o :=
  ⟨(held_rawSend c s o d fin).2, liveS_rawSend_ne c s o d fin h, getS_rawSend_ne c s o d fin h, by rw [trl_rawSend]⟩

theorem appendBuf_untouched (c : Conn) (s o : Nat) (ch : Chunk) (h : s ≠ o) : Untouched c (c.appendBuf s ch) o :=
  ⟨by rw [buf_appendBuf]; simp [h], rfl, rfl, Iff.rfl⟩

theorem rawTrailers_untouched (c : Conn) (s o : Nat) (h : s ≠ o) : Untouched c (c.rawTrailers s) o :=
  ⟨(held_rawTrailers c s o).2, liveS_rawTrailers_ne c s o h, getS_updS_ne c s o _ h, by rw [trl_rawTrailers]⟩

/-! ### `send_data` -/

theorem chunkBytes_append (a b : List Chunk) : chunkBytes (a ++ b) = chunkBytes a ++ chunkBytes b := by
  simp [chunkBytes]

/-- `send_data` of one frame-sized chunk does one of three things: buffer all of it, send all of it (nothing was
    buffered), or send the first `n` bytes and buffer the rest (nothing was buffered) -/
theorem sendData1_cases (P : Conn → Prop) (c : Conn) (s : Nat) (d : Bytes) (fin : Bool)
    (hbuf : P (c.appendBuf s ⟨d, fin⟩))
    (hsend : c.buf s = [] → P (c.rawSend s d fin))
    (hsplit : ∀ n, c.buf s = [] → P ((c.rawSend s (d.take n) false).appendBuf s ⟨d.drop n, fin⟩)) :
    P (c.sendData1 s d fin) := by
  unfold Conn.sendData1
  split
  · exact hbuf
  · rename_i hb
    have hb : c.buf s = [] := by simpa using hb
    simp only []
    split
    · exact hsend hb
    · split
      · exact hsplit _ hb
      · exact hbuf

/-- `send_data`: all pieces but the last are handed to `sendData1` without the end-of-stream flag -/
theorem sendData_induct (I R : Conn → Prop) (s : Nat) (fin : Bool) (hIR : ∀ c, I c → R c)
    (hmid : ∀ c d, I c → I (c.sendData1 s d false)) (hlast : ∀ c d, I c → R (c.sendData1 s d fin))
    (c : Conn) (d : Bytes) (h : I c) : R (c.sendData s d fin) := by
  have pieces : ∀ f c d, I c → R (Conn.sendPieces f c s d fin) := by
    intro f
    induction f with
    | zero => exact fun c _ h => hIR c h
    | succ f ih =>
      intro c d h
      unfold Conn.sendPieces
      split
      · exact hlast c d h
      · exact ih _ _ (hmid c _ h)
  unfold Conn.sendData
  split
  · exact pieces _ c d h
  · exact hlast c d h

theorem held_sendData1 (c : Conn) (s sid : Nat) (d : Bytes) (fin : Bool) :
    (c.sendData1 s d fin).held sid = c.held sid ++ (if s = sid then d else []) := by
  have app : ∀ (c' : Conn) (d' : Bytes),
      (c'.appendBuf s ⟨d', fin⟩).held sid = c'.held sid ++ (if s = sid then d' else []) := by
    intro c' d'
    unfold Conn.held Conn.bufBytes
    rw [buf_appendBuf]
    show dataOf sid c'.out ++ _ = _
    split <;> simp [chunkBytes]
  have snd : ∀ (d' : Bytes) (f : Bool), c.buf s = [] →
      (c.rawSend s d' f).held sid = c.held sid ++ (if s = sid then d' else []) := by
    intro d' f hb
    unfold Conn.held Conn.bufBytes
    rw [(held_rawSend c s sid d' f).1, (held_rawSend c s sid d' f).2]
    by_cases h : s = sid
    · subst h; simp [hb, chunkBytes]
    · simp [h]
  refine sendData1_cases (fun c' => c'.held sid = c.held sid ++ (if s = sid then d else [])) c s d fin (app c d)
    (snd d fin) (fun n hb => ?_)
  rw [app, snd _ _ hb]
  by_cases h : s = sid <;> simp [h]

theorem mfs_sendData1 (c : Conn) (s : Nat) (d : Bytes) (fin : Bool) : (c.sendData1 s d fin).mfs = c.mfs :=
  sendData1_cases (fun c' => c'.mfs = c.mfs) c s d fin rfl (fun _ => mfs_rawSend c s d fin)
    (fun _ _ => mfs_rawSend c s _ false)

theorem held_sendPieces (f : Nat) (c : Conn) (s sid : Nat) (d : Bytes) (fin : Bool)
    (hm : 0 < c.mfs) (hf : d.length < f) :
    (Conn.sendPieces f c s d fin).held sid = c.held sid ++ (if s = sid then d else []) := by
  induction f generalizing c d with
  | zero => omega
  | succ f ih =>
    unfold Conn.sendPieces
    by_cases h : d.length ≤ c.mfs
    · simp only [h, if_true]; exact held_sendData1 c s sid d fin
    · simp only [h, if_false]
      have hm' : 0 < (c.sendData1 s (d.take c.mfs) false).mfs := by rw [mfs_sendData1]; exact hm
      have hlen : (d.drop c.mfs).length < f := by simp; omega
      rw [ih (c.sendData1 s (d.take c.mfs) false) (d.drop c.mfs) hm' hlen, held_sendData1]
      by_cases hs : s = sid
      · simp only [hs, if_true, List.append_assoc, List.take_append_drop]
      · simp [hs]

/-- `BufferedH2Connection.send_data`: bytes sent + bytes buffered = what was there + what was submitted, in order -/
theorem held_sendData (c : Conn) (s sid : Nat) (d : Bytes) (fin : Bool) :
    (c.sendData s d fin).held sid = c.held sid ++ (if s = sid then d else []) := by
  unfold Conn.sendData
  split
  · rename_i h; exact held_sendPieces _ c s sid d fin h.2 (by omega)
  · exact held_sendData1 c s sid d fin

/-! ### flushing -/

/-- only the last chunk of a buffer may carry END_STREAM -/
def finLast : List Chunk → Prop
  | [] => True
  | [_] => True
  | c :: d :: r => c.fin = false ∧ finLast (d :: r)

/-- what the callers of BufferedH2Connection keep up for a stream: nothing is buffered for a stream that cannot send
    any more, and an end of stream waits behind all its data -/
def StreamOk (c : Conn) (sid : Nat) : Prop := (c.liveS sid = false → c.buf sid = []) ∧ finLast (c.buf sid)

theorem finLast_tail (ch : Chunk) (rest : List Chunk) (h : finLast (ch :: rest)) : finLast rest := by
  cases rest with
  | nil => trivial
  | cons d r => exact h.2

theorem finLast_split (ch : Chunk) (rest : List Chunk) (n : Nat) (h : finLast (ch :: rest)) :
    finLast (⟨ch.data.drop n, ch.fin⟩ :: rest) := by
  cases rest with
  | nil => trivial
  | cons d r => exact ⟨h.1, h.2⟩

theorem streamOk_of_buf_nil (c : Conn) (o : Nat) (h : c.buf o = []) : StreamOk c o :=
  ⟨fun _ => h, by rw [h]; trivial⟩

theorem streamOk_untouched {c c' : Conn} {o : Nat} (u : Untouched c c' o) (h : StreamOk c o) : StreamOk c' o := by
  unfold StreamOk; rw [u.1, u.2.1]; exact h

def noFin (l : List Chunk) : Prop := ∀ x ∈ l, x.fin = false

theorem noFin_tail (ch : Chunk) (rest : List Chunk) (h : noFin (ch :: rest)) : noFin rest :=
  fun x hx => h x (List.mem_cons_of_mem _ hx)

/-! One round of `flushLoop` with window `w` on the buffer `ch :: rest` of stream `s` is
    `flushStep c s (flushPiece c w ch rest).1 (flushPiece c w ch rest).2` (by definition, see `flushLoop_pres`). -/

/-- what is sent now, and what stays buffered: the first chunk, cut at the window and at the frame size -/
def flushPiece (c : Conn) (w : Int) (ch : Chunk) (rest : List Chunk) : Chunk × List Chunk :=
  if (ch.data.length : Int) > min w c.mfs then
    (⟨ch.data.take (min w c.mfs).toNat, false⟩, ⟨ch.data.drop (min w c.mfs).toNat, ch.fin⟩ :: rest)
  else (ch, rest)

/-- `now` is sent and `l` stays buffered; if nothing stays, the buffer is dropped and trailers that were waiting go out -/
def flushStep (c : Conn) (s : Nat) (now : Chunk) (l : List Chunk) : Conn :=
  let c := c.rawSend s now.data now.fin
  if l.isEmpty then
    let c := { c with bufs := aerase s c.bufs }
    if c.trl.contains s then { (c.rawTrailers s) with trl := c.trl.filter (· != s) } else c
  else { c with bufs := aset s l c.bufs }

theorem flushLoop_pres (P : Conn → Prop) (s : Nat)
    (hstep : ∀ c w ch rest, c.buf s = ch :: rest → P c →
      P (flushStep c s (flushPiece c w ch rest).1 (flushPiece c w ch rest).2))
    (f : Nat) (c : Conn) (w : Int) (sent : Bool) (h : P c) : P (Conn.flushLoop f c s w sent).1 := by
  induction f generalizing c w sent with
  | zero => exact h
  | succ f ih =>
    show P (if w > 0 then
        match c.buf s with
        | [] => (c, sent)
        | ch :: rest =>
          Conn.flushLoop f (flushStep c s (flushPiece c w ch rest).1 (flushPiece c w ch rest).2) s
            (w - (flushPiece c w ch rest).1.data.length) true
      else (c, sent)).1
    split
    · split
      · exact h
      · rename_i ch rest hb; exact ih _ _ _ (hstep c w ch rest hb h)
    · exact h

theorem buf_flushStep (c : Conn) (s x : Nat) (now : Chunk) (l : List Chunk) :
    (flushStep c s now l).buf x = if s = x then l else c.buf x := by
  unfold flushStep
  simp only []
  split
  · rename_i hl
    have hl : l = [] := by simpa using hl
    subst hl
    split
    · show (Conn.rawTrailers _ s).buf x = _
      rw [(held_rawTrailers _ s x).2, buf_aerase, (held_rawSend c s x _ _).2]
    · rw [buf_aerase, (held_rawSend c s x _ _).2]
  · rw [buf_aset, (held_rawSend c s x _ _).2]

theorem out_flushStep (c : Conn) (s x : Nat) (now : Chunk) (l : List Chunk) :
    dataOf x (flushStep c s now l).out = dataOf x c.out ++ (if s = x then now.data else []) := by
  unfold flushStep
  simp only []
  split
  · split
    · show dataOf x (Conn.rawTrailers _ s).out = _
      rw [(held_rawTrailers _ s x).1]; exact (held_rawSend c s x _ _).1
    · exact (held_rawSend c s x _ _).1
  · exact (held_rawSend c s x _ _).1

theorem liveS_flushStep (c : Conn) (s x : Nat) (now : Chunk) (l : List Chunk) :
    (flushStep c s now l).liveS x =
      (c.liveS x && !(decide (s = x) && (now.fin || (l.isEmpty && c.trl.contains s)))) := by
  unfold flushStep
  simp only []
  split
  · rename_i hl
    split
    · rename_i ht
      have ht : c.trl.contains s = true := by rw [← trl_rawSend c s now.data now.fin]; exact ht
      show (Conn.rawTrailers _ s).liveS x = _
      rw [liveS_rawTrailers, hl, ht]
      show ((c.rawSend s now.data now.fin).liveS x && _) = _
      rw [liveS_rawSend]; cases c.liveS x <;> cases now.fin <;> simp
    · rename_i ht
      have ht : c.trl.contains s = false := by rw [← trl_rawSend c s now.data now.fin]; simpa using ht
      show (c.rawSend s now.data now.fin).liveS x = _
      rw [liveS_rawSend, hl, ht]; simp
  · rename_i hl
    show (c.rawSend s now.data now.fin).liveS x = _
    rw [liveS_rawSend]; simp [hl]

theorem getS_flushStep (c : Conn) (s x : Nat) (now : Chunk) (l : List Chunk) (h : s ≠ x) :
    (flushStep c s now l).getS x = c.getS x := by
  unfold flushStep
  simp only []
  split
  · split
    · exact (rawTrailers_untouched _ s x h).2.2.1.trans (getS_rawSend_ne c s x _ _ h)
    · exact getS_rawSend_ne c s x _ _ h
  · exact getS_rawSend_ne c s x _ _ h

theorem trl_flushStep (c : Conn) (s x : Nat) (now : Chunk) (l : List Chunk) :
    x ∈ (flushStep c s now l).trl ↔ x ∈ c.trl ∧ (l = [] → x ≠ s) := by
  unfold flushStep
  simp only []
  split
  · rename_i hl
    have hl : l = [] := by simpa using hl
    split
    · rename_i ht
      show x ∈ (c.rawSend s now.data now.fin).trl.filter (· != s) ↔ _
      rw [trl_rawSend]; simp [hl]
    · rename_i ht
      show x ∈ (c.rawSend s now.data now.fin).trl ↔ _
      have ht : ¬ s ∈ c.trl := by rw [← trl_rawSend c s now.data now.fin]; simpa using ht
      rw [trl_rawSend]
      exact ⟨fun h => ⟨h, fun _ e => ht (e ▸ h)⟩, fun h => h.1⟩
  · rename_i hl
    have hl : l ≠ [] := by simpa using hl
    show x ∈ (c.rawSend s now.data now.fin).trl ↔ _
    rw [trl_rawSend]
    exact ⟨fun h => ⟨h, fun e => absurd e hl⟩, fun h => h.1⟩

theorem flushPiece_bytes (c : Conn) (w : Int) (ch : Chunk) (rest : List Chunk) :
    (flushPiece c w ch rest).1.data ++ chunkBytes (flushPiece c w ch rest).2 = chunkBytes (ch :: rest) := by
  unfold flushPiece
  split
  · simp only [chunkBytes, List.flatMap_cons]
    rw [← List.append_assoc, List.take_append_drop]
  · rfl

theorem flushPiece_finLast (c : Conn) (w : Int) (ch : Chunk) (rest : List Chunk) (h : finLast (ch :: rest)) :
    finLast (flushPiece c w ch rest).2 ∧ ((flushPiece c w ch rest).1.fin = true → (flushPiece c w ch rest).2 = []) := by
  unfold flushPiece
  split
  · exact ⟨finLast_split ch rest _ h, fun e => Bool.noConfusion e⟩
  · refine ⟨finLast_tail ch rest h, fun e => ?_⟩
    cases rest with
    | nil => rfl
    | cons d r => rw [h.1] at e; cases e

theorem flushPiece_noFin (c : Conn) (w : Int) (ch : Chunk) (rest : List Chunk) (h : noFin (ch :: rest)) :
    noFin (flushPiece c w ch rest).2 := by
  unfold flushPiece
  split
  · intro x hx
    rcases List.mem_cons.mp hx with rfl | h1
    · exact h ch (by simp)
    · exact h x (List.mem_cons_of_mem _ h1)
  · exact noFin_tail ch rest h

theorem held_flushStep (c : Conn) (s sid : Nat) (w : Int) (ch : Chunk) (rest : List Chunk) (hb : c.buf s = ch :: rest) :
    (flushStep c s (flushPiece c w ch rest).1 (flushPiece c w ch rest).2).held sid = c.held sid := by
  unfold Conn.held Conn.bufBytes
  rw [out_flushStep, buf_flushStep]
  by_cases hs : s = sid
  · subst hs; simp only [if_true]; rw [hb, List.append_assoc, flushPiece_bytes]
  · simp [hs]

theorem flushStep_untouched (c : Conn) (s x : Nat) (now : Chunk) (l : List Chunk) (h : s ≠ x) :
    Untouched c (flushStep c s now l) x :=
  ⟨by rw [buf_flushStep]; simp [h], by rw [liveS_flushStep]; simp [h], getS_flushStep c s x _ _ h,
   by rw [trl_flushStep]; exact ⟨fun e => e.1, fun e => ⟨e, fun _ e' => h e'.symm⟩⟩⟩

theorem held_flushLoop (f : Nat) (c : Conn) (s sid : Nat) (w : Int) (sent : Bool) :
    (Conn.flushLoop f c s w sent).1.held sid = c.held sid :=
  flushLoop_pres (fun c' => c'.held sid = c.held sid) s
    (fun c' w ch rest hb h => (held_flushStep c' s sid w ch rest hb).trans h) f c w sent rfl

/-- `stream_window_updated` on a stream that may still send: nothing is lost, nothing reordered -/
theorem held_streamWindowUpdated (c : Conn) (s sid : Nat) (hl : c.liveS s = true ∨ s ≠ sid) :
    (c.streamWindowUpdated s).1.held sid = c.held sid := by
  unfold Conn.streamWindowUpdated
  by_cases h : c.liveS s = true
  · simp only [h, Bool.not_true, Bool.false_eq_true, if_false]
    exact held_flushLoop _ c s sid _ _
  · simp only [h, Bool.not_false, if_true]
    have hne : s ≠ sid := hl.resolve_left h
    unfold Conn.held Conn.bufBytes
    rw [buf_aerase]
    simp [hne]

/-! ### `connection_window_updated`: the round robin over all buffers -/

/-- moving a buffer to the end of the dict changes no buffer -/
theorem buf_moveToEnd (c : Conn) (s sid : Nat) :
    ({ c with bufs := aerase s c.bufs ++ [(s, c.buf s)] } : Conn).buf sid = c.buf sid := by
  unfold Conn.buf
  rw [alookup_append]
  by_cases h : s = sid
  · subst h; rw [alookup_aerase_same]; simp [alookup]
  · have : sid ≠ s := fun e => h e.symm
    rw [alookup_aerase_ne _ _ _ this]
    cases alookup sid c.bufs with
    | some v => rfl
    | none => simp [alookup, h]

theorem rrPass_pres (P : Conn → Prop)
    (hmove : ∀ c s, P c → P ({ c with bufs := aerase s c.bufs ++ [(s, c.buf s)] } : Conn))
    (hsw : ∀ c s, P c → P (c.streamWindowUpdated s).1) (l : List Nat) (c : Conn) (sent : Bool) (h : P c) :
    P (Conn.rrPass l c sent).1 := by
  induction l generalizing c sent with
  | nil => exact h
  | cons s rest ih =>
    unfold Conn.rrPass
    have sw := hsw _ s (hmove c s h)
    simp only []
    cases hsw' : Conn.streamWindowUpdated ({ c with bufs := aerase s c.bufs ++ [(s, c.buf s)] } : Conn) s with
    | mk c2 b =>
      rw [hsw'] at sw
      simp only [] at sw
      cases b with
      | true =>
        simp only [if_true]
        split
        · exact sw
        · exact ih c2 true sw
      | false =>
        simp only [Bool.false_eq_true, if_false]
        exact ih c2 sent sw

theorem connWindowUpdated_pres (P : Conn → Prop)
    (hmove : ∀ c s, P c → P ({ c with bufs := aerase s c.bufs ++ [(s, c.buf s)] } : Conn))
    (hsw : ∀ c s, P c → P (c.streamWindowUpdated s).1) (f : Nat) (c : Conn) (h : P c) :
    P (Conn.connWindowUpdated f c) := by
  induction f generalizing c with
  | zero => exact h
  | succ f ih =>
    unfold Conn.connWindowUpdated
    have p := rrPass_pres P hmove hsw (c.bufs.map (·.1)) c false h
    cases hp : Conn.rrPass (c.bufs.map (·.1)) c false with
    | mk c2 rest =>
      obtain ⟨sent, early⟩ := rest
      rw [hp] at p
      simp only [] at p ⊢
      split
      · exact p
      · exact ih c2 p

/-- the steps the post-processing of `receive_data` is made of: a buffer moves to the end of the dict, one round of a
    flush loop, the buffer of a stream that cannot send is dropped, all buffers of a dead connection are dropped -/
structure BufOps (P : Conn → Prop) : Prop where
  move : ∀ c s, P c → P { c with bufs := aerase s c.bufs ++ [(s, c.buf s)] }
  round : ∀ c s w ch rest, c.buf s = ch :: rest → P c →
    P (flushStep c s (flushPiece c w ch rest).1 (flushPiece c w ch rest).2)
  erase : ∀ c s, c.liveS s = false → P c → P { c with bufs := aerase s c.bufs }
  clear : ∀ c, (∀ o, c.liveS o = false) → P c → P { c with bufs := [] }

theorem streamWindowUpdated_ops {P : Conn → Prop} (B : BufOps P) (c : Conn) (s : Nat) (h : P c) :
    P (c.streamWindowUpdated s).1 := by
  unfold Conn.streamWindowUpdated
  split
  · rename_i hl; exact B.erase c s (by simpa using hl) h
  · exact flushLoop_pres P s (B.round · s) _ c _ _ h

/-- a well-kept stream stays well kept, and the bytes on the wire followed by the bytes still buffered stay what they
    were, through every step of the post-processing -/
theorem streamOk_ops (c0 : Conn) (o : Nat) : BufOps (fun c => StreamOk c o ∧ c.held o = c0.held o) := by
  refine ⟨fun c s h => ?_, fun c s w ch rest hb h => ⟨?_, (held_flushStep c s o w ch rest hb).trans h.2⟩,
    fun c s hl h => ?_, fun c hl h => ?_⟩
  · unfold StreamOk Conn.held Conn.bufBytes
    rw [buf_moveToEnd]; exact h
  · by_cases hs : s = o
    · subst hs
      have hfl := flushPiece_finLast c w ch rest (by have := h.1.2; rwa [hb] at this)
      have hlive : c.liveS s = true := eq_true_of_ne_false fun hl => by
        have := h.1.1 hl; rw [hb] at this; cases this
      unfold StreamOk
      rw [buf_flushStep, liveS_flushStep, hlive]
      simp only [if_true]
      refine ⟨fun e => ?_, hfl.1⟩
      -- the stream stops with this round only if the piece sent ends it or was the last one, trailers waiting
      cases hp : (flushPiece c w ch rest).2 with
      | nil => rfl
      | cons a r =>
        cases hf : (flushPiece c w ch rest).1.fin with
        | true => have := hfl.2 hf; rw [hp] at this; cases this
        | false => rw [hp, hf] at e; simp at e
    · exact streamOk_untouched (flushStep_untouched c s o _ _ hs) h.1
  · have hb : ({ c with bufs := aerase s c.bufs } : Conn).buf o = c.buf o := by
      rw [buf_aerase]
      split
      · rename_i hs; subst hs; exact (h.1.1 hl).symm
      · rfl
    unfold StreamOk Conn.held Conn.bufBytes
    rw [hb]; exact h
  · have hb : c.buf o = [] := h.1.1 (hl o)
    refine ⟨streamOk_of_buf_nil _ o rfl, ?_⟩
    rw [← h.2]
    unfold Conn.held Conn.bufBytes
    rw [hb]; rfl

/-- one `stream_window_updated` call, seen from a well-kept stream `sid` -/
theorem streamWindowUpdated_ok (c : Conn) (s sid : Nat) (h : StreamOk c sid) :
    (c.streamWindowUpdated s).1.held sid = c.held sid ∧ StreamOk (c.streamWindowUpdated s).1 sid :=
  (streamWindowUpdated_ops (streamOk_ops c sid) c s ⟨h, rfl⟩).symm

/-- `connection_window_updated`: whatever the windows, however many rounds — for every well-kept stream the bytes on
    the wire followed by the bytes still buffered stay what they were -/
theorem connWindowUpdated_ok (f : Nat) (c : Conn) (sid : Nat) (h : StreamOk c sid) :
    (Conn.connWindowUpdated f c).held sid = c.held sid ∧ StreamOk (Conn.connWindowUpdated f c) sid :=
  (connWindowUpdated_pres _ (streamOk_ops c sid).move (streamWindowUpdated_ops (streamOk_ops c sid)) f c ⟨h, rfl⟩).symm

/-! ### the callers' discipline keeps `StreamOk` -/

theorem finLast_snoc (l : List Chunk) (ch : Chunk) (h : ∀ x ∈ l, x.fin = false) : finLast (l ++ [ch]) := by
  induction l with
  | nil => trivial
  | cons a rest ih =>
    have h1 := h a (by simp)
    have := ih (fun x hx => h x (by simp [hx]))
    cases rest with
    | nil => exact ⟨h1, trivial⟩
    | cons b r => exact ⟨h1, this⟩

/-- what `send_data` is called with: the stream may still send (`is_open_for_us`) and no end of stream is pending -/
def CanSubmit (c : Conn) (s : Nat) : Prop := c.liveS s = true ∧ ∀ x ∈ c.buf s, x.fin = false

theorem finLast_of_noFin (l : List Chunk) (h : noFin l) : finLast l := by
  rcases List.eq_nil_or_concat l with rfl | ⟨l', ch, rfl⟩
  · trivial
  · rw [List.concat_eq_append] at h ⊢
    exact finLast_snoc l' ch fun x hx => h x (List.mem_append_left _ hx)

theorem streamOk_of_can (c : Conn) (s : Nat) (hc : CanSubmit c s) : StreamOk c s :=
  ⟨fun hl => by rw [hc.1] at hl; exact Bool.noConfusion hl, finLast_of_noFin _ hc.2⟩

theorem appendBuf_can (c : Conn) (s : Nat) (ch : Chunk) (hc : CanSubmit c s) :
    StreamOk (c.appendBuf s ch) s ∧ (ch.fin = false → CanSubmit (c.appendBuf s ch) s) := by
  have hl : (c.appendBuf s ch).liveS s = true := hc.1
  unfold StreamOk CanSubmit
  rw [buf_appendBuf, hl]
  simp only [if_true]
  exact ⟨⟨fun e => Bool.noConfusion e, finLast_snoc _ _ hc.2⟩,
    fun hf => ⟨trivial, List.forall_mem_append.2 ⟨hc.2, List.forall_mem_singleton.2 hf⟩⟩⟩

theorem sendData1_can (c : Conn) (s : Nat) (d : Bytes) (fin : Bool) (hc : CanSubmit c s) :
    StreamOk (c.sendData1 s d fin) s ∧ (fin = false → CanSubmit (c.sendData1 s d fin) s) := by
  have snd : ∀ d', c.buf s = [] → CanSubmit (c.rawSend s d' false) s := fun d' hb =>
    ⟨by rw [liveS_rawSend_nofin]; exact hc.1, by rw [(held_rawSend c s s d' false).2, hb]; simp⟩
  refine sendData1_cases (fun c' => StreamOk c' s ∧ (fin = false → CanSubmit c' s)) c s d fin
    (appendBuf_can c s ⟨d, fin⟩ hc) (fun hb => ⟨?_, fun hf => ?_⟩)
    (fun n hb => appendBuf_can _ s ⟨d.drop n, fin⟩ (snd _ hb))
  · exact streamOk_of_buf_nil _ s (by rw [(held_rawSend c s s d fin).2]; exact hb)
  · subst hf; exact snd d hb

theorem sendData1_untouched (c : Conn) (s o : Nat) (d : Bytes) (fin : Bool) (h : s ≠ o) :
    Untouched c (c.sendData1 s d fin) o :=
  sendData1_cases (fun c' => Untouched c c' o) c s d fin (appendBuf_untouched c s o _ h)
    (fun _ => rawSend_untouched c s o d fin h)
    (fun _ _ => (rawSend_untouched c s o _ false h).trans (appendBuf_untouched _ s o _ h))

theorem sendData_untouched (c : Conn) (s o : Nat) (d : Bytes) (fin : Bool) (h : s ≠ o) :
    Untouched c (c.sendData s d fin) o :=
  sendData_induct (fun c' => Untouched c c' o) (fun c' => Untouched c c' o) s fin (fun _ u => u)
    (fun c' d u => u.trans (sendData1_untouched c' s o d false h))
    (fun c' d u => u.trans (sendData1_untouched c' s o d fin h)) c d (Untouched.rfl' c o)

theorem trl_sendData (c : Conn) (s : Nat) (d : Bytes) (fin : Bool) : (c.sendData s d fin).trl = c.trl :=
  have one : ∀ (c' : Conn) d f, (c'.sendData1 s d f).trl = c'.trl := fun c' d f =>
    sendData1_cases (fun c'' => c''.trl = c'.trl) c' s d f rfl (fun _ => trl_rawSend c' s d f)
      (fun _ _ => trl_rawSend c' s _ false)
  sendData_induct (fun c' => c'.trl = c.trl) (fun c' => c'.trl = c.trl) s fin (fun _ e => e)
    (fun c' d e => (one c' d false).trans e) (fun c' d e => (one c' d fin).trans e) c d rfl

theorem sendData_can (c : Conn) (s : Nat) (d : Bytes) (hc : CanSubmit c s) : CanSubmit (c.sendData s d false) s :=
  sendData_induct (fun c' => CanSubmit c' s) (fun c' => CanSubmit c' s) s false (fun _ h => h)
    (fun c' d h => (sendData1_can c' s d false h).2 rfl) (fun c' d h => (sendData1_can c' s d false h).2 rfl) c d hc

/-- `send_data` (any size) on a stream that may still send keeps every stream well kept -/
theorem sendData_ok (c : Conn) (s sid : Nat) (d : Bytes) (fin : Bool) (hc : CanSubmit c s) (h : StreamOk c sid) :
    StreamOk (c.sendData s d fin) sid := by
  by_cases hs : s = sid
  · subst hs
    exact sendData_induct (fun c' => CanSubmit c' s) (fun c' => StreamOk c' s) s fin (fun c' => streamOk_of_can c' s)
      (fun c' d h => (sendData1_can c' s d false h).2 rfl) (fun c' d h => (sendData1_can c' s d fin h).1) c d hc
  · exact streamOk_untouched (sendData_untouched c s sid d fin hs) h

end MitmVerif.C05
