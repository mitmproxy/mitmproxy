/-
  C38 — lemmas for the converters of the older integer formats 5 … 9 (`convOld`).  For each the top-level keys it may
  assign, in the `Off` form of Lemmas/C38_Conv (`body_o5` … `body_o9`, what `Props.C38.touchedOld` lists), the strict
  rename of 5→6, and what 8→9 does inside the request (`req89_fields`).
-/
import MitmVerif.Lemmas.C38_Conv
namespace MitmVerif.C38Conv
open MitmVerif MitmVerif.C36

theorem renameStrict_frame (c c' : Dict) (o n m : Bytes) (h : renameStrict c o n = some c')
    (h1 : o ≠ m) (h2 : n ≠ m) : dget c' m = dget c m := by
  unfold renameStrict at h
  simp only [Option.map_eq_some_iff] at h
  obtain ⟨v, _, rfl⟩ := h
  rw [dget_dset_ne _ _ _ _ h2, dget_dpop_ne _ _ _ h1]

theorem renameStrict_spec (c c' : Dict) (o n : Bytes) (h : renameStrict c o n = some c') (hon : n ≠ o) :
    dget c' n = dget c o ∧ dget c' o = none := by
  unfold renameStrict at h
  simp only [Option.map_eq_some_iff] at h
  obtain ⟨v, hv, rfl⟩ := h
  exact ⟨by rw [dget_dset_same, hv], by rw [dget_dset_ne _ _ _ _ hon]; exact dget_dpop_same _ _⟩

theorem body_o5 {d d' : Dict} (h : conv_5_6 d = some d') : Off [s "client_conn", s "server_conn"] (setVersion d 6) d' :=
  off_conns h

theorem body_o6 {d d' : Dict} (h : conv_6_7 d = some d') : Off [s "client_conn"] (setVersion d 7) d' :=
  .dupd (by simp) h

theorem trailersNull_off {ks : List Bytes} {d d' : Dict} {n : Bytes} (hn : n ∈ ks) (h : trailersNull d n = some d') :
    Off ks d d' := by
  intro m hm
  revert h
  fun_cases trailersNull d n <;> rintro ⟨⟩ <;> simp [hm _ hn]

theorem body_o7 {d d' : Dict} (h : conv_7_8 d = some d') : Off [s "request", s "response"] (setVersion d 8) d' := by
  obtain ⟨d1, hd1, h⟩ := Option.bind_eq_some_iff.mp h
  exact (trailersNull_off (by simp) hd1).trans (trailersNull_off (by simp) h)

theorem req89_off {ks : List Bytes} {d d' : Dict} {v : Value} (hn : s "request" ∈ ks) (h : req89 d = some (d', v)) :
    Off ks d d' := by
  intro m hm
  revert h
  fun_cases req89 d <;> rintro ⟨⟩ <;> simp [hm _ hn]

theorem resp89_off {ks : List Bytes} {d d' : Dict} {v : Value} (hn : s "response" ∈ ks) (h : resp89 d = some (d', v)) :
    Off ks d d' := by
  intro m hm
  revert h
  fun_cases resp89 d <;> rintro ⟨⟩ <;> simp [hm _ hn]

theorem body_o8 {d d' : Dict} (h : conv_8_9 d = some d') :
    Off [s "request", s "response", s "is_replay"] (setVersion d 9) d' := by
  unfold conv_8_9 at h
  simp only [Option.bind_eq_bind, Option.bind_eq_some_iff, Option.pure_def, Option.some.injEq] at h
  obtain ⟨⟨d1, rq⟩, h1, ⟨d2, rs⟩, h2, rfl⟩ := h
  exact ((req89_off (by simp) h1).trans (resp89_off (by simp) h2)).trans (.dset _ (by simp))

theorem body_o9 {d d' : Dict} (h : conv_9_10 d = some d') : Off [s "client_conn", s "server_conn"] (setVersion d 10) d' :=
  off_conns h

/-- 8→9 on the request: loses `first_line_format` and `is_replay`, gains an empty `authority`, nothing else moves -/
theorem req89_fields (d d' : Dict) (v : Value) (r : Dict) (h : req89 d = some (d', v))
    (hr : dget d (s "request") = some (.dict r)) :
    ∃ r', dget d' (s "request") = some (.dict r') ∧ dget r' (s "first_line_format") = none ∧
      dget r' (s "is_replay") = none ∧ dget r' (s "authority") = some (.bytes []) ∧
      ∀ m, s "first_line_format" ≠ m → s "is_replay" ≠ m → s "authority" ≠ m →
        dget r' m = dget r m := by
  unfold req89 at h
  rw [hr] at h
  simp only at h
  split at h
  · simp only [Option.some.injEq, Prod.mk.injEq] at h
    obtain ⟨rfl, -⟩ := h
    refine ⟨_, dget_dset_same _ _ _, ?_, dget_dpop_same _ _, ?_, ?_⟩
    · rw [dget_dpop_ne _ _ _ (by simp), dget_dset_ne _ _ _ _ (by simp)]; exact dget_dpop_same _ _
    · rw [dget_dpop_ne _ _ _ (by simp)]; exact dget_dset_same _ _ _
    · intro m a b c
      rw [dget_dpop_ne _ _ _ b, dget_dset_ne _ _ _ _ c, dget_dpop_ne _ _ _ a]
  · cases h

end MitmVerif.C38Conv
