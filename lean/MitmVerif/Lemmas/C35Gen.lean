/-
  C35 — the multimap laws for the generic `_MultiDict` model (any key type, any `_kconv`), proved once.
  `Headers` (Model/C35.lean) is the instance `_kconv = asciiLower`; `MultiDict`/`MultiDictView` the instance `_kconv = id`.
  Everything about `set_all` comes from `setAllLoop_spec`, everything about iteration and `len` from `mem_iterLoop`;
  Props/C35 restates the laws for `Headers` under the same names and uses `mem_stepOp` for `request.cookies`.
-/
import MitmVerif.Model.C35_Gen
namespace MitmVerif.MultiDictGen
open MitmVerif MitmVerif.C35.Gen
open MitmVerif.C35 (pyIndex)

set_option linter.unusedSectionVars false
variable {α β γ : Type} [BEq γ] [LawfulBEq γ]

def keq (kc : α → γ) (a b : α) : Bool := kc a == kc b

theorem keq_refl (kc : α → γ) (a : α) : keq kc a a = true := by simp [keq]
theorem keq_symm (kc : α → γ) (a b : α) : keq kc a b = keq kc b a := by simp only [keq]; exact BEq.comm
theorem keq_trans {kc : α → γ} {a b c : α} (h1 : keq kc a b = true) (h2 : keq kc b c = true) : keq kc a c = true := by
  simp only [keq, beq_iff_eq] at *; exact h1.trans h2

theorem getAll_filter (kc : α → γ) (fs : List (α × β)) (k : α) :
    getAll kc fs k = (fs.filter (fun e => keq kc e.1 k)).map (·.2) := by
  induction fs with
  | nil => rfl
  | cons f fs ih =>
    simp only [getAll, keq] at *
    by_cases h : (kc f.1 == kc k) = true <;> simp [h, ih]

theorem getAll_keq (kc : α → γ) (m : List (α × β)) {k k' : α} (h : keq kc k' k = true) :
    getAll kc m k' = getAll kc m k := by
  have : kc k' = kc k := by simpa [keq] using h
  simp only [getAll, this]

theorem getAll_append (kc : α → γ) (a b : List (α × β)) (k : α) :
    getAll kc (a ++ b) k = getAll kc a k ++ getAll kc b k := by
  simp [getAll]

theorem getAll_fresh (kc : α → γ) (k : α) (vs : List β) : getAll kc (vs.map (fun v => (k, v))) k = vs := by
  induction vs with
  | nil => rfl
  | cons v vs ih => simp only [getAll] at *; simp [ih]

/-- what the loop of `set_all` does, read off the two sub-sequences of `fs`: the fields of other names stay as they are;
    the fields named `k` take the values in order and keep their spelling, as far as both last; the values left over
    are returned.  The laws about `set_all` below are read off this. -/
theorem setAllLoop_spec (kc : α → γ) (k : α) (fs : List (α × β)) (vs : List β) :
    (setAllLoop kc (kc k) fs vs).1.filter (fun f => !keq kc f.1 k) = fs.filter (fun f => !keq kc f.1 k) ∧
    getAll kc (setAllLoop kc (kc k) fs vs).1 k ++ (setAllLoop kc (kc k) fs vs).2 = vs ∧
    ((setAllLoop kc (kc k) fs vs).1.filter (fun f => keq kc f.1 k)).map (·.1)
      = ((fs.filter (fun f => keq kc f.1 k)).map (·.1)).take vs.length := by
  simp only [getAll_filter]
  fun_induction setAllLoop kc (kc k) fs vs with
  | case1 vs => simp
  | case2 f fs hf ih => have hk : keq kc f.1 k = true := hf
                        simpa [hk] using ih
  | case3 f fs hf v vs' r ih => have hk : keq kc f.1 k = true := hf
                                simpa [hk, r] using ih
  | case4 f fs vs hf r ih => have hk : keq kc f.1 k = false := by simpa [keq] using hf
                             simpa [hk, r] using ih

theorem getAll_setAll (kc : α → γ) (fs : List (α × β)) (k k' : α) (vs : List β) (h : keq kc k' k = true) :
    getAll kc (setAll kc fs k vs) k' = vs := by
  rw [getAll_keq kc _ h]
  simp only [setAll, getAll_append, getAll_fresh]
  exact (setAllLoop_spec kc k fs vs).2.1

theorem untouched (kc : α → γ) (fs : List (α × β)) (k : α) (vs : List β) :
    (setAll kc fs k vs).filter (fun f => !keq kc f.1 k) = fs.filter (fun f => !keq kc f.1 k) := by
  simp only [setAll, List.filter_append, (setAllLoop_spec kc k fs vs).1]
  have : ((setAllLoop kc (kc k) fs vs).2.map (fun v => (k, v))).filter (fun f => !keq kc f.1 k) = [] := by
    simp [List.filter_eq_nil_iff, keq_refl]
  simp [this]

theorem touched (kc : α → γ) (fs : List (α × β)) (k : α) (vs : List β) :
    ((setAll kc fs k vs).filter (fun f => keq kc f.1 k)).map (·.1)
      = ((fs.filter (fun f => keq kc f.1 k)).map (·.1)).take vs.length
        ++ List.replicate (vs.length - (fs.filter (fun f => keq kc f.1 k)).length) k := by
  obtain ⟨-, hv, hn⟩ := setAllLoop_spec kc k fs vs
  -- the values that are left over are those that found no field
  have hlen : (setAllLoop kc (kc k) fs vs).2.length = vs.length - (fs.filter (fun f => keq kc f.1 k)).length := by
    have h1 := congrArg List.length hv
    have h2 := congrArg List.length hn
    simp only [getAll_filter, List.length_append, List.length_map, List.length_take] at h1 h2
    omega
  have : ((setAllLoop kc (kc k) fs vs).2.map (fun v => (k, v))).filter (fun f => keq kc f.1 k)
      = (setAllLoop kc (kc k) fs vs).2.map (fun v => (k, v)) := by simp [List.filter_eq_self, keq_refl]
  simp only [setAll, List.filter_append, List.map_append, hn, this, ← hlen]
  simp [Function.comp_def, List.map_const']

theorem mem_setAll (kc : α → γ) (fs : List (α × β)) (k : α) (vs : List β) (e : α × β)
    (h : e ∈ setAll kc fs k vs) : e ∈ fs ∨ keq kc e.1 k = true := by
  cases hk : keq kc e.1 k with
  | true => exact Or.inr rfl
  | false =>
    have : e ∈ (setAll kc fs k vs).filter (fun f => !keq kc f.1 k) := List.mem_filter.mpr ⟨h, by simp [hk]⟩
    rw [untouched] at this
    exact Or.inl (List.mem_filter.mp this).1

theorem names_setAll (kc : α → γ) (fs : List (α × β)) (k : α) (vs : List β) :
    ∀ f ∈ setAll kc fs k vs, f.1 = k ∨ ∃ g ∈ fs, g.1 = f.1 := by
  intro f hf
  rcases mem_setAll kc fs k vs f hf with h | h
  · exact Or.inr ⟨f, h, rfl⟩
  · have : f.1 ∈ ((setAll kc fs k vs).filter (fun f => keq kc f.1 k)).map (·.1) :=
      List.mem_map_of_mem (List.mem_filter.mpr ⟨hf, h⟩)
    rw [touched, List.mem_append] at this
    rcases this with h1 | h1
    · obtain ⟨g, hg, e⟩ := List.mem_map.mp (List.mem_of_mem_take h1)
      exact Or.inr ⟨g, (List.mem_filter.mp hg).1, e⟩
    · exact Or.inl (List.eq_of_mem_replicate h1)

theorem setAll_fresh (kc : α → γ) (fs : List (α × β)) (k : α) (vs : List β)
    (h : getAll kc fs k = []) : setAll kc fs k vs = fs ++ vs.map (fun v => (k, v)) := by
  have hloop : setAllLoop kc (kc k) fs vs = (fs, vs) := by
    fun_induction setAllLoop kc (kc k) fs vs with
    | case1 vs => rfl
    | case2 f fs hf ih => simp [getAll, hf] at h
    | case3 f fs hf v vs' r ih => simp [getAll, hf] at h
    | case4 f fs vs hf r ih =>
      have := ih (by simpa [getAll, hf] using h)
      simp [r, this]
  simp only [setAll, hloop]

theorem getAll_remove_other (kc : α → γ) (m : List (α × β)) {k k' : α} (h : keq kc k' k = false) :
    getAll kc (m.filter (fun f => !keq kc f.1 k)) k' = getAll kc m k' := by
  simp only [getAll_filter, List.filter_filter]
  congr 1
  apply List.filter_congr
  intro x _
  cases h1 : keq kc x.1 k' with
  | false => simp
  | true =>
    cases h2 : keq kc x.1 k with
    | false => simp
    | true =>
      have : keq kc k' k = true := keq_trans (by rw [keq_symm]; exact h1) h2
      rw [h] at this; cases this

theorem getAll_setAll_other (kc : α → γ) (fs : List (α × β)) (k k' : α) (vs : List β) (h : keq kc k' k = false) :
    getAll kc (setAll kc fs k vs) k' = getAll kc fs k' := by
  rw [← getAll_remove_other kc _ h, untouched, getAll_remove_other kc _ h]

theorem getItem_setItem (kc : α → γ) (red : List β → β) (hred : ∀ v, red [v] = v)
    (fs : List (α × β)) (k k' : α) (v : β) (h : keq kc k' k = true) :
    getItem kc red (setItem kc fs k v) k' = some v := by
  simp [getItem, setItem, getAll_setAll kc fs k k' [v] h, hred]

theorem contains_isEmpty (kc : α → γ) (red : List β → β) (fs : List (α × β)) (k : α) :
    contains kc red fs k = !(getAll kc fs k).isEmpty := by
  simp only [contains, getItem]
  cases (getAll kc fs k).isEmpty <;> rfl

theorem del_removes_all_only (kc : α → γ) (red : List β → β) (fs : List (α × β)) (k : α) :
    (delItem kc red fs k = none ↔ getAll kc fs k = []) ∧
    (∀ fs', delItem kc red fs k = some fs' →
        fs' = fs.filter (fun f => !keq kc f.1 k) ∧ getAll kc fs' k = [] ∧
        ∀ k', keq kc k' k = false → getAll kc fs' k' = getAll kc fs k') := by
  have hbne : (fun f : α × β => kc k != kc f.1) = (fun f => !keq kc f.1 k) := by
    funext f; simp only [keq, bne]; rw [BEq.comm]
  constructor
  · simp only [delItem, contains_isEmpty]
    cases h : getAll kc fs k <;> simp
  · intro fs' h
    simp only [delItem, contains_isEmpty, hbne] at h
    cases hg : (getAll kc fs k).isEmpty with
    | true => simp [hg] at h
    | false =>
      simp only [hg, Bool.not_false, Bool.not_true, Bool.false_eq_true, if_false, Option.some.injEq] at h
      subst h
      refine ⟨rfl, ?_, fun k' hk' => getAll_remove_other kc _ hk'⟩
      simp [getAll_filter, List.filter_filter]

theorem mem_iterLoop (kc : α → γ) (fs : List (α × β)) (seen : List γ) (k : α) :
    k ∈ iterLoop kc seen fs ↔
      seen.contains (kc k) = false ∧ (fs.find? (fun f => keq kc f.1 k)).map (·.1) = some k := by
  fun_induction iterLoop kc seen fs with
  | case1 seen => simp
  | case2 seen f fs hs ih =>
    rw [ih]
    refine and_congr_right fun hk => ?_
    have hne : keq kc f.1 k = false := by
      cases h : keq kc f.1 k with
      | false => rfl
      | true => rw [show kc f.1 = kc k by simpa [keq] using h, hk] at hs; cases hs
    rw [List.find?_cons, hne]
  | case3 seen f fs hs ih =>
    rw [List.mem_cons, ih, List.find?_cons]
    cases h : keq kc f.1 k with
    | false =>
      have h1 : k ≠ f.1 := fun e => by rw [e, keq_refl] at h; cases h
      have h2 : (kc k == kc f.1) = false := by rw [BEq.comm]; exact h
      simp [h1, h2]
    | true =>
      have h2 : kc f.1 = kc k := by simpa [keq] using h
      simp only [List.contains_cons, ← h2, BEq.rfl, Bool.true_or, Bool.true_eq_false, false_and, or_false,
        Option.map_some, Option.some.injEq]
      exact ⟨fun e => ⟨by simpa using hs, e.symm⟩, fun e => e.2.symm⟩

theorem iterLoop_nodup (kc : α → γ) (fs : List (α × β)) (seen : List γ) : ((iterLoop kc seen fs).map kc).Nodup := by
  fun_induction iterLoop kc seen fs with
  | case1 seen => simp
  | case2 seen f fs hs ih => exact ih
  | case3 seen f fs hs ih =>
    rw [List.map_cons, List.nodup_cons]
    refine ⟨fun hmem => ?_, ih⟩
    obtain ⟨k, hk, hkk⟩ := List.mem_map.mp hmem
    have := ((mem_iterLoop kc fs _ k).mp hk).1
    simp [hkk] at this

theorem len_loop (kc : α → γ) (fs : List (α × β)) (s : List γ) :
    (fs.foldl (fun s f => setAdd s (kc f.1)) s).length = s.length + (iterLoop kc s fs).length := by
  fun_induction iterLoop kc s fs with
  | case1 s => rfl
  | case2 s f fs h ih =>
    have hs : setAdd s (kc f.1) = s := by simp only [setAdd, h, if_true]
    rw [List.foldl_cons, hs, ih]
  | case3 s f fs h ih =>
    have hs : setAdd s (kc f.1) = kc f.1 :: s := by simp only [setAdd, h, Bool.false_eq_true, if_false]
    rw [List.foldl_cons, hs, ih]
    simp only [List.length_cons]; omega

theorem len_eq_distinct (kc : α → γ) (fs : List (α × β)) :
    len kc fs = (iter kc fs).length ∧ ((iter kc fs).map kc).Nodup ∧
    (∀ f ∈ fs, kc f.1 ∈ (iter kc fs).map kc) ∧ (∀ k ∈ iter kc fs, ∃ v, (k, v) ∈ fs) := by
  refine ⟨by simp [len, iter, len_loop], iterLoop_nodup kc fs [], fun f hf => ?_, fun k hk => ?_⟩
  · -- the first field with the name of `f` is yielded, and it is `f`'s name up to `kc`
    cases hg : fs.find? (fun x => keq kc x.1 f.1) with
    | none => simpa [keq_refl] using List.find?_eq_none.mp hg f hf
    | some g =>
      have hk : kc g.1 = kc f.1 := by simpa [keq] using List.find?_some hg
      refine List.mem_map.mpr ⟨g.1, (mem_iterLoop kc fs [] g.1).mpr ⟨rfl, ?_⟩, hk⟩
      simp only [keq, hk] at hg ⊢
      rw [hg]; rfl
  · obtain ⟨g, hg, rfl⟩ := Option.map_eq_some_iff.mp ((mem_iterLoop kc fs [] k).mp hk).2
    exact ⟨g.2, List.mem_of_find?_eq_some hg⟩

theorem iterLoop_sublist (kc : α → γ) (fs : List (α × β)) (seen : List γ) :
    List.Sublist (iterLoop kc seen fs) (fs.map (·.1)) := by
  fun_induction iterLoop kc seen fs with
  | case1 seen => simp
  | case2 seen f fs hs ih => exact List.Sublist.cons _ ih
  | case3 seen f fs hs ih => exact List.Sublist.cons_cons _ ih

theorem iter_first_occurrence_spelling (kc : α → γ) (fs : List (α × β)) :
    (∀ k ∈ iter kc fs, (fs.find? (fun f => keq kc f.1 k)).map (·.1) = some k) ∧
    List.Sublist (iter kc fs) (fs.map (·.1)) :=
  ⟨fun k hk => ((mem_iterLoop kc fs [] k).mp hk).2, iterLoop_sublist kc fs []⟩

theorem take_ins_drop (e : α × β) (m : List (α × β)) : ∀ p, p ≤ m.length →
    (m.take p ++ e :: m.drop p)[p]? = some e ∧ (m.take p ++ e :: m.drop p).eraseIdx p = m := by
  induction m with
  | nil => intro p hp; have : p = 0 := by simpa using hp
           subst this; simp
  | cons x m ih =>
    intro p hp
    cases p with
    | zero => simp
    | succ p =>
      have := ih p (by simpa using hp)
      simp [this.1, this.2]

theorem pyIndex_le (n : Nat) (i : Int) : pyIndex n i ≤ n := by
  simp only [pyIndex]
  by_cases h : i < 0
  · simp only [h, if_true]
    by_cases h2 : (n : Int) + i < 0 <;> simp only [h2, if_true, if_false] <;> omega
  · simp only [h, if_false]
    by_cases h2 : i.toNat ≤ n <;> simp only [h2, if_true, if_false] <;> omega

theorem insert_at (fs : List (α × β)) (i : Int) (k : α) (v : β) :
    (MitmVerif.C35.Gen.insert fs i k v)[pyIndex fs.length i]? = some (k, v) ∧
    (MitmVerif.C35.Gen.insert fs i k v).eraseIdx (pyIndex fs.length i) = fs :=
  take_ins_drop (k, v) fs _ (pyIndex_le _ _)

theorem mem_insert (fs : List (α × β)) (i : Int) (k : α) (v : β) (e : α × β)
    (h : e ∈ MitmVerif.C35.Gen.insert fs i k v) : e ∈ fs ∨ e = (k, v) := by
  simp only [MitmVerif.C35.Gen.insert, List.mem_append, List.mem_cons] at h
  rcases h with h1 | h1 | h1
  · exact Or.inl (List.mem_of_mem_take h1)
  · exact Or.inr h1
  · exact Or.inl (List.mem_of_mem_drop h1)

/-- the key an operation brings in, if any -/
def MOp.key? : MOp α β → Option α
  | .setAll k _ | .setItem k _ | .insert _ k _ | .add k _ => some k
  | _ => none

/-- a call brings in no name but its own key: the step that keeps the fields of `request.cookies` inside the class the cookie
    codec round-trips (`Props.C35.request_cookies_view_refines`) -/
theorem mem_stepOp (kc : α → γ) (red : List β → β) (fs fs' : List (α × β)) (op : MOp α β)
    (h : (stepOp kc red fs op).1 = some fs') (e : α × β) (he : e ∈ fs') :
    e ∈ fs ∨ ∃ k, MOp.key? op = some k ∧ keq kc e.1 k = true := by
  cases op with
  | getAll k => simp [stepOp] at h
  | getItem k => simp [stepOp] at h
  | iter => simp [stepOp] at h
  | len => simp [stepOp] at h
  | setAll k vs =>
    simp only [stepOp, Option.some.injEq] at h; subst h
    exact (mem_setAll kc fs k vs e he).imp_right (fun h1 => ⟨k, rfl, h1⟩)
  | setItem k v =>
    simp only [stepOp, setItem, Option.some.injEq] at h; subst h
    exact (mem_setAll kc fs k [v] e he).imp_right (fun h1 => ⟨k, rfl, h1⟩)
  | delItem k =>
    simp only [stepOp] at h
    cases hd : delItem kc red fs k with
    | none => simp [hd] at h
    | some r =>
      simp only [hd, Option.some.injEq] at h; subst h
      rw [((del_removes_all_only kc red fs k).2 r hd).1] at he
      exact Or.inl (List.mem_filter.mp he).1
  | insert i k v =>
    simp only [stepOp, Option.some.injEq] at h; subst h
    exact (mem_insert fs i k v e he).imp_right (fun h1 => ⟨k, rfl, by rw [h1]; exact keq_refl kc k⟩)
  | add k v =>
    simp only [stepOp, MitmVerif.C35.Gen.add, Option.some.injEq] at h; subst h
    exact (mem_insert fs _ k v e he).imp_right (fun h1 => ⟨k, rfl, by rw [h1]; exact keq_refl kc k⟩)

end MitmVerif.MultiDictGen
