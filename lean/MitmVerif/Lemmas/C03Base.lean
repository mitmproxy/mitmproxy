/-
  C03 — projections of the result constructors (`mk`, `crash`, `fire`, `W.pre`, `W.fin`); the dispatch of `procEv` and
  `procDone` read once (`procEv_cases`, `procDone_cases`: a call is ignored, rejected, or is one call of a handler on
  `evCore` resp. of `resume` on `doneCore` — the incoming core with the bookkeeping of the call and, for a hook
  completion, the addon's action applied), so that the lemmas about the handlers lift to the two entry points without
  unfolding them again; the invariant `InvB` (Model/C03_Inv.lean) in the initial and in the absorbing `bad` state; and
  the lifting of a property of single calls to every run of the concrete layer (`run_invariant`).
-/
import MitmVerif.Model.C03_Inv
namespace MitmVerif.C03

section projections
@[simp] theorem mk_c (c : Core) (o : List Out) : (mk c o).c = c := rfl
@[simp] theorem mk_crashed (c : Core) (o : List Out) : (mk c o).crashed = false := rfl
@[simp] theorem crash_c (c : Core) : (crash c).c = c := rfl
@[simp] theorem crash_crashed (c : Core) : (crash c).crashed = true := rfl
@[simp] theorem fire_c (c : Core) (h : Hook) (k : K) : (fire c h k).c = fireC c h k := rfl
@[simp] theorem fire_crashed (c : Core) (h : Hook) (k : K) : (fire c h k).crashed = false := rfl
@[simp] theorem pre_c (o : List Out) (w : W) : (W.pre o w).c = w.c := rfl
@[simp] theorem pre_crashed (o : List Out) (w : W) : (W.pre o w).crashed = w.crashed := rfl
theorem fin_mk (q : Bool) (c : Core) (o : List Out) : (W.fin q (mk c o)).c = c := by
  cases c; simp [W.fin, mk]
theorem fin_fire (q : Bool) (c : Core) (h : Hook) (k : K) : (W.fin q (fire c h k)).c = fireC c h k := fin_mk q _ _
theorem fin_crash (q : Bool) (c : Core) : (W.fin q (crash c)).c = { c with stale := c.stale || q } := by
  simp [W.fin, crash]
theorem fin_pre (q : Bool) (o : List Out) (w : W) : (W.fin q (W.pre o w)).c = (W.fin q w).c := rfl
theorem ite_crashed (b : Prop) [Decidable b] (x y : W) : (if b then x else y).crashed = if b then x.crashed else y.crashed := by
  split <;> rfl
end projections

def AEv.isReqErr : AEv → Bool
  | .reqErr => true
  | _ => false

def AEv.isReqHeaders : AEv → Bool
  | .reqHeaders .. => true
  | _ => false

/-- the core as `procEv` hands it to the handler: what the call itself records is set before -/
def evCore (c : Core) (ev : AEv) (q : Bool) : Core :=
  { c with draining := q, procReqErr := ev.isReqErr || c.procReqErr, seenReqHdr := ev.isReqHeaders || c.seenReqHdr }

/-- the inner `match` of `procEv` -/
def handle (d : Core) (ev : AEv) (peek : Bool) : W :=
  match ev with
  | .reqErr => handlePE d false .top peek
  | .respErr => handlePE d true .top peek
  | .reqHeaders .. | .reqData _ | .reqEOM _ | .reqTrailers => clientEvent d ev
  | _ => serverEvent d ev

theorem procEv_cases (c : Core) (ev : AEv) (p qd : Bool) :
    ((c.bad = true ∨ c.pt = true) ∧ procEv c ev p qd = mk c []) ∨
    (grammarOk c ev = false ∧ procEv c ev p qd = mk badCore []) ∨
    (c.bad = false ∧ c.pt = false ∧ grammarOk c ev = true ∧
      procEv c ev p qd = W.fin (qd && c.draining) (handle (evCore c ev (qd && c.draining)) ev p)) := by
  unfold procEv
  split
  · exact .inl ⟨.inl ‹_›, rfl⟩
  · split
    · exact .inl ⟨.inr ‹_›, rfl⟩
    · split
      · exact .inr (.inl ⟨by simp_all, rfl⟩)
      · rename_i hb hpt hg
        refine .inr (.inr ⟨by simpa using hb, by simpa using hpt, by simpa using hg, ?_⟩)
        cases ev <;> rfl

/-- the tests `procDone` makes of a completion against the suspension point; the emitter's `enabled`
    (Model/C03_Emit.lean) makes the same ones (`answers_of_enabled`, Lemmas/C03Gram.lean) -/
def answers (k : K) : AEv → Bool
  | .hookDone h _ => k.hook == some h
  | .connDone _ => k.hook.isNone && k != .connectOpen
  | .openDone _ => k == .connectOpen
  | _ => false

def doneCore (c : Core) : AEv → Core
  | .hookDone h a => applyAction { c with paused := none, draining := true } h a
  | _ => { c with paused := none, draining := true }

/-- `true` for a hook completion: that is what `procDone` passes to `resume` there -/
def AEv.ok : AEv → Bool
  | .connDone ok | .openDone ok => ok
  | _ => true

theorem procDone_cases (c : Core) (ev : AEv) (p : Bool) :
    (c.bad = true ∧ procDone c ev p = mk c []) ∨
    ((∀ k, c.paused = some k → answers k ev = false) ∧ procDone c ev p = mk badCore []) ∨
    ∃ k, c.bad = false ∧ c.paused = some k ∧ answers k ev = true ∧
      procDone c ev p = W.fin true (resume (doneCore c ev) k ev.ok p) := by
  unfold procDone
  split
  · exact .inl ⟨‹_›, rfl⟩
  · rename_i hb
    cases hk : c.paused with
    | none => exact .inr (.inl ⟨nofun, rfl⟩)
    | some k =>
      by_cases ha : answers k ev = true
      · refine .inr (.inr ⟨k, by simpa using hb, rfl, ha, ?_⟩)
        cases ev <;> simp_all [answers, doneCore, AEv.ok, K.hook]
      · refine .inr (.inl ⟨fun k' hk' => by cases hk'; simpa using ha, ?_⟩)
        cases ev <;> cases hh : k.hook <;> simp_all [answers]
        exact fun e => absurd e.symm ha

theorem applyAction_paused (c : Core) (h : Hook) (a : Action) : (applyAction c h a).paused = c.paused := by cases a <;> rfl
theorem applyAction_bad (c : Core) (h : Hook) (a : Action) : (applyAction c h a).bad = c.bad := by cases a <;> rfl

theorem inv_init : InvB {} = true := by decide

theorem inv_bad : InvB badCore = true := by decide

/-- The side condition of `hH` is all that `step` and `drain` guarantee of the calls they make: a completion is handled
    in any state, an event only while the layer is not paused (otherwise `step` queues it: `hQ`). -/
theorem run_invariant (P : St → Prop) (hQ : ∀ s q, P s → P { s with queue := q })
    (hH : ∀ s ev queued, P s → (ev.isDone = true ∨ s.core.paused = none) → P (handleNow s ev queued))
    (l t : Nat) (h0 : P (init l t)) (evs : List Ev) : P (run l t evs) := by
  have hDrain : ∀ fuel s, P s → P (drain fuel s) := by
    intro fuel
    induction fuel with
    | zero => exact fun _ h => h
    | succ n ih =>
      intro s h
      unfold drain
      split
      · exact h
      · rename_i hc
        split
        · exact h
        · exact ih _ (hH _ _ _ (hQ _ _ h) (.inr (Option.not_isSome_iff_eq_none.1 (by simp_all))))
  have hStep : ∀ s ev, P s → P (step s ev) := by
    intro s ev h
    unfold step
    split
    · split
      · rename_i hd
        exact hDrain _ _ (hH _ _ _ h (.inl hd))
      · exact hQ _ _ h
    · rename_i hp
      exact hH _ _ _ h (.inr (Option.not_isSome_iff_eq_none.1 hp))
  unfold run
  generalize init l t = s at h0
  induction evs generalizing s with
  | nil => exact h0
  | cons e es ih => exact ih _ (hStep s e h0)

theorem W.ite_elim {P : W → Prop} (b : Prop) [Decidable b] (x y : W) (hx : b → P x) (hy : ¬b → P y) :
    P (if b then x else y) := by
  split
  · exact hx ‹_›
  · exact hy ‹_›

end MitmVerif.C03
