/-
  C22 — value bounds of the `ipaddress` parser model: an IPv4 text yields a value below 2^32, an IPv6 text one below
  2^128.  (Four octets of at most 255; every hextet is below 65536 and at most eight of them are shifted together.)
-/
import MitmVerif.Model.C22
namespace MitmVerif.Lemmas.C22
open MitmVerif MitmVerif.C22

theorem parseOctet_le (s : Text) (v : Nat) (h : parseOctet s = some v) : v ≤ 255 := by
  simp only [parseOctet, Option.ite_none_left_eq_some, Option.some.injEq] at h
  omega

theorem parseV4_le (s : Text) (n : Nat) (h : parseV4 s = some n) : n ≤ 4294967295 := by
  unfold parseV4 at h
  split at h; · cases h
  split at h; · cases h
  split at h
  · split at h
    · rename_i ha hb hc hd
      cases h
      have := parseOctet_le _ _ ha; have := parseOctet_le _ _ hb
      have := parseOctet_le _ _ hc; have := parseOctet_le _ _ hd
      omega
    · cases h
  · cases h

theorem hexVal_getD_lt (c : UInt8) : (hexVal c).getD 0 < 16 := by
  unfold hexVal
  simp only
  split
  · simp only [Option.getD_some]; omega
  · split
    · simp only [Option.getD_some]; omega
    · split
      · simp only [Option.getD_some]; omega
      · simp

theorem fold16_lt (s : Text) : ∀ acc : Nat,
    s.foldl (fun a c => a * 16 + (hexVal c).getD 0) acc < (acc + 1) * 16 ^ s.length := by
  induction s with
  | nil => intro acc; simp
  | cons c cs ih =>
    intro acc
    simp only [List.foldl_cons, List.length_cons]
    have hd := hexVal_getD_lt c
    have h1 := ih (acc * 16 + (hexVal c).getD 0)
    have h2 : (acc * 16 + (hexVal c).getD 0 + 1) * 16 ^ cs.length ≤ ((acc + 1) * 16) * 16 ^ cs.length :=
      Nat.mul_le_mul_right _ (by omega)
    have h3 : ((acc + 1) * 16) * 16 ^ cs.length = (acc + 1) * 16 ^ (cs.length + 1) := by
      rw [Nat.pow_succ, Nat.mul_assoc, Nat.mul_comm 16]
    omega

theorem parseHextet_lt (s : Text) (v : Nat) (h : parseHextet s = some v) : v < 65536 := by
  simp only [parseHextet, Option.ite_none_left_eq_some, Option.some.injEq] at h
  obtain ⟨_, hlen, _, rfl⟩ := h
  have hb := fold16_lt s 0
  have hp : 16 ^ s.length ≤ 16 ^ 4 := Nat.pow_le_pow_right (by decide) (by omega)
  omega

/-- a part whose value, if it has one, is a hextet -/
def PartOk (p : Part) : Prop := ∀ v, p.val = some v → v < 65536

theorem partOk_txt (t : Text) : PartOk (Part.txt t) := fun v h => parseHextet_lt t v h

theorem partOk_num (n : Nat) (h : n < 65536) : PartOk (Part.num n) := by
  intro v hv; simp only [Part.val, Option.some.injEq] at hv; omega

theorem v6Parts_ok (s : Text) (parts : List Part) (h : v6Parts s = some parts) :
    ∀ p ∈ parts, PartOk p := by
  simp only [v6Parts, Option.ite_none_left_eq_some] at h
  obtain ⟨_, _, h⟩ := h
  split at h
  · split at h
    · rename_i v hv
      cases h
      have hw := parseV4_le _ v hv
      intro p hp
      simp only [List.mem_append, List.mem_map, List.mem_cons, List.not_mem_nil, or_false] at hp
      rcases hp with ⟨t, _, rfl⟩ | rfl | rfl
      · exact partOk_txt t
      · exact partOk_num _ (by omega)
      · exact partOk_num _ (by omega)
    · cases h
  · cases h
    intro p hp
    obtain ⟨t, _, rfl⟩ := List.mem_map.mp hp
    exact partOk_txt t

theorem foldParts_lt (ps : List Part) : ∀ (acc r : Nat), (∀ p ∈ ps, PartOk p) →
    foldParts ps acc = some r → r < (acc + 1) * 65536 ^ ps.length := by
  induction ps with
  | nil => intro acc r _ h; simp only [foldParts, Option.some.injEq] at h; subst h; simp
  | cons p ps ih =>
    intro acc r hok h
    simp only [foldParts] at h
    cases hv : p.val with
    | none => simp [hv] at h
    | some v =>
      simp only [hv] at h
      have hvlt := hok p (List.mem_cons_self) v hv
      have h1 := ih (acc * 65536 + v) r (fun q hq => hok q (List.mem_cons_of_mem _ hq)) h
      have h2 : (acc * 65536 + v + 1) * 65536 ^ ps.length ≤ ((acc + 1) * 65536) * 65536 ^ ps.length :=
        Nat.mul_le_mul_right _ (by omega)
      have h3 : ((acc + 1) * 65536) * 65536 ^ ps.length = (acc + 1) * 65536 ^ (ps.length + 1) := by
        rw [Nat.pow_succ, Nat.mul_assoc, Nat.mul_comm 65536]
      simp only [List.length_cons]
      omega

private theorem pow8 : (65536 : Nat) ^ 8 = 340282366920938463463374607431768211456 := by decide

theorem assembleSkip_lt (parts : List Part) (hi lo n : Nat) (hok : ∀ p ∈ parts, PartOk p)
    (h : assembleSkip parts hi lo = some n) : n < 340282366920938463463374607431768211456 := by
  unfold assembleSkip at h
  split at h; · cases h
  rename_i hsum
  have hs : hi + lo < 8 := by omega
  cases ha : foldParts (List.take hi parts) 0 with
  | none => simp [ha] at h
  | some a =>
    simp only [ha] at h
    have h1 := foldParts_lt (List.take hi parts) 0 a
      (fun p hp => hok p (List.mem_of_mem_take hp)) ha
    have h2 := foldParts_lt (List.drop (parts.length - lo) parts) _ n
      (fun p hp => hok p (List.mem_of_mem_drop hp)) h
    have hlen1 : (List.take hi parts).length ≤ hi := by simp only [List.length_take]; omega
    have hlen2 : (List.drop (parts.length - lo) parts).length ≤ lo := by simp only [List.length_drop]; omega
    generalize (List.take hi parts).length = l1 at h1 hlen1
    generalize (List.drop (parts.length - lo) parts).length = l2 at h2 hlen2
    have hX : 0 < 65536 ^ (8 - (hi + lo)) := Nat.pow_pos (by decide)
    have ha : a * 65536 ^ (8 - (hi + lo)) + 1 ≤ 65536 ^ l1 * 65536 ^ (8 - (hi + lo)) := by
      have := Nat.mul_le_mul_right (65536 ^ (8 - (hi + lo))) (show a + 1 ≤ 65536 ^ l1 by omega)
      rw [Nat.add_mul] at this
      omega
    calc n < (a * 65536 ^ (8 - (hi + lo)) + 1) * 65536 ^ l2 := h2
      _ ≤ 65536 ^ l1 * 65536 ^ (8 - (hi + lo)) * 65536 ^ l2 := Nat.mul_le_mul_right _ ha
      _ = 65536 ^ (l1 + (8 - (hi + lo)) + l2) := by rw [Nat.pow_add, Nat.pow_add]
      _ ≤ 65536 ^ 8 := Nat.pow_le_pow_right (by decide) (by omega)
      _ = _ := pow8

/-- the assembled value of at most eight hextets is below 2^128 -/
theorem assembleV6_lt (parts : List Part) (n : Nat) (hok : ∀ p ∈ parts, PartOk p)
    (h : assembleV6 parts = some n) : n < 340282366920938463463374607431768211456 := by
  simp only [assembleV6, Option.ite_none_left_eq_some] at h
  obtain ⟨_, h⟩ := h
  split at h
  · -- no `::`: eight hextets
    simp only [Option.ite_none_left_eq_some, bne_iff_ne, ne_eq, Decidable.not_not] at h
    have := foldParts_lt parts 0 n hok h.2.2.2
    rw [h.1] at this
    omega
  · -- one `::`
    simp only [Option.ite_none_left_eq_some] at h
    exact assembleSkip_lt _ _ _ _ hok h.2.2
  · cases h

end MitmVerif.Lemmas.C22
