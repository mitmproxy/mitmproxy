import MitmVerif.Model.C04
/-!
  C04 — the calculus of `Layer.handle_event`: what holds of the model alone, before any vocabulary over the ghost trace
  (the vocabulary and the theorems are in Props/C04).

  * One `handle_event` call starts the handler, queues the event, or resumes the paused generator and then takes queued
    events for as long as the layer is idle.  `handleEvent_ind` is the Hoare rule for that, with the queue in the layer
    at every step; whatever one call keeps is proved through it.  `Keeps` is its form for predicates that do not look
    at `queue` and `arrived`: they need the two kinds of `__process` run only.
  * Nothing that leaves `handle_event` is `blocking is True` (`handleEvent_out`), so the commands a parent relays from a
    child run through the parent's `__process` without pausing it (`run_relay`); and a parent touches its children by
    `children[i].handle_event` only, also from a suspended generator that captured them (`lower_kids`, `KInv`).
  * `run_unhanded`, `run_askcont_false`/`_true`, `run_handed`: what `NextLayer._handle_event` and `_ask` do before, at and after
    the hand-over.
-/

namespace MitmVerif.C04

variable {σ σp σc Ev Cmd Reply : Type}

theorem run_out (nil : Reply) (g : Gen σ Cmd Reply) : ∀ x ∈ (run (Ev := Ev) nil g).out, x.2 ≠ Blk.yes := by
  fun_induction run (Ev := Ev) nil g with
  | case1 s => simp
  | case2 s c k => simp
  | case3 s c k b hb r ih =>
    intro x hx
    rcases List.mem_cons.mp hx with rfl | hx
    · exact hb
    · exact ih x hx

/-- the trace entries of commands that `__process` passes on without pausing -/
def emits (o : Out Cmd) : List (Entry Ev Cmd Reply) := o.map (fun x => .emit x.1 x.2)

/-- relayed commands (none of them `blocking is True`) pass through `__process` without pausing it -/
theorem run_relay {τ : Type} (nil : Reply) (s : τ) (o : Out Cmd) (g : Gen τ Cmd Reply)
    (h : ∀ x ∈ o, x.2 ≠ Blk.yes) :
    run (Ev := Ev) nil (relay s o g) =
      ⟨(run (Ev := Ev) nil g).st, (run (Ev := Ev) nil g).paused, emits o ++ (run (Ev := Ev) nil g).ents,
       o ++ (run (Ev := Ev) nil g).out⟩ := by
  induction o with
  | nil => simp [relay, emits]
  | cons x t ih =>
    obtain ⟨c, b⟩ := x
    have hb : b ≠ Blk.yes := h (c, b) (by simp)
    have := ih (fun x hx => h x (by simp [hx]))
    cases b with
    | yes => exact absurd rfl hb
    | no => simp [relay, run, this, emits]
    | owned => simp [relay, run, this, emits]

theorem handleEvent_idle [DecidableEq Cmd] (H : Handler σ Ev Cmd Reply) (nil : Reply)
    (L : Layer σ Ev Cmd Reply) (ev : Event Ev Cmd Reply) (hp : L.paused = none) :
    handleEvent H nil L ev = handleFresh H nil { L with arrived := L.arrived ++ [ev] } ev := by
  simp [handleEvent, hp]

theorem handleEvent_match [DecidableEq Cmd] (H : Handler σ Ev Cmd Reply) (nil : Reply)
    (L : Layer σ Ev Cmd Reply) (c : Cmd) (k : Reply → Gen σ Cmd Reply) (r : Reply) (hp : L.paused = some (c, k)) :
    handleEvent H nil L (.completed c r) = resumeWith H nil { L with arrived := L.arrived ++ [.completed c r] } c k r := by
  simp [handleEvent, hp]

theorem handleEvent_other [DecidableEq Cmd] (H : Handler σ Ev Cmd Reply) (nil : Reply)
    (L : Layer σ Ev Cmd Reply) (c : Cmd) (k : Reply → Gen σ Cmd Reply) (ev : Event Ev Cmd Reply)
    (hp : L.paused = some (c, k)) (hne : ∀ r, ev ≠ .completed c r) :
    handleEvent H nil L ev = enqueue { L with arrived := L.arrived ++ [ev] } ev := by
  cases ev with
  | plain e => simp [handleEvent, hp]
  | completed c' r =>
    have : c' ≠ c := fun h => hne r (by rw [h])
    simp [handleEvent, hp, this]

/-- one `__process` run on a layer: log the entry that starts it, drive the generator, keep where it stopped -/
abbrev proc (nil : Reply) (L : Layer σ Ev Cmd Reply) (e : Entry Ev Cmd Reply) (g : Gen σ Cmd Reply) :
    Layer σ Ev Cmd Reply :=
  { L with st := (run (Ev := Ev) nil g).st, paused := (run (Ev := Ev) nil g).paused,
           log := L.log ++ e :: (run (Ev := Ev) nil g).ents }

/-- `handle_event`, one `__process` run at a time.  The call does one of three things with the event: it `start`s the
    handler on an idle layer, `queue`s the event behind a paused one, or `resume`s the generator paused on the
    completed command; after a resume `__continue`'s loop takes the `next` queued event for as long as the layer is
    idle, and `stop`s when it has paused again or the queue is empty.  `inv` is the loop's invariant, `o` what has been
    emitted so far.  (`drain` is passed the queue as an argument; here it is in the layer at every step, as in
    layer.py, where the loop pops `_paused_event_queue`.) -/
theorem handleEvent_ind [DecidableEq Cmd] (H : Handler σ Ev Cmd Reply) (nil : Reply)
    (L : Layer σ Ev Cmd Reply) (ev : Event Ev Cmd Reply) (post inv : Layer σ Ev Cmd Reply × Out Cmd → Prop)
    (start : L.paused = none → post
      (proc nil { L with arrived := L.arrived ++ [ev] } (.handle ev) (H L.st ev), (run (Ev := Ev) nil (H L.st ev)).out))
    (queue : ∀ c k, L.paused = some (c, k) → (∀ r, ev ≠ .completed c r) →
      post ({ L with queue := L.queue ++ [ev], arrived := L.arrived ++ [ev] }, []))
    (resume : ∀ c k r, L.paused = some (c, k) → ev = .completed c r → inv
      (proc nil { L with arrived := L.arrived ++ [ev] } (.resume c r) (k r), (run (Ev := Ev) nil (k r)).out))
    (next : ∀ M o e rest, M.paused = none → M.queue = e :: rest → inv (M, o) → inv
      (proc nil { M with queue := rest } (.handle e) (H M.st e), o ++ (run (Ev := Ev) nil (H M.st e)).out))
    (stop : ∀ M o, (M.paused = none → M.queue = []) → inv (M, o) → post (M, o)) :
    post (handleEvent H nil L ev) := by
  have loop : ∀ q (M : Layer σ Ev Cmd Reply) o, inv ({ M with queue := q }, o) →
      post ((drain H nil M q).1, o ++ (drain H nil M q).2) := by
    intro q M
    fun_induction drain H nil M q with
    | case1 M => intro o h; simpa using stop _ o (fun _ => rfl) h
    | case2 M e rest pk hp => intro o h; simpa using stop _ o (by simp [hp]) h
    | case3 M e rest hp r1 r2 ih =>
      intro o h
      rw [← List.append_assoc]
      exact ih _ (next { M with queue := e :: rest } o e rest hp rfl h)
  cases hp : L.paused with
  | none => rw [handleEvent_idle H nil L ev hp]; exact start hp
  | some pk =>
    obtain ⟨c, k⟩ := pk
    by_cases hm : ∃ r, ev = .completed c r
    · obtain ⟨r, rfl⟩ := hm
      rw [handleEvent_match H nil L c k r hp]
      exact loop _ _ _ (resume c k r hp rfl)
    · rw [handleEvent_other H nil L c k ev hp (fun r h => hm ⟨r, h⟩)]
      exact queue c k hp (fun r h => hm ⟨r, h⟩)

/-- a predicate that does not look at `queue` and `arrived` is kept by `handle_event`, and so by whole schedules, if it
    is kept when the handler is started on the idle layer and when the reply is sent into the suspended generator -/
structure Keeps (H : Handler σ Ev Cmd Reply) (nil : Reply) (I : Layer σ Ev Cmd Reply → Prop) : Prop where
  frame : ∀ L q a, I L → I { L with queue := q, arrived := a }
  handle : ∀ L ev, L.paused = none → I L → I (proc nil L (.handle ev) (H L.st ev))
  resume : ∀ L c k r, L.paused = some (c, k) → I L → I (proc nil L (.resume c r) (k r))

theorem Keeps.step [DecidableEq Cmd] {H : Handler σ Ev Cmd Reply} {nil : Reply} {I : Layer σ Ev Cmd Reply → Prop}
    (K : Keeps H nil I) (L : Layer σ Ev Cmd Reply) (ev : Event Ev Cmd Reply) (h : I L) : I (handleEvent H nil L ev).1 :=
  have h' := K.frame L L.queue (L.arrived ++ [ev]) h
  handleEvent_ind H nil L ev (fun x => I x.1) (fun x => I x.1)
    (fun hp => K.handle { L with arrived := L.arrived ++ [ev] } ev hp h') (fun _ _ _ _ => K.frame L _ _ h)
    (fun c k r hp _ => K.resume { L with arrived := L.arrived ++ [ev] } c k r hp h')
    (fun M _ e rest hp _ hM => K.handle { M with queue := rest } e hp (K.frame M rest M.arrived hM)) (fun _ _ _ hM => hM)

theorem handleEvent_arrived [DecidableEq Cmd] (H : Handler σ Ev Cmd Reply) (nil : Reply)
    (L : Layer σ Ev Cmd Reply) (ev : Event Ev Cmd Reply) : (handleEvent H nil L ev).1.arrived = L.arrived ++ [ev] :=
  handleEvent_ind H nil L ev (fun x => x.1.arrived = L.arrived ++ [ev]) (fun x => x.1.arrived = L.arrived ++ [ev])
    (fun _ => rfl) (fun _ _ _ _ => rfl) (fun _ _ _ _ _ => rfl) (fun _ _ _ _ _ _ h => h) (fun _ _ _ h => h)

/-- commands that leave `handle_event` never carry `blocking is True` (outer layers test exactly that) -/
theorem handleEvent_out [DecidableEq Cmd] (H : Handler σ Ev Cmd Reply) (nil : Reply)
    (L : Layer σ Ev Cmd Reply) (ev : Event Ev Cmd Reply) : ∀ x ∈ (handleEvent H nil L ev).2, x.2 ≠ Blk.yes := by
  refine handleEvent_ind H nil L ev (fun y => ∀ x ∈ y.2, x.2 ≠ Blk.yes) (fun y => ∀ x ∈ y.2, x.2 ≠ Blk.yes)
    (fun _ => run_out nil _) (fun _ _ _ _ => by simp) (fun _ _ _ _ _ => run_out nil _) ?_ (fun _ _ _ h => h)
  intro M o e rest _ _ ho x hx
  exact (List.mem_append.mp hx).elim (ho x) (run_out nil _ x)

theorem drain_log [DecidableEq Cmd] (H : Handler σ Ev Cmd Reply) (nil : Reply)
    (q : List (Event Ev Cmd Reply)) (L : Layer σ Ev Cmd Reply) :
    ∃ more, (drain H nil L q).1.log = L.log ++ more := by
  fun_induction drain H nil L q with
  | case1 L => exact ⟨[], by simp⟩
  | case2 L ev rest pk hp => exact ⟨[], by simp⟩
  | case3 L ev rest hp r1 r2 ih =>
    obtain ⟨m, hm⟩ := ih
    exact ⟨Entry.handle ev :: (run (Ev := Ev) nil (H L.st ev)).ents ++ m, by rw [hm]; simp [r1, handleFresh]⟩

theorem runSched_keeps [DecidableEq Cmd] {H : Handler σ Ev Cmd Reply} {nil : Reply} {I : Layer σ Ev Cmd Reply → Prop}
    (step : ∀ L ev, I L → I (handleEvent H nil L ev).1) (evs : List (Event Ev Cmd Reply)) :
    ∀ L, I L → I (runSched H nil L evs) := by
  induction evs with
  | nil => intro L h; exact h
  | cons ev rest ih => intro L h; exact ih _ (step L ev h)

theorem runSched_arrived [DecidableEq Cmd] (H : Handler σ Ev Cmd Reply) (nil : Reply)
    (evs : List (Event Ev Cmd Reply)) : ∀ (L : Layer σ Ev Cmd Reply), (runSched H nil L evs).arrived = L.arrived ++ evs := by
  induction evs with
  | nil => intro L; simp [runSched]
  | cons ev rest ih => intro L; rw [runSched, ih, handleEvent_arrived]; simp

theorem runSched_snoc [DecidableEq Cmd] (H : Handler σ Ev Cmd Reply) (nil : Reply)
    (xs : List (Event Ev Cmd Reply)) (ev : Event Ev Cmd Reply) : ∀ (L : Layer σ Ev Cmd Reply),
    runSched H nil L (xs ++ [ev]) = (handleEvent H nil (runSched H nil L xs) ev).1 := by
  induction xs with
  | nil => intro L; rfl
  | cons x t ih => intro L; simp only [List.cons_append, runSched]; exact ih _

theorem replay_fst [DecidableEq Cmd] (Hc : Handler σc Ev Cmd Reply) (nil : Reply)
    (evs : List (Event Ev Cmd Reply)) : ∀ ch : Layer σc Ev Cmd Reply, (replay Hc nil ch evs).1 = runSched Hc nil ch evs := by
  induction evs with
  | nil => intro ch; rfl
  | cons e t ih => intro ch; exact ih _

theorem replay_out [DecidableEq Cmd] (Hc : Handler σc Ev Cmd Reply) (nil : Reply)
    (evs : List (Event Ev Cmd Reply)) : ∀ ch : Layer σc Ev Cmd Reply, ∀ x ∈ (replay Hc nil ch evs).2, x.2 ≠ Blk.yes := by
  induction evs with
  | nil => intro ch; simp [replay]
  | cons e t ih =>
    intro ch x hx
    simp only [replay] at hx
    exact (List.mem_append.mp hx).elim (handleEvent_out Hc nil ch e x) (ih _ x)

/-- a predicate `C` on the list of children holds of the parent's children and of the children captured by its
    suspended generator (`CInv` and `RInv` of Props/C04 are this for two choices of `C`) -/
structure KInv [DecidableEq Cmd] (C : List (Layer σc Ev Cmd Reply) → Prop) (Hc : Nat → Handler σc Ev Cmd Reply)
    (nil : Reply) (P : Layer (σp × List (Layer σc Ev Cmd Reply)) Ev Cmd Reply) : Prop where
  kids : C P.st.2
  cont : ∀ c k, P.paused = some (c, k) → ∀ r, ∃ (g : PGen σp Ev Cmd Reply) (chs : List (Layer σc Ev Cmd Reply)),
          k r = lower Hc nil g chs ∧ C chs

/-- a parent generator touches its children only by `chs.set i (children[i].handle_event ev)`: wherever its `__process`
    run stops, `KInv` holds (of a layer with that state and suspended generator, whatever its other fields) -/
theorem lower_kids [DecidableEq Cmd] (C : List (Layer σc Ev Cmd Reply) → Prop)
    (Hc : Nat → Handler σc Ev Cmd Reply) (nil : Reply)
    (hC : ∀ chs i ch ev, chs[i]? = some ch → C chs → C (chs.set i (handleEvent (Hc i) nil ch ev).1))
    (g : PGen σp Ev Cmd Reply) : ∀ chs : List (Layer σc Ev Cmd Reply), C chs → ∀ q l a,
    KInv C Hc nil ⟨(run (Ev := Ev) nil (lower Hc nil g chs)).st, (run (Ev := Ev) nil (lower Hc nil g chs)).paused, q, l, a⟩ := by
  induction g with
  | done s => intro chs h q l a; exact ⟨h, by simp [lower, run]⟩
  | yield s c b k ih =>
    intro chs h q l a
    cases b with
    | yes =>
      refine ⟨h, ?_⟩
      intro c' k' hk
      simp only [lower, run, Option.some.injEq, Prod.mk.injEq] at hk
      obtain ⟨_, rfl⟩ := hk
      exact fun r => ⟨k r, chs, rfl, h⟩
    | no => exact ih nil chs h q l a
    | owned => exact ih nil chs h q l a
  | child s i ev k ih =>
    intro chs h q l a
    cases hi : chs[i]? with
    | none => simpa only [lower, hi] using ih chs h q l a
    | some ch =>
      simp only [lower, hi]
      rw [run_relay nil _ _ _ (handleEvent_out (Hc i) nil ch ev)]
      exact ih _ (hC chs i ch ev hi h) q l a

theorem kinv_keeps [DecidableEq Cmd] (C : List (Layer σc Ev Cmd Reply) → Prop)
    (PH : σp → Event Ev Cmd Reply → PGen σp Ev Cmd Reply) (Hc : Nat → Handler σc Ev Cmd Reply) (nil : Reply)
    (hC : ∀ chs i ch ev, chs[i]? = some ch → C chs → C (chs.set i (handleEvent (Hc i) nil ch ev).1)) :
    Keeps (parentHandler PH Hc nil) nil (KInv C Hc nil) where
  frame := fun _ _ _ h => ⟨h.kids, h.cont⟩
  handle := fun P ev _ h => lower_kids C Hc nil hC (PH P.st.1 ev) P.st.2 h.kids _ _ _
  resume := fun P c k r hp h => by
    obtain ⟨g, chs, e, hg⟩ := h.cont c k hp r
    unfold proc
    rw [e]
    exact lower_kids C Hc nil hC g chs hg _ _ _

/-- before the hand-over one `_handle_event` call buffers the event and leaves the child alone; if it pauses, the
    suspended generator is `nlAskCont` of the state it leaves -/
theorem run_unhanded [DecidableEq Cmd] (P : NLParams Ev Cmd Reply) (Hc : Handler σc Ev Cmd Reply) (nil : Reply)
    (s : NLState σc Ev Cmd Reply) (ev : Event Ev Cmd Reply) (hh : s.handed = false) :
    (run (Ev := Ev) nil (nlHandler P Hc nil s ev)).st.handed = false ∧
    (run (Ev := Ev) nil (nlHandler P Hc nil s ev)).st.child = s.child ∧
    (run (Ev := Ev) nil (nlHandler P Hc nil s ev)).st.events = s.events ++ [ev] ∧
    ∀ c k, (run (Ev := Ev) nil (nlHandler P Hc nil s ev)).paused = some (c, k) →
      k = nlAskCont P Hc nil (run (Ev := Ev) nil (nlHandler P Hc nil s ev)).st := by
  cases hk : nlKind P ev <;> cases ha : P.askOnStart <;> simp [nlHandler, hh, hk, ha, nlAsk, run]

theorem run_askcont_false [DecidableEq Cmd] (P : NLParams Ev Cmd Reply) (Hc : Handler σc Ev Cmd Reply) (nil : Reply)
    (s : NLState σc Ev Cmd Reply) (r : Reply) (hd : P.decide r = false) :
    run (Ev := Ev) nil (nlAskCont P Hc nil s r) = ⟨s, none, [], []⟩ := by
  simp [nlAskCont, hd, run]

theorem run_askcont_true [DecidableEq Cmd] (P : NLParams Ev Cmd Reply) (Hc : Handler σc Ev Cmd Reply) (nil : Reply)
    (s : NLState σc Ev Cmd Reply) (r : Reply) (hd : P.decide r = true) :
    run (Ev := Ev) nil (nlAskCont P Hc nil s r) =
      ⟨{ s with events := [], child := (replay Hc nil s.child s.events).1, handed := true }, none,
       emits (replay Hc nil s.child s.events).2, (replay Hc nil s.child s.events).2⟩ := by
  simp only [nlAskCont, hd, if_true]
  rw [run_relay nil _ _ _ (replay_out Hc nil s.events s.child)]
  simp [run]

theorem run_handed [DecidableEq Cmd] (P : NLParams Ev Cmd Reply) (Hc : Handler σc Ev Cmd Reply) (nil : Reply)
    (s : NLState σc Ev Cmd Reply) (ev : Event Ev Cmd Reply) (hh : s.handed = true) :
    run (Ev := Ev) nil (nlHandler P Hc nil s ev) =
      ⟨{ s with child := (handleEvent Hc nil s.child ev).1 }, none,
       emits (handleEvent Hc nil s.child ev).2, (handleEvent Hc nil s.child ev).2⟩ := by
  simp only [nlHandler, hh, if_true]
  rw [run_relay nil _ _ _ (handleEvent_out Hc nil s.child ev)]
  simp [run]

end MitmVerif.C04
