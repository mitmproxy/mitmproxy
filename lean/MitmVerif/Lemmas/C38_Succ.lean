/-
  C38 — success lemmas for 18→19: on connection records of the shape formats 10 … 18 wrote, the converter does not raise.
-/
import MitmVerif.Lemmas.C38_Host
namespace MitmVerif.C38Conv
open MitmVerif MitmVerif.C36

/-- a value `decodeHostIn` accepts under a key: absent, falsy, or a list / str / bytes.  `hostOkM` of Model/C38_Migrate is the
    same function under another name (`shape12B`, the test the driver runs, is written with it);
    `Props.C38.checked_shape_loads` passes one for the other by definitional unfolding, so the two bodies have to stay identical. -/
def hostOkB (o : Option Value) : Bool :=
  match o with
  | none => true
  | some v => !truthy v || (match v with | .list _ => true | .str _ => true | .bytes _ => true | _ => false)

theorem decodeHostIn_succeeds (c : Dict) (n : Bytes) (h : hostOkB (dget c n) = true) : ∃ c', decodeHostIn c n = some c' := by
  fun_cases decodeHostIn c n <;> simp_all [hostOkB]

theorem conn18_succeeds (c : Dict) (te : Value) (h0 : dget c (s "tls_established") = some te)
    (h1 : hostOkB (dget c (s "peername")) = true) (h2 : hostOkB (dget c (s "sockname")) = true)
    (h3 : hostOkB (dget c (s "address")) = true) : ∃ c', conn18 c = some c' := by
  obtain ⟨c1, hc1⟩ := decodeHostIn_succeeds (conn18fields c) (s "peername") (by simpa using h1)
  have f1 (m : Bytes) := decodeHostIn_frame _ _ _ m hc1
  obtain ⟨c2, hc2⟩ := decodeHostIn_succeeds c1 (s "sockname") (by simpa [f1] using h2)
  have f2 (m : Bytes) := decodeHostIn_frame _ _ _ m hc2
  obtain ⟨c3, hc3⟩ := decodeHostIn_succeeds c2 (s "address") (by simpa [f1, f2] using h3)
  exact ⟨c3, by simp [conn18, dhas_of_dget h0, hc1, hc2, hc3]⟩

theorem hostOkB_getD (o : Option Value) (h : hostOkB o = true) : hostOkB (some (o.getD .null)) = true := by
  cases o with
  | none => rfl
  | some v => exact h

theorem conn18_address (c c' : Dict) (h : conn18 c = some c') :
    dget c' (s "address") = (match dget c (s "address") with
      | some (.list (.bytes hb :: rest)) => some (.list (.str (bsrUtf8 hb) :: rest))
      | o => o) := by
  unfold conn18 at h
  split at h
  · cases h
  · simp only [Option.bind_eq_bind, Option.bind_eq_some_iff] at h
    obtain ⟨c1, hc1, c2, hc2, h3⟩ := h
    rw [decodeHostIn_same _ _ _ h3, decodeHostIn_frame _ _ _ _ hc2 (by simp), decodeHostIn_frame _ _ _ _ hc1 (by simp),
      conn18fields_frame c _ (by simp) (by simp) (by simp) (by simp)]
    rfl

theorem client18_succeeds (cc : Dict) (tx te : Value) (h0 : dget cc (s "tls_extensions") = some tx)
    (h1 : dget cc (s "tls_established") = some te) (h2 : hostOkB (dget cc (s "address")) = true)
    (h3 : hostOkB (dget cc (s "sockname")) = true) : ∃ cc', client18 cc = some cc' := by
  have hd : dget (client18pre cc) (s "tls_extensions") = some tx := by simpa [client18pre] using h0
  obtain ⟨c', hc'⟩ := conn18_succeeds (dpop (client18pre cc) (s "tls_extensions")) te (by simpa [client18pre] using h1)
    (by simpa [client18pre] using hostOkB_getD _ h2) (by simpa [client18pre] using h3) (by simp [client18pre, rename, hostOkB])
  exact ⟨c', by simp [client18, dhas_of_dget hd, hc']⟩

theorem sniFix_succeeds (c : Dict) (sni : Value) (h : dget c (s "sni") = some sni)
    (ha : sni = .bool true → (dget c (s "address") = some .null ∨ ∃ hh t, dget c (s "address") = some (.list (hh :: t)))) :
    ∃ c', sniFix c = some c' := by
  unfold sniFix
  simp only [h, Option.bind_eq_bind, Option.bind_some]
  split
  · rcases ha rfl with hn | ⟨hh, t, hl⟩
    · simp [hn, truthy]
    · simp [hl, truthy, firstOf]
  · exact ⟨c, rfl⟩

/-- `h5`/`h6` is what formats 10 … 18 stored: `sni` a name or None — or `True`, and then the address None or a non-empty list -/
theorem server18_succeeds (sc : Dict) (te sni : Value) (h1 : dget sc (s "tls_established") = some te)
    (h2 : hostOkB (dget sc (s "ip_address")) = true) (h3 : hostOkB (dget sc (s "source_address")) = true)
    (h4 : hostOkB (dget sc (s "address")) = true) (h5 : dget sc (s "sni") = some sni)
    (h6 : sni = .bool true → (dget sc (s "address") = some .null ∨ ∃ hh t, dget sc (s "address") = some (.list (hh :: t)))) :
    ∃ sc', server18 sc = some sc' := by
  obtain ⟨c', hc'⟩ := conn18_succeeds (server18pre sc) te (by simpa [server18pre] using h1)
    (by simpa [server18pre] using hostOkB_getD _ h2) (by simpa [server18pre] using hostOkB_getD _ h3)
    (by simpa [server18pre] using h4)
  have a1 := conn18_address _ _ hc'
  rw [show dget (server18pre sc) (s "address") = dget sc (s "address") by simp [server18pre]] at a1
  obtain ⟨sc', hsc'⟩ := sniFix_succeeds c' sni
    (by rw [conn18_frame _ _ _ hc' (by simp) (by simp) (by simp) (by simp) (by simp) (by simp) (by simp)]
        simpa [server18pre] using h5)
    (fun e => by
      rcases h6 e with hn | ⟨hh, t, hl⟩
      · rw [hn] at a1; exact .inl a1
      · rw [hl] at a1; cases hh <;> exact .inr ⟨_, _, a1⟩)
  exact ⟨sc', by simp [server18, hc', hsc']⟩

end MitmVerif.C38Conv
