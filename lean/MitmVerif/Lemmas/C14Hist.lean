/-
  C14 — whole-history invariants of the tunnel/TLS model (Model/C14.lean):
  * `Cmd` : what `tls_interact` and the child's commands can do to the layer (the child-facing lists and `errored` stay, the
            command list grows, an exception stays raised, never into the queueing state); `Later` is its monotone part;
  * `QueueInv`: routed events = handled ++ stored (++ swallowed after a failed client handshake); the store is non-empty only
            while queueing — for every history, no law needed;
  * `Along`: relations between a state and a later one that hold across `_handle_command` (`Later`; "`EngineInv` is kept")
            hold across `event_to_child`'s delivery and its replay loop — shown once;
  * `receive_data`: to the child-facing part its engine part is one more command, so by its equation (Lemmas/C14.lean) the
            events read go to the child in order (`route_pass`, `receiveData_spec`);
  * `EngineBlind`: what `QueueInv` and "has crashed" have in common (blind to the engine and the emitted commands, kept by
            `event_to_child`), so that the data path and the handshake path are walked once for both;
  * `EngineSync`: the TLS engine's ghost observers against the layer's ghost fields (inbound bytes, plaintext handed to
            `event_to_child`, emitted ciphertext, accepted payloads), relative to `Laws`: with an engine present it is
            `In ∧ Out` (Lemmas/C14.lean) of these fields, and every call into the engine is one transition of each.
            What a history keeps is `EngineInv` = "has crashed, or `EngineSync`": a crash leaves the engine fields arbitrary.
  Props/C14.lean uses the file through `QueueInv_init` / `QueueInv_run`, `EngineSync_init` / `EngineInv_run` (the latter
  needs the hook's connection object `Fresh`), `receiveData_spec` and `foldl_etcCore_pass`; `dataOf` (the bytes of a
  history), in which its theorems are stated, is defined here.  Props/C15.lean uses `etc_pass` and `foldl_etcCore_pass`.
-/
import MitmVerif.Lemmas.C14
namespace MitmVerif.C14.Hist
open MitmVerif MitmVerif.C14 MitmVerif.C14.Lemmas

variable {K : Codec}

/-! ### the queue discipline -/

def qframe (s : St K) : List CEv × List CEv × List CEv × Bool × TState × Bool :=
  (s.toChild, s.routed, s.queue, s.errored, s.st, s.replyTo)

structure QueueInv (s : St K) : Prop where
  q1 : ∃ t, s.routed = s.toChild ++ s.queue ++ t ∧ (s.errored = false → t = [])
  q2 : queueing s = false → s.queue = []

theorem QueueInv_congr {s s' : St K} (h : qframe s' = qframe s) (g : QueueInv s) : QueueInv s' := by
  simp only [qframe, Prod.mk.injEq] at h
  obtain ⟨h1, h2, h3, h4, h5, h6⟩ := h
  refine ⟨?_, ?_⟩
  · rw [h1, h2, h3, h4]; exact g.q1
  · intro hq; rw [h3]; apply g.q2; simpa [queueing, h5, h6] using hq

/-- with nothing stored `QueueInv` does not depend on the tunnel state -/
theorem QueueInv.ctl {s : St K} (g : QueueInv s) (hn : s.queue = []) (v : TState) (r : Bool) :
    QueueInv { s with st := v, replyTo := r } :=
  ⟨g.q1, fun _ => hn⟩

theorem qframe_emit (s : St K) (u : List Up) : qframe (emit s u) = qframe s := rfl

/-! ### what `tls_interact` and the child's commands can do to the layer -/

structure Later (s s' : St K) : Prop where
  crash : s.crashed = true → s'.crashed = true
  up : ∃ more, s'.up = s.up ++ more

theorem Later.refl (s : St K) : Later s s := ⟨id, [], by simp⟩

theorem Later.trans {a b c : St K} (f : Later a b) (g : Later b c) : Later a c :=
  let ⟨m, hm⟩ := f.up
  let ⟨n, hn⟩ := g.up
  ⟨g.crash ∘ f.crash, m ++ n, by rw [hn, hm, List.append_assoc]⟩

/-- `s'` is `s` after `tls_interact` or after commands of the child: the engine, `accepted` and (by OpenConnection) the
    tunnel state may have moved, but never into the queueing state; what the child has been given, the store and
    `errored` are as they were. -/
structure Cmd (s s' : St K) : Prop extends Later s s' where
  toChild : s'.toChild = s.toChild
  routed : s'.routed = s.routed
  queue : s'.queue = s.queue
  errored : s'.errored = s.errored
  q : queueing s = false → queueing s' = false

theorem Cmd.refl (s : St K) : Cmd s s := ⟨Later.refl s, rfl, rfl, rfl, rfl, id⟩

theorem Cmd.trans {a b c : St K} (f : Cmd a b) (g : Cmd b c) : Cmd a c :=
  ⟨f.toLater.trans g.toLater, g.toChild.trans f.toChild, g.routed.trans f.routed, g.queue.trans f.queue,
   g.errored.trans f.errored, g.q ∘ f.q⟩

theorem Cmd.push {a b : St K} (h : Cmd a b) (q : List CEv) :
    Cmd { a with toChild := a.toChild ++ q } { b with toChild := b.toChild ++ q } :=
  ⟨⟨h.crash, h.up⟩, congrArg (· ++ q) h.toChild, h.routed, h.queue, h.errored, h.q⟩

theorem interact_cmd (s : St K) : Cmd s (interact s) ∧ qframe (interact s) = qframe s := by
  unfold interact
  split
  · exact ⟨⟨⟨fun _ => rfl, [], by simp⟩, rfl, rfl, rfl, rfl, id⟩, rfl⟩
  · exact ⟨⟨⟨id, _, rfl⟩, rfl, rfl, rfl, rfl, id⟩, rfl⟩

theorem handleCmd_cmd (s : St K) (c : CCmd) : Cmd s (handleCmd s c) := by
  cases c with
  | send d =>
    simp only [handleCmd]
    split
    · exact ⟨⟨fun _ => rfl, [], by simp⟩, rfl, rfl, rfl, rfl, id⟩
    · refine Cmd.trans ?_ (interact_cmd _).1
      exact ⟨⟨id, [], by simp⟩, rfl, rfl, rfl, rfl, id⟩
  | close => exact ⟨⟨id, _, rfl⟩, rfl, rfl, rfl, rfl, id⟩
  | open_ => exact ⟨⟨id, _, rfl⟩, rfl, rfl, rfl, rfl, fun _ => rfl⟩
  | other n => exact ⟨⟨id, _, rfl⟩, rfl, rfl, rfl, rfl, id⟩

theorem foldl_rel {α β : Type} {R : α → α → Prop} (refl : ∀ a, R a a) (trans : ∀ {a b c}, R a b → R b c → R a c)
    (f : α → β → α) (h : ∀ a b, R a (f a b)) (l : List β) : ∀ a, R a (l.foldl f a) := by
  induction l with
  | nil => exact refl
  | cons b l ih => exact fun a => trans (h a b) (ih _)

theorem handleCmds_cmd (cs : List CCmd) : ∀ s : St K, Cmd s (handleCmds s cs) :=
  foldl_rel Cmd.refl Cmd.trans _ handleCmd_cmd cs

theorem deliver_cmd (child : Child) (s : St K) (e : CEv) :
    Cmd { s with toChild := s.toChild ++ [e] } (deliver child s e) :=
  handleCmds_cmd _ _

/-! ### across `event_to_child` -/

/-- outside the queueing state, and unless a failed client handshake swallows it, an event goes straight to the child -/
theorem etc_pass (child : Child) (s : St K) (e : CEv) (hq : queueing s = false) (he : s.errored = false) :
    Cmd { addRouted s e with toChild := s.toChild ++ [e] } (eventToChild child s e) := by
  rw [etc_deliver child s e he hq rfl]
  exact handleCmds_cmd _ _

theorem QueueInv_etc (child : Child) (s : St K) (e : CEv) (g : QueueInv s) : QueueInv (eventToChild child s e) := by
  obtain ⟨t, ht, hte⟩ := g.q1
  unfold eventToChild
  fun_cases etcCore child (addRouted s e) e with
  | case1 he => exact ⟨⟨t ++ [e], by simp [ht], fun h => absurd (he.symm.trans h) (by simp)⟩, g.q2⟩
  | case2 he hq =>
    obtain rfl := hte (by simpa using he)
    exact ⟨⟨[], by simp [ht], fun _ => rfl⟩, fun hq' => absurd (hq'.symm.trans hq) (by simp)⟩
  | case3 he hq =>
    obtain rfl := hte (by simpa using he)
    have hq' : queueing s = false := eq_false_of_ne_true hq
    have d := deliver_cmd child (addRouted s e) e
    exact ⟨⟨[], by rw [d.toChild, d.routed, d.queue]; simp [ht, g.q2 hq'], fun _ => rfl⟩, fun _ => d.queue.trans (g.q2 hq')⟩

theorem etc_queue (child : Child) (s : St K) (e : CEv) (hq : queueing s = false) :
    (eventToChild child s e).queue = s.queue := by
  by_cases he : s.errored = true
  · rw [eventToChild, etcCore_swallow child (addRouted s e) e he]; rfl
  · exact (etc_pass child s e hq (by simpa using he)).queue

/-- A relation between a state and a later one that holds across `_handle_command` and across updates of the lists
    `toChild` and `queue` alone holds across everything `event_to_child` does once the arrival is recorded. -/
structure Along (R : St K → St K → Prop) : Prop where
  refl : ∀ s, R s s
  trans : ∀ {a b c}, R a b → R b c → R a c
  cmd : ∀ s c, R s (handleCmd s c)
  lists : ∀ s t q, R s { s with toChild := t, queue := q }

theorem Along.cmds {R : St K → St K → Prop} (A : Along R) (cs : List CCmd) : ∀ s, R s (handleCmds s cs) :=
  foldl_rel A.refl A.trans _ A.cmd cs

theorem Along.etcCore {R : St K → St K → Prop} (A : Along R) (child : Child) (s : St K) (e : CEv) :
    R s (etcCore child s e) := by
  unfold C14.etcCore
  split
  · exact A.refl s
  · split
    · exact A.lists s s.toChild _
    · exact A.trans (A.lists s _ s.queue) (A.cmds _ _)

theorem Along.foldl {R : St K → St K → Prop} (A : Along R) (child : Child) (q : List CEv) :
    ∀ t, R t (q.foldl (C14.etcCore child) t) :=
  foldl_rel A.refl A.trans _ (A.etcCore child) q

theorem later_along : Along (Later (K := K)) :=
  ⟨Later.refl, Later.trans, fun s c => (handleCmd_cmd s c).toLater, fun _ _ _ => ⟨id, [], by simp⟩⟩

theorem etc_mono (child : Child) (s : St K) (e : CEv) (h : s.crashed = true) : (eventToChild child s e).crashed = true :=
  (later_along.etcCore child (addRouted s e) e).crash h

/-! ### `receive_data`: to the child-facing part the engine part is one more command, then the events read are routed -/

theorem recvPart_cmd (s : St K) (c2 : K.σ) (e : RecvEnd) :
    Cmd s (interact (if e == .err then emit (afterRecv s c2 e) [.log 1] else afterRecv s c2 e)) := by
  refine Cmd.trans ?_ (interact_cmd _).1
  split
  · exact ⟨⟨id, _, rfl⟩, rfl, rfl, rfl, rfl, id⟩
  · exact ⟨⟨id, [], by simp [afterRecv]⟩, rfl, rfl, rfl, rfl, id⟩

theorem foldl_keeps {α β : Type} (P : α → Prop) (f : α → β → α) (h : ∀ a b, P a → P (f a b)) (l : List β) :
    ∀ a, P a → P (l.foldl f a) :=
  foldl_rel (R := fun a b => P a → P b) (fun _ => id) (fun f g => g ∘ f) f h l

theorem route_pass (child : Child) (evs : List CEv) : ∀ s : St K, queueing s = false → s.errored = false →
    (evs.foldl (eventToChild child) s).toChild = s.toChild ++ evs := by
  induction evs with
  | nil => intro s _ _; simp
  | cons e evs ih =>
    intro s hq he
    have d := etc_pass child s e hq he
    rw [List.foldl_cons, ih _ (d.q hq) (d.errored.trans he), d.toChild]
    simp

/-- What one `receive_data` call outside the queueing state gives the child, for any engine state: the events of `P`, the
    plaintext newly decodable from everything fed, and of the close the loop ended with; WantRead / ZeroReturn say that
    nothing decodable is left. -/
theorem receiveData_spec (L : Laws K) (child : Child) (s : St K) (c : K.σ) (d : Bytes)
    (htls : s.tls = some c) (hd : queueing s = false) (he : s.errored = false) :
    ∃ P e, e = (recvLoop K (K.inPending (feedIf c d) + 1) (feedIf c d) []).2.1
      ∧ (receiveData child s d).toChild = s.toChild ++ recvEvents P e
      ∧ (∃ rest, (L.dec (L.fed c ++ d)).1.drop (L.taken c) = P ++ rest)
      ∧ e ≠ .fuel
      ∧ (e = .want → L.taken c + P.length = (L.dec (L.fed c ++ d)).1.length ∧ (L.dec (L.fed c ++ d)).2 = false)
      ∧ (e = .closed → L.taken c + P.length = (L.dec (L.fed c ++ d)).1.length ∧ (L.dec (L.fed c ++ d)).2 = true) := by
  have hfed := feedIf_laws L c d
  obtain ⟨P, hp1, _, _, ⟨rest, hp6⟩, hp7, hp8, hp9⟩ :=
    recvLoop_spec L (K.inPending (feedIf c d) + 1) (feedIf c d) [] (by omega)
  rw [hfed.1, hfed.2.1] at hp6 hp8 hp9
  refine ⟨P, _, rfl, ?_, ⟨rest, hp6⟩, hp7, hp8, hp9⟩
  rw [receiveData_eq child s d htls _ rfl, hp1]
  generalize recvLoop K (K.inPending (feedIf c d) + 1) (feedIf c d) [] = r
  have i := recvPart_cmd s r.2.2 r.2.1
  rw [route_pass child _ _ (i.q hd) (i.errored.trans he), i.toChild]
  rfl

/-! ### predicates that the data path and the handshake path keep -/

/-- `P` looks only at the fields of the queue discipline and at `crashed` (which no step resets), and
    `event_to_child` keeps it.  `QueueInv` and "has crashed" are the two instances. -/
structure EngineBlind (child : Child) (P : St K → Prop) : Prop where
  congr : ∀ {s s' : St K}, P s → qframe s' = qframe s → (s.crashed = true → s'.crashed = true) → P s'
  etc : ∀ s e, P s → P (eventToChild child s e)

section
variable {child : Child} {P : St K → Prop} (T : EngineBlind child P)
include T

theorem EngineBlind.interact {s : St K} (h : P s) : P (interact s) :=
  T.congr h (interact_cmd s).2 (interact_cmd s).1.crash

theorem EngineBlind.receiveData (s : St K) (d : Bytes) (h : P s) : P (receiveData child s d) := by
  cases hc : s.tls with
  | none => rw [receiveData_none child s d hc]; exact T.congr h rfl (fun _ => rfl)
  | some c =>
    rw [receiveData_eq child s d hc _ rfl]
    exact foldl_keeps P _ T.etc _ _ (T.interact (by split <;> exact T.congr h rfl id))

theorem EngineBlind.startTls (env : Env K) (s : St K) (h : P s) : P (startTls env s).1 := by
  fun_cases C14.startTls env s with
  | case1 => exact T.congr h rfl (fun _ => rfl)
  | case2 | case3 => exact T.congr h rfl id

theorem EngineBlind.hsTls (s : St K) (d : Bytes) (h : P s) : P (hsTls child s d).1 := by
  fun_cases C14.hsTls child s d with
  | case1 => exact T.congr h rfl (fun _ => rfl)
  | case2 => dsimp only []; exact T.interact (T.congr h rfl id)
  | case3 => exact T.congr h rfl id
  | case4 => dsimp only []; exact T.receiveData _ _ (T.congr h rfl id)

theorem EngineBlind.recvHandshake (env : Env K) (s : St K) (d : Bytes) (h : P s) : P (recvHandshake env child s d).1 := by
  fun_cases C14.recvHandshake env child s d with
  | case1 | case2 => exact T.hsTls _ _ h
  | case3 | case4 => exact T.congr h rfl id
  | case5 _ _ _ _ _ _ s3 s' hs' =>
    have g := T.startTls env s3 (by unfold s3; split <;> exact T.congr h rfl id)
    rw [hs'] at g; exact g
  | case6 _ _ buf _ _ _ s3 s' hs' =>
    have g := T.startTls env s3 (by unfold s3; split <;> exact T.congr h rfl id)
    rw [hs'] at g; exact T.hsTls _ buf (T.congr g rfl id)

theorem EngineBlind.startHandshake (env : Env K) (s : St K) (h : P s) : P (startHandshake env child s) := by
  have g := T.startTls env s h
  fun_cases C14.startHandshake env child s with
  | case1 => exact h
  | case2 _ s' hs' => rw [hs'] at g; exact g
  | case3 _ s' hs' => rw [hs'] at g; exact T.hsTls _ _ g

end

theorem hsData_keeps {child : Child} (P : St K → Prop) (herr : ∀ s, P s → P (onHandshakeError s))
    (hfin : ∀ s err, P s → P (handshakeFinished child s err)) (env : Env K) (s : St K) (d : Bytes)
    (h : P (recvHandshake env child s d).1) : P (hsData env child s d) := by
  unfold hsData
  generalize recvHandshake env child s d = r at h
  obtain ⟨s1, dn, er⟩ := r
  simp only [] at h ⊢
  have g2 : P (if er = true then onHandshakeError s1 else s1) := by
    split
    · exact herr _ h
    · exact h
  split
  · exact hfin _ er g2
  · exact g2

theorem QueueInv_engineBlind (child : Child) : EngineBlind child (QueueInv (K := K)) :=
  ⟨fun g h _ => QueueInv_congr h g, QueueInv_etc child⟩

theorem crashed_engineBlind (child : Child) : EngineBlind child (fun s : St K => s.crashed = true) :=
  ⟨fun h _ hc => hc h, etc_mono child⟩

/-! ### the queue discipline along whole histories -/

theorem QueueInv_onHandshakeError (s : St K) (g : QueueInv s) : QueueInv (onHandshakeError s) := by
  unfold onHandshakeError
  obtain ⟨t, ht, _⟩ := g.q1
  simp only []
  split
  · exact ⟨⟨t, by simpa using ht, by simp⟩, fun hq => by simpa using g.q2 (by simpa [queueing] using hq)⟩
  · exact QueueInv_congr (s := s) rfl g

theorem foldl_etcCore_errored (child : Child) (q : List CEv) : ∀ t : St K, t.errored = true →
    q.foldl (etcCore child) t = t := by
  induction q with
  | nil => intro t _; rfl
  | cons e q ih =>
    intro t ht
    rw [List.foldl_cons, etcCore_swallow child t e ht]; exact ih t ht

/-- the replay loop of `_handshake_finished` outside the queueing state: every stored event goes to the child -/
theorem foldl_etcCore_pass (child : Child) (q : List CEv) : ∀ t : St K, t.errored = false → queueing t = false →
    Cmd { t with toChild := t.toChild ++ q } (q.foldl (etcCore child) t) := by
  induction q with
  | nil => intro t _ _; simpa using Cmd.refl t
  | cons e q ih =>
    intro t ht hq
    have d := deliver_cmd child t e
    rw [List.foldl_cons, etcCore_deliver child t e ht hq]
    exact Cmd.trans (by simpa using d.push q) (ih _ (d.errored.trans ht) (d.q hq))

theorem QueueInv_handshakeFinished (child : Child) (s : St K) (err : Bool) (g : QueueInv s) :
    QueueInv (handshakeFinished child s err) ∧ (handshakeFinished child s err).queue = [] := by
  have hqt : queueing (setSt s (if err then .closed else .open_)) = false := by cases err <;> simp [queueing, isEst]
  by_cases hr : s.replyTo = true
  · rw [handshakeFinished_reply child s err hr]
    have hqs : queueing s = false := by simp [queueing, hr]
    have hn := g.q2 hqs
    have ge := QueueInv_etc child _ (.opened err) (g.ctl hn (if err then .closed else .open_) s.replyTo)
    have hqn : (eventToChild child (setSt s (if err then .closed else .open_)) (.opened err)).queue = [] :=
      (etc_queue child _ (.opened err) hqt).trans hn
    exact ⟨ge.ctl hqn _ false, hqn⟩
  · rw [handshakeFinished_flush child s err (by simpa using hr)]
    obtain ⟨t, ht, hte⟩ := g.q1
    refine ⟨⟨?_, fun _ => by simp⟩, by simp⟩
    by_cases he : s.errored = true
    · rw [foldl_etcCore_errored child s.queue _ (by simpa using he)]
      exact ⟨s.queue ++ t, by simp [ht], by simp [he]⟩
    · have he' : s.errored = false := by simpa using he
      have f := foldl_etcCore_pass child s.queue (setSt s (if err then .closed else .open_)) he' hqt
      have := hte he'; subst this
      exact ⟨[], by simp [f.toChild, f.routed, ht], fun _ => rfl⟩

theorem QueueInv_handle (env : Env K) (child : Child) (s : St K) (ev : Ev) (g : QueueInv s) : QueueInv (handle env child s ev) := by
  have hcl : ∀ t : St K, QueueInv t → t.queue = [] → QueueInv ({ t with st := .closed } : St K) :=
    fun t gt hn => gt.ctl hn .closed t.replyTo
  have hopen : s.st = .open_ → queueing s = false := fun h => by simp [queueing, h, isEst]
  have hreply : s.replyTo = true → queueing s = false := fun h => by simp [queueing, h]
  refine handle_cases env child s (fun _ t => QueueInv t)
    (start := fun o => QueueInv_etc _ _ _ ?_)
    (hs := fun _ _ => hsData_keeps QueueInv QueueInv_onHandshakeError
      (fun s e g => (QueueInv_handshakeFinished child s e g).1) _ _ _ ((QueueInv_engineBlind child).recvHandshake _ _ _ g))
    (data := fun _ _ => (QueueInv_engineBlind child).receiveData _ _ g)
    (shut := fun _ h _ _ => hcl _ g (g.q2 (hopen h)))
    (closed := fun _ h _ _ => hcl _ (QueueInv_etc _ _ _ g) ((etc_queue _ _ _ (hopen h)).trans (g.q2 (hopen h))))
    (noTls := fun h _ => hcl { s with crashed := true } (QueueInv_congr (s := s) rfl g) (g.q2 (hopen h)))
    (abort := fun _ =>
      have h := QueueInv_handshakeFinished child _ true (QueueInv_onHandshakeError s g)
      hcl _ h.1 h.2)
    (idle := fun h1 h2 => hcl _ g (g.q2 (by cases hs : s.st <;> simp_all [queueing, isEst])))
    (other := fun _ => QueueInv_etc _ _ _ g)
    (stray := fun _ _ => g)
    (refused := fun h => hcl _ (QueueInv_etc _ _ _ g) ((etc_queue _ _ _ (hreply h)).trans (g.q2 (hreply h))))
    (opened := fun _ => (QueueInv_engineBlind child).startHandshake _ _ g) ev
  cases o
  · exact g
  · apply (QueueInv_engineBlind child).startHandshake
    refine ⟨by simpa using g.q1, fun hq => ?_⟩
    by_cases hqs : queueing s = false
    · simpa using g.q2 hqs
    · -- was queueing already: ESTABLISHING without reply command, nothing changes
      have : queueing s = true := by simpa using hqs
      simp only [queueing, Bool.and_eq_true, Bool.not_eq_true'] at this
      simp [queueing, isEst, this.2] at hq

theorem QueueInv_run (env : Env K) (child : Child) (evs : List Ev) : ∀ s : St K, QueueInv s → QueueInv (run env child s evs) :=
  foldl_keeps QueueInv _ (QueueInv_handle env child) evs

theorem QueueInv_init (sd : Side) : QueueInv ({ side := sd } : St K) := ⟨⟨[], rfl, fun _ => rfl⟩, fun _ => rfl⟩

/-! ### `crashed` is monotone along whole histories -/

theorem onHandshakeError_mono (s : St K) (h : s.crashed = true) : (onHandshakeError s).crashed = true := by
  unfold onHandshakeError; simp only []; split <;> simpa [emit] using h

theorem handshakeFinished_mono (child : Child) (s : St K) (err : Bool) (h : s.crashed = true) :
    (handshakeFinished child s err).crashed = true := by
  unfold handshakeFinished
  simp only []
  split
  · simpa using etc_mono child (setSt s (if err then .closed else .open_)) (.opened err) (by simpa using h)
  · simpa using (later_along.foldl child s.queue (setSt s (if err then .closed else .open_))).crash (by simpa using h)

theorem handle_mono (env : Env K) (child : Child) (s : St K) (ev : Ev) (h : s.crashed = true) :
    (handle env child s ev).crashed = true := by
  have T := crashed_engineBlind (K := K) child
  refine handle_cases env child s (fun _ t => t.crashed = true)
    (start := fun o => etc_mono _ _ _ ?_)
    (hs := fun _ _ => hsData_keeps _ onHandshakeError_mono (handshakeFinished_mono child) _ _ _ (T.recvHandshake _ _ _ h))
    (data := fun _ _ => T.receiveData _ _ h)
    (shut := fun _ _ _ _ => h)
    (closed := fun _ _ _ _ => etc_mono child s .closed h)
    (noTls := fun _ _ => rfl)
    (abort := fun _ => handshakeFinished_mono child _ true (onHandshakeError_mono s h))
    (idle := fun _ _ => h)
    (other := fun _ => etc_mono _ _ _ h)
    (stray := fun _ _ => h)
    (refused := fun _ => etc_mono child s (.opened true) h)
    (opened := fun _ => T.startHandshake _ _ h) ev
  cases o
  · exact h
  · exact T.startHandshake _ _ h

theorem run_mono (env : Env K) (child : Child) (evs : List Ev) : ∀ s : St K, s.crashed = true →
    (run env child s evs).crashed = true :=
  foldl_keeps (fun s : St K => s.crashed = true) _ (handle_mono env child) evs

/-! ### the TLS engine's ghost observers against the layer's ghost fields -/

/-- a connection object as the tls_start hook hands it over: nothing fed, read, written or emitted yet -/
def Fresh (L : Laws K) (c : K.σ) : Prop := L.fed c = [] ∧ L.taken c = 0 ∧ L.sent c = [] ∧ L.emitted c = []

theorem Fresh.io {L : Laws K} {c : K.σ} (h : Fresh L c) : In L [] [] c ∧ Out L true [] [] c :=
  ⟨⟨h.1, h.2.1, _, rfl⟩, h.2.2.2, h.2.2.1, fun _ => L.enc_nil⟩

def dataOfEv : Ev → Bytes
  | .data d => d
  | _ => []

/-- all bytes received on the tunnel connection in the course of a history: the `b` of `EngineSync` at its end -/
def dataOf (evs : List Ev) : Bytes := (evs.map dataOfEv).flatten

/-- `b`: all bytes received on the tunnel connection so far; `o`: plaintext already taken out of the engine but not yet
    passed to `event_to_child` (non-empty only in the middle of `receive_data`) -/
structure EngineSync (L : Laws K) (b o : Bytes) (s : St K) : Prop where
  tn : s.tls = none → (s.side = .server → b = []) ∧ (s.side = .client → s.recvBuf = b) ∧ plainOf s.routed ++ o = []
        ∧ cipherOf s.up = [] ∧ s.accepted = []
  ts : ∀ c, s.tls = some c → In L b (plainOf s.routed ++ o) c ∧ Out L true (cipherOf s.up) s.accepted c
        ∧ (s.side = .client → s.helloParsed = true)

/-- what every step keeps: after an exception out of the layer (`crashed`) the engine fields are arbitrary -/
def EngineInv (L : Laws K) (b o : Bytes) (s : St K) : Prop := s.crashed = true ∨ EngineSync L b o s

/-- all that `EngineSync` sees of the layer -/
def tframe (o : Bytes) (s : St K) : Option K.σ × Bytes × Bytes × Bytes × Bytes × Side × Bool :=
  (s.tls, plainOf s.routed ++ o, cipherOf s.up, s.accepted, s.recvBuf, s.side, s.helloParsed)

theorem EngineSync_congr {L : Laws K} {b o o' : Bytes} {s s' : St K} (g : EngineSync L b o s) (h : tframe o' s' = tframe o s) :
    EngineSync L b o' s' := by
  simp only [tframe, Prod.mk.injEq] at h
  obtain ⟨h1, h2, h3, h4, h5, h6, h7⟩ := h
  refine ⟨?_, ?_⟩
  · intro hn; rw [h2, h3, h4, h5, h6]; exact g.tn (by rw [← h1]; exact hn)
  · intro c hc; rw [h2, h3, h4, h6, h7]; exact g.ts c (by rw [← h1]; exact hc)

theorem EngineSync.of_some {L : Laws K} {b o : Bytes} {s : St K} {c : K.σ} (hc : s.tls = some c)
    (h : In L b (plainOf s.routed ++ o) c ∧ Out L true (cipherOf s.up) s.accepted c
      ∧ (s.side = .client → s.helloParsed = true)) : EngineSync L b o s :=
  ⟨fun hn => absurd (hc.symm.trans hn) (by simp), fun c' hc' => Option.some.inj (hc.symm.trans hc') ▸ h⟩

theorem EngineInv_congr {L : Laws K} {b o o' : Bytes} {s s' : St K} (g : EngineInv L b o s) (h : tframe o' s' = tframe o s)
    (hc : s'.crashed = s.crashed) : EngineInv L b o' s' := by
  rcases g with g | g
  · left; rw [hc]; exact g
  · right; exact EngineSync_congr g h

theorem cipherOf_nonsend (u : List Up) (us : List Up) (h : cipherOf us = []) : cipherOf (u ++ us) = cipherOf u := by
  rw [cipherOf_append, h]; simp

/-- emitting hooks / logs / close / open commands does not touch the ciphertext stream -/
theorem EngineInv_emit {L : Laws K} {b o : Bytes} {s : St K} (g : EngineInv L b o s) (us : List Up) (h : cipherOf us = []) :
    EngineInv L b o (emit s us) :=
  EngineInv_congr g (by simp only [tframe, emit, cipherOf_nonsend _ _ h]) rfl

/-- `tls_interact` forwards everything the engine holds, also what `sendall` has just left in it -/
theorem EngineSync.interact {L : Laws K} {fl : Bool} {b o : Bytes} {s : St K} {c : K.σ} (hc : s.tls = some c)
    (gi : In L b (plainOf s.routed ++ o) c) (go : Out L fl (cipherOf s.up) s.accepted c)
    (gh : s.side = .client → s.helloParsed = true) : EngineSync L b o (C14.interact s) := by
  obtain ⟨chunks, q, go'⟩ := go.outLoop (K.outPending c + 1) [] (by omega)
  unfold C14.interact
  rw [hc]
  refine EngineSync.of_some (c := (outLoop K (K.outPending c + 1) c []).2) rfl ⟨gi.outLoop _ [], ?_, gh⟩
  simp only [emit]
  rw [cipherOf_append, cipherOf_sends, q]
  exact go'

theorem EngineInv_interact {L : Laws K} {b o : Bytes} {s : St K} (g : EngineInv L b o s) : EngineInv L b o (interact s) := by
  rcases g with g | g
  · left; exact (interact_cmd _).1.crash g
  · cases hc : s.tls with
    | none => left; unfold interact; rw [hc]
    | some c =>
      obtain ⟨gi, go, gh⟩ := g.ts c hc
      exact Or.inr (EngineSync.interact hc gi go gh)

theorem EngineInv_handleCmd {L : Laws K} {b o : Bytes} {s : St K} (g : EngineInv L b o s) (c : CCmd) :
    EngineInv L b o (handleCmd s c) := by
  cases c with
  | send d =>
    rcases g with g | g
    · left; exact (handleCmd_cmd _ _).crash g
    · simp only [handleCmd]
      split
      · left; rfl
      · rename_i c hc
        obtain ⟨gi, go, gh⟩ := g.ts c hc
        exact Or.inr (EngineSync.interact rfl (gi.send d) (go.send d) gh)
  | close => exact EngineInv_emit g _ rfl
  | open_ =>
    simp only [handleCmd]
    exact EngineInv_emit (s := { s with replyTo := true, st := .establishing }) (EngineInv_congr g rfl rfl) [.openTunnel] rfl
  | other n => exact EngineInv_emit g _ rfl

theorem EngineInv_along {L : Laws K} {b o : Bytes} : Along (fun s s' : St K => EngineInv L b o s → EngineInv L b o s') :=
  ⟨fun _ g => g, fun f g h => g (f h), fun _ c g => EngineInv_handleCmd g c, fun _ _ _ g => EngineInv_congr g rfl rfl⟩

/-- passing an event to `event_to_child` settles the plaintext it carries -/
theorem EngineInv_etc {L : Laws K} {b o o' : Bytes} {s : St K} (child : Child) (e : CEv) (g : EngineInv L b o s)
    (ho : plainOf [e] ++ o' = o) : EngineInv L b o' (eventToChild child s e) :=
  EngineInv_along.etcCore child _ e (EngineInv_congr g (by subst ho; simp [tframe, addRouted, plainOf_append]) rfl)

theorem EngineInv_route {L : Laws K} {b o' : Bytes} (child : Child) (evs : List CEv) : ∀ {s : St K},
    EngineInv L b (plainOf evs ++ o') s → EngineInv L b o' (evs.foldl (eventToChild child) s) := by
  induction evs with
  | nil => exact fun g => g
  | cons e evs ih =>
    intro s g
    exact ih (EngineInv_etc child e g (by rw [← List.append_assoc, ← plainOf_append]; rfl))

theorem EngineInv_receiveData {L : Laws K} {b : Bytes} {s : St K} (child : Child) (d : Bytes) (g : EngineInv L b [] s) :
    EngineInv L (b ++ d) [] (receiveData child s d) := by
  rcases g with g | g
  · left; exact (crashed_engineBlind child).receiveData _ _ g
  cases hc : s.tls with
  | none => rw [receiveData_none child s d hc]; exact Or.inl rfl
  | some c =>
    obtain ⟨gi, go, gh⟩ := g.ts c hc
    have hi := (gi.feed d).recvLoop
    have ho := (go.feed d).recvLoop (K.inPending (feedIf c d) + 1) []
    rw [receiveData_eq child s d hc _ rfl]
    generalize recvLoop K (K.inPending (feedIf c d) + 1) (feedIf c d) [] = r at hi ho ⊢
    -- right after the loop what was read is owed to the child
    have g1 : EngineInv L (b ++ d) (r.1 ++ []) (afterRecv s r.2.2 r.2.1) :=
      Or.inr (EngineSync.of_some rfl ⟨by simpa [afterRecv] using hi, ho, gh⟩)
    apply EngineInv_route
    rw [plainOf_recvEvents]
    apply EngineInv_interact
    split
    · exact EngineInv_emit g1 _ rfl
    · exact g1

/-- the connection object the hook hands over goes in fresh; whatever was received so far is still to be fed -/
theorem EngineSync.install {L : Laws K} {b : Bytes} {s : St K} {c0 : K.σ} (g : EngineSync L b [] s) (hn : s.tls = none)
    (hf : Fresh L c0) (hhp : s.side = .client → s.helloParsed = true) (x : Bytes) :
    EngineSync L [] [] ({ emit s [.hook 0] with tls := some c0, recvBuf := x } : St K) := by
  obtain ⟨_, _, t3, t5, t6⟩ := g.tn hn
  exact EngineSync.of_some rfl ⟨by simpa [emit, t3] using hf.io.1,
    by simpa [emit, cipherOf_nonsend _ [Up.hook 0] rfl, t5, t6] using hf.io.2, by simpa [emit] using hhp⟩

theorem EngineInv_hsTls {L : Laws K} {b : Bytes} {s : St K} (child : Child) (d : Bytes) (g : EngineInv L b [] s) :
    EngineInv L (b ++ d) [] (hsTls child s d).1 := by
  rcases g with g | g
  · left; exact (crashed_engineBlind child).hsTls _ _ g
  · unfold hsTls
    split
    · left; rfl
    · rename_i c hc
      obtain ⟨gi, go, gh⟩ := g.ts c hc
      have core : ∀ c2, c2 = (K.handshake (feedIf c d)).2 → EngineSync L (b ++ d) [] ({ s with tls := some c2 } : St K) := by
        rintro _ rfl
        exact EngineSync.of_some rfl ⟨(gi.feed d).handshake, (go.feed d).handshake, gh⟩
      cases hh : K.handshake (feedIf c d) with
      | mk r c2 =>
        have hc2 : c2 = (K.handshake (feedIf c d)).2 := by rw [hh]
        cases r with
        | wantRead => exact EngineInv_interact (Or.inr (core c2 hc2))
        | error => exact Or.inr (core c2 hc2)
        | done =>
          dsimp only []
          have := EngineInv_receiveData child [] (EngineInv_emit (Or.inr (core c2 hc2)) [.hook 2] rfl)
          simpa using this

theorem EngineInv_startHandshake {L : Laws K} {b : Bytes} {s : St K} (env : Env K) (child : Child)
    (hfresh : ∀ c, env.mkTls = some c → Fresh L c) (g : EngineInv L b [] s) :
    EngineInv L b [] (startHandshake env child s) := by
  rcases g with g | g
  · left; exact (crashed_engineBlind child).startHandshake _ _ g
  unfold startHandshake
  split
  · exact Or.inr g
  · rename_i hside
    fun_cases C14.startTls env s with
    | case1 => exact Or.inl rfl
    | case2 => exact EngineInv_emit (EngineInv_emit (Or.inr g) [.hook 0] rfl) [.log 0, .close] rfl
    | case3 hn _ c0 hm =>
      have hn : s.tls = none := by simpa using hn
      obtain rfl := (g.tn hn).1 hside
      exact EngineInv_hsTls child [] (Or.inr (g.install hn (hfresh c0 hm) (by simp [hside]) s.recvBuf))

theorem EngineInv_recvHandshake {L : Laws K} {b : Bytes} {s : St K} (env : Env K) (child : Child) (d : Bytes)
    (hfresh : ∀ c, env.mkTls = some c → Fresh L c) (g : EngineInv L b [] s) :
    EngineInv L (b ++ d) [] (recvHandshake env child s d).1 := by
  rcases g with g | g
  · left; exact (crashed_engineBlind child).recvHandshake _ _ _ g
  · unfold recvHandshake
    split
    · exact EngineInv_hsTls child d (Or.inr g)
    · rename_i hside
      split
      · exact EngineInv_hsTls child d (Or.inr g)
      · rename_i hhp
        have hn : s.tls = none := by
          cases ht : s.tls with
          | none => rfl
          | some c => exact absurd ((g.ts c ht).2.2 hside) hhp
        obtain ⟨t1, t2, t3, t5, t6⟩ := g.tn hn
        have hbuf : s.recvBuf ++ d = b ++ d := by rw [t2 hside]
        -- the buffer grew: the invariant for the longer inbound stream
        have gb : ∀ hpv : Bool, EngineSync L (b ++ d) [] ({ s with recvBuf := s.recvBuf ++ d, helloParsed := hpv } : St K) := by
          intro hpv
          refine ⟨fun _ => ⟨fun h => by simp [hside] at h, fun _ => hbuf, t3, t5, t6⟩, ?_⟩
          intro c hc; simp [hn] at hc
        simp only []
        split
        · exact Or.inr (EngineSync_congr (gb s.helloParsed) rfl)
        · exact Or.inr (EngineSync_congr (gb s.helloParsed) rfl)
        · generalize hs3 : (if env.serverFirst = true then _ else _ : St K) = s3
          have g3 : EngineSync L (b ++ d) [] s3 ∧ s3.tls = none ∧ s3.helloParsed = true := by
            subst hs3
            split <;> exact ⟨EngineSync_congr (gb true) (by simp [tframe, emit, cipherOf_append, cipherOf]), hn, rfl⟩
          fun_cases C14.startTls env s3 with
          | case1 => exact Or.inl rfl
          | case2 => exact EngineInv_emit (EngineInv_emit (Or.inr g3.1) [.hook 0] rfl) [.log 0, .close] rfl
          | case3 _ _ c0 hm =>
            rw [← hbuf]
            exact EngineInv_hsTls child (s.recvBuf ++ d) (Or.inr (g3.1.install g3.2.1 (hfresh c0 hm) (fun _ => g3.2.2) []))

theorem EngineInv_onHandshakeError {L : Laws K} {b : Bytes} {s : St K} (g : EngineInv L b [] s) :
    EngineInv L b [] (onHandshakeError s) := by
  unfold onHandshakeError
  simp only []
  split
  · exact EngineInv_congr (EngineInv_emit g [.log 2, .hook 3, .close] rfl) rfl rfl
  · exact EngineInv_emit g _ rfl

theorem EngineInv_handshakeFinished {L : Laws K} {b : Bytes} {s : St K} (child : Child) (err : Bool) (g : EngineInv L b [] s) :
    EngineInv L b [] (handshakeFinished child s err) := by
  unfold handshakeFinished
  simp only []
  split
  · exact EngineInv_congr (EngineInv_etc child (.opened err)
      (EngineInv_congr (s' := setSt s (if err then .closed else .open_)) g rfl rfl) (by simp [plainOf])) rfl rfl
  · exact EngineInv_congr (EngineInv_along.foldl child s.queue _
      (EngineInv_congr (s' := setSt s (if err then .closed else .open_)) g rfl rfl)) rfl rfl

theorem EngineInv_handle {L : Laws K} {b : Bytes} {s : St K} (env : Env K) (child : Child) (ev : Ev)
    (hfresh : ∀ c, env.mkTls = some c → Fresh L c) (g : EngineInv L b [] s) :
    EngineInv L (b ++ dataOfEv ev) [] (handle env child s ev) := by
  have hb : b ++ [] = b := List.append_nil b
  have hcl : ∀ t : St K, EngineInv L b [] t → EngineInv L b [] ({ t with st := .closed } : St K) :=
    fun t gt => EngineInv_congr gt rfl rfl
  refine handle_cases env child s (fun ev t => EngineInv L (b ++ dataOfEv ev) [] t)
    (start := fun o => hb.symm ▸ EngineInv_etc (o := []) child .start ?_ (by simp [plainOf]))
    (hs := fun d _ => hsData_keeps (EngineInv L (b ++ d) []) (fun _ => EngineInv_onHandshakeError)
      (fun _ => EngineInv_handshakeFinished child) _ _ _ (EngineInv_recvHandshake env child d hfresh g))
    (data := fun d _ => EngineInv_receiveData child d g)
    (shut := fun _ _ _ _ => hb.symm ▸ hcl _ g)
    (closed := fun _ _ _ _ => hb.symm ▸ hcl _ (EngineInv_etc child .closed g (by simp [plainOf])))
    (noTls := fun _ _ => Or.inl rfl)
    (abort := fun _ => hb.symm ▸ hcl _ (EngineInv_handshakeFinished child true (EngineInv_onHandshakeError g)))
    (idle := fun _ _ => hb.symm ▸ hcl _ g)
    (other := fun n => hb.symm ▸ EngineInv_etc child (.other n) g (by simp [plainOf]))
    (stray := fun _ _ => hb.symm ▸ g)
    (refused := fun _ => hb.symm ▸ hcl _ (EngineInv_etc child (.opened true) g (by simp [plainOf])))
    (opened := fun _ => hb.symm ▸ EngineInv_startHandshake env child hfresh g) ev
  cases o
  · exact g
  · exact EngineInv_startHandshake env child hfresh (EngineInv_congr g rfl rfl)

theorem EngineInv_run {L : Laws K} (env : Env K) (child : Child) (hfresh : ∀ c, env.mkTls = some c → Fresh L c)
    (evs : List Ev) : ∀ {b : Bytes} {s : St K}, EngineInv L b [] s →
    EngineInv L (b ++ dataOf evs) [] (run env child s evs) := by
  induction evs with
  | nil => intro b s g; simpa [run, dataOf] using g
  | cons e evs ih =>
    intro b s g
    have := ih (EngineInv_handle env child e hfresh g)
    simpa [run, dataOf, List.append_assoc] using this

theorem EngineSync_init (L : Laws K) (sd : Side) : EngineSync L [] [] ({ side := sd } : St K) := by
  refine ⟨fun _ => ⟨fun _ => rfl, fun _ => rfl, rfl, rfl, rfl⟩, fun c hc => by simp at hc⟩

end MitmVerif.C14.Hist