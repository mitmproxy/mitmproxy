/-
  C14 — the framed reference codec (Model/C14_RefL.lean) satisfies the stream-faithfulness law: `refCodec`, `refLaws`.

  `Laws` quantifies over ALL states of a codec, so `refCodec.σ` is the subtype `S` of the states satisfying `Inv`, and each
  operation is shown to keep `Inv` first.  `dec` is `semAll` over `frameAll` of the bytes by definition; `Inv.frame` and
  `Inv.sem` turn it into the reading of the records still waiting from the current session state (`dec_of_inv`), which is what
  `recv_spec` speaks about — the `recv_*` fields of `refLaws` are read off it.  `refCodec` and `refInit` are defined here (the
  operations carry the `Inv` proofs) and are what Driver/C14.lean runs.
-/
import MitmVerif.Model.C14_RefL
namespace MitmVerif.C14.RefL
open MitmVerif MitmVerif.C14

theorem frameAll_append (a b : Bytes) : ∀ fs, frameAll fs (a ++ b) =
    ((frameAll (frameAll fs a).1 b).1, (frameAll fs a).2 ++ (frameAll (frameAll fs a).1 b).2) := by
  induction a with
  | nil => intro fs; simp [frameAll]
  | cons x xs ih => intro fs; simp only [List.cons_append, frameAll]; rw [ih]; simp [List.append_assoc]

theorem frameAll_cons (fs : FS) (b : UInt8) (r : Bytes) :
    frameAll fs (b :: r) = ((frameAll (frameByte fs b).1 r).1, (frameByte fs b).2 ++ (frameAll (frameByte fs b).1 r).2) := rfl

theorem frame_payload (ty : UInt8) : ∀ (q p : Bytes) (need : Nat), q ≠ [] → q.length = need →
    frameAll (.pay ty need p) q = (.hdr [], [(ty, p.reverse ++ q)]) := by
  intro q
  induction q with
  | nil => intro p need h; exact absurd rfl h
  | cons b r ih =>
    intro p need _ hlen
    simp only [List.length_cons] at hlen
    cases r with
    | nil =>
      simp only [List.length_nil] at hlen
      have : need ≤ 1 := by omega
      simp [frameAll, frameByte, this]
    | cons b2 r2 =>
      have hne : ¬ (need ≤ 1) := by simp only [List.length_cons] at hlen; omega
      have := ih (b :: p) (need - 1) (by simp) (by simp only [List.length_cons] at hlen ⊢; omega)
      rw [frameAll_cons]
      simp only [frameByte, hne, if_false]
      rw [this]; simp

theorem frame_encode (r : Rec) (h : r.2.length < 65536) : frameAll .init (encode r) = (.init, [r]) := by
  obtain ⟨ty, p⟩ := r
  simp only at h
  have h1 : (UInt8.ofNat (p.length / 256)).toNat = p.length / 256 := by
    simp; omega
  have h2 : (UInt8.ofNat (p.length % 256)).toNat = p.length % 256 := by
    simp
  have hn : (UInt8.ofNat (p.length / 256)).toNat * 256 + (UInt8.ofNat (p.length % 256)).toNat = p.length := by
    rw [h1, h2]; omega
  cases p with
  | nil => simp [encode, frameAll, frameByte, FS.init]
  | cons b q =>
    have hlen : (b :: q).length ≠ 0 := by simp
    have := frame_payload ty (b :: q) [] (b :: q).length (by simp) rfl
    simp only [List.reverse_nil, List.nil_append] at this
    simp only [encode, FS.init]
    rw [frameAll_cons, frameAll_cons, frameAll_cons]
    simp only [frameByte, List.nil_append, List.cons_append, hn, hlen, if_false]
    rw [this]

theorem semAll_append (m : Sem) (a b : List Rec) : semAll m (a ++ b) = semAll (semAll m a) b := by
  simp [semAll, List.foldl_append]

theorem semAll_snoc {c : List Rec} {m : Sem} (hs : semAll {} c = m) (r : Rec) : semAll {} (c ++ [r]) = stepRec m r := by
  rw [semAll_append, hs]; rfl

theorem stepRec_dead (m : Sem) (r : Rec) (h : (m.failed || m.closed) = true) : stepRec m r = m := by
  simp [stepRec, h]

theorem semAll_dead (rs : List Rec) : ∀ m : Sem, (m.failed || m.closed) = true → semAll m rs = m := by
  induction rs with
  | nil => intro m _; rfl
  | cons r rs ih => intro m h; simp only [semAll, List.foldl_cons] at *; rw [stepRec_dead m r h]; exact ih m h

/-- the plaintext grows only by the payload of an application-data record on an established, live session -/
theorem stepRec_plain_eq (m : Sem) (r : Rec) :
    (stepRec m r).plain =
      m.plain ++ (if (m.failed || m.closed) = false ∧ m.est = true ∧ r.1 = 0x17 then r.2 else []) := by
  unfold stepRec
  cases hd : (m.failed || m.closed)
  · cases he : m.est
    · simp only [Bool.false_eq_true, if_false, Bool.not_false, if_true, false_and, and_false, List.append_nil]
      split
      · split <;> rfl
      · split <;> rfl
    · simp only [Bool.false_eq_true, if_false, Bool.not_true, true_and]
      split
      · rfl
      · rw [List.append_nil]
        split
        · rfl
        · split <;> rfl
  · simp

theorem stepRec_plain (m : Sem) (r : Rec) : ∃ t, (stepRec m r).plain = m.plain ++ t :=
  ⟨_, stepRec_plain_eq m r⟩

theorem semAll_plain (rs : List Rec) : ∀ m : Sem, ∃ t, (semAll m rs).plain = m.plain ++ t := by
  induction rs with
  | nil => intro m; exact ⟨[], by simp [semAll]⟩
  | cons r rs ih =>
    intro m
    obtain ⟨t1, h1⟩ := stepRec_plain m r
    obtain ⟨t2, h2⟩ := ih (stepRec m r)
    exact ⟨t1 ++ t2, by simp only [semAll, List.foldl_cons] at *; rw [h2, h1]; simp⟩

theorem appOf_append (a b : List Rec) : appOf (a ++ b) = appOf a ++ appOf b := by
  induction a with
  | nil => simp [appOf]
  | cons x xs ih => simp [appOf, ih]

theorem appOf_chunkRecs (fuel : Nat) (d : Bytes) (h : d.length < fuel) : appOf (chunkRecs fuel d) = d
    ∧ ∀ r ∈ chunkRecs fuel d, r.2.length < 65536 := by
  fun_induction chunkRecs fuel d with
  | case1 d => omega
  | case2 n d hd => simp [appOf, List.isEmpty_iff.mp hd]
  | case3 n d hd ih =>
    have hpos : 0 < d.length := List.length_pos_iff.mpr (by simpa using hd)
    obtain ⟨i1, i2⟩ := ih (by simp only [List.length_drop]; omega)
    refine ⟨by simp [appOf, i1], fun r hr => ?_⟩
    rcases List.mem_cons.mp hr with rfl | hr
    · simp only [List.length_take]; omega
    · exact i2 r hr

theorem stepRec_pre_plain (m : Sem) (r : Rec) (h : m.est = false) : (stepRec m r).plain = m.plain := by
  rw [stepRec_plain_eq, h]; simp

/-- one record on an established, live session: application data is appended and changes nothing else; a record that
    fails or closes the session is not application data -/
theorem stepRec_est (m : Sem) (r : Rec) (he : m.est = true) (hf : m.failed = false) (hc : m.closed = false) :
    (stepRec m r).est = true ∧ (stepRec m r).plain = m.plain ++ (if r.1 = 0x17 then r.2 else []) ∧
    ((stepRec m r).failed = true ∨ (stepRec m r).closed = true → r.1 ≠ 0x17) := by
  unfold stepRec
  simp only [hf, hc, he, Bool.or_self, Bool.false_eq_true, if_false, Bool.not_true]
  split
  · exact ⟨rfl, rfl, fun h => by simp at h⟩
  · rename_i h17
    split
    · exact ⟨rfl, by simp, fun _ => h17⟩
    · split
      · exact ⟨he, by simp, fun _ => h17⟩
      · exact ⟨rfl, by simp, fun _ => h17⟩

theorem hsGo_spec (rs c : List Rec) (m : Sem) (he : m.est = false) (hs : semAll {} c = m) :
    (hsGo m rs c).2.2.2 ++ (hsGo m rs c).2.2.1 = c ++ rs
    ∧ semAll {} (hsGo m rs c).2.2.2 = (hsGo m rs c).2.1
    ∧ (hsGo m rs c).2.1.plain = m.plain := by
  fun_induction hsGo m rs c with
  | case1 m c => simp [hs]
  | case2 m r rs c m' h | case3 m r rs c m' _ h =>
    exact ⟨by simp, semAll_snoc hs r, stepRec_pre_plain m r he⟩
  | case4 m r rs c m' h1 h2 ih =>
    obtain ⟨a1, a2, a3⟩ := ih (by simpa using h1) (semAll_snoc hs r)
    exact ⟨by rw [a1]; simp, a2, by rw [a3]; exact stepRec_pre_plain m r he⟩

theorem recvGo_spec (rs c : List Rec) (m : Sem) (he : m.est = true) (hf : m.failed = false) (hc : m.closed = false)
    (hs : semAll {} c = m) :
    (recvGo m rs c).2.2.2 ++ (recvGo m rs c).2.2.1 = c ++ rs
    ∧ semAll {} (recvGo m rs c).2.2.2 = (recvGo m rs c).2.1
    ∧ (∀ d, (recvGo m rs c).1 = .data d → d ≠ [] ∧ (recvGo m rs c).2.1.plain = m.plain ++ d
          ∧ (recvGo m rs c).2.2.1.length < rs.length)
    ∧ ((∀ d, (recvGo m rs c).1 ≠ .data d) → (recvGo m rs c).2.1.plain = m.plain)
    ∧ ((recvGo m rs c).1 = .wantRead → (recvGo m rs c).2.2.1 = [] ∧ (recvGo m rs c).2.1.closed = false)
    ∧ ((recvGo m rs c).1 = .zeroReturn → (recvGo m rs c).2.1.closed = true) := by
  fun_induction recvGo m rs c with
  | case1 m c => simp [hs, hc]
  | case2 m r rs c m' h1 =>
    obtain ⟨_, sp, s17⟩ := stepRec_est m r he hf hc
    refine ⟨by simp, semAll_snoc hs r, by simp, fun _ => ?_, by simp, by simp⟩
    rw [sp, if_neg (s17 (Or.inl h1)), List.append_nil]
  | case3 m r rs c m' h1 h2 =>
    obtain ⟨_, sp, s17⟩ := stepRec_est m r he hf hc
    refine ⟨by simp, semAll_snoc hs r, by simp, fun _ => ?_, by simp, fun _ => h2⟩
    rw [sp, if_neg (s17 (Or.inr h2)), List.append_nil]
  | case4 m r rs c m' h1 h2 h3 =>
    obtain ⟨_, sp, _⟩ := stepRec_est m r he hf hc
    simp only [Bool.and_eq_true, decide_eq_true_eq, Bool.not_eq_true'] at h3
    refine ⟨by simp, semAll_snoc hs r, ?_, fun h => absurd rfl (h r.2), by simp, by simp⟩
    intro d h
    obtain rfl : r.2 = d := RecvRes.data.inj h
    exact ⟨fun h0 => by simp [h0] at h3, by rw [sp]; simp [h3.1], by simp⟩
  | case5 m r rs c m' h1 h2 h3 ih =>
    obtain ⟨se, sp, _⟩ := stepRec_est m r he hf hc
    -- an empty application-data record and an ignored record add no plaintext
    have hpl : m'.plain = m.plain := by
      rw [sp]
      by_cases h17 : r.1 = 0x17
      · have : r.2 = [] := by simpa [h17] using h3
        simp [this]
      · simp [h17]
    obtain ⟨a1, a2, a3, a4, a5, a6⟩ := ih se (by simpa using h1) (by simpa using h2) (semAll_snoc hs r)
    refine ⟨by rw [a1]; simp, a2, ?_, fun h => by rw [a4 h, hpl], a5, a6⟩
    intro d h
    obtain ⟨b1, b2, b3⟩ := a3 d h
    exact ⟨b1, by rw [b2, hpl], by simp only [List.length_cons]; omega⟩

/-! ### the operations keep the consistency invariant -/

theorem inv_init (c : Bool) : Inv ({ client := c } : G) :=
  ⟨rfl, rfl, rfl, rfl, fun r h => by simp at h⟩

theorem inv_feed (g : G) (x : Bytes) (h : Inv g) : Inv (feed g x) := by
  refine ⟨?_, h.sem, h.eframe, h.app, h.small⟩
  simp only [feed]
  rw [frameAll_append, h.frame]
  simp [List.append_assoc]

theorem inv_pushHs (g : G) (b : UInt8) (h : Inv g) : Inv (pushHs g b) := by
  refine ⟨h.frame, h.sem, h.eframe, ?_, ?_⟩
  · simp only [pushHs]; rw [appOf_append]; simpa [appOf] using h.app
  · intro r hr
    simp only [pushHs, List.mem_append, List.mem_singleton] at hr
    rcases hr with hr | hr
    · exact h.small r hr
    · subst hr; simp

theorem inv_setLoop (g : G) (m : Sem) (rs c : List Rec) (h : Inv g) (h1 : c ++ rs = g.consumed ++ g.inRecs)
    (h2 : semAll {} c = m) : Inv (setLoop g m rs c) := by
  refine ⟨?_, h2, h.eframe, h.app, h.small⟩
  simp only [setLoop]; rw [h1]; exact h.frame

/-- the optional ClientHello keeps the invariant and only touches the output queue -/
theorem hello_spec (g : G) (h : Inv g) :
    ∀ g1, g1 = (if (g.client && !g.helloSent) = true then pushHs { g with helloSent := true } 0 else g) →
    Inv g1 ∧ g1.m = g.m ∧ g1.inRecs = g.inRecs ∧ g1.consumed = g.consumed ∧ g1.fed = g.fed ∧ g1.sent = g.sent
      ∧ g1.emitted = g.emitted := by
  intro g1 hg1
  subst hg1
  split
  · exact ⟨inv_pushHs _ 0 ⟨h.frame, h.sem, h.eframe, h.app, h.small⟩, rfl, rfl, rfl, rfl, rfl, rfl⟩
  · exact ⟨h, rfl, rfl, rfl, rfl, rfl, rfl⟩

/-- `handshake` keeps the invariant and touches neither the inbound bytes, the plaintext read so far nor the outbound side -/
theorem handshake_spec (g : G) (h : Inv g) :
    Inv (handshake g).2 ∧ (handshake g).2.fed = g.fed ∧ (handshake g).2.m.plain = g.m.plain ∧ (handshake g).2.sent = g.sent
    ∧ (handshake g).2.emitted = g.emitted := by
  unfold handshake
  split
  · exact ⟨h, rfl, rfl, rfl, rfl⟩
  · split
    · exact ⟨h, rfl, rfl, rfl, rfl⟩
    · rename_i hnf hne
      have hest : g.m.est = false := by simpa using hne
      generalize hg1 : (if (g.client && !g.helloSent) = true then pushHs { g with helloSent := true } 0 else g) = g1
      obtain ⟨h1, m1, _, _, m4, m5, m6⟩ := hello_spec g h g1 hg1.symm
      obtain ⟨a1, a2, a3⟩ := hsGo_spec g1.inRecs g1.consumed g1.m (by rw [m1]; exact hest) h1.sem
      have h2 := inv_setLoop g1 _ _ _ h1 a1 a2
      simp only []
      split
      · exact ⟨inv_pushHs _ 1 h2, m4, by simp only [pushHs, setLoop]; rw [a3, m1], m5, m6⟩
      · exact ⟨h2, m4, by simp only [setLoop]; rw [a3, m1], m5, m6⟩

theorem inv_handshake (g : G) (h : Inv g) : Inv (handshake g).2 := (handshake_spec g h).1

/-- `recv` keeps the invariant; what it returns, against the session's reading of the records still waiting -/
theorem recv_spec (g : G) (h : Inv g) :
    Inv (recv g).2 ∧ (recv g).2.fed = g.fed ∧ (recv g).2.sent = g.sent ∧ (recv g).2.emitted = g.emitted
    ∧ (∀ d, (recv g).1 = .data d → (recv g).2.m.plain = g.m.plain ++ d ∧ d ≠ []
          ∧ (∃ t, (semAll g.m g.inRecs).plain = g.m.plain ++ d ++ t) ∧ (recv g).2.inRecs.length < g.inRecs.length)
    ∧ ((∀ d, (recv g).1 ≠ .data d) → (recv g).2.m.plain = g.m.plain)
    ∧ ((recv g).1 = .wantRead → (semAll g.m g.inRecs).plain = g.m.plain ∧ (semAll g.m g.inRecs).closed = false)
    ∧ ((recv g).1 = .zeroReturn → (semAll g.m g.inRecs).plain = g.m.plain ∧ (semAll g.m g.inRecs).closed = true) := by
  unfold recv
  by_cases h1 : (g.m.failed || !g.m.est) = true
  · rw [if_pos h1]
    exact ⟨h, rfl, rfl, rfl, by simp, fun _ => rfl, by simp, by simp⟩
  · rw [if_neg h1]
    simp only [Bool.or_eq_true, Bool.not_eq_true', not_or, Bool.not_eq_true, Bool.not_eq_false] at h1
    by_cases h2 : g.m.closed = true
    · rw [if_pos h2]
      refine ⟨h, rfl, rfl, rfl, by simp, fun _ => rfl, by simp, fun _ => ?_⟩
      rw [semAll_dead g.inRecs g.m (by simp [h2])]
      exact ⟨rfl, h2⟩
    · rw [if_neg h2]
      have hc : g.m.closed = false := by simpa using h2
      obtain ⟨a1, a2, a3, a4, a5, a6⟩ := recvGo_spec g.inRecs g.consumed g.m h1.2 h1.1 hc h.sem
      -- what is left to read continues from the new session state
      have hcont : semAll g.m g.inRecs = semAll (recvGo g.m g.inRecs g.consumed).2.1 (recvGo g.m g.inRecs g.consumed).2.2.1 := by
        have := congrArg (semAll {}) a1
        rw [semAll_append, semAll_append, a2, h.sem] at this
        exact this.symm
      refine ⟨inv_setLoop g _ _ _ h a1 a2, rfl, rfl, rfl, ?_, ?_, ?_, ?_⟩
      · intro d hd
        obtain ⟨b1, b2, b3⟩ := a3 d hd
        obtain ⟨t, ht⟩ := semAll_plain (recvGo g.m g.inRecs g.consumed).2.2.1 (recvGo g.m g.inRecs g.consumed).2.1
        exact ⟨b2, b1, ⟨t, by rw [hcont, ht, b2]⟩, b3⟩
      · exact a4
      · intro hd
        obtain ⟨c1, c2⟩ := a5 hd
        rw [hcont, c1]
        exact ⟨a4 (by intro d hdd; rw [hd] at hdd; cases hdd), c2⟩
      · intro hd
        have hcl := a6 hd
        rw [hcont, semAll_dead _ _ (by simp [hcl])]
        exact ⟨a4 (by intro d hdd; rw [hd] at hdd; cases hdd), hcl⟩

theorem inv_recv (g : G) (h : Inv g) : Inv (recv g).2 := (recv_spec g h).1

theorem inv_send (g : G) (d : Bytes) (h : Inv g) : Inv (send g d).2 := by
  unfold send
  split
  · exact h
  · obtain ⟨c1, c2⟩ := appOf_chunkRecs (d.length + 1) d (by omega)
    refine ⟨h.frame, h.sem, h.eframe, ?_, ?_⟩
    · simp only []; rw [appOf_append, c1, ← List.append_assoc, h.app]
    · intro r hr
      simp only [List.mem_append] at hr
      rcases hr with hr | hr
      · exact h.small r hr
      · exact c2 r hr

theorem inv_out (g : G) (h : Inv g) : Inv (out g).2 := by
  unfold out
  split
  · exact h
  · rename_i r rs hq
    have hsm : r.2.length < 65536 := h.small r (by rw [hq]; simp)
    refine ⟨h.frame, h.sem, ?_, ?_, ?_⟩
    · simp only []
      rw [frameAll_append, h.eframe]
      simp only []
      rw [frame_encode r hsm]
    · simp only []
      rw [appOf_append, ← h.app, hq]
      simp [appOf, List.append_assoc]
    · intro r' hr'; exact h.small r' (by rw [hq]; simp [hr'])

/-! ### the codec over consistent states, and its laws -/

abbrev S := { g : G // Inv g }

def refCodec : Codec where
  σ := S
  feed := fun s x => ⟨feed s.1 x, inv_feed s.1 x s.2⟩
  recv := fun s => ((recv s.1).1, ⟨(recv s.1).2, inv_recv s.1 s.2⟩)
  send := fun s d => ((send s.1 d).1, ⟨(send s.1 d).2, inv_send s.1 d s.2⟩)
  out := fun s => ((out s.1).1, ⟨(out s.1).2, inv_out s.1 s.2⟩)
  handshake := fun s => ((handshake s.1).1, ⟨(handshake s.1).2, inv_handshake s.1 s.2⟩)
  gotShutdown := fun s => s.1.m.closed
  inPending := fun s => s.1.inRecs.length
  outPending := fun s => s.1.outq.length

/-- the connection object a tls_start hook would hand over -/
def refInit (client : Bool) : S := ⟨{ client := client }, inv_init client⟩

/-- the session's reading of everything fed, in terms of the current state -/
theorem dec_of_inv (g : G) (h : Inv g) : dec g.fed = ((semAll g.m g.inRecs).plain, (semAll g.m g.inRecs).closed) := by
  unfold dec
  simp only [h.frame]
  rw [semAll_append, h.sem]

def refLaws : Laws refCodec where
  fed := fun s => s.1.fed
  taken := fun s => s.1.m.plain.length
  sent := fun s => s.1.sent
  emitted := fun s => s.1.emitted
  dec := dec
  enc := enc
  dec_mono := by
    intro a b
    unfold dec
    simp only []
    rw [frameAll_append]
    simp only []
    rw [semAll_append]
    exact semAll_plain _ _
  enc_nil := rfl
  feed_fed := fun _ _ => rfl
  feed_taken := fun _ _ => rfl
  feed_out := fun _ _ => ⟨rfl, rfl⟩
  recv_in := fun s => (recv_spec s.1 s.2).2.1
  recv_out := fun s => ⟨(recv_spec s.1 s.2).2.2.1, (recv_spec s.1 s.2).2.2.2.1⟩
  recv_data := by
    intro s d hd
    obtain ⟨_, _, _, _, f4, _, _, _⟩ := recv_spec s.1 s.2
    obtain ⟨b1, _, ⟨t, ht⟩, b4⟩ := f4 d hd
    refine ⟨by show (recv s.1).2.m.plain.length = _; rw [b1]; simp, ⟨t, ?_⟩, b4⟩
    show (dec s.1.fed).1.drop s.1.m.plain.length = d ++ t
    rw [dec_of_inv s.1 s.2]
    simp only []
    rw [ht, List.append_assoc, List.drop_left]
  recv_nodata := by
    intro s hnd
    obtain ⟨_, _, _, _, _, f5, _, _⟩ := recv_spec s.1 s.2
    show (recv s.1).2.m.plain.length = _
    rw [f5 hnd]
  recv_want := by
    intro s hw
    obtain ⟨_, _, _, _, _, _, f6, _⟩ := recv_spec s.1 s.2
    obtain ⟨c1, c2⟩ := f6 hw
    show s.1.m.plain.length = (dec s.1.fed).1.length ∧ (dec s.1.fed).2 = false
    rw [dec_of_inv s.1 s.2]
    exact ⟨by simp only []; rw [c1], c2⟩
  recv_zero := by
    intro s hz
    obtain ⟨_, _, _, _, _, _, _, f7⟩ := recv_spec s.1 s.2
    obtain ⟨c1, c2⟩ := f7 hz
    show s.1.m.plain.length = (dec s.1.fed).1.length ∧ (dec s.1.fed).2 = true
    rw [dec_of_inv s.1 s.2]
    exact ⟨by simp only []; rw [c1], c2⟩
  send_in := by
    intro s d
    show (send s.1 d).2.fed = s.1.fed ∧ (send s.1 d).2.m.plain.length = s.1.m.plain.length
    unfold send; split <;> exact ⟨rfl, rfl⟩
  send_out := by
    intro s d
    show (send s.1 d).2.emitted = s.1.emitted ∧ (send s.1 d).2.sent = (if (send s.1 d).1 then s.1.sent ++ d else s.1.sent)
    unfold send; split <;> simp
  out_in := by
    intro s
    show (out s.1).2.fed = s.1.fed ∧ (out s.1).2.m.plain.length = s.1.m.plain.length
    unfold out; split <;> exact ⟨rfl, rfl⟩
  out_some := by
    intro s c hc
    show (out s.1).2.emitted = s.1.emitted ++ c ∧ (out s.1).2.sent = s.1.sent ∧ (out s.1).2.outq.length < s.1.outq.length
    have hc' : (out s.1).1 = some c := hc
    unfold out at hc' ⊢
    split at hc'
    · cases hc'
    · rename_i r rs hq
      simp only [Option.some.injEq] at hc'
      subst hc'
      simp [hq]
  out_none := by
    intro s hn
    show (out s.1).2.emitted = s.1.emitted ∧ (out s.1).2.sent = s.1.sent ∧ enc s.1.emitted = s.1.sent
    have hn' : (out s.1).1 = none := hn
    unfold out at hn' ⊢
    split at hn'
    · rename_i hq
      refine ⟨by simp, by simp, ?_⟩
      unfold enc
      rw [s.2.eframe]
      have := s.2.app
      rw [hq] at this
      simpa [appOf] using this
    · cases hn'
  hs_in := fun s => ⟨(handshake_spec s.1 s.2).2.1, by
    show (handshake s.1).2.m.plain.length = _
    rw [(handshake_spec s.1 s.2).2.2.1]⟩
  hs_out := fun s => ⟨(handshake_spec s.1 s.2).2.2.2.1, (handshake_spec s.1 s.2).2.2.2.2⟩

/-- the object the hook hands over is fresh: `Hist.Fresh refLaws (refInit client)` written out (Lemmas/C14Hist.lean is not imported here) -/
theorem refInit_fresh (client : Bool) :
    refLaws.fed (refInit client) = [] ∧ refLaws.taken (refInit client) = 0 ∧ refLaws.sent (refInit client) = []
    ∧ refLaws.emitted (refInit client) = [] := ⟨rfl, rfl, rfl, rfl⟩

end MitmVerif.C14.RefL
