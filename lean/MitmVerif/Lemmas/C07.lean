/-
  C07 — HttpStream's body handling read once: what one event does, how `run` composes, which sizes the check refuses and
  lets pass, what a flow holds and has emitted after any history, and the exact result of a body in the stream state.
  By name: `step_cases` and the equations after it; `run_inv`, `run_append`; `check_abort`, `check_pass_le`; `Shape`,
  `shape_run` (phase by phase); `stream_run`.
-/
import MitmVerif.Model.C07
namespace MitmVerif.C07
open MitmVerif

variable (o : Opts) (resp : Bool) (pol : Policy) (f : Bytes → Ret)

/-- what the callable (or its absence) makes of one received chunk / of the end of the message -/
def onData (useF : Bool) (f : Bytes → Ret) (c : Bytes) : List Bytes := if useF then normData (f c) else [c]
def onEnd (useF : Bool) (f : Bytes → Ret) : List Bytes := if useF then normEnd (f []) else []

theorem step_cases (st : St) (e : Ev) :
    step o resp pol f st e = (st, []) ∨
    (st.phase = .waitHeaders ∧ ∃ exp endS, e = .headers exp endS) ∨
    (st.phase = .consume ∧ ((∃ b, e = .data b) ∨ e = .eom)) ∨
    (st.phase = .stream ∧ ((∃ b, e = .data b) ∨ e = .eom)) := by
  cases e with
  | headers exp endS =>
    rw [step]
    split
    · exact Or.inr (Or.inl ⟨‹_›, exp, endS, rfl⟩)
    · exact Or.inl rfl
  | data b =>
    rw [step]
    split
    · exact Or.inr (Or.inr (Or.inl ⟨‹_›, Or.inl ⟨b, rfl⟩⟩))
    · exact Or.inr (Or.inr (Or.inr ⟨‹_›, Or.inl ⟨b, rfl⟩⟩))
    · exact Or.inl rfl
  | eom =>
    rw [step]
    split
    · exact Or.inr (Or.inr (Or.inl ⟨‹_›, Or.inr rfl⟩))
    · exact Or.inr (Or.inr (Or.inr ⟨‹_›, Or.inr rfl⟩))
    · exact Or.inl rfl

theorem step_headers (st : St) (hp : st.phase = .waitHeaders) (exp : ExpSize) (endS : Bool) :
    step o resp pol f st (.headers exp endS) = ({ st with phase := .errored, exp := exp }, abortOuts resp true) ∨
    step o resp pol f st (.headers exp endS) =
      ({ st with phase := .stream, useF := decide (pol = .callable), exp := exp }, [.hookHeaders, .sendHead]) ∨
    step o resp pol f st (.headers exp endS) =
      ({ st with phase := .consume, useF := decide (pol = .callable), exp := exp }, [.hookHeaders]) := by
  simp only [step, hp]
  generalize (if endS = true then Verdict.pass else check o exp []) = v
  generalize (_ && !endS) = flag
  split
  · exact Or.inl rfl
  · split
    · exact Or.inr (Or.inl rfl)
    · exact Or.inr (Or.inr rfl)

theorem step_data_consume (st : St) (hp : st.phase = .consume) (b : Bytes) :
    (check o st.exp (st.buf ++ b) = .abort ∧ step o resp pol f st (.data b) =
      ({ st with buf := st.buf ++ b, phase := .errored }, abortOuts resp (st.buf ++ b).isEmpty)) ∨
    (check o st.exp (st.buf ++ b) = .stream ∧ st.buf ++ b ≠ [] ∧ step o resp pol f st (.data b) =
      ({ st with buf := if o.store then st.buf ++ b else [], phase := .stream, useF := false },
       [.sendHead, .sendData (st.buf ++ b)])) ∨
    (check o st.exp (st.buf ++ b) ≠ .abort ∧ step o resp pol f st (.data b) = ({ st with buf := st.buf ++ b }, [])) := by
  simp only [step, hp]
  cases hc : check o st.exp (st.buf ++ b)
  · exact Or.inr (Or.inr ⟨by simp, rfl⟩)
  · exact Or.inl ⟨rfl, rfl⟩
  · by_cases hne : st.buf ++ b = []
    · exact Or.inr (Or.inr ⟨by simp, by simp [hne]⟩)
    · exact Or.inr (Or.inl ⟨rfl, hne, by simp [hne, relay]⟩)

section
variable {o} {resp} {pol} {f}

theorem step_final (st : St) (h : st.phase = .done ∨ st.phase = .errored) (e : Ev) :
    step o resp pol f st e = (st, []) := by
  rcases h with h | h <;> cases e <;> simp [step, h]

theorem step_headers_late (st : St) (h : st.phase ≠ .waitHeaders) (exp : ExpSize) (endS : Bool) :
    step o resp pol f st (.headers exp endS) = (st, []) := by
  rw [step]
  split
  · exact absurd ‹_› h
  · rfl

theorem step_headers_frame (st : St) (exp : ExpSize) (endS : Bool) :
    (step o resp pol f st (.headers exp endS)).1.buf = st.buf ∧
    (step o resp pol f st (.headers exp endS)).1.content = st.content := by
  by_cases hp : st.phase = .waitHeaders
  · rcases step_headers o resp pol f st hp exp endS with hs | hs | hs <;> rw [hs] <;> exact ⟨rfl, rfl⟩
  · rw [step_headers_late st hp]
    exact ⟨rfl, rfl⟩

/-- the late switch: the chunk that makes the buffered bytes exceed stream_large_bodies -/
theorem step_switch (st : St) (hp : st.phase = .consume) (b : Bytes) (hne : st.buf ++ b ≠ [])
    (hc : check o st.exp (st.buf ++ b) = .stream) :
    step o resp pol f st (.data b) =
      ({ st with buf := if o.store then st.buf ++ b else [], phase := .stream, useF := false },
       [.sendHead, .sendData (st.buf ++ b)]) := by
  simp [step, hp, hc, hne, relay]

theorem step_data_stream (st : St) (hp : st.phase = .stream) (b : Bytes) :
    step o resp pol f st (.data b) =
      ({ st with buf := if o.store then st.buf ++ (onData st.useF f b).flatten else st.buf },
       (onData st.useF f b).map .sendData) := by
  simp only [step, hp, relay, onData]

theorem step_eom_consume (st : St) (hp : st.phase = .consume) :
    step o resp pol f st .eom = ({ st with phase := .done, content := some st.buf, buf := [] },
        [.hookMsg, .sendHead] ++ (if st.buf ≠ [] then [.sendData st.buf] else []) ++ [.sendEnd]) := by
  simp only [step, hp]

theorem step_eom_stream (st : St) (hp : st.phase = .stream) :
    step o resp pol f st .eom =
      ({ st with phase := .done, buf := if o.store then [] else st.buf,
                 content := if o.store then some (st.buf ++ (onEnd st.useF f).flatten) else st.content },
       (onEnd st.useF f).map .sendData ++ [.hookMsg, .sendEnd]) := by
  cases hs : o.store <;> simp [step, hp, relay, onEnd, hs]

theorem run_final (st : St) (h : st.phase = .done ∨ st.phase = .errored) (es : List Ev) :
    run o resp pol f st es = (st, []) := by
  induction es with
  | nil => rfl
  | cons e es ih => simp [run, step_final st h, ih]

theorem run_inv (P : St → List Out → Prop) (es : List Ev)
    (hstep : ∀ st acc, ∀ e ∈ es, P st acc → P (step o resp pol f st e).1 (acc ++ (step o resp pol f st e).2))
    (st : St) (acc : List Out) (h : P st acc) :
    P (run o resp pol f st es).1 (acc ++ (run o resp pol f st es).2) := by
  induction es generalizing st acc with
  | nil => rwa [run, List.append_nil]
  | cons e es ih =>
    rw [run, ← List.append_assoc]
    exact ih (fun s a e' he' => hstep s a e' (List.mem_cons_of_mem _ he')) _ _ (hstep st acc e List.mem_cons_self h)

theorem run_append (st : St) (a b : List Ev) :
    run o resp pol f st (a ++ b) =
      ((run o resp pol f (run o resp pol f st a).1 b).1,
       (run o resp pol f st a).2 ++ (run o resp pol f (run o resp pol f st a).1 b).2) := by
  induction a generalizing st with
  | nil => simp [run]
  | cons e es ih => simp [run, ih, List.append_assoc]

end

theorem dataOf_append (a b : List Out) : dataOf (a ++ b) = dataOf a ++ dataOf b := by
  induction a with
  | nil => simp [dataOf]
  | cons x xs ih => cases x <;> simp [dataOf, ih]

theorem dataOf_map (l : List Bytes) : dataOf (l.map Out.sendData) = l := by
  induction l with
  | nil => simp [dataOf]
  | cons x xs ih => simp [dataOf, ih]

theorem check_abort (exp : ExpSize) (buf : Bytes) (L n : Int) (hL : o.limit = some L)
    (he : expectedSize exp buf = some n) (hpos : 0 < n) (hgt : n > L) : check o exp buf = .abort := by
  have h1 : ¬ n ≤ 0 := by omega
  simp [check, he, hL, exceeds, h1, hgt]

theorem check_abort_late (exp : ExpSize) (buf : Bytes) (L : Int) (hL : o.limit = some L) (hne : buf ≠ [])
    (hgt : (buf.length : Int) > L) : check o exp buf = .abort :=
  check_abort o exp buf L _ hL (by simp [expectedSize, hne]) (by have := List.length_pos_iff.mpr hne; omega) hgt

theorem check_pass_le (exp : ExpSize) (buf : Bytes) (L : Int) (hL : o.limit = some L)
    (hc : check o exp buf ≠ .abort) : buf.length ≤ L.toNat := by
  by_cases hb : buf = []
  · simp [hb]
  · by_cases hgt : (buf.length : Int) > L
    · exact absurd (check_abort_late o exp buf L hL hb hgt) hc
    · omega

/-- nothing reached the peer: no body bytes, no head -/
def Quiet (outs : List Out) : Prop := dataOf outs = [] ∧ Out.sendHead ∉ outs

/-- the error hook fired, the client (and for a response the server) got the error, nothing reached the peer -/
def Refused (resp : Bool) (outs : List Out) : Prop :=
  Out.hookError ∈ outs ∧ Out.errClient ∈ outs ∧ (resp = true → Out.errServer ∈ outs) ∧ Quiet outs

theorem quiet_append {a b : List Out} (ha : Quiet a) (hb : Quiet b) : Quiet (a ++ b) :=
  ⟨by rw [dataOf_append, ha.1, hb.1]; rfl, fun hm => (List.mem_append.mp hm).elim ha.2 hb.2⟩

theorem abortOuts_refused : ∀ r e : Bool, Refused r (abortOuts r e) := by
  unfold Refused Quiet
  decide

theorem refused_append {resp : Bool} {a b : List Out} (ha : Quiet a) (hb : Refused resp b) :
    Refused resp (a ++ b) :=
  ⟨List.mem_append_right _ hb.1, List.mem_append_right _ hb.2.1, fun hr => List.mem_append_right _ (hb.2.2.1 hr),
    quiet_append ha hb.2.2.2⟩

/-- State and outputs after a history, phase by phase.  Until a verdict falls the flow holds at most the limit `L` and
    has emitted at most the headers hook; a streaming flow holds something only under store_streamed_bodies; a finished
    one holds nothing; a refused one holds what it held plus the chunk (one of `evs`) that was too much, and has emitted
    the error and nothing for the peer.  Only a finished flow has a content.
    The phase is an argument of its own (`Shape … st.phase st outs`): rewriting it to a constructor opens the row. -/
def Shape (o : Opts) (resp : Bool) (L : Int) (evs : List Ev) : Phase → St → List Out → Prop
  | .waitHeaders, st, outs => st.content = none ∧ st.buf = [] ∧ outs = []
  | .consume, st, outs => st.content = none ∧ (o.limit = some L → st.buf.length ≤ L.toNat) ∧ Quiet outs
  | .stream, st, _ => st.content = none ∧ (o.store = false → st.buf = [])
  | .done, st, _ => st.buf = []
  | .errored, st, outs => st.content = none ∧ Refused resp outs ∧
    (o.limit = some L → ∃ c, (c = [] ∨ Ev.data c ∈ evs) ∧ st.buf.length ≤ L.toNat + c.length)

private theorem shape_step (L : Int) (evs : List Ev) (st : St) (acc : List Out) (e : Ev) (he : e ∈ evs)
    (h : Shape o resp L evs st.phase st acc) :
    Shape o resp L evs (step o resp pol f st e).1.phase (step o resp pol f st e).1
      (acc ++ (step o resp pol f st e).2) := by
  rcases step_cases o resp pol f st e with hs | ⟨hp, exp, endS, rfl⟩ | ⟨hp, ⟨b, rfl⟩ | rfl⟩ | ⟨hp, ⟨b, rfl⟩ | rfl⟩
  · rwa [hs, List.append_nil]
  all_goals rw [hp] at h
  · obtain ⟨hn, hb, rfl⟩ := h
    rcases step_headers o resp pol f st hp exp endS with hs | hs | hs <;> rw [hs]
    · exact ⟨hn, abortOuts_refused resp true, fun _ => ⟨[], Or.inl rfl, by simp [hb]⟩⟩
    · exact ⟨hn, fun _ => hb⟩
    · exact ⟨hn, fun _ => by simp [hb], rfl, by simp⟩
  · obtain ⟨hn, hb, hq⟩ := h
    rcases step_data_consume o resp pol f st hp b with ⟨_, hs⟩ | ⟨_, _, hs⟩ | ⟨hk, hs⟩ <;> rw [hs]
    · exact ⟨hn, refused_append hq (abortOuts_refused resp _),
        fun hL => ⟨b, Or.inr he, by have := hb hL; simp; omega⟩⟩
    · exact ⟨hn, fun hst => by simp [hst]⟩
    · simp only [hp]
      exact ⟨hn, fun hL => check_pass_le o st.exp _ L hL hk, by rwa [List.append_nil]⟩
  · rw [step_eom_consume st hp]
    exact rfl
  · rw [step_data_stream st hp]
    simp only [hp]
    exact ⟨h.1, fun hst => by simp [hst, h.2 hst]⟩
  · rw [step_eom_stream st hp]
    cases hst : o.store
    · exact h.2 hst
    · rfl

theorem shape_run (L : Int) (evs : List Ev) :
    Shape o resp L evs (run o resp pol f init evs).1.phase (run o resp pol f init evs).1 (run o resp pol f init evs).2 :=
  run_inv (fun st outs => Shape o resp L evs st.phase st outs) evs
    (fun st acc e he => shape_step o resp pol f L evs st acc e he) init [] ⟨rfl, rfl, rfl⟩

theorem flatMap_onData (u : Bool) (chunks : List Bytes) :
    chunks.flatMap (onData u f) ++ onEnd u f =
      if u then chunks.flatMap (fun c => normData (f c)) ++ normEnd (f []) else chunks := by
  delta onData onEnd
  cases u <;> simp

theorem stream_run (st : St) (hp : st.phase = .stream) (chunks : List Bytes) :
    let sent := chunks.flatMap (onData st.useF f) ++ onEnd st.useF f
    run o resp pol f st (chunks.map Ev.data ++ [Ev.eom]) =
      ({ st with phase := .done, buf := if o.store then [] else st.buf,
                 content := if o.store then some (st.buf ++ sent.flatten) else st.content },
       sent.map Out.sendData ++ [.hookMsg, .sendEnd]) := by
  induction chunks generalizing st with
  | nil => simp [run, step_eom_stream st hp]
  | cons c cs ih =>
    simp only [List.map_cons, List.cons_append, run, step_data_stream st hp]
    rw [ih]
    · cases o.store <;> simp [List.append_assoc]
    · exact hp

end MitmVerif.C07
