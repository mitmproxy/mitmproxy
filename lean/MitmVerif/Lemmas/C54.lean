/-
  C54 — the implemented matchers against RFC 6265 (`implDomainMatch_sound`, `implPathMatch_eq`); one accepted Set-Cookie as
  an association-list update of the jar (`setCookie_eq`: `jarPut` of `newDict` under `ckey`); the jar read through `jarGet`
  is the last-write function of the history (`jarGet_run`, `lastWriteFrom_some`); keys and cookie names stay unique
  (`JarWF`), so that membership and `jarGet` agree (`jarGet_of_mem`).
-/
import MitmVerif.Model.C54
namespace MitmVerif.C54

/-- A notion of "this host string is an IP address" (RFC 6265 §5.1.3 leaves it to the host syntax).
    The theorems hold for every notion obeying two laws true of IPv4 / IPv6 literals:
    an IP literal does not start with a dot, and one that contains a dot ends in `.<digits>`
    (dotted quad, or IPv6 with an embedded IPv4 tail). -/
structure IPNotion where
  isIP : Bytes → Bool
  no_leading_dot : ∀ h, isIP h = true → h.head? ≠ some dot
  dotted_tail : ∀ h, isIP h = true → dot ∈ h → ipv4re h = true

/-- the concrete notion used by the driver satisfies the laws -/
def stdIPNotion : IPNotion where
  isIP := stdIP
  no_leading_dot := by
    intro h hh
    simp only [stdIP, Bool.or_eq_true] at hh
    rcases hh with hh | hh
    · cases h with
      | nil => simp [isIPv4Like] at hh
      | cons c t =>
        simp only [isIPv4Like, Bool.and_eq_true] at hh
        intro hc
        simp at hc
        rw [hc] at hh
        have : isDigit dot = false := by decide
        rw [this] at hh; simp at hh
    · simp only [isIPv6Like, Bool.and_eq_true] at hh
      simpa using hh.1.2
  dotted_tail := by
    intro h hh hd
    simp only [stdIP, Bool.or_eq_true] at hh
    rcases hh with hh | hh
    · simp only [isIPv4Like, Bool.and_eq_true] at hh; exact hh.2
    · simp only [isIPv6Like, Bool.and_eq_true, Bool.or_eq_true] at hh
      rcases hh.2 with h1 | h1
      · have : h.contains dot = true := List.contains_iff_mem.mpr hd
        simp at h1
        exact absurd hd h1
      · exact h1

theorem dropDot_cons_dot (t : Bytes) : dropDot (dot :: t) = t := by simp [dropDot]

theorem isHDN_ne_nil {t : Bytes} (h : isHDN t = true) : t ≠ [] := by
  intro e; subst e; simp [isHDN, ipv4re, ipv4reRev] at h

/-- what `http.cookiejar.domain_match` says beyond equality, as far as the proof below needs it -/
theorem cjMatch_of_ne {a b : Bytes} (h : cjMatch a b = true) (hab : a ≠ b) :
    isHDN a = true ∧ ∃ t, b = dot :: t ∧ isHDN t = true := by
  cases b with
  | nil => simp [cjMatch, hab] at h
  | cons c t =>
    simp [cjMatch, hab] at h
    exact ⟨h.1, t, by rw [h.2.2.1], h.2.2.2⟩

/-- **the implemented domain match implies the RFC 6265 one** -/
theorem implDomainMatch_sound (ip : IPNotion) (a b : Bytes) (h : implDomainMatch a b = true) :
    domainMatch6265 ip.isIP a b = true := by
  unfold implDomainMatch at h
  unfold domainMatch6265
  generalize asciiLower a = A at *
  generalize asciiLower b = B at *
  simp only [Bool.or_eq_true, decide_eq_true_eq]
  by_cases hd : A = dropDot B
  · exact .inl hd
  · right
    obtain ⟨hsuf, hcj⟩ : B.isSuffixOf A = true ∧ cjMatch A B = true := by simpa [hd] using h
    -- in both cases `B = dot :: t`, and the host is no IP address: it starts with a dot, or it is a host name
    by_cases hAB : A = B
    · subst hAB
      cases A with
      | nil => exact absurd rfl hd
      | cons c t =>
        by_cases hc : c = dot
        · subst hc
          have hip := Bool.eq_false_iff.mpr fun hip => ip.no_leading_dot (dot :: t) hip rfl
          simp [dropDot_cons_dot, hip, hsuf]
        · exact absurd (by simp [dropDot, hc]) hd
    · obtain ⟨hA, t, rfl, ht⟩ := cjMatch_of_ne hcj hAB
      have hip : ip.isIP A = false := Bool.eq_false_iff.mpr fun hip => by
        have hre := ip.dotted_tail A hip ((List.isSuffixOf_iff_suffix.mp hsuf).subset (by simp))
        simp [isHDN, hre] at hA
      simp [dropDot_cons_dot, isHDN_ne_nil ht, hip, hsuf]

/-- **the implemented path match is the RFC 6265 one** on the path part of the request target -/
theorem implPathMatch_eq (req c : Bytes) : implPathMatch req c = pathMatch6265 (uriPath req) c := by
  unfold implPathMatch pathMatch6265
  by_cases h1 : uriPath req = c <;> by_cases h2 : c.isPrefixOf (uriPath req) = true <;> simp [h1, h2]

theorem jarLookup_mem {k : JKey} {d : Dict} {jar : Jar} (h : jarLookup k jar = some d) : (k, d) ∈ jar := by
  fun_induction jarLookup k jar <;> simp_all

theorem jarLookup_none_not_mem {k : JKey} {jar : Jar} (h : jarLookup k jar = none) (d : Dict) : (k, d) ∉ jar := by
  fun_induction jarLookup k jar <;> simp_all
  exact fun e => absurd e.symm ‹_›

theorem jarLookup_append (k' k : JKey) (d : Dict) (jar : Jar) :
    jarLookup k' (jar ++ [(k, d)]) =
      match jarLookup k' jar with | some x => some x | none => if k = k' then some d else none := by
  fun_induction jarLookup k' jar <;> simp_all [jarLookup]

theorem jarLookup_map_replace (k' k : JKey) (d' : Dict) (jar : Jar) :
    jarLookup k' (jar.map (fun p => if p.1 = k then (p.1, d') else p)) =
      if k' = k then (jarLookup k jar).map (fun _ => d') else jarLookup k' jar := by
  induction jar with
  | nil => simp [jarLookup]
  | cons p rest ih =>
    by_cases h2 : k' = k
    · subst h2; by_cases h1 : p.1 = k' <;> simp_all [jarLookup]
    · have h2' := Ne.symm h2
      by_cases h1 : p.1 = k <;> simp_all [jarLookup]

theorem jarLookup_filter_ne (k' k : JKey) (jar : Jar) :
    jarLookup k' (jar.filter (fun p => decide (p.1 ≠ k))) = if k' = k then none else jarLookup k' jar := by
  induction jar with
  | nil => simp [jarLookup]
  | cons p rest ih =>
    by_cases h2 : k' = k
    · subst h2; by_cases h1 : p.1 = k' <;> simp_all [jarLookup]
    · have h2' := Ne.symm h2
      by_cases h1 : p.1 = k <;> simp_all [jarLookup]

theorem mem_map_replace {jar : Jar} {k K : JKey} {d d' : Dict}
    (h : (k, d) ∈ jar.map (fun p => if p.1 = K then (p.1, d') else p)) : if k = K then d = d' else (k, d) ∈ jar := by
  obtain ⟨p, hp, hpe⟩ := List.mem_map.mp h
  split at hpe
  · rename_i hpk
    cases hpe
    simp [hpk]
  · subst hpe
    rename_i hpk
    simpa [hpk] using hp

theorem map_replace_keys (K : JKey) (d' : Dict) (jar : Jar) :
    (jar.map (fun p => if p.1 = K then (p.1, d') else p)).map (·.1) = jar.map (·.1) := by
  rw [List.map_map]
  apply List.map_congr_left
  intro p _
  simp only [Function.comp]
  split <;> rfl

/-- put `new` under key `k`: replace every entry of the key, append if there is none; `none` removes the key -/
def jarPut (k : JKey) (new : Option Dict) (jar : Jar) : Jar :=
  match new, jarLookup k jar with
  | none, _ => jar.filter (fun p => decide (p.1 ≠ k))
  | some d, none => jar ++ [(k, d)]
  | some d, some _ => jar.map (fun p => if p.1 = k then (p.1, d) else p)

theorem jarLookup_jarPut (k' k : JKey) (new : Option Dict) (jar : Jar) :
    jarLookup k' (jarPut k new jar) = if k' = k then new else jarLookup k' jar := by
  unfold jarPut
  split
  · exact jarLookup_filter_ne k' k jar
  · rename_i hl
    rw [jarLookup_append]
    by_cases hk : k' = k
    · subst hk; simp [hl]
    · simp only [hk, if_false, Ne.symm hk]
      cases jarLookup k' jar <;> rfl
  · rename_i hl
    rw [jarLookup_map_replace, hl]; rfl

/-- only the entries of key `k` change, and all of them become `new` (also in a jar with repeated keys) -/
theorem mem_jarPut {k' k : JKey} {new : Option Dict} {jar : Jar} {d : Dict} (h : (k', d) ∈ jarPut k new jar) :
    if k' = k then new = some d else (k', d) ∈ jar := by
  unfold jarPut at h
  split at h
  · obtain ⟨h1, h2⟩ := List.mem_filter.mp h
    simpa [show k' ≠ k by simpa using h2] using h1
  · rename_i d' hl
    rcases List.mem_append.mp h with h1 | h1
    · have hk : k' ≠ k := fun e => jarLookup_none_not_mem hl d (e ▸ h1)
      simpa [hk] using h1
    · simp at h1; simp [h1.1, h1.2]
  · simpa [eq_comm] using mem_map_replace h

theorem nodup_concat {α : Type} {l : List α} {a : α} (h : l.Nodup) (ha : a ∉ l) : (l ++ [a]).Nodup :=
  List.nodup_append.mpr ⟨h, List.pairwise_singleton _ a, fun _ hx _ hy e => ha (List.mem_singleton.mp hy ▸ e ▸ hx)⟩

theorem jarPut_keys_nodup (k : JKey) (new : Option Dict) {jar : Jar} (h : (jar.map (·.1)).Nodup) :
    ((jarPut k new jar).map (·.1)).Nodup := by
  unfold jarPut
  split
  · exact (List.filter_sublist.map _).nodup h
  · rename_i d hl
    rw [List.map_append]
    refine nodup_concat h fun ha => ?_
    obtain ⟨p, hp, (hpe : p.1 = k)⟩ := List.mem_map.mp ha
    exact jarLookup_none_not_mem hl p.2 (by rw [← hpe]; exact hp)
  · rw [map_replace_keys]; exact h

/-- the dict stored under the cookie's own key after an accepted Set-Cookie -/
def newDict (cur : Option Dict) (c : Cookie) : Option Dict :=
  match cur with
  | none => if c.expired then none else some [(c.name, c.value)]
  | some d =>
    if c.expired then
      (if d.filter (fun p => decide (p.1 ≠ c.name)) = [] then none else some (d.filter (fun p => decide (p.1 ≠ c.name))))
    else some (dictSet c.name c.value d)

theorem setCookie_of_not_match {jar : Jar} {host : Bytes} {port : Nat} {c : Cookie}
    (h : implDomainMatch host (ckey c host port).domain = false) : setCookie jar host port c = jar := by
  simp [setCookie, h]

theorem setCookie_eq {jar : Jar} {host : Bytes} {port : Nat} {c : Cookie}
    (hdm : implDomainMatch host (ckey c host port).domain = true) :
    setCookie jar host port c = jarPut (ckey c host port) (newDict (jarLookup (ckey c host port) jar) c) jar := by
  unfold setCookie
  simp only [hdm, if_true]
  cases hl : jarLookup (ckey c host port) jar with
  | none =>
    cases hexp : c.expired with
    | true =>
      simp only [newDict, hexp, if_true, jarPut]
      refine (List.filter_eq_self.mpr fun p hp => ?_).symm
      simp only [ne_eq, decide_eq_true_eq]
      exact fun e => jarLookup_none_not_mem hl p.2 (e ▸ hp)
    | false => simp [newDict, hexp, jarPut, hl]
  | some d =>
    cases hexp : c.expired with
    | true =>
      by_cases hnil : d.filter (fun p => decide (p.1 ≠ c.name)) = []
      · simp only [newDict, hexp, jarPut, hnil, if_true]
      · simp only [newDict, hexp, jarPut, hnil, hl, if_true, if_false]
    | false => simp [newDict, hexp, jarPut, hl]

theorem mem_setCookie {jar : Jar} {host : Bytes} {port : Nat} {c : Cookie} {k : JKey} {d : Dict}
    (hdm : implDomainMatch host (ckey c host port).domain = true) (h : (k, d) ∈ setCookie jar host port c) :
    if k = ckey c host port then newDict (jarLookup k jar) c = some d else (k, d) ∈ jar := by
  have := mem_jarPut (setCookie_eq hdm ▸ h)
  split at this
  · rename_i hk; subst hk; simpa using this
  · rename_i hk; simpa [hk] using this

theorem dictSet_ne_nil (n : Bytes) (v : Val) (d : Dict) : dictSet n v d ≠ [] := by
  fun_cases dictSet n v d <;> simp

theorem newDict_ne_nil {cur : Option Dict} {c : Cookie} {d : Dict} (h : newDict cur c = some d) : d ≠ [] := by
  revert h
  -- `newDict` yields a dict in three of its five cases: the first cookie of a key, a filtered dict that is not empty, `dictSet`
  fun_cases newDict cur c <;> intro h <;> cases h
  · simp
  · assumption
  · exact dictSet_ne_nil _ _ _

theorem newDict_expired {cur : Option Dict} {c : Cookie} {d : Dict} (hexp : c.expired = true)
    (h : newDict cur c = some d) (v : Val) : (c.name, v) ∉ d := by
  revert h
  fun_cases newDict cur c <;> intro h <;> cases h
  · simp_all
  · simp [List.mem_filter]
  · simp_all

theorem setCookie_nonempty {jar : Jar} (h : ∀ k d, (k, d) ∈ jar → d ≠ []) (host : Bytes) (port : Nat) (c : Cookie) :
    ∀ k d, (k, d) ∈ setCookie jar host port c → d ≠ [] := by
  intro k d hk
  cases hdm : implDomainMatch host (ckey c host port).domain with
  | false => rw [setCookie_of_not_match hdm] at hk; exact h k d hk
  | true =>
    have := mem_setCookie hdm hk
    split at this
    · exact newDict_ne_nil this
    · exact h k d this

theorem runJar_invariant {P : Jar → Prop} (step : ∀ jar host port c, P jar → P (setCookie jar host port c))
    (evs : List Event) (jar : Jar) (h : P jar) : P (runJar jar evs) :=
  List.foldlRecOn evs stepJar h fun jar h ev _ => by
    cases ev with
    | req => exact h
    | resp host port cs => exact List.foldlRecOn cs _ h fun jar h c _ => step jar host port c h

theorem dictGet_dictSet (n' n : Bytes) (v : Val) (d : Dict) :
    dictGet n' (dictSet n v d) = if n' = n then some v else dictGet n' d := by
  induction d with
  | nil => by_cases h2 : n' = n <;> simp_all [dictSet, dictGet, eq_comm]
  | cons p rest ih =>
    by_cases h2 : n' = n
    · subst h2; by_cases h1 : p.1 = n' <;> simp_all [dictSet, dictGet]
    · have h2' := Ne.symm h2
      by_cases h1 : p.1 = n <;> simp_all [dictSet, dictGet]

theorem dictGet_filter_ne (n' n : Bytes) (d : Dict) :
    dictGet n' (d.filter (fun p => decide (p.1 ≠ n))) = if n' = n then none else dictGet n' d := by
  induction d with
  | nil => simp [dictGet]
  | cons p rest ih =>
    by_cases h2 : n' = n
    · subst h2; by_cases h1 : p.1 = n' <;> simp_all [dictGet]
    · have h2' := Ne.symm h2
      by_cases h1 : p.1 = n <;> simp_all [dictGet]

theorem dictGet_newDict (cur : Option Dict) (c : Cookie) (n : Bytes) :
    (newDict cur c).bind (dictGet n) =
      if c.name = n then (if c.expired then none else some c.value) else cur.bind (dictGet n) := by
  have hfl := dictGet_filter_ne n c.name
  fun_cases newDict cur c <;>
    simp only [*, eq_comm (a := c.name), Option.bind_none, Option.bind_some, if_true, Bool.false_eq_true, if_false]
  · simp
  · simp [dictGet, eq_comm]
  · rename_i d _ h; rw [← hfl, h]; rfl
  · exact dictGet_dictSet ..

/-- one Set-Cookie changes exactly the slot `(ckey, name)`, as `writeCookie` says -/
theorem jarGet_setCookie (jar : Jar) (host : Bytes) (port : Nat) (c : Cookie) (k : JKey) (n : Bytes) :
    jarGet (setCookie jar host port c) k n = writeCookie host port k n (jarGet jar k n) c := by
  unfold writeCookie jarGet
  cases hdm : implDomainMatch host (ckey c host port).domain with
  | false => rw [setCookie_of_not_match hdm]; rfl
  | true =>
    rw [setCookie_eq hdm, jarLookup_jarPut]
    by_cases hk : k = ckey c host port
    · subst hk
      simp only [if_true, decide_true, Bool.true_and, dictGet_newDict]
      by_cases hn : c.name = n <;> simp [hn]
    · simp [hk, Ne.symm hk]

theorem jarGet_run (evs : List Event) (jar : Jar) (k : JKey) (n : Bytes) :
    jarGet (runJar jar evs) k n = lastWriteFrom (jarGet jar k n) evs k n :=
  (List.foldl_hom (jarGet · k n) (g₁ := stepJar) (l := evs) (init := jar) fun jar ev => by
    cases ev with
    | req => rfl
    | resp host port cs =>
      exact List.foldl_hom (jarGet · k n) (g₁ := fun j c => setCookie j host port c) (l := cs) (init := jar)
        fun j c => (jarGet_setCookie j host port c k n).symm).symm

/-- cookie `(n, v)` under key `k` was put there by a Set-Cookie of a response in `evs` that was not expired and
    whose host passed the (implemented) domain check for the key's domain -/
def SetBy (evs : List Event) (k : JKey) (n : Bytes) (v : Val) : Prop :=
  ∃ host port cs c, Event.resp host port cs ∈ evs ∧ c ∈ cs ∧ c.name = n ∧ c.value = v ∧ c.expired = false ∧
    k = ckey c host port ∧ implDomainMatch host k.domain = true

theorem foldl_writeCookie_some {host : Bytes} {port : Nat} {k : JKey} {n : Bytes} {v : Val} (cs : List Cookie) :
    ∀ cur, cs.foldl (writeCookie host port k n) cur = some v →
      cur = some v ∨ ∃ c ∈ cs, c.name = n ∧ c.value = v ∧ c.expired = false ∧ k = ckey c host port ∧
        implDomainMatch host k.domain = true := by
  induction cs with
  | nil => exact fun _ h => .inl h
  | cons c cs ih =>
    intro cur h
    rcases ih _ h with h1 | ⟨c', hc', r⟩
    · unfold writeCookie at h1
      split at h1
      · rename_i hw
        simp only [Bool.and_eq_true, decide_eq_true_eq] at hw
        obtain ⟨⟨hdm, hk⟩, hn⟩ := hw
        cases hexp : c.expired with
        | true => simp [hexp] at h1
        | false =>
          simp only [hexp, Bool.false_eq_true, if_false, Option.some.injEq] at h1
          exact .inr ⟨c, by simp, hn, h1, hexp, hk.symm, hk ▸ hdm⟩
      · exact .inl h1
    · exact .inr ⟨c', List.mem_cons_of_mem _ hc', r⟩

theorem lastWriteFrom_some {k : JKey} {n : Bytes} {v : Val} (evs : List Event) :
    ∀ cur, lastWriteFrom cur evs k n = some v → cur = some v ∨ SetBy evs k n v := by
  induction evs with
  | nil => exact fun _ h => .inl h
  | cons ev evs ih =>
    intro cur h
    rcases ih _ h with h1 | ⟨host, port, cs, c, hev, r⟩
    · cases ev with
      | req f h' p' pa => exact .inl h1
      | resp host port cs =>
        rcases foldl_writeCookie_some cs cur h1 with h2 | ⟨c, hc, r⟩
        · exact .inl h2
        · exact .inr ⟨host, port, cs, c, by simp, hc, r⟩
    · exact .inr ⟨host, port, cs, c, List.mem_cons_of_mem _ hev, r⟩

def JarWF (jar : Jar) : Prop :=
  (jar.map (·.1)).Nodup ∧ ∀ k d, (k, d) ∈ jar → (d.map (·.1)).Nodup

theorem dictSet_names (n : Bytes) (v : Val) (d : Dict) :
    (dictSet n v d).map (·.1) = if n ∈ d.map (·.1) then d.map (·.1) else d.map (·.1) ++ [n] := by
  induction d with
  | nil => simp [dictSet]
  | cons p rest ih =>
    obtain ⟨pn, pv⟩ := p
    simp only [dictSet]
    by_cases h1 : pn = n
    · subst h1; simp
    · have h1' : ¬ n = pn := fun h => h1 h.symm
      simp only [h1, if_false, List.map_cons, ih, List.mem_cons, h1', false_or]
      split <;> simp

theorem dictSet_nodup (n : Bytes) (v : Val) (d : Dict) (h : (d.map (·.1)).Nodup) : ((dictSet n v d).map (·.1)).Nodup := by
  rw [dictSet_names]
  split
  · exact h
  · exact nodup_concat h ‹_›

theorem newDict_nodup {cur : Option Dict} {c : Cookie} {d : Dict} (hcur : ∀ d0, cur = some d0 → (d0.map (·.1)).Nodup)
    (h : newDict cur c = some d) : (d.map (·.1)).Nodup := by
  revert h
  fun_cases newDict cur c <;> intro h <;> cases h
  · simp
  · exact (List.filter_sublist.map _).nodup (hcur _ rfl)
  · exact dictSet_nodup _ _ _ (hcur _ rfl)

theorem setCookie_wf {jar : Jar} (h : JarWF jar) (host : Bytes) (port : Nat) (c : Cookie) :
    JarWF (setCookie jar host port c) := by
  cases hdm : implDomainMatch host (ckey c host port).domain with
  | false => rw [setCookie_of_not_match hdm]; exact h
  | true =>
    refine ⟨setCookie_eq hdm ▸ jarPut_keys_nodup _ _ h.1, fun k d hkd => ?_⟩
    have := mem_setCookie hdm hkd
    split at this
    · exact newDict_nodup (fun d0 h0 => h.2 _ _ (jarLookup_mem h0)) this
    · exact h.2 k d this

theorem jarLookup_of_mem_nodup {jar : Jar} (h : (jar.map (·.1)).Nodup) {k : JKey} {d : Dict} (hm : (k, d) ∈ jar) :
    jarLookup k jar = some d := by
  induction jar with
  | nil => simp at hm
  | cons p rest ih =>
    simp only [List.map_cons, List.nodup_cons] at h
    rcases List.mem_cons.mp hm with rfl | h1
    · simp [jarLookup]
    · have hne : p.1 ≠ k := fun e => h.1 (e ▸ List.mem_map_of_mem h1)
      simp [jarLookup, hne, ih h.2 h1]

theorem dictGet_of_mem_nodup {d : Dict} (h : (d.map (·.1)).Nodup) {n : Bytes} {v : Val} (hm : (n, v) ∈ d) :
    dictGet n d = some v := by
  induction d with
  | nil => simp at hm
  | cons p rest ih =>
    simp only [List.map_cons, List.nodup_cons] at h
    rcases List.mem_cons.mp hm with rfl | h1
    · simp [dictGet]
    · have hne : p.1 ≠ n := fun e => h.1 (e ▸ List.mem_map_of_mem h1)
      simp [dictGet, hne, ih h.2 h1]

theorem jarGet_of_mem {jar : Jar} (h : JarWF jar) {k : JKey} {d : Dict} {n : Bytes} {v : Val}
    (hk : (k, d) ∈ jar) (hn : (n, v) ∈ d) : jarGet jar k n = some v := by
  unfold jarGet
  rw [jarLookup_of_mem_nodup h.1 hk]
  exact dictGet_of_mem_nodup (h.2 k d hk) hn

theorem mem_attached {jar : Jar} {flt : Bool} {host : Bytes} {port : Nat} {path n : Bytes} {v : Val}
    (h : (n, v) ∈ attached jar flt host port path) :
    flt = true ∧ ∃ k d, (k, d) ∈ jar ∧ (n, v) ∈ d ∧
      implDomainMatch host k.domain = true ∧ port = k.port ∧ implPathMatch path k.path = true := by
  unfold attached at h
  cases flt with
  | false => simp at h
  | true =>
    simp only [if_true, List.mem_flatMap] at h
    obtain ⟨⟨k, d⟩, hkd, hm⟩ := h
    split at hm
    · rename_i hcond
      simp only [Bool.and_eq_true, decide_eq_true_eq] at hcond
      exact ⟨rfl, k, d, hkd, hm, hcond.1.1, hcond.1.2, hcond.2⟩
    · simp at hm

end MitmVerif.C54
