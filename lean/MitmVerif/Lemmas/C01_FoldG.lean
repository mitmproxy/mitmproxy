/- obs-fold, byte level: every value `validate_headers` accepts (`valueOk`: no NUL, CR only before LF, LF only before
   SP/HTAB) decomposes into parts separated by CR LF or by a bare LF (`dec`, `joinG_dec`, `dec_ok`) -/
import MitmVerif.Lemmas.C01_Fold
namespace MitmVerif.C01
open MitmVerif

def sepOf (b : Bool) : Bytes := if b then [13, 10] else [10]

/-- first part and the continuations, each with the flag "preceded by CR LF (true) / by a bare LF (false)". The `G` of
    `joinG` / `renderG` stands for this choice of line break; `PField.value` joins with CR LF only. -/
def joinG (q0 : Bytes) (qs : List (Bool × Bytes)) : Bytes := q0 ++ qs.flatMap fun bq => sepOf bq.1 ++ bq.2

/-- a value decomposed at its line breaks, inverse to `joinG` (`joinG_dec`) -/
def dec : Bytes → Bytes × List (Bool × Bytes)
  | [] => ([], [])
  | [c] => if c = 10 then ([], [(false, [])]) else ([c], [])
  | c :: d :: rest =>
    if c = 13 ∧ d = 10 then ([], (true, (dec rest).1) :: (dec rest).2)
    else if c = 10 then ([], (false, (dec (d :: rest)).1) :: (dec (d :: rest)).2)
    else (c :: (dec (d :: rest)).1, (dec (d :: rest)).2)

theorem joinG_dec : ∀ (v : Bytes), joinG (dec v).1 (dec v).2 = v
  | [] => rfl
  | [c] => by
    simp only [dec]; split <;> simp [joinG, sepOf, *]
  | c :: d :: rest => by
    have ih1 := joinG_dec rest
    have ih2 := joinG_dec (d :: rest)
    simp only [dec]
    split
    · rename_i h; simp only [joinG, List.flatMap_cons, sepOf, ↓reduceIte, List.nil_append] at ih1 ⊢
      rw [List.append_assoc, ih1, h.1, h.2]; rfl
    · split
      · rename_i h; simp only [joinG, List.flatMap_cons, sepOf, List.nil_append] at ih2 ⊢
        simp only [Bool.false_eq_true, ↓reduceIte, List.cons_append, List.nil_append]
        rw [ih2, h]
      · simp only [joinG, List.cons_append] at ih2 ⊢
        rw [ih2]

def PartsOk (q0 : Bytes) (qs : List (Bool × Bytes)) : Prop :=
  cleanLine q0 ∧ (0 : UInt8) ∉ q0 ∧ ∀ bq ∈ qs, cleanLine bq.2 ∧ (0 : UInt8) ∉ bq.2 ∧ startsWs bq.2

theorem valueOk_tail {c : UInt8} {t : Bytes} (h : valueOk (c :: t) = true) :
    c ≠ 0 ∧ (c = 13 → t.head? = some 10) ∧ (c = 10 → ∃ w t', t = w :: t' ∧ (w = 32 ∨ w = 9)) ∧ valueOk t = true := by
  cases t with
  | nil =>
    simp only [valueOk] at h
    by_cases h0 : c = 0
    · simp [h0] at h
    · by_cases h13 : c = 13
      · simp [h13] at h
      · by_cases h10 : c = 10
        · simp [h10] at h
        · exact ⟨h0, fun e => absurd e h13, fun e => absurd e h10, rfl⟩
  | cons d ds =>
    rw [valueOk] at h
    by_cases h0 : c = 0
    · simp [h0] at h
    · by_cases h13 : c = 13
      · subst h13
        simp at h; exact ⟨h0, fun _ => by simp [h.1], fun e => absurd e (by decide), h.2⟩
      · by_cases h10 : c = 10
        · subst h10
          simp at h
          exact ⟨h0, fun e => absurd e h13, fun _ => ⟨d, ds, rfl, h.1⟩, h.2⟩
        · simp [h0, h13, h10] at h
          exact ⟨h0, fun e => absurd e h13, fun e => absurd e h10, h⟩

theorem valueOk_no_nul : ∀ {v : Bytes}, valueOk v = true → (0 : UInt8) ∉ v
  | [], _ => by simp
  | c :: t, h => by
    obtain ⟨h0, _, _, ht⟩ := valueOk_tail h
    simp only [List.mem_cons, not_or]
    exact ⟨Ne.symm h0, valueOk_no_nul ht⟩

theorem valueOk_last : ∀ {v : Bytes}, valueOk v = true → v.getLast? ≠ some 10
  | [], _ => by simp
  | [c], h => by
    obtain ⟨_, _, h10, _⟩ := valueOk_tail h
    intro e
    obtain ⟨w, t', ht, _⟩ := h10 (by simpa using e)
    cases ht
  | c :: d :: rest, h => by
    rw [List.getLast?_cons_cons]
    exact valueOk_last (valueOk_tail h).2.2.2

/-- after a line break an accepted value goes on with SP / HTAB, so the part `dec` cuts there starts with it -/
private theorem dec_startsWs {w : UInt8} {t : Bytes} (hw : w = 32 ∨ w = 9)
    (h : (dec (w :: t)).1 = [] ∨ ∃ c t', (dec (w :: t)).1 = c :: t' ∧ (w :: t).head? = some c) :
    startsWs (dec (w :: t)).1 := by
  have hw13 : w ≠ 13 := by rcases hw with rfl | rfl <;> decide
  have hw10 : w ≠ 10 := by rcases hw with rfl | rfl <;> decide
  rcases h with he | ⟨c, t', he, hh⟩
  · cases t with
    | nil => simp [dec, hw10] at he
    | cons x xs => simp [dec, hw13, hw10] at he
  · simp only [List.head?_cons, Option.some.injEq] at hh
    subst hh
    exact ⟨w, t', he, hw⟩

/-- the second conjunct (the first part starts with the first byte of `v`) is there for the induction: `dec_startsWs` needs it
    of the rest after a line break -/
theorem dec_ok : ∀ (v : Bytes), valueOk v = true →
    PartsOk (dec v).1 (dec v).2 ∧ ((dec v).1 = [] ∨ ∃ c t, (dec v).1 = c :: t ∧ v.head? = some c)
  | [], _ => ⟨⟨⟨by simp [dec], by simp [dec]⟩, by simp [dec], by simp [dec]⟩, Or.inl rfl⟩
  | [c], h => by
    obtain ⟨h0, h13, h10, _⟩ := valueOk_tail h
    have hc13 : c ≠ 13 := fun e => by have := h13 e; simp at this
    have hc10 : c ≠ 10 := fun e => by obtain ⟨w, t', ht, _⟩ := h10 e; simp at ht
    simp only [dec, hc10, ↓reduceIte]
    refine ⟨⟨⟨by simp [Ne.symm hc13], by simp [Ne.symm hc10]⟩, by simp [Ne.symm h0], by simp⟩, Or.inr ⟨c, [], rfl, rfl⟩⟩
  | c :: d :: rest, h => by
    obtain ⟨h0, h13, h10, ht⟩ := valueOk_tail h
    simp only [dec]
    by_cases hcr : c = 13 ∧ d = 10
    · simp only [hcr, and_self, ↓reduceIte]
      obtain ⟨_, _, h10', ht'⟩ := valueOk_tail ht
      obtain ⟨⟨hq0, hz0, hqs⟩, hfirst⟩ := dec_ok rest ht'
      obtain ⟨w, t', rfl, hw⟩ := h10' hcr.2
      refine ⟨⟨⟨by simp, by simp⟩, by simp, ?_⟩, Or.inl trivial⟩
      intro bq hbq
      rcases List.mem_cons.mp hbq with rfl | hbq
      · exact ⟨hq0, hz0, dec_startsWs hw hfirst⟩
      · exact hqs bq hbq
    · simp only [hcr, ↓reduceIte]
      have hc13 : c ≠ 13 := by
        intro e
        have := h13 e
        simp at this
        exact hcr ⟨e, this⟩
      obtain ⟨⟨hq0, hz0, hqs⟩, hfirst⟩ := dec_ok (d :: rest) ht
      by_cases hlf : c = 10
      · simp only [hlf, ↓reduceIte]
        obtain ⟨w, t', hrest, hw⟩ := h10 hlf
        cases hrest
        refine ⟨⟨⟨by simp, by simp⟩, by simp, ?_⟩, Or.inl trivial⟩
        intro bq hbq
        rcases List.mem_cons.mp hbq with rfl | hbq
        · exact ⟨hq0, hz0, dec_startsWs hw hfirst⟩
        · exact hqs bq hbq
      · simp only [hlf, ↓reduceIte]
        refine ⟨⟨⟨?_, ?_⟩, ?_, hqs⟩, Or.inr ⟨c, _, rfl, rfl⟩⟩
        · simp only [List.mem_cons, not_or]; exact ⟨Ne.symm hc13, hq0.1⟩
        · simp only [List.mem_cons, not_or]; exact ⟨Ne.symm hlf, hq0.2⟩
        · simp only [List.mem_cons, not_or]; exact ⟨Ne.symm h0, hz0⟩

end MitmVerif.C01
