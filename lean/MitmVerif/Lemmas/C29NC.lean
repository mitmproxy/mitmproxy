/-
  C29 — a layer that never got a server connection (connect refused / failed / still pending) has yielded nothing
  but set-up and error commands: no SendData, no message hook, no end hook — over whole histories.
-/
import MitmVerif.Lemmas.C29
namespace MitmVerif.C29.Lemmas
open MitmVerif MitmVerif.C29

/-- the only commands a layer yields before (or without ever) having a server connection -/
def setupOnly : Output → Bool
  | .hook .start => true
  | .openServer => true
  | .hook .error => true
  | .close .client false => true
  | _ => false

/-- as long as no server connection was ever established: nothing but set-up / error commands, never relaying -/
def NC (st : State) : Prop :=
  st.connected = false →
    st.trace.all setupOnly = true ∧ st.phase ≠ .relay ∧ st.pending ≠ .endHook ∧ ∀ to m, st.pending ≠ .msgHook to m

theorem nc_reacts {st st' : State} {e : Ev} (hr : Reacts st e st') (h : NC st) : NC st' := by
  by_cases hph : st.phase = .relay
  · obtain ⟨_, _, _, _, _, he⟩ := hr.frame
    intro hc
    rw [he] at hc
    exact absurd hph (h hc).2.1
  · cases hr with
    | skip => exact h
    | _ => contradiction

theorem nc_moves {st st' : State} {i : Input} {q : List Ev} (hm : Moves st i q st') (h : NC st) : NC st' := by
  induction hm with
  | ignored | data | inject | closed => exact h
  | kill _ _ _ _ _ _ _ ih => exact ih h
  | _ =>
    unfold NC at *
    simp_all [setupOnly]

theorem nc_step (st : State) (i : Input) (hF : Full st) (h : NC st) : NC (step st i) :=
  step_ind (P := fun _ s => NC s) (Q := fun _ s => NC s) (fun _ _ _ h => h) (fun _ _ _ _ _ hr h => nc_reacts hr h)
    (fun _ _ => nc_moves) hF h

theorem nc_run (st : State) (is : List Input) (hF : Full2 st) (h : NC st) : NC (run st is) := by
  induction is generalizing st with
  | nil => exact h
  | cons i t ih => exact ih _ (full2_step st i hF) (nc_step st i hF.1 h)

theorem nc_init (p : Proto) (f c : Bool) : NC (init p f c) := by
  intro _; simp [init]

end MitmVerif.C29.Lemmas
