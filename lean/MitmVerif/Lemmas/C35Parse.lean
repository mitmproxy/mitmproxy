/-
  C35 — whatever `_read_headers` accepts re-serialises (`Headers.__bytes__`) and re-parses to itself, including
  obs-fold continuation lines.  Idea: `canon` rewrites every input line to the line `__bytes__` will emit for it;
  parsing does not see the difference (`readLoop_canon`), the serialisation of the parse result is exactly the canonical
  lines (`ser_parse`), and the line splitter gives those back (`splitLines_block`); together `reparse`.  The blank of
  `": "` that `__bytes__` puts in front of a value is what `strip` removes again (`strip_sp_strip`; `strip b` unfolds to
  `trim pyWs b` of `Lemmas/Strip.lean`).
-/
import MitmVerif.Model.C35
import MitmVerif.Lemmas.Split
import MitmVerif.Lemmas.Strip

namespace MitmVerif.C35.ParseLemmas
open MitmVerif MitmVerif.C35

theorem splitLF_eq (b : Bytes) : splitLF b = splitSep 0x0a b := by
  induction b with
  | nil => rfl
  | cons c r ih => rw [splitLF, ih, splitSep]; cases splitSep 0x0a r <;> rfl

theorem joinWith_eq (sep : Bytes) (ps : List Bytes) : joinWith sep ps = joinBy sep ps := by
  fun_induction joinWith sep ps with
  | case1 | case2 => rfl
  | case3 v w vs ih => rw [ih]; rfl

theorem stripCR_snoc (l : Bytes) : stripCR (l ++ [0x0d]) = l := by
  simp [stripCR]

theorem splitLines_block (ls : List Bytes) (h : ∀ l ∈ ls, ∀ c ∈ l, c ≠ 0x0a) :
    splitLines (ls.flatMap (fun l => l ++ crlf)) = ls := by
  -- the block is its lines, each with its CR, and an empty last piece, joined by LF
  have e : ls.flatMap (fun l => l ++ crlf) = joinBy [0x0a] (ls.map (· ++ [0x0d]) ++ [[]]) := by
    rw [joinBy_concat, List.flatMap_map]
    simp [crlf]
  have hp : ∀ p ∈ ls.map (· ++ [0x0d]) ++ [[]], (0x0a : UInt8) ∉ p := by
    intro p hp m
    rcases List.mem_append.mp hp with hp | hp
    · obtain ⟨l, hl, rfl⟩ := List.mem_map.mp hp
      rcases List.mem_append.mp m with m | m
      · exact h l hl _ m rfl
      · simp at m
    · simp [List.mem_singleton.mp hp] at m
  rw [splitLines, splitLF_eq, e, splitSep_joinBy _ (by simp) hp, List.dropLast_concat, List.map_map]
  have : (stripCR ∘ fun l => l ++ [0x0d]) = id := by funext l; simp [stripCR_snoc]
  rw [this, List.map_id]

theorem splitLines_noLF (block : Bytes) : ∀ l ∈ splitLines block, ∀ c ∈ l, c ≠ 0x0a := by
  intro l hl c hc
  simp only [splitLines, List.mem_map] at hl
  obtain ⟨l0, hl0, rfl⟩ := hl
  have hc0 : c ∈ l0 := by
    simp only [stripCR] at hc
    split at hc
    · exact (List.dropLast_sublist _).subset hc
    · exact hc
  have := splitSep_pieces 0x0a block l0 (splitLF_eq block ▸ (List.dropLast_sublist _).subset hl0)
  exact fun e => this (e ▸ hc0)

theorem strip_sp_strip (x : Bytes) : strip (0x20 :: strip x) = strip x :=
  (trim_cons_ws (by decide) _).trans (trim_idem pyWs x)

theorem splitColon_eq (l : Bytes) : splitColon l = splitFirst 0x3a l := by
  induction l with
  | nil => rfl
  | cons c r ih => rw [splitColon, ih, splitFirst]; cases splitFirst 0x3a r <;> rfl

theorem splitColon_some {l n v : Bytes} (h : splitColon l = some (n, v)) : l = n ++ 0x3a :: v ∧ 0x3a ∉ n :=
  splitFirst_some (splitColon_eq l ▸ h)

/-- the line `Headers.__bytes__` emits for what `_read_headers` makes of `line` -/
def canon (line : Bytes) : Bytes :=
  match line with
  | [] => []
  | c :: _ =>
    if c = 0x20 || c = 0x09 then 0x20 :: strip line
    else match splitColon line with
      | none => line
      | some (name, value) => if name.isEmpty then line else name ++ colonSp ++ strip value

theorem canon_noLF (l : Bytes) (h : ∀ c ∈ l, c ≠ 0x0a) : ∀ c ∈ canon l, c ≠ 0x0a := by
  fun_cases canon l
  · simp
  · rintro c (_ | ⟨_, hc⟩)
    · decide
    · exact h c (mem_trim hc)
  · next hs => simpa only [hs] using h
  · next hn hs => simpa only [hs, hn, if_true] using h
  · next a t _ n v hn hs =>
    obtain ⟨hl, _⟩ := splitColon_some hs
    intro c hc
    simp [hs, hn, colonSp] at hc
    rcases hc with e | rfl | rfl | e
    · exact h c (by rw [hl]; simp [e])
    · decide
    · decide
    · exact h c (by rw [hl]; simp [mem_trim e])

theorem readLoop_field (acc : Fields) (c : UInt8) (n w : Bytes) (rest : List Bytes) (hc : (c = 0x20 || c = 0x09) = false)
    (hcol : 0x3a ∉ c :: n) :
    readLoop acc ((c :: n ++ colonSp ++ w) :: rest) = readLoop ((c :: n, strip (0x20 :: w)) :: acc) rest := by
  have hs := splitFirst_append hcol (0x20 :: w)
  simp only [List.cons_append] at hs
  simp [readLoop, hc, colonSp, splitColon_eq, hs]

theorem readLoop_canon (ls : List Bytes) (acc : Fields) : readLoop acc (ls.map canon) = readLoop acc ls := by
  fun_induction readLoop acc ls with
  | case1 acc => rfl
  | case2 acc rest => simp [canon, readLoop]
  | case3 rest c t hc => simp [canon, readLoop, hc]
  | case4 rest c t hc n v acc ih => simpa [canon, readLoop, hc, strip_sp_strip] using ih
  | case5 acc rest c t hc hs => simp [canon, readLoop, hc, hs]
  | case6 acc rest c t hc n v hs hn => simp [canon, readLoop, hc, hs, hn]
  | case7 acc rest c t hc n v hn hs ih =>
    obtain ⟨hl, hcol⟩ := splitColon_some hs
    -- the name starts with `c`
    cases n with
    | nil => simp at hn
    | cons c' n' =>
      obtain rfl : c = c' := by simpa using congrArg List.head? hl
      have hcan : canon (c :: t) = c :: n' ++ colonSp ++ strip v := by simp [canon, hc, hs]
      rw [List.map_cons, hcan, readLoop_field _ _ _ _ _ (by simpa using hc) hcol, strip_sp_strip, ih]
      simp only [hs, List.isEmpty_cons, Bool.false_eq_true, if_false]

def ser (fs : Fields) : Bytes := fs.flatMap (fun f => fieldLine f ++ crlf)

theorem toBytes_ser (fs : Fields) : toBytes fs = ser fs := by
  cases fs with
  | nil => rfl
  | cons f fs =>
    simp only [toBytes, ser, List.isEmpty_cons, Bool.false_eq_true, if_false]
    rw [joinWith_eq, joinBy_append_sep _ (by simp)]
    simp [List.flatMap_map]

theorem ser_parse (ls : List Bytes) (acc fs : Fields) (h : readLoop acc ls = .ok fs) :
    ser fs = ser acc.reverse ++ (ls.map canon).flatMap (fun l => l ++ crlf) := by
  fun_induction readLoop acc ls with
  | case1 acc => cases h; simp
  | case2 | case3 => cases h
  | case5 acc rest c t hc hs => simp [hs] at h
  | case6 acc rest c t hc n v hn hs => simp [hs, hn] at h
  | case4 rest c t hc n v acc ih => rw [ih h]; simp [canon, hc, ser, fieldLine, crlf]
  | case7 acc rest c t hc n v hn hs ih =>
    simp only [hs, hn] at h
    rw [ih h]
    simp [canon, hc, hs, hn, ser, fieldLine]

theorem reparse (ls : List Bytes) (fs : Fields) (hlf : ∀ l ∈ ls, ∀ c ∈ l, c ≠ 0x0a) (h : readHeaders ls = .ok fs) :
    readHeaders (splitLines (toBytes fs)) = .ok fs := by
  have hno : ∀ l ∈ ls.map canon, ∀ c ∈ l, c ≠ 0x0a := by
    intro l hl
    obtain ⟨l0, hl0, rfl⟩ := List.mem_map.mp hl
    exact canon_noLF l0 (hlf l0 hl0)
  have hser : ser fs = (ls.map canon).flatMap (fun l => l ++ crlf) := by simpa [ser] using ser_parse ls [] fs h
  rw [toBytes_ser, hser, splitLines_block _ hno, readHeaders, readLoop_canon]
  exact h

end MitmVerif.C35.ParseLemmas
