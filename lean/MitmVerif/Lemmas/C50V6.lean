/-
  C50 — `str(IPv6Address(data))` (Model/C50_V6 `Codecs.pyTextV6`) is read back by C22's `parseIp` to the same 128-bit value:
  the writer is the one C21 transcribed as `textV6Py` (`pyTextV6_eq`), whose read-back C21 proved.  With the text being
  ASCII and `int.to_bytes` inverting the big-endian value (`beBytes_beNat`) this gives the AAAA codec law `ip6_dec_enc`.
-/
import MitmVerif.Model.C50_V6
import MitmVerif.Lemmas.C21V6Back
namespace MitmVerif.C50.V6
open MitmVerif MitmVerif.C21 MitmVerif.C50

theorem emitPy_eq (best : Option Run) : ∀ (ws : List Nat) (i : Nat), Codecs.emitPy best ws i = C21.emitPy best ws i := by
  intro ws
  induction ws with
  | nil => intro i; rfl
  | cons w r ih => intro i; cases best <;> simp only [Codecs.emitPy, C21.emitPy, ih]

theorem pyTextV6_eq (ad : Bytes) : Codecs.pyTextV6 ad = textV6Py ad := by
  simp only [Codecs.pyTextV6, textV6Py, emitPy_eq]
  rfl

/-- **str(IPv6Address(ad)) reads back**: for every 16-byte address, C22's transcription of `ipaddress` applied to the
    text `Codecs.pyTextV6 ad` gives the IPv6 address with exactly these 8 words and no scope -/
theorem parseIp_pyTextV6 (ad : Bytes) (h : ad.length = 16) :
    C22.parseIp (asciiBytes (Codecs.pyTextV6 ad)) = some (.v6 (beNat ad) none) := by
  rw [pyTextV6_eq, parseIp_textV6Py ad h, wordsVal_words16 ad h]

theorem beNat_snoc (l : Bytes) (b : UInt8) : beNat (l ++ [b]) = beNat l * 256 + b.toNat := by
  simp [beNat, List.foldl_append]

theorem beBytes_beNat : ∀ (k : Nat) (l : Bytes), l.length = k → Codecs.beBytes k (beNat l) = l := by
  intro k
  induction k with
  | zero => intro l h; have : l = [] := List.length_eq_zero_iff.mp h; subst this; rfl
  | succ k ih =>
    intro l h
    have hne : l ≠ [] := by intro e; subst e; simp at h
    have hsplit := List.dropLast_concat_getLast hne
    have hlen : l.dropLast.length = k := by simp [List.length_dropLast, h]
    rw [← hsplit, beNat_snoc]
    have hb := UInt8.toNat_lt (l.getLast hne)
    have h1 : (beNat l.dropLast * 256 + (l.getLast hne).toNat) / 256 = beNat l.dropLast := by omega
    have h2 : (beNat l.dropLast * 256 + (l.getLast hne).toNat) % 256 = (l.getLast hne).toNat := by omega
    simp only [Codecs.beBytes, h1, h2, ih _ hlen]
    simp

theorem hexChar_ascii : ∀ n : Fin 16, (hexChar n.val).toNat < 128 := by decide

theorem hexWord_ascii (w : Nat) : (hexWord w).all (·.toNat < 128) = true := by
  have hx : ∀ n, n < 16 → (hexChar n).toNat < 128 := fun n hn => hexChar_ascii ⟨n, hn⟩
  unfold hexWord
  split
  · simp [hx w ‹_›]
  · split
    · simp [hx (w / 16) (by omega), hx (w % 16) (by omega)]
    · split
      · simp [hx (w / 256) (by omega), hx (w / 16 % 16) (by omega), hx (w % 16) (by omega)]
      · simp [hx (w / 4096 % 16) (by omega), hx (w / 256 % 16) (by omega), hx (w / 16 % 16) (by omega), hx (w % 16) (by omega)]

theorem colon_ascii (p : Prop) [Decidable p] : (if p then [':'] else []).all (·.toNat < 128) = true := by
  split <;> decide

theorem emitPy_ascii (best : Option Run) (ws : List Nat) (i : Nat) :
    (Codecs.emitPy best ws i).all (·.toNat < 128) = true := by
  fun_induction Codecs.emitPy best ws i <;> simp_all [List.all_append, colon_ascii, hexWord_ascii]

theorem pyTextV6_ascii (ad : Bytes) : ((Codecs.pyTextV6 ad).map Char.toNat).all (· < 128) = true := by
  simp only [List.all_map, Function.comp_def, Codecs.pyTextV6, List.all_append, emitPy_ascii, Bool.true_and]
  split
  · exact colon_ascii _
  · rfl

theorem bytesOf_text (t : List Char) : Codecs.bytesOf (t.map Char.toNat) = asciiBytes t := by
  simp [Codecs.bytesOf, asciiBytes, List.map_map, Function.comp_def]

/-- **AAAA.** `IPv6Address(str(IPv6Address(data))).packed = data` for every 16-byte rdata -/
theorem ip6_dec_enc (data : Bytes) (s : List Nat) (h : Codecs.ip6Dec data = some s) : Codecs.ip6Enc s = some data := by
  unfold Codecs.ip6Dec at h
  split at h
  · rename_i hlen
    cases h
    have hp := parseIp_pyTextV6 data hlen
    have hv6 : C22.parseV6 (asciiBytes (Codecs.pyTextV6 data)) = some (.v6 (beNat data) none) := by
      unfold C22.parseIp at hp
      cases h4 : C22.parseV4 (asciiBytes (Codecs.pyTextV6 data)) with
      | some n => simp [h4] at hp
      | none => simpa [h4] using hp
    unfold Codecs.ip6Enc
    rw [if_pos (pyTextV6_ascii data), bytesOf_text, hv6]
    simp only [Codecs.be128]
    rw [beBytes_beNat 16 data hlen]
  · cases h

end MitmVerif.C50.V6
