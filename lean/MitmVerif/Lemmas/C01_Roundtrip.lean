/- the reference reader on what the proxy writes: clean lines, the chunk re-framing of a buffered body, and the send side's
   `"chunked" in value.lower()` test against the classification of `parse_transfer_encoding`; status digits -/
import MitmVerif.Lemmas.C01
import MitmVerif.Lemmas.Lists
namespace MitmVerif.C01
open MitmVerif

theorem token_no_colon {n : Bytes} (h : isToken n = true) : (58 : UInt8) ∉ n ∧ (13 : UInt8) ∉ n ∧ (10 : UInt8) ∉ n ∧ n ≠ [] ∧
    (∀ c, n.head? = some c → c ≠ 32 ∧ c ≠ 9) := by
  simp only [isToken, Bool.and_eq_true, Bool.not_eq_true'] at h
  have no (x : UInt8) (hx : isTchar x = false) : x ∉ n := not_mem_of_all h.2 hx
  refine ⟨no 58 (by decide), no 13 (by decide), no 10 (by decide), ?_, fun c hc => ?_⟩
  · intro e; subst e; simp at h
  · have hm := List.mem_of_head? hc
    exact ⟨fun e => no 32 (by decide) (e ▸ hm), fun e => no 9 (by decide) (e ▸ hm)⟩

/-! ### the reference reader inverts the chunk re-framing (`b"%x\r\n%s\r\n"`, `0\r\n\r\n`) -/

def hexStep (a : Nat) (c : UInt8) : Nat := a * 16 + Ref.hexVal c
def hexValue (l : Bytes) : Nat := l.foldl hexStep 0

theorem foldl_hexStep (a : Nat) (l : Bytes) : l.foldl hexStep a = a * 16 ^ l.length + l.foldl hexStep 0 := by
  induction l generalizing a with
  | nil => simp
  | cons c cs ih =>
    simp only [List.foldl_cons, List.length_cons]
    rw [ih (hexStep a c), ih (hexStep 0 c)]
    simp only [hexStep, Nat.pow_succ]
    rw [Nat.add_mul, Nat.add_mul]
    have : a * 16 * 16 ^ cs.length = a * (16 ^ cs.length * 16) := by rw [Nat.mul_assoc, Nat.mul_comm 16]
    omega

theorem hexDigit_spec (k : Nat) (h : k < 16) : Ref.hexVal (hexDigit k) = k ∧ Ref.isHex (hexDigit k) = true := by
  have : ∀ k : Fin 16, Ref.hexVal (hexDigit k.val) = k.val ∧ Ref.isHex (hexDigit k.val) = true := by decide
  exact this ⟨k, h⟩

theorem hexDigitsAux_spec : ∀ (f n : Nat) (acc : Bytes), n < 16 ^ f → acc.all Ref.isHex = true →
    hexValue (hexDigitsAux f n acc) = n * 16 ^ acc.length + hexValue acc ∧ (hexDigitsAux f n acc).all Ref.isHex = true
  | 0, n, acc, h, ha => by
    have : n = 0 := by simpa using h
    subst this; simp [hexDigitsAux, ha]
  | f + 1, n, acc, h, ha => by
    simp only [hexDigitsAux]
    split
    · rename_i hlt
      obtain ⟨h1, h2⟩ := hexDigit_spec n hlt
      constructor
      · simp only [hexValue, List.foldl_cons]
        rw [foldl_hexStep]; simp [hexStep, h1]
      · simp [h2, ha]
    · rename_i hge
      have hm : n % 16 < 16 := Nat.mod_lt _ (by decide)
      obtain ⟨h1, h2⟩ := hexDigit_spec (n % 16) hm
      have hd : n / 16 < 16 ^ f := by
        rw [Nat.pow_succ] at h
        exact Nat.div_lt_of_lt_mul (by rw [Nat.mul_comm]; exact h)
      obtain ⟨ih1, ih2⟩ := hexDigitsAux_spec f (n / 16) (hexDigit (n % 16) :: acc) hd (by simp [h2, ha])
      refine ⟨?_, ih2⟩
      rw [ih1]
      simp only [hexValue, List.foldl_cons, List.length_cons]
      rw [foldl_hexStep (hexStep 0 (hexDigit (n % 16)))]
      simp only [hexStep, h1, Nat.pow_succ, Nat.zero_mul, Nat.zero_add]
      have := Nat.div_add_mod n 16
      have e : n / 16 * (16 ^ acc.length * 16) = 16 * (n / 16) * 16 ^ acc.length := by
        rw [Nat.mul_comm (16 ^ acc.length) 16, ← Nat.mul_assoc, Nat.mul_comm (n / 16) 16]
      rw [e, ← Nat.add_assoc, ← Nat.add_mul, this]

theorem hexDigits_spec (n : Nat) :
    hexValue (hexDigits n) = n ∧ (hexDigits n).all Ref.isHex = true ∧ hexDigits n ≠ [] := by
  obtain ⟨h1, h2⟩ := hexDigitsAux_spec (n + 1) n [] (Nat.lt_of_succ_lt (Nat.lt_pow_self (by decide))) (by simp)
  refine ⟨by simpa [hexDigits, hexValue] using h1, h2, ?_⟩
  simp only [hexDigits, hexDigitsAux]
  split
  · simp
  · intro e
    -- a non-empty accumulator is never lost
    have hlen : ∀ (f m : Nat) (acc : Bytes), acc ≠ [] → hexDigitsAux f m acc ≠ [] := by
      intro f
      induction f with
      | zero => intro m acc h; simpa [hexDigitsAux] using h
      | succ f ih =>
        intro m acc h
        simp only [hexDigitsAux]
        split
        · simp
        · exact ih _ _ (by simp)
    exact hlen n (n / 16) [hexDigit (n % 16)] (by simp) e

theorem isHex_clean {l : Bytes} (h : l.all Ref.isHex = true) : cleanLine l ∧ (0 : UInt8) ∉ l :=
  ⟨⟨not_mem_of_all h (by decide), not_mem_of_all h (by decide)⟩, not_mem_of_all h (by decide)⟩

theorem takeCrlfLine_clean {l : Bytes} (h : cleanLine l) (rest : Bytes) :
    Ref.takeCrlfLine (l ++ 13 :: 10 :: rest) = some (.ok l, rest) := by
  induction l with
  | nil => simp [Ref.takeCrlfLine]
  | cons c cs ih =>
    have hc13 : c ≠ 13 := fun e => h.1 (by simp [e])
    have hc10 : c ≠ 10 := fun e => h.2 (by simp [e])
    have ih' := ih ⟨fun e => h.1 (by simp [e]), fun e => h.2 (by simp [e])⟩
    simp [Ref.takeCrlfLine, hc13, hc10, ih']

/-- two lines are read, `0` and the empty trailer section: hence `f + 2` -/
theorem chunkedBody_last (f : Nat) (acc rest : Bytes) :
    Ref.chunkedBody (f + 2) (lastChunk ++ rest) acc false = .ok (acc, rest) := by
  have h1 : Ref.takeCrlfLine (lastChunk ++ rest) = some (.ok [48], 13 :: 10 :: rest) := by
    simp [lastChunk, Ref.takeCrlfLine]
  have h2 : Ref.takeCrlfLine (13 :: 10 :: rest) = some (.ok [], rest) := by simp [Ref.takeCrlfLine]
  rw [Ref.chunkedBody, h1]
  simp only [Bool.false_eq_true, ↓reduceIte]
  have : ([48] : Bytes).takeWhile Ref.isHex = [48] ∧ ([48] : Bytes).dropWhile Ref.isHex = [] := by decide
  simp only [this.1, this.2]
  simp [Ref.chunkedBody, h2, Ref.hexVal, isDigit]

theorem chunkedBody_step (f : Nat) (data more acc : Bytes) (hd : data ≠ []) :
    Ref.chunkedBody (f + 1) (chunk data ++ more) acc false = Ref.chunkedBody f more (acc ++ data) false := by
  obtain ⟨hval, hhex, hne⟩ := hexDigits_spec data.length
  obtain ⟨hclean, hnul⟩ := isHex_clean hhex
  have hwire : chunk data ++ more = hexDigits data.length ++ 13 :: 10 :: (data ++ 13 :: 10 :: more) := by
    simp [chunk, crlf, List.append_assoc]
  rw [hwire, Ref.chunkedBody, takeCrlfLine_clean hclean]
  simp only [Bool.false_eq_true, ↓reduceIte]
  obtain ⟨htw, hdw⟩ := takeWhile_all _ _ (List.all_eq_true.mp hhex)
  simp only [htw, hdw]
  have hne' : (hexDigits data.length).isEmpty = false := by cases h : hexDigits data.length <;> simp_all
  have hv : (hexDigits data.length).foldl (fun a c => a * 16 + Ref.hexVal c) 0 = data.length := hval
  have hpos : data.length ≠ 0 := by cases data <;> simp at hd ⊢
  simp only [hne', Bool.false_eq_true, ↓reduceIte, List.isEmpty_nil, Bool.true_or, Bool.not_true, List.contains_nil,
    Bool.or_self, hv, hpos]
  have hlen : ¬ (data ++ 13 :: 10 :: more).length < data.length + 2 := by simp
  have hd2 : List.drop (data.length + 2) (data ++ 13 :: 10 :: more) = more := by
    rw [← List.drop_drop, List.drop_left' rfl]; rfl
  simp only [hlen, ↓reduceIte, List.drop_left', List.take_left', hd2, crlf, List.take, ne_eq, not_true_eq_false]

/-- the body part of `forwardRequest` / `relayResponse` under `sendsChunked`: one data chunk unless the body is empty, then
    the last-chunk -/
theorem chunkedBody_payload (body rest : Bytes) :
    Ref.chunkedBody (((if body.isEmpty then [] else chunk body) ++ lastChunk ++ rest).length + 1)
      ((if body.isEmpty then [] else chunk body) ++ lastChunk ++ rest) [] false = .ok (body, rest) := by
  cases body with
  | nil =>
    have : (lastChunk ++ rest).length + 1 = (rest.length + 4) + 2 := by simp [lastChunk]
    simp only [List.isEmpty_nil, ↓reduceIte, List.nil_append]
    rw [this]
    exact chunkedBody_last _ [] rest
  | cons c cs =>
    have : (chunk (c :: cs) ++ lastChunk ++ rest).length + 1 = ((chunk (c :: cs) ++ lastChunk ++ rest).length - 2 + 2) + 1 := by
      simp [lastChunk]; omega
    simp only [List.isEmpty_cons, Bool.false_eq_true, ↓reduceIte]
    rw [this, List.append_assoc, chunkedBody_step _ _ _ _ (by simp)]
    exact chunkedBody_last _ _ rest

/-! ### `"chunked" in value.lower()` holds for every value `parse_transfer_encoding` classifies as chunked -/

theorem containsSub_of_infix {x : Bytes} : ∀ {l : Bytes}, x <:+: l → containsSub x l = true
  | [], h => by
    have : x = [] := List.eq_nil_of_infix_nil h
    subst this; rfl
  | c :: rest, h => by
    simp only [containsSub, Bool.or_eq_true]
    rcases List.infix_cons_iff.mp h with hp | hi
    · left; exact List.isPrefixOf_iff_prefix.mpr hp
    · right; exact containsSub_of_infix hi

theorem sendsChunked_of_parseTE {t w : Bytes} (h : parseTE t = some (.chunkedFinal, w)) :
    containsSub sChunked (asciiLower t) = true := by
  have hcod := (parseTE_pieces h).1
  have hw : w ∈ Gen.C01.teChunked := (parseTE_normalize h).2
  have hin : sChunked ∈ splitOn 44 w := (by decide : ∀ w ∈ Gen.C01.teChunked, sChunked ∈ splitOn 44 w) w hw
  rw [← hcod, splitOn_eq] at hin
  obtain ⟨p, hp, hps⟩ := List.mem_map.mp hin
  apply containsSub_of_infix
  rw [← hps, stripBy_eq]
  exact (trim_infix isOws p).trans (splitSep_piece_infix 44 _ p hp)

/-- a value `parse_transfer_encoding` classifies as "other" (gzip, deflate, compress, identity) is, lower-cased, exactly that
    whitelist entry: the send side's `"chunked" in value.lower()` is false for it -/
theorem not_sendsChunked_of_parseTE_other {t w : Bytes} (h : parseTE t = some (.other, w)) :
    containsSub sChunked (asciiLower t) = false := by
  obtain ⟨hcod, hs, _⟩ := parseTE_pieces h
  have hw : w ∈ Gen.C01.teOther := (parseTE_normalize h).2
  obtain ⟨h1, h2⟩ : splitOn 44 w = [w] ∧ containsSub sChunked w = false :=
    (by decide : ∀ w ∈ Gen.C01.teOther, splitOn 44 w = [w] ∧ containsSub sChunked w = false) w hw
  have hj := joinBy_splitSep 44 (asciiLower t)
  rw [h1, splitOn_eq] at hcod
  cases hp : splitSep 44 (asciiLower t) with
  | nil => rw [hp] at hcod; cases hcod
  | cons p ps =>
    rw [hp] at hcod hj
    obtain ⟨hpw, rfl⟩ : stripBy isOws p = w ∧ ps = [] := by simpa using hcod
    have hv : asciiLower t = p := hj.symm
    rw [hv] at hs ⊢
    rw [← hs, hpw]
    exact h2

theorem decDigits_spec (n : Nat) (h : 100 ≤ n ∧ n ≤ 999) :
    ∃ a b c, decDigits n = [a, b, c] ∧ isDigit a = true ∧ isDigit b = true ∧ isDigit c = true ∧ natOfDigits [a, b, c] = n := by
  have dig : ∀ d : Fin 10, isDigit (UInt8.ofNat (48 + d.val)) = true ∧ (UInt8.ofNat (48 + d.val)).toNat - 48 = d.val := by
    decide
  have ha := dig ⟨n / 100 % 10, Nat.mod_lt _ (by decide)⟩
  have hb := dig ⟨n / 10 % 10, Nat.mod_lt _ (by decide)⟩
  have hc := dig ⟨n % 10, Nat.mod_lt _ (by decide)⟩
  refine ⟨_, _, _, rfl, ha.1, hb.1, hc.1, ?_⟩
  simp only [natOfDigits, List.foldl_cons, List.foldl_nil, ha.2, hb.2, hc.2]
  omega

end MitmVerif.C01
