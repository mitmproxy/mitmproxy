/-
  The name layer of the DNS codec, for C25 and C26. A name is a text (`www.example.com`, the empty text for the root), its
  parts (`partsOf`: the dot-separated pieces, none for the root) and the labels on the wire. `C26.NameRel I t ls` says that
  the decoder makes the text `t` of the labels `ls`; the encoder then writes exactly `ls` for `t` (`NameRel.packName`),
  and the texts related to some labels are the canonical ones (`NameRel.canon`, `nameRel_of_canon`).
  `splitDot` and `joinDot` are `splitSep 46` and `joinBy [46]` of Lemmas/Split (`splitDot_eq`, `joinDot_eq`) and are reasoned
  about as such.
-/
import MitmVerif.Model.C25
import MitmVerif.Lemmas.Split
set_option linter.unusedVariables false
set_option linter.unusedSimpArgs false

namespace MitmVerif.C25

theorem splitDot_eq (t : Text) : splitDot t = splitSep 46 t := by
  induction t with
  | nil => rfl
  | cons c r ih => rw [splitDot, ih, splitSep]; cases splitSep 46 r <;> rfl

theorem joinDot_eq (ps : List Text) : joinDot ps = joinBy [46] ps := by
  fun_induction joinDot ps with
  | case1 | case2 => rfl
  | case3 a b rest ih => rw [ih, joinBy_cons _ a (List.cons_ne_nil b rest), List.append_assoc, List.singleton_append]

theorem joinDot_single (a : Text) : joinDot [a] = a := rfl

theorem encText_ascii_nodot (I : Idna) {t : Text} (hne : t ≠ []) (ha : isAscii t = true)
    (hd : ¬ (46 : UInt8) ∈ t) (hl : t.length < 64) : encText I t = some t := by
  unfold encText fastPathOk
  simp [hne, ha, splitDot_eq, splitSep_no_sep hd, hl]

theorem decLabel_cases {I : Idna} {raw : Bytes} {p : Text} (h : decLabel I raw = some p) :
    ¬ (46 : UInt8) ∈ p ∧ (encText I p = some raw ∨ (p = raw ∧ isAscii raw = true)) := by
  revert h
  fun_cases decLabel I raw <;> intro h <;> cases h
  case case5 t _ e he label hl hc =>
    refine ⟨by simpa using hc, ?_⟩
    simp only [label] at hl
    split at hl
    · next heq => cases hl; exact Or.inl (heq ▸ he)
    · split at hl <;> cases hl
      next ha => exact Or.inr ⟨rfl, ha⟩

theorem decLabel_encPart {I : Idna} {raw : Bytes} {p : Text} (h : decLabel I raw = some p)
    (hne : raw ≠ []) (hl : raw.length < 64) : encPart I p = some raw := by
  have hlen : raw.length ≠ 0 := by intro h0; exact hne (List.length_eq_zero_iff.mp h0)
  have h0 : ¬ (raw.length = 0 ∨ 64 ≤ raw.length) := by omega
  obtain ⟨hd, hc | ⟨rfl, ha⟩⟩ := decLabel_cases h
  · unfold encPart; rw [hc]; simp only [h0, if_false]
  · unfold encPart; rw [encText_ascii_nodot I hne ha hd hl]; simp only [h0, if_false]

theorem decLabel_ne_nil {I : Idna} {raw : Bytes} {p : Text} (h : decLabel I raw = some p)
    (hne : raw ≠ []) : p ≠ [] := by
  obtain ⟨hd, hc | ⟨rfl, ha⟩⟩ := decLabel_cases h
  · intro hp; subst hp
    simp [encText] at hc; exact hne hc
  · exact hne

theorem encPart_ne_nil {I : Idna} {p : Text} {l : Bytes} (h : encPart I p = some l) : p ≠ [] := by
  intro hp; subst hp
  simp [encPart, encText] at h

theorem encPart_len {I : Idna} {p : Text} {l : Bytes} (h : encPart I p = some l) : l ≠ [] ∧ l.length < 64 := by
  unfold encPart at h
  split at h
  · cases h
  · next l' hl =>
    split at h
    · cases h
    · next hc =>
      cases h
      constructor
      · intro hn; subst hn; simp at hc
      · omega

theorem decLabel_ascii (I : Idna) {l : Bytes} (hne : l ≠ []) (ha : isAscii l = true) (hace : hasAce l = false)
    (hd : ¬ (46 : UInt8) ∈ l) (hl : l.length < 64) : decLabel I l = some l := by
  have hdot : l.contains 46 = false := by simpa using hd
  simp only [decLabel, decText, hace, Bool.false_eq_true, if_false, ha, if_true, encText_ascii_nodot I hne ha hd hl, hdot]

theorem wire_cons (l : Bytes) (ls : List Bytes) : wire (l :: ls) = UInt8.ofNat l.length :: l ++ wire ls := by
  simp [wire]

theorem wire_append (a b : List Bytes) : wire (a ++ b) = wire a ++ wire b := by
  simp [wire, List.flatMap_append]

def LabelsOk (ls : List Bytes) : Prop := ∀ l ∈ ls, l ≠ [] ∧ l.length < 64

theorem LabelsOk.append {a b : List Bytes} (ha : LabelsOk a) (hb : LabelsOk b) : LabelsOk (a ++ b) :=
  List.forall_mem_append.mpr ⟨ha, hb⟩

/-- the last conjunct is, part by part, the clause of `CanonName` -/
theorem mapLabels_spec {I : Idna} {ls : List Bytes} {ps : List Text} (h : mapLabels I ls = some ps) (hok : LabelsOk ls) :
    packParts I ps = some (wire ls) ∧
      ∀ p ∈ ps, ¬ (46 : UInt8) ∈ p ∧ p ≠ [] ∧ ∃ l, encPart I p = some l ∧ decLabel I l = some p := by
  fun_induction mapLabels I ls generalizing ps <;> cases h
  case case1 => exact ⟨rfl, by simp⟩
  case case2 l ls t ts hm hd ih =>
    obtain ⟨hne, hl⟩ := hok l (by simp)
    obtain ⟨hp, hg⟩ := ih hm (fun x hx => hok x (by simp [hx]))
    have he := decLabel_encPart hd hne hl
    exact ⟨by simp only [packParts, he, hp, wire_cons],
      List.forall_mem_cons.mpr ⟨⟨(decLabel_cases hd).1, decLabel_ne_nil hd hne, l, he, hd⟩, hg⟩⟩

theorem mapLabels_append {I : Idna} {a b : List Bytes} {pa pb : List Text} (ha : mapLabels I a = some pa)
    (hb : mapLabels I b = some pb) : mapLabels I (a ++ b) = some (pa ++ pb) := by
  fun_induction mapLabels I a generalizing pa <;> cases ha
  case case1 => exact hb
  case case2 l ls t ts hm hd ih => simp [mapLabels, hd, ih hm]

theorem mapLabels_of_parts {I : Idna} : ∀ ps : List Text, (∀ p ∈ ps, ∃ l, encPart I p = some l ∧ decLabel I l = some p) →
    ∃ ls, LabelsOk ls ∧ mapLabels I ls = some ps := by
  intro ps
  induction ps with
  | nil => intro _; exact ⟨[], by simp [LabelsOk], rfl⟩
  | cons p ps ih =>
    intro h
    obtain ⟨l, hl, hdl⟩ := h p (by simp)
    obtain ⟨ls, h1, h2⟩ := ih (fun q hq => h q (by simp [hq]))
    exact ⟨l :: ls, List.forall_mem_cons.mpr ⟨encPart_len hl, h1⟩, by simp [mapLabels, hdl, h2]⟩

/-! ### a name text and its parts -/

/-- the parts of a name text: none for the root name, the dot-separated pieces otherwise. `packName`, `nameOf` and
    `CanonName` each treat the empty text apart; in terms of `partsOf` they do not. -/
def partsOf (t : Text) : List Text := if t = [] then [] else splitDot t

theorem joinDot_partsOf (t : Text) : joinDot (partsOf t) = t := by
  unfold partsOf; split
  · next h => rw [h]; rfl
  · rw [splitDot_eq, joinDot_eq, joinBy_splitSep]

theorem partsOf_joinDot {ps : List Text} (h : ∀ p ∈ ps, ¬ (46 : UInt8) ∈ p ∧ p ≠ []) : partsOf (joinDot ps) = ps := by
  unfold partsOf; rw [splitDot_eq, joinDot_eq]; split
  · next hj => exact (joinBy_eq_nil hj (fun p hp => (h p hp).2)).symm
  · next hj => exact splitSep_joinBy ps (fun hn => hj (by rw [hn]; rfl)) (fun p hp => (h p hp).1)

theorem packName_eq (I : Idna) (t : Text) : packName I t = (packParts I (partsOf t)).map (· ++ [0]) := by
  unfold packName partsOf; split <;> rfl

theorem nameOf_eq (labels : List Text) (tail : Text) : nameOf labels tail = joinDot (labels ++ partsOf tail) := by
  unfold nameOf partsOf; split
  · rfl
  · rw [joinDot_eq, joinDot_eq, splitDot_eq, ← joinBy_append_joinBy _ _ (splitSep_ne_nil 46 tail), joinBy_splitSep]

/-- the "IDNA-canonical names" of the property statement: the texts that survive pack/unpack under the codec `I`. For ASCII
    labels without `xn--` this holds whatever `I` is (Props/C25 `canon_of_ascii`). -/
def CanonName (I : Idna) (name : Text) : Prop :=
  name = [] ∨ ∀ p ∈ splitDot name, ∃ l, encPart I p = some l ∧ decLabel I l = some p

theorem canonName_iff {I : Idna} {t : Text} :
    CanonName I t ↔ ∀ p ∈ partsOf t, ∃ l, encPart I p = some l ∧ decLabel I l = some p := by
  unfold CanonName partsOf; split
  · next h => simp [h]
  · next h => simp [h]

end MitmVerif.C25

/-! ### a decoded name text and the labels it stands for (in the namespace of C26, whose properties are stated through it) -/
namespace MitmVerif.C26
open MitmVerif MitmVerif.C25

def NameRel (I : Idna) (t : Text) (ls : List Bytes) : Prop :=
  LabelsOk ls ∧ ∃ ps, mapLabels I ls = some ps ∧ joinDot ps = t

theorem nameRel_iff {I : Idna} {t : Text} {ls : List Bytes} :
    NameRel I t ls ↔ LabelsOk ls ∧ mapLabels I ls = some (partsOf t) := by
  constructor
  · rintro ⟨hok, ps, hm, rfl⟩
    rw [partsOf_joinDot fun p hp => ⟨((mapLabels_spec hm hok).2 p hp).1, ((mapLabels_spec hm hok).2 p hp).2.1⟩]
    exact ⟨hok, hm⟩
  · exact fun ⟨hok, hm⟩ => ⟨hok, _, hm, joinDot_partsOf t⟩

theorem NameRel.packName {I : Idna} {t : Text} {ls : List Bytes} (h : NameRel I t ls) :
    packName I t = some (wire ls ++ [0]) := by
  obtain ⟨hok, hm⟩ := nameRel_iff.mp h
  rw [packName_eq, (mapLabels_spec hm hok).1]; rfl

theorem NameRel.canon {I : Idna} {t : Text} {ls : List Bytes} (h : NameRel I t ls) : CanonName I t := by
  obtain ⟨hok, hm⟩ := nameRel_iff.mp h
  exact canonName_iff.mpr fun p hp => ((mapLabels_spec hm hok).2 p hp).2.2

theorem nameRel_of_canon {I : Idna} {t : Text} (h : CanonName I t) : ∃ ls, NameRel I t ls := by
  obtain ⟨ls, hok, hm⟩ := mapLabels_of_parts _ (canonName_iff.mp h)
  exact ⟨ls, nameRel_iff.mpr ⟨hok, hm⟩⟩

theorem NameRel.nameOf {I : Idna} {raws ls2 : List Bytes} {labels : List Text} {label : Text}
    (hok : LabelsOk raws) (hm : mapLabels I raws = some labels) (h2 : NameRel I label ls2) :
    NameRel I (nameOf labels label) (raws ++ ls2) :=
  ⟨hok.append h2.1, _, mapLabels_append hm (nameRel_iff.mp h2).2, (nameOf_eq _ _).symm⟩

end MitmVerif.C26
