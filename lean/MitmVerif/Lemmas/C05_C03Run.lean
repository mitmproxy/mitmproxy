/-
  C05 ⟵ C03, third part: the invariant `J` along every run of the model of `HttpStream`, and the link between the
  monitor over `SendHttp(…, context.server)` and the grammar `Http2Client` is assumed to be handed.
-/
import MitmVerif.Lemmas.C05_C03
import MitmVerif.Lemmas.C05_Sub
namespace MitmVerif.C03
open MitmVerif

/-- a `SendHttp(…, context.server)` as the event `Http2Client` is handed (payloads do not matter for the order) -/
def outEv : Out → Option C05.Ev
  | .send false .rh => some (.hdr false)
  | .send false .rd => some (.data [])
  | .send false .rt => some .trailers
  | .send false .re => some .eom
  | .send false .rx => some .err
  | _ => none

/-- the events one `HttpStream` hands to the server connection, oldest first -/
def srvEvents (t : List Out) : List C05.Ev := t.filterMap outEv

def srvPhase (t : List Out) : SP := t.foldl adv .s0

def Ph : SP → List C05.Ev → Prop
  | .s0, l => l = []
  | .s1, l => C05.hdrFirst l ∧ C05.E2 l = false
  | .s2, l => C05.hdrFirst l ∧ C05.E1 l = false
  | .sc, l => C05.hdrFirst l
  | .bad, _ => False

theorem foldl_adv_bad (t : List Out) : t.foldl adv .bad = .bad := by
  induction t with
  | nil => rfl
  | cons o t ih =>
    have : adv .bad o = .bad := by
      cases o <;> try rfl
      rename_i b tg; cases b <;> cases tg <;> rfl
    simp only [List.foldl_cons, this]; exact ih

theorem ph_step (p : SP) (l : List C05.Ev) (tg : Tag) (e : C05.Ev) (ho : outEv (.send false tg) = some e)
    (hph : Ph p l) (hg : C05.GramOk l) (hnb : srvStep p tg ≠ .bad) :
    C05.GramOk (l ++ [e]) ∧ Ph (srvStep p tg) (l ++ [e]) := by
  cases tg <;> simp only [outEv, Option.some.injEq, reduceCtorEq] at ho <;> subst ho <;> cases p <;>
    simp only [srvStep, ne_eq, not_true_eq_false, reduceCtorEq, not_false_eq_true] at hnb ⊢ <;> simp only [Ph] at hph ⊢
  -- rh at s0
  · subst hph
    refine ⟨C05.gramOk_snoc [] _ hg rfl, ⟨false, [], rfl, by simp⟩, rfl⟩
  -- rd at s1
  · refine ⟨C05.gramOk_snoc l _ hg (by simp [C05.allowed, hph.2]), C05.hdrFirst_snoc l _ hph.1 rfl, ?_⟩
    unfold C05.E2; rw [C05.any_snoc]; simpa [C05.E2] using hph.2
  -- rt at s1
  · refine ⟨C05.gramOk_snoc l _ hg (by simp [C05.allowed, hph.2]), C05.hdrFirst_snoc l _ hph.1 rfl, ?_⟩
    unfold C05.E1; rw [C05.any_snoc]
    have := C05.E1_le_E2 l hph.2
    simpa [C05.E1] using this
  -- re at s1
  · exact ⟨C05.gramOk_snoc l _ hg (by simp [C05.allowed, C05.E1_le_E2 l hph.2]), C05.hdrFirst_snoc l _ hph.1 rfl⟩
  -- re at s2
  · exact ⟨C05.gramOk_snoc l _ hg (by simp [C05.allowed, hph.2]), C05.hdrFirst_snoc l _ hph.1 rfl⟩
  -- rx at s1
  · exact ⟨C05.gramOk_snoc l _ hg rfl, C05.hdrFirst_snoc l _ hph.1 rfl⟩
  -- rx at sc
  · exact ⟨C05.gramOk_snoc l _ hg rfl, C05.hdrFirst_snoc l _ hph rfl⟩

theorem ph_run (t : List Out) (p : SP) (l : List C05.Ev) (hph : Ph p l) (hg : C05.GramOk l)
    (hnb : t.foldl adv p ≠ .bad) :
    C05.GramOk (l ++ srvEvents t) ∧ Ph (t.foldl adv p) (l ++ srvEvents t) := by
  induction t generalizing p l with
  | nil => simpa [srvEvents] using ⟨hg, hph⟩
  | cons o t ih =>
    cases ho : outEv o with
    | none =>
      have ha : adv p o = p ∨ adv p o = .bad := by
        cases o <;> try exact Or.inl rfl
        rename_i b tg
        cases b
        · cases tg <;> simp [outEv] at ho <;> (right; cases p <;> rfl)
        · exact Or.inl rfl
      have hs : srvEvents (o :: t) = srvEvents t := by simp [srvEvents, ho]
      rw [hs]
      simp only [List.foldl_cons] at hnb ⊢
      rcases ha with ha | ha
      · rw [ha] at hnb ⊢; exact ih p l hph hg hnb
      · rw [ha, foldl_adv_bad] at hnb; exact absurd rfl hnb
    | some e =>
      have hs : srvEvents (o :: t) = e :: srvEvents t := by simp [srvEvents, ho]
      obtain ⟨tg, rfl⟩ : ∃ tg, o = .send false tg := by
        cases o <;> simp [outEv] at ho
        rename_i b tg
        cases b
        · exact ⟨tg, rfl⟩
        · simp [outEv] at ho
      simp only [List.foldl_cons] at hnb ⊢
      have hstep : srvStep p tg ≠ .bad := by
        intro hb
        have : adv p (.send false tg) = .bad := hb
        rw [this, foldl_adv_bad] at hnb; exact hnb rfl
      have st := ph_step p l tg e ho hph hg hstep
      have := ih (srvStep p tg) (l ++ [e]) st.2 st.1 hnb
      have e1 : adv p (Out.send false tg) = srvStep p tg := rfl
      rw [hs, e1]
      simpa using this

/-! ### every call of the stream keeps `J` -/

theorem J_pFine (p : SP) (c : Core) (h : J p c = true) : pFine p = true := by
  simp only [J, JF, Bool.and_eq_true] at h; exact h.1

theorem J_of_bad (p : SP) (c : Core) (hb : c.bad = true) (hf : pFine p = true) : J p c = true := by
  simp [J, JF, hb, hf]

/-- what `J` reads of the core a completion resumes with -/
theorem doneCore_fields (c : Core) (ev : AEv) :
    (doneCore c ev).paused = none ∧ (doneCore c ev).bad = c.bad ∧ (doneCore c ev).attached = c.attached ∧
    (doneCore c ev).pt = c.pt ∧ (doneCore c ev).hasFlow = c.hasFlow ∧ (doneCore c ev).cs = c.cs ∧ (doneCore c ev).ss = c.ss := by
  cases ev with
  | hookDone h a => cases a <;> exact ⟨rfl, rfl, rfl, rfl, rfl, rfl, rfl⟩
  | _ => exact ⟨rfl, rfl, rfl, rfl, rfl, rfl, rfl⟩

theorem j_procDone (p : SP) (c : Core) (ev : AEv) (pk : Bool) (h : J p c = true) :
    J ((procDone c ev pk).out.foldl adv p) (procDone c ev pk).c = true := by
  rcases procDone_cases c ev pk with ⟨_, e⟩ | ⟨_, e⟩ | ⟨k, hb, hk, _, e⟩ <;> rw [e]
  · exact h
  · exact J_of_bad p badCore rfl (J_pFine p c h)
  · obtain ⟨f0, f1, f2, f3, f4, f5, f6⟩ := doneCore_fields c ev
    rw [J_fin]
    refine j_resume p _ k _ pk f0 (f1.trans hb) ?_
    rw [f2, f3, f4, f5, f6, ← hb, ← hk]
    exact h

theorem j_handle (p : SP) (c : Core) (ev : AEv) (pk q : Bool) (h : J p c = true) (hp : c.paused = none)
    (hb : c.bad = false) (hpt : c.pt = false) (hg : grammarOk c ev = true) :
    J ((handle (evCore c ev q) ev pk).out.foldl adv p) (handle (evCore c ev q) ev pk).c = true := by
  -- `J` reads none of the fields `evCore` sets
  have h' : J p (evCore c ev q) = true := h
  cases ev with
  | reqErr | respErr => exact j_handlePE p _ _ pk hp hb hpt h'
  | reqHeaders | reqData | reqEOM | reqTrailers => exact j_clientEvent p _ _ hp hb h'
  | hookDone | connDone | openDone => simp [grammarOk] at hg
  | _ => exact j_serverEvent p _ _ hp hb (show c.attached = true by simpa [grammarOk] using hg) h'

theorem j_procEv (p : SP) (c : Core) (ev : AEv) (pk q : Bool) (h : J p c = true) (hp : c.paused = none) :
    J ((procEv c ev pk q).out.foldl adv p) (procEv c ev pk q).c = true := by
  rcases procEv_cases c ev pk q with ⟨_, e⟩ | ⟨_, e⟩ | ⟨hb, hpt, hg, e⟩ <;> rw [e]
  · exact h
  · exact J_of_bad p badCore rfl (J_pFine p c h)
  · rw [J_fin]
    exact j_handle p c ev pk _ h hp hb hpt hg

/-! ### … hence every run -/

def JGood (s : St) : Prop := J (srvPhase s.outs) s.core = true

theorem jgood_handleNow (s : St) (ev : Ev) (queued : Bool) (hg : JGood s)
    (hpre : ev.isDone = true ∨ s.core.paused = none) : JGood (handleNow s ev queued) := by
  unfold handleNow JGood
  by_cases hd : ev.isDone = true
  · simp only [hd, if_true]
    show J (srvPhase (s.outs ++ (procDone _ _ _).out)) (procDone _ _ _).c = true
    unfold srvPhase
    rw [List.foldl_append]
    exact j_procDone _ _ _ _ hg
  · have hp : s.core.paused = none := hpre.resolve_left hd
    simp only [hd, Bool.false_eq_true, if_false]
    show J (srvPhase (s.outs ++ (procEv _ _ _ _).out)) (procEv _ _ _ _).c = true
    unfold srvPhase
    rw [List.foldl_append]
    exact j_procEv _ _ _ _ _ hg hp

theorem jgood_run (l t : Nat) (evs : List Ev) : JGood (run l t evs) :=
  run_invariant JGood (fun _ _ h => h) jgood_handleNow l t (by show J SP.s0 ({} : Core) = true; decide) evs

/-- in every run of the model of `HttpStream`, the commands addressed to the server connection are, in this order: the
    request head, first and once; body data and trailers only while the request is open; one end of message; an error
    only after the head — the order `Http2Client` is assumed to be handed (`C05.GramOk`, `C05.hdrFirst`) -/
theorem srvEvents_grammar (l t : Nat) (evs : List Ev) :
    C05.GramOk (srvEvents (run l t evs).trace) ∧
    (srvEvents (run l t evs).trace = [] ∨ C05.hdrFirst (srvEvents (run l t evs).trace)) := by
  have hf : pFine ((run l t evs).outs.foldl adv .s0) = true := J_pFine _ _ (jgood_run l t evs)
  have hnb : (run l t evs).outs.foldl adv .s0 ≠ .bad := by
    intro e
    rw [e] at hf; simp [pFine] at hf
  have r := ph_run (run l t evs).outs .s0 [] rfl (by intro pre e post hh; cases pre <;> simp at hh) hnb
  simp only [List.nil_append] at r
  refine ⟨r.1, ?_⟩
  have hph := r.2
  cases hp : (run l t evs).outs.foldl adv .s0 with
  | s0 => rw [hp] at hph; exact Or.inl hph
  | s1 => rw [hp] at hph; exact Or.inr hph.1
  | s2 => rw [hp] at hf; simp [pFine] at hf
  | sc => rw [hp] at hph; exact Or.inr hph
  | bad => exact absurd hp hnb

end MitmVerif.C03
