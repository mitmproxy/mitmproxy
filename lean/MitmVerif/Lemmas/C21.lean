/-
  C21 — what the three parsers accept is exactly the wire format, and a result other than `more` is stable under
  appended bytes; hence the synchronous machine is `Lawful` (`feed_lawful`).  Then the machine stage by stage, and the
  two lemmas about whole runs that everything in Props/C21 goes through (`run_requested`: what a well-formed handshake
  leads to, `run_outcome`: every other stream sets no destination).  Last, the asynchronous machine: every state stands
  for a synchronous run still to come (`den`), events and completions respect that (`actAll_den`), so settling gives
  the synchronous result (`actAll_settle_init`).
-/
import MitmVerif.Model.C21
namespace MitmVerif.C21

/-! ### inversion: what the parsers accept is exactly the wire format -/

theorem takeAddr_inv (atyp : UInt8) (alen : Nat) (tl : Bytes) (a : UInt8) (ad : Bytes) (p : Nat) (rest : Bytes)
    (h : takeAddr atyp alen tl = .ok a ad p rest) :
    a = atyp ∧ ad.length = alen ∧ p < 65536 ∧
      tl = ad ++ [UInt8.ofNat (p / 256), UInt8.ofNat (p % 256)] ++ rest := by
  simp only [takeAddr] at h
  split at h
  · cases h
  · rename_i h1
    injection h with ha had hp hr
    have hlen : 2 ≤ (tl.drop alen).length := by simp only [List.length_drop]; omega
    match hd : tl.drop alen, hlen with
    | x :: y :: r, _ =>
      have hx := x.toNat_lt
      have hy := y.toNat_lt
      rw [hd] at hp
      simp only [be16] at hp
      have hr' : rest = r := by
        rw [← hr, ← List.drop_drop, hd]; rfl
      refine ⟨ha.symm, ?_, by omega, ?_⟩
      · rw [← had]; simp only [List.length_take]; omega
      · have e1 : p / 256 = x.toNat := by omega
        have e2 : p % 256 = y.toNat := by omega
        rw [e1, e2, UInt8.ofNat_toNat, UInt8.ofNat_toNat, hr', ← had]
        have := List.take_append_drop alen tl
        rw [hd] at this
        simpa using this.symm

theorem parseConnect_inv (buf : Bytes) (a : UInt8) (ad : Bytes) (p : Nat) (rest : Bytes)
    (h : parseConnect buf = .ok a ad p rest) :
    ValidDest a ad p ∧ buf = encodeReq a ad p ++ rest := by
  match buf, h with
  | v :: c :: r :: t :: l :: tl, h =>
    simp only [parseConnect] at h
    split at h
    · rename_i hv
      obtain ⟨rfl, rfl, rfl⟩ := hv
      split at h
      · rename_i h1; subst h1
        obtain ⟨rfl, hl, hp, ht⟩ := takeAddr_inv _ _ _ _ _ _ _ h
        refine ⟨⟨Or.inl ⟨rfl, hl⟩, hp⟩, ?_⟩
        simp only [encodeReq]; rw [ht]; simp
      · split at h
        · rename_i h4; subst h4
          obtain ⟨rfl, hl, hp, ht⟩ := takeAddr_inv _ _ _ _ _ _ _ h
          refine ⟨⟨Or.inr (Or.inl ⟨rfl, hl⟩), hp⟩, ?_⟩
          simp only [encodeReq]; rw [ht]; simp
        · split at h
          · rename_i h3; subst h3
            obtain ⟨rfl, hl, hp, ht⟩ := takeAddr_inv _ _ _ _ _ _ _ h
            have hll := l.toNat_lt
            refine ⟨⟨Or.inr (Or.inr ⟨rfl, by omega⟩), hp⟩, ?_⟩
            simp only [encodeReq]; rw [ht, hl, UInt8.ofNat_toNat]; simp
          · cases h
    · cases h

theorem parseGreet_inv (m : UInt8) (buf rest : Bytes) (h : parseGreet m buf = .ok rest) :
    ∃ ms : Bytes, ms.length < 256 ∧ ms.contains m = true ∧ buf = 5 :: UInt8.ofNat ms.length :: ms ++ rest := by
  match buf, h with
  | v :: n :: tl, h =>
    simp only [parseGreet] at h
    split at h
    · rename_i hv; subst hv
      split at h
      · cases h
      · rename_i hl
        split at h
        · rename_i hc
          injection h with hr
          have hn := n.toNat_lt
          refine ⟨tl.take n.toNat, by simp only [List.length_take]; omega, hc, ?_⟩
          have hlen : (tl.take n.toNat).length = n.toNat := by simp only [List.length_take]; omega
          rw [hlen, UInt8.ofNat_toNat, ← hr]
          simp
        · cases h
    · cases h

theorem take_headD_drop (tl : Bytes) (n : Nat) (h : n < tl.length) :
    tl = tl.take n ++ (tl.drop n).headD 0 :: tl.drop (n + 1) := by
  have hd : tl.drop n = (tl.drop n).headD 0 :: tl.drop (n + 1) := by
    rw [List.drop_eq_getElem_cons h]; rfl
  rw [← hd, List.take_append_drop]

theorem parseAuth_inv (buf u p rest : Bytes) (h : parseAuth buf = .ok u p rest) :
    ∃ v : UInt8, u.length < 256 ∧ p.length < 256 ∧
      buf = v :: UInt8.ofNat u.length :: u ++ UInt8.ofNat p.length :: p ++ rest := by
  match buf, h with
  | v :: ul :: tl, h =>
    simp only [parseAuth] at h
    split at h
    · cases h
    · split at h
      · cases h
      · rename_i h1 h2
        injection h with hu hp hr
        subst hu hp hr
        have hul := ul.toNat_lt
        have hpl := ((tl.drop ul.toNat).headD 0).toNat_lt
        have l1 : (tl.take ul.toNat).length = ul.toNat := by rw [List.length_take]; omega
        have l2 : ((tl.drop (ul.toNat + 1)).take ((tl.drop ul.toNat).headD 0).toNat).length =
            ((tl.drop ul.toNat).headD 0).toNat := by rw [List.length_take, List.length_drop]; omega
        refine ⟨v, by omega, by omega, ?_⟩
        rw [l1, l2, UInt8.ofNat_toNat, UInt8.ofNat_toNat]
        conv => lhs; rw [take_headD_drop tl ul.toNat (by omega),
          ← List.take_append_drop ((tl.drop ul.toNat).headD 0).toNat (tl.drop (ul.toNat + 1)), List.drop_drop]
        simp

/-! ### forward direction: the wire format is accepted -/

theorem parseGreet_fwd (m : UInt8) (ms rest : Bytes) (hl : ms.length < 256) (hc : ms.contains m = true) :
    parseGreet m (5 :: UInt8.ofNat ms.length :: ms ++ rest) = .ok rest := by
  simp only [List.cons_append, parseGreet, if_true, UInt8.toNat_ofNat_of_lt' hl]
  have h1 : ¬ (ms.length + rest.length < ms.length) := by omega
  have hc' : m ∈ ms := by simpa using hc
  simp [h1, hc']

theorem parseAuth_fwd (v : UInt8) (u p rest : Bytes) (hu : u.length < 256) (hp : p.length < 256) :
    parseAuth (v :: UInt8.ofNat u.length :: u ++ UInt8.ofNat p.length :: p ++ rest) = .ok u p rest := by
  have a2 : ¬ p.length + (rest.length + 1) < 1 + p.length := by omega
  have d : (UInt8.ofNat p.length :: (p ++ rest)).drop (1 + p.length) = rest := by rw [Nat.add_comm]; simp
  simp [parseAuth, UInt8.toNat_ofNat_of_lt' hu, UInt8.toNat_ofNat_of_lt' hp, a2, d, Nat.add_assoc]

theorem takeAddr_fwd (atyp : UInt8) (ad t : Bytes) (p : Nat) (hp : p < 65536) :
    takeAddr atyp ad.length (ad ++ [UInt8.ofNat (p / 256), UInt8.ofNat (p % 256)] ++ t) = .ok atyp ad p t := by
  have h1 : p / 256 < 256 := by omega
  have h2 : p % 256 < 256 := by omega
  have h3 : p / 256 * 256 + p % 256 = p := by omega
  simp [takeAddr, be16, UInt8.toNat_ofNat_of_lt' h1, UInt8.toNat_ofNat_of_lt' h2, h3]

theorem parseConnect_fwd (a : UInt8) (ad : Bytes) (p : Nat) (t : Bytes) (h : ValidDest a ad p) :
    parseConnect (encodeReq a ad p ++ t) = .ok a ad p t := by
  obtain ⟨hk, hp⟩ := h
  rcases hk with ⟨rfl, hl⟩ | ⟨rfl, hl⟩ | ⟨rfl, hl⟩
  · match ad, hl with
    | [b0, b1, b2, b3], _ =>
      have := takeAddr_fwd 1 [b0, b1, b2, b3] t p hp
      simpa [encodeReq, parseConnect] using this
  · have hne : 1 ≤ ad.length := by omega
    match ad, hne with
    | b0 :: r, _ =>
      have := takeAddr_fwd 4 (b0 :: r) t p hp
      rw [hl] at this
      simpa [encodeReq, parseConnect] using this
  · have := takeAddr_fwd 3 ad t p hp
    simp only [encodeReq, if_true, List.cons_append, List.nil_append, parseConnect, and_self]
    simp only [show ¬ ((3 : UInt8) = 1) by decide, show ¬ ((3 : UInt8) = 4) by decide, if_false,
      UInt8.toNat_ofNat_of_lt' hl]
    simpa using this

/-! ### stability under appended bytes: a result other than `more` only depends on the message itself -/

theorem parseGreet_ok_append (m : UInt8) (buf rest x : Bytes)
    (h : parseGreet m buf = .ok rest) : parseGreet m (buf ++ x) = .ok (rest ++ x) := by
  obtain ⟨ms, hl, hc, rfl⟩ := parseGreet_inv m buf rest h
  simpa using parseGreet_fwd m ms (rest ++ x) hl hc

/-- a refusal of the greeting depends on the version byte and the method list alone -/
theorem parseGreet_rej_append (m : UInt8) (buf x : Bytes) (hm : parseGreet m buf ≠ .more)
    (hk : ∀ rest, parseGreet m buf ≠ .ok rest) : parseGreet m (buf ++ x) = parseGreet m buf := by
  match buf, hm, hk with
  | v :: n :: tl, hm, hk =>
    simp only [parseGreet, List.cons_append] at hm hk ⊢
    by_cases hv : v = 5
    · simp only [hv, if_true] at hm hk ⊢
      by_cases hl : tl.length < n.toNat
      · simp [hl] at hm
      · have hl' : n.toNat ≤ tl.length := by omega
        have hx : ¬ (tl ++ x).length < n.toNat := by simp; omega
        simp only [hl, hx, if_false, List.take_append_of_le_length hl'] at hk ⊢
        split
        · rename_i hc; rw [if_pos hc] at hk; exact absurd rfl (hk _)
        · rfl
    · simp [hv]

theorem parseAuth_ok_append (buf u p rest x : Bytes)
    (h : parseAuth buf = .ok u p rest) : parseAuth (buf ++ x) = .ok u p (rest ++ x) := by
  obtain ⟨v, hu, hp, rfl⟩ := parseAuth_inv buf u p rest h
  simpa using parseAuth_fwd v u p (rest ++ x) hu hp

theorem parseConnect_ok_append (buf x : Bytes) (a : UInt8) (ad : Bytes) (p : Nat) (rest : Bytes)
    (h : parseConnect buf = .ok a ad p rest) : parseConnect (buf ++ x) = .ok a ad p (rest ++ x) := by
  obtain ⟨hv, rfl⟩ := parseConnect_inv buf a ad p rest h
  simpa using parseConnect_fwd a ad p (rest ++ x) hv

theorem takeAddr_not_fail (atyp : UInt8) (alen : Nat) (tl : Bytes) (c : UInt8) : takeAddr atyp alen tl ≠ .fail c := by
  simp only [takeAddr]; split <;> simp

/-- a request is refused on its first five bytes alone -/
theorem parseConnect_fail (buf : Bytes) (code : UInt8) (h : parseConnect buf = .fail code) :
    (code = 7 ∨ code = 8) ∧ ∀ x, parseConnect (buf ++ x) = .fail code := by
  match buf, h with
  | v :: c :: r :: t :: l :: tl, h =>
    simp only [parseConnect, List.cons_append] at h ⊢
    split at h
    · rename_i hv
      simp only [hv, and_self, if_true]
      split at h
      · exact absurd h (takeAddr_not_fail _ _ _ _)
      · rename_i h1; simp only [h1, if_false]
        split at h
        · exact absurd h (takeAddr_not_fail _ _ _ _)
        · rename_i h4; simp only [h4, if_false]
          split at h
          · exact absurd h (takeAddr_not_fail _ _ _ _)
          · rename_i h3; injection h with h
            subst h; simp [h3]
    · rename_i hv; injection h with h
      subst h; simp [hv]

theorem feed_done (env : Env) (x : Bytes) : feed env .done x = (.done, []) := by
  simp only [feed]; split <;> rfl

theorem feed_relay (env : Env) (x : Bytes) : feed env .relay x = (.relay, x.map .child) := by
  simp only [feed]; split
  · rename_i h; subst h; rfl
  · rfl

theorem feed_greet_ne (env : Env) (buf d : Bytes) (h : d ≠ []) : feed env (.greet buf) d = syncGreet env (buf ++ d) := by
  simp [feed, h]
theorem feed_auth_ne (env : Env) (buf d : Bytes) (h : d ≠ []) : feed env (.auth buf) d = syncAuth env (buf ++ d) := by
  simp [feed, h]
theorem feed_connect_ne (env : Env) (buf d : Bytes) (h : d ≠ []) : feed env (.connect buf) d = syncConnect env (buf ++ d) := by
  simp [feed, h]

theorem syncConnect_append (env : Env) (buf x : Bytes) :
    syncConnect env (buf ++ x) =
      ((feed env (syncConnect env buf).1 x).1, (syncConnect env buf).2 ++ (feed env (syncConnect env buf).1 x).2) := by
  cases h : parseConnect buf with
  | more =>
    have hs : syncConnect env buf = (.connect buf, []) := by simp [syncConnect, h]
    rw [hs]
    by_cases hx : x = []
    · subst hx; simp [feed, hs]
    · simp [feed, hx]
  | fail c =>
    have h' := (parseConnect_fail buf c h).2 x
    simp [syncConnect, h, h', feed_done]
  | ok a ad p rest =>
    have h' := parseConnect_ok_append buf x a ad p rest h
    simp only [syncConnect, h, h']
    by_cases he : env.eager = true <;> by_cases hc : env.connOk = true <;>
      simp [he, hc, feed_done, feed_relay, relayStart]

theorem syncAuth_append (env : Env) (buf x : Bytes) :
    syncAuth env (buf ++ x) =
      ((feed env (syncAuth env buf).1 x).1, (syncAuth env buf).2 ++ (feed env (syncAuth env buf).1 x).2) := by
  cases h : parseAuth buf with
  | more =>
    have hs : syncAuth env buf = (.auth buf, []) := by simp [syncAuth, h]
    rw [hs]
    by_cases hx : x = []
    · subst hx; simp [feed, hs]
    · simp [feed, hx]
  | ok u p rest =>
    have h' := parseAuth_ok_append buf u p rest x h
    simp only [syncAuth, h, h']
    by_cases hv : env.valid u p = true
    · simp only [hv, if_true]
      rw [syncConnect_append]
      simp
    · simp [hv, feed_done]

theorem syncGreet_append (env : Env) (buf x : Bytes) :
    syncGreet env (buf ++ x) =
      ((feed env (syncGreet env buf).1 x).1, (syncGreet env buf).2 ++ (feed env (syncGreet env buf).1 x).2) := by
  cases h : parseGreet (needed env) buf with
  | more =>
    have hs : syncGreet env buf = (.greet buf, []) := by simp [syncGreet, h]
    rw [hs]
    by_cases hx : x = []
    · subst hx; simp [feed, hs]
    · simp [feed, hx]
  | badVersion =>
    have h' := parseGreet_rej_append (needed env) buf x (by simp [h]) (by simp [h])
    simp [syncGreet, h, h', feed_done]
  | noMethod =>
    have h' := parseGreet_rej_append (needed env) buf x (by simp [h]) (by simp [h])
    simp [syncGreet, h, h', feed_done]
  | ok rest =>
    have h' := parseGreet_ok_append _ buf rest x h
    simp only [syncGreet, h, h']
    by_cases ha : env.authOn = true
    · simp only [ha, if_true]; rw [syncAuth_append]; simp
    · simp only [ha]; rw [syncConnect_append]; simp

theorem feed_lawful (env : Env) : (inc env).Lawful := by
  refine ⟨fun s => by simp [inc, feed], fun s a b => ?_⟩
  show feed env s (a ++ b) = ((feed env (feed env s a).1 b).1, (feed env s a).2 ++ (feed env (feed env s a).1 b).2)
  by_cases ha : a = []
  · subst ha; simp [feed]
  by_cases hb : b = []
  · subst hb; simp [feed]
  have hab : a ++ b ≠ [] := by simp [ha]
  cases s with
  | greet buf => rw [feed_greet_ne _ _ _ hab, feed_greet_ne _ _ _ ha, ← List.append_assoc, syncGreet_append]
  | auth buf => rw [feed_auth_ne _ _ _ hab, feed_auth_ne _ _ _ ha, ← List.append_assoc, syncAuth_append]
  | connect buf => rw [feed_connect_ne _ _ _ hab, feed_connect_ne _ _ _ ha, ← List.append_assoc, syncConnect_append]
  | relay => simp [feed_relay]
  | done => simp [feed_done]

/-! ### observation lemmas -/

@[simp] theorem childBytes_append (l1 l2 : List Out) : childBytes (l1 ++ l2) = childBytes l1 ++ childBytes l2 := by
  induction l1 with
  | nil => rfl
  | cons o r ih => cases o <;> simp [childBytes, ih]
@[simp] theorem setAddrs_append (l1 l2 : List Out) : setAddrs (l1 ++ l2) = setAddrs l1 ++ setAddrs l2 := by
  induction l1 with
  | nil => rfl
  | cons o r ih => cases o <;> simp [setAddrs, ih]
@[simp] theorem sends_append (l1 l2 : List Out) : sends (l1 ++ l2) = sends l1 ++ sends l2 := by
  induction l1 with
  | nil => rfl
  | cons o r ih => cases o <;> simp [sends, ih]
@[simp] theorem childBytes_map (t : Bytes) : childBytes (t.map .child) = t := by
  induction t with
  | nil => rfl
  | cons b r ih => simp [childBytes, ih]
@[simp] theorem setAddrs_map (t : Bytes) : setAddrs (t.map .child) = [] := by
  induction t with
  | nil => rfl
  | cons b r ih => simp [setAddrs, ih]
@[simp] theorem sends_map (t : Bytes) : sends (t.map .child) = [] := by
  induction t with
  | nil => rfl
  | cons b r ih => simp [sends, ih]

theorem syncConnect_cases (env : Env) (buf : Bytes) :
    (parseConnect buf = .more ∧ syncConnect env buf = (.connect buf, [])) ∨
    (∃ c, (c = 7 ∨ c = 8) ∧ parseConnect buf = .fail c ∧ syncConnect env buf = (.done, [.send (reply c), .close])) ∨
    (∃ a ad p t, buf = encodeReq a ad p ++ t ∧ ValidDest a ad p ∧ syncConnect env buf = connResult env a ad p t) := by
  cases h : parseConnect buf with
  | more => left; simp [syncConnect, h]
  | fail c => right; left; exact ⟨c, (parseConnect_fail buf c h).1, rfl, by simp [syncConnect, h]⟩
  | ok a ad p t =>
    right; right
    obtain ⟨hv, hb⟩ := parseConnect_inv buf a ad p t h
    exact ⟨a, ad, p, t, hb, hv, by simp [syncConnect, h, connResult]⟩

theorem syncConnect_fwd (env : Env) (a : UInt8) (ad : Bytes) (p : Nat) (t : Bytes) (h : ValidDest a ad p) :
    syncConnect env (encodeReq a ad p ++ t) = connResult env a ad p t := by
  simp [syncConnect, parseConnect_fwd a ad p t h, connResult]

theorem connResult_obs (env : Env) (a : UInt8) (ad : Bytes) (p : Nat) (t : Bytes) :
    setAddrs (connResult env a ad p t).2 = [(a, ad, p)] ∧
    (Out.openServer ∈ (connResult env a ad p t).2 ↔ env.eager = true) ∧
    ((connResult env a ad p t).1 = .relay ∧ (env.eager = true → env.connOk = true) ∧
        childBytes (connResult env a ad p t).2 = t ∧ sends (connResult env a ad p t).2 = [reply 0] ∨
     (connResult env a ad p t).1 = .done ∧ env.eager = true ∧ env.connOk = false ∧
        childBytes (connResult env a ad p t).2 = [] ∧ sends (connResult env a ad p t).2 = [reply 4] ∧
        (connResult env a ad p t).2.getLast? = some .close ∧ Out.childStart ∉ (connResult env a ad p t).2) := by
  unfold connResult
  by_cases he : env.eager = true <;> by_cases hc : env.connOk = true <;>
    simp [he, hc, relayStart, setAddrs, childBytes, sends]

theorem syncAuth_cases (env : Env) (buf : Bytes) :
    (parseAuth buf = .more ∧ syncAuth env buf = (.auth buf, [])) ∨
    (∃ v u p rest, buf = authMsg v u p ++ rest ∧ u.length < 256 ∧ p.length < 256 ∧
      ((env.valid u p = true ∧ syncAuth env buf =
          ((syncConnect env rest).1, [.authHook u p, .send [1, 0]] ++ (syncConnect env rest).2)) ∨
       (env.valid u p = false ∧ syncAuth env buf = (.done, [.authHook u p, .send [1, 1], .close])))) := by
  cases h : parseAuth buf with
  | more => left; simp [syncAuth, h]
  | ok u p rest =>
    right
    obtain ⟨v, hu, hp, hb⟩ := parseAuth_inv buf u p rest h
    refine ⟨v, u, p, rest, by simpa [authMsg] using hb, hu, hp, ?_⟩
    by_cases hv : env.valid u p = true
    · left; exact ⟨hv, by simp [syncAuth, h, hv]⟩
    · right; exact ⟨by simpa using hv, by simp [syncAuth, h, hv]⟩

theorem syncAuth_fwd (env : Env) (v : UInt8) (u p rest : Bytes) (hu : u.length < 256) (hp : p.length < 256)
    (hv : env.valid u p = true) :
    syncAuth env (authMsg v u p ++ rest) =
      ((syncConnect env rest).1, [.authHook u p, .send [1, 0]] ++ (syncConnect env rest).2) := by
  have := parseAuth_fwd v u p rest hu hp
  simp only [authMsg, List.cons_append, List.append_assoc] at this ⊢
  simp [syncAuth, this, hv]

theorem syncGreet_cases (env : Env) (buf : Bytes) :
    (parseGreet (needed env) buf = .more ∧ syncGreet env buf = (.greet buf, [])) ∨
    (parseGreet (needed env) buf = .badVersion ∧ syncGreet env buf = (.done, [.close])) ∨
    (parseGreet (needed env) buf = .noMethod ∧ syncGreet env buf = (.done, [.send (reply 0xFF), .close])) ∨
    (∃ ms rest, buf = greetMsg ms ++ rest ∧ ms.length < 256 ∧ ms.contains (needed env) = true ∧
      ((env.authOn = true ∧ syncGreet env buf = ((syncAuth env rest).1, .send [5, 2] :: (syncAuth env rest).2)) ∨
       (env.authOn = false ∧ syncGreet env buf = ((syncConnect env rest).1, .send [5, 0] :: (syncConnect env rest).2)))) := by
  cases h : parseGreet (needed env) buf with
  | more => left; simp [syncGreet, h]
  | badVersion => right; left; simp [syncGreet, h]
  | noMethod => right; right; left; simp [syncGreet, h]
  | ok rest =>
    right; right; right
    obtain ⟨ms, hl, hc, hb⟩ := parseGreet_inv _ buf rest h
    refine ⟨ms, rest, by simpa [greetMsg] using hb, hl, hc, ?_⟩
    by_cases ha : env.authOn = true
    · left; exact ⟨ha, by simp [syncGreet, h, ha]⟩
    · right; exact ⟨by simpa using ha, by simp [syncGreet, h, ha]⟩

theorem syncGreet_fwd (env : Env) (ms rest : Bytes) (hl : ms.length < 256) (hc : ms.contains (needed env) = true) :
    syncGreet env (greetMsg ms ++ rest) =
      if env.authOn then ((syncAuth env rest).1, .send [5, 2] :: (syncAuth env rest).2)
      else ((syncConnect env rest).1, .send [5, 0] :: (syncConnect env rest).2) := by
  have := parseGreet_fwd (needed env) ms rest hl hc
  simp only [greetMsg, List.cons_append] at this ⊢
  simp [syncGreet, this]

theorem feed_init (env : Env) (input : Bytes) (h : input ≠ []) : feed env init input = syncGreet env input := by
  simp [init, feed, h]

theorem reply0_not_pre (env : Env) : reply 0 ∉ preSends env := by
  unfold preSends; split <;> simp [reply]

/-- after an accepted greeting (+ auth) the machine continues with the connect stage on whatever follows -/
theorem feed_pre (env : Env) (pre rest : Bytes) (hpre : ValidPre env pre) :
    ∃ o, feed env init (pre ++ rest) = ((syncConnect env rest).1, o ++ (syncConnect env rest).2) ∧
      sends o = preSends env ∧ setAddrs o = [] ∧ childBytes o = [] ∧ Out.openServer ∉ o ∧ Out.childStart ∉ o ∧
      Out.close ∉ o := by
  obtain ⟨ms, hl, hc, h⟩ := hpre
  rcases h with ⟨ha, rfl⟩ | ⟨ha, v, u, pw, hu, hp, hv, rfl⟩
  · refine ⟨[.send [5, 0]], ?_, by simp [sends, preSends, ha], by simp [setAddrs], by simp [childBytes], by simp, by simp, by simp⟩
    have := syncGreet_fwd env ms rest hl hc
    simp only [greetMsg] at this
    rw [feed_init env _ (by simp), this]; simp [ha]
  · refine ⟨[.send [5, 2], .authHook u pw, .send [1, 0]], ?_, by simp [sends, preSends, ha], by simp [setAddrs],
      by simp [childBytes], by simp, by simp, by simp⟩
    have := syncGreet_fwd env ms (authMsg v u pw ++ rest) hl hc
    have h2 := syncAuth_fwd env v u pw rest hu hp hv
    simp only [greetMsg, authMsg, List.append_assoc, List.cons_append] at this h2 ⊢
    rw [feed_init env _ (by simp), this, h2]; simp [ha]

/-- What a run shows once the request for (a, ad, p) has been read, `t` being what followed it: that destination set
    once (and tried, if eager); then the success reply and `t` to the child, or REP 04 and the close. -/
structure Requested (env : Env) (a : UInt8) (ad : Bytes) (p : Nat) (t : Bytes) (r : SState × List Out) : Prop where
  addr : setAddrs r.2 = [(a, ad, p)]
  opens : Out.openServer ∈ r.2 ↔ env.eager = true
  ends : r.1 = .relay ∧ (env.eager = true → env.connOk = true) ∧ childBytes r.2 = t ∧
        sends r.2 = preSends env ++ [reply 0] ∨
      r.1 = .done ∧ env.eager = true ∧ env.connOk = false ∧ childBytes r.2 = [] ∧
        sends r.2 = preSends env ++ [reply 4] ∧ r.2.getLast? = some .close ∧ Out.childStart ∉ r.2

/-- **completeness**: a well-formed handshake for (a, ad, p), whatever follows it -/
theorem run_requested (env : Env) (pre : Bytes) (a : UInt8) (ad : Bytes) (p : Nat) (t : Bytes)
    (hpre : ValidPre env pre) (hvd : ValidDest a ad p) :
    Requested env a ad p t (feed env init (pre ++ encodeReq a ad p ++ t)) := by
  obtain ⟨o, ho, ho3, ho1, ho2, ho5, ho4, _⟩ := feed_pre env pre (encodeReq a ad p ++ t) hpre
  rw [List.append_assoc, ho, syncConnect_fwd env a ad p t hvd]
  obtain ⟨hs, hopen, hc⟩ := connResult_obs env a ad p t
  refine ⟨by simp [ho1, hs], by simp [ho5, hopen], hc.imp ?_ ?_⟩
  · rintro ⟨h1, h2, h3, h4⟩
    exact ⟨h1, h2, by simp [ho2, h3], by simp [ho3, h4]⟩
  · rintro ⟨h1, h2, h3, h4, h5, h6, h7⟩
    exact ⟨h1, h2, h3, by simp [ho2, h4], by simp [ho3, h5], by simp [List.getLast?_append, h6], by simp [ho4, h7]⟩

/-- **soundness**: every run from the initial state has set no destination yet, or the stream is
    `greeting [auth] request(a, ad, p) trailing`.  The case analysis only finds the request; what the run then shows is
    `run_requested`. -/
theorem run_outcome (env : Env) (input : Bytes) :
    let r := feed env init input
    (r.1 ≠ .relay ∧ setAddrs r.2 = [] ∧ childBytes r.2 = [] ∧ Out.childStart ∉ r.2 ∧ Out.openServer ∉ r.2 ∧
        reply 0 ∉ sends r.2 ∧ (r.1 = .done → r.2.getLast? = some .close)) ∨
    (∃ pre a ad p t, input = pre ++ encodeReq a ad p ++ t ∧ ValidPre env pre ∧ ValidDest a ad p ∧
        Requested env a ad p t r) := by
  intro r
  suffices h : _ ∨ ∃ pre a ad p t, input = pre ++ encodeReq a ad p ++ t ∧ ValidPre env pre ∧ ValidDest a ad p from
    h.imp_right fun ⟨pre, a, ad, p, t, hin, hpre, hvd⟩ =>
      ⟨pre, a, ad, p, t, hin, hpre, hvd, by subst hin; exact run_requested env pre a ad p t hpre hvd⟩
  by_cases hin : input = []
  · left; subst hin; simp [r, feed, init, setAddrs, childBytes, sends]
  have hr : r = syncGreet env input := feed_init env input hin
  rcases syncGreet_cases env input with ⟨_, h⟩ | ⟨_, h⟩ | ⟨_, h⟩ | ⟨ms, rest, hb, hl, hc, h⟩
  · left; rw [hr, h]; simp [setAddrs, childBytes, sends]
  · left; rw [hr, h]; simp [setAddrs, childBytes, sends]
  · left; rw [hr, h]; simp [setAddrs, childBytes, sends, reply]
  · rcases h with ⟨ha, h⟩ | ⟨ha, h⟩
    · rcases syncAuth_cases env rest with ⟨_, h2⟩ | ⟨v, u, p, rest2, hb2, hu, hp, h2⟩
      · left; rw [hr, h, h2]; simp [setAddrs, childBytes, sends, reply]
      · rcases h2 with ⟨hv, h2⟩ | ⟨hv, h2⟩
        · rcases syncConnect_cases env rest2 with ⟨_, h3⟩ | ⟨c, hc7, _, h3⟩ | ⟨a, ad, pt, t, hb3, hvd, _⟩
          · left; rw [hr, h, h2, h3]; simp [setAddrs, childBytes, sends, reply]
          · left; rw [hr, h, h2, h3]
            rcases hc7 with rfl | rfl <;> simp [setAddrs, childBytes, sends, reply]
          · exact Or.inr ⟨greetMsg ms ++ authMsg v u p, a, ad, pt, t, by rw [hb, hb2, hb3]; simp,
              ⟨ms, hl, hc, Or.inr ⟨ha, v, u, p, hu, hp, hv, by simp [greetMsg, authMsg]⟩⟩, hvd⟩
        · left; rw [hr, h, h2]; simp [setAddrs, childBytes, sends, reply]
    · rcases syncConnect_cases env rest with ⟨_, h3⟩ | ⟨c, hc7, _, h3⟩ | ⟨a, ad, pt, t, hb3, hvd, _⟩
      · left; rw [hr, h, h3]; simp [setAddrs, childBytes, sends, reply]
      · left; rw [hr, h, h3]
        rcases hc7 with rfl | rfl <;> simp [setAddrs, childBytes, sends, reply]
      · exact Or.inr ⟨greetMsg ms, a, ad, pt, t, by rw [hb, hb3]; simp,
          ⟨ms, hl, hc, Or.inl ⟨ha, by simp [greetMsg]⟩⟩, hvd⟩

/-! ### asynchronous machine -/

/-- writer-style sequencing of (state, outputs) -/
def andThen {σ τ : Type} (r : σ × List Out) (f : σ → τ × List Out) : τ × List Out := ((f r.1).1, r.2 ++ (f r.1).2)
local infixl:55 " >>> " => andThen

theorem andThen_assoc {σ τ υ : Type} (r : σ × List Out) (f : σ → τ × List Out) (g : τ → υ × List Out) :
    (r >>> f) >>> g = r >>> (fun a => f a >>> g) := by simp [andThen, List.append_assoc]
theorem pure_andThen {σ τ : Type} (a : σ) (f : σ → τ × List Out) : ((a, []) >>> f) = f a := by simp [andThen]
theorem andThen_pure {σ : Type} (r : σ × List Out) : (r >>> fun a => (a, [])) = r := by simp [andThen]

theorem handleAll_cons (env : Env) (s : AState) (e : In) (es : List In) :
    handleAll env s (e :: es) = handle env s e >>> (handleAll env · es) := rfl

theorem syncAll_append (env : Env) (s : SState) (a b : List In) :
    syncAll env s (a ++ b) = syncAll env s a >>> (syncAll env · b) := by
  induction a generalizing s with
  | nil => simp [syncAll, andThen]
  | cons e es ih => simp [syncAll, ih, andThen, List.append_assoc]

theorem syncAll_done (env : Env) (q : List In) : syncAll env .done q = (.done, []) := by
  induction q with
  | nil => rfl
  | cons e es ih => cases e <;> simp [syncAll, syncStep, feed_done, onClose, ih]

/-- What a state of the asynchronous machine stands for: the synchronous state reached, and the commands still to
    come, once everything pending has completed and the paused events have been replayed. -/
def den (env : Env) : AState → SState × List Out
  | .settled s => (s, [])
  | .authWait u p r q =>
    (if env.valid u p then ((syncConnect env r).1, .send [1, 0] :: (syncConnect env r).2)
      else (.done, [.send [1, 1], .close])) >>> (syncAll env · q)
  | .connWait r q =>
    (if env.connOk then (.relay, relayStart r) else (.done, [.send (reply 4), .close])) >>> (syncAll env · q)

theorem aConnect_den (env : Env) (buf : Bytes) : aConnect env buf >>> den env = syncConnect env buf := by
  simp only [aConnect, syncConnect]
  cases parseConnect buf with
  | more => rfl
  | fail c => rfl
  | ok a ad p rest =>
    by_cases he : env.eager = true <;> by_cases hc : env.connOk = true <;> simp [he, hc, andThen, den, syncAll]

theorem aAuth_den (env : Env) (buf : Bytes) : aAuth env buf >>> den env = syncAuth env buf := by
  simp only [aAuth, syncAuth]
  cases parseAuth buf with
  | more => rfl
  | ok u p rest => by_cases hv : env.valid u p = true <;> simp [hv, andThen, den, syncAll]

theorem aGreet_den (env : Env) (buf : Bytes) : aGreet env buf >>> den env = syncGreet env buf := by
  simp only [aGreet, syncGreet]
  cases parseGreet (needed env) buf with
  | more => rfl
  | badVersion => rfl
  | noMethod => rfl
  | ok rest =>
    have h1 := aAuth_den env rest
    have h2 := aConnect_den env rest
    simp only [andThen, Prod.ext_iff] at h1 h2
    by_cases ha : env.authOn = true <;> simp [ha, andThen, h1, h2]

/-- an event changes what the state stands for by one synchronous step, whether it is handled or queued -/
theorem handle_den (env : Env) (a : AState) (e : In) :
    handle env a e >>> den env = den env a >>> (syncStep env · e) := by
  cases a with
  | settled s =>
    rw [den, pure_andThen]
    cases e with
    | close => simp [handle, andThen, den, syncStep]
    | data d =>
      by_cases hd : d = []
      · simp [hd, handle, andThen, den, syncStep, feed]
      · cases s with
        | greet buf => simpa [handle, hd, syncStep, feed] using aGreet_den env (buf ++ d)
        | auth buf => simpa [handle, hd, syncStep, feed] using aAuth_den env (buf ++ d)
        | connect buf => simpa [handle, hd, syncStep, feed] using aConnect_den env (buf ++ d)
        | relay => simp [handle, hd, andThen, den, syncStep, feed]
        | done => simp [handle, hd, andThen, den, syncStep, feed]
  | authWait u p r q => simp [handle, den, pure_andThen, syncAll_append, andThen_assoc, syncAll]
  | connWait r q => simp [handle, den, pure_andThen, syncAll_append, andThen_assoc, syncAll]

theorem handleAll_den (env : Env) (a : AState) (q : List In) :
    handleAll env a q >>> den env = den env a >>> (syncAll env · q) := by
  induction q generalizing a with
  | nil => simp [handleAll, syncAll, andThen]
  | cons e es ih =>
    rw [handleAll_cons, andThen_assoc]
    simp only [ih]
    rw [← andThen_assoc, handle_den, andThen_assoc]
    rfl

/-- a completion does not change what the state stands for -/
theorem complete_den (env : Env) (a : AState) : complete env a >>> den env = den env a := by
  cases a with
  | settled s => rfl
  | authWait u p r q =>
    by_cases hv : env.valid u p = true
    · have h1 := handleAll_den env (aConnect env r).1 q
      have h2 := aConnect_den env r
      simp only [andThen, Prod.ext_iff] at h1 h2
      simp [complete, den.eq_2, hv, andThen, h1, ← h2]
    · simp [complete, den.eq_1, den.eq_2, hv, andThen, syncAll_done]
  | connWait r q =>
    by_cases hc : env.connOk = true
    · have h1 := handleAll_den env (.settled .relay) q
      simp only [andThen, Prod.ext_iff, den.eq_1] at h1
      simp [complete, den.eq_3, hc, andThen, h1]
    · simp [complete, den.eq_1, den.eq_3, hc, andThen, syncAll_done]

theorem actAll_den (env : Env) (a : AState) (acts : List Act) :
    actAll env a acts >>> den env = den env a >>> (syncAll env · (insOf acts)) := by
  induction acts generalizing a with
  | nil => simp [actAll, insOf, syncAll, andThen]
  | cons x xs ih =>
    show (act env a x >>> (actAll env · xs)) >>> den env = _
    rw [andThen_assoc]
    simp only [ih]
    rw [← andThen_assoc]
    cases x with
    | ev e => rw [act, handle_den, andThen_assoc]; rfl
    | complete => rw [act, complete_den]; rfl

/-- How many completions can still become pending: two until the credentials have been judged, one until the
    connection attempt has been answered, none afterwards.  No event raises it; the completion of a pending command lowers it. -/
def lvl : AState → Nat
  | .settled (.greet _) | .settled (.auth _) | .authWait .. => 2
  | .settled (.connect _) | .connWait .. => 1
  | .settled .relay | .settled .done => 0

def IsSettled (a : AState) : Prop := ∃ s, a = .settled s

theorem settled_of_lvl (a : AState) (h : lvl a = 0) : IsSettled a := by
  cases a with
  | settled s => exact ⟨s, rfl⟩
  | authWait u p r q => simp [lvl] at h
  | connWait r q => simp [lvl] at h

theorem lvl_le (a : AState) : lvl a ≤ 2 := by
  unfold lvl; split <;> omega

theorem aConnect_lvl (env : Env) (buf : Bytes) : lvl (aConnect env buf).1 ≤ 1 := by
  simp only [aConnect]
  split
  · exact Nat.le_refl _
  · exact Nat.zero_le _
  · split
    · exact Nat.le_refl _
    · exact Nat.zero_le _

theorem handle_lvl (env : Env) (a : AState) (e : In) : lvl (handle env a e).1 ≤ lvl a := by
  cases a with
  | authWait u p r q => cases e <;> exact Nat.le_refl _
  | connWait r q => cases e <;> exact Nat.le_refl _
  | settled s =>
    cases e with
    | close => exact Nat.le_refl _
    | data d =>
      simp only [handle]
      split
      · exact Nat.le_refl _
      · cases s with
        | greet buf => exact lvl_le _
        | auth buf => exact lvl_le _
        | connect buf => exact aConnect_lvl env _
        | relay => exact Nat.le_refl _
        | done => exact Nat.le_refl _

theorem handleAll_lvl (env : Env) (a : AState) (q : List In) : lvl (handleAll env a q).1 ≤ lvl a := by
  induction q generalizing a with
  | nil => exact Nat.le_refl _
  | cons e es ih => exact Nat.le_trans (ih _) (handle_lvl env a e)

theorem complete_settled (env : Env) (a : AState) (h : IsSettled a) : complete env a = (a, []) := by
  obtain ⟨s, rfl⟩ := h; rfl

theorem complete_lvl (env : Env) (a : AState) : IsSettled a ∨ lvl (complete env a).1 < lvl a := by
  cases a with
  | settled s => exact Or.inl ⟨s, rfl⟩
  | authWait u p r q =>
    right; simp only [complete]; split
    · exact Nat.lt_succ_of_le (Nat.le_trans (handleAll_lvl env _ q) (aConnect_lvl env r))
    · exact Nat.zero_lt_succ _
  | connWait r q =>
    right; simp only [complete]; split
    · exact Nat.lt_succ_of_le (handleAll_lvl env _ q)
    · exact Nat.zero_lt_succ _

/-- two completions always settle -/
theorem settle_settled (env : Env) (a : AState) : IsSettled (settle env a).1 := by
  have step : ∀ b, lvl b ≤ 1 → IsSettled (complete env b).1 := by
    intro b hb
    rcases complete_lvl env b with h | h
    · rw [complete_settled env b h]; exact h
    · exact settled_of_lvl _ (by omega)
  simp only [settle]
  rcases complete_lvl env a with h | h
  · rw [complete_settled env a h, complete_settled env a h]; exact h
  · exact step _ (by have := lvl_le a; omega)

def lift (r : SState × List Out) : AState × List Out := (.settled r.1, r.2)

/-- settling yields what the state stands for -/
theorem settle_den (env : Env) (a : AState) : settle env a = lift (den env a) := by
  obtain ⟨s, hs⟩ := settle_settled env a
  have h : settle env a >>> den env = den env a := by
    show (complete env a >>> complete env) >>> den env = _
    rw [andThen_assoc]
    simp only [complete_den]
  rw [← h]
  simp [andThen, lift, hs, den.eq_1, Prod.ext_iff]

/-- **schedule independence**: for every schedule of client events and completions, once everything pending has
    completed, state and emitted commands are those of the synchronous machine on the same client events -/
theorem actAll_settle_init (env : Env) (acts : List Act) :
    actAll env (.settled init) acts >>> settle env = lift (syncAll env init (insOf acts)) := by
  have h := actAll_den env (.settled init) acts
  rw [den, pure_andThen] at h
  simp only [settle_den, ← h, andThen, lift]

end MitmVerif.C21
