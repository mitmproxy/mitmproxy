/-
  C28 — lemmas about the two UTF-8 automata of the model and about the Fragmentizer.
  UTF-8: `san` (decode with replacement, encode again) and the strict incremental decoder `goS` do the same where the
  strict one accepts.  `StrictOk x` (accepted completely and handed over unchanged) is the notion of "is UTF-8" the lemmas
  are stated in; `strictOk_iff_san` ties it to `san x = x`, the form the property statements use.
  Fragmentizer: the slices, each as it is sent, concatenate to the content as it is sent (a text cut never falls inside a
  character), and an unmodified message gets its own fragments back.
-/
import MitmVerif.Model.C28
namespace MitmVerif.C28

/-! ### bytes of Unicode table 3-7 -/

theorem secondOk_cont (b0 x : UInt8) (h : secondOk b0 x = true) : isCont x = true := by
  simp only [secondOk] at h
  simp only [isCont, Bool.and_eq_true, decide_eq_true_eq]
  repeat' (split at h)
  all_goals (simp only [Bool.and_eq_true, decide_eq_true_eq] at h; omega)

theorem accepts_cont (p : Bytes) (x : UInt8) (h : accepts p x = true) : isCont x = true := by
  unfold accepts at h
  split at h
  · simp at h
  · exact secondOk_cont _ _ h
  · exact h

theorem isCont_seqLen (x : UInt8) (h : isCont x = true) : seqLen x = 0 := by
  simp only [isCont, Bool.and_eq_true, decide_eq_true_eq] at h
  simp only [seqLen]
  repeat' split
  all_goals omega

theorem seqLen_cases (a : UInt8) :
    (seqLen a = 1 ∧ a.toNat < 0x80) ∨ (seqLen a = 2 ∧ 0xC2 ≤ a.toNat ∧ a.toNat ≤ 0xDF) ∨
    (seqLen a = 3 ∧ 0xE0 ≤ a.toNat ∧ a.toNat ≤ 0xEF) ∨ (seqLen a = 4 ∧ 0xF0 ≤ a.toNat ∧ a.toNat ≤ 0xF4) ∨ seqLen a = 0 := by
  simp only [seqLen]
  repeat' split
  all_goals simp_all
  all_goals omega

theorem secondOk_of_cont2 (a b : UInt8) (h1 : 0xC2 ≤ a.toNat) (h2 : a.toNat ≤ 0xDF) (hb : isCont b = true) :
    secondOk a b = true := by
  have e1 : a ≠ 0xE0 := by intro h; subst h; simp at h2
  have e2 : a ≠ 0xED := by intro h; subst h; simp at h2
  have e3 : a ≠ 0xF0 := by intro h; subst h; simp at h2
  have e4 : a ≠ 0xF4 := by intro h; subst h; simp at h2
  simp only [secondOk, e1, e2, e3, e4, if_false]
  simpa [isCont] using hb

/-! ### the replace automaton at a character boundary -/

/-- a byte that is not a continuation byte ends whatever is pending (as end of input would) and
    is then processed from the initial state -/
theorem go_boundary (p : Bytes) (x : UInt8) (xs : Bytes) (hx : isCont x = false) :
    go p (x :: xs) = flush p ++ go [] (x :: xs) := by
  cases p with
  | nil => simp [flush]
  | cons b0 rest =>
    have hacc : accepts (b0 :: rest) x = false := by
      cases h : accepts (b0 :: rest) x with
      | false => rfl
      | true => have := accepts_cont _ _ h; simp [hx] at this
    simp [go, stepB, hacc, flush, List.append_assoc]

/-- output and final pending sequence after feeding `a` -/
def goSt (p : Bytes) : Bytes → Bytes × Bytes
  | [] => ([], p)
  | x :: xs => ((stepB p x).1 ++ (goSt (stepB p x).2 xs).1, (goSt (stepB p x).2 xs).2)

theorem go_append (p a b : Bytes) : go p (a ++ b) = (goSt p a).1 ++ go (goSt p a).2 b := by
  induction a generalizing p with
  | nil => simp [goSt]
  | cons x xs ih => simp [go, goSt, ih, List.append_assoc]

theorem go_eq_goSt (p a : Bytes) : go p a = (goSt p a).1 ++ flush (goSt p a).2 := by
  have := go_append p a []
  simpa [go] using this

theorem san_append_boundary (a b : Bytes) (hb : b = [] ∨ ∃ x xs, b = x :: xs ∧ isCont x = false) :
    san (a ++ b) = san a ++ san b := by
  unfold san
  rcases hb with rfl | ⟨x, xs, rfl, hx⟩
  · simp [go, flush]
  · rw [go_append, go_boundary _ _ _ hx, go_eq_goSt [] a, List.append_assoc]

theorem san_nil : san [] = [] := by simp [san, go, flush]

/-- a continuation byte at the head would come out as U+FFFD, whose first byte 0xEF is not one -/
theorem san_fix_head (x : UInt8) (xs : Bytes) (h : san (x :: xs) = x :: xs) : isCont x = false := by
  cases hc : isCont x with
  | false => rfl
  | true =>
    have hl := isCont_seqLen x hc
    have : san (x :: xs) = FFFD ++ go [] xs := by
      simp [san, go, stepB, start, hl]
    rw [this] at h
    have hx : x = 0xEF := (List.cons.inj h).1.symm
    subst hx
    exact absurd hc (by decide)

/-! ### the strict incremental decoder -/

theorem stepS_spec (p : Bytes) (x : UInt8) (r : Bytes × Bytes) (h : stepS p x = some r) :
    stepB p x = r ∧ p ++ [x] = r.1 ++ r.2 := by
  unfold stepS at h
  unfold stepB
  split at h
  · simp only [start]
    split at h
    · simp at h; subst h; simp [*]
    · split at h
      · simp at h
      · simp at h; subst h; simp [*]
  · rename_i b0 rest
    split at h
    · rename_i hacc
      simp only [hacc, if_true]
      split at h <;> (simp at h; subst h; simp_all)
    · simp at h

theorem goS_conserves (a p : Bytes) (r : Bytes × Bytes) (h : goS p a = some r) : p ++ a = r.1 ++ r.2 := by
  fun_induction goS p a generalizing r with
  | case1 p => cases h; simp
  | case2 p x xs hs => cases h
  | case3 p x xs r1 hs ih =>
    obtain ⟨r2, hg, rfl⟩ := Option.map_eq_some_iff.1 h
    rw [List.append_assoc, ← ih r2 hg, ← List.append_assoc, ← (stepS_spec p x r1 hs).2]
    simp

theorem goS_goSt (a p : Bytes) (r : Bytes × Bytes) (h : goS p a = some r) : goSt p a = r := by
  fun_induction goS p a generalizing r with
  | case1 p => cases h; rfl
  | case2 p x xs hs => cases h
  | case3 p x xs r1 hs ih =>
    obtain ⟨r2, hg, rfl⟩ := Option.map_eq_some_iff.1 h
    simp only [goSt, (stepS_spec p x r1 hs).1, ih r2 hg]

theorem goS_append (a b p : Bytes) : goS p (a ++ b) =
    match goS p a with
    | none => none
    | some r => (goS r.2 b).map (fun r2 => (r.1 ++ r2.1, r2.2)) := by
  fun_induction goS p a with
  | case1 p => simp
  | case2 p x xs hs => simp [goS, hs]
  | case3 p x xs r1 hs ih =>
    simp only [List.cons_append, goS, hs, ih]
    cases goS r1.2 xs with
    | none => rfl
    | some r2 => simp [Function.comp_def]

theorem strict_valid (a o : Bytes) (h : goS [] a = some (o, [])) : o = a ∧ san a = a := by
  have hc := goS_conserves a [] (o, []) h
  simp at hc
  refine ⟨hc.symm, ?_⟩
  have hg := goS_goSt a [] (o, []) h
  rw [san, go_eq_goSt, hg]
  simp [flush, hc]

def StrictOk (x : Bytes) : Prop := goS [] x = some (x, [])

theorem strictOk_nil : StrictOk [] := rfl

theorem strictOk_append (a b : Bytes) (ha : StrictOk a) (hb : StrictOk b) : StrictOk (a ++ b) := by
  unfold StrictOk at *
  rw [goS_append, ha]
  simp [hb]

theorem strictOk_wfChar (ch : Bytes) (h : wfChar ch = true) : StrictOk ch := by
  unfold wfChar at h
  split at h
  · rename_i a
    simp only [decide_eq_true_eq] at h
    have : seqLen a = 1 := by simp [seqLen, h]
    simp [StrictOk, goS, stepS, this]
  · rename_i a b
    simp only [Bool.and_eq_true, decide_eq_true_eq] at h
    obtain ⟨⟨h1, h2⟩, hb⟩ := h
    have hl : seqLen a = 2 := by
      simp only [seqLen]; rw [if_neg (by omega), if_pos ⟨h1, h2⟩]
    have hs := secondOk_of_cont2 a b h1 h2 hb
    simp [StrictOk, goS, stepS, hl, accepts, hs]
  · rename_i a b c
    simp only [Bool.and_eq_true, decide_eq_true_eq] at h
    obtain ⟨⟨⟨h1, h2⟩, hb⟩, hc⟩ := h
    have hl : seqLen a = 3 := by
      simp only [seqLen]; rw [if_neg (by omega), if_neg (by omega), if_pos ⟨h1, h2⟩]
    simp [StrictOk, goS, stepS, hl, accepts, hb, hc]
  · rename_i a b c d
    simp only [Bool.and_eq_true, decide_eq_true_eq] at h
    obtain ⟨⟨⟨⟨h1, h2⟩, hb⟩, hc⟩, hd⟩ := h
    have hl : seqLen a = 4 := by
      simp only [seqLen]; rw [if_neg (by omega), if_neg (by omega), if_neg (by omega), if_pos ⟨h1, h2⟩]
    simp [StrictOk, goS, stepS, hl, accepts, hb, hc, hd]
  · simp at h

theorem strictOk_wf (chars : List Bytes) (h : ∀ ch ∈ chars, wfChar ch = true) : StrictOk chars.flatten := by
  induction chars with
  | nil => exact strictOk_nil
  | cons ch rest ih =>
    exact strictOk_append _ _ (strictOk_wfChar ch (h ch (by simp))) (ih (fun c hc => h c (List.mem_cons_of_mem _ hc)))

/-- every concatenation of well-formed characters — i.e. every UTF-8 string — is left unchanged
    by decode-with-replacement -/
theorem san_wf (chars : List Bytes) (h : ∀ ch ∈ chars, wfChar ch = true) : san chars.flatten = chars.flatten :=
  (strict_valid _ _ (strictOk_wf chars h)).2

theorem incDecode_goS (p c : Bytes) (final : Bool) (r : Bytes × Bytes) (h : incDecode p c final = some r) :
    goS p c = some r ∧ (final = true → r.2 = []) := by
  unfold incDecode at h
  split at h
  · cases h
  · rename_i r' hg
    split at h
    · cases h
    · rename_i hf
      cases h
      exact ⟨hg, fun hfin => by simpa [hfin] using hf⟩

/-- all frames of one text message: the event data concatenate to what the whole-message decoder
    yields, and nothing is held back at the end -/
theorem decodeChunks_goS (cs : List Bytes) (p : Bytes) (outs : List Bytes) (p' : Bytes)
    (h : decodeChunks p cs = some (outs, p')) :
    goS p cs.flatten = some (outs.flatten, p') ∧ (cs ≠ [] → p' = []) := by
  fun_induction decodeChunks p cs generalizing outs p' with
  | case1 p => cases h; simp [goS]
  | case2 p c =>
    obtain ⟨⟨o, q⟩, hi, heq⟩ := Option.map_eq_some_iff.1 h
    cases heq
    obtain ⟨hg, hf⟩ := incDecode_goS p c true _ hi
    cases hf rfl
    simp [hg]
  | case3 => cases h
  | case4 p c rest _ r hi ih =>
    obtain ⟨r2, hd, heq⟩ := Option.map_eq_some_iff.1 h
    cases heq
    obtain ⟨hg2, hf2⟩ := ih r2.1 r2.2 hd
    refine ⟨?_, fun _ => hf2 ‹_›⟩
    rw [List.flatten_cons, goS_append, (incDecode_goS p c false r hi).1]
    simp [hg2]

theorem decodeChunks_length (cs : List Bytes) (p : Bytes) (r : List Bytes × Bytes)
    (h : decodeChunks p cs = some r) : r.1.length = cs.length := by
  fun_induction decodeChunks p cs generalizing r with
  | case1 => cases h; rfl
  | case2 =>
    obtain ⟨_, _, rfl⟩ := Option.map_eq_some_iff.1 h
    rfl
  | case3 => cases h
  | case4 _ _ _ _ _ _ ih =>
    obtain ⟨r2, hd, rfl⟩ := Option.map_eq_some_iff.1 h
    simp [ih r2 hd]

theorem decoded_ne_nil (cs outs : List Bytes) (p' : Bytes) (hne : cs ≠ [])
    (hdec : decodeChunks [] cs = some (outs, p')) : outs ≠ [] := by
  have := decodeChunks_length cs [] (outs, p') hdec
  intro h; subst h; simp at this; exact hne (List.length_eq_zero_iff.mp this.symm)

theorem pend_snoc (b0 : UInt8) (rest : Bytes) (x : UInt8) (hp : pendOk (b0 :: rest) = true)
    (ha : accepts (b0 :: rest) x = true) :
    ((b0 :: rest).length + 1 = seqLen b0 → wfChar (b0 :: rest ++ [x]) = true) ∧
    ((b0 :: rest).length + 1 ≠ seqLen b0 → pendOk (b0 :: rest ++ [x]) = true) := by
  have hx := accepts_cont _ _ ha
  match rest, hp, ha with
  | [], hp, ha | [_], hp, ha | [_, _], hp, ha =>
    rcases seqLen_cases b0 with c | c | c | c | c <;> simp [pendOk, wfChar, accepts, c, hx] at hp ha ⊢ <;> simp_all
  | _ :: _ :: _ :: _, hp, _ => simp [pendOk] at hp

theorem stepS_wf (p : Bytes) (x : UInt8) (o p' : Bytes) (hp : pendOk p = true) (h : stepS p x = some (o, p')) :
    pendOk p' = true ∧ StrictOk o := by
  revert h
  fun_cases stepS p x
  case case1 h1 =>
    rintro ⟨⟩
    exact ⟨rfl, strictOk_wfChar _ (by rcases seqLen_cases x with c | c | c | c | c <;> simp_all [wfChar])⟩
  case case3 h1 h0 =>
    rintro ⟨⟩
    exact ⟨by rcases seqLen_cases x with c | c | c | c | c <;> simp_all [pendOk], strictOk_nil⟩
  case case4 b0 rest ha hl =>
    simp only [ha, hl, if_true]
    rintro ⟨⟩
    exact ⟨rfl, strictOk_wfChar _ ((pend_snoc b0 rest x hp ha).1 hl)⟩
  case case5 b0 rest ha hl =>
    simp only [ha, hl, if_true, if_false]
    rintro ⟨⟩
    exact ⟨(pend_snoc b0 rest x hp ha).2 hl, strictOk_nil⟩
  case case6 b0 rest ha => simp only [ha]; nofun
  case case2 => nofun

/-- every piece the strict incremental decoder hands over is itself UTF-8 — whatever was held
    back from the previous frame -/
theorem goS_out_valid (a p o p' : Bytes) (hp : pendOk p = true) (h : goS p a = some (o, p')) :
    pendOk p' = true ∧ StrictOk o := by
  fun_induction goS p a generalizing o p' with
  | case1 p => cases h; exact ⟨hp, strictOk_nil⟩
  | case2 p x xs hs => cases h
  | case3 p x xs r1 hs ih =>
    obtain ⟨r2, hg, heq⟩ := Option.map_eq_some_iff.1 h
    cases heq
    obtain ⟨hp1, ho1⟩ := stepS_wf p x r1.1 r1.2 hp hs
    obtain ⟨hp2, ho2⟩ := ih r2.1 r2.2 hp1 hg
    exact ⟨hp2, strictOk_append _ _ ho1 ho2⟩

theorem decodeChunks_valid (cs : List Bytes) (p : Bytes) (outs : List Bytes) (p' : Bytes) (hp : pendOk p = true)
    (h : decodeChunks p cs = some (outs, p')) : ∀ o ∈ outs, san o = o := by
  fun_induction decodeChunks p cs generalizing outs p' with
  | case1 p => cases h; simp
  | case2 p c =>
    obtain ⟨r, hi, heq⟩ := Option.map_eq_some_iff.1 h
    cases heq
    simpa using (strict_valid _ _ (goS_out_valid c p r.1 r.2 hp (incDecode_goS p c true r hi).1).2).2
  | case3 => cases h
  | case4 p c rest _ r hi ih =>
    obtain ⟨r2, hd, heq⟩ := Option.map_eq_some_iff.1 h
    cases heq
    obtain ⟨hp1, hv⟩ := goS_out_valid c p r.1 r.2 hp (incDecode_goS p c false r hi).1
    exact List.forall_mem_cons.2 ⟨(strict_valid _ _ hv).2, ih r2.1 r2.2 hp1 hd⟩

/-! ### what the relay sends as text is accepted by the strict decoder -/

theorem strictOk_FFFD : StrictOk FFFD := rfl

/-- the replace automaton only ever emits whole well-formed characters -/
theorem stepB_wf (p : Bytes) (x : UInt8) (hp : pendOk p = true) :
    pendOk (stepB p x).2 = true ∧ StrictOk (stepB p x).1 := by
  have hstart : pendOk (start x).2 = true ∧ StrictOk (start x).1 := by
    unfold start
    rcases seqLen_cases x with c | c | c | c | c
    · simp only [c.1, if_true]
      exact ⟨rfl, strictOk_wfChar [x] (by simp [wfChar, c.2])⟩
    · simp only [c.1]; exact ⟨by simp [pendOk, c.1], strictOk_nil⟩
    · simp only [c.1]; exact ⟨by simp [pendOk, c.1], strictOk_nil⟩
    · simp only [c.1]; exact ⟨by simp [pendOk, c.1], strictOk_nil⟩
    · simp only [c]; exact ⟨rfl, strictOk_FFFD⟩
  cases hs : stepS p x with
  | some r =>
    obtain ⟨h1, h2⟩ := stepS_wf p x r.1 r.2 hp hs
    rw [(stepS_spec p x r hs).1]
    exact ⟨h1, h2⟩
  | none =>
    -- the strict decoder fails: the replace automaton emits U+FFFD (unless nothing is pending) and restarts on x
    match p, hp with
    | [], _ => simpa [stepB] using hstart
    | b0 :: rest, _ =>
      have hacc : accepts (b0 :: rest) x = false := by
        cases ha : accepts (b0 :: rest) x with
        | false => rfl
        | true => simp [stepS, ha] at hs; split at hs <;> simp at hs
      simp only [stepB, hacc, Bool.false_eq_true, if_false]
      exact ⟨hstart.1, strictOk_append _ _ strictOk_FFFD hstart.2⟩

theorem go_wf (a p : Bytes) (hp : pendOk p = true) : StrictOk (go p a) := by
  induction a generalizing p with
  | nil =>
    unfold go flush
    split
    · exact strictOk_nil
    · exact strictOk_FFFD
  | cons x xs ih => exact strictOk_append _ _ (stepB_wf p x hp).2 (ih _ (stepB_wf p x hp).1)

/-- what `Fragmentizer.msg` + wsproto put on the wire for a text fragment is always accepted by the receiving
    endpoint's strict decoder, completely and unchanged -/
theorem strictOk_san (x : Bytes) : StrictOk (san x) := go_wf x [] rfl

theorem strictOk_iff_san (x : Bytes) : StrictOk x ↔ san x = x :=
  ⟨fun h => (strict_valid x x h).2, fun h => h ▸ strictOk_san x⟩

theorem san_append_valid (x d : Bytes) (hx : san x = x) (hd : san d = d) : san (x ++ d) = x ++ d :=
  (strictOk_iff_san _).1 (strictOk_append x d ((strictOk_iff_san x).2 hx) ((strictOk_iff_san d).2 hd))

theorem incDecode_strictOk (x : Bytes) (fin : Bool) (h : StrictOk x) : incDecode [] x fin = some (x, []) := by
  unfold incDecode; rw [h]; simp

/-! ### `Fragmentizer.cut` -/

theorem back_le (c : Bytes) (p : Nat) : back c p ≤ p := by
  induction p with
  | zero => simp [back]
  | succ p ih => unfold back; split <;> omega

theorem back_mono (c : Bytes) {p q : Nat} (h : p ≤ q) : back c p ≤ back c q := by
  induction q with
  | zero => have : p = 0 := by omega
            subst this; exact Nat.le_refl _
  | succ q ih =>
    by_cases hpq : p = q + 1
    · subst hpq; exact Nat.le_refl _
    · have hp : p ≤ q := by omega
      have := ih hp
      have hle := back_le c p
      conv => rhs; unfold back
      split <;> omega

theorem back_boundary (c : Bytes) (p : Nat) :
    back c p = 0 ∨ c.length ≤ back c p ∨ isCont (c.getD (back c p) 0) = false := by
  induction p with
  | zero => simp [back]
  | succ p ih =>
    unfold back
    split
    · exact ih
    · rename_i h
      by_cases h1 : p + 1 < c.length
      · right; right
        cases hc : isCont (c.getD (p + 1) 0) with
        | false => rfl
        | true => exact absurd ⟨h1, hc⟩ h
      · right; left; omega

theorem back_fix (c : Bytes) (p : Nat)
    (h : p = 0 ∨ c.length ≤ p ∨ isCont (c.getD p 0) = false) : back c p = p := by
  cases p with
  | zero => simp [back]
  | succ p =>
    unfold back
    rw [if_neg]
    intro ⟨h1, h2⟩
    rcases h with h | h | h
    · omega
    · omega
    · rw [h] at h2; exact Bool.noConfusion h2

theorem cut_le (t : Bool) (c : Bytes) (p : Nat) : cut t c p ≤ p := by
  unfold cut; split
  · exact back_le c p
  · exact Nat.le_refl _

theorem cut_mono (t : Bool) (c : Bytes) {p q : Nat} (h : p ≤ q) : cut t c p ≤ cut t c q := by
  unfold cut; split
  · exact back_mono c h
  · exact h

/-! ### running sums -/

theorem prefixSums_ge (acc : Nat) (l : List Nat) : ∀ x ∈ prefixSums acc l, acc ≤ x := by
  induction l generalizing acc with
  | nil => simp [prefixSums]
  | cons a l ih =>
    intro x hx
    simp only [prefixSums, List.mem_cons] at hx
    rcases hx with rfl | hx
    · omega
    · have := ih _ x hx; omega

theorem prefixSums_sorted (acc : Nat) (l : List Nat) : (prefixSums acc l).Pairwise (· ≤ ·) := by
  induction l generalizing acc with
  | nil => simp [prefixSums]
  | cons a l ih =>
    simp only [prefixSums, List.pairwise_cons]
    exact ⟨fun x hx => prefixSums_ge _ _ x hx, ih _⟩

/-! ### the slices -/

theorem drop_split (c : Bytes) {start e : Nat} (h : start ≤ e) :
    (c.drop start).take (e - start) ++ c.drop e = c.drop start := by
  have : c.drop e = (c.drop start).drop (e - start) := by
    rw [List.drop_drop]; congr 1; omega
  rw [this, List.take_append_drop]

theorem drop_back_boundary (c : Bytes) (p : Nat) (h0 : back c p ≠ 0) :
    c.drop (back c p) = [] ∨ ∃ x xs, c.drop (back c p) = x :: xs ∧ isCont x = false := by
  rcases back_boundary c p with h | h | h
  · exact absurd h h0
  · left; exact List.drop_eq_nil_of_le h
  · by_cases hl : back c p < c.length
    · right
      refine ⟨c[back c p], c.drop (back c p + 1), ?_, ?_⟩
      · exact List.drop_eq_getElem_cons hl
      · have : c.getD (back c p) 0 = c[back c p] := by simp [List.getD, hl]
        rw [this] at h; exact h
    · left; exact List.drop_eq_nil_of_le (by omega)

/-- the slices, each as it is sent, concatenate to the content as it is sent: a text cut never falls inside a character -/
theorem pieces_payload (t : Bool) (c : Bytes) (cuts : List Nat) (start : Nat)
    (h1 : ∀ p ∈ cuts, start ≤ cut t c p) (h2 : cuts.Pairwise (· ≤ ·)) :
    ((pieces t c start cuts).map (fun pf => payload t pf.1)).flatten = payload t (c.drop start) := by
  induction cuts generalizing start with
  | nil => simp [pieces]
  | cons p ps ih =>
    have hs : start ≤ cut t c p := h1 p (by simp)
    have h2' := List.pairwise_cons.mp h2
    simp only [pieces, List.map_cons, List.flatten_cons]
    rw [ih (cut t c p) (fun q hq => cut_mono t c (h2'.1 q hq)) h2'.2]
    have hsplit := drop_split c hs
    cases t with
    | false => exact hsplit
    | true =>
      simp only [payload, if_true]
      by_cases he : cut true c p = start
      · rw [he]; simp [san_nil]
      · have hcut : cut true c p = back c p := by simp [cut]
        rw [hcut] at hsplit he ⊢
        rw [← san_append_boundary _ _ (drop_back_boundary c p (by omega)), hsplit]

theorem pieces_wellFramed (t : Bool) (c : Bytes) (cuts : List Nat) (start : Nat) :
    wellFramed (pieces t c start cuts) = true := by
  induction cuts generalizing start with
  | nil => simp [pieces, wellFramed]
  | cons p ps ih =>
    have := ih (cut t c p)
    cases hps : pieces t c (cut t c p) ps with
    | nil => rw [hps] at this; simp [wellFramed] at this
    | cons q qs => simp only [pieces, hps, wellFramed]; rw [hps] at this; simpa using this

theorem wellFramed_map (f : Bytes → Bytes) (l : List (Bytes × Bool)) :
    wellFramed (l.map (fun pf => (f pf.1, pf.2))) = wellFramed l := by
  induction l with
  | nil => rfl
  | cons a l ih =>
    cases l with
    | nil => simp [wellFramed]
    | cons b l => simp only [List.map_cons, wellFramed] at ih ⊢; rw [ih]

/-! ### Fragmentizer as a whole -/

theorem fragmentize_wellFramed (fs : Nat) (lens : List Nat) (t : Bool) (c : Bytes) :
    wellFramed (fragmentize fs lens t c) = true := by
  unfold fragmentize
  rw [wellFramed_map (payload t)]
  exact pieces_wellFramed _ _ _ _

theorem fragmentize_wire (fs : Nat) (lens : List Nat) (t : Bool) (c : Bytes) :
    ((fragmentize fs lens t c).map (·.1)).flatten = payload t c := by
  have := pieces_payload t c (nominalCuts fs lens c.length) 0 (fun _ _ => Nat.zero_le _) (prefixSums_sorted _ _)
  simp only [fragmentize, List.map_map]
  simpa [Function.comp_def] using this

theorem fragmentize_binary (fs : Nat) (lens : List Nat) (c : Bytes) :
    ((fragmentize fs lens false c).map (·.1)).flatten = c :=
  fragmentize_wire fs lens false c

theorem fragmentize_text (fs : Nat) (lens : List Nat) (c : Bytes) :
    ((fragmentize fs lens true c).map (·.1)).flatten = san c :=
  fragmentize_wire fs lens true c

/-- every fragment the relay sends (`fragmentize`) is complete UTF-8 when the message is text -/
theorem fragmentize_strictOk (fs : Nat) (lens : List Nat) (c : Bytes) :
    ∀ pf ∈ fragmentize fs lens true c, StrictOk pf.1 := by
  intro pf hpf
  unfold fragmentize at hpf
  obtain ⟨q, _, rfl⟩ := List.mem_map.mp hpf
  simp only [payload, if_true]
  exact strictOk_san q.1

/-! ### fragments and their flags -/

theorem flagged_map (f : Bytes → Bytes) (l : List Bytes) :
    (flagged l).map (fun pf => (f pf.1, pf.2)) = flagged (l.map f) := by
  induction l with
  | nil => rfl
  | cons a l ih =>
    cases l with
    | nil => rfl
    | cons b l => simp only [flagged, List.map_cons] at ih ⊢; rw [ih]

theorem flagged_map_fst (l : List Bytes) : (flagged l).map (·.1) = l := by
  fun_induction flagged l <;> simp_all

theorem flagged_wellFramed (l : List Bytes) (h : l ≠ []) : wellFramed (flagged l) = true := by
  fun_induction flagged l with
  | case1 => exact absurd rfl h
  | case2 => rfl
  | case3 f rest hne ih =>
    have := ih hne
    cases hfl : flagged rest with
    | nil => rw [hfl] at this; cases this
    | cons q qs => simpa [wellFramed, hfl] using this

theorem flagged_of_wellFramed (fr : List (Bytes × Bool)) (h : wellFramed fr = true) :
    flagged (fr.map (·.1)) = fr := by
  fun_induction wellFramed fr with
  | case1 => cases h
  | case2 p fin => subst h; rfl
  | case3 p fin rest hne ih =>
    simp only [Bool.and_eq_true, Bool.not_eq_true'] at h
    obtain ⟨rfl, hwf⟩ := h
    cases rest with
    | nil => exact absurd rfl hne
    | cons q rest' => simpa [flagged] using ih hwf

/-! ### unmodified messages -/

theorem flatten_head (frags : List Bytes)
    (h : ∀ g ∈ frags, ∀ x xs, g = x :: xs → isCont x = false) :
    ∀ x xs, frags.flatten = x :: xs → isCont x = false := by
  induction frags with
  | nil => intro x xs hx; simp at hx
  | cons g rest ih =>
    intro x xs hx
    cases g with
    | nil =>
      simp only [List.flatten_cons, List.nil_append] at hx
      exact ih (fun g' hg' => h g' (List.mem_cons_of_mem _ hg')) x xs hx
    | cons y ys =>
      simp only [List.flatten_cons, List.cons_append, List.cons.injEq] at hx
      have := h (y :: ys) (by simp) y ys rfl
      rw [← hx.1]; exact this

/-- a nominal cut in front of a fragment that does not begin inside a character stays where it is -/
theorem cut_at_boundary (t : Bool) (a b : Bytes) (h : t = true → ∀ x xs, b = x :: xs → isCont x = false) :
    cut t (a ++ b) a.length = a.length := by
  unfold cut
  split
  · rename_i ht
    apply back_fix
    cases b with
    | nil => right; left; simp
    | cons x xs => right; right; simpa [List.getD] using h ht x xs rfl
  · rfl

theorem pieces_unmodified (t : Bool) (rest : List Bytes) :
    ∀ (pre f : Bytes), (t = true → ∀ g ∈ rest, ∀ x xs, g = x :: xs → isCont x = false) →
    pieces t (pre ++ (f :: rest).flatten) pre.length
      (prefixSums pre.length (((f :: rest).map List.length).dropLast)) = flagged (f :: rest) := by
  induction rest with
  | nil =>
    intro pre f _
    simp [prefixSums, pieces, flagged]
  | cons g rest ih =>
    intro pre f hh
    have hcut := cut_at_boundary t (pre ++ f) (g :: rest).flatten (fun ht => flatten_head (g :: rest) (hh ht))
    have := ih (pre ++ f) g (fun ht g' hg' => hh ht g' (List.mem_cons_of_mem _ hg'))
    simp only [List.map_cons, List.flatten_cons, List.length_append, List.append_assoc] at hcut this
    simp only [List.map_cons, List.dropLast_cons_cons, prefixSums, pieces, flagged, List.flatten_cons, hcut, this]
    simp

/-- `Fragmentizer(fragments, is_text)(b"".join(fragments))` returns the fragments themselves -/
theorem fragmentize_unmodified (fs : Nat) (t : Bool) (frags : List Bytes) (hne : frags ≠ [])
    (hv : t = true → ∀ f ∈ frags, san f = f) :
    fragmentize fs (frags.map List.length) t frags.flatten = flagged frags := by
  cases frags with
  | nil => exact absurd rfl hne
  | cons f rest =>
    have hcuts : nominalCuts fs ((f :: rest).map List.length) (f :: rest).flatten.length
        = prefixSums 0 (((f :: rest).map List.length).dropLast) := by
      unfold nominalCuts stepLens
      rw [if_pos]
      simp [List.length_flatten]
    unfold fragmentize
    rw [hcuts]
    have hhead : t = true → ∀ g ∈ rest, ∀ x xs, g = x :: xs → isCont x = false := by
      intro ht g hg x xs hgx
      have := hv ht g (List.mem_cons_of_mem _ hg)
      rw [hgx] at this
      exact san_fix_head x xs this
    have := pieces_unmodified t rest [] f hhead
    simp only [List.nil_append, List.length_nil] at this
    rw [this, flagged_map]
    have hid : (f :: rest).map (payload t) = f :: rest := by
      have : ∀ a ∈ f :: rest, payload t a = id a := by
        intro a ha
        cases t with
        | false => simp [payload]
        | true => simpa [payload] using hv rfl a ha
      rw [List.map_congr_left this, List.map_id]
    rw [hid]

end MitmVerif.C28
