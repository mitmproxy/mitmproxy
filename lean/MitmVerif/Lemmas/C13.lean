/-
  C13 — what the functions of Model/C13.lean and Model/C13_Idna.lean do, in the order the property theorems need it:
  the record layer and `get_client_hello` when bytes are appended (`getHello_append`) and on records written by
  `Build.mkRecord` (`getHello_records`); the handshake header and the kaitai readers on what the structured builder
  wrote (`complete?_message`, `parseBody_enc`); the accessors on the views of built extensions (`sni_view`, `alpn_view`);
  `is_valid_host` on names without `xn--` (`validHost_noAce`) and on names joined from labels (`splitDot_eq`, `joinDot_eq`:
  the model's split and join at `.` are `splitSep` and `joinBy` of Lemmas/Split, whose theory is used); the idna codec
  (`toUnicode_eq_some`, `decodeIdna_ascii`).
-/
import MitmVerif.Model.C13
import MitmVerif.Model.C13_Idna
import MitmVerif.Lemmas.Split

namespace MitmVerif.C13
open MitmVerif MitmVerif.C13.Build MitmVerif.C13.Idna

theorem getD_append_left (l q : Bytes) (i : Nat) (h : i < l.length) :
    (l ++ q).getD i 0 = l.getD i 0 := by
  simp [List.getD_eq_getElem?_getD, List.getElem?_append_left h]

theorem hdrLen_pos (dtls : Bool) : 5 ≤ hdrLen dtls := by
  unfold hdrLen; split <;> omega

theorem nextRecord_ok_length {dtls : Bool} {d b r : Bytes}
    (h : nextRecord dtls d = .ok (b, r)) : r.length < d.length := by
  have := hdrLen_pos dtls
  revert h
  fun_cases nextRecord dtls d <;> intro h <;> cases h
  rw [List.length_drop]; omega

theorem nextRecord_append (dtls : Bool) (d q : Bytes) (hne : nextRecord dtls d ≠ .incomplete) :
    nextRecord dtls (d ++ q) =
      match nextRecord dtls d with
      | .ok (b, r) => .ok (b, r ++ q)
      | x => x := by
  revert hne
  fun_cases nextRecord dtls d <;> intro hne
  case case1 | case4 => exact absurd rfl hne
  all_goals
    simp +zetaDelta only at *
    have hn : hdrLen dtls ≤ d.length := by omega
    unfold nextRecord
    simp only [List.take_append_of_le_length hn, List.length_append]
    rw [if_neg (by omega)]
  case case2 h2 => exact if_pos h2
  case case3 h2 _ h3 => rw [if_neg h2]; exact if_pos h3
  case case5 h2 _ h3 h4 =>
    have h4 := Nat.le_of_not_lt h4
    rw [if_neg h2, if_neg h3, if_neg (by omega)]
    congr 2
    · rw [List.drop_append_of_le_length hn, List.take_append_of_le_length]
      rw [List.length_drop]; omega
    · rw [List.drop_append_of_le_length h4]

theorem getHelloF_fuel (dtls : Bool) : ∀ (f1 f2 : Nat) (acc d : Bytes),
    d.length < f1 → d.length < f2 → getHelloF f1 dtls acc d = getHelloF f2 dtls acc d := by
  intro f1
  induction f1 with
  | zero => intro f2 acc d h; omega
  | succ f1 ih =>
    intro f2 acc d h1 h2
    cases f2 with
    | zero => omega
    | succ f2 =>
      simp only [getHelloF]
      cases hr : nextRecord dtls d with
      | incomplete => rfl
      | invalid => rfl
      | ok p =>
        obtain ⟨b, r⟩ := p
        have := nextRecord_ok_length hr
        simp only
        cases complete? dtls (acc ++ b) with
        | some m => rfl
        | none => exact ih f2 (acc ++ b) r (by omega) (by omega)

/-- one loop iteration of `get_client_hello`, fuel-free -/
theorem getHello_step (dtls : Bool) (acc d : Bytes) :
    getHello dtls acc d =
      match nextRecord dtls d with
      | .incomplete => .incomplete
      | .invalid => .invalid
      | .ok (b, r) =>
        match complete? dtls (acc ++ b) with
        | some m => .ok m
        | none => getHello dtls (acc ++ b) r := by
  show getHelloF (d.length + 1) dtls acc d = _
  rw [getHelloF]
  cases hr : nextRecord dtls d with
  | incomplete => rfl
  | invalid => rfl
  | ok p =>
    obtain ⟨b, r⟩ := p
    have := nextRecord_ok_length hr
    simp only
    cases complete? dtls (acc ++ b) with
    | some m => rfl
    | none =>
      simp only
      unfold getHello
      exact getHelloF_fuel dtls _ _ _ _ (by omega) (by omega)

theorem getHello_append (dtls : Bool) (q acc d : Bytes) (hne : getHello dtls acc d ≠ .incomplete) :
    getHello dtls acc (d ++ q) = getHello dtls acc d := by
  rw [getHello_step] at hne
  rw [getHello_step, getHello_step dtls acc d]
  cases hr : nextRecord dtls d with
  | incomplete => rw [hr] at hne; exact absurd rfl hne
  | invalid => rw [nextRecord_append dtls d q (by rw [hr]; nofun), hr]
  | ok p =>
    obtain ⟨b, r⟩ := p
    rw [hr] at hne
    rw [nextRecord_append dtls d q (by rw [hr]; nofun), hr]
    simp only at hne ⊢
    cases hc : complete? dtls (acc ++ b) with
    | some m => rfl
    | none =>
      rw [hc] at hne
      have := nextRecord_ok_length hr
      exact getHello_append dtls q (acc ++ b) r hne
termination_by d.length

/-- any outcome of `parse` other than "incomplete" is final -/
theorem parse_append (dtls : Bool) (p q : Bytes) (hp : parse dtls p ≠ .incomplete) :
    parse dtls (p ++ q) = parse dtls p := by
  unfold parse at hp ⊢
  rw [getHello_append dtls q [] p (fun h => hp (by rw [h]))]

theorem be16_w16 (n : Nat) (h : n < 65536) :
    be16 (UInt8.ofNat (n / 256)) (UInt8.ofNat (n % 256)) = n := by
  simp only [be16, UInt8.toNat_ofNat']; omega

theorem be24_w24 (n : Nat) (h : n < 16777216) :
    be24 (UInt8.ofNat (n / 65536)) (UInt8.ofNat (n / 256 % 256)) (UInt8.ofNat (n % 256)) = n := by
  simp only [be24, UInt8.toNat_ofNat']; omega

theorem startsLike_append (dtls : Bool) (pre x : Bytes) (h : 3 ≤ pre.length) :
    startsLike dtls (pre ++ x) = startsLike dtls pre := by
  match pre, h with
  | a :: b :: c :: r, _ => simp [startsLike]

theorem contains_filter_range (p : Nat → Bool) (n c : Nat) (hc : c < n) :
    ((List.range n).filter p).contains c = p c := by
  rw [Bool.eq_iff_iff, List.contains_iff_mem, List.mem_filter, List.mem_range]
  exact ⟨fun h => h.2, fun h => ⟨hc, h⟩⟩

theorem nextRecord_header (dtls : Bool) (pre rest : Bytes) (n : Nat)
    (hpre : pre.length + 2 = hdrLen dtls) (hs : startsLike dtls pre = true) (hpos : 0 < n) (hlt : n < 65536) :
    nextRecord dtls (pre ++ w16 n ++ rest) =
      if rest.length < n then .incomplete else .ok (rest.take n, rest.drop n) := by
  have h5 := hdrLen_pos dtls
  have hhdr : (pre ++ w16 n).length = hdrLen dtls := by simp [w16]; omega
  unfold nextRecord
  simp only
  rw [List.take_left' hhdr, List.length_append, hhdr, if_neg (by omega), startsLike_append dtls pre _ (by omega), hs]
  have hg1 : (pre ++ w16 n).getD (hdrLen dtls - 2) 0 = UInt8.ofNat (n / 256) := by
    have : hdrLen dtls - 2 = pre.length := by omega
    rw [this]; simp [w16, List.getD_eq_getElem?_getD]
  have hg2 : (pre ++ w16 n).getD (hdrLen dtls - 1) 0 = UInt8.ofNat (n % 256) := by
    have : hdrLen dtls - 1 = pre.length + 1 := by omega
    rw [this]; simp [w16, List.getD_eq_getElem?_getD]
  rw [hg1, hg2, be16_w16 _ hlt]
  simp only [if_false, Bool.true_eq_false]
  rw [if_neg (by omega), List.drop_left' hhdr]
  by_cases hr : rest.length < n
  · rw [if_pos hr, if_pos (by omega)]
  · rw [if_neg hr, if_neg (by omega), ← hhdr, ← List.drop_drop, List.drop_left' rfl]

theorem nextRecord_mkRecord (dtls : Bool) (ch : Bytes × Bytes) (rest : Bytes)
    (hv : ValidChunk dtls ch) :
    nextRecord dtls (mkRecord ch.1 ch.2 ++ rest) = .ok (ch.2, rest) := by
  obtain ⟨pre, c⟩ := ch
  obtain ⟨hl, hs, hpos, hlt⟩ := hv
  have hd : mkRecord pre c ++ rest = pre ++ w16 c.length ++ (c ++ rest) := by
    simp [mkRecord, List.append_assoc]
  rw [hd, nextRecord_header dtls pre _ _ hl hs hpos hlt, if_neg (by simp), List.take_left' rfl, List.drop_left' rfl]

theorem helloSize?_append (dtls : Bool) (acc x : Bytes) (n : Nat)
    (h : helloSize? dtls acc = some n) : helloSize? dtls (acc ++ x) = some n := by
  unfold helloSize? at h ⊢
  cases dtls <;> simp only [Bool.false_eq_true, if_false, if_true] at h ⊢ <;> split at h <;> cases h <;>
    rw [if_pos (by rw [List.length_append]; omega), getD_append_left _ _ _ (by omega),
      getD_append_left _ _ _ (by omega), getD_append_left _ _ _ (by omega)]

theorem complete?_append (dtls : Bool) (acc x m : Bytes)
    (h : complete? dtls acc = some m) : complete? dtls (acc ++ x) = some m := by
  unfold complete? at h ⊢
  cases hs : helloSize? dtls acc with
  | none => rw [hs] at h; cases h
  | some n =>
    rw [hs] at h
    rw [helloSize?_append dtls acc x n hs]
    simp only at h ⊢
    split at h
    · rename_i hn
      rw [if_pos (by rw [List.length_append]; omega), List.take_append_of_le_length hn]
      exact h
    · cases h

theorem getHello_nil (dtls : Bool) (acc : Bytes) : getHello dtls acc [] = .incomplete := by
  cases dtls <;> rfl

/-- `complete? dtls acc = none` is the loop condition of `get_client_hello`: with a complete `acc` it would have returned
    before reading `records chunks`. The right-hand side mentions the records only through `contents chunks`. -/
theorem getHello_records (dtls : Bool) : ∀ (chunks : List (Bytes × Bytes)) (acc : Bytes),
    (∀ ch ∈ chunks, ValidChunk dtls ch) → complete? dtls acc = none →
    getHello dtls acc (records chunks) =
      match complete? dtls (acc ++ contents chunks) with
      | some m => .ok m
      | none => .incomplete := by
  intro chunks
  induction chunks with
  | nil =>
    intro acc _ hc
    simp [records, contents, getHello_nil, hc]
  | cons ch cs ih =>
    intro acc hv hc
    have hrec : records (ch :: cs) = mkRecord ch.1 ch.2 ++ records cs := by simp [records]
    have hcon : contents (ch :: cs) = ch.2 ++ contents cs := by simp [contents]
    rw [hrec, getHello_step, nextRecord_mkRecord dtls ch _ (hv ch (by simp)), hcon, ← List.append_assoc]
    simp only
    cases hc2 : complete? dtls (acc ++ ch.2) with
    | some m => simp only; rw [complete?_append dtls _ _ m hc2]
    | none =>
      simp only
      exact ih (acc ++ ch.2) (fun c hc' => hv c (by simp [hc'])) hc2

theorem parse_nil (dtls : Bool) : parse dtls [] = .incomplete := by
  cases dtls <;> rfl

theorem complete?_nil (dtls : Bool) : complete? dtls [] = none := by
  cases dtls <;> rfl

theorem body_length_ge (dtls : Bool) (h : BHello) (hv : h.ver.length = 2) : 2 ≤ (h.body dtls).length := by
  unfold BHello.body; rw [List.length_append]; omega

theorem complete?_message (dtls : Bool) (seq extra : Bytes) (h : BHello)
    (hw : h.WF dtls) (hseq : seq.length = 2) :
    complete? dtls (h.message dtls seq ++ extra) = some (h.message dtls seq) := by
  have hlt := hw.2.2.2.2.2.2.2.2
  have h2 := body_length_ge dtls h hw.1
  have hlen : (h.message dtls seq).length = (h.body dtls).length + msgHdrLen dtls := by
    cases dtls <;> simp [BHello.message, msgHdr, w24, msgHdrLen, hseq] <;> omega
  -- the length field(s) of the handshake header announce the body
  have hsz : helloSize? dtls (h.message dtls seq ++ extra) = some ((h.body dtls).length + msgHdrLen dtls) := by
    match seq, hseq with
    | [s0, s1], _ =>
      cases dtls <;>
        simp [helloSize?, BHello.message, msgHdr, w24, msgHdrLen, List.getD_eq_getElem?_getD, be24_w24 _ hlt]
      -- DTLS wants a thirteenth byte: the body is not empty
      intro hb
      rw [hb] at h2
      simp at h2
  unfold complete?
  rw [hsz]
  simp only
  rw [if_pos (by rw [List.length_append]; omega), ← hlen, List.take_left' rfl]

theorem message_drop (dtls : Bool) (seq : Bytes) (h : BHello) (hseq : seq.length = 2) :
    (h.message dtls seq).drop (msgHdrLen dtls) = h.body dtls := by
  unfold BHello.message
  apply List.drop_left'
  cases dtls <;> simp [msgHdr, w24, msgHdrLen, hseq]

theorem takeN_append (x r : Bytes) : takeN x.length (x ++ r) = some (x, r) := by
  unfold takeN
  rw [if_neg (by simp)]
  simp

theorem takeN_append' (n : Nat) (x r : Bytes) (h : x.length = n) : takeN n (x ++ r) = some (x, r) := by
  subst h; exact takeN_append x r

theorem u1_w8 (n : Nat) (r : Bytes) (h : n < 256) : u1 (w8 n ++ r) = some (n, r) := by
  simp [u1, w8, UInt8.toNat_ofNat']; omega

/-- a 16-bit length field is read and skipped whatever it holds (the sub-parsers run on what follows, to its end) -/
theorem u2_w16_any (n : Nat) (r : Bytes) :
    u2 (w16 n ++ r) = some (be16 (UInt8.ofNat (n / 256)) (UInt8.ofNat (n % 256)), r) := by
  simp [w16, u2]

theorem u2_w16 (n : Nat) (r : Bytes) (h : n < 65536) : u2 (w16 n ++ r) = some (n, r) := by
  rw [u2_w16_any, be16_w16 n h]

theorem u2s_enc : ∀ (cs : List Nat) (r : Bytes), (∀ c ∈ cs, c < 65536) →
    u2s cs.length (cs.flatMap w16 ++ r) = some (cs, r) := by
  intro cs
  induction cs with
  | nil => intro r _; simp [u2s]
  | cons c cs ih =>
    intro r h
    simp only [List.flatMap_cons, List.length_cons, u2s, List.append_assoc, u2_w16 c _ (h c (by simp)),
      ih r (fun x hx => h x (by simp [hx]))]

theorem namesF_enc : ∀ (ns : List (Nat × Bytes)) (f : Nat),
    (∀ n ∈ ns, n.1 < 256 ∧ n.2.length < 65536) → (encNames ns).length ≤ f →
    namesF f (encNames ns) = some ns := by
  intro ns
  induction ns with
  | nil => intro f _ _; cases f <;> simp [encNames, namesF]
  | cons n ns ih =>
    intro f h hf
    obtain ⟨t, nm⟩ := n
    have hw := h (t, nm) (by simp)
    simp only at hw
    have henc : encNames ((t, nm) :: ns) = UInt8.ofNat t :: (w16 nm.length ++ (nm ++ encNames ns)) := by
      simp [encNames, encName, w8, List.append_assoc]
    rw [henc] at hf ⊢
    cases f with
    | zero => simp at hf
    | succ f =>
      simp only [namesF, u2_w16 _ _ hw.2, takeN_append,
        ih f (fun x hx => h x (by simp [hx])) (by simp [w16] at hf; omega)]
      simp [UInt8.toNat_ofNat']; omega

theorem protosF_enc : ∀ (ps : List Bytes) (f : Nat),
    (∀ p ∈ ps, p.length < 256) → (encProtos ps).length ≤ f →
    protosF f (encProtos ps) = some ps := by
  intro ps
  induction ps with
  | nil => intro f _ _; cases f <;> simp [encProtos, protosF]
  | cons p ps ih =>
    intro f h hf
    have hw := h p (by simp)
    have henc : encProtos (p :: ps) = UInt8.ofNat p.length :: (p ++ encProtos ps) := by
      simp [encProtos, encProto, w8]
    rw [henc] at hf ⊢
    cases f with
    | zero => simp at hf
    | succ f =>
      have : (UInt8.ofNat p.length).toNat = p.length := by simp [UInt8.toNat_ofNat']; omega
      simp only [protosF, this, takeN_append, ih f (fun x hx => h x (by simp [hx])) (by simp at hf; omega)]

theorem mkExt_enc (e : BExt) (h : e.WF) : mkExt e.typ e.raw = some e.view := by
  obtain ⟨_, h2⟩ := h
  cases e with
  | sni ns =>
    simp only [BExt.typ, BExt.raw, BExt.view, mkExt, if_true, parseSni]
    simp only [u2_w16_any, namesF_enc ns _ h2 (Nat.le_refl _)]
  | alpn ps =>
    simp only [BExt.typ, BExt.raw, BExt.view, mkExt, parseAlpn]
    simp only [u2_w16_any, if_true, Nat.reduceEqDiff, if_false, protosF_enc ps _ h2 (Nat.le_refl _)]
  | other t r =>
    simp only at h2
    simp [BExt.typ, BExt.raw, BExt.view, mkExt, h2.1, h2.2.1]

theorem extsF_enc : ∀ (es : List BExt) (f : Nat),
    (∀ e ∈ es, e.WF) → (encExts es).length ≤ f →
    extsF f (encExts es) = some (es.map BExt.view) := by
  intro es
  induction es with
  | nil => intro f _ _; cases f <;> simp [encExts, extsF]
  | cons e es ih =>
    intro f h hf
    have hw := h e (by simp)
    have henc : encExts (e :: es) = w16 e.typ ++ (w16 e.raw.length ++ (e.raw ++ encExts es)) := by
      simp [encExts, encExt, List.append_assoc]
    have htyp : e.typ < 65536 := by
      cases e with
      | sni _ => simp [BExt.typ]
      | alpn _ => simp [BExt.typ]
      | other t r => exact hw.2.2.2
    rw [henc] at hf ⊢
    cases f with
    | zero => simp [w16] at hf
    | succ f =>
      have hcons : w16 e.typ ++ (w16 e.raw.length ++ (e.raw ++ encExts es)) =
          UInt8.ofNat (e.typ / 256) :: (UInt8.ofNat (e.typ % 256) :: (w16 e.raw.length ++ (e.raw ++ encExts es))) := by
        simp [w16]
      rw [hcons]
      simp only [extsF]
      rw [← hcons]
      simp only [u2_w16 _ _ htyp, u2_w16 _ _ hw.1, takeN_append, mkExt_enc e hw,
        ih f (fun x hx => h x (by simp [hx])) (by simp [w16] at hf; omega)]
      simp

theorem parseTail_enc (cs : List Nat) (exts : Option (List BExt))
    (h : ∀ es, exts = some es → ∀ e ∈ es, e.WF) :
    parseTail cs (encTail exts) =
      some ⟨cs, viewExts exts⟩ := by
  cases exts with
  | none => simp [parseTail, encTail, viewExts]
  | some es =>
    have hne : (encTail (some es)).isEmpty = false := by simp [encTail, w16]
    unfold parseTail
    rw [hne]
    simp only [Bool.false_eq_true, if_false, encTail, u2_w16_any, extsF_enc es _ (h es rfl) (Nat.le_refl _)]
    rfl

theorem parseBody_enc (dtls : Bool) (h : BHello) (hw : h.WF dtls) :
    parseBody dtls (h.body dtls) = some h.view := by
  obtain ⟨hver, hrnd, hsid, hck, hcl, hcs, hcomp, hexts, _⟩ := hw
  unfold parseBody BHello.body
  have hcookie : ∀ r, skipCookie dtls ((if dtls then w8 h.cookie.length ++ h.cookie else []) ++ r) = some r := by
    intro r
    cases dtls
    · simp [skipCookie]
    · simp only [skipCookie, if_true, List.append_assoc, u1_w8 _ _ hck, takeN_append]
  have : 2 * h.ciphers.length / 2 = h.ciphers.length := by omega
  simp only [takeN_append' 2 h.ver _ hver, takeN_append' 32 h.random _ hrnd, u1_w8 _ _ hsid, takeN_append, hcookie,
    u2_w16 _ _ hcl, this, u2s_enc _ _ hcs, u1_w8 _ _ hcomp, parseTail_enc _ _ hexts]
  rfl

theorem sni_cons (valid : Bytes → Bool) (cs : List Nat) (e : Ext) (exts : List Ext) :
    Hello.sni valid ⟨cs, e :: exts⟩ = (Hello.sni valid ⟨cs, [e]⟩).or (Hello.sni valid ⟨cs, exts⟩) := by
  simp only [Hello.sni, Hello.sniCandidates, List.filterMap_cons, List.filterMap_nil]
  split
  · rfl
  · rw [List.find?_cons, List.find?_cons]
    split <;> rfl

/-- `ClientHello.sni` steps over the views of built extensions as `builtSni` steps over the extensions (an `other` extension
    of type 0 has no names, so no well-formedness is needed) -/
theorem sni_view (valid : Bytes → Bool) (cs : List Nat) (es : List BExt) :
    Hello.sni valid ⟨cs, es.map BExt.view⟩ = builtSni valid es := by
  fun_induction builtSni valid es with
  | case1 => rfl
  | case2 t nm es h => rw [List.map_cons, sni_cons]; simp [Hello.sni, Hello.sniCandidates, BExt.view, h.1, h.2]
  | case3 t nm es h ih =>
    rw [List.map_cons, sni_cons, ih]
    by_cases ht : t = 0
    · have hv : valid nm = false := by simpa [ht] using h
      simp [Hello.sni, Hello.sniCandidates, BExt.view, ht, hv]
    · simp [Hello.sni, Hello.sniCandidates, BExt.view, ht]
  | case4 e es hne ih =>
    rw [List.map_cons, sni_cons, ih]
    cases e with
    | sni ns =>
      match ns with
      | [] => simp [Hello.sni, Hello.sniCandidates, BExt.view]
      | [(t, nm)] => exact absurd rfl (hne t nm)
      | _ :: _ :: _ => simp [Hello.sni, Hello.sniCandidates, BExt.view]
    | alpn ps => simp [Hello.sni, Hello.sniCandidates, BExt.view]
    | other t r => by_cases ht : t = 0 <;> simp [Hello.sni, Hello.sniCandidates, BExt.view, ht]

/-- an `other` extension of type 16 would be read as an (empty) ALPN extension: this is where well-formedness enters -/
theorem alpn_view (cs : List Nat) (es : List BExt) (hw : ∀ e ∈ es, e.WF) :
    Hello.alpn ⟨cs, es.map BExt.view⟩ = builtAlpn es := by
  fun_induction builtAlpn es with
  | case1 => rfl
  | case2 ps es => simp [Hello.alpn, BExt.view]
  | case3 e es hne ih =>
    rw [← ih (fun x hx => hw x (List.mem_cons_of_mem _ hx))]
    have hwe := hw e List.mem_cons_self
    cases e with
    | sni ns => simp [Hello.alpn, BExt.view]
    | alpn ps => exact absurd rfl (hne ps)
    | other t r =>
      have : t ≠ 16 := hwe.2.2.1
      simp [Hello.alpn, BExt.view, this]

theorem builtSni_skip (valid : Bytes → Bool) (pre post : List BExt) (e : BExt)
    (hpre : ∀ x ∈ pre, ∀ ns, x ≠ .sni ns) : builtSni valid (pre ++ e :: post) = builtSni valid (e :: post) := by
  induction pre with
  | nil => rfl
  | cons x xs ih =>
    have hx := hpre x (by simp)
    have ih' := ih (fun y hy => hpre y (by simp [hy]))
    cases x with
    | sni ns => exact absurd rfl (hx ns)
    | alpn ps => simpa [builtSni] using ih'
    | other t r => simpa [builtSni] using ih'

theorem isInfix_iff (p d : Bytes) : isInfix p d = true ↔ p <:+: d := by
  induction d with
  | nil => simp [isInfix]
  | cons b r ih => rw [isInfix, Bool.or_eq_true, List.isPrefixOf_iff_prefix, ih, List.infix_cons_iff]

theorem stripDot_prefix (d : Bytes) : stripDot d <+: d := by
  unfold stripDot
  split
  · exact List.dropLast_prefix d
  · exact List.prefix_refl d

theorem isInfix_stripDot (p d : Bytes) (h : isInfix p d = false) : isInfix p (stripDot d) = false := by
  rw [Bool.eq_false_iff, Ne, isInfix_iff] at h ⊢
  exact fun hs => h (hs.trans (stripDot_prefix d).isInfix)

theorem validHost_noAce (lib : HostLib) (nm : Bytes) (hace : isInfix acePrefix nm = false) :
    validHost lib nm =
      (nm.all (fun b => decide (b.toNat < 128)) && decide (nm.length ≤ 255) &&
        ((splitDot (stripDot nm)).all labelValid || lib.ip (stripDot nm))) := by
  unfold validHost idnaOk
  simp only [hace, Bool.false_eq_true, if_false]
  cases nm.all (fun b => decide (b.toNat < 128))
  · rfl
  · by_cases h : 255 < nm.length
    · simp only [h, if_true, decide_eq_false (Nat.not_le.mpr h)]; rfl
    · simp only [h, if_false, decide_eq_true (Nat.not_lt.mp h)]
      cases (splitDot (stripDot nm)).all labelValid <;> rfl

theorem labelChar_lt (b : UInt8) (h : labelChar b = true) : b.toNat < 128 ∧ b ≠ 0x2e := by
  have key : ∀ n : Fin 256, labelChar (UInt8.ofNat n.val) = true → n.val < 128 ∧ n.val ≠ 0x2e := by decide +kernel
  have := key ⟨b.toNat, UInt8.toNat_lt b⟩
  simp only [UInt8.ofNat_toNat] at this
  have h2 := this h
  refine ⟨h2.1, ?_⟩
  intro hb; subst hb; exact h2.2 rfl

theorem splitDot_eq (t : Bytes) : splitDot t = splitSep 0x2e t := by
  induction t with
  | nil => rfl
  | cons c r ih => rw [splitDot, ih, splitSep]; cases splitSep 0x2e r <;> rfl

theorem joinDot_eq (labels : List Bytes) : joinDot labels = joinBy [0x2e] labels := by
  fun_induction joinDot labels with
  | case1 | case2 => rfl
  | case3 l ls h ih => rw [ih, joinBy_cons _ _ h, List.append_assoc, List.singleton_append]

theorem joinDot_last (labels : List Bytes) (hne : labels ≠ [])
    (h : ∀ l ∈ labels, l ≠ [] ∧ (0x2e : UInt8) ∉ l) : (joinDot labels).getLast? ≠ some 0x2e := by
  obtain ⟨hl, hdot⟩ := h _ (List.getLast_mem hne)
  obtain ⟨t, ht⟩ := getLast_suffix_joinBy [0x2e] hne
  rw [joinDot_eq, ← ht, List.getLast?_append, List.getLast?_eq_some_getLast hl, Option.some_or]
  exact fun hd => hdot (Option.some.inj hd ▸ List.getLast_mem hl)

theorem labelValid_of_chars (l : Bytes) (hne : l ≠ []) (hlen : l.length ≤ 63)
    (h : ∀ b ∈ l, labelChar b = true) : labelValid l = true := by
  have htw : l.takeWhile labelChar = l := by
    induction l with
    | nil => rfl
    | cons b r ih =>
      simp only [List.takeWhile_cons, h b (by simp), if_true]
      congr 1
      cases r with
      | nil => rfl
      | cons c r' => exact ih (by simp) (by simp at hlen ⊢; omega) (fun x hx => h x (by simp [hx]))
  unfold labelValid
  simp only [htw, List.drop_length]
  have : 1 ≤ l.length := by cases l with | nil => exact absurd rfl hne | cons _ _ => simp
  simp [this, hlen]

theorem find?_congr_mem (p q : Bytes → Bool) (l : List Bytes) (h : ∀ x ∈ l, p x = q x) :
    l.find? p = l.find? q := by
  induction l with
  | nil => rfl
  | cons a r ih =>
    simp only [List.find?_cons, h a (by simp)]
    rw [ih (fun x hx => h x (by simp [hx]))]

theorem mapAll_congr {α β : Type} (f g : α → Option β) (l : List α) (h : ∀ a ∈ l, f a = g a) :
    mapAll f l = mapAll g l := by
  induction l with
  | nil => rfl
  | cons a r ih =>
    simp only [mapAll, h a (by simp), ih (fun x hx => h x (by simp [hx]))]

theorem mapAll_some_mem {α β : Type} (f : α → Option β) : ∀ (l : List α) (rs : List β),
    mapAll f l = some rs → ∀ a ∈ l, ∃ b, f a = some b := by
  intro l
  induction l with
  | nil => intro rs _ a ha; simp at ha
  | cons x xs ih =>
    intro rs h a ha
    simp only [mapAll] at h
    cases hx : f x with
    | none => rw [hx] at h; simp at h
    | some b =>
      cases hxs : mapAll f xs with
      | none => rw [hx, hxs] at h; simp at h
      | some bs =>
        simp only [List.mem_cons] at ha
        rcases ha with rfl | ha
        · exact ⟨b, hx⟩
        · exact ih bs hxs a ha

theorem punyDecode_ascii (t : List Nat) (r : Cps) (h : punyDecode t = some r) : ∀ c ∈ t, c < 128 := by
  unfold punyDecode at h
  split at h
  · cases h
  · rename_i hany
    intro c hc
    have : ¬ (t.any (fun c => decide (c ≥ 128)) = true) := hany
    rw [List.any_eq_true] at this
    by_cases hlt : c < 128
    · exact hlt
    · exact absurd ⟨c, hc, by simp; omega⟩ this

theorem toUnicode_eq_some {N : Nameprep} {label : List Nat} {r : Cps} (h : toUnicode N label = some r) :
    (aceCps.isPrefixOf label = false ∧ label.all (· < 128) = true ∧ r = label) ∨
    (aceCps.isPrefixOf label = true ∧ punyDecode (label.drop 4) = some r ∧
      toAscii N r = some (label.map lowerAscii)) := by
  unfold toUnicode at h
  split at h
  · cases h
  · cases hace : aceCps.isPrefixOf label with
    | false =>
      simp only [hace, Bool.not_false, if_true] at h
      split at h
      · rename_i hall; cases h; exact Or.inl ⟨rfl, hall, rfl⟩
      · cases h
    | true =>
      simp only [hace, Bool.not_true, Bool.false_eq_true, if_false] at h
      refine Or.inr ⟨rfl, ?_⟩
      cases hp : punyDecode (label.drop 4) with
      | none => rw [hp] at h; cases h
      | some res =>
        cases ha : toAscii N res with
        | none => simp only [hp, ha] at h; cases h
        | some l2 =>
          simp only [hp, ha] at h
          split at h
          · rename_i heq; cases h; exact ⟨rfl, by rw [ha, heq]⟩
          · cases h

theorem toUnicode_ascii (N : Nameprep) (l : List Nat) (r : Cps) (h : toUnicode N l = some r) : ∀ c ∈ l, c < 128 := by
  intro c hc
  rcases toUnicode_eq_some h with ⟨_, hall, _⟩ | ⟨hace, hp, _⟩
  · simpa using List.all_eq_true.mp hall c hc
  · obtain ⟨t, rfl⟩ := List.isPrefixOf_iff_prefix.mp hace
    rcases List.mem_append.mp hc with hc | hc
    · simp [aceCps] at hc; omega
    · exact punyDecode_ascii _ _ hp c hc

theorem mem_splitDot (raw : Bytes) : ∀ b ∈ raw, b = 0x2e ∨ ∃ l ∈ splitDot raw, b ∈ l := by
  intro b hb
  rw [splitDot_eq]
  rw [← joinBy_splitSep 0x2e raw] at hb
  exact (Decidable.em (b = 0x2e)).imp_right fun hne => mem_joinBy (by simpa using hne) hb

theorem mem_of_mem_trimLabels {ls : List Cps} {a : Cps} (h : a ∈ (trimLabels ls).1) : a ∈ ls := by
  unfold trimLabels at h
  split at h
  · exact (List.dropLast_sublist _).subset h
  · exact h

/-- only an empty last label is dropped -/
theorem mem_trimLabels {ls : List Cps} {a : Cps} (h : a ∈ ls) (hne : a ≠ []) : a ∈ (trimLabels ls).1 := by
  unfold trimLabels
  split
  · rename_i hlast
    obtain ⟨ys, rfl⟩ := List.getLast?_eq_some_iff.mp hlast
    rw [List.dropLast_concat]
    rcases List.mem_append.mp h with h | h
    · exact h
    · exact absurd (List.mem_singleton.mp h) hne
  · exact h

theorem decodeIdna_ascii (N : Nameprep) (raw : Bytes) (t : Cps) (h : decodeIdna N raw = some t) :
    ∀ b ∈ raw, b.toNat < 128 := by
  unfold decodeIdna at h
  simp only at h
  cases hm : mapAll (toUnicode N) (trimLabels ((splitDot raw).map (fun l => l.map UInt8.toNat))).1 with
  | none => rw [hm] at h; cases h
  | some rs =>
    intro b hb
    rcases mem_splitDot raw b hb with hdot | ⟨l, hl, hbl⟩
    · subst hdot; decide
    · -- the label of `b` is not empty, so `ToUnicode` was run on it
      obtain ⟨r, hr⟩ := mapAll_some_mem _ _ _ hm (l.map UInt8.toNat)
        (mem_trimLabels (List.mem_map.mpr ⟨l, hl, rfl⟩) (by cases l with | nil => cases hbl | cons _ _ => simp))
      exact toUnicode_ascii N _ r hr b.toNat (List.mem_map.mpr ⟨b, hbl, rfl⟩)

end MitmVerif.C13
