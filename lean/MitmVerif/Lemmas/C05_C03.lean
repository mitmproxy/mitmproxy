/-
  C05 ⟵ C03, second part: every call into the stream keeps the invariant `J` (Lemmas/C05_C03Def.lean).  Each handler is
  walked once, leaf by leaf, along its decision tree.
-/
import MitmVerif.Lemmas.C05_C03Def
namespace MitmVerif.C03

/-- the clauses of `J` as hypotheses, one by one (as one conjunction every later step would pay for its depth) -/
macro "j_norm" h:ident : tactic => `(tactic|
  (simp [J, JF, pOK, imp, *] at $h:ident
   revert $h:ident
   simp only [and_imp]
   intros))

/-- One branch of a handler: unfold the helpers it calls, descend through their `if`s and `match`es, fold `adv` over the
    emitted commands and unfold `J`.  The phase predicates stay folded: a branch that sends nothing to the server keeps
    the phase, and `grind` looks into the phase only where a command moves it. -/
macro "j_leaf" : tactic => `(tactic|
  ((try simp only [resume, handlePE, peAfter, killedFire, killedSilent, sendResponse, startRequestStream, cbsErrFire,
      connectFinish, flowDone, onReqHeaders, ↓reduceIte, Bool.false_eq_true, reduceCtorEq])
   repeat' (with_reducible apply W.ite_elim (P := fun w => J (w.out.foldl adv _) w.c = true) <;> intro _)
   all_goals repeat' split
   all_goals
   (simp [J, JF, pOK, imp, fire, fireC, mk, crash, W.pre, foldl_adv_outIf, connectSends, killFinishC, peRetC,
      List.foldl_append, *] <;>
    grind [adv, srvStep, pAtt, pFine, isS1, cases SP])))

theorem j_serverEvent (p : SP) (d : Core) (ev : AEv)
    (hp : d.paused = none) (hb : d.bad = false) (hA : d.attached = true) (h : J p d = true) :
    J ((serverEvent d ev).out.foldl adv p) (serverEvent d ev).c = true := by
  j_norm h
  fun_cases serverEvent d ev <;> j_leaf
theorem j_clientEvent (p : SP) (d : Core) (ev : AEv)
    (hp : d.paused = none) (hb : d.bad = false) (h : J p d = true) :
    J ((clientEvent d ev).out.foldl adv p) (clientEvent d ev).c = true := by
  j_norm h
  fun_cases clientEvent d ev <;> j_leaf

theorem j_handlePE (p : SP) (d : Core) (isResp peek : Bool)
    (hp : d.paused = none) (hb : d.bad = false) (hpt : d.pt = false) (h : J p d = true) :
    J ((handlePE d isResp .top peek).out.foldl adv p) (handlePE d isResp .top peek).c = true := by
  j_norm h
  cases isResp <;> j_leaf

theorem j_resume (p : SP) (d : Core) (k : K) (ok peek : Bool) (hp : d.paused = none) (hb : d.bad = false)
    (h : JF p false d.attached d.pt d.hasFlow d.cs d.ss (some k) = true) :
    J ((resume d k ok peek).out.foldl adv p) (resume d k ok peek).c = true := by
  cases k with
  | streamConn b | cbsHdr b | cbsErr b | peErr b _ => cases b <;> j_norm h <;> j_leaf
  | _ => j_norm h <;> j_leaf
end MitmVerif.C03
