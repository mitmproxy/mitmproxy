/-
  C09 — the task-system model (Model/C09.lean): what a label does, and the lifecycle invariant `Inv`.
  A label is one elementary move — an action of an open_connection task (`stepS`, then `semEffect`, which may
  `wakeNext`), one of its done-callbacks, the start or the end of handle_client's final wait, or a move that touches
  no task — followed by the layer's commands (`step_tasks`).  Each invariant (`Inv` here, `SemInv` in C09Sem,
  `LateInv` in C09Late) has one lemma per kind of move and a one-step theorem `….preserved` that puts them together:
  for `SemInv` and `LateInv` along `step_tasks`; `Inv.preserved` splits `step` itself, because `HInv` and `CInv`
  tell the moves of handle_client and of the client handler apart, which `step_tasks` lumps together.
-/
import MitmVerif.Model.C09
namespace MitmVerif.C09

/-- every server_connect has exactly one outcome, every server_connected its server_disconnected -/
def Settled (c : Conn) : Prop := c.nSC ≤ 1 ∧ c.nSD + c.nSE = c.nSC ∧ c.nSX = c.nSD

/-- the hook counters and the transports entry of an attempt are determined by where its task is -/
def ConnInv (c : Conn) : Prop :=
  match c.pc with
  | .created | .started => c.nSC = 0 ∧ c.nSD = 0 ∧ c.nSE = 0 ∧ c.nSX = 0 ∧ c.entry = true
  | .inSC | .preSem | .inSem | .semCancelled | .semWoken | .inConn | .preSE _ | .preSD =>
    c.nSC = 1 ∧ c.nSD = 0 ∧ c.nSE = 0 ∧ c.nSX = 0 ∧ c.entry = true
  | .inSE _ | .preEvErr _ => c.nSC = 1 ∧ c.nSD = 0 ∧ c.nSE = 1 ∧ c.nSX = 0 ∧ c.entry = true
  | .inSD | .preEvOk | .inRead | .preEvData | .afterData | .preEvClosed | .preClose | .preSX =>
    c.nSC = 1 ∧ c.nSD = 1 ∧ c.nSE = 0 ∧ c.nSX = 0 ∧ c.entry = true
  | .inSX => c.nSC = 1 ∧ c.nSD = 1 ∧ c.nSE = 0 ∧ c.nSX = 1 ∧ c.entry = false
  | .preRel | .finishing | .done => Settled c

theorem ConnInv.bounds {c : Conn} (h : ConnInv c) :
    c.nSC ≤ 1 ∧ c.nSD + c.nSE ≤ c.nSC ∧ c.nSX ≤ c.nSD := by
  unfold ConnInv at h
  split at h <;> (try unfold Settled at h) <;> omega

theorem ConnInv.settled_of_noentry {c : Conn} (h : ConnInv c) (he : c.entry = false) : Settled c := by
  unfold ConnInv at h
  split at h <;> (try unfold Settled) <;> (try exact h) <;> simp_all

theorem ConnInv.settled_of_done {c : Conn} (h : ConnInv c) (hd : c.pc = .done) : Settled c := by
  unfold ConnInv at h; rw [hd] at h; exact h

theorem ConnInv.done {c : Conn} (h : ConnInv c) (hd : c.pc = .done) (cbs : List Cb) (e : Bool) :
    ConnInv { c with cbs := cbs, entry := e } := by
  unfold ConnInv at h ⊢
  simp only [hd] at h ⊢
  exact h

theorem ConnInv.noopen_of_noentry {c : Conn} (h : ConnInv c) (he : c.entry = false) : wopen c.pc = false := by
  unfold ConnInv at h
  split at h <;> simp_all [wopen]

theorem wopen_holding (pc : PC) (h : wopen pc = true) : holding pc = true := by
  cases pc <;> simp_all [wopen, holding]

/-- the six (pc, action) pairs that touch the semaphore -/
def isSemAct : PC → Act → Bool
  | .preSem, .semwait | .preSem, .semacq | .semWoken, .semacq | .semCancelled, .semcancel
  | .semWoken, .semcancel | .preRel, .semrel => true
  | _, _ => false

/-- What one action of an open_connection task does.  For the lifecycle: it keeps `ConnInv`, creates no entry, and
    leaves callbacks and the late mark alone.  For the semaphore: if it is one of the six semaphore actions only the
    program counter moves; otherwise neither its address (once set) nor its account changes.  (One pass over the
    cases of `stepS` serves both.) -/
theorem stepS_spec {c c' : Conn} {a : Act} {ok : Bool} {cmds : List Cmd} (h : stepS c a ok = some (c', cmds)) :
    ((ConnInv c → ConnInv c') ∧ (c'.entry = true → c.entry = true) ∧ c'.cbs = c.cbs ∧ c'.late = c.late) ∧
    if isSemAct c.pc a = true then
      c' = { c with pc := c'.pc } ∧
        ((c.pc = .preSem ∧ a = .semwait ∧ ok = true ∧ c'.pc = .inSem) ∨
         (c.pc = .preSem ∧ a = .semacq ∧ ok = true ∧ c'.pc = .inConn) ∨
         (c.pc = .semWoken ∧ a = .semacq ∧ c'.pc = .inConn) ∨
         (c.pc = .semCancelled ∧ a = .semcancel ∧ c'.pc = .preSE .canc) ∨
         (c.pc = .semWoken ∧ a = .semcancel ∧ c'.pc = .preSE .canc) ∨
         (c.pc = .preRel ∧ a = .semrel ∧ c'.pc = .finishing))
    else (c'.addr = c.addr ∨ c.addr = none ∧ c'.pc = .preSem) ∧
      holding c'.pc = holding c.pc ∧ (c'.pc = .semWoken ↔ c.pc = .semWoken) := by
  unfold stepS at h
  split at h <;> (try split at h) <;>
    simp only [Option.some.injEq, Prod.mk.injEq, reduceCtorEq] at h <;>
    (try (obtain ⟨rfl, rfl⟩ := h)) <;>
    simp_all [isSemAct, holding, Mode.held, ConnInv, Settled] <;>
    (try (split <;> simp_all [ConnInv, Settled]))

theorem count_set {p : Conn → Bool} {l : List Conn} {i : Nat} {c c' : Conn} (h : l[i]? = some c) :
    (l.set i c').countP p + (if p c = true then 1 else 0) = l.countP p + (if p c' = true then 1 else 0) := by
  obtain ⟨hlt, rfl⟩ := List.getElem?_eq_some_iff.mp h
  rw [List.countP_set hlt]
  have hpos : p l[i] = true → 0 < l.countP p := fun h => List.countP_pos_iff.mpr ⟨_, List.getElem_mem hlt, h⟩
  by_cases hx : p l[i] = true
  · have := hpos hx; simp only [hx, ↓reduceIte]; omega
  · simp only [hx, Bool.false_eq_true, ↓reduceIte]; omega

/-- the layer's commands only append new tasks; what is opened while handle_client is in (or past) its final wait
    is marked late and raises the flag -/
theorem applyCmds_spec : ∀ (cmds : List Cmd) (s s' : St), applyCmds s cmds = some s' →
    ∃ new hooks lo, s' = { s with conns := s.conns ++ new, hooks := hooks, lateOpen := lo } ∧
      (∀ c ∈ new, ∃ k a, c = newConn k a (isLate s.hpc)) ∧
      (lo = false → s.lateOpen = false ∧ (isLate s.hpc = true → new = [])) := by
  intro cmds
  induction cmds with
  | nil =>
    intro s s' h
    cases h
    exact ⟨[], s.hooks, s.lateOpen, by rw [List.append_nil], by simp, fun h => ⟨h, fun _ => rfl⟩⟩
  | cons cmd cs ih =>
    intro s s' h
    cases cmd with
    | spawn => exact ih { s with hooks := s.hooks ++ [.created] } s' h
    | opn key addr =>
      cases hk : keyFree s.conns key with
      | false => simp [applyCmds, applyCmd, hk] at h
      | true =>
        simp only [applyCmds, applyCmd, hk, if_true] at h
        obtain ⟨new, hooks, lo, rfl, hn, hlo⟩ := ih _ s' h
        refine ⟨newConn key addr (isLate s.hpc) :: new, hooks, lo, by rw [List.append_assoc]; rfl, ?_, ?_⟩
        · intro c hc
          rcases List.mem_cons.mp hc with rfl | hc
          · exact ⟨key, addr, rfl⟩
          · exact hn c hc
        · intro hl
          obtain ⟨hor, _⟩ := hlo hl
          simp only [Bool.or_eq_false_iff] at hor
          exact ⟨hor.1, by intro hx; simp [hx] at hor⟩

theorem firstWaiting_spec : ∀ (conns : List Conn) (w : List Nat) (j : Nat), firstWaiting conns w = some j →
    j ∈ w ∧ ∃ d, conns[j]? = some d ∧ d.pc = .inSem
  | _, [], _, h => by simp [firstWaiting] at h
  | conns, k :: ks, j, h => by
    have ih := firstWaiting_spec conns ks j
    simp only [firstWaiting] at h
    split at h
    · rename_i d hd
      split at h
      · rename_i hpc
        cases h
        exact ⟨List.mem_cons_self, d, hd, hpc⟩
      · exact ⟨List.mem_cons_of_mem _ (ih h).1, (ih h).2⟩
    · exact ⟨List.mem_cons_of_mem _ (ih h).1, (ih h).2⟩

theorem wakeNext_cases (s : St) (ad : Nat) :
    wakeNext s ad = s ∨ ∃ j d, j ∈ s.waiters ad ∧ s.conns[j]? = some d ∧ d.pc = .inSem ∧ s.semv ad ≠ 0 ∧
      wakeNext s ad = { s with semv := upd s.semv ad (s.semv ad - 1), conns := s.conns.set j { d with pc := .semWoken } } := by
  unfold wakeNext
  split
  · exact Or.inl rfl
  · rename_i hv
    split
    · exact Or.inl rfl
    · rename_i j hj
      obtain ⟨hjw, d, hd, hpc⟩ := firstWaiting_spec _ _ _ hj
      exact Or.inr ⟨j, d, hjw, hd, hpc, hv, by simp only [hd]⟩

/-- a property of states that does not read the semaphore's counter and queue, and that `_wake_up_next()` keeps,
    is kept by the semaphore's part of any task action -/
theorem semEffect_keeps {P : St → Prop} (fields : ∀ s f g, P s → P { s with semv := f, waiters := g })
    (wake : ∀ s ad, P s → P (wakeNext s ad)) {s : St} (hs : P s) (i : Nat) (c : Conn) (a : Act) :
    P (semEffect s i c a) := by
  unfold semEffect
  split
  · exact hs
  · split
    · exact fields _ _ _ hs
    · exact fields _ _ _ hs
    · exact wake _ _ (fields _ _ _ hs)
    · exact fields _ _ _ hs
    · exact wake _ _ (fields _ _ _ hs)
    · exact wake _ _ (fields _ _ _ hs)
    · exact hs

/-- Every label is one of five kinds of move, followed by the layer's commands: it leaves tasks and semaphore
    alone (and does not enter the final wait); it starts handle_client's final wait; it ends that wait; it is an
    action of an open_connection task; it runs a done-callback of such a task. -/
theorem step_tasks {s s' : St} {l : Label} (h : step s l = some s') :
    ∃ s1 cmds, applyCmds s1 cmds = some s' ∧ s1.size = s.size ∧ s1.lateOpen = s.lateOpen ∧
      ((s1.conns = s.conns ∧ s1.semv = s.semv ∧ s1.waiters = s.waiters ∧ (s1.hpc = s.hpc ∨ isLate s1.hpc = false)) ∨
       (s.hpc = .inCD ∧ s1 = { s with hpc := .final, conns := s.conns.map regWait, hcount := s.conns.countP (·.entry) }) ∨
       (s.hpc = .final ∧ s.hcount = 0 ∧ s1 = { s with hpc := .returned }) ∨
       (∃ i a c c', s.conns[i]? = some c ∧ stepS c a (semGuard s c a) = some (c', cmds) ∧
          s1 = semEffect { s with conns := s.conns.set i c' } i c a) ∨
       (∃ i c rest, s.conns[i]? = some c ∧
          ((c.cbs = .release :: rest ∧ s1 = { s with conns := s.conns.set i { c with cbs := rest, entry := false } }) ∨
           (c.cbs = .waitH :: rest ∧
              s1 = { s with conns := s.conns.set i { c with cbs := rest }, hcount := s.hcount - 1 })))) := by
  revert h
  fun_cases step s l
  case case4 | case6 | case7 | case9 | case10 | case14 | case15 | case18 | case19 | case20 | case21 => nofun
  case case1 a =>
    fun_cases stepH s a
    case case7 | case11 | case12 => nofun
    case case9 hpc => exact fun h => ⟨_, [], h, rfl, rfl, .inr (.inl ⟨hpc, rfl⟩)⟩
    case case10 hpc hzero => exact fun h => ⟨_, [], h, rfl, rfl, .inr (.inr (.inl ⟨hpc, hzero, rfl⟩))⟩
    case case5 => exact fun h => ⟨_, _, h, rfl, rfl, .inl ⟨rfl, rfl, rfl, .inr rfl⟩⟩
    all_goals exact fun h => ⟨_, [], h, rfl, rfl, .inl ⟨rfl, rfl, rfl, .inr rfl⟩⟩
  case case5 i a c hc c' cmds hs =>
    have := semEffect_keeps (P := fun t => t.size = s.size ∧ t.lateOpen = s.lateOpen) (fun _ _ _ h => h)
      (fun t ad ht => by rcases wakeNext_cases t ad with h | ⟨_, _, _, _, _, _, h⟩ <;> rw [h] <;> exact ht)
      (s := { s with conns := s.conns.set i c' }) ⟨rfl, rfl⟩ i c a
    exact fun h => ⟨_, cmds, h, this.1, this.2, .inr (.inr (.inr (.inl ⟨i, a, c, c', hc, hs, rfl⟩)))⟩
  case case16 i c hc _ rest hcbs =>
    exact fun h => ⟨_, [], h, rfl, rfl, .inr (.inr (.inr (.inr ⟨i, c, rest, hc, .inl ⟨hcbs, rfl⟩⟩)))⟩
  case case17 i c hc _ rest hcbs =>
    exact fun h => ⟨_, [], h, rfl, rfl, .inr (.inr (.inr (.inr ⟨i, c, rest, hc, .inr ⟨hcbs, rfl⟩⟩)))⟩
  case case2 | case3 | case8 => exact fun h => ⟨_, _, h, rfl, rfl, .inl ⟨rfl, rfl, rfl, .inl rfl⟩⟩
  all_goals exact fun h => ⟨_, [], h, rfl, rfl, .inl ⟨rfl, rfl, rfl, .inl rfl⟩⟩

theorem size_step {s s' : St} {l : Label} (h : step s l = some s') : s'.size = s.size := by
  obtain ⟨s1, cmds, ha, hsz, _⟩ := step_tasks h
  obtain ⟨_, _, _, rfl, _⟩ := applyCmds_spec cmds s1 s' ha
  exact hsz

theorem run_induct {P : St → Prop} (hstep : ∀ s l s', P s → step s l = some s' → P s') :
    ∀ (ls : List Label) (s s' : St), P s → run s ls = some s' → P s'
  | [], s, s', hp, h => by cases h; exact hp
  | l :: ls, s, s', hp, h => by
    simp only [run] at h
    cases hs : step s l with
    | none => simp [hs] at h
    | some s1 => rw [hs] at h; exact run_induct hstep ls s1 s' (hstep s l s1 hp hs) h

def hasWait (c : Conn) : Bool := c.cbs.contains .waitH

/-- a task's pending done-callbacks: release_transport first, asyncio.wait's callback behind it; the entry can
    only be in transports while release_transport has not run -/
def CbInv (c : Conn) : Prop :=
  (c.cbs = [.release] ∨ c.cbs = [.release, .waitH] ∨ c.cbs = [.waitH] ∨ c.cbs = []) ∧
  (c.entry = true → c.cbs = [.release] ∨ c.cbs = [.release, .waitH])

theorem newConn_ok (k : Nat) (a : Option Nat) (l : Bool) :
    ConnInv (newConn k a l) ∧ CbInv (newConn k a l) ∧ hasWait (newConn k a l) = false := by
  simp [ConnInv, CbInv, newConn, hasWait]

/-- the client connection handler's share of `hcount`: 1 while asyncio.wait's callback on it has not run -/
def cwait (s : St) : Nat := if s.ccbs.contains .waitH then 1 else 0

/-- handle_client has not created the client handler task yet -/
def preC : HPC → Bool
  | .h0 | .inCC | .killClose | .preStart => true
  | _ => false

/-- handle_client is past `await asyncio.wait([handler])` (or never created the handler: kill path) -/
def postC : HPC → Bool
  | .preCD | .inCD | .final | .returned => true
  | _ => false

def CInv (s : St) : Prop :=
  (s.ccbs = [] ∨ s.ccbs = [.release, .waitH] ∨ s.ccbs = [.waitH]) ∧
  (s.cpc ≠ .absent → s.centry = true → s.ccbs = [.release, .waitH]) ∧
  (s.hpc = .waitC → s.cpc ≠ .absent) ∧
  (s.cpc = .absent → s.ccbs = []) ∧
  (preC s.hpc = true → s.cpc = .absent) ∧
  (postC s.hpc = true → cwait s = 0)

def HInv (s : St) : Prop :=
  (s.centry = false → s.cwopen = false) ∧
  match s.hpc with
  | .h0 => s.nCC = 0 ∧ s.nCD = 0
  | .inCC | .killClose | .preStart | .waitC => s.nCC = 1 ∧ s.nCD = 0
  | .preCD => s.nCC = 1 ∧ s.nCD = 0 ∧ s.centry = false
  | .inCD | .final | .returned => s.nCC = 1 ∧ s.nCD = 1 ∧ s.centry = false

structure Inv (s : St) : Prop where
  conn : ∀ c ∈ s.conns, ConnInv c
  h : HInv s
  cb : ∀ c ∈ s.conns, CbInv c
  cl : CInv s
  wait : s.hcount = s.conns.countP hasWait + cwait s
  nowait : isLate s.hpc = false → ∀ c ∈ s.conns, hasWait c = false
  fin : s.hpc = .final → s.lateOpen = false → ∀ c ∈ s.conns, c.entry = true → hasWait c = true
  ret : s.hpc = .returned → s.lateOpen = false → ∀ c ∈ s.conns, c.entry = false

theorem init_inv (n : Nat) : Inv (init n) := by
  constructor <;> simp [init, HInv, CInv, cwait, preC, postC]

theorem holdsAt_new (a k : Nat) (ad : Option Nat) (l : Bool) : holdsAt a (newConn k ad l) = false := by
  simp [holdsAt, newConn, holding]

theorem Inv.hcount_pos {s : St} (hi : Inv s) {c : Conn} (hc : c ∈ s.conns) (hw : hasWait c = true) : 0 < s.hcount := by
  have : 0 < s.conns.countP hasWait := List.countP_pos_iff.mpr ⟨c, hc, hw⟩
  have := hi.wait
  omega

theorem Inv.apply {s s' : St} {cmds : List Cmd} (hi : Inv s) (h : applyCmds s cmds = some s') : Inv s' := by
  obtain ⟨new, hooks, lo, rfl, hn, hlo⟩ := applyCmds_spec cmds s s' h
  have hnew : ∀ c ∈ new, ConnInv c ∧ CbInv c ∧ hasWait c = false := by
    intro c hc
    obtain ⟨k, a, rfl⟩ := hn c hc
    exact newConn_ok k a _
  -- in (or past) the final wait with the flag down, nothing was opened
  have hnil : isLate s.hpc = true → lo = false → s.lateOpen = false ∧ new = [] :=
    fun hl h => ⟨(hlo h).1, (hlo h).2 hl⟩
  refine ⟨List.forall_mem_append.mpr ⟨hi.conn, fun c hc => (hnew c hc).1⟩, hi.h,
    List.forall_mem_append.mpr ⟨hi.cb, fun c hc => (hnew c hc).2.1⟩, hi.cl, ?_,
    fun hl => List.forall_mem_append.mpr ⟨hi.nowait hl, fun c hc => (hnew c hc).2.2⟩, ?_, ?_⟩
  · show s.hcount = (s.conns ++ new).countP hasWait + cwait s
    have : new.countP hasWait = 0 := List.countP_eq_zero.mpr fun c hc => by simp [(hnew c hc).2.2]
    rw [List.countP_append, this]
    exact hi.wait
  · intro hf hl
    obtain ⟨hl0, rfl⟩ := hnil (by rw [show s.hpc = .final from hf]; rfl) hl
    simpa using hi.fin hf hl0
  · intro hr hl
    obtain ⟨hl0, rfl⟩ := hnil (by rw [show s.hpc = .returned from hr]; rfl) hl
    simpa using hi.ret hr hl0

/-- replacing the state of task `i` (an action of the task, or one of its callbacks) preserves the invariant -/
theorem Inv.set {s : St} {i : Nat} {c c' : Conn} {n : Nat}
    (hi : Inv s) (hc : s.conns[i]? = some c)
    (h1 : ConnInv c') (h3 : c'.entry = true → c.entry = true)
    (h5 : CbInv c') (h6 : hasWait c' = true → hasWait c = true)
    (h7 : c'.entry = true → hasWait c = true → hasWait c' = true)
    (h8 : n + (if hasWait c = true then 1 else 0) = s.hcount + (if hasWait c' = true then 1 else 0)) :
    Inv { s with conns := s.conns.set i c', hcount := n } := by
  have hmem := List.mem_of_getElem? hc
  -- a property of `c'` that `c` passes on, and that every other task has
  have hall : ∀ {p : Conn → Prop}, (p c → p c') → (∀ d ∈ s.conns, p d) → ∀ d ∈ s.conns.set i c', p d := by
    intro p hp hs d hd
    rcases List.mem_or_eq_of_mem_set hd with hd | rfl
    · exact hs d hd
    · exact hp (hs c hmem)
  refine ⟨hall (fun _ => h1) hi.conn, hi.h, hall (fun _ => h5) hi.cb, hi.cl, ?_,
    fun hl => hall (fun hw => ?_) (hi.nowait hl), fun hw hl => hall (fun hw he => h7 he (hw (h3 he))) (hi.fin hw hl),
    fun hr hl => hall (fun he => ?_) (hi.ret hr hl)⟩
  · show n = (s.conns.set i c').countP hasWait + cwait s
    have := count_set (p := hasWait) (c' := c') hc
    have := hi.wait
    omega
  · exact Bool.eq_false_iff.mpr fun hw' => Bool.eq_false_iff.mp hw (h6 hw')
  · exact Bool.eq_false_iff.mpr fun he' => Bool.eq_false_iff.mp he (h3 he')

theorem regWait_count (l : List Conn) (h : ∀ c ∈ l, hasWait c = false) :
    (l.map regWait).countP hasWait = l.countP (·.entry) := by
  rw [List.countP_map]
  refine List.countP_congr fun d hd => ?_
  unfold regWait
  cases he : d.entry <;> simp_all [hasWait]

theorem regWait_inv {c : Conn} (h1 : ConnInv c) (h2 : CbInv c) (h3 : hasWait c = false) :
    ConnInv (regWait c) ∧ CbInv (regWait c) ∧ ((regWait c).entry = true → hasWait (regWait c) = true) := by
  by_cases he : c.entry = true
  · have hr : regWait c = { c with cbs := c.cbs ++ [.waitH] } := by simp [regWait, he]
    rw [hr]
    refine ⟨h1, ?_, fun _ => by simp [hasWait]⟩
    unfold CbInv at h2 ⊢
    simp only [hasWait] at h3
    rcases h2.2 he with h | h
    · simp [h]
    · simp [h] at h3
  · have hr : regWait c = c := by simp [regWait, he]
    rw [hr]
    exact ⟨h1, h2, fun h => absurd h he⟩

theorem Inv.wake {s : St} (hi : Inv s) (ad : Nat) : Inv (wakeNext s ad) := by
  rcases wakeNext_cases s ad with h | ⟨j, d, _, hd, hpc, _, h⟩ <;> rw [h]
  · exact hi
  · have hci := hi.conn d (List.mem_of_getElem? hd)
    have := Inv.set (n := s.hcount) (c' := { d with pc := .semWoken }) hi hd
      (by unfold ConnInv at hci ⊢; simp only [hpc] at hci; exact hci) id
      (hi.cb d (List.mem_of_getElem? hd)) id (fun _ h => h) rfl
    -- `this` speaks of `{ s with conns := …, hcount := s.hcount }`, the goal of `{ s with semv := …, conns := … }`:
    -- no field of `Inv` reads `semv`, so each field of `this` is the goal's field as it stands
    exact ⟨this.conn, this.h, this.cb, this.cl, this.wait, this.nowait, this.fin, this.ret⟩

theorem Inv.semEffect {s : St} (hi : Inv s) (i : Nat) (c : Conn) (a : Act) : Inv (semEffect s i c a) :=
  semEffect_keeps (fun _ _ _ hi => ⟨hi.conn, hi.h, hi.cb, hi.cl, hi.wait, hi.nowait, hi.fin, hi.ret⟩)
    (fun _ ad hi => hi.wake ad) hi i c a

theorem stepC_nonabsent {pc pc' : CPC} {a : Act} {cmds : List Cmd} {b : Bool}
    (h : stepC pc a = some (pc', cmds, b)) : pc ≠ .absent ∧ pc' ≠ .absent := by
  unfold stepC at h
  split at h <;> simp only [Option.some.injEq, Prod.mk.injEq, reduceCtorEq] at h <;>
    (try (obtain ⟨rfl, _, _⟩ := h)) <;> simp_all

theorem CInv.shape {s : St} (h : CInv s) : s.ccbs = [] ∨ s.ccbs = [.release, .waitH] ∨ s.ccbs = [.waitH] := h.1
theorem CInv.own {s : St} (h : CInv s) : s.cpc ≠ .absent → s.centry = true → s.ccbs = [.release, .waitH] := h.2.1
theorem CInv.abs {s : St} (h : CInv s) : s.cpc = .absent → s.ccbs = [] := h.2.2.2.1
theorem CInv.pre {s : St} (h : CInv s) : preC s.hpc = true → s.cpc = .absent := h.2.2.2.2.1
theorem CInv.post {s : St} (h : CInv s) : postC s.hpc = true → cwait s = 0 := h.2.2.2.2.2

/-- `CInv` after a step of handle_client: the client handler and its callbacks are untouched -/
theorem CInv.ofH {s s' : St} (hcl : CInv s) (hccbs : s'.ccbs = s.ccbs) (hcpc : s'.cpc = s.cpc)
    (he : s'.centry = true → s.centry = true) (h3 : s'.hpc = .waitC → s.cpc ≠ .absent)
    (h5 : preC s'.hpc = true → s.cpc = .absent) (h6 : postC s'.hpc = true → cwait s = 0) : CInv s' := by
  unfold CInv at hcl ⊢
  unfold cwait
  rw [hccbs, hcpc]
  exact ⟨hcl.1, fun hn hce => hcl.2.1 hn (he hce), h3, hcl.2.2.2.1, h5, h6⟩

theorem HInv.close {s s' : St} (hh : HInv s) (hpc : s'.hpc = s.hpc) (hcc : s'.nCC = s.nCC) (hcd : s'.nCD = s.nCD)
    (he : s'.centry = false) (hw : s'.cwopen = false) : HInv s' := by
  obtain ⟨_, h2⟩ := hh
  unfold HInv
  rw [hpc, hcc, hcd, he, hw]
  refine ⟨fun _ => rfl, ?_⟩
  split <;> rename_i hp <;> simp only [hp] at h2 <;> simp only [h2, and_self]

/-- a label that touches no task and does not enter handle_client's final wait: only what `HInv`, `CInv` and the
    wait counter say about the new state has to be checked -/
theorem Inv.quiet {s s1 : St} (hi : Inv s) (hc : s1.conns = s.conns) (hlo : s1.lateOpen = s.lateOpen)
    (hpc : s1.hpc = s.hpc ∨ isLate s1.hpc = false ∧ isLate s.hpc = false)
    (hh : HInv s1) (hcl : CInv s1) (hw : s1.hcount + cwait s = s.hcount + cwait s1) : Inv s1 := by
  have hl : isLate s1.hpc = false → isLate s.hpc = false := fun h => hpc.elim (fun e => e ▸ h) (·.2)
  have hf : ∀ pc, isLate pc = true → s1.hpc = pc → s.hpc = pc := fun pc hp h =>
    hpc.elim (fun e => e ▸ h) fun e => by rw [h, hp] at e; cases e.1
  refine ⟨hc ▸ hi.conn, hh, hc ▸ hi.cb, hcl, ?_, fun h => hc ▸ hi.nowait (hl h),
    fun h hl => hc ▸ hi.fin (hf _ rfl h) (hlo ▸ hl), fun h hl => hc ▸ hi.ret (hf _ rfl h) (hlo ▸ hl)⟩
  have := hi.wait
  rw [hc]
  omega

theorem Inv.preserved {s s' : St} {l : Label} (hi : Inv s) (h : step s l = some s') : Inv s' := by
  have hh := hi.h
  have hcl := hi.cl
  revert h
  fun_cases step s l
  case case4 | case6 | case7 | case9 | case10 | case14 | case15 | case18 | case19 | case20 | case21 => nofun
  case case1 a =>
    fun_cases stepH s a
    case case7 | case11 | case12 => nofun
    case case1 hpc | case2 hpc | case3 hpc =>
      -- up to the start of the client handler: it does not exist yet
      rintro ⟨⟩
      exact hi.quiet rfl rfl (.inr ⟨rfl, by rw [hpc]; rfl⟩) (by unfold HInv at hh ⊢; simp_all)
        (hcl.ofH rfl rfl id nofun (fun _ => hcl.pre (by rw [hpc]; rfl)) nofun) rfl
    case case4 hpc =>
      -- killClose, wclose: the client handler was never created, it has no callbacks
      rintro ⟨⟩
      have hcw : cwait s = 0 := by simp [cwait, hcl.abs (hcl.pre (by rw [hpc]; rfl))]
      exact hi.quiet rfl rfl (.inr ⟨rfl, by rw [hpc]; rfl⟩) (by unfold HInv at hh ⊢; simp_all)
        (hcl.ofH rfl rfl nofun nofun nofun fun _ => hcw) rfl
    case case8 hpc =>
      -- preCD, hook cd: the kill path, no client handler was ever created
      rintro ⟨⟩
      exact hi.quiet rfl rfl (.inr ⟨rfl, by rw [hpc]; rfl⟩) (by unfold HInv at hh ⊢; simp_all)
        (hcl.ofH rfl rfl id nofun nofun fun _ => hcl.post (by rw [hpc]; rfl)) rfl
    case case5 cmds hpc =>
      -- preStart, ev start: create the client handler task, wait for it
      intro h
      have hnw := hi.nowait (by rw [hpc]; rfl)
      have : s.conns.countP hasWait = 0 := List.countP_eq_zero.mpr fun c hc => by simp [hnw c hc]
      refine Inv.apply (?_ : Inv _) h
      refine hi.quiet rfl rfl (.inr ⟨rfl, by rw [hpc]; rfl⟩) (by unfold HInv at hh ⊢; simp_all)
        ⟨.inr (.inl rfl), fun _ _ => rfl, fun _ => nofun, nofun, nofun, nofun⟩ ?_
      have := hi.wait
      simp only [cwait, List.contains_cons, List.contains_nil] at this ⊢
      simp at this ⊢
      omega
    case case6 hpc hzero =>
      -- waitC, hook cd: asyncio.wait([handler]) has returned
      rintro ⟨⟩
      have hcw : cwait s = 0 := by have := hi.wait; omega
      have hce : s.centry = false := Bool.eq_false_iff.mpr fun hcen => by
        simp [cwait, hcl.own (hcl.2.2.1 hpc) hcen] at hcw
      exact hi.quiet rfl rfl (.inr ⟨rfl, by rw [hpc]; rfl⟩) (by unfold HInv at hh ⊢; simp_all)
        (hcl.ofH rfl rfl id nofun nofun fun _ => hcw) rfl
    case case9 hpc =>
      -- inCD, hookret: register asyncio.wait's callback on every task that still has an entry
      rintro ⟨⟩
      have hnw := hi.nowait (by rw [hpc]; rfl)
      have hreg : ∀ c ∈ s.conns.map regWait, ConnInv c ∧ CbInv c ∧ (c.entry = true → hasWait c = true) := by
        intro c hc
        obtain ⟨d, hd, rfl⟩ := List.mem_map.mp hc
        exact regWait_inv (hi.conn d hd) (hi.cb d hd) (hnw d hd)
      -- the client handler has been waited for already: its callbacks are gone
      have hcw := hcl.post (by rw [hpc]; rfl)
      refine ⟨fun c hc => (hreg c hc).1, by unfold HInv at hh ⊢; rw [hpc] at hh; exact hh, fun c hc => (hreg c hc).2.1,
        hcl.ofH rfl rfl id nofun nofun fun _ => hcw, ?_, nofun, fun _ _ c hc => (hreg c hc).2.2, nofun⟩
      show s.conns.countP (·.entry) = (s.conns.map regWait).countP hasWait + cwait s
      rw [regWait_count s.conns hnw, hcw]
      rfl
    case case10 hpc hzero =>
      -- final, fin: asyncio.wait has counted down to zero
      rintro ⟨⟩
      refine ⟨hi.conn, by unfold HInv at hh ⊢; simp_all, hi.cb,
        hcl.ofH rfl rfl id nofun nofun fun _ => hcl.post (by rw [hpc]; rfl), hi.wait, nofun, nofun, ?_⟩
      refine fun _ hl c hc => Bool.eq_false_iff.mpr fun he => ?_
      have := hi.hcount_pos hc (hi.fin hpc hl c hc he)
      omega
  case case2 a pc cmds hsc =>
    have hna := stepC_nonabsent hsc
    exact Inv.apply (hi.quiet rfl rfl (.inl rfl) (hh.close rfl rfl rfl rfl rfl)
      ⟨hcl.shape, fun _ => nofun, fun _ => hna.2, fun hab => absurd hab hna.2,
        fun hp => absurd (hcl.pre hp) hna.1, hcl.post⟩ rfl)
  case case3 a pc cmds closed hsc _ =>
    have hna := stepC_nonabsent hsc
    exact Inv.apply (hi.quiet rfl rfl (.inl rfl) hh
      ⟨hcl.shape, fun _ => hcl.own hna.1, fun _ => hna.2, fun hab => absurd hab hna.2,
        fun hp => absurd (hcl.pre hp) hna.1, hcl.post⟩ rfl)
  case case5 i a c hc c' cmds hs =>
    have hmem := List.mem_of_getElem? hc
    obtain ⟨h1, h3, h5, _⟩ := (stepS_spec hs).1
    have hcb := hi.cb c hmem
    refine Inv.apply (Inv.semEffect (Inv.set (n := s.hcount) hi hc (h1 (hi.conn c hmem)) h3 ?_ ?_ ?_ ?_) i c a)
    · unfold CbInv at hcb ⊢; rw [h5]; exact ⟨hcb.1, fun he => hcb.2 (h3 he)⟩
    · simp [hasWait, h5]
    · simp [hasWait, h5]
    · simp [hasWait, h5]
  case case8 => exact Inv.apply (hi.quiet rfl rfl (.inl rfl) hh hcl rfl)
  case case11 hdone rest hcb _ =>
    -- release_transport of the client handler; asyncio.wait's callback is still behind it
    rintro ⟨⟩
    have hna : s.cpc ≠ .absent := by rw [hdone]; simp
    obtain rfl : rest = [.waitH] := by
      rcases hcl.shape with h' | h' | h' <;> rw [hcb] at h' <;> cases h'
      rfl
    exact hi.quiet rfl rfl (.inl rfl) (hh.close rfl rfl rfl rfl rfl)
      ⟨.inr (.inr rfl), fun _ => nofun, fun _ => hna, fun hab => absurd hab hna, hcl.pre,
        fun hp => by simpa [cwait, hcb] using hcl.post hp⟩ (by simp [cwait, hcb])
  case case12 hdone rest hcb hcen =>
    rintro ⟨⟩
    have hna : s.cpc ≠ .absent := by rw [hdone]; simp
    obtain rfl : rest = [.waitH] := by
      rcases hcl.shape with h' | h' | h' <;> rw [hcb] at h' <;> cases h'
      rfl
    exact hi.quiet rfl rfl (.inl rfl) hh
      ⟨.inr (.inr rfl), fun _ hc => absurd hc hcen, fun _ => hna, fun hab => absurd hab hna, hcl.pre,
        fun hp => by simpa [cwait, hcb] using hcl.post hp⟩ (by simp [cwait, hcb])
  case case13 hdone rest hcb =>
    -- asyncio.wait([handler])'s completion callback: it runs last
    rintro ⟨⟩
    have hna : s.cpc ≠ .absent := by rw [hdone]; simp
    obtain rfl : rest = [] := by
      rcases hcl.shape with h' | h' | h' <;> rw [hcb] at h' <;> cases h'
      rfl
    have hcen : ¬ s.centry = true := fun hc => by have := hcl.own hna hc; simp [hcb] at this
    refine hi.quiet rfl rfl (.inl rfl) hh
      ⟨.inl rfl, fun _ hc => absurd hc hcen, fun _ => hna, fun hab => absurd hab hna, hcl.pre, fun _ => rfl⟩ ?_
    have := hi.wait
    simp [cwait, hcb] at this ⊢
    omega
  case case16 i c hc hdone rest hcbs =>
    -- release_transport
    rintro ⟨⟩
    have hrest : rest = [] ∨ rest = [.waitH] := by
      rcases (hi.cb c (List.mem_of_getElem? hc)).1 with h' | h' | h' | h' <;> rw [hcbs] at h' <;> cases h'
      · exact .inl rfl
      · exact .inr rfl
    refine Inv.set (n := s.hcount) hi hc ((hi.conn c (List.mem_of_getElem? hc)).done hdone _ _) (by simp) ?_ ?_ (by simp) ?_
    · unfold CbInv; rcases hrest with h | h <;> simp [h]
    · rcases hrest with h | h <;> simp [hasWait, h, hcbs]
    · rcases hrest with h | h <;> simp [hasWait, h, hcbs]
  case case17 i c hc hdone rest hcbs =>
    -- asyncio.wait's completion callback
    rintro ⟨⟩
    have hmem := List.mem_of_getElem? hc
    have hcb := hi.cb c hmem
    obtain rfl : rest = [] := by
      rcases hcb.1 with h' | h' | h' | h' <;> rw [hcbs] at h' <;> cases h'
      rfl
    have hent : c.entry = false := Bool.eq_false_iff.mpr fun he => by
      rcases hcb.2 he with h | h <;> simp [hcbs] at h
    have hpos := hi.hcount_pos hmem (by simp [hasWait, hcbs])
    refine Inv.set (n := s.hcount - 1) hi hc ((hi.conn c hmem).done hdone _ _) id ?_ (by simp [hasWait]) (by simp [hent]) ?_
    · unfold CbInv; simp [hent]
    · simp [hasWait, hcbs]; omega

theorem Reach.inv {n : Nat} {s : St} (h : Reach n s) : Inv s ∧ s.size = n := by
  obtain ⟨ls, hl⟩ := h
  exact run_induct (P := fun s => Inv s ∧ s.size = n)
    (fun _ _ _ hp hs => ⟨hp.1.preserved hs, (size_step hs).trans hp.2⟩) ls _ _ ⟨init_inv n, rfl⟩ hl

end MitmVerif.C09
