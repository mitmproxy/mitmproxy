/-
  Record data that matched the layout of its type comes out of `expand_record_data` in plain (pointer-free) form.
  That is `walk_matched_plain` (from `expandName_all` of Lemmas/C25); the flag of the instrumented decoder `unpackT` says it of
  a whole message (`unpackT_spec`), and Props/C25 gets `reencode_stable_matched` from it.
-/
import MitmVerif.Lemmas.C25Msg
set_option linter.unusedVariables false
set_option linter.unusedSimpArgs false
namespace MitmVerif.C25

theorem expandName_wire {buf : Bytes} {off : Nat} {seen : List Nat} {e : Bytes} (h : expandName buf off seen = some e) :
    ∃ ls, LabelsOk ls ∧ e = wire ls ++ [0] :=
  expandName_all (P := fun _ e => ∃ ls, LabelsOk ls ∧ e = wire ls ++ [0])
    (fun _ raws _ hs => ⟨raws, scanRaw_ok hs, rfl⟩)
    (fun _ raws _ _ _ hs ⟨ls2, hok2, he⟩ => ⟨raws ++ ls2, (scanRaw_ok hs).append hok2, by rw [he, wire_append]; simp⟩) h

theorem nameField_done_wire {buf : Bytes} {rd : Bytes} {pos : Nat} {e : Bytes} {n : Nat}
    (h : nameField buf rd pos = .done e n) : ∃ ls, LabelsOk ls ∧ e = wire ls ++ [0] := by
  rw [nameField_eq] at h
  split at h
  · cases h
  · next raws _ hs => cases h; exact ⟨raws, scanRaw_ok hs, rfl⟩
  · next raws _ _ hs =>
    split at h <;> cases h
    next he =>
      obtain ⟨ls2, hok2, rfl⟩ := expandName_wire he
      exact ⟨raws ++ ls2, (scanRaw_ok hs).append hok2, by rw [wire_append]; simp⟩

theorem walk_matched_plain (buf : Bytes) (L : List Field) (rd : Bytes) (pos : Nat) (d : Bytes)
    (hm : layoutMatches buf L rd pos = true) (hw : walk buf L rd pos = some d) : plainWalk L d = true := by
  fun_induction layoutMatches buf L rd pos generalizing d
  case case1 => rfl
  case case2 | case5 | case7 => cases hm
  case case3 hf => simp [walk, hf] at hw   -- `.fail` counts as matched, but then `walk` raises: there is no `d`
  case case4 fs rd pos e n hf ih =>
    simp only [walk, hf, Option.map_eq_some_iff] at hw
    obtain ⟨d', hrest, rfl⟩ := hw
    obtain ⟨ls, hok, rfl⟩ := nameField_done_wire hf
    rw [plainWalk_wire fs d' hok]
    exact ih d' hm hrest
  case case6 k fs rd pos hk ih =>
    simp only [walk, hk, if_false, Option.map_eq_some_iff] at hw
    obtain ⟨d', hrest, rfl⟩ := hw
    rw [plainWalk_copied fs d' (Nat.le_of_not_lt hk) (Or.inl rfl)]
    exact ih d' hm hrest
  case case8 hk => rw [if_pos hk] at hm; cases hm
  case case9 fs pos c tl hk ih =>
    rw [if_neg hk] at hm
    simp only [walk, hk, if_false, Option.map_eq_some_iff] at hw
    obtain ⟨d', hrest, rfl⟩ := hw
    rw [plainWalk_copied fs d' (Nat.le_of_not_lt hk) (Or.inr ⟨rfl, c, tl, rfl, rfl⟩)]
    exact ih d' hm hrest

theorem rrData_matched_plain {buf : Bytes} {off len ty : Nat} {d : Bytes} (hm : rrMatched buf off len ty = true)
    (h : rrData buf off len ty = some d) : rdataPlain ty d = true := by
  unfold rrMatched at hm
  unfold rrData at h
  unfold rdataPlain
  cases hL : layoutOf ty with
  | none => rfl
  | some L =>
    simp only [hL] at hm h ⊢
    cases hw : walk buf L ((buf.drop off).take len) off with
    | none => simp [hw] at h
    | some d' =>
      simp only [hw] at h
      split at h
      · cases h
      · cases h; exact walk_matched_plain buf L _ off d hm hw

theorem unpackRRsT_spec {I : Idna} {buf : Bytes} {k off : Nat} {c : Cache} {rs : List RR} {o : Nat} {c' : Cache} {ok : Bool}
    (h : unpackRRsT I buf k off c = some (rs, o, c', ok)) :
    unpackRRs I buf k off c = some (rs, o, c') ∧ (ok = true → ∀ r ∈ rs, rdataPlain r.type r.data = true) := by
  fun_induction unpackRRsT I buf k off c generalizing rs o c' ok <;> cases h
  case case1 => simp [unpackRRs]
  case case6 hu pos _ _ _ _ hl httl hc ht hlen _ hd _ _ _ _ hrec ih =>
    obtain ⟨he, hp⟩ := ih hrec
    simp only [pos] at hl httl hc ht hlen hd he
    refine ⟨by simp [unpackRRs, hu, ht, hc, httl, hl, hlen, hd, he], fun hok => ?_⟩
    simp only [Bool.and_eq_true] at hok
    exact List.forall_mem_cons.mpr ⟨rrData_matched_plain hok.1 hd, hp hok.2⟩

theorem unpackT_spec {I : Idna} {b : Bytes} {m : Msg} {ok : Bool} (h : unpackT I b = some (m, ok)) :
    unpack I b = some m ∧ (ok = true → ∀ r ∈ m.answers ++ m.authorities ++ m.additionals, rdataPlain r.type r.data = true) := by
  revert h
  fun_cases unpackT I b <;> intro h <;> cases h
  case case5 _ _ _ _ _ _ g10 g8 g6 g4 g2 g0 _ _ _ hq _ _ _ _ ha _ _ _ _ hn _ _ _ hr =>
    obtain ⟨e1, p1⟩ := unpackRRsT_spec ha
    obtain ⟨e2, p2⟩ := unpackRRsT_spec hn
    obtain ⟨e3, p3⟩ := unpackRRsT_spec hr
    refine ⟨by simp [unpack, unpackFrom, g0, g2, g4, g6, g8, g10, hq, e1, e2, e3], fun hok => ?_⟩
    simp only [Bool.and_eq_true] at hok
    exact List.forall_mem_append.mpr ⟨List.forall_mem_append.mpr ⟨p1 hok.1.1, p2 hok.1.2⟩, p3 hok.2⟩
end MitmVerif.C25
