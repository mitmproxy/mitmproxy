/-
  C20 — the transcribed library part (Model/C20_B64) by equations and invariants.

  base64: on an alphabet byte the decoding loop pushes its six bits (`a2bLoop_val`); from there the round trip over
  3-byte groups (`a2b_b2a_gen`) and, with the invariant `StOk` of the loop state, that the loop yields bytes
  (`a2bLoop_bytes`).  What `b2a` writes is alphabet or pad (`isB64`): ASCII, and no whitespace of the regenerated table.
  UTF-8: bounds on `utf8enc`; the decoding step on the four well-formed shapes (`decStepE_one` … `decStepE_four`); the
  "replace" step is the "backslashreplace" step with U+FFFD for a malformed range (`decStepR_eq`), so that the two
  decoders are unrolled side by side (`decFB_succ`, `decFR_succ`).
-/
import MitmVerif.Model.C20
import MitmVerif.Model.C20_B64
namespace MitmVerif.C20.B64

theorem a2bVal_b2aChar {n : Nat} (hn : n < 64) : a2bVal (b2aChar n) = some n :=
  (by decide +kernel : ∀ n : Fin 64, a2bVal (b2aChar n.val) = some n.val) ⟨n, hn⟩

/-- the loop on an alphabet byte: its six bits go where the quad position says -/
theorem a2bLoop_val {c v : Nat} (hv : a2bVal c = some v) (cs : NBytes) (s : St) :
    a2bLoop (c :: cs) s = a2bLoop cs (match s.quad with
      | 0 => { s with quad := 1, left := v, pads := 0 }
      | 1 => { quad := 2, left := v % 16, pads := 0, out := (s.left * 4 + v / 16) :: s.out }
      | 2 => { quad := 3, left := v % 4, pads := 0, out := (s.left * 16 + v / 4) :: s.out }
      | _ => { quad := 0, left := 0, pads := 0, out := (s.left * 64 + v) :: s.out }) := by
  have h61 : c ≠ 61 := by rintro rfl; cases hv
  rw [a2bLoop, if_neg h61]
  obtain ⟨q, l, p, out⟩ := s
  match q with
  | 0 | 1 | 2 | _ + 3 => simp only [hv]

theorem a2b_b2a_gen : ∀ (bs : NBytes) (out : NBytes), (∀ b ∈ bs, b < 256) →
    a2bLoop (b2a bs) { quad := 0, left := 0, pads := 0, out := out } = some (out.reverse ++ bs) := by
  intro bs
  induction bs using b2a.induct with
  | case1 a b c rest ih =>
    intro out h
    have ha : a < 256 := h a (by simp)
    have hb : b < 256 := h b (by simp)
    have hc : c < 256 := h c (by simp)
    have hrest : ∀ x ∈ rest, x < 256 := fun x hx => h x (by simp [hx])
    rw [b2a, a2bLoop_val (a2bVal_b2aChar (by omega)), a2bLoop_val (a2bVal_b2aChar (by omega)),
      a2bLoop_val (a2bVal_b2aChar (by omega)), a2bLoop_val (a2bVal_b2aChar (by omega))]
    have e1 : a / 4 * 4 + (a % 4 * 16 + b / 16) / 16 = a := by omega
    have e2 : (a % 4 * 16 + b / 16) % 16 * 16 + (b % 16 * 4 + c / 64) / 4 = b := by omega
    have e3 : (b % 16 * 4 + c / 64) % 4 * 64 + c % 64 = c := by omega
    simp only [e1, e2, e3, ih _ hrest]
    simp
  | case2 a b =>
    intro out h
    have ha : a < 256 := h a (by simp)
    have hb : b < 256 := h b (by simp)
    rw [b2a, a2bLoop_val (a2bVal_b2aChar (by omega)), a2bLoop_val (a2bVal_b2aChar (by omega)),
      a2bLoop_val (a2bVal_b2aChar (by omega))]
    have e1 : a / 4 * 4 + (a % 4 * 16 + b / 16) / 16 = a := by omega
    have e2 : (a % 4 * 16 + b / 16) % 16 * 16 + (b % 16 * 4) / 4 = b := by omega
    simp only [e1, e2]
    simp [a2bLoop]
  | case3 a =>
    intro out h
    have ha : a < 256 := h a (by simp)
    rw [b2a, a2bLoop_val (a2bVal_b2aChar (by omega)), a2bLoop_val (a2bVal_b2aChar (by omega))]
    have e1 : a / 4 * 4 + (a % 4 * 16) / 16 = a := by omega
    simp only [e1]
    simp [a2bLoop]
  | case4 =>
    intro out _
    simp [b2a, a2bLoop]

theorem a2bVal_lt (c v : Nat) (h : a2bVal c = some v) : v < 64 := by
  revert h
  fun_cases a2bVal c <;> intro h <;> simp at h <;> omega

/-- the left-over bits fit the quad position -/
def StOk (s : St) : Prop :=
  (s.quad = 1 → s.left < 64) ∧ (s.quad = 2 → s.left < 16) ∧ (s.quad = 3 → s.left < 4) ∧ s.quad < 4 ∧
  ∀ b ∈ s.out, b < 256

theorem StOk.init : StOk {} := ⟨nofun, nofun, nofun, by decide, nofun⟩

theorem a2bLoop_bytes (data : NBytes) (s : St) : StOk s → ∀ r, a2bLoop data s = some r → ∀ b ∈ r, b < 256 := by
  fun_induction a2bLoop data s <;> intro hs
  case case1 => intro r h; cases h
  case case2 | case3 => intro r h b hb; cases h; exact hs.2.2.2.2 b (List.mem_reverse.mp hb)
  case case4 ih => exact ih (by split <;> exact hs)
  case case5 ih => exact ih hs
  case case6 c _ s _ v hv _ ih => exact ih ⟨fun _ => a2bVal_lt c v hv, by simp, by simp, by simp, hs.2.2.2.2⟩
  case case7 c _ s _ v hv hq ih =>
    have := a2bVal_lt c v hv
    have := hs.1 hq
    exact ih ⟨by simp, fun _ => Nat.mod_lt _ (by omega), by simp, by simp,
      List.forall_mem_cons.mpr ⟨by omega, hs.2.2.2.2⟩⟩
  case case8 c _ s _ v hv hq ih =>
    have := a2bVal_lt c v hv
    have := hs.2.1 hq
    exact ih ⟨by simp, by simp, fun _ => Nat.mod_lt _ (by omega), by simp,
      List.forall_mem_cons.mpr ⟨by omega, hs.2.2.2.2⟩⟩
  case case9 c _ s _ v hv h0 h1 h2 ih =>
    have := a2bVal_lt c v hv
    have h0 : s.quad ≠ 0 := h0
    have h1 : s.quad ≠ 1 := h1
    have h2 : s.quad ≠ 2 := h2
    have := hs.2.2.1 (by have := hs.2.2.2.1; omega)
    exact ih ⟨by simp, by simp, by simp, by simp, List.forall_mem_cons.mpr ⟨by omega, hs.2.2.2.2⟩⟩

/-- a byte of the base64 alphabet or the pad character -/
def isB64 (c : Nat) : Bool := (a2bVal c).isSome || c == 61

theorem b2aChar_isB64 (n : Nat) : isB64 (b2aChar n) = true := by
  by_cases h : n < 64
  · exact (by decide +kernel : ∀ n : Fin 64, isB64 (b2aChar n.val) = true) ⟨n, h⟩
  · rw [b2aChar, if_neg (by omega), if_neg (by omega), if_neg (by omega), if_neg (by omega)]; decide

theorem b2a_chars (bs : NBytes) : ∀ c ∈ b2a bs, isB64 c = true := by
  have h61 : isB64 61 = true := by decide
  fun_induction b2a bs <;> simp_all [b2aChar_isB64]

theorem isB64_lt (c : Nat) (h : isB64 c = true) : c < 128 := by
  revert h
  unfold isB64
  fun_cases a2bVal c <;> intro h <;> simp at h <;> omega

theorem isB64_nospace (c : Nat) (h : isB64 c = true) : genIsSpace c = false :=
  (by decide +kernel : ∀ c : Fin 128, isB64 c.val = true → genIsSpace c.val = false) ⟨c, isB64_lt c h⟩ h

theorem b2a_ne_nil (bs : NBytes) (h : bs ≠ []) : b2a bs ≠ [] := by
  match bs, h with
  | [a], _ => simp [b2a]
  | [a, b], _ => simp [b2a]
  | a :: b :: c :: rest, _ => simp [b2a]

theorem utf8encChar_lt (c : Nat) (hc : c < 0x110000) : ∀ b ∈ utf8encChar c, b < 256 := by
  fun_cases utf8encChar c <;> simp <;> omega

theorem utf8encChar_ne_nil (c : Nat) : utf8encChar c ≠ [] := by
  fun_cases utf8encChar c <;> simp

theorem utf8enc_lt (t : Text) (h : ∀ c ∈ t, c < 0x110000) : ∀ b ∈ utf8enc t, b < 256 := by
  intro b hb
  simp only [utf8enc, List.mem_flatMap] at hb
  obtain ⟨c, hc, hbc⟩ := hb
  exact utf8encChar_lt c (h c hc) b hbc

theorem utf8enc_ascii (t : Text) (h : ∀ c ∈ t, c < 128) : utf8enc t = t := by
  induction t with
  | nil => rfl
  | cons c cs ih =>
    have hc : c < 128 := h c (by simp)
    have : utf8encChar c = [c] := by simp [utf8encChar, hc]
    simp only [utf8enc, List.flatMap_cons, this]
    have := ih (fun x hx => h x (by simp [hx]))
    simp only [utf8enc] at this
    simp [this]

theorem decStepE_one {n0 : Nat} (t : NBytes) (h : n0 < 0x80) : decStepE (n0 :: t) = (some n0, 1) := by
  simp [decStepE, h]

theorem decStepE_two {n0 n1 : Nat} (t : NBytes) (h0 : 0xC2 ≤ n0 ∧ n0 ≤ 0xDF) (h1 : isCont n1 = true) :
    decStepE (n0 :: n1 :: t) = (some ((n0 - 0xC0) * 64 + (n1 - 0x80)), 2) := by
  have : ¬ n0 < 0x80 := by omega
  simp [decStepE, *]

theorem decStepE_three {n0 n1 n2 : Nat} (t : NBytes) (h0 : 0xE0 ≤ n0 ∧ n0 ≤ 0xEF) (h1 : ok3 n0 n1 = true)
    (h2 : isCont n2 = true) :
    decStepE (n0 :: n1 :: n2 :: t) = (some ((n0 - 0xE0) * 4096 + (n1 - 0x80) * 64 + (n2 - 0x80)), 3) := by
  have : ¬ n0 < 0x80 := by omega
  have : ¬ (0xC2 ≤ n0 ∧ n0 ≤ 0xDF) := by omega
  simp [decStepE, *]

theorem decStepE_four {n0 n1 n2 n3 : Nat} (t : NBytes) (h0 : 0xF0 ≤ n0 ∧ n0 ≤ 0xF4) (h1 : ok4 n0 n1 = true)
    (h2 : isCont n2 = true) (h3 : isCont n3 = true) :
    decStepE (n0 :: n1 :: n2 :: n3 :: t) =
      (some ((n0 - 0xF0) * 262144 + (n1 - 0x80) * 4096 + (n2 - 0x80) * 64 + (n3 - 0x80)), 4) := by
  have : ¬ n0 < 0x80 := by omega
  have : ¬ (0xC2 ≤ n0 ∧ n0 ≤ 0xDF) := by omega
  have : ¬ (0xE0 ≤ n0 ∧ n0 ≤ 0xEF) := by omega
  simp [decStepE, *]

theorem isCont_low (x : Nat) : isCont (0x80 + x % 64) = true := by
  simp only [isCont, Bool.and_eq_true, decide_eq_true_eq]
  omega

/-- the two error handlers share one decoder: "replace" puts U+FFFD where "backslashreplace" escapes -/
theorem decStepR_eq (bs : NBytes) (h : bs ≠ []) :
    decStepR bs = (((decStepE bs).1).getD 0xFFFD, (decStepE bs).2) := by
  fun_cases decStepE bs <;> simp [decStepR, *] at h ⊢

theorem decFB_succ (f : Nat) (bs : NBytes) (h : bs ≠ []) :
    decFB (f + 1) bs =
      (match (decStepE bs).1 with
        | some c => [c]
        | none => (bs.take (decStepE bs).2).flatMap bsEscape) ++ decFB f (bs.drop (decStepE bs).2) := by
  cases bs with
  | nil => exact absurd rfl h
  | cons b t => rfl

theorem decFR_succ (f : Nat) (bs : NBytes) (h : bs ≠ []) :
    decFR (f + 1) bs = (decStepR bs).1 :: decFR f (bs.drop (decStepR bs).2) := by
  cases bs with
  | nil => exact absurd rfl h
  | cons b t => rfl

end MitmVerif.C20.B64
