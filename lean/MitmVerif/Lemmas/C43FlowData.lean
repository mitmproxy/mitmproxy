/-
  C43 — histories given by what the key generators read of the flows (`FlowData`): the naturals of the view model are
  then the ranks of the generated keys among all keys of the history, and the view is sorted by the generated keys.
-/
import MitmVerif.Lemmas.C43Ops
import MitmVerif.Lemmas.C43KeyOrder
namespace MitmVerif.C43

/-- an operation, with the flows described by what the key generators read of them -/
inductive ROp where
  | mutate (f : Nat) (d : FlowData) (marked : Bool) (verdicts : List Bool)
  | add (f : Nat) (d : FlowData) (marked : Bool) (verdicts : List Bool)
  | update (f : Nat) (d : FlowData) (marked : Bool) (verdicts : List Bool)
  | remove (f : Nat)
  | clear
  | clearUnmarked
  | setFilter (k : Nat)
  | toggleMarked
  | setReversed (b : Bool)
  | setOrder (slot : Nat)
  | focusFollow (b : Bool)
  | go (offset : Int)
  | next
  | prev
  | focus (f : Nat)
  | setval (f : Nat)

/-- the attributes the view model is given for a flow: its four generated keys mapped to naturals by `rank` -/
def attrOf (rank : SortKey → Nat) (d : FlowData) (mk : Bool) (vs : List Bool) : Attr :=
  { kt := rank (genKey 1 d), km := rank (genKey 2 d), ku := rank (genKey 3 d), kz := rank (genKey 4 d),
    marked := mk, verdicts := vs }

def toOp (rank : SortKey → Nat) : ROp → Op
  | .mutate f d m v => .mutate f (attrOf rank d m v)
  | .add f d m v => .add f (attrOf rank d m v)
  | .update f d m v => .update f (attrOf rank d m v)
  | .remove f => .remove f
  | .clear => .clear
  | .clearUnmarked => .clearUnmarked
  | .setFilter k => .setFilter k
  | .toggleMarked => .toggleMarked
  | .setReversed b => .setReversed b
  | .setOrder sl => .setOrder sl
  | .focusFollow b => .focusFollow b
  | .go o => .go o
  | .next => .next
  | .prev => .prev
  | .focus f => .focus f
  | .setval f => .setval f

def keys4 (d : FlowData) : List SortKey := [genKey 1 d, genKey 2 d, genKey 3 d, genKey 4 d]

/-- every key that any order could generate for any flow state occurring in the history -/
def keysOf : List ROp → List SortKey
  | [] => []
  | .mutate _ d _ _ :: r => keys4 d ++ keysOf r
  | .add _ d _ _ :: r => keys4 d ++ keysOf r
  | .update _ d _ _ :: r => keys4 d ++ keysOf r
  | _ :: r => keysOf r

/-- the live state of the flows as the history describes it (an `add` of a stored flow is ignored by the view, and the
    harness does not change such a flow) -/
def dataStep (s : VS) (D : Nat → FlowData) : ROp → (Nat → FlowData)
  | .mutate f d _ _ => fun g => if g = f then d else D g
  | .update f d _ _ => fun g => if g = f then d else D g
  | .add f d _ _ => if f ∈ s.store then D else fun g => if g = f then d else D g
  | _ => D

def rrun (rank : SortKey → Nat) (rops : List ROp) : VS × (Nat → FlowData) :=
  rops.foldl (fun p r => (step p.1 (toOp rank r), dataStep p.1 p.2 r)) (init, fun _ => .dns 0 0 none none)

/-- every order is one of the four: the slot only matters through the case distinction of `genKey` and `Attr.key` -/
theorem slot_cases (sl : Nat) : ∃ n, (n = 1 ∨ n = 2 ∨ n = 3 ∨ n = 4) ∧ (∀ d, genKey sl d = genKey n d) ∧
    ∀ a : Attr, a.key sl = a.key n := by
  by_cases h1 : sl ≤ 1
  · exact ⟨1, Or.inl rfl, fun d => by simp [genKey, h1], fun a => by simp [Attr.key, h1]⟩
  · by_cases h2 : sl = 2
    · exact ⟨2, Or.inr (Or.inl rfl), fun d => by rw [h2], fun a => by rw [h2]⟩
    · by_cases h3 : sl = 3
      · exact ⟨3, Or.inr (Or.inr (Or.inl rfl)), fun d => by rw [h3], fun a => by rw [h3]⟩
      · exact ⟨4, Or.inr (Or.inr (Or.inr rfl)), fun d => by simp [genKey, h1, h2, h3], fun a => by simp [Attr.key, h1, h2, h3]⟩

theorem attrOf_key (rank : SortKey → Nat) (d : FlowData) (m : Bool) (v : List Bool) (sl : Nat) :
    (attrOf rank d m v).key sl = rank (genKey sl d) := by
  obtain ⟨n, hn, e1, e2⟩ := slot_cases sl
  rw [e1, e2]
  rcases hn with rfl | rfl | rfl | rfl <;> rfl

theorem genKey_mem_keys4 (sl : Nat) (d : FlowData) : genKey sl d ∈ keys4 d := by
  obtain ⟨n, hn, e1, _⟩ := slot_cases sl
  rw [e1]
  rcases hn with rfl | rfl | rfl | rfl <;> simp [keys4]

/-- the naturals in the model are the ranks of the generated keys of the live flow states, and those keys occur in `K`;
    `e` = the live attributes and the store -/
def Synced (rank : SortKey → Nat) (K : List SortKey) (e : (Nat → Attr) × List Nat) (D : Nat → FlowData) : Prop :=
  ∀ f, f ∈ e.2 → (∀ sl, (e.1 f).key sl = rank (genKey sl (D f))) ∧ (∀ sl, genKey sl (D f) ∈ K)

/-- in such a state, with the rank among `K` as the map, the order of the model's naturals is Python's order of the
    generated keys -/
theorem Synced.le {K : List SortKey} {s : VS} {D : Nat → FlowData} (h : Synced (rankIn K) K (s.attrs, s.store) D)
    {a b : Nat} (ha : a ∈ s.store) (hb : b ∈ s.store) (hab : gen s a ≤ gen s b) :
    (genKey s.slot (D a)).le (genKey s.slot (D b)) = true := by
  have ha' : gen s a = rankIn K (genKey s.slot (D a)) := (h a ha).1 s.slot
  have hb' : gen s b = rankIn K (genKey s.slot (D b)) := (h b hb).1 s.slot
  rw [ha', hb'] at hab
  exact rankIn_reflects K _ _ (by rw [genKey_kind, genKey_kind]) ((h b hb).2 s.slot) hab

theorem keysOf_cons (r : ROp) (rs : List ROp) : keysOf (r :: rs) = keysOf [r] ++ keysOf rs := by
  cases r <;> rfl

theorem keysOf_sub {r : ROp} {rs : List ROp} (hr : r ∈ rs) (k : SortKey) (hk : k ∈ keysOf [r]) : k ∈ keysOf rs := by
  induction rs with
  | nil => cases hr
  | cons a rs ih =>
    rw [keysOf_cons]
    rcases List.mem_cons.mp hr with rfl | h
    · exact List.mem_append_left _ hk
    · exact List.mem_append_right _ (ih h)

/-- what an operation writes keeps attributes and data in step -/
theorem synced_written (rank : SortKey → Nat) (K : List SortKey) (s : VS) (D : Nat → FlowData) (r : ROp)
    (h : Synced rank K (s.attrs, s.store) D) (hK : ∀ k, k ∈ keysOf [r] → k ∈ K) :
    Synced rank K (written s (toOp rank r)) (dataStep s D r) := by
  -- flow `f` gets data `d`: its attributes become the ranks of the keys of `d`, the other flows are as before
  have write : ∀ f d m v st, (∀ k, k ∈ keys4 d → k ∈ K) → (∀ g, g ∈ st → g ∈ s.store ∨ g = f) →
      Synced rank K ((setAttr s f (attrOf rank d m v)).attrs, st) (fun g => if g = f then d else D g) := by
    intro f d m v st hk hst g hg
    show (∀ sl, (if g = f then attrOf rank d m v else s.attrs g).key sl = rank (genKey sl (if g = f then d else D g))) ∧
      ∀ sl, genKey sl (if g = f then d else D g) ∈ K
    split
    · exact ⟨fun sl => attrOf_key rank d m v sl, fun sl => hk _ (genKey_mem_keys4 sl d)⟩
    · exact h g ((hst g hg).resolve_right ‹_›)
  cases r with
  | mutate f d m v | update f d m v =>
    exact write f d m v s.store (fun k hk => hK k (by simp [keysOf, hk])) (fun _ => Or.inl)
  | add f d m v =>
    simp only [toOp, written, dataStep]
    split
    · exact h
    · exact write f d m v _ (fun k hk => hK k (by simp [keysOf, hk])) (fun g hg => by simpa using hg)
  | remove f => exact fun g hg => h g (List.mem_of_mem_erase hg)
  | clear => exact nofun
  | clearUnmarked => exact fun g hg => h g (List.mem_filter.mp hg).1
  | _ => exact h

/-- the invariant of `rrun`: the view is in a good state, and its naturals are in step with the flow data -/
def RInv (rank : SortKey → Nat) (K : List SortKey) (p : VS × (Nat → FlowData)) : Prop :=
  (∃ dirty, Good p.1 dirty) ∧ Synced rank K (p.1.attrs, p.1.store) p.2

theorem RInv.step {rank : SortKey → Nat} {K : List SortKey} {p : VS × (Nat → FlowData)} (h : RInv rank K p) (r : ROp)
    (hK : ∀ k, k ∈ keysOf [r] → k ∈ K) : RInv rank K (step p.1 (toOp rank r), dataStep p.1 p.2 r) :=
  have ⟨⟨_, hg⟩, hs⟩ := h
  have sp := step_spec hg (toOp rank r)
  ⟨⟨_, sp.1⟩, sp.2.2 ▸ synced_written rank K p.1 p.2 r hs hK⟩

theorem rrun_fst (rank : SortKey → Nat) (rops : List ROp) : (rrun rank rops).1 = run (rops.map (toOp rank)) := by
  unfold rrun run
  rw [List.foldl_map]
  exact (List.foldl_hom Prod.fst fun _ _ => rfl).symm

/-- after a history given by flow data, the state the view model reaches is in step with the data -/
theorem synced_run (rank : SortKey → Nat) (K : List SortKey) (rops : List ROp) (hK : ∀ k, k ∈ keysOf rops → k ∈ K) :
    Synced rank K ((run (rops.map (toOp rank))).attrs, (run (rops.map (toOp rank))).store) (rrun rank rops).2 :=
  rrun_fst rank rops ▸ (List.foldlRecOn rops _ (motive := RInv rank K) (b := (init, _)) ⟨⟨_, good_init⟩, fun _ hf => nomatch hf⟩
    fun _ h r hr => h.step r fun k hk => hK k (keysOf_sub hr k hk)).2

end MitmVerif.C43
