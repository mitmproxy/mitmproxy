/-
  C03 — `scan`, the monitor `mon` folded over a command list, and what its flags say about the list: list reasoning
  over `mon` alone, no handler is involved.
-/
import MitmVerif.Model.C03
namespace MitmVerif.C03

def scan (t : List Out) : Mon := t.foldl mon {}

theorem scan_append (a b : List Out) : scan (a ++ b) = b.foldl mon (scan a) := List.foldl_append

/-- the order in which `mon` only ever goes up (`mon_le`): no flag, once set, is cleared -/
def Mon.le (a b : Mon) : Prop :=
  (a.fRH = true → b.fRH = true) ∧ (a.fReq = true → b.fReq = true) ∧ (a.fRespH = true → b.fRespH = true) ∧
  (a.fResp = true → b.fResp = true) ∧ (a.fErr = true → b.fErr = true) ∧ (a.streamed = true → b.streamed = true) ∧
  (a.v1 = true → b.v1 = true) ∧ (a.v2 = true → b.v2 = true) ∧ (a.v3 = true → b.v3 = true) ∧
  (a.v4 = true → b.v4 = true) ∧ (a.v5 = true → b.v5 = true)

theorem Mon.le_refl (a : Mon) : a.le a := by simp [Mon.le]

theorem Mon.le_trans {a b c : Mon} (h1 : a.le b) (h2 : b.le c) : a.le c := by
  obtain ⟨a1, a2, a3, a4, a5, a6, a7, a8, a9, a10, a11⟩ := h1
  obtain ⟨b1, b2, b3, b4, b5, b6, b7, b8, b9, b10, b11⟩ := h2
  exact ⟨b1 ∘ a1, b2 ∘ a2, b3 ∘ a3, b4 ∘ a4, b5 ∘ a5, b6 ∘ a6, b7 ∘ a7, b8 ∘ a8, b9 ∘ a9, b10 ∘ a10, b11 ∘ a11⟩

theorem mon_le (m : Mon) (o : Out) : m.le (mon m o) := by
  cases o <;> (try rename_i h; cases h) <;> simp [mon, Mon.le] <;> (intros; simp_all)

theorem foldl_le (t : List Out) (m : Mon) : m.le (t.foldl mon m) := by
  induction t generalizing m with
  | nil => exact Mon.le_refl m
  | cons o t ih => exact Mon.le_trans (mon_le m o) (ih _)

theorem scan_mid_le (pre post : List Out) (x : Out) : (mon (scan pre) x).le (scan (pre ++ x :: post)) := by
  rw [scan_append]; exact foldl_le post _

/-- a flag `f` that `mon` sets exactly on the command `o` is set after a scan iff `o` occurred -/
theorem foldl_flag (f : Mon → Bool) (o : Out) (hf : ∀ m x, f (mon m x) = (f m || x == o)) (t : List Out) (m : Mon) :
    f (t.foldl mon m) = (f m || t.contains o) := by
  induction t generalizing m with
  | nil => simp
  | cons x t ih => rw [List.foldl_cons, ih, hf, List.contains_cons, Bool.or_assoc, Bool.beq_comm]

theorem mon_flags (m : Mon) (x : Out) :
    (mon m x).fRH = (m.fRH || x == .hook .requestheaders) ∧ (mon m x).fReq = (m.fReq || x == .hook .request) ∧
    (mon m x).fRespH = (m.fRespH || x == .hook .responseheaders) ∧ (mon m x).fResp = (m.fResp || x == .hook .response) ∧
    (mon m x).fErr = (m.fErr || x == .hook .error) ∧ (mon m x).streamed = (m.streamed || x == .streamStart) := by
  cases x <;> (try rename_i h; cases h) <;> simp [mon]

theorem scan_fRH (t : List Out) : (scan t).fRH = true ↔ .hook .requestheaders ∈ t := by
  simp [scan, foldl_flag (·.fRH) (.hook .requestheaders) (fun m x => (mon_flags m x).1)]
theorem scan_fReq (t : List Out) : (scan t).fReq = true ↔ .hook .request ∈ t := by
  simp [scan, foldl_flag (·.fReq) (.hook .request) (fun m x => (mon_flags m x).2.1)]
theorem scan_fRespH (t : List Out) : (scan t).fRespH = true ↔ .hook .responseheaders ∈ t := by
  simp [scan, foldl_flag (·.fRespH) (.hook .responseheaders) (fun m x => (mon_flags m x).2.2.1)]
theorem scan_fResp (t : List Out) : (scan t).fResp = true ↔ .hook .response ∈ t := by
  simp [scan, foldl_flag (·.fResp) (.hook .response) (fun m x => (mon_flags m x).2.2.2.1)]
theorem scan_fErr (t : List Out) : (scan t).fErr = true ↔ .hook .error ∈ t := by
  simp [scan, foldl_flag (·.fErr) (.hook .error) (fun m x => (mon_flags m x).2.2.2.2.1)]
theorem scan_streamed (t : List Out) : (scan t).streamed = true ↔ .streamStart ∈ t := by
  simp [scan, foldl_flag (·.streamed) (.streamStart) (fun m x => (mon_flags m x).2.2.2.2.2)]

end MitmVerif.C03
