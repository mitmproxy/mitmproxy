/-
  C39 — the reachable-state invariant `Inv` of the Save addon model and `step_outcome`, the list of what one step can do
  from a state that satisfies it.  Underneath: the outcomes of the model's operations in such a state, each resulting
  state written as a record update of the state before, with the condition under which it occurs (`saveFlow_cases`,
  `doneOp_cases`, `configure_file`, `update_cases`).  From `Outcome` / `step_outcome` everything that holds of every step
  follows by one `cases` (`step_inv` here, `step_cur` in Lemmas/C39Coh, the step lemmas of Props/C39).  Last: what the
  operations write.
-/
import MitmVerif.Model.C39
namespace MitmVerif.Lemmas.C39
open MitmVerif.C39
variable {F C : Type}

/-- the part of the invariant that does not mention filters/options -/
structure W (s : St F C) : Prop where
  path : s.stream.isSome = s.curPath.isSome
  nodup : s.active.Nodup
  idle : s.stream = none → s.active = []

def filtOf : FiltOpt F → Option (Option F)
  | .unset => some none
  | .ok g => some (some g)
  | .bad => none

/-- invariant of every reachable state -/
structure Inv (s : St F C) : Prop extends W s where
  flt : ∀ g, s.stream = some g → g = s.filt                   -- the open writer filters with the current filter
  opt : s.stream.isSome = true → s.optFile.isSome = true       -- a stream is only open while the option is set
  sync : filtOf s.optFilt = some s.filt                        -- self.filt is the parsed option (never unparsable)

theorem rotate_eq_none (env : Env F C) (s : St F C) (spec : Spec) :
    rotate env s spec = none ↔
      s.curPath ≠ some (env.fmt spec.pat s.now) ∧ env.openFails (env.fmt spec.pat s.now) = true := by
  simp only [rotate]
  split <;> simp_all

theorem rotate_none (env : Env F C) (s : St F C) (spec : Spec) (h : rotate env s spec = none) :
    s.curPath ≠ some (env.fmt spec.pat s.now) ∧ env.openFails (env.fmt spec.pat s.now) = true :=
  (rotate_eq_none env s spec).mp h

/-- what a rotation that succeeds emits: the target is opened unless it is the current file -/
def rotIo (env : Env F C) (s : St F C) (spec : Spec) : List (Act C) :=
  if s.curPath = some (env.fmt spec.pat s.now) then [] else [.opn (env.fmt spec.pat s.now) spec.append]

theorem saveFlow_cases (env : Env F C) (s : St F C) (f : FlowId) (hi : Inv s) :
    (s.stream = none ∧ saveFlow env s f = (s, [])) ∨
    ∃ spec, s.optFile = some spec ∧ s.stream = some s.filt ∧
      ((rotate env s spec = none ∧ saveFlow env s f = ({ s with exited := true }, [])) ∨
       (rotate env s spec ≠ none ∧ saveFlow env s f =
         ({ s with stream := some s.filt, curPath := some (env.fmt spec.pat s.now), active := s.active.erase f },
          rotIo env s spec ++ add env s.filt s.world f))) := by
  cases hs : s.stream with
  | none => left; simp [saveFlow, hs]
  | some g =>
    obtain rfl := hi.flt g hs
    obtain ⟨spec, ho⟩ := Option.isSome_iff_exists.mp (hi.opt (by simp [hs]))
    refine .inr ⟨spec, ho, rfl, ?_⟩
    by_cases hp : s.curPath = some (env.fmt spec.pat s.now)
    · right; simp [saveFlow, rotate, rotIo, hs, ho, hp]
    · by_cases hf : env.openFails (env.fmt spec.pat s.now)
      · left; simp [saveFlow, rotate, hs, ho, hp, hf]
      · right; simp [saveFlow, rotate, rotIo, hs, ho, hp, hf]

theorem doneOp_cases (env : Env F C) (s : St F C) :
    (s.stream = none ∧ doneOp env s = (s, [])) ∨
    (∃ flt, s.stream = some flt ∧
      doneOp env s = ({ s with active := [], curPath := none, stream := none },
                      s.active.flatMap (add env flt s.world) ++ [.cls])) := by
  unfold doneOp
  cases s.stream <;> simp

theorem doneOp_fst (env : Env F C) (s : St F C) (hw : W s) :
    (doneOp env s).1 = { s with active := [], curPath := none, stream := none } := by
  rcases doneOp_cases env s with ⟨hs, h⟩ | ⟨flt, _, h⟩
  · have ha := hw.idle hs
    have hp := hw.path
    rw [h]
    cases s
    simp_all
  · rw [h]

theorem doneOp_W (env : Env F C) (s : St F C) (hw : W s) : W (doneOp env s).1 := by
  rw [doneOp_fst env s hw]
  exact ⟨rfl, List.nodup_nil, fun _ => rfl⟩

/-- the filter after the filter part of `configure`; `none`: the option does not parse (OptionsError) -/
def newFilt (s : St F C) (ut : Bool) : Option (Option F) := if ut then filtOf s.optFilt else some s.filt

theorem configure_noop (env : Env F C) (s : St F C) : configure env s false false = (s, [], .ok) := rfl

theorem configure_bad (env : Env F C) (s : St F C) (uf ut : Bool) (h : newFilt s ut = none) :
    configure env s uf ut = (s, [], .optionsError) := by
  cases ut <;> cases hq : s.optFilt <;> simp_all [configure, newFilt, filtOf]

theorem configure_filt (env : Env F C) (s : St F C) (uf ut : Bool) (g : Option F) (h : newFilt s ut = some g)
    (hb : (uf || ut) = true) : configure env s uf ut = configure env { s with filt := g } true false := by
  cases ut
  · obtain rfl : uf = true := by simpa using hb
    obtain rfl : s.filt = g := by simpa [newFilt] using h
    rfl
  · cases hq : s.optFilt <;> simp [newFilt, filtOf, hq] at h <;> subst h <;> simp [configure, hq]

theorem configure_file (env : Env F C) (s : St F C) (hw : W s) :
    (s.optFile = none ∧ configure env s true false = ((doneOp env s).1, (doneOp env s).2, .ok)) ∨
    ∃ spec, s.optFile = some spec ∧
      ((rotate env s spec = none ∧ configure env s true false = (s, [], .optionsError)) ∨
       (rotate env s spec ≠ none ∧ configure env s true false =
          ({ s with stream := some s.filt, curPath := some (env.fmt spec.pat s.now) }, rotIo env s spec, .ok))) := by
  cases ho : s.optFile with
  | none =>
    left
    simp [configure, ho]
  | some spec =>
    refine .inr ⟨spec, rfl, ?_⟩
    by_cases hp : s.curPath = some (env.fmt spec.pat s.now)
    · right
      obtain ⟨g, hg⟩ := Option.isSome_iff_exists.mp (hw.path.trans (by simp [hp]))
      simp [configure, rotate, rotIo, ho, hp, hg]
    · by_cases hf : env.openFails (env.fmt spec.pat s.now)
      · left; simp [configure, rotate, ho, hp, hf]
      · right; simp [configure, rotate, rotIo, ho, hp, hf]

/-- the state in which `configure` runs first: options already set -/
abbrev optSet (s : St F C) (file : Option (Option Spec)) (filt : Option (FiltOpt F)) : St F C :=
  { s with optFile := file.getD s.optFile, optFilt := filt.getD s.optFilt }

/-- The outcomes of `options.update` in a reachable state: nothing to update; the new options are good and leave
    save_stream_file unset (saving stops); they are good and name a file that can be opened; or the filter does not
    parse or the file cannot be opened, and after the roll-back the addon is in its old state, except that it opens
    the stream on the old spec if it can (also when no stream was open before). -/
theorem update_cases (env : Env F C) (s : St F C) (file : Option (Option Spec)) (filt : Option (FiltOpt F))
    (hi : Inv s) :
    (file = none ∧ filt = none ∧ update env s file filt = (s, [], false)) ∨
    (∃ g, filtOf (filt.getD s.optFilt) = some g ∧
      ((file.getD s.optFile = none ∧ update env s file filt =
          ({ optSet s file filt with filt := g, active := [], curPath := none, stream := none },
           (doneOp env s).2, false)) ∨
       ∃ spec, file.getD s.optFile = some spec ∧ rotate env s spec ≠ none ∧ update env s file filt =
          ({ optSet s file filt with filt := g, stream := some g, curPath := some (env.fmt spec.pat s.now) },
           rotIo env s spec, false))) ∨
    ((filtOf (filt.getD s.optFilt) = none ∨ ∃ spec, file.getD s.optFile = some spec ∧ rotate env s spec = none) ∧
      (update env s file filt = (s, [], true) ∨
       ∃ spec, s.optFile = some spec ∧ rotate env s spec ≠ none ∧ update env s file filt =
          ({ s with stream := some s.filt, curPath := some (env.fmt spec.pat s.now) }, rotIo env s spec, true))) := by
  cases hb : (file.isSome || filt.isSome) with
  | false =>
    obtain ⟨rfl, rfl⟩ : file = none ∧ filt = none := by cases file <;> cases filt <;> simp_all
    exact .inl ⟨rfl, rfl, rfl⟩
  | true =>
    right
    have hn : newFilt (optSet s file filt) filt.isSome = filtOf (filt.getD s.optFilt) := by
      cases filt with
      | none => exact hi.sync.symm
      | some v => rfl
    -- configure after the roll-back of the options: the filter is the old one again, whatever it was in between
    have hback : ∀ g', (filt.isSome = false → g' = s.filt) →
        configure env { s with filt := g' } file.isSome filt.isSome = configure env s true false := by
      intro g' hg'
      refine configure_filt env _ _ _ s.filt ?_ hb
      cases hf : filt.isSome with
      | false => simp [newFilt, hg' hf]
      | true => simpa [newFilt] using hi.sync
    have hroll : ∀ g', (filt.isSome = false → g' = s.filt) →
        configure env (optSet s file filt) file.isSome filt.isSome =
          ({ optSet s file filt with filt := g' }, [], .optionsError) →
        update env s file filt = (s, [], true) ∨
        ∃ spec, s.optFile = some spec ∧ rotate env s spec ≠ none ∧ update env s file filt =
          ({ s with stream := some s.filt, curPath := some (env.fmt spec.pat s.now) }, rotIo env s spec, true) := by
      intro g' hg' h1
      have hu : update env s file filt =
          ((configure env s true false).1, (configure env s true false).2.1, true) := by
        unfold update
        simp only [hb, Bool.not_true, Bool.false_eq_true, if_false]
        rw [h1]
        simp only
        rw [hback g' hg']
        rfl
      rw [hu]
      rcases configure_file env s hi.toW with ⟨ho, h⟩ | ⟨spec, ho, ⟨_, h⟩ | ⟨hr, h⟩⟩
      · rcases doneOp_cases env s with ⟨_, hd⟩ | ⟨flt, hs, _⟩
        · rw [h, hd]; exact .inl rfl
        · have := hi.opt (by simp [hs]); simp [ho] at this
      · rw [h]; exact .inl rfl
      · rw [h]; exact .inr ⟨spec, ho, hr, rfl⟩
    have hu : ∀ s1 io, configure env (optSet s file filt) file.isSome filt.isSome = (s1, io, .ok) →
        update env s file filt = (s1, io, false) := by
      intro s1 io h1
      unfold update
      simp only [hb, Bool.not_true, Bool.false_eq_true, if_false]
      rw [h1]
    cases hg : filtOf (filt.getD s.optFilt) with
    | none => exact .inr ⟨.inl rfl, hroll s.filt (fun _ => rfl) (configure_bad env _ _ _ (hn.trans hg))⟩
    | some g =>
      have hc := configure_filt env _ file.isSome _ g (hn.trans hg) hb
      have hw1 : W { optSet s file filt with filt := g } := ⟨hi.path, hi.nodup, hi.idle⟩
      rcases configure_file env _ hw1 with
        ⟨ho, h⟩ | ⟨spec, ho, ⟨hr, h⟩ | ⟨hr, h⟩⟩
      · refine .inl ⟨g, rfl, .inl ⟨ho, ?_⟩⟩
        have hio : (doneOp env { optSet s file filt with filt := g }).2 = (doneOp env s).2 := by
          unfold doneOp; cases s.stream <;> rfl
        rw [hu _ _ (hc.trans h), doneOp_fst env _ hw1, hio]
      · have hr' : rotate env s spec = none := by rw [rotate_eq_none] at hr ⊢; exact hr
        refine .inr ⟨.inr ⟨spec, ho, hr'⟩, hroll g (fun hf => ?_) (hc.trans h)⟩
        rw [hf] at hn
        exact (Option.some.inj (hn.trans hg)).symm
      · have hr' : rotate env s spec ≠ none := by rw [Ne, rotate_eq_none] at hr ⊢; exact hr
        exact .inl ⟨g, rfl, .inr ⟨spec, ho, hr', hu _ _ (hc.trans h)⟩⟩

theorem hookOp_eq (env : Env F C) (s : St F C) (h : Hook) (f : FlowId) :
    hookOp env s h f =
      if !h.isStart && !(h.isHttpEnd && env.isWs (s.world f)) then saveFlow env s f
      else (if h.isStart && s.stream.isSome then
              { s with active := if s.active.contains f then s.active else f :: s.active } else s, []) := by
  unfold hookOp
  cases h.isStart <;> cases h.isHttpEnd <;> cases env.isWs (s.world f) <;> simp

/-- The transitions of the addon from a reachable state `s`, in explicit form (`step_outcome`).  `idle` covers
    everything that changes nothing: events after `sys.exit`, hooks that neither open nor complete a flow, hooks
    while no stream is open, updates that fail and are rolled back without opening a stream. -/
inductive Outcome (env : Env F C) (s : St F C) : Ev F C → St F C × List (Act C) → Prop
  | idle (e : Ev F C) : Outcome env s e (s, [])
  | start (h : Hook) (f : FlowId) : s.stream.isSome = true → f ∉ s.active →
      Outcome env s (.hook h f) ({ s with active := f :: s.active }, [])
  | edit (f : FlowId) (c : C) : Outcome env s (.edit f c) ({ s with world := fun g => if g = f then c else s.world g }, [])
  | tick (t : Nat) : Outcome env s (.tick t) ({ s with now := t }, [])
  | exit (h : Hook) (f : FlowId) : Outcome env s (.hook h f) ({ s with exited := true }, [])
  | save (h : Hook) (f : FlowId) (spec : Spec) : (!h.isStart && !(h.isHttpEnd && env.isWs (s.world f))) = true →
      s.optFile = some spec →
      Outcome env s (.hook h f)
        ({ s with stream := some s.filt, curPath := some (env.fmt spec.pat s.now), active := s.active.erase f },
         rotIo env s spec ++ add env s.filt s.world f)
  | done : Outcome env s .done ({ s with active := [], curPath := none, stream := none }, (doneOp env s).2)
  | unset (file : Option (Option Spec)) (filt : Option (FiltOpt F)) (g : Option F) :
      filtOf (filt.getD s.optFilt) = some g → file.getD s.optFile = none →
      Outcome env s (.update file filt)
        ({ optSet s file filt with filt := g, active := [], curPath := none, stream := none }, (doneOp env s).2)
  | opened (file : Option (Option Spec)) (filt : Option (FiltOpt F)) (g : Option F) (spec : Spec) :
      filtOf (filt.getD s.optFilt) = some g → file.getD s.optFile = some spec →
      Outcome env s (.update file filt)
        ({ optSet s file filt with filt := g, stream := some g, curPath := some (env.fmt spec.pat s.now) },
         rotIo env s spec)
  | reopened (file : Option (Option Spec)) (filt : Option (FiltOpt F)) (spec : Spec) : s.optFile = some spec →
      Outcome env s (.update file filt)
        ({ s with stream := some s.filt, curPath := some (env.fmt spec.pat s.now) }, rotIo env s spec)

theorem step_outcome (env : Env F C) (s : St F C) (e : Ev F C) (hi : Inv s) : Outcome env s e (step env s e) := by
  unfold step
  split
  · exact .idle e
  · cases e with
    | hook h f =>
      simp only [hookOp_eq]
      split
      · rename_i hc
        rcases saveFlow_cases env s f hi with ⟨_, h'⟩ | ⟨spec, ho, _, ⟨_, h'⟩ | ⟨_, h'⟩⟩
        · rw [h']; exact .idle _
        · rw [h']; exact .exit h f
        · rw [h']; exact .save h f spec hc ho
      · split
        · rename_i hs
          split
          · exact .idle _
          · rename_i hm; exact .start h f (by simp_all) (by simpa using hm)
        · exact .idle _
    | edit f c => exact .edit f c
    | tick t => exact .tick t
    | update file filt =>
      simp only
      rcases update_cases env s file filt hi with
        ⟨_, _, h'⟩ | ⟨g, hg, ⟨ho, h'⟩ | ⟨spec, ho, _, h'⟩⟩ | ⟨_, h' | ⟨spec, ho, _, h'⟩⟩
      · rw [h']; exact .idle _
      · rw [h']; exact .unset file filt g hg ho
      · rw [h']; exact .opened file filt g spec hg ho
      · rw [h']; exact .idle _
      · rw [h']; exact .reopened file filt spec ho
    | done =>
      have hd : doneOp env s = (_, (doneOp env s).2) := Prod.ext (doneOp_fst env s hi.toW) rfl
      simp only
      rw [hd]
      exact .done

theorem step_inv (env : Env F C) (s : St F C) (e : Ev F C) (hi : Inv s) : Inv (step env s e).1 := by
  have h := step_outcome env s e hi
  generalize step env s e = r at h
  cases h with
  | idle | edit | tick | exit => exact ⟨⟨hi.path, hi.nodup, hi.idle⟩, hi.flt, hi.opt, hi.sync⟩
  | start h f hs hm =>
    exact ⟨⟨hi.path, List.nodup_cons.mpr ⟨hm, hi.nodup⟩, fun hn => by simp [show s.stream = none from hn] at hs⟩,
      hi.flt, hi.opt, hi.sync⟩
  | save h f spec _ ho => exact ⟨⟨rfl, hi.nodup.erase f, by simp⟩, by simp, fun _ => by simp [ho], hi.sync⟩
  | done => exact ⟨⟨rfl, List.nodup_nil, fun _ => rfl⟩, by simp, by simp, hi.sync⟩
  | unset file filt g hg => exact ⟨⟨rfl, List.nodup_nil, fun _ => rfl⟩, by simp, by simp, hg⟩
  | opened file filt g spec hg ho => exact ⟨⟨rfl, hi.nodup, by simp⟩, by simp, fun _ => by simp [ho], hg⟩
  | reopened file filt spec ho => exact ⟨⟨rfl, hi.nodup, by simp⟩, by simp, fun _ => by simp [ho], hi.sync⟩

theorem run_inv (env : Env F C) (evs : List (Ev F C)) : ∀ s : St F C, Inv s → Inv (run env s evs).1 := by
  induction evs with
  | nil => intro s hi; exact hi
  | cons e es ih => intro s hi; exact ih _ (step_inv env s e hi)

theorem init_inv (w : FlowId → C) : Inv (init w : St F C) :=
  ⟨⟨rfl, List.nodup_nil, fun _ => rfl⟩, by simp [init], by simp [init], rfl⟩

@[simp] theorem writes_nil : writes ([] : List (Act C)) = [] := rfl
@[simp] theorem writes_wr (r : Rec C) (l : List (Act C)) : writes (.wr r :: l) = r :: writes l := rfl
@[simp] theorem writes_opn (p : Path) (a : Bool) (l : List (Act C)) : writes (.opn p a :: l) = writes l := rfl
@[simp] theorem writes_cls (l : List (Act C)) : writes (.cls :: l) = writes l := rfl

theorem writes_append (l1 l2 : List (Act C)) : writes (l1 ++ l2) = writes l1 ++ writes l2 := by
  induction l1 with
  | nil => rfl
  | cons a l ih => cases a <;> simp [ih]

theorem writes_add (env : Env F C) (flt : Option F) (w : FlowId → C) (f : FlowId) :
    writes (add env flt w f) = if passes env flt f (w f) then [⟨f, w f⟩] else [] := by
  unfold add; split <;> rfl

theorem writes_rotIo (env : Env F C) (s : St F C) (spec : Spec) : writes (rotIo env s spec) = [] := by
  unfold rotIo; split <;> rfl

theorem writes_flatMap_add (env : Env F C) (flt : Option F) (w : FlowId → C) (l : List FlowId) :
    writes (l.flatMap (add env flt w)) =
      (l.filter fun f => passes env flt f (w f)).map fun f => ⟨f, w f⟩ := by
  induction l with
  | nil => rfl
  | cons x xs ih =>
    rw [List.flatMap_cons, writes_append, writes_add, ih, List.filter_cons]
    split <;> rfl

/-- `done` writes exactly the open flows that pass the filter, each with its current content -/
theorem doneOp_writes (env : Env F C) (s : St F C) (hi : Inv s) :
    writes (doneOp env s).2 =
      (s.active.filter fun f => passes env s.filt f (s.world f)).map fun f => ⟨f, s.world f⟩ := by
  rcases doneOp_cases env s with ⟨hs, h⟩ | ⟨flt, hs, h⟩
  · rw [h, hi.idle hs]; rfl
  · rw [h, writes_append, writes_flatMap_add, hi.flt flt hs]; exact List.append_nil _

/-- of an open flow the batch flushed by `done` contains exactly one record, if it passes the filter -/
theorem doneOp_flush (env : Env F C) (s : St F C) (f : FlowId) (hi : Inv s) (hm : f ∈ s.active) :
    (writes (doneOp env s).2).filter (fun r => r.flow == f) =
      if passes env s.filt f (s.world f) then [⟨f, s.world f⟩] else [] := by
  have hf : ∀ P : FlowId → Bool, (s.active.filter P).filter (· == f) = if P f then [f] else [] := by
    intro P
    rw [List.filter_beq]
    split
    · rename_i h; rw [List.count_filter h, hi.nodup.count, if_pos hm]; rfl
    · rename_i h; rw [List.count_eq_zero_of_not_mem (by simp [h])]; rfl
  rw [doneOp_writes env s hi, List.filter_map]
  show List.map _ ((s.active.filter _).filter (· == f)) = _
  rw [hf]
  split <;> rfl

theorem opn_not_mem_add (env : Env F C) (flt : Option F) (w : FlowId → C) (f : FlowId) (p : Path) (a : Bool) :
    Act.opn p a ∉ add env flt w f := by
  unfold add; split <;> simp

theorem opn_not_mem_doneOp (env : Env F C) (s : St F C) (p : Path) (a : Bool) : Act.opn p a ∉ (doneOp env s).2 := by
  rcases doneOp_cases env s with ⟨_, h⟩ | ⟨flt, _, h⟩
  · simp [h]
  · simp [h, opn_not_mem_add]

theorem opn_mem_rotIo (env : Env F C) (s : St F C) (spec : Spec) (p : Path) (a : Bool)
    (h : Act.opn p a ∈ rotIo env s spec) : a = spec.append := by
  unfold rotIo at h
  split at h <;> simp_all
end MitmVerif.Lemmas.C39
