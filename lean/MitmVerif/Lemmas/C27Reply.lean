/-
  C27: provenance of every message sent to the client — which message was being handled, and which addon actions were
  consumed at the hooks of that very handling.
-/
import MitmVerif.Lemmas.C27Inv
set_option linter.unusedVariables false
set_option linter.unusedSimpArgs false
namespace MitmVerif.C27
open MitmVerif MitmVerif.C25

/-- A message sent to the client while one message is handled went through `pack_message`; for a query of the client it is
    its SERVFAIL or the response set at its `dns_request` hook, for a message of the upstream that message, which answers the
    query stored under its id (in both cases as changed by the action consumed at the `dns_response` hook). -/
theorem Handled.toClient {c : Cfg} {σ : Core} {fc : Bool} {x : Msg} {r : Core × List Out} (h : Handled c σ fc x r)
    {m : Msg} {w : Bytes} (ho : Out.toClient m w ∈ r.2) :
    (∃ b, pack c.I m = some b ∧ w = wireOf c.tcp b) ∧
    if fc = true then m = servfail x ∨ ∃ m1, (popAct σ).1 = .respond m1 ∧ resolve (popAct (popAct σ).2).1 m1 = some m
    else ∃ f q, σ.flows.lookup x.id = some f ∧ f.request = some q ∧ x.questions = q.questions ∧ resolve (popAct σ).1 x = some m := by
  cases h with
  | answered ha hs =>
    obtain ⟨_, b, h1, hb, e⟩ := ((hs.mem (o := .toClient m w) (by simpa using ho)).resolve_left nofun).resolve_left nofun
    cases e
    rw [popAct_askedCore] at h1
    exact ⟨⟨b, hb, rfl⟩, Or.inr ⟨_, askedFlow_response ha, h1⟩⟩
  | @failed _ _ _ s _ _ hpre hs =>
    have ho : Out.toClient m w ∈ s.2 := by rcases hpre with rfl | ⟨_, rfl | rfl⟩ <;> simpa using ho
    obtain ⟨b, hb, e⟩ := (hs.mem ho).resolve_left nofun
    cases e
    exact ⟨⟨b, hb, rfl⟩, Or.inl rfl⟩
  | @forwarded _ _ _ s _ _ _ hpre hs =>
    have ho : Out.toClient m w ∈ s.2 := by rcases hpre with rfl | rfl <;> simpa using ho
    rcases hs.mem ho with e | ⟨_, _, e⟩ <;> cases e
  | ignored => simp at ho
  | orphan => simp at ho
  | relayed hl hr hq hs =>
    obtain ⟨_, b, h1, hb, e⟩ := ((hs.mem ho).resolve_left nofun).resolve_left nofun
    cases e
    exact ⟨⟨b, hb, rfl⟩, _, _, hl, hr, hq, h1⟩

/-- The flow a `dns_response` hook reports while one message is handled: for a query of the client it carries that query and
    the response set at its `dns_request` hook; for a message of the upstream it pairs that message with the flow stored
    under its id, whose query has the same question section. -/
theorem Handled.response_hook {c : Cfg} {σ : Core} {fc : Bool} {x : Msg} {r : Core × List Out} (h : Handled c σ fc x r)
    {g : Flow} (ho : Out.hook .response g ∈ r.2) :
    if fc = true then g.request = some x ∧ ∃ m1, (popAct σ).1 = .respond m1 ∧ g.response = some m1
    else ∃ f q, σ.flows.lookup x.id = some f ∧ f.request = some q ∧ x.questions = q.questions ∧
      g = { f with response := some x } := by
  cases h with
  | answered ha hs =>
    obtain e | h := hs.mem (o := .hook .response g) (by simpa using ho)
    · cases e
      exact ⟨askedFlow_request σ x, _, askedFlow_response ha, rfl⟩
    · rcases h with e | ⟨_, _, _, _, e⟩ <;> cases e
  | @failed _ _ _ s _ _ hpre hs =>
    have ho : Out.hook .response g ∈ s.2 := by rcases hpre with rfl | ⟨_, rfl | rfl⟩ <;> simpa using ho
    rcases hs.mem ho with e | ⟨_, _, e⟩ <;> cases e
  | @forwarded _ _ _ s _ _ _ hpre hs =>
    have ho : Out.hook .response g ∈ s.2 := by rcases hpre with rfl | rfl <;> simpa using ho
    rcases hs.mem ho with e | ⟨_, _, e⟩ <;> cases e
  | ignored => simp at ho
  | orphan => simp at ho
  | relayed hl hr hq hs =>
    obtain e | h := hs.mem ho
    · cases e
      exact ⟨_, _, hl, hr, hq, rfl⟩
    · rcases h with e | ⟨_, _, _, _, e⟩ <;> cases e

/-- every message sent to the client in a run is sent while ONE message is handled, in a state that satisfies the invariant -/
theorem mem_run_toClient (c : Cfg) (A : List Msg) (m : Msg) (w : Bytes) (evs : List Ev) (σ : State) (hinv : Inv A σ.core)
    (h : Out.toClient m w ∈ (run c σ evs).2) : ∃ σ' x fc, Inv A σ' ∧ Out.toClient m w ∈ (handleMsg c fc σ' x).2 :=
  Sequential.of_run_inv
    (R := fun _ r => Out.toClient m w ∈ r.2 → ∃ σ' x fc, Inv A σ' ∧ Out.toClient m w ∈ (handleMsg c fc σ' x).2)
    ⟨fun _ => nofun, fun h1 h2 ho => (List.mem_append.mp ho).elim h1 h2⟩ c A (fun fc _ _ x _ τ hi ho => ⟨τ, x, fc, hi, ho⟩)
    (fun hk ho => by rcases hk.mem ho with e | e <;> cases e) evs σ hinv h

end MitmVerif.C27
