/-
  C21 — CPython's IPv6 writer (`textV6Py` = str(ipaddress.IPv6Address)) differs from inet_ntop6 (`textV6`) only where
  inet_ntop6 embeds an IPv4 suffix; its text reads back with C22.parseIp.
-/
import MitmVerif.Lemmas.C21V6Read
namespace MitmVerif.C21
open MitmVerif

/-- inet_ntop6 switches to the embedded-IPv4 form -/
def Embedded (best : Option Run) (w5 : Nat) : Prop :=
  match best with
  | some b => b.base = 0 ∧ (b.len = 6 ∨ (b.len = 5 ∧ w5 = 0xffff))
  | none => False

/-- inet_ntop6 writes what CPython's writer writes as long as it does not switch to the dotted quad: in front of word
    6, and everywhere outside the embedded forms -/
theorem emitV6_front (best : Option Run) (w5 : Nat) (l4 : Bytes) (rest : List Nat) : ∀ (pre : List Nat) (i : Nat),
    i + pre.length ≤ 6 ∨ ¬ Embedded best w5 →
    emitV6 best w5 l4 (pre ++ rest) i = emitPy best pre i ++ emitV6 best w5 l4 rest (i + pre.length)
  | [], i, _ => rfl
  | w :: r, i, h => by
    simp only [List.length_cons] at h
    have ih := emitV6_front best w5 l4 rest r (i + 1) (h.imp_left fun h => by omega)
    rw [Nat.add_assoc, Nat.add_comm 1] at ih
    cases best with
    | none => simp [emitV6, emitPy, ih]
    | some b =>
      have : ¬ (i = 6 ∧ b.base = 0 ∧ (b.len = 6 ∨ b.len = 5 ∧ w5 = 65535)) :=
        fun hh => h.elim (fun h => by omega) fun h => h hh.2
      simp only [emitV6, emitPy, List.cons_append, ih, this, if_false, List.length_cons]
      split <;> simp only [List.append_assoc]

theorem emitV6_eq_emitPy (best : Option Run) (w5 : Nat) (l4 : Bytes) (h : ¬ Embedded best w5) (ws : List Nat) (i : Nat) :
    emitV6 best w5 l4 ws i = emitPy best ws i := by
  have := emitV6_front best w5 l4 [] ws i (Or.inr h)
  rwa [List.append_nil, show emitV6 best w5 l4 [] (i + ws.length) = [] from rfl, List.append_nil] at this

/-- CPython's own text of an IPv6 address reads back (with the transcription of CPython's reader) to the address -/
theorem parseIp_textV6Py (ad : Bytes) (h : ad.length = 16) :
    C22.parseIp (asciiBytes (textV6Py ad)) = some (.v6 (wordsVal (words16 ad)) none) :=
  parseIp_emitPy (words16 ad) (by rw [words16_length, h]) (words16_lt ad)

/-- the two writers agree except on the embedded-IPv4 forms -/
theorem textV6Py_eq_textV6 (ad : Bytes) (h : ¬ Embedded (bestRun (words16 ad)) ((words16 ad).getD 5 0)) :
    textV6Py ad = textV6 ad := by
  simp only [textV6Py, textV6]
  rw [emitV6_eq_emitPy _ _ _ h]

end MitmVerif.C21
