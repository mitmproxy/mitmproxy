/-
  C43 — the invariant of store, list and cache (`Core`), what it depends on (`Core.transfer`), and what the three building
  blocks of the single-flow operations do to it: a flow enters the list, leaves it, or has its key refreshed.  Each block
  is a write to list, settings and cache, then a step of the focus side, then one signal (`Told`).
-/
import MitmVerif.Lemmas.C43Sorted
import MitmVerif.Lemmas.C43Frame
namespace MitmVerif.C43

/-- the invariant of store/view/cache; `D` lists the flows whose attributes have changed since the view last
    evaluated them (their cached key may be stale and they may be on the wrong side of the filter) -/
structure Core (s : VS) (D : List Nat) : Prop where
  storeNodup : s.store.Nodup
  viewNodup : s.view.Nodup
  viewSub : ∀ g, g ∈ s.view → g ∈ s.store
  sorted : SortedBy (ck s) s.view
  cached : ∀ g, g ∈ s.view → ∃ k, s.cache g s.slot = some k ∧ (g ∉ D → k = gen s g)
  vis : ∀ g, g ∈ s.store → g ∉ D → (g ∈ s.view ↔ visible s g = true)

/-- settings entries of the result are old entries or belong to stored flows -/
def SB (s s' : VS) : Prop := ∀ g, g ∈ s'.settings → g ∈ s.settings ∨ g ∈ s.store

theorem SB.refl (s : VS) : SB s s := fun _ h => Or.inl h

theorem SB.trans {a b c : VS} (h1 : SB a b) (h2 : SB b c) (hst : b.store = a.store) : SB a c := by
  intro g hg
  rcases h2 g hg with h | h
  · exact h1 g h
  · exact Or.inr (hst ▸ h)

theorem SB.of_frame {s s' : VS} (h : Frame s s') : SB s s' := h.settings

theorem SB.emit {s t : VS} (h : SB s t) (g : Sig) : SB s (emit t g) := h

theorem SB.of_eq {s s' : VS} (h : s'.settings = s.settings) : SB s s' := fun _ hg => Or.inl (h ▸ hg)

/-- what the invariant reads: the list, the order, the keys cached under it for the listed flows, and - for the flows
    that count as current afterwards - that they were stored and current before, with the same key and visibility -/
theorem Core.transfer {s s' : VS} {D D' : List Nat} (h : Core s D) (hv : s'.view = s.view) (hsl : s'.slot = s.slot)
    (hnd : s'.store.Nodup) (hsub : ∀ g, g ∈ s.view → g ∈ s'.store)
    (hc : ∀ g, g ∈ s.view → s'.cache g s.slot = s.cache g s.slot)
    (hcur : ∀ g, g ∈ s'.store → g ∉ D' → g ∈ s.store ∧ g ∉ D ∧ gen s' g = gen s g ∧ visible s' g = visible s g) :
    Core s' D' := by
  refine ⟨hnd, hv ▸ h.viewNodup, fun g hg => hsub g (hv ▸ hg), ?_, ?_, ?_⟩
  · rw [hv]
    exact sortedBy_congr (fun a ha' => by simp only [ck, hsl, hc a ha']) h.sorted
  · intro g hg
    obtain ⟨k, h1, h2⟩ := h.cached g (hv ▸ hg)
    refine ⟨k, by rw [hsl, hc g (hv ▸ hg)]; exact h1, fun hx => ?_⟩
    obtain ⟨_, hd, hg', _⟩ := hcur g (hsub g (hv ▸ hg)) hx
    rw [hg']; exact h2 hd
  · intro g hg hx
    obtain ⟨hs, hd, _, hvis⟩ := hcur g hg hx
    rw [hv, hvis]; exact h.vis g hs hd

/-- states that agree on attributes, store, list, filter, order, and the keys cached for the shown flows under that order -/
theorem core_congr {s s' : VS} {x : List Nat} (h : Core s x) (ha : s'.attrs = s.attrs) (hst : s'.store = s.store)
    (hv : s'.view = s.view) (hf : s'.filt = s.filt) (hm : s'.showMarked = s.showMarked) (hsl : s'.slot = s.slot)
    (hc : ∀ g, g ∈ s.view → s'.cache g s.slot = s.cache g s.slot) : Core s' x :=
  h.transfer hv hsl (hst ▸ h.storeNodup) (fun g hg => hst ▸ h.viewSub g hg) hc
    (fun g hg hx => ⟨hst ▸ hg, hx, gen_eq_of ha hsl g, visible_eq_of ha hm hf g⟩)

theorem core_emit {s : VS} {x : List Nat} (h : Core s x) (g : Sig) : Core (emit s g) x :=
  core_congr h rfl rfl rfl rfl rfl rfl (fun _ _ => rfl)

/-- a frame step fills only empty cache cells, and those of shown flows are not empty -/
theorem ck_frame {s s' : VS} {x : List Nat} (h : Core s x) (hf : Frame s s') (g : Nat) (hg : g ∈ s.view) :
    s'.cache g s'.slot = s.cache g s.slot := by
  obtain ⟨k, h1, _⟩ := h.cached g hg
  rw [hf.slot]
  rcases hf.cache g s.slot with h' | ⟨hn, _, _⟩
  · exact h'
  · rw [h1] at hn; cases hn

theorem core_frame {s s' : VS} {x : List Nat} (h : Core s x) (hf : Frame s s') : Core s' x :=
  core_congr h hf.attrs hf.store hf.view hf.filt hf.showMarked hf.slot (fun g hg => hf.slot ▸ ck_frame h hf g hg)

theorem core_weaken {s : VS} {D D' : List Nat} (h : Core s D) (hsub : ∀ g, g ∈ D → g ∈ D') : Core s D' :=
  h.transfer rfl rfl h.storeNodup h.viewSub (fun _ _ => rfl) (fun g hg hx => ⟨hg, fun hd => hx (hsub g hd), rfl, rfl⟩)

theorem not_mem_without {D : List Nat} {f g : Nat} (hne : g ≠ f) (h : g ∉ D.filter (fun x => x != f)) : g ∉ D := by
  intro hd; apply h; rw [List.mem_filter]; exact ⟨hd, by simpa using hne⟩

theorem without_cons (D : List Nat) (f : Nat) : ∀ g, g ∈ (f :: D).filter (fun x => x != f) → g ∈ D.filter (fun x => x != f) := by
  intro g hg
  rw [List.mem_filter] at hg ⊢
  have hne : g ≠ f := by simpa using hg.2
  exact ⟨(List.mem_cons.mp hg.1).resolve_left hne, hg.2⟩

theorem without_sub (D : List Nat) (f : Nat) : ∀ g, g ∈ D.filter (fun x => x != f) → g ∈ D :=
  fun _ hg => (List.mem_filter.mp hg).1

/-- a flow becomes current again once it is on the right side of the filter with a fresh key -/
theorem core_drop {s : VS} {D : List Nat} {f : Nat} (h : Core s D)
    (hv : f ∈ s.store → (f ∈ s.view ↔ visible s f = true))
    (hc : f ∈ s.view → s.cache f s.slot = some (gen s f)) : Core s (D.filter (fun x => x != f)) := by
  refine ⟨h.storeNodup, h.viewNodup, h.viewSub, h.sorted, ?_, ?_⟩
  · intro g hg
    by_cases hgf : g = f
    · subst hgf; exact ⟨_, hc hg, fun _ => rfl⟩
    · obtain ⟨k, h1, h2⟩ := h.cached g hg
      exact ⟨k, h1, fun hx => h2 (not_mem_without hgf hx)⟩
  · intro g hg hx
    by_cases hgf : g = f
    · subst hgf; exact hv hg
    · exact h.vis g hg (not_mem_without hgf hx)

/-- … in particular a flow that is not shown and should not be -/
theorem core_drop_hidden {s : VS} {D : List Nat} {f : Nat} (h : Core s D) (hnv : f ∉ s.view)
    (hvis : f ∈ s.store → visible s f = false) : Core s (D.filter (fun x => x != f)) :=
  core_drop h (fun hst => ⟨fun hm => absurd hm hnv, fun hv => by rw [hvis hst] at hv; cases hv⟩) (fun hm => absurd hm hnv)

theorem setAttr_other (s : VS) {f g : Nat} (a : Attr) (h : g ≠ f) :
    gen (setAttr s f a) g = gen s g ∧ visible (setAttr s f a) g = visible s g := by
  simp [gen, visible, setAttr, h]

theorem core_setAttr {s : VS} {D : List Nat} (h : Core s D) (f : Nat) (a : Attr) : Core (setAttr s f a) (f :: D) :=
  h.transfer rfl rfl h.storeNodup h.viewSub (fun _ _ => rfl) (fun g hg hx => by
    have hx' : g ≠ f ∧ g ∉ D := by simpa using hx
    exact ⟨hg, hx'.2, setAttr_other s a hx'.1⟩)

/-- a change of `f` that keeps its visibility and its key under the selected order: the invariant holds as it did -/
theorem core_setAttr_same {s : VS} {D : List Nat} (h : Core s D) (f : Nat) (a : Attr)
    (hv : visible (setAttr s f a) f = visible s f) (hk : gen (setAttr s f a) f = gen s f) : Core (setAttr s f a) D :=
  h.transfer rfl rfl h.storeNodup h.viewSub (fun _ _ => rfl) (fun g hg hx => by
    by_cases hgf : g = f
    · subst hgf; exact ⟨hg, hx, hk, hv⟩
    · exact ⟨hg, hx, setAttr_other s a hgf⟩)

/-- how every block ends: after its write `w` to list, settings and cache (`Rest s w`) comes a step of the focus side and
    then one signal `g`; `s'` is the state after that -/
structure Told (s w s' : VS) (D : List Nat) (g : Sig) : Prop where
  core : Core s' D
  focus : FocusOK s'
  crash : s'.crash = s.crash
  sigs : sigs s' = sigs s ++ [g]
  view : s'.view = w.view
  settings : SB s s'
  attrs : s'.attrs = s.attrs
  store : s'.store = s.store
  filt : s'.filt = s.filt
  showMarked : s'.showMarked = s.showMarked
  slot : s'.slot = s.slot
  reversed : s'.reversed = s.reversed
  err : s'.err = s.err

theorem told {s w t : VS} {D : List Nat} (r : Rest s w) (hsb : SB s w) (hc : Core w D) (m : Refocus w t) (g : Sig)
    (hg : g ≠ .fchange) : Told s w (emit t g) D g :=
  have fr := m.frame
  ⟨core_emit (core_frame hc fr) _, focusOK_emit _ m.focus, m.crash.trans r.crash,
    by rw [sigs_emit _ _ hg, fr.sigs, r.sigs], fr.view, (hsb.trans (SB.of_frame fr) r.store).emit _,
    fr.attrs.trans r.attrs, fr.store.trans r.store, fr.filt.trans r.filt, fr.showMarked.trans r.showMarked,
    fr.slot.trans r.slot, fr.reversed.trans r.reversed, fr.err.trans r.err⟩

theorem setCache_self (s : VS) (f v : Nat) : (setCache s f v).cache f (setCache s f v).slot = some v := by
  rw [(rest_setCache s f v).slot, setCache_cache]; simp

theorem setCache_other (s : VS) (f v g : Nat) (h : g ≠ f) :
    (setCache s f v).cache g (setCache s f v).slot = s.cache g s.slot := by
  rw [(rest_setCache s f v).slot, setCache_cache]; simp [h]

theorem ck_setCache_other (s : VS) (f v g : Nat) (h : g ≠ f) : ck (setCache s f v) g = ck s g := by
  simp only [ck, setCache_other s f v g h]

theorem rest_baseAdd (s : VS) (f : Nat) : Rest s (baseAdd s f) :=
  (rest_setCache s f (gen s f)).trans (rest_withView _ _)

theorem baseAdd_view (s : VS) (f : Nat) : (baseAdd s f).view = sortedInsert (ck (freshen s f)) f s.view := by
  show sortedInsert (ck (freshen s f)) f (freshen s f).view = _
  rw [show (freshen s f).view = s.view from setCache_view s f _]

theorem mem_baseAdd_view (s : VS) (f g : Nat) : g ∈ (baseAdd s f).view ↔ g = f ∨ g ∈ s.view := by
  rw [baseAdd_view, mem_sortedInsert]

theorem mem_baseAdd_settings (s : VS) (f g : Nat) : g ∈ (baseAdd s f).settings ↔ g ∈ s.settings ∨ g = f :=
  mem_setCache_settings s f (gen s f) g

/-- the list is compared by the keys cached after the write -/
theorem ck_baseAdd (s : VS) (f : Nat) : ck (baseAdd s f) = ck (freshen s f) := rfl

theorem baseAdd_self (s : VS) (f : Nat) : (baseAdd s f).cache f (baseAdd s f).slot = some (gen s f) :=
  setCache_self s f _

theorem baseAdd_other (s : VS) (f g : Nat) (h : g ≠ f) : (baseAdd s f).cache g (baseAdd s f).slot = s.cache g s.slot :=
  setCache_other s f _ g h

theorem baseAdd_nodup {s : VS} {f : Nat} (hnv : f ∉ s.view) (h : s.view.Nodup) : (baseAdd s f).view.Nodup := by
  rw [baseAdd_view]; exact sortedInsert_nodup _ _ _ hnv h

theorem baseAdd_sorted {s : VS} {f : Nat} (hnv : f ∉ s.view) (h : SortedBy (ck s) s.view) :
    SortedBy (ck (baseAdd s f)) (baseAdd s f).view := by
  rw [baseAdd_view, ck_baseAdd]
  apply sortedInsert_sorted
  apply sortedBy_congr _ h
  intro a ha
  exact (ck_setCache_other s f _ a (fun e => hnv (e ▸ ha))).symm

/-- inserting a stored, not yet shown flow that passes the filter, with a fresh key, makes it current -/
theorem core_baseAdd {s : VS} {D : List Nat} {f : Nat} (h : Core s D) (hD : f ∈ D) (hst : f ∈ s.store) (hnv : f ∉ s.view)
    (hvis : visible s f = true) : Core (baseAdd s f) (D.filter (fun x => x != f)) := by
  have r := rest_baseAdd s f
  refine core_drop ⟨r.store ▸ h.storeNodup, baseAdd_nodup hnv h.viewNodup, ?_, baseAdd_sorted hnv h.sorted, ?_, ?_⟩
    (fun _ => ⟨fun _ => (r.visible f).trans hvis, fun _ => (mem_baseAdd_view s f f).mpr (Or.inl rfl)⟩)
    (fun _ => by rw [baseAdd_self, r.gen])
  · intro g hg
    rw [r.store]
    rcases (mem_baseAdd_view s f g).mp hg with hg | hg
    · exact hg ▸ hst
    · exact h.viewSub g hg
  · intro g hg
    by_cases hgf : g = f
    · subst hgf; exact ⟨_, baseAdd_self s g, fun _ => (r.gen g).symm⟩
    · obtain ⟨k, h1, h2⟩ := h.cached g (((mem_baseAdd_view s f g).mp hg).resolve_left hgf)
      exact ⟨k, by rw [baseAdd_other s f g hgf]; exact h1, fun hx => by rw [r.gen]; exact h2 hx⟩
  · intro g hg hx
    have hne : g ≠ f := fun h' => hx (h' ▸ hD)
    rw [mem_baseAdd_view, r.visible, ← h.vis g (r.store ▸ hg) hx]
    exact ⟨fun h' => h'.resolve_left hne, Or.inr⟩

theorem sb_baseAdd (s : VS) (f : Nat) (hst : f ∈ s.store) : SB s (baseAdd s f) :=
  fun g hg => ((mem_baseAdd_settings s f g).mp hg).imp_right (fun (e : g = f) => e ▸ hst)

/-- a valid focus stays valid when the list only grows -/
theorem focus_mono {s s' : VS} (hfo : s'.focus = s.focus) (hsub : ∀ g, g ∈ s.view → g ∈ s'.view)
    (g : Nat) (hg : s'.focus = some g) (hok : ∀ g, s.focus = some g → g ∈ s.view) : g ∈ s'.view :=
  hsub g (hok g (hfo ▸ hg))

structure EnterSpec (s s' : VS) (D : List Nat) (f : Nat) : Prop where
  core : Core s' (D.filter (fun x => x != f))
  focus : FocusOK s'
  crash : s'.crash = s.crash
  sigs : sigs s' = sigs s ++ [.vadd f]
  view : ∀ g, g ∈ s'.view ↔ g = f ∨ g ∈ s.view
  store : s'.store = s.store
  err : s'.err = s.err
  slot : s'.slot = s.slot
  reversed : s'.reversed = s.reversed
  settings : SB s s'

theorem enterView_spec {s : VS} {D : List Nat} {f : Nat} (h : Core s D) (hD : f ∈ D) (hst : f ∈ s.store) (hnv : f ∉ s.view)
    (hvis : visible s f = true) (hfo : ∀ g, s.focus = some g → g ∈ s.view) :
    EnterSpec s (enterView s f) D f ∧ Keep s (enterView s f) := by
  have r := rest_baseAdd s f
  have hfin : f ∈ (baseAdd s f).view := (mem_baseAdd_view s f f).mpr (Or.inl rfl)
  -- focus-follow and `Focus._sig_view_add` together are one step of the focus side from `baseAdd s f`
  obtain ⟨t, ht, m⟩ : ∃ t, enterView s f = emit t (.vadd f) ∧ Refocus (baseAdd s f) t := by
    refine ⟨_, rfl, ?_⟩
    split
    · have m := refocus_setFocus hfin
      exact m.trans (refocus_onViewAdd (by rw [m.frame.view]; exact hfin) (focusOK_some m.focus))
    · exact refocus_onViewAdd hfin (fun g hg => (mem_baseAdd_view s f g).mpr (Or.inr (hfo g (r.focus ▸ hg))))
  rw [ht]
  have T := told r (sb_baseAdd s f hst) (core_baseAdd h hD hst hnv hvis) m (.vadd f) (by simp)
  exact ⟨⟨T.core, T.focus, T.crash, T.sigs, fun g => by rw [T.view]; exact mem_baseAdd_view s f g, T.store, T.err, T.slot,
    T.reversed, T.settings⟩, T.attrs, T.store⟩

theorem core_eraseView {s : VS} {D : List Nat} {f : Nat} (h : Core s D) (hD : f ∈ D) :
    Core { s with view := s.view.erase f } D := by
  refine ⟨h.storeNodup, h.viewNodup.erase f, ?_, List.Pairwise.erase f h.sorted, ?_, ?_⟩
  · intro g hg; exact h.viewSub g (List.mem_of_mem_erase hg)
  · intro g hg; exact h.cached g (List.mem_of_mem_erase hg)
  · intro g hg hx
    have hne : g ≠ f := fun h' => hx (h' ▸ hD)
    show g ∈ s.view.erase f ↔ _
    rw [List.mem_erase_of_ne hne]; exact h.vis g hg hx

structure LeaveSpec (s s' : VS) (D : List Nat) (f : Nat) : Prop where
  core : Core s' D
  focus : FocusOK s'
  crash : s'.crash = s.crash
  sigs : sigs s' = sigs s ++ [.vrm f (s.view.idxOf f)]
  view : s'.view = s.view.erase f
  store : s'.store = s.store
  err : s'.err = s.err
  attrs : s'.attrs = s.attrs
  filt : s'.filt = s.filt
  showMarked : s'.showMarked = s.showMarked
  settings : SB s s'

theorem leaveView_spec {s : VS} {D : List Nat} {f : Nat} (h : Core s D) (hD : f ∈ D) (hv : f ∈ s.view) (hfo : FocusOK s) :
    LeaveSpec s (leaveView s f) D f :=
  have T := told (rest_withView s (s.view.erase f)) (fun _ hg => Or.inl hg) (core_eraseView h hD) (refocus_onViewRemove (s.view.idxOf f) hfo hv)
    (.vrm f (s.view.idxOf f)) (by simp)
  ⟨T.core, T.focus, T.crash, T.sigs, T.view, T.store, T.err, T.attrs, T.filt, T.showMarked, T.settings⟩

structure RefreshSpec (s s' : VS) (D : List Nat) (f : Nat) : Prop where
  core : Core s' (D.filter (fun x => x != f))
  focus : FocusOK s'
  crash : s'.crash = s.crash
  sigs : sigs s' = sigs s ∨ sigs s' = sigs s ++ [.vrefresh]
  view : ∀ g, g ∈ s'.view ↔ g ∈ s.view
  store : s'.store = s.store
  err : s'.err = s.err
  settings : SB s s'

/-- with a cached key: nothing but the settings entry when the key is unchanged, else remove, re-key, re-insert and
    `sig_view_refresh` -/
theorem refreshKey_eq {s : VS} {f old : Nat} (h : s.cache f s.slot = some old) :
    refreshKey s f =
      if old = gen s f then ensure s f
      else emit (onRefresh (baseAdd { ensure s f with view := (ensure s f).view.erase f } f)) .vrefresh := by
  have e : refreshKey s f =
      if old = gen (ensure s f) f then ensure s f
      else emit (onRefresh (baseAdd { ensure s f with view := (ensure s f).view.erase f } f)) .vrefresh := by
    unfold refreshKey
    rw [h]
    rfl
  rw [e, (rest_ensure s f).gen]

theorem refreshKey_spec {s : VS} {D : List Nat} {f : Nat} (h : Core s D) (hD : f ∈ D) (hst : f ∈ s.store) (hv : f ∈ s.view)
    (hvis : visible s f = true) (hfo : FocusOK s) : RefreshSpec s (refreshKey s f) D f ∧ Keep s (refreshKey s f) := by
  obtain ⟨old, hold, _⟩ := h.cached f hv
  have he := frame_ensure s f hst
  have re := rest_ensure s f
  have hc0 : Core (ensure s f) D := core_frame h he
  rw [refreshKey_eq hold]
  split
  · rename_i heq
    refine ⟨⟨core_drop hc0 (fun _ => ?_) (fun _ => ?_), focusOK_same re.focus he.view hfo, re.crash, Or.inl he.sigs,
      fun g => by rw [he.view], he.store, he.err, he.settings⟩, .of_frame he⟩
    · rw [he.view, he.visible]
      exact ⟨fun _ => hvis, fun _ => hv⟩
    · rw [ck_frame h he f hv, hold, heq, he.gen]
  · -- remove, re-key, re-insert
    generalize hs1 : ({ ensure s f with view := (ensure s f).view.erase f } : VS) = s1
    have r1 : Rest (ensure s f) s1 := hs1 ▸ rest_withView _ _
    have hv1 : s1.view = s.view.erase f := by rw [← hs1, ← he.view]
    have hc1 : Core s1 D := hs1 ▸ core_eraseView hc0 hD
    have hnv1 : f ∉ s1.view := hv1 ▸ h.viewNodup.not_mem_erase
    have hst1 : f ∈ s1.store := by rw [r1.store, he.store]; exact hst
    have hsb1 : SB s s1 := fun g hg => he.settings g (by rw [← hs1] at hg; exact hg)
    have r3 := (re.trans r1).trans (rest_baseAdd s1 f)
    have hmem3 : ∀ g, g ∈ (baseAdd s1 f).view ↔ g ∈ s.view := by
      intro g
      rw [mem_baseAdd_view, hv1]
      by_cases hgf : g = f
      · subst hgf; simp [hv]
      · rw [List.mem_erase_of_ne hgf]; simp [hgf]
    have hcore3 := core_baseAdd hc1 hD hst1 hnv1 (((re.trans r1).visible f).trans hvis)
    have hsb3 : SB s (baseAdd s1 f) := hsb1.trans (sb_baseAdd s1 f hst1) (r1.store.trans he.store)
    have T := told r3 hsb3 hcore3 (refocus_onRefresh (baseAdd s1 f)) .vrefresh (by simp)
    exact ⟨⟨T.core, T.focus, T.crash, Or.inr T.sigs, fun g => by rw [T.view]; exact hmem3 g, T.store, T.err, T.settings⟩,
      T.attrs, T.store⟩

end MitmVerif.C43
