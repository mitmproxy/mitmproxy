/-
  C24 — the two models, each seen from the client connection an event arrives on.

  Both proxy states are a family of per-connection states and one shared list, `tunneled`; at both levels a step on
  `cid` changes `cid`'s own state and puts `cid` into the list exactly when it answers with kind `tunnel`
  (`rrun` is written that way; for the Dest level `step_eq` says so).  `conn_inv_step` lifts an invariant of one
  connection over such a step.

  Dest level: `step` decides from the connection's phase, the event and its membership in `tunneled` alone (`dstep`);
  a request writes `outerWrites` outside a tunnel and `tunnelWrites` inside one, nothing else writes (`dstep_writes`);
  a connection's phase and its membership stay in step (`PhaseInv`, `dstep_phaseInv`).

  Routing level: `rstep`, layer by layer — a closed connection ignores everything, a drop empties the pool, a CONNECT
  opens a transparent layer or is invalid, and a request is served by the explicit-proxy layer (`proxyReq`) or by a
  transparent one (`ctxReq`); `mem_writesOn` and `requestheaders_ne_none` read a credential back to its cause.
-/
import MitmVerif.Model.C24_Route
namespace MitmVerif.C24

theorem conn_inv_step {S : Type} {I : Nat → Bool → S → Prop} {l : List Nat} {f : Nat → S} {cid : Nat}
    {add : Prop} [Decidable add] {s' : S} (h : ∀ c, I c (l.contains c) (f c))
    (hs : I cid (l.contains cid || decide add) s') (c : Nat) :
    I c ((if add then cid :: l else l).contains c) (if c = cid then s' else f c) := by
  by_cases hc : c = cid
  · subst hc
    by_cases ha : add <;> simpa [ha] using hs
  · by_cases ha : add <;> simpa [ha, hc] using h c

theorem requestheaders_ne_none {auth : Bool} {m : Mode} {sh tn : Bool} (h : requestheaders auth m sh tn ≠ none) :
    (m = .upstream ∧ sh = true ∧ tn = false) ∨ m = .reverse := by
  unfold requestheaders at h
  split at h
  · exact absurd rfl h
  · split at h
    · rename_i hu
      simp only [Bool.and_eq_true, decide_eq_true_eq, Bool.not_eq_true'] at hu
      exact .inl ⟨hu.1.1, hu.1.2, hu.2⟩
    · split at h
      · rename_i hr
        exact .inr hr
      · exact absurd rfl h

/-- what the Dest-level model writes for a request outside any tunnel -/
def outerWrites (auth : Bool) (m : Mode) (tn https : Bool) : List Write :=
  match m with
  | .regular => [⟨.originDirect, .request, https, requestheaders auth m (!https) tn⟩]
  | .upstream =>
    if https then [⟨.proxy, .connect, false, connectUpstream auth⟩,
                   ⟨.originViaTunnel, .request, true, requestheaders auth m false tn⟩]
    else [⟨.proxy, .request, false, requestheaders auth m true tn⟩]
  | _ => [⟨transparentDest m, .request, false, requestheaders auth m true tn⟩]

/-- … and for a request inside a client's CONNECT tunnel whose upstream side is `opened` or not -/
def tunnelWrites (auth : Bool) (m : Mode) (tn opened : Bool) : List Write :=
  match m with
  | .upstream =>
    (if opened then [] else [⟨.proxy, .connect, false, connectUpstream auth⟩]) ++
      [⟨.originViaTunnel, .request, false, requestheaders auth m true tn⟩]
  | _ => [⟨.originDirect, .request, false, requestheaders auth m true tn⟩]

/-- the Dest-level step on one client connection: new phase, kind, writes.  Matched by phase and then by event, not
    on the pair as in `stepWith`: the cases do not overlap. -/
def dstep (auth : Bool) (m : Mode) (tn : Bool) (p : Phase) (e : Ev) : Phase × Kind × List Write :=
  match p with
  | .closed => (.closed, .ignored, [])
  | .outer =>
    match e with
    | .drop => (.outer, .noop, [])
    | .connect => if m.isHttpProxy then (.tunnel (m == Mode.regular), .tunnel, []) else (.closed, .invalid, [])
    | .req https => (.outer, .response, outerWrites auth m tn https)
  | .tunnel opened =>
    match e with
    | .drop => (.tunnel false, .noop, [])
    | .connect => (.closed, .invalid, [])
    | .req _ => (.tunnel (opened || m == Mode.upstream), .response, tunnelWrites auth m tn opened)

theorem State.setPhase_self (σ : State) (cid : Nat) : σ.setPhase cid (σ.phase cid) = σ := by
  obtain ⟨t, ph⟩ := σ
  simp only [State.setPhase, State.mk.injEq, true_and]
  funext c
  split
  · rename_i h; rw [h]
  · rfl

theorem step_eq (auth : Bool) (m : Mode) (σ : State) (cid : Nat) (e : Ev) :
    step auth m σ cid e =
      (({ σ with tunneled := if (dstep auth m (σ.tunneled.contains cid) (σ.phase cid) e).2.1 = Kind.tunnel
                             then cid :: σ.tunneled else σ.tunneled }).setPhase cid
          (dstep auth m (σ.tunneled.contains cid) (σ.phase cid) e).1,
       (dstep auth m (σ.tunneled.contains cid) (σ.phase cid) e).2) := by
  -- where the phase stays, `stepWith` returns `σ` itself
  have keep : ∀ {p} {o : Kind × List Write}, σ.phase cid = p →
      (σ, o) = (({ σ with tunneled := σ.tunneled }).setPhase cid p, o) :=
    fun hp => congrArg (·, _) (hp ▸ (State.setPhase_self σ cid).symm)
  unfold step stepWith
  cases hp : σ.phase cid <;> cases e
  case outer.req https => cases m <;> first | exact keep hp | (cases https <;> exact keep hp)
  case outer.connect => cases m <;> rfl
  case tunnel.req o https => cases m <;> cases o <;> first | exact keep hp | rfl
  case closed.req | closed.connect | closed.drop | outer.drop => exact keep hp
  all_goals rfl

/-- every write of a step is a write of a request, outside a tunnel or inside one -/
theorem dstep_writes {auth : Bool} {m : Mode} {tn : Bool} {p : Phase} {e : Ev} {P : Write → Prop}
    (hout : ∀ https, p = .outer → ∀ w ∈ outerWrites auth m tn https, P w)
    (htun : ∀ o, p = .tunnel o → ∀ w ∈ tunnelWrites auth m tn o, P w) :
    ∀ w ∈ (dstep auth m tn p e).2.2, P w := by
  have nil : ∀ w ∈ ([] : List Write), P w := fun _ hw => nomatch hw
  cases p with
  | closed => exact nil
  | outer =>
    cases e with
    | req https => exact hout https rfl
    | connect =>
      show ∀ w ∈ (if m.isHttpProxy then _ else _ : Phase × Kind × List Write).2.2, P w
      split <;> exact nil
    | drop => exact nil
  | tunnel o =>
    cases e with
    | req https => exact htun o rfl
    | _ => exact nil

/-- a connection inside a CONNECT tunnel is in `UpstreamAuth.tunneled` (`tn`) and its mode is an HTTP proxy's; one
    that has seen no CONNECT is not in it -/
def PhaseInv (m : Mode) (tn : Bool) (p : Phase) : Prop :=
  (∀ o, p = .tunnel o → tn = true ∧ m.isHttpProxy = true) ∧ (p = .outer → tn = false)

/-- a connection gets into a tunnel only from `outer`, by a CONNECT that an HTTP-proxy mode accepts and answers
    with kind `tunnel`; once there it stays, and it never returns to `outer` -/
theorem dstep_phaseInv {auth : Bool} {m : Mode} {tn : Bool} {p : Phase} (e : Ev) (h : PhaseInv m tn p) :
    PhaseInv m (tn || ((dstep auth m tn p e).2.1 == Kind.tunnel)) (dstep auth m tn p e).1 := by
  cases p with
  | closed => exact ⟨nofun, nofun⟩
  | outer =>
    cases e with
    | connect => cases hm : m.isHttpProxy <;> simp [dstep, hm, PhaseInv]
    | _ => simpa [dstep, Bool.beq_eq_decide_eq] using h
  | tunnel o => cases e <;> simp [dstep, PhaseInv, h.1 o rfl]

/-- histories with a fixed option are histories in which it never changes -/
theorem run_eq_runVar (auth : Bool) (modes : Nat → Mode) :
    ∀ (es : List (Nat × Ev)) (σ : State), run auth modes σ es = runVar modes σ (es.map (fun x => (x.1, auth, x.2))) := by
  intro es
  induction es with
  | nil => intro σ; rfl
  | cons ev rest ih => intro σ; simp only [run, runWith, List.map_cons, runVar, step]; exact congrArg _ (ih _)

namespace Route

/-- a request in the explicit-proxy layer: the connection is looked up by the request's own target -/
def proxyReq (auth : Bool) (m : Mode) (tn : Bool) (s : CState) (host port : Nat) (https : Bool) : CState × ROut :=
  match s.pool.find? (fun c => c.matches host port https (m == Mode.upstream)) with
  | some c =>
    (if c.sendConnect then { s with connected := c.idx :: s.connected } else s,
     { kind := .response, conn := some c, fresh := false,
       writes := writesOn auth m c (s.connected.contains c.idx) (!https) tn })
  | none =>
    let c : UpConn := ⟨host, port, https, if https then some host else none, m == Mode.upstream,
      m == Mode.upstream && https, s.used⟩
    ({ s with pool := s.pool ++ [c], used := s.used + 1,
              connected := if c.sendConnect then c.idx :: s.connected else s.connected },
     { kind := .response, conn := some c, fresh := true, writes := writesOn auth m c false (!https) tn })

/-- a request in a transparent layer: everything goes to `context.server` -/
def ctxReq (auth : Bool) (m : Mode) (tn : Bool) (s : CState) : CState × ROut :=
  match s.ctx with
  | none => ({ s with phase := .closed }, { kind := .invalid })
  | some c0 =>
    let c := if s.ctxUsed then c0 else { c0 with idx := s.used }
    ({ s with ctx := some c, ctxUsed := true, used := if s.ctxUsed then s.used else s.used + 1,
              connected := if c.sendConnect then c.idx :: s.connected else s.connected },
     { kind := .response, conn := some c, fresh := !s.ctxUsed,
       writes := writesOn auth m c (s.connected.contains c.idx) true tn })

theorem rstep_closed (auth : Bool) (m : Mode) (tn : Bool) (s : CState) (e : REv) (hp : s.phase = .closed) :
    rstep auth m tn s e = (s, { kind := .ignored }) := by
  simp [rstep, hp]

theorem rstep_drop (auth : Bool) (m : Mode) (tn : Bool) (s : CState) (hp : s.phase ≠ .closed) :
    rstep auth m tn s .drop = ({ s with pool := [], ctxUsed := false }, { kind := .noop }) := by
  unfold rstep
  cases h : s.phase <;> simp_all

theorem rstep_connect_proxy (auth : Bool) (m : Mode) (tn : Bool) (s : CState) (host port : Nat)
    (hp : s.phase = .outer) (hm : m.isHttpProxy = true) :
    rstep auth m tn s (.connect host port) =
      ({ phase := .tunnel, ctx := some ⟨host, port, false, none, m == Mode.upstream, m == Mode.upstream, 0⟩,
         ctxUsed := false, pool := [], connected := s.connected, used := s.used }, { kind := .tunnel }) := by
  simp [rstep, hp, hm]

theorem rstep_connect_invalid (auth : Bool) (m : Mode) (tn : Bool) (s : CState) (host port : Nat)
    (hp : s.phase ≠ .closed) (hl : (m.isHttpProxy && s.phase == .outer) = false) :
    rstep auth m tn s (.connect host port) = ({ s with phase := .closed }, { kind := .invalid }) := by
  unfold rstep
  cases h : s.phase <;> simp_all

theorem rstep_req_proxy (auth : Bool) (m : Mode) (tn : Bool) (s : CState) (host port : Nat) (https : Bool)
    (hp : s.phase = .outer) (hm : m.isHttpProxy = true) :
    rstep auth m tn s (.req host port https) = proxyReq auth m tn s host port https := by
  unfold rstep proxyReq
  rw [hp, hm]
  rfl

theorem rstep_req_transparent (auth : Bool) (m : Mode) (tn : Bool) (s : CState) (host port : Nat) (https : Bool)
    (hp : s.phase ≠ .closed) (hl : (m.isHttpProxy && s.phase == .outer) = false) :
    rstep auth m tn s (.req host port https) = ctxReq auth m tn s := by
  unfold rstep ctxReq
  cases h : s.phase with
  | closed => exact absurd h hp
  | _ =>
    rw [h] at hl
    simp only [hl]
    rfl

/-- `context.server` as a transparent layer hands it out is `context.server` up to its number -/
theorem ctxConn_eq (s : CState) (c0 : UpConn) :
    ∃ i, (if s.ctxUsed then c0 else { c0 with idx := s.used }) = { c0 with idx := i } ∧
      (if s.ctxUsed then i = c0.idx else i = s.used) := by
  cases s.ctxUsed
  · exact ⟨s.used, rfl, rfl⟩
  · exact ⟨c0.idx, rfl, rfl⟩

theorem mem_writesOn {auth : Bool} {m : Mode} {c : UpConn} {d sh tn : Bool} {w : RWrite}
    (hw : w ∈ writesOn auth m c d sh tn) :
    (w = ⟨.connect, connectUpstream auth⟩ ∧ c.sendConnect = true ∧ d = false) ∨
    w = ⟨.request, requestheaders auth m sh tn⟩ := by
  unfold writesOn at hw
  rcases List.mem_append.mp hw with h | h
  · by_cases hc : (c.sendConnect && !d) = true
    · rw [if_pos hc] at h
      simp only [Bool.and_eq_true, Bool.not_eq_true'] at hc
      exact .inl ⟨List.mem_singleton.mp h, hc.1, hc.2⟩
    · rw [if_neg hc] at h; cases h
  · exact .inr (List.mem_singleton.mp h)

theorem rrun_eq_rrunVar (auth : Bool) (modes : Nat → Mode) :
    ∀ (es : List (Nat × REv)) (σ : RState),
      rrun auth modes σ es = rrunVar modes σ (es.map (fun x => (x.1, auth, x.2))) := by
  intro es
  induction es with
  | nil => intro σ; rfl
  | cons ev rest ih => intro σ; simp only [rrun, List.map_cons, rrunVar, ih]

end Route

end MitmVerif.C24
