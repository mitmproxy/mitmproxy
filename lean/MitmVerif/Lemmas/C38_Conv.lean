/-
  C38 — the dict theory the converter proofs rest on: key names, `dget` after `dset` / `dpop` / `dupd`; for each
  converter of the integer formats 10 … 20 the list of top-level keys it may assign (`Off`); and what the converters
  12 … 17 return on a record of the shape they need.
-/
import MitmVerif.Model.C38_Conv
import MitmVerif.Lemmas.Lists
namespace MitmVerif.C38Conv
open MitmVerif MitmVerif.C36

/-- Key names are told apart by their text: `simp` settles `s "a" ≠ s "b"` on the literals, where evaluating the two
    UTF-8 encodings is slow to check. -/
@[simp] theorem s_inj {a b : String} : s a = s b ↔ a = b := by
  simp only [s, String.toUTF8, ByteArray.toList, toList_loop, List.reverse_nil, List.nil_append, List.drop_zero,
    Array.toList_inj, ← String.toByteArray_inj]
  exact ⟨fun h => ByteArray.ext h, fun h => h ▸ rfl⟩

/-! The str-key operations (`dget`, `dset`, `dpop`, `dupd`), the bytes-key ones of the oldest formats (`bget`, …) and the
    tables of the stateful converters (`tget`, `tdel`) are the same list surgery over three key tests; the theory is written
    once over a key test `is` and a key maker `mk`. -/
section Keyed
variable {κ β : Type} {is : κ → Bytes → Bool} {mk : Bytes → κ}

def kget (is : κ → Bytes → Bool) (d : List (κ × β)) (n : Bytes) : Option β := (d.find? (fun kv => is kv.1 n)).map (·.2)

def kset (is : κ → Bytes → Bool) (mk : Bytes → κ) (d : List (κ × β)) (n : Bytes) (v : β) : List (κ × β) :=
  if d.any (fun kv => is kv.1 n) then d.map (fun kv => if is kv.1 n then (kv.1, v) else kv) else d ++ [(mk n, v)]

def kpop (is : κ → Bytes → Bool) (d : List (κ × β)) (n : Bytes) : List (κ × β) := d.filter (fun kv => !is kv.1 n)

def kupd (is : Value → Bytes → Bool) (mk : Bytes → Value) (d : Dict) (n : Bytes) (f : Dict → Option Dict) : Option Dict :=
  do
    let sub ← kget is d n
    let sd ← asDict sub
    let sd' ← f sd
    pure (kset is mk d n (.dict sd'))

theorem kget_cons (kv : κ × β) (d : List (κ × β)) (m : Bytes) :
    kget is (kv :: d) m = if is kv.1 m then some kv.2 else kget is d m := by
  simp only [kget, List.find?_cons]
  cases is kv.1 m <;> simp

theorem kget_kset_same (hmk : ∀ n m, is (mk n) m = (n == m)) (d : List (κ × β)) (n : Bytes) (v : β) :
    kget is (kset is mk d n v) n = some v := by
  unfold kset
  split
  · next h =>
    induction d with
    | nil => simp at h
    | cons kv d ih =>
      cases hk : is kv.1 n with
      | true => simp [kget_cons, hk]
      | false => simpa [kget_cons, hk] using ih (by simpa [hk] using h)
  · next h =>
    induction d with
    | nil => simp [kget, hmk]
    | cons kv d ih =>
      simp only [List.any_cons, Bool.or_eq_true, not_or, Bool.not_eq_true] at h
      simpa [kget_cons, h.1] using ih (by simpa using h.2)

theorem kget_kset_ne (hex : ∀ k n m, n ≠ m → is k n = true → is k m = false) (hmk : ∀ n m, is (mk n) m = (n == m))
    (d : List (κ × β)) (n m : Bytes) (v : β) (hnm : n ≠ m) : kget is (kset is mk d n v) m = kget is d m := by
  unfold kset
  split <;> clear ‹_›
  · induction d with
    | nil => rfl
    | cons kv d ih =>
      cases hk : is kv.1 n with
      | true => simpa [kget_cons, hk, hex kv.1 n m hnm hk] using ih
      | false => simp [kget_cons, hk, ih]
  · induction d with
    | nil => simp [kget, hmk, hnm]
    | cons kv d ih => simp [kget_cons, ih]

theorem kget_kpop_ne (hex : ∀ k n m, n ≠ m → is k n = true → is k m = false) (d : List (κ × β)) (n m : Bytes) (hnm : n ≠ m) :
    kget is (kpop is d n) m = kget is d m := by
  induction d with
  | nil => rfl
  | cons kv d ih =>
    cases hk : is kv.1 n with
    | true => simpa [kpop, List.filter_cons, hk, kget_cons, hex kv.1 n m hnm hk] using ih
    | false =>
      simp only [kpop, List.filter_cons, hk, Bool.not_false, if_true, kget_cons] at ih ⊢
      rw [ih]

theorem kget_kpop_same (d : List (κ × β)) (n : Bytes) : kget is (kpop is d n) n = none := by
  induction d with
  | nil => rfl
  | cons kv d ih =>
    cases hk : is kv.1 n with
    | true => simpa [kpop, List.filter_cons, hk] using ih
    | false =>
      simp only [kpop, List.filter_cons, hk, Bool.not_false, if_true, kget_cons, Bool.false_eq_true, if_false] at ih ⊢
      exact ih

theorem kupd_spec {is : Value → Bytes → Bool} {mk : Bytes → Value}
    (hex : ∀ k n m, n ≠ m → is k n = true → is k m = false) (hmk : ∀ n m, is (mk n) m = (n == m))
    (d d' : Dict) (n : Bytes) (f : Dict → Option Dict) (h : kupd is mk d n f = some d') :
    (∃ sd sd', kget is d n = some (.dict sd) ∧ f sd = some sd' ∧ kget is d' n = some (.dict sd')) ∧
    ∀ m, n ≠ m → kget is d' m = kget is d m := by
  simp only [kupd, Option.bind_eq_bind, Option.bind_eq_some_iff, Option.pure_def, Option.some.injEq] at h
  obtain ⟨sub, hs, sd, hsd, sd', hf, rfl⟩ := h
  cases sub <;> cases hsd
  exact ⟨⟨_, sd', hs, hf, kget_kset_same hmk _ _ _⟩, fun m hnm => kget_kset_ne hex hmk _ _ _ _ hnm⟩

end Keyed

theorem keyIs_excl (k : Value) (n m : Bytes) (hnm : n ≠ m) (hk : keyIs k n = true) : keyIs k m = false := by
  cases k with
  | str u =>
    have hun : u = n := by simpa [keyIs] using hk
    subst hun; simpa [keyIs] using hnm
  | _ => simp [keyIs] at hk

theorem keyIs_str (n m : Bytes) : keyIs (.str n) m = (n == m) := rfl

theorem dget_cons (kv : Value × Value) (d : Dict) (m : Bytes) :
    dget (kv :: d) m = if keyIs kv.1 m then some kv.2 else dget d m := kget_cons kv d m

@[simp] theorem dget_dset_same (d : Dict) (n : Bytes) (v : Value) : dget (dset d n v) n = some v :=
  kget_kset_same keyIs_str d n v

@[simp] theorem dget_dset_ne (d : Dict) (n m : Bytes) (v : Value) (hnm : n ≠ m) : dget (dset d n v) m = dget d m :=
  kget_kset_ne keyIs_excl keyIs_str d n m v hnm

@[simp] theorem dget_dpop_ne (d : Dict) (n m : Bytes) (hnm : n ≠ m) : dget (dpop d n) m = dget d m :=
  kget_kpop_ne keyIs_excl d n m hnm

@[simp] theorem dget_dpop_same (d : Dict) (n : Bytes) : dget (dpop d n) n = none := kget_kpop_same d n

theorem dget_dupd_ne (d d' : Dict) (n m : Bytes) (f : Dict → Option Dict) (hnm : n ≠ m)
    (h : dupd d n f = some d') : dget d' m = dget d m :=
  (kupd_spec keyIs_excl keyIs_str d d' n f h).2 m hnm

theorem dupd_spec (d d' : Dict) (n : Bytes) (f : Dict → Option Dict) (h : dupd d n f = some d') :
    ∃ sd sd', dget d n = some (.dict sd) ∧ f sd = some sd' ∧ dget d' n = some (.dict sd') :=
  (kupd_spec keyIs_excl keyIs_str d d' n f h).1

theorem dhas_eq_isSome (d : Dict) (n : Bytes) : dhas d n = (dget d n).isSome := by
  induction d with
  | nil => rfl
  | cons kv d ih => cases h : keyIs kv.1 n <;> simp [dhas, dget_cons, h] <;> exact ih

theorem dhas_of_dget {d : Dict} {n : Bytes} {v : Value} (h : dget d n = some v) : dhas d n = true := by
  rw [dhas_eq_isSome, h]; rfl

@[simp] theorem dget_nil (n : Bytes) : dget [] n = none := rfl

@[simp] theorem dget_cons_same (n : Bytes) (v : Value) (d : Dict) : dget ((.str n, v) :: d) n = some v := by
  simp [dget_cons, keyIs]

@[simp] theorem dget_cons_ne (n m : Bytes) (v : Value) (d : Dict) (h : n ≠ m) : dget ((.str n, v) :: d) m = dget d m := by
  simp [dget_cons, keyIs, h]

theorem dupd_of_dget {d : Dict} {n : Bytes} {sd : Dict} (f : Dict → Option Dict) (h : dget d n = some (.dict sd)) :
    dupd d n f = (f sd).map (fun sd' => dset d n (.dict sd')) := by
  unfold dupd
  cases hf : f sd <;> simp [h, asDict, hf]

theorem dget_setVersion_ne (d : Dict) (n : Int) (m : Bytes) (h : s "version" ≠ m) : dget (setVersion d n) m = dget d m :=
  dget_dset_ne _ _ _ _ h

/-- `c'` differs from `c` at most under the keys `ks`: the form in which every converter says which top-level keys it may assign -/
def Off (ks : List Bytes) (c c' : Dict) : Prop := ∀ m, (∀ k ∈ ks, k ≠ m) → dget c' m = dget c m

namespace Off
variable {ks : List Bytes} {c c1 c' : Dict} {n : Bytes}

theorem refl : Off ks c c := fun _ _ => rfl

theorem trans (h1 : Off ks c c1) (h2 : Off ks c1 c') : Off ks c c' := fun m hm => (h2 m hm).trans (h1 m hm)

theorem dset (v : Value) (hn : n ∈ ks) : Off ks c (dset c n v) := fun _ hm => dget_dset_ne _ _ _ _ (hm n hn)

theorem dpop (hn : n ∈ ks) : Off ks c (dpop c n) := fun _ hm => dget_dpop_ne _ _ _ (hm n hn)

theorem dupd {f : Dict → Option Dict} (hn : n ∈ ks) (h : dupd c n f = some c') : Off ks c c' :=
  fun _ hm => dget_dupd_ne _ _ _ _ _ (hm n hn) h

end Off

theorem off_dupd_dupd {d d' : Dict} {n1 n2 : Bytes} {f g : Dict → Option Dict}
    (h : (dupd d n1 f).bind (fun d1 => dupd d1 n2 g) = some d') : Off [n1, n2] d d' := by
  obtain ⟨d1, hd1, h⟩ := Option.bind_eq_some_iff.mp h
  exact (Off.dupd (by simp) hd1).trans (.dupd (by simp) h)

theorem off_viaUpd {d d' : Dict} {f : Dict → Option Dict} {ks : List Bytes} (hk : s "server_conn" ∈ ks)
    (h : viaUpd d f = some d') : Off ks d d' := by
  unfold viaUpd at h
  simp only [Option.bind_eq_bind, Option.bind_eq_some_iff, Option.pure_def] at h
  obtain ⟨sc, _, via, _, h⟩ := h
  split at h
  · exact .dupd hk h
  · cases h; exact .refl

/-- the shape of the converters that rewrite the connection records: `client_conn`, `server_conn`, then the server's `via` -/
theorem off_conns {d d' : Dict} {f g k : Dict → Option Dict}
    (h : (dupd d (s "client_conn") f).bind (fun d1 => (dupd d1 (s "server_conn") g).bind (fun d2 => viaUpd d2 k)) = some d') :
    Off [s "client_conn", s "server_conn"] d d' := by
  simp only [Option.bind_eq_some_iff] at h
  obtain ⟨d1, hd1, d2, hd2, h⟩ := h
  exact ((Off.dupd (by simp) hd1).trans (.dupd (by simp) hd2)).trans (off_viaUpd (by simp) h)

-- each converter: the top-level keys it may assign, counted from the stamped record
theorem body_10 {d d' : Dict} (h : conv_10_11 d = some d') : Off [s "client_conn", s "server_conn"] (setVersion d 11) d' :=
  off_conns h

theorem body_11 {d d' : Dict} (h : conv_11_12 d = some d') : Off [s "websocket"] (setVersion d 12) d' := by
  unfold conv_11_12 at h
  simp only [Option.bind_eq_bind, Option.bind_eq_some_iff, Option.pure_def] at h
  obtain ⟨_, _, h⟩ := h
  split at h <;> cases h
  exact .dset _ (by simp)

theorem body_12 {d d' : Dict} (h : conv_12_13 d = some d') : Off [s "marked"] (setVersion d 13) d' := by
  unfold conv_12_13 at h
  simp only [Option.bind_eq_bind, Option.bind_eq_some_iff, Option.pure_def, Option.some.injEq] at h
  obtain ⟨_, _, rfl⟩ := h
  exact .dset _ (by simp)

theorem body_13F (fadd : Bytes → Option Bytes) {d d' : Dict} (h : conv_13_14F fadd d = some d') :
    Off [s "comment", s "response"] (setVersion d 14) d' := by
  have base : Off [s "comment", s "response"] (setVersion d 14) (dset (setVersion d 14) (s "comment") (Value.str [])) :=
    .dset _ (by simp)
  unfold conv_13_14F at h
  simp only [Option.bind_eq_bind, Option.pure_def] at h
  split at h
  · split at h
    · cases h; exact base
    · split at h
      · simp only [Option.bind_eq_some_iff, Option.some.injEq] at h
        obtain ⟨_, _, _, _, _, _, rfl⟩ := h
        exact base.trans (.dset _ (by simp))
      · cases h; exact base
      · cases h
  · cases h; exact base

theorem body_14 {d d' : Dict} (h : conv_14_15 d = some d') : Off [s "websocket"] (setVersion d 15) d' := by
  unfold conv_14_15 at h
  simp only [Option.bind_eq_bind, Option.pure_def] at h
  split at h
  · split at h
    · cases h; exact .refl
    · simp only [Option.bind_eq_some_iff] at h
      obtain ⟨msgs, _, h⟩ := h
      split at h
      · simp only [Option.bind_eq_some_iff, Option.some.injEq] at h
        obtain ⟨_, _, rfl⟩ := h
        exact .dset _ (by simp)
      · cases h
  · cases h; exact .refl

theorem body_15 {d d' : Dict} (h : conv_15_16 d = some d') : Off [s "timestamp_created"] (setVersion d 16) d' := by
  unfold conv_15_16 at h
  simp only [Option.bind_eq_bind, Option.bind_eq_some_iff, Option.pure_def, Option.some.injEq] at h
  obtain ⟨_, _, _, _, _, _, rfl⟩ := h
  exact .dset _ (by simp)

theorem body_16 {d d' : Dict} (h : conv_16_17 d = some d') : Off [s "mode"] (setVersion d 17) d' := by
  cases h; exact .dpop (by simp)

theorem body_17 {d d' : Dict} (h : conv_17_18 d = some d') : Off [s "client_conn"] (setVersion d 18) d' :=
  .dupd (by simp) h

theorem body_18 {d d' : Dict} (h : conv_18_19 d = some d') : Off [s "client_conn", s "server_conn"] (setVersion d 19) d' := by
  unfold conv_18_19 at h
  simp only [Option.bind_eq_bind, Option.bind_eq_some_iff, Option.pure_def, Option.some.injEq] at h
  obtain ⟨cc, -, sc, -, cc', -, sc', -, rfl⟩ := h
  exact (Off.dset _ (by simp)).trans (.dset _ (by simp))

theorem body_19 {d d' : Dict} (h : conv_19_20 d = some d') : Off [s "client_conn", s "server_conn"] (setVersion d 20) d' :=
  off_dupd_dupd h

theorem body_20 {d d' : Dict} (h : conv_20_21 d = some d') : Off [s "client_conn", s "server_conn"] (setVersion d 21) d' :=
  off_dupd_dupd h

theorem conv_12_13_eq (d : Dict) (m : Value) (hm : dget d (s "marked") = some m) :
    conv_12_13 d = some (dset (setVersion d 13) (s "marked") (.str (if truthy m then s ":default:" else []))) := by
  simp [conv_12_13, setVersion, hm]

theorem conv_13_14_simple (d : Dict)
    (h : dget d (s "response") = some .null ∨
      ∃ r ts, dget d (s "response") = some (.dict r) ∧ dget r (s "timestamp_start") = some ts ∧ ts ≠ .null) :
    conv_13_14 d = some (dset (setVersion d 14) (s "comment") (.str [])) := by
  unfold conv_13_14 conv_13_14F
  rcases h with h | ⟨r, ts, hr, hts, hne⟩
  · simp [setVersion, h]
  · cases ts <;> first | exact absurd rfl hne | simp [setVersion, hr, hts]

theorem conv_14_15_eq (d : Dict) (h : dget d (s "websocket") = some .null) : conv_14_15 d = some (setVersion d 15) := by
  simp [conv_14_15, setVersion, h]

theorem conv_15_16_eq (d r : Dict) (ts : Value) (hr : dget d (s "request") = some (.dict r))
    (hts : dget r (s "timestamp_start") = some ts) :
    conv_15_16 d = some (dset (setVersion d 16) (s "timestamp_created") ts) := by
  simp [conv_15_16, setVersion, hr, asDict, hts]

theorem conv_16_17_eq (d : Dict) : conv_16_17 d = some (dpop (setVersion d 17) (s "mode")) := rfl

theorem conv_17_18_eq (d cc : Dict) (h : dget d (s "client_conn") = some (.dict cc)) :
    conv_17_18 d = some (dset (setVersion d 18) (s "client_conn") (.dict (dset cc (s "proxy_mode") (.str (s "regular"))))) := by
  simp [conv_17_18, dupd, setVersion, h, asDict]

end MitmVerif.C38Conv
