/-
  C26 for whole connections: every message the C27 model of `DNSLayer` sends when no addon interferes is the re-encoding of
  a message it received from the other side, or the SERVFAIL of a received query (`run_sent`). The C27 model has all events
  of a client/server connection pair, ids, pending flows and TCP buffers. With an empty script the statement is read off
  `Handled` (Lemmas/C27Handled) message by message (`Handled.from`) and carried to steps by `step_out` (Lemmas/C27Step).
  The model's framing returns messages; `parseB`, `extractB`, `recvRun` are the byte frames behind them.
-/
import MitmVerif.Lemmas.C27Step
import MitmVerif.Lemmas.C26Msg
set_option linter.unusedVariables false
set_option linter.unusedSimpArgs false
namespace MitmVerif.C26
open MitmVerif MitmVerif.C25 MitmVerif.C27

/-! ### the byte frames behind the messages the framing extracts -/

/-- the frames `C27.parse` decodes, as the bytes that were received -/
def parseB (I : Idna) (buf : Bytes) : List Bytes :=
  match buf with
  | a :: b :: rest =>
    if a.toNat * 256 + b.toNat = 0 then []
    else if rest.length < a.toNat * 256 + b.toNat then []
    else
      match unpack I (rest.take (a.toNat * 256 + b.toNat)) with
      | none => []
      | some _ => rest.take (a.toNat * 256 + b.toNat) :: parseB I (rest.drop (a.toNat * 256 + b.toNat))
  | _ => []
termination_by buf.length
decreasing_by simp only [List.length_drop, List.length_cons]; omega

theorem parseB_cons2 (I : Idna) (a b : UInt8) (rest : Bytes) :
    parseB I (a :: b :: rest) =
      if a.toNat * 256 + b.toNat = 0 then []
      else if rest.length < a.toNat * 256 + b.toNat then []
      else
        match unpack I (rest.take (a.toNat * 256 + b.toNat)) with
        | none => []
        | some _ => rest.take (a.toNat * 256 + b.toNat) :: parseB I (rest.drop (a.toNat * 256 + b.toNat)) := by
  rw [parseB]

theorem parseB_nil (I : Idna) : parseB I [] = [] := by rw [parseB.eq_def]

theorem parseB_one (I : Idna) (a : UInt8) : parseB I [a] = [] := by rw [parseB.eq_def]

theorem parse_frames (I : Idna) (buf : Bytes) : Rel2 (fun b m => unpack I b = some m) (parseB I buf) (parse I buf).1 := by
  fun_induction parse I buf with
  | case1 a b rest h0 => rw [parseB_cons2, if_pos h0]; exact Rel2.nil
  | case2 a b rest h0 hl => rw [parseB_cons2, if_neg h0, if_pos hl]; exact Rel2.nil
  | case3 a b rest h0 hl hu => rw [parseB_cons2, if_neg h0, if_neg hl, hu]; exact Rel2.nil
  | case4 a b rest h0 hl m hu r ih => rw [parseB_cons2, if_neg h0, if_neg hl, hu]; exact Rel2.cons hu ih
  | case5 buf h =>
    have : parseB I buf = [] := by
      match buf, h with
      | [], _ => exact parseB_nil I
      | [a], _ => exact parseB_one I a
      | a :: b :: rest, h => exact absurd rfl (h a b rest)
    rw [this]; exact Rel2.nil

/-- the frames behind `C27.extract` -/
def extractB (I : Idna) (tcp : Bool) (buf data : Bytes) : List Bytes :=
  if tcp then parseB I (buf ++ data)
  else match unpack I data with
    | none => []
    | some _ => [data]

theorem extract_frames (I : Idna) (tcp : Bool) (buf data : Bytes) :
    Rel2 (fun b m => unpack I b = some m) (extractB I tcp buf data) (extract I tcp buf data).1 := by
  unfold extractB extract
  cases tcp with
  | true => simpa using parse_frames I _
  | false =>
    simp only [Bool.false_eq_true, if_false]
    cases hu : unpack I data with
    | none => exact Rel2.nil
    | some m => exact Rel2.cons hu Rel2.nil

/-! ### what is sent when no addon interferes -/

/-- `o` is justified by the messages received: client messages `cm`, server messages `sm` -/
def OutFrom (c : Cfg) (cm sm : List Msg) : Out → Prop
  | .toServer m w => m ∈ cm ∧ ∃ b, pack c.I m = some b ∧ wireOf? c.tcp b = some w
  | .toClient m w => (m ∈ sm ∨ ∃ q ∈ cm, m = servfail q) ∧ ∃ b, pack c.I m = some b ∧ wireOf? c.tcp b = some w
  | _ => True

theorem OutFrom.mono {c : Cfg} {cm sm cm' sm' : List Msg} (h1 : ∀ m ∈ cm, m ∈ cm') (h2 : ∀ m ∈ sm, m ∈ sm') {o : Out}
    (h : OutFrom c cm sm o) : OutFrom c cm' sm' o := by
  cases o with
  | toServer m w => exact ⟨h1 m h.1, h.2⟩
  | toClient m w =>
    refine ⟨?_, h.2⟩
    rcases h.1 with h | ⟨q, hq, e⟩
    · exact Or.inl (h2 m h)
    · exact Or.inr ⟨q, h1 q hq, e⟩
  | _ => trivial

theorem popAct_nil (σ : Core) (h : σ.acts = []) : popAct σ = (.pass, σ) := by
  unfold popAct; rw [h]

theorem afterHook_nil {σ : Core} (h : σ.acts = []) (k : Nat) (f : Flow) : afterHook σ k f = setFlow σ k f := by
  unfold afterHook; rw [popAct_nil σ h]; rfl

theorem Sends.from {c : Cfg} {mk : Msg → Bytes → Out} {σ : Core} {m : Msg} {s : Core × List Out} (h : Sends c mk σ m s)
    {cm sm : List Msg} (hm : ∀ b w, pack c.I m = some b → wireOf? c.tcp b = some w → OutFrom c cm sm (mk m w)) :
    s.1.acts = σ.acts ∧ ∀ o ∈ s.2, OutFrom c cm sm o := by
  cases h with
  | sent hb hw => exact ⟨rfl, List.forall_mem_singleton.mpr (hm _ _ hb hw)⟩
  | raised => exact ⟨rfl, List.forall_mem_singleton.mpr trivial⟩

theorem Responds.from {c : Cfg} {σ : Core} {k : Nat} {f : Flow} {m : Msg} {s : Core × List Out} (h : Responds c σ k f m s)
    {cm sm : List Msg} (hacts : σ.acts = []) (hm : m ∈ sm) : s.1.acts = [] ∧ ∀ o ∈ s.2, OutFrom c cm sm o := by
  have ha : (afterHook σ k { f with response := some m }).acts = [] := by rw [afterHook_nil hacts]; exact hacts
  cases h with
  | cleared => exact ⟨ha, List.forall_mem_singleton.mpr trivial⟩
  | answered hr hs =>
    -- the empty script passes the response on as it is
    rw [popAct_nil σ hacts] at hr
    cases hr
    obtain ⟨h1, h2⟩ := Sends.from hs (cm := cm) (sm := sm) fun b w hb hw => ⟨Or.inl hm, b, hb, hw⟩
    exact ⟨h1.trans ha, List.forall_mem_cons.mpr ⟨trivial, h2⟩⟩

/-- With an empty script, what handling one received message emits is justified by the messages received: the query goes
    upstream, or its SERVFAIL or the upstream's reply goes to the client, each through `pack_message`. -/
theorem Handled.from {c : Cfg} {σ : Core} {fc : Bool} {x : Msg} {r : Core × List Out} (h : Handled c σ fc x r)
    {cm sm : List Msg} (hacts : σ.acts = []) (hx : if fc = true then x ∈ cm else x ∈ sm) :
    r.1.acts = [] ∧ ∀ o ∈ r.2, OutFrom c cm sm o := by
  have asked : (askedCore σ x).acts = [] :=
    (congrArg Core.acts (afterHook_nil (σ := seenCore σ x) hacts _ _)).trans hacts
  -- behind the request hook and the report of a connect attempt only the handler called last needs a justification
  have behind : ∀ {pre rest : List Out}, (∀ o ∈ pre, ∃ y, o = .opened y) → (∀ o ∈ rest, OutFrom c cm sm o) →
      ∀ o ∈ Out.hook .request (askFlow σ x) :: pre ++ rest, OutFrom c cm sm o := by
    intro pre rest hpre hr
    refine List.forall_mem_cons.mpr ⟨trivial, List.forall_mem_append.mpr ⟨fun o ho => ?_, hr⟩⟩
    obtain ⟨y, rfl⟩ := hpre o ho
    trivial
  cases h with
  | answered ha _ =>
    have := askedFlow_response ha
    rw [popAct_nil σ hacts] at this
    cases this
  | failed hτ _ hpre hs =>
    have hτa := hτ.acts.trans asked
    obtain ⟨h1, h2⟩ := Sends.from hs (cm := cm) (sm := sm) fun b w hb hw => ⟨Or.inr ⟨x, by simpa using hx, rfl⟩, b, hb, hw⟩
    exact ⟨h1.trans (by rw [afterHook_nil hτa]; exact hτa),
      behind (by rcases hpre with rfl | ⟨_, rfl | rfl⟩ <;> simp) (List.forall_mem_cons.mpr ⟨trivial, h2⟩)⟩
  | forwarded hτ _ _ hpre hs =>
    obtain ⟨h1, h2⟩ := Sends.from hs (cm := cm) (sm := sm) fun b w hb hw => ⟨by simpa using hx, b, hb, hw⟩
    exact ⟨h1.trans (hτ.acts.trans asked), behind (by rcases hpre with rfl | rfl <;> simp) h2⟩
  | ignored => exact ⟨hacts, by simp⟩
  | orphan => exact ⟨hacts, List.forall_mem_singleton.mpr trivial⟩
  | relayed _ _ _ hs => exact Responds.from hs hacts (by simpa using hx)

theorem handleMsgs_from (c : Cfg) (fc : Bool) (cm sm : List Msg) : ∀ (ms : List Msg) (σ : Core), σ.acts = [] →
    (∀ m ∈ ms, if fc then m ∈ cm else m ∈ sm) →
    (handleMsgs c fc σ ms).1.acts = [] ∧ ∀ o ∈ (handleMsgs c fc σ ms).2, OutFrom c cm sm o := fun ms σ h hms =>
  Sequential.loop (R := fun σ r => σ.acts = [] → r.1.acts = [] ∧ ∀ o ∈ r.2, OutFrom c cm sm o)
    ⟨fun _ h => ⟨h, by simp⟩, fun h1 h2 h =>
      ⟨(h2 (h1 h).1).1, List.forall_mem_append.mpr ⟨(h1 h).2, (h2 (h1 h).1).2⟩⟩⟩
    c fc ms σ (fun m hm τ h => Handled.from (handled c τ fc m) h (hms m hm)) h

/-- the frames one event delivers: (from the client, from the server); nothing once the layer has left `state_query` -/
def recvStep (c : Cfg) (σ : State) (ev : Ev) : List Bytes × List Bytes :=
  if σ.core.phase ≠ .query then ([], [])
  else
    match ev with
    | .clientData d => (extractB c.I c.tcp σ.reqBuf d, [])
    | .serverData d => if σ.core.serverOpen then ([], extractB c.I c.tcp σ.respBuf d) else ([], [])
    | _ => ([], [])

/-- all frames a schedule delivers, in order -/
def recvRun (c : Cfg) : State → List Ev → List Bytes × List Bytes
  | _, [] => ([], [])
  | σ, ev :: evs => ((recvStep c σ ev).1 ++ (recvRun c (step c σ ev).1 evs).1, (recvStep c σ ev).2 ++ (recvRun c (step c σ ev).1 evs).2)

/-- what the property demands of one output, given the frames received from the client (`fc`) and the server (`fs`) -/
def SentOk (c : Cfg) (fc fs : List Bytes) : Out → Prop
  | .toServer m w => ∃ b ∈ fc, unpack c.I b = some m ∧ ∃ b', pack c.I m = some b' ∧ wireOf? c.tcp b' = some w ∧
      ∀ d, DnsRef.decode b = some d → DnsRef.decode b' = some d
  | .toClient m w =>
      (∃ b ∈ fs, unpack c.I b = some m ∧ ∃ b', pack c.I m = some b' ∧ wireOf? c.tcp b' = some w ∧
        ∀ d, DnsRef.decode b = some d → DnsRef.decode b' = some d) ∨
      (∃ b ∈ fc, ∃ q, unpack c.I b = some q ∧ m = servfail q ∧ ∃ b', pack c.I m = some b' ∧ wireOf? c.tcp b' = some w)
  | _ => True

theorem SentOk.mono {c : Cfg} {fc fs fc' fs' : List Bytes} (h1 : ∀ b ∈ fc, b ∈ fc') (h2 : ∀ b ∈ fs, b ∈ fs') {o : Out}
    (h : SentOk c fc fs o) : SentOk c fc' fs' o := by
  cases o with
  | toServer m w => obtain ⟨b, hb, r⟩ := h; exact ⟨b, h1 b hb, r⟩
  | toClient m w =>
    rcases h with ⟨b, hb, r⟩ | ⟨b, hb, r⟩
    · exact Or.inl ⟨b, h2 b hb, r⟩
    · exact Or.inr ⟨b, h1 b hb, r⟩
  | _ => trivial

/-- from "justified by the messages" to "justified by the frames" -/
theorem SentOk_of_OutFrom {c : Cfg} {fc fs : List Bytes} {cm sm : List Msg}
    (hc : Rel2 (fun b m => unpack c.I b = some m) fc cm) (hs : Rel2 (fun b m => unpack c.I b = some m) fs sm)
    {o : Out} (h : OutFrom c cm sm o) : SentOk c fc fs o := by
  cases o with
  | toServer m w =>
    obtain ⟨hm, b', hp, hw⟩ := h
    obtain ⟨b, hb, hu⟩ := hc.mem_right m hm
    exact ⟨b, hb, hu, b', hp, hw, fun d hd => decode_packed (decode_agree hd hu) hp⟩
  | toClient m w =>
    obtain ⟨hm, b', hp, hw⟩ := h
    rcases hm with hm | ⟨q, hq, rfl⟩
    · obtain ⟨b, hb, hu⟩ := hs.mem_right m hm
      exact Or.inl ⟨b, hb, hu, b', hp, hw, fun d hd => decode_packed (decode_agree hd hu) hp⟩
    · obtain ⟨b, hb, hu⟩ := hc.mem_right q hq
      exact Or.inr ⟨b, hb, q, hu, rfl, b', hp, hw⟩
  | _ => trivial

theorem step_sent (c : Cfg) (σ : State) (ev : Ev) (h : σ.core.acts = []) :
    (step c σ ev).1.core.acts = [] ∧ ∀ o ∈ (step c σ ev).2, SentOk c (recvStep c σ ev).1 (recvStep c σ ev).2 o := by
  have closes : ∀ {τ : Core} {tail : List Out}, Closes τ ((step c σ ev).1.core, tail) → ∀ fc' fs', ∀ o ∈ tail, SentOk c fc' fs' o :=
    fun hk _ _ o ho => by rcases hk.mem ho with rfl | rfl <;> trivial
  obtain hk | ⟨fc, d, tail, rfl, hs, hk, ho⟩ := step_out c σ ev
  · exact ⟨hk.acts.trans h, closes hk _ _⟩
  · rw [ho, hk.acts]
    have hf := extract_frames c.I c.tcp (bufOf fc σ) d
    cases fc
    · obtain ⟨ha, hout⟩ := handleMsgs_from c false [] _ _ σ.core h (fun m hm => by simpa using hm)
      have hr : recvStep c σ (.serverData d) = ([], extractB c.I c.tcp σ.respBuf d) := by simp [recvStep, hs.1, hs.2 rfl]
      rw [show dataEv false d = .serverData d from rfl, hr]
      exact ⟨ha, List.forall_mem_append.mpr ⟨fun o ho => SentOk_of_OutFrom Rel2.nil hf (hout o ho), closes hk _ _⟩⟩
    · obtain ⟨ha, hout⟩ := handleMsgs_from c true _ [] _ σ.core h (fun m hm => by simpa using hm)
      have hr : recvStep c σ (.clientData d) = (extractB c.I c.tcp σ.reqBuf d, []) := by simp [recvStep, hs.1]
      rw [show dataEv true d = .clientData d from rfl, hr]
      exact ⟨ha, List.forall_mem_append.mpr ⟨fun o ho => SentOk_of_OutFrom hf Rel2.nil (hout o ho), closes hk _ _⟩⟩

theorem run_sent (c : Cfg) : ∀ (evs : List Ev) (σ : State), σ.core.acts = [] →
    ∀ o ∈ (run c σ evs).2, SentOk c (recvRun c σ evs).1 (recvRun c σ evs).2 o := by
  intro evs
  induction evs with
  | nil => intro σ _ o ho; simp [run] at ho
  | cons ev evs ih =>
    intro σ h o ho
    obtain ⟨h1, hs⟩ := step_sent c σ ev h
    simp only [run] at ho
    simp only [recvRun]
    rcases List.mem_append.mp ho with ho | ho
    · exact (hs o ho).mono (fun b hb => by simp [hb]) (fun b hb => by simp [hb])
    · exact (ih _ h1 o ho).mono (fun b hb => by simp [hb]) (fun b hb => by simp [hb])

end MitmVerif.C26
