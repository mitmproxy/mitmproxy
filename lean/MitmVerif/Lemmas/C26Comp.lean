/-
  What the reference compressing encoder (`cname`, `cnames` of Model/C26) writes for a name is read back by the specification
  decoder. `cname_scan` for one name, by induction on its labels with `SuffixRead` for what stands at each suffix, and
  `cnames_read` for a sequence of names, with the table invariant `TblInv` the encoder establishes itself.
-/
import MitmVerif.Lemmas.C26Msg
set_option linter.unusedVariables false
set_option linter.unusedSimpArgs false
namespace MitmVerif.C26
open MitmVerif MitmVerif.C25

theorem scanRaw_wire_ptrBytes (ls : List Bytes) (t : Nat) (rest : Bytes) (hok : LabelsOk ls) (ht : t < 16384) :
    scanRaw (wire ls ++ ptrBytes t ++ rest) = some (ls, (wire ls).length + 2, some t) := by
  have hor : 192 ||| (t / 256) = 192 + t / 256 :=
    (by decide : ∀ x : Fin 64, 192 ||| x.val = 192 + x.val) ⟨t / 256, by omega⟩
  have h1 : (UInt8.ofNat (192 + t / 256)).toNat = 192 + t / 256 := UInt8.toNat_ofNat_of_lt' (by omega : 192 + t / 256 < 256)
  have h2 : (UInt8.ofNat (t % 256)).toNat = t % 256 := UInt8.toNat_ofNat_of_lt' (by omega : t % 256 < 256)
  have hptr : scanRaw (ptrBytes t ++ rest) = some ([], 2, some t) := by
    simp only [ptrBytes, List.cons_append, List.nil_append, hor]
    rw [scanRaw_cons, h1]
    have : 192 ≤ 192 + t / 256 := by omega
    simp only [this, if_true, h2]
    rw [show (192 + t / 256 - 192) * 256 + t % 256 = t by omega]
  rw [List.append_assoc, scanRaw_wire_append ls _ hok, hptr]; simp

theorem lookup_snoc {α β} [BEq α] [LawfulBEq α] {l : List (α × β)} {k k' : α} {v v' : β}
    (h : (l ++ [(k', v')]).lookup k = some v) : l.lookup k = some v ∨ (k = k' ∧ v = v') := by
  rw [List.lookup_append] at h
  cases hl : l.lookup k with
  | some x => rw [hl] at h; exact Or.inl h
  | none =>
    rw [hl, Option.none_or, List.lookup_cons] at h
    split at h
    · next hk => exact Or.inr ⟨eq_of_beq hk, by cases h; rfl⟩
    · cases h

theorem drop_label {buf l tail : Bytes} {t : Nat} (hb : buf.drop t = (UInt8.ofNat l.length :: l) ++ tail) :
    buf.drop (t + 1 + l.length) = tail := by
  have := drop_of_drop_append hb
  rwa [List.length_cons, ← Nat.add_assoc, Nat.add_right_comm] at this

/-- what a scan from `t` sees when `t` is a place where the encoder wrote the suffix `s` of a name that started at
    `start`: `n` bytes, labels and then the terminator or a pointer to below `start`. For `start ≤ t` it gives
    `DnsRef.name buf t = some (s, n)`; the bound by `start` instead of `t` is what lets a label be put in front. -/
def SuffixRead (buf : Bytes) (start : Nat) (s : List Bytes) (t n : Nat) : Prop :=
  ∃ raws ptr, scanRaw (buf.drop t) = some (raws, n, ptr) ∧
    (match ptr with
     | none => raws = s
     | some t' => t' < start ∧ ∃ ls2 n2, DnsRef.name buf t' = some (ls2, n2) ∧ s = raws ++ ls2)

namespace SuffixRead
variable {buf : Bytes} {start t n : Nat} {s : List Bytes}

theorem name (h : SuffixRead buf start s t n) (hst : start ≤ t) : DnsRef.name buf t = some (s, n) := by
  obtain ⟨raws, ptr, hs, hm⟩ := h
  cases ptr with
  | none => simp only at hm; subst hm; rw [name_unfold, hs]
  | some t' =>
    obtain ⟨ht, ls2, n2, hn2, rfl⟩ := hm
    rw [name_unfold, hs]; simp [show t' < t by omega, hn2]

theorem stop {rest : Bytes} (hb : buf.drop t = 0 :: rest) : SuffixRead buf start [] t 1 :=
  ⟨[], none, by rw [hb, scanRaw_cons]; simp, rfl⟩

theorem ptr {t' n2 : Nat} {rest : Bytes} (hb : buf.drop t = ptrBytes t' ++ rest) (ht : t' < 16384) (hts : t' < start)
    (hn : DnsRef.name buf t' = some (s, n2)) : SuffixRead buf start s t 2 :=
  ⟨[], some t', by simpa [wire, hb] using scanRaw_wire_ptrBytes [] t' rest (by simp [LabelsOk]) ht, hts, s, n2, hn, rfl⟩

theorem label {l tail : Bytes} (hb : buf.drop t = (UInt8.ofNat l.length :: l) ++ tail) (hl : l ≠ [] ∧ l.length < 64)
    (h : SuffixRead buf start s (t + 1 + l.length) n) : SuffixRead buf start (l :: s) t (1 + l.length + n) := by
  obtain ⟨raws, ptr, hs, hm⟩ := h
  rw [drop_label hb] at hs
  have hscan := scanRaw_wire_append [l] tail (by simpa [LabelsOk] using hl)
  rw [hs] at hscan
  refine ⟨l :: raws, ptr, by simpa [wire, hb, Nat.add_comm] using hscan, ?_⟩
  cases ptr with
  | none => simp only at hm ⊢; rw [hm]
  | some t' =>
    obtain ⟨ht', ls2, n2, hn2, rfl⟩ := hm
    exact ⟨ht', ls2, n2, hn2, rfl⟩

end SuffixRead

/-- The table is asked about suffixes no longer than `ls` only: `cname` registers `l :: ls` at `pos` before it goes on
    with `ls`, what is read at `pos` is known only after that call, and the call never looks the longer suffix up. -/
theorem cname_scan (buf : Bytes) : ∀ (ls : List Bytes) (tbl : CTable) (pos start : Nat) (rest : Bytes),
    buf.drop pos = (cname tbl pos ls).1 ++ rest → LabelsOk ls →
    (∀ s t, tbl.lookup s = some t → s.length ≤ ls.length → t < 16384 ∧ t < start ∧ ∃ n, DnsRef.name buf t = some (s, n)) →
    SuffixRead buf start ls pos (cname tbl pos ls).1.length ∧
    (∀ s t, (cname tbl pos ls).2.lookup s = some t → tbl.lookup s = some t ∨
      (t < 16384 ∧ pos ≤ t ∧ t < pos + (cname tbl pos ls).1.length ∧ ∃ n, SuffixRead buf start s t n)) := by
  intro ls
  induction ls with
  | nil => intro tbl pos start rest hb _ _; exact ⟨.stop hb, fun s t h => Or.inl h⟩
  | cons l ls ih =>
    intro tbl pos start rest hb hok hH
    cases hl : tbl.lookup (l :: ls) with
    | some t =>
      obtain ⟨ht, hts, n2, hn2⟩ := hH (l :: ls) t hl (Nat.le_refl _)
      simp only [cname, hl] at hb ⊢
      exact ⟨.ptr hb ht hts hn2, fun s t' h => Or.inl h⟩
    | none =>
      let tbl1 : CTable := if pos < 16384 then tbl ++ [(l :: ls, pos)] else tbl
      have hout : cname tbl pos (l :: ls) =
          (UInt8.ofNat l.length :: l ++ (cname tbl1 (pos + 1 + l.length) ls).1, (cname tbl1 (pos + 1 + l.length) ls).2) := by
        simp [cname, hl, tbl1]
      rw [hout] at hb ⊢
      have hb1 : buf.drop pos = (UInt8.ofNat l.length :: l) ++ ((cname tbl1 (pos + 1 + l.length) ls).1 ++ rest) := by
        simpa using hb
      have hlk1 : ∀ s t, tbl1.lookup s = some t → tbl.lookup s = some t ∨ (pos < 16384 ∧ s = l :: ls ∧ t = pos) := by
        intro s t h
        by_cases hp : pos < 16384
        · simp only [tbl1, hp, if_true] at h; exact (lookup_snoc h).imp_right fun ⟨a, b⟩ => ⟨hp, a, b⟩
        · simp only [tbl1, hp, if_false] at h; exact Or.inl h
      have hH1 : ∀ s t, tbl1.lookup s = some t → s.length ≤ ls.length →
          t < 16384 ∧ t < start ∧ ∃ n, DnsRef.name buf t = some (s, n) := by
        intro s t h hle
        rcases hlk1 s t h with h | ⟨_, rfl, _⟩
        · exact hH s t h (by simp; omega)
        · simp at hle; omega
      obtain ⟨hrd, htbl⟩ := ih tbl1 (pos + 1 + l.length) start rest (drop_label hb1)
        (fun x hx => hok x (by simp [hx])) hH1
      have hread := SuffixRead.label hb1 (hok l (by simp)) hrd
      have hlen : (UInt8.ofNat l.length :: l ++ (cname tbl1 (pos + 1 + l.length) ls).1).length =
          1 + l.length + (cname tbl1 (pos + 1 + l.length) ls).1.length := by simp; omega
      rw [hlen]
      refine ⟨hread, ?_⟩
      intro s t h
      rcases htbl s t h with h1 | ⟨h1, h2, h3, h4⟩
      · rcases hlk1 s t h1 with h1 | ⟨hp, rfl, rfl⟩
        · exact Or.inl h1
        · exact Or.inr ⟨hp, Nat.le_refl _, by omega, _, hread⟩
      · exact Or.inr ⟨h1, by omega, by omega, h4⟩

/-! ### a whole sequence of names written by the reference encoder -/

def TblInv (buf : Bytes) (tbl : CTable) (pos : Nat) : Prop :=
  ∀ s t, tbl.lookup s = some t → t < 16384 ∧ t < pos ∧ ∃ n, DnsRef.name buf t = some (s, n)

def cnameOffsets (tbl : CTable) (pos : Nat) : List (List Bytes) → List Nat
  | [] => []
  | n :: ns => let r := cname tbl pos n; pos :: cnameOffsets r.2 (pos + r.1.length) ns

theorem cnames_read (buf : Bytes) : ∀ (names : List (List Bytes)) (tbl : CTable) (pos : Nat) (rest : Bytes),
    buf.drop pos = cnames tbl pos names ++ rest → (∀ n ∈ names, LabelsOk n) → TblInv buf tbl pos →
    Rel2 (fun off n => ∃ k, DnsRef.name buf off = some (n, k)) (cnameOffsets tbl pos names) names := by
  intro names
  induction names with
  | nil => intro tbl pos rest _ _ _; exact Rel2.nil
  | cons nm names ih =>
    intro tbl pos rest hb hok hinv
    simp only [cnames, List.append_assoc] at hb
    obtain ⟨hread, htbl⟩ := cname_scan buf nm tbl pos pos _ hb (hok nm (by simp))
      (fun s t h _ => hinv s t h)
    have hb2 := drop_of_drop_append hb
    have hinv2 : TblInv buf (cname tbl pos nm).2 (pos + (cname tbl pos nm).1.length) := by
      intro s t h
      rcases htbl s t h with h1 | ⟨h1, h2, h3, h4⟩
      · obtain ⟨a, b, c⟩ := hinv s t h1
        exact ⟨a, by omega, c⟩
      · exact ⟨h1, h3, h4.imp fun _ h => h.name h2⟩
    simp only [cnameOffsets]
    exact Rel2.cons ⟨_, hread.name (Nat.le_refl _)⟩ (ih _ _ rest hb2 (fun n hn => hok n (by simp [hn])) hinv2)

end MitmVerif.C26
