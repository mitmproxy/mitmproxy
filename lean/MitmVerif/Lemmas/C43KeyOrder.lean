/-
  C43 — Python's `<=` on the generated sort keys.  It is a total preorder on keys of one kind: numbers by `≤`, strings by
  the lexicographic `≤` of their bytes, whose order properties are the library's.  The rank of a key among the keys
  occurring in a history maps it order-preservingly to the naturals the view model sorts.
-/
import MitmVerif.Model.C43_Keys
namespace MitmVerif.C43

/-- the byte-wise order is the lexicographic `≤` of lists of bytes -/
theorem lexLe_iff_le (a b : Bytes) : lexLe a b = true ↔ a ≤ b := by
  induction a generalizing b with
  | nil => simp [lexLe]
  | cons x xs ih =>
    cases b with
    | nil => simp [lexLe]
    | cons y ys =>
      rw [List.cons_le_cons_iff, ← ih, lexLe]
      have hxy : x = y ↔ x.toNat = y.toNat := UInt8.toNat_inj.symm
      simp only [UInt8.lt_iff_toNat_lt, hxy]
      split
      · simp [*]
      · split
        · simp only [Bool.false_eq_true, false_iff]; omega
        · rw [show x.toNat = y.toNat by omega]; simp

theorem lexLe_refl (a : Bytes) : lexLe a a = true := (lexLe_iff_le a a).mpr (List.le_refl a)

theorem lexLe_total (a b : Bytes) : lexLe a b = true ∨ lexLe b a = true := by
  rw [lexLe_iff_le, lexLe_iff_le]; exact List.le_total a b

theorem lexLe_trans (a b c : Bytes) (h1 : lexLe a b = true) (h2 : lexLe b c = true) : lexLe a c = true :=
  (lexLe_iff_le a c).mpr (List.le_trans ((lexLe_iff_le a b).mp h1) ((lexLe_iff_le b c).mp h2))

theorem lexLe_antisymm (a b : Bytes) (h1 : lexLe a b = true) (h2 : lexLe b a = true) : a = b :=
  List.le_antisymm ((lexLe_iff_le a b).mp h1) ((lexLe_iff_le b a).mp h2)

/-- keys of one order are all of one kind -/
theorem genKey_kind (slot : Nat) (d : FlowData) : (genKey slot d).isNum = decide (slot ≤ 1 ∨ (slot ≠ 2 ∧ slot ≠ 3)) := by
  unfold genKey
  by_cases h1 : slot ≤ 1
  · simp [h1, SortKey.isNum]
  · by_cases h2 : slot = 2
    · subst h2; cases d <;> simp [SortKey.isNum]
    · by_cases h3 : slot = 3
      · subst h3; cases d <;> simp [SortKey.isNum]
      · simp only [h1, h2, h3, if_false]
        cases d <;> simp [SortKey.isNum, h2, h3]

theorem SortKey.le_total (a b : SortKey) (h : a.isNum = b.isNum) : a.le b = true ∨ b.le a = true := by
  cases a <;> cases b <;> simp [SortKey.isNum] at h
  · simp only [SortKey.le, decide_eq_true_eq]; omega
  · exact lexLe_total _ _

theorem SortKey.le_trans (a b c : SortKey) (h1 : a.le b = true) (h2 : b.le c = true) : a.le c = true := by
  cases a <;> cases b <;> cases c <;> simp [SortKey.le] at h1 h2 ⊢
  · omega
  · exact lexLe_trans _ _ _ h1 h2

theorem SortKey.le_antisymm (a b : SortKey) (h1 : a.le b = true) (h2 : b.le a = true) : a = b := by
  cases a <;> cases b <;> simp [SortKey.le] at h1 h2 ⊢
  · omega
  · exact lexLe_antisymm _ _ h1 h2

/-- strictly smaller in Python's order (keys of different kinds are unrelated) -/
def SortKey.lt (a b : SortKey) : Bool := a.le b && !b.le a

/-- the number of occurring keys that are strictly smaller -/
def rankIn (K : List SortKey) (k : SortKey) : Nat := K.countP (fun x => x.lt k)

theorem countP_lt_of_witness {α : Type} (p q : α → Bool) (l : List α) (h : ∀ x ∈ l, p x = true → q x = true)
    (w : α) (hw : w ∈ l) (hq : q w = true) (hp : p w = false) : l.countP p < l.countP q := by
  induction l with
  | nil => cases hw
  | cons a l ih =>
    have hle : l.countP p ≤ l.countP q := List.countP_mono_left (fun x hx => h x (List.mem_cons_of_mem _ hx))
    rw [List.countP_cons, List.countP_cons]
    rcases List.mem_cons.mp hw with rfl | hwl
    · rw [if_pos hq, if_neg (by simp [hp])]; omega
    · have ih' := ih (fun x hx => h x (List.mem_cons_of_mem _ hx)) hwl
      have ha := h a (List.mem_cons_self ..)
      split
      · rw [if_pos (ha ‹_›)]; omega
      · split <;> omega

theorem SortKey.lt_of_lt_of_le {x a b : SortKey} (hx : x.lt a = true) (h : a.le b = true) : x.lt b = true := by
  simp only [SortKey.lt, Bool.and_eq_true, Bool.not_eq_true'] at hx ⊢
  refine ⟨SortKey.le_trans x a b hx.1 h, ?_⟩
  cases hbx : b.le x with
  | false => rfl
  | true => exact (SortKey.le_trans a b x h hbx).symm.trans hx.2

/-- **rank reflects the order**: for two occurring keys of one kind, a smaller-or-equal rank means `<=` in Python's
    order on the keys -/
theorem rankIn_reflects (K : List SortKey) (a b : SortKey) (hk : a.isNum = b.isNum) (hb : b ∈ K)
    (h : rankIn K a ≤ rankIn K b) : a.le b = true := by
  cases hab : a.le b with
  | true => rfl
  | false =>
    exfalso
    have hba : b.le a = true := (SortKey.le_total a b hk).resolve_left (by rw [hab]; exact nofun)
    -- `b` itself is counted for `a` and not for `b`
    have hlt : rankIn K b < rankIn K a := by
      apply countP_lt_of_witness (fun x => x.lt b) (fun x => x.lt a) K _ b hb
      · simp [SortKey.lt, hba, hab]
      · simp [SortKey.lt, (SortKey.le_total b b rfl).elim id id]
      · exact fun x _ hx => SortKey.lt_of_lt_of_le hx hba
    omega

/-- … and preserves it -/
theorem rankIn_preserves (K : List SortKey) (a b : SortKey) (h : a.le b = true) : rankIn K a ≤ rankIn K b :=
  List.countP_mono_left (fun _ _ hx => SortKey.lt_of_lt_of_le hx h)

end MitmVerif.C43
