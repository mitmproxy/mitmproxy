/-
  Lemmas for C31, message layer: the equations of `Message.set_content` / `get_content` / `decode` / `encode`
  (`setContent`, `getContent`, `msgDecode`, `msgEncode`) by outcome of the one codec call they make, what each does
  to the cache, to Content-Length and to trailers / version, and — under the invariant — assignment followed by a
  read, repetition of an assignment and of a decode.  Reads are reduced to the cache-free `contentOf` first
  (`getContent_res`), and that to one decode under the coding the header stands for (`contentOf_eq`), so that what a
  successful read implies is argued about a pure function and by the kind of the coding alone.
-/
import MitmVerif.Lemmas.C31Codec
namespace MitmVerif.C31
open MitmVerif MitmVerif.Gen.C31

variable {C : Codecs} {c c' : Cache}

theorem kind_effName_none : kindOf (effName none) = .identity := by decide +kernel

theorem effName_some {x : Bytes} (hx : x.isEmpty = false) : effName (some x) = asciiLower x := by
  simp only [effName, ceOrIdentity, hx, Bool.false_eq_true, if_false]

theorem fixLen_raw (m : Msg) : (fixLen m).raw = m.raw := by unfold fixLen; split <;> rfl
theorem fixLen_ce (m : Msg) : (fixLen m).ce = m.ce := by unfold fixLen; split <;> rfl

theorem fixLen_again (m : Msg) (v : Bytes) (ce : Option Bytes) (hr : m.raw = some v) (hce : m.ce = ce) :
    fixLen { fixLen m with raw := some v, ce := ce } = fixLen m := by
  obtain ⟨raw, ce', te, cl, tr, ver⟩ := m
  cases hr
  cases hce
  cases te <;> rfl

theorem fixLen_core (m : Msg) : fixLen m.core = (fixLen m).core := by
  obtain ⟨raw, ce, te, cl, tr, ver⟩ := m
  cases te <;> rfl

theorem fixLen_len (m : Msg) (raw : Bytes) (hr : m.raw = some raw) :
    (m.te = false → (fixLen m).raw = some raw ∧ (fixLen m).cl = some raw.length) ∧
    (m.te = true → (fixLen m).cl = m.cl) ∧
    (fixLen m).te = m.te ∧ (fixLen m).tr = m.tr ∧ (fixLen m).ver = m.ver := by
  obtain ⟨raw', ce, te, cl, tr, ver⟩ := m
  cases hr
  cases te <;> simp [fixLen]

/-- what `set_content(v)` makes of the result of its encode call: bytes are stored; after a ValueError (invalid coding)
    `v` is stored as it is and the header removed; anything else escapes as a TypeError and the message stays untouched
    (an encode call never yields a `str` or `None`) -/
def stored (m : Msg) (v : Bytes) : Res → Res × Msg
  | .ok x => (.done, fixLen { m with raw := some x })
  | .verr => (.done, fixLen { m with raw := some v, ce := none })
  | _ => (.terr, m)

theorem setContent_of {c c' : Cache} {m : Msg} {v : Bytes} {f r : Res}
    (h : encodeStep c v (ceOrIdentity m.ce) strictB f = (r, c')) :
    setContent c m (some v) f = ((stored m v r).1, c', (stored m v r).2) := by
  unfold setContent
  simp only
  rw [h]
  cases r <;> rfl

theorem setContent_eq (c : Cache) (m : Msg) (v : Bytes) (f : Res) :
    setContent c m (some v) f = ((stored m v (encodeStep c v (ceOrIdentity m.ce) strictB f).1).1,
      (encodeStep c v (ceOrIdentity m.ce) strictB f).2, (stored m v (encodeStep c v (ceOrIdentity m.ce) strictB f).1).2) :=
  setContent_of rfl

theorem setContent_ok {c c' : Cache} {m : Msg} {v x : Bytes} {f : Res}
    (h : encodeStep c v (ceOrIdentity m.ce) strictB f = (.ok x, c')) :
    setContent c m (some v) f = (.done, c', fixLen { m with raw := some x }) :=
  setContent_of h

theorem setContent_verr {c c' : Cache} {m : Msg} {v : Bytes} {f : Res}
    (h : encodeStep c v (ceOrIdentity m.ce) strictB f = (.verr, c')) :
    setContent c m (some v) f = (.done, c', fixLen { m with raw := some v, ce := none }) :=
  setContent_of h

theorem setContent_cache (c : Cache) (m : Msg) (v : Bytes) (f : Res) :
    (setContent c m (some v) f).2.1 = (encodeStep c v (ceOrIdentity m.ce) strictB f).2 := by
  rw [setContent_eq]

theorem setContent_cacheStep (c : Cache) (m : Msg) (v : Bytes) (f : Res) :
    CacheStep c (needEnc (ceOrIdentity m.ce) strictB v) f (setContent c m (some v) f).2.1 := by
  rw [setContent_cache]
  exact encodeStep_cacheStep c v _ strictB f

theorem setContent_res_cases (c : Cache) (m : Msg) (v : Bytes) (f : Res) :
    (setContent c m (some v) f).1 = .done ∨ (setContent c m (some v) f).1 = .terr := by
  rw [setContent_eq]
  cases (encodeStep c v (ceOrIdentity m.ce) strictB f).1 <;> simp [stored]

theorem setContent_len (c : Cache) (m : Msg) (v : Bytes) (f : Res) (h : (setContent c m (some v) f).1 = .done) :
    (m.te = false → ∃ raw, (setContent c m (some v) f).2.2.raw = some raw ∧
        (setContent c m (some v) f).2.2.cl = some raw.length) ∧
    (m.te = true → (setContent c m (some v) f).2.2.cl = m.cl) ∧
    (setContent c m (some v) f).2.2.te = m.te ∧ (setContent c m (some v) f).2.2.tr = m.tr ∧
    (setContent c m (some v) f).2.2.ver = m.ver := by
  rw [setContent_eq] at h ⊢
  generalize (encodeStep c v (ceOrIdentity m.ce) strictB f).1 = r at h ⊢
  cases r with
  | ok x =>
    obtain ⟨h1, h2⟩ := fixLen_len { m with raw := some x } x rfl
    exact ⟨fun hte => ⟨x, h1 hte⟩, h2⟩
  | verr =>
    obtain ⟨h1, h2⟩ := fixLen_len { m with raw := some v, ce := none } v rfl
    exact ⟨fun hte => ⟨v, h1 hte⟩, h2⟩
  | _ => cases h

theorem setContent_ce (c : Cache) (m : Msg) (v : Bytes) (f : Res) :
    (setContent c m (some v) f).2.2.ce = m.ce ∨ (setContent c m (some v) f).2.2.ce = none := by
  rw [setContent_eq]
  cases (encodeStep c v (ceOrIdentity m.ce) strictB f).1 <;> simp [stored, fixLen_ce]

theorem setContent_core (c : Cache) (m : Msg) (v : Option Bytes) (f : Res) :
    setContent c m.core v f = ((setContent c m v f).1, (setContent c m v f).2.1, (setContent c m v f).2.2.core) := by
  cases v with
  | none => rfl
  | some v =>
    rw [setContent_eq, setContent_eq, show m.core.ce = m.ce from rfl]
    cases (encodeStep c v (ceOrIdentity m.ce) strictB f).1 <;> simp only [stored, ← fixLen_core] <;> rfl

/-- the stored body depends on the cache only through the result of the encode call -/
theorem setContent_raw_of_res {c c' : Cache} (m : Msg) (v : Bytes) (f : Res)
    (h : (encodeStep c v (ceOrIdentity m.ce) strictB f).1 = (encodeStep c' v (ceOrIdentity m.ce) strictB f).1) :
    (setContent c m (some v) f).2.2.raw = (setContent c' m (some v) f).2.2.raw := by
  rw [setContent_eq, setContent_eq, h]

theorem getContent_none {c : Cache} {m : Msg} (st : Bool) (f : Res) (hr : m.raw = none) : getContent c m st f = (.nil, c) := by
  unfold getContent
  rw [hr]

theorem getContent_plain {c : Cache} {m : Msg} {raw : Bytes} (st : Bool) (f : Res) (hr : m.raw = some raw)
    (hce : ∀ x, m.ce = some x → x.isEmpty = true) : getContent c m st f = (.ok raw, c) := by
  unfold getContent
  rw [hr]
  cases h : m.ce with
  | none => rfl
  | some x => simp only [hce x h, if_true]

/-- what `get_content(strict)` makes of the result of its decode call: a `str` or a ValueError is reported in strict
    mode and replaced by the raw body otherwise; anything else but bytes is a TypeError -/
def readOut (raw : Bytes) (st : Bool) : Res → Res
  | .ok d => .ok d
  | .str => if st then .verr else .ok raw
  | .verr => if st then .verr else .ok raw
  | _ => .terr

theorem readOut_ne_done (raw : Bytes) (st : Bool) (r : Res) : readOut raw st r ≠ .done := by
  cases r <;> cases st <;> exact nofun

theorem readOut_of_strict {raw v : Bytes} {r : Res} (st : Bool) (h : readOut raw true r = .ok v) :
    readOut raw st r = .ok v := by
  cases r <;> first | exact h | cases h

theorem getContent_coded {m : Msg} {raw x : Bytes} (st : Bool) (f : Res) (hr : m.raw = some raw)
    (hce : m.ce = some x) (hx : x.isEmpty = false) :
    getContent c m st f = (readOut raw st (decodeStep c raw x strictB f).1, (decodeStep c raw x strictB f).2) := by
  unfold getContent
  simp only [hr, hce, hx, Bool.false_eq_true, if_false]
  rcases decodeStep c raw x strictB f with ⟨r, c'⟩
  cases r <;> cases st <;> rfl

theorem needGet_coded {m : Msg} {raw x : Bytes} (hr : m.raw = some raw) (hce : m.ce = some x) (hx : x.isEmpty = false) :
    needGet m = needDec x strictB raw := by
  simp only [needGet, hr, hce, hx, Bool.false_eq_true, if_false]

theorem Msg.read_cases (m : Msg) :
    m.raw = none ∨ (∃ raw, m.raw = some raw ∧ ∀ x, m.ce = some x → x.isEmpty = true) ∨
    ∃ raw x, m.raw = some raw ∧ m.ce = some x ∧ x.isEmpty = false := by
  cases hr : m.raw with
  | none => exact Or.inl rfl
  | some raw =>
    cases hce : m.ce with
    | none => exact Or.inr (Or.inl ⟨raw, rfl, fun _ h => by cases h⟩)
    | some x =>
      cases hx : x.isEmpty
      · exact Or.inr (Or.inr ⟨raw, x, rfl, rfl, hx⟩)
      · exact Or.inr (Or.inl ⟨raw, rfl, fun y h => by cases h; exact hx⟩)

theorem getContent_cacheStep (c : Cache) (m : Msg) (st : Bool) (f : Res) :
    CacheStep c (needGet m) f (getContent c m st f).2 := by
  rcases m.read_cases with hr | ⟨raw, hr, hce⟩ | ⟨raw, x, hr, hce, hx⟩
  · rw [getContent_none st f hr]; exact Or.inl rfl
  · rw [getContent_plain st f hr hce]; exact Or.inl rfl
  · rw [getContent_coded st f hr hce hx, needGet_coded hr hce hx]
    exact decodeStep_cacheStep c raw x strictB f

theorem getContent_inv (hi : Inv C c) (m : Msg) (st : Bool) (f : Res)
    (hf : FreshFor C (needGet m) f) : Inv C (getContent c m st f).2 :=
  (getContent_cacheStep c m st f).inv hi hf

theorem getContent_fix (c : Cache) (m : Msg) (st : Bool) (f : Res) :
    getContent c (fixLen m) st f = getContent c m st f := by
  unfold getContent
  rw [fixLen_raw, fixLen_ce]

theorem getContent_ne_done (c : Cache) (m : Msg) (st : Bool) (f : Res) : (getContent c m st f).1 ≠ .done := by
  rcases m.read_cases with hr | ⟨raw, hr, hce⟩ | ⟨raw, x, hr, hce, hx⟩
  · rw [getContent_none st f hr]; exact nofun
  · rw [getContent_plain st f hr hce]; exact nofun
  · rw [getContent_coded st f hr hce hx]
    exact readOut_ne_done _ _ _

/-- `get_content` yields bytes, or fails leaving the cache untouched — any header, whatever the codec returns -/
theorem getContent_shape (c : Cache) (m : Msg) (st : Bool) (f : Res) :
    (∃ d, (getContent c m st f).1 = .ok d) ∨ ((∀ d, (getContent c m st f).1 ≠ .ok d) ∧ (getContent c m st f).2 = c) := by
  cases h : (getContent c m st f).1 with
  | ok d => exact Or.inl ⟨d, rfl⟩
  | _ =>
    refine Or.inr ⟨fun _ => nofun, ?_⟩
    rcases m.read_cases with hr | ⟨raw, hr, hce⟩ | ⟨raw, x, hr, hce, hx⟩
    · rw [getContent_none st f hr]
    · rw [getContent_plain st f hr hce]
    · rw [getContent_coded st f hr hce hx] at h ⊢
      apply decodeStep_err_cache
      intro d hd
      rw [hd] at h
      cases h

/-- the cache is transparent for `get_content`: under the invariant it returns the cache-free reading of the message -/
theorem getContent_res (hi : Inv C c) (m : Msg) (st : Bool) (f : Res)
    (hf : FreshFor C (needGet m) f) : (getContent c m st f).1 = contentOf C m st := by
  unfold contentOf
  rcases m.read_cases with hr | ⟨raw, hr, hce⟩ | ⟨raw, x, hr, hce, hx⟩
  · rw [getContent_none st f hr, hr]
  · rw [getContent_plain st f hr hce, hr]
    cases h : m.ce with
    | none => rfl
    | some x => simp only [hce x h, if_true]
  · rw [getContent_coded st f hr hce hx, decodeStep_res hi raw x strictB f (needGet_coded hr hce hx ▸ hf), hr, hce]
    simp only [hx, Bool.false_eq_true, if_false]
    rfl

/-- reading a message is one decode of the raw body under the coding its header stands for (absent or empty:
    "identity"), so what a read yields needs no case distinction on the header -/
theorem contentOf_eq (C : Codecs) {m : Msg} {raw : Bytes} (st : Bool) (hr : m.raw = some raw) :
    contentOf C m st = readOut raw st (uncachedDec C (ceOrIdentity m.ce) strictB raw) := by
  have hid : readOut raw st (uncachedDec C identityB strictB raw) = .ok raw := by
    rw [uncachedDec_identity C (coding := identityB) strictB raw kind_effName_none]
    rfl
  unfold contentOf
  rw [hr]
  cases m.ce with
  | none => exact hid.symm
  | some x =>
    cases hx : x.isEmpty
    · simp only [ceOrIdentity, hx, Bool.false_eq_true, if_false]
      rfl
    · simp only [ceOrIdentity, hx, if_true]
      exact hid.symm

theorem contentOf_fix (C : Codecs) (m : Msg) (st : Bool) : contentOf C (fixLen m) st = contentOf C m st := by
  unfold contentOf
  rw [fixLen_raw, fixLen_ce]

theorem contentOf_of_strict {m : Msg} {v : Bytes} (st : Bool) (h : contentOf C m true = .ok v) :
    contentOf C m st = .ok v := by
  cases hr : m.raw with
  | none => simp [contentOf, hr] at h
  | some raw =>
    rw [contentOf_eq C _ hr] at h ⊢
    exact readOut_of_strict st h

theorem contentOf_empty {m : Msg} {v : Bytes} (hok : OkName (effName m.ce)) (hr : m.raw = some [])
    (h : contentOf C m true = .ok v) : v = [] := by
  rw [contentOf_eq C _ hr] at h
  unfold effName at hok
  rcases hok with hk | hk | hk
  · rw [uncachedDec_identity C _ _ hk] at h
    cases h; rfl
  · rw [uncachedDec_of C _ _ (by rw [hk]; decide), C.dec_empty _ _ hk] at h
    cases h; rfl
  · rw [uncachedDec_of C _ _ (by rw [hk]; decide), C.unknown_dec _ _ _ hk] at h
    cases h

theorem setContent_identity (hi : Inv C c) (m : Msg) (v : Bytes) (f : Res)
    (hk : kindOf (effName m.ce) = .identity) :
    setContent c m (some v) f = (.done, c, fixLen { m with raw := some v }) :=
  setContent_ok (encodeStep_identity hi v _ strictB f hk)

theorem setContent_plain (hi : Inv C c) {m : Msg} (v : Bytes) (f : Res) (hce : m.ce = none) :
    setContent c m (some v) f = (.done, c, fixLen { m with raw := some v }) :=
  setContent_identity hi m v f (by rw [hce]; exact kind_effName_none)

theorem setContent_unknown (hi : Inv C c) (m : Msg) (v : Bytes) (f : Res)
    (hk : kindOf (effName m.ce) = .unknown) (hf : FreshFor C (needEnc (ceOrIdentity m.ce) strictB v) f) :
    setContent c m (some v) f = (.done, c, fixLen { m with raw := some v, ce := none }) := by
  apply setContent_verr
  rw [encodeStep_other hi v _ strictB f (by rw [effName] at hk; rw [hk]; decide) (by rw [effName] at hk; rw [hk]; decide),
    hf.enc (by rw [effName] at hk; rw [hk]; decide)]
  exact congrArg (·, c) (C.unknown_enc _ _ _ hk)

theorem setContent_cached (hi : Inv C c) (m : Msg) (v : Bytes) (f : Res)
    (hk : kindOf (effName m.ce) = .cached) (hf : FreshFor C (needEnc (ceOrIdentity m.ce) strictB v) f) :
    ∃ x c', setContent c m (some v) f = (.done, c', fixLen { m with raw := some x }) ∧
      C.dec (effName m.ce) strictB x = .ok v ∧
      (encHit c v (effName m.ce) strictB = some x ∨
        (encHit c v (effName m.ce) strictB = none ∧ C.enc (effName m.ce) strictB v = .ok x)) := by
  obtain ⟨x, c', he, h⟩ := encodeStep_cachedKind hi v (ceOrIdentity m.ce) strictB f hk hf
  exact ⟨x, c', setContent_ok he, h⟩

/-- assigning content under an identity / compressed / unknown coding succeeds, and the message then reads as it -/
theorem read_after_set (hi : Inv C c) (m : Msg) (v : Bytes) (f : Res)
    (hok : OkName (effName m.ce)) (hf : FreshFor C (needEnc (ceOrIdentity m.ce) strictB v) f) :
    (setContent c m (some v) f).1 = .done ∧ ∀ st, contentOf C (setContent c m (some v) f).2.2 st = .ok v := by
  rcases hok with hk | hk | hk
  · rw [setContent_identity hi m v f hk]
    refine ⟨rfl, fun st => ?_⟩
    rw [contentOf_fix, contentOf_eq C st rfl]
    exact congrArg (readOut v st) (uncachedDec_identity C strictB v hk)
  · obtain ⟨x, c', hs, hdec, _⟩ := setContent_cached hi m v f hk hf
    rw [hs]
    refine ⟨rfl, fun st => ?_⟩
    rw [contentOf_fix, contentOf_eq C st rfl]
    exact congrArg (readOut x st) ((uncachedDec_of C strictB x (by rw [← effName, hk]; decide)).trans hdec)
  · rw [setContent_unknown hi m v f hk hf]
    exact ⟨rfl, fun st => by rw [contentOf_fix]; rfl⟩

/-- repeating an assignment reproduces outcome, cache and message — for every Content-Encoding value: the encode
    call is repeated unchanged (`encodeStep_again`), or, after an unknown coding was removed, the body is stored as is -/
theorem setContent_again (hi : Inv C c) (m : Msg) (v : Bytes) (f f2 : Res)
    (hf : FreshFor C (needEnc (ceOrIdentity m.ce) strictB v) f)
    (hf2 : FreshFor C (needEnc (ceOrIdentity (setContent c m (some v) f).2.2.ce) strictB v) f2) :
    setContent (setContent c m (some v) f).2.1 (setContent c m (some v) f).2.2 (some v) f2 =
      setContent c m (some v) f := by
  have hi' : Inv C (setContent c m (some v) f).2.1 := (setContent_cacheStep c m v f).inv hi hf
  have hag : (setContent c m (some v) f).2.2.ce = m.ce →
      encodeStep (setContent c m (some v) f).2.1 v (ceOrIdentity m.ce) strictB f2 =
        encodeStep c v (ceOrIdentity m.ce) strictB f := by
    intro hce
    rw [hce] at hf2
    rw [setContent_cache]
    exact encodeStep_again c v _ strictB f f2 (fun hk => (hf2.enc hk).trans (hf.enc hk).symm)
  rcases hp : encodeStep c v (ceOrIdentity m.ce) strictB f with ⟨r, c'⟩
  rw [hp] at hag
  cases r with
  | ok x =>
    rw [setContent_ok hp] at hi' hag ⊢
    rw [setContent_ok (m := fixLen { m with raw := some x }) (x := x) (c' := c') (by rw [fixLen_ce]; exact hag (fixLen_ce _)),
      fixLen_again _ x _ rfl (fixLen_ce _).symm]
  | verr =>
    rw [setContent_verr hp] at hi' ⊢
    rw [setContent_plain hi' v f2 (fixLen_ce _), fixLen_again _ v _ rfl (fixLen_ce _).symm]
  | _ =>
    rw [setContent_of hp] at hag ⊢
    exact setContent_of (hag rfl)

theorem msgDecode_skip {c : Cache} {m : Msg} (st : Bool) (f : Res) (h : ∀ raw, m.raw = some raw → raw = []) :
    msgDecode c m st f = (.done, c, m) := by
  unfold msgDecode
  cases hr : m.raw with
  | none => rfl
  | some raw => cases h raw hr; rfl

theorem msgDecode_ok {c c' : Cache} {m : Msg} {raw d : Bytes} {st : Bool} {f : Res} (hr : m.raw = some raw)
    (he : raw ≠ []) (hg : getContent c m st f = (.ok d, c')) :
    msgDecode c m st f = setContent c' { m with ce := none } (some d) .verr := by
  unfold msgDecode
  rw [hr]
  dsimp only
  rw [if_neg (by rw [List.isEmpty_iff]; exact he), hg]

theorem msgDecode_err {c : Cache} {m : Msg} {raw : Bytes} {st : Bool} {f : Res} (hr : m.raw = some raw)
    (he : raw ≠ []) (hg : ∀ d, (getContent c m st f).1 ≠ .ok d) :
    msgDecode c m st f = ((getContent c m st f).1, (getContent c m st f).2, m) := by
  unfold msgDecode
  rw [hr]
  dsimp only
  rw [if_neg (by rw [List.isEmpty_iff]; exact he)]
  rcases hp : getContent c m st f with ⟨r, c'⟩
  rw [hp] at hg
  cases r with
  | ok d => exact absurd rfl (hg d)
  | _ => rfl

theorem msgDecode_ok_inv (hi' : Inv C c') {m : Msg} {raw d : Bytes} {st : Bool} {f : Res}
    (hr : m.raw = some raw) (he : raw ≠ []) (hg : getContent c m st f = (.ok d, c')) :
    msgDecode c m st f = (.done, c', fixLen { m with raw := some d, ce := none }) := by
  rw [msgDecode_ok hr he hg, setContent_plain hi' d .verr rfl]

/-- the cache after `Message.decode` is that after its `get_content` (storing the decoded content makes no codec call) -/
theorem msgDecode_cacheStep (c : Cache) (m : Msg) (st : Bool) (f : Res) :
    CacheStep c (match m.raw with | some raw => if raw.isEmpty then .no else needGet m | none => .no) f
      (msgDecode c m st f).2.1 := by
  cases hr : m.raw with
  | none => rw [msgDecode_skip st f (fun raw h => by rw [hr] at h; cases h)]; exact Or.inl rfl
  | some raw =>
    by_cases he : raw = []
    · rw [msgDecode_skip st f (fun raw' h => by rw [hr] at h; cases h; exact he)]; exact Or.inl rfl
    · dsimp only
      rw [if_neg (by rw [List.isEmpty_iff]; exact he)]
      have hg := getContent_cacheStep c m st f
      rcases getContent_shape c m st f with ⟨d, hd⟩ | ⟨hn, _⟩
      · rw [msgDecode_ok hr he (Prod.ext hd rfl), setContent_cache,
          (encodeStep_cacheStep _ d (ceOrIdentity none) strictB .verr).of_no]
        exact hg
      · rw [msgDecode_err hr he hn]
        exact hg

theorem msgDecode_spec (hi : Inv C c) (m : Msg) (st : Bool) (f : Res) (v : Bytes)
    (hok : OkName (effName m.ce)) (hf : ∀ raw, m.raw = some raw → raw ≠ [] → FreshFor C (needGet m) f)
    (h : contentOf C m true = .ok v) :
    (msgDecode c m st f).1 = .done ∧ (msgDecode c m st f).2.2.raw = some v := by
  cases hr : m.raw with
  | none => simp [contentOf, hr] at h
  | some raw =>
    by_cases he : raw = []
    · subst he
      rw [msgDecode_skip st f (fun raw' h => by rw [hr] at h; cases h; rfl), contentOf_empty hok hr h]
      exact ⟨rfl, hr⟩
    · have hf' := hf raw hr he
      rw [msgDecode_ok_inv (getContent_inv hi m st f hf') hr he
        (Prod.ext ((getContent_res hi m st f hf').trans (contentOf_of_strict st h)) rfl)]
      exact ⟨rfl, fixLen_raw _⟩

/-- `Message.decode` twice: after a successful decode there is no Content-Encoding left, so the second call is a plain
    re-assignment of the same bytes; a failed one changed nothing -/
theorem msgDecode_again (m : Msg) (st : Bool) (f : Res)
    (hi1 : ∀ raw, m.raw = some raw → raw ≠ [] → Inv C (getContent c m st f).2) :
    (∀ f2, msgDecode (msgDecode c m st f).2.1 (msgDecode c m st f).2.2 st f2 = msgDecode c m st f) ∨
    (msgDecode c m st f).2 = (c, m) := by
  cases hr : m.raw with
  | none => right; rw [msgDecode_skip st f (fun raw h => by rw [hr] at h; cases h)]
  | some raw =>
    by_cases he : raw = []
    · right; rw [msgDecode_skip st f (fun raw' h => by rw [hr] at h; cases h; exact he)]
    · rcases getContent_shape c m st f with ⟨d, hd⟩ | ⟨hn, hc⟩
      · left
        intro f2
        have hi1 := hi1 raw hr he
        rw [msgDecode_ok_inv hi1 hr he (Prod.ext hd rfl)]
        simp only
        by_cases hde : d = []
        · exact msgDecode_skip st f2 (fun raw' h => by rw [fixLen_raw] at h; cases h; exact hde)
        · rw [msgDecode_ok_inv hi1 (fixLen_raw _) hde
            (getContent_plain st f2 (fixLen_raw _) (fun x h => by rw [fixLen_ce] at h; cases h))]
          exact congrArg (fun m' => (Res.done, (getContent c m st f).2, m')) (fixLen_again _ d none rfl rfl)
      · right
        rw [msgDecode_err hr he hn, hc]

theorem msgEncode_snd (c : Cache) (m : Msg) (cd : Bytes) (f : Res) :
    (msgEncode c m cd f).2 = (setContent c { m with ce := some cd } m.raw f).2 := by
  unfold msgEncode
  rcases setContent c { m with ce := some cd } m.raw f with ⟨r, c', m'⟩
  cases r <;> simp only <;> split <;> rfl

/-- `Message.encode` reports ValueError when the assignment completed by removing the header -/
theorem msgEncode_fst (c : Cache) (m : Msg) (cd : Bytes) (f : Res) :
    (msgEncode c m cd f).1 =
      if (setContent c { m with ce := some cd } m.raw f).1 = .done ∧
          (setContent c { m with ce := some cd } m.raw f).2.2.ce = none then .verr
      else (setContent c { m with ce := some cd } m.raw f).1 := by
  unfold msgEncode
  rcases setContent c { m with ce := some cd } m.raw f with ⟨r, c', m'⟩
  cases r <;> cases h : m'.ce <;> simp [h]

/-- `Message.encode(cd)` on a message with raw body `v`: the message reads as `v` afterwards; the call reports
    ValueError exactly for an unknown coding -/
theorem msgEncode_spec (hi : Inv C c) (m : Msg) (v cd : Bytes) (f : Res)
    (hr : m.raw = some v) (hok : OkName (effName (some cd)))
    (hf : FreshFor C (needEnc (ceOrIdentity (some cd)) strictB v) f) :
    (∀ st, contentOf C (msgEncode c m cd f).2.2 st = .ok v) ∧
    (kindOf (effName (some cd)) = .unknown → (msgEncode c m cd f).1 = .verr) ∧
    (kindOf (effName (some cd)) ≠ .unknown → (msgEncode c m cd f).1 = .done) := by
  obtain ⟨h1, h2⟩ := read_after_set hi { m with raw := some v, ce := some cd } v f hok hf
  rw [msgEncode_snd, msgEncode_fst, hr]
  refine ⟨h2, fun hk => ?_, fun hnu => ?_⟩
  · rw [setContent_unknown hi { m with raw := some v, ce := some cd } v f hk hf]
    simp [fixLen_ce]
  · rw [h1]
    rcases hok with hk | hk | hk
    · rw [setContent_identity hi { m with raw := some v, ce := some cd } v f hk]
      simp [fixLen_ce]
    · obtain ⟨x, c', hs, _⟩ := setContent_cached hi { m with raw := some v, ce := some cd } v f hk hf
      rw [hs]
      simp [fixLen_ce]
    · exact absurd hk hnu

theorem msgEncode_cacheStep (c : Cache) (m : Msg) (cd : Bytes) (f : Res) :
    CacheStep c (match m.raw with | some raw => needEnc (ceOrIdentity (some cd)) strictB raw | none => .no) f
      (msgEncode c m cd f).2.1 := by
  rw [msgEncode_snd]
  cases m.raw with
  | none => exact Or.inl rfl
  | some raw => exact setContent_cacheStep c { m with raw := some raw, ce := some cd } raw f

theorem msgDecode_core (c : Cache) (m : Msg) (st : Bool) (f : Res) :
    msgDecode c m.core st f = ((msgDecode c m st f).1, (msgDecode c m st f).2.1, (msgDecode c m st f).2.2.core) := by
  by_cases hs : ∀ raw, m.raw = some raw → raw = []
  · rw [msgDecode_skip st f hs, msgDecode_skip (m := m.core) st f hs]
  · obtain ⟨raw, hr, he⟩ : ∃ raw, m.raw = some raw ∧ raw ≠ [] := by
      cases hr : m.raw with
      | none => exact absurd (fun raw h => by rw [hr] at h; cases h) hs
      | some raw => exact ⟨raw, rfl, fun he => hs (fun raw' h => by rw [hr] at h; cases h; exact he)⟩
    rcases getContent_shape c m st f with ⟨d, hd⟩ | ⟨hn, _⟩
    · rw [msgDecode_ok hr he (Prod.ext hd rfl), msgDecode_ok (m := m.core) hr he (Prod.ext hd rfl)]
      exact setContent_core _ { m with ce := none } (some d) .verr
    · rw [msgDecode_err hr he hn, msgDecode_err (m := m.core) hr he hn]
      rfl

theorem msgEncode_core (c : Cache) (m : Msg) (cd : Bytes) (f : Res) :
    msgEncode c m.core cd f = ((msgEncode c m cd f).1, (msgEncode c m cd f).2.1, (msgEncode c m cd f).2.2.core) := by
  have h : setContent c { m.core with ce := some cd } m.core.raw f = _ := setContent_core c { m with ce := some cd } m.raw f
  refine Prod.ext ?_ (Prod.ext ?_ ?_)
  · rw [msgEncode_fst, msgEncode_fst, h]
    rfl
  · rw [msgEncode_snd, msgEncode_snd, h]
  · rw [msgEncode_snd, msgEncode_snd, h]

end MitmVerif.C31
