/-
  C48 — lemmas: curl's reading of the argv that `curl_command` builds. `curlArgs_split` cuts the argv into the parts
  `curl_command` appends one after the other (`globArgs`, `resolveArgs`, `curlHeaderArgs`, `methodArgs`, the URL);
  a `dec_*` lemma carries `decodeCurlArgs` over each part, and Props/C48 chains them.
-/
import MitmVerif.Model.C48
namespace MitmVerif.Lemmas.C48
open MitmVerif MitmVerif.C48

theorem dec_H (v : Bytes) (r : List Bytes) (c : Curl) :
    decodeCurlArgs (sH :: v :: r) .none c = decodeCurlArgs r .none { c with headers := c.headers ++ [v] } := by
  simp [decodeCurlArgs, decStep]

theorem dec_X (v : Bytes) (r : List Bytes) (c : Curl) :
    decodeCurlArgs (sX :: v :: r) .none c = decodeCurlArgs r .none { c with method := some v } := by
  simp [decodeCurlArgs, decStep, sX, sH]

theorem dec_D (v : Bytes) (r : List Bytes) (c : Curl) :
    decodeCurlArgs (sD :: v :: r) .none c = decodeCurlArgs r .none { c with data := some v } := by
  simp [decodeCurlArgs, decStep, sX, sH, sD]

theorem dec_R (v : Bytes) (r : List Bytes) (c : Curl) :
    decodeCurlArgs (sResolve :: v :: r) .none c = decodeCurlArgs r .none { c with resolve := c.resolve ++ [v] } := by
  simp [decodeCurlArgs, decStep, sX, sH, sD, sResolve]

theorem dec_C (r : List Bytes) (c : Curl) :
    decodeCurlArgs (sCompressed :: r) .none c = decodeCurlArgs r .none { c with compressed := true } := by
  simp [decodeCurlArgs, decStep, sX, sH, sD, sResolve, sCompressed]

theorem dec_G (r : List Bytes) (c : Curl) :
    decodeCurlArgs (sGloboff :: r) .none c = decodeCurlArgs r .none { c with globoff := true } := by
  simp [decodeCurlArgs, decStep, sX, sH, sD, sResolve, sCompressed, sGloboff]

theorem dec_P (r : List Bytes) (c : Curl) :
    decodeCurlArgs (sPathAsIs :: r) .none c = decodeCurlArgs r .none { c with pathAsIs := true } := by
  simp [decodeCurlArgs, decStep, sX, sH, sD, sResolve, sCompressed, sGloboff, sPathAsIs]

/-- a word that does not start with `-` is a URL -/
theorem dec_url (u : Bytes) (r : List Bytes) (c : Curl) (h : u.head? ≠ some 45) :
    decodeCurlArgs (u :: r) .none c = decodeCurlArgs r .none { c with urls := c.urls ++ [u] } := by
  have hne (w : Bytes) (hw : w.head? = some 45) : u ≠ w := fun e => h (e ▸ hw)
  simp [decodeCurlArgs, decStep, hne sH rfl, hne sX rfl, hne sD rfl, hne sResolve rfl, hne sCompressed rfl,
    hne sGloboff rfl, hne sPathAsIs rfl, h]

theorem dec_headers : ∀ (hs : List (Bytes × Bytes)) (rest : List Bytes) (c : Curl),
    decodeCurlArgs (curlHeaderArgs hs ++ rest) .none c =
      decodeCurlArgs rest .none { c with
        headers := c.headers ++ (hs.filter (fun h => lname h.1 ≠ sAE)).map headerArg,
        compressed := c.compressed || hs.any (fun h => lname h.1 = sAE) } := by
  intro hs
  induction hs with
  | nil => intro rest c; simp [curlHeaderArgs]
  | cons h r ih =>
    intro rest c
    by_cases hae : lname h.1 = sAE
    · simp only [curlHeaderArgs, hae, if_true, List.cons_append, List.nil_append]
      rw [dec_C, ih]
      simp [hae]
    · simp only [curlHeaderArgs, hae, if_false, List.cons_append, List.nil_append]
      rw [dec_H, ih]
      simp [hae, List.append_assoc]

/-- the `--resolve` part of the argv -/
def resolveArgs (p : Bool) (addr : Option Bytes) (r : Req) : List Bytes :=
  match addr with
  | some a =>
    if p ∧ ¬ a.isEmpty ∧ r.prettyHost ≠ a then
      [sResolve, r.prettyHost ++ [58] ++ decBytes r.port ++ [58, 91] ++ a ++ [93]]
    else []
  | none => []

/-- the method part of the argv -/
def methodArgs (r : Req) : List Bytes :=
  if r.method ≠ sGET then
    (if r.body = .none then [sH, sCL0] else []) ++ [sX, r.method]
  else if r.body ≠ .none then [sX, sGET]
  else []

/-- the `--globoff` / `--path-as-is` part of the argv -/
def globArgs (r : Req) : List Bytes :=
  (if hasGlob r.url then [sGloboff] else []) ++ (if hasSlashDot r.url then [sPathAsIs] else [])

theorem dec_glob (r : Req) (rest : List Bytes) (c : Curl) :
    decodeCurlArgs (globArgs r ++ rest) .none c =
      decodeCurlArgs rest .none { c with globoff := c.globoff || hasGlob r.url, pathAsIs := c.pathAsIs || hasSlashDot r.url } := by
  unfold globArgs
  by_cases h : hasGlob r.url = true <;> by_cases h2 : hasSlashDot r.url = true <;> simp [h, h2, dec_G, dec_P]

theorem curlArgs_split (p : Bool) (addr : Option Bytes) (r : Req) :
    curlArgs p addr r = [[99, 117, 114, 108]] ++ globArgs r ++ resolveArgs p addr r ++
      curlHeaderArgs (popHeaders r.host r.headers) ++ methodArgs r ++ [r.url] := by
  cases addr <;> simp [curlArgs, globArgs, resolveArgs, methodArgs, sResolve]

theorem dec_resolve (p : Bool) (addr : Option Bytes) (r : Req) (rest : List Bytes) (c : Curl) :
    ∃ rs, decodeCurlArgs (resolveArgs p addr r ++ rest) .none c =
      decodeCurlArgs rest .none { c with resolve := c.resolve ++ rs } := by
  unfold resolveArgs
  cases addr with
  | none => exact ⟨[], by simp⟩
  | some a =>
    by_cases hc : p = true ∧ ¬ a.isEmpty = true ∧ r.prettyHost ≠ a
    · refine ⟨[r.prettyHost ++ [58] ++ decBytes r.port ++ [58, 91] ++ a ++ [93]], ?_⟩
      dsimp only
      rw [if_pos hc]
      simp only [List.cons_append, List.nil_append]
      rw [dec_R]
    · exact ⟨[], by dsimp only; rw [if_neg hc]; simp⟩

theorem dec_method (r : Req) (rest : List Bytes) (c : Curl) :
    decodeCurlArgs (methodArgs r ++ rest) .none c =
      decodeCurlArgs rest .none { c with
        headers := c.headers ++ (if r.method ≠ sGET ∧ r.body = .none then [sCL0] else []),
        method := if r.method ≠ sGET then some r.method else if r.body ≠ .none then some sGET else c.method } := by
  unfold methodArgs
  by_cases hm : r.method = sGET <;> by_cases hb : r.body = .none <;> simp [hm, hb, dec_X, dec_H]

end MitmVerif.Lemmas.C48
