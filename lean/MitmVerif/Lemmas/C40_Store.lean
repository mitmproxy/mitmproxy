/-
  Lemmas for C40: the operations of the flow store (Model/C40.lean) case by case, as equations.  Props/C40 splits the
  operations with `fun_cases` and needs only `backupOp_some_none`, `revert_some_none` and `copy_some` of these.
-/
import MitmVerif.Model.C40
namespace MitmVerif.C40

variable {V : Type} {ip : Nat → Bool} {σ : Store V} {a j n : Nat} {v : V} {f : FlowObj V} {ad : Addr}

theorem mutate_none (h : σ.flows[a]? = none) : mutate σ a j v = σ := by
  simp only [mutate, h]
theorem mutate_some_none (h : σ.flows[a]? = some f) (h2 : f.parts[j]? = none) : mutate σ a j v = σ := by
  simp only [mutate, h, h2]
theorem mutate_some_some (h : σ.flows[a]? = some f) (h2 : f.parts[j]? = some ad) :
    mutate σ a j v = Store.mk (upd σ.heap ad v) σ.next σ.flows := by
  simp only [mutate, h, h2]
theorem rebind_none (h : σ.flows[a]? = none) : rebind σ a j v = σ := by
  simp only [rebind, h]
theorem rebind_some_none (h : σ.flows[a]? = some f) (h2 : f.parts[j]? = none) : rebind σ a j v = σ := by
  simp only [rebind, h, h2]
theorem rebind_some_some (h : σ.flows[a]? = some f) (h2 : f.parts[j]? = some ad) :
    rebind σ a j v = Store.mk (upd σ.heap σ.next v) (σ.next + 1)
        (σ.flows.set a (FlowObj.mk f.id f.live (f.parts.set j σ.next) f.backup)) := by
  simp only [rebind, h, h2]

theorem backupOp_none (h : σ.flows[a]? = none) : backupOp σ a = σ := by
  simp only [backupOp, h]
theorem backupOp_some_some {b : Nat × List V} (h : σ.flows[a]? = some f) (h2 : f.backup = some b) :
    backupOp σ a = σ := by
  simp only [backupOp, h, h2]
theorem backupOp_some_none (h : σ.flows[a]? = some f) (h2 : f.backup = none) :
    backupOp σ a = Store.mk σ.heap σ.next
      (σ.flows.set a (FlowObj.mk f.id f.live f.parts (some (f.id, content σ f)))) := by
  simp only [backupOp, h, h2]

theorem revert_none (h : σ.flows[a]? = none) : revert ip σ a = σ := by
  simp only [revert, h]
theorem revert_some_none (h : σ.flows[a]? = some f) (h2 : f.backup = none) : revert ip σ a = σ := by
  simp only [revert, h, h2]
theorem revert_some_some {i : Nat} {vs : List V} (h : σ.flows[a]? = some f) (h2 : f.backup = some (i, vs)) :
    revert ip σ a = setMeta (restore ip σ a 0 vs) a i none := by
  simp only [revert, h, h2]

theorem copy_none (h : σ.flows[a]? = none) : copy σ a n = σ := by
  simp only [copy, h]
theorem copy_some (h : σ.flows[a]? = some f) :
    copy σ a n = Store.mk (allocHeap σ.heap σ.next (content σ f)) (σ.next + (content σ f).length)
      (σ.flows ++ [FlowObj.mk n false (List.range' σ.next (content σ f).length) f.backup]) := by
  simp only [copy, h]

end MitmVerif.C40
