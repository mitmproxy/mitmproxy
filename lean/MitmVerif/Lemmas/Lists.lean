/-
  Facts about core lists and bytes that the lemma modules of several properties use; none of them mentions a model.
  Reading a token with `takeWhile` / `dropWhile`; a byte from its two hex digits; `strBytes` (Basic/Bytes) of a string
  literal in a form the kernel evaluates cheaply.
-/
import MitmVerif.Basic.Bytes
namespace MitmVerif

/-! ### reading a token: `takeWhile` / `dropWhile` up to the first element that fails the test -/

theorem takeWhile_all {α : Type} (p : α → Bool) (l : List α) (h : ∀ x ∈ l, p x = true) :
    l.takeWhile p = l ∧ l.dropWhile p = [] := by
  simpa using And.intro (List.takeWhile_append_of_pos (l₂ := []) h) (List.dropWhile_append_of_pos (l₂ := []) h)

theorem takeWhile_stop {α : Type} (p : α → Bool) (l : List α) (c : α) (r : List α) (h : ∀ x ∈ l, p x = true)
    (hc : p c = false) : (l ++ c :: r).takeWhile p = l ∧ (l ++ c :: r).dropWhile p = c :: r := by
  rw [List.takeWhile_append_of_pos h, List.dropWhile_append_of_pos h]
  simp [hc]

theorem dropWhile_idem {α : Type} (p : α → Bool) (l : List α) : (l.dropWhile p).dropWhile p = l.dropWhile p := by
  induction l with
  | nil => rfl
  | cons y r ih => by_cases h : p y = true <;> simp [h, ih]

/-! ### a byte from its two hex digits -/

/-- `UInt8.ofNat` commutes with `+` and `*`, and `n / 16 * 16 + n % 16 = n` -/
theorem byte_recompose (b : UInt8) : UInt8.ofNat (b.toNat / 16) * 16 + UInt8.ofNat (b.toNat % 16) = b := by
  rw [show (16 : UInt8) = UInt8.ofNat 16 from rfl, ← UInt8.ofNat_mul, ← UInt8.ofNat_add, Nat.div_add_mod',
    UInt8.ofNat_toNat]

/-! ### `strBytes` of a literal

`ByteArray.toList` is defined by well-founded recursion on an index, which the kernel evaluates slowly; reading the
underlying array gives the same list (`strBytes_eq`).  A string literal is `String.ofList` of its characters, and its
bytes are the UTF-8 encodings of those characters one after the other (`strBytes_ofList`; `no_index` lets `simp` apply
it to literals): on that form a test vector given as a literal is cheap to check, no byte array is built. -/

theorem toList_loop (bs : ByteArray) (i : Nat) (r : List UInt8) :
    ByteArray.toList.loop bs i r = r.reverse ++ bs.data.toList.drop i := by
  fun_induction ByteArray.toList.loop bs i r with
  | case1 i r h ih =>
    obtain ⟨a⟩ := bs
    have h' : i < a.toList.length := h
    rw [ih, List.reverse_cons, List.append_assoc, List.drop_eq_getElem_cons h']
    simp [ByteArray.get!, getElem!_pos a i h]
  | case2 i r h =>
    obtain ⟨a⟩ := bs
    have h' : a.toList.length ≤ i := Nat.le_of_not_lt h
    simp [List.drop_of_length_le h']

theorem strBytes_eq (s : String) : strBytes s = s.toUTF8.data.toList := by
  unfold strBytes ByteArray.toList
  rw [toList_loop]
  rfl

theorem strBytes_ofList (l : List Char) :
    strBytes (no_index (String.ofList l)) = l.flatMap String.utf8EncodeChar := by
  rw [strBytes_eq]
  simp [List.utf8Encode]

end MitmVerif
