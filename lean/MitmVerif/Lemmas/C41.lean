/-
  C41 — helper lemmas: header multidict operations, message operations on messages without a
  Content-Encoding field, and what `Request.make` and `request_to_flow` return once their parts are known;
  used by `Props/C41.lean` (the guard / comparison predicates live in `Model/C41_Spec.lean`).  The headers are compared
  through `fieldsOf` and `dropCL`: `headers[name] = v` touches only what `del headers[name]` removes (`hdel_hset_same`),
  so "same fields apart from Content-Length" survives every Content-Length rewrite.  Also here: `InOrder`, the relation in
  which the theorems state "the same flows in the same order", and `L_ofList` for evaluating literals.
-/
import MitmVerif.Model.C41_Spec
namespace MitmVerif.C41

/-- element-wise relation between two lists of the same length, in order -/
inductive InOrder {α β : Type} (R : α → β → Prop) : List α → List β → Prop
  | nil : InOrder R [] []
  | cons {a b l₁ l₂} : R a b → InOrder R l₁ l₂ → InOrder R (a :: l₁) (b :: l₂)

/-- A string literal is `String.ofList` of its characters, and on that form `L` needs no UTF-8 decoding (which the
kernel evaluates slowly): a concrete flow rewritten with this lemma is cheap to evaluate.  `no_index` lets `simp`
apply it to literals. -/
theorem L_ofList (l : List Char) : L (no_index (String.ofList l)) = l.map (fun c => UInt8.ofNat c.toNat) := by
  simp [L]

/-! ### multidict -/

theorem nameIs_setv (k : Bytes) (f : Bytes × Bytes) (v : Bytes) : nameIs k (f.1, v) = nameIs k f := rfl

theorem not_contains_iff {h : Hdrs} {k : Bytes} : hcontains h k = false ↔ fieldsOf h k = [] := by
  unfold hcontains; cases fieldsOf h k <;> simp

theorem fieldsOf_nil_iff {h : Hdrs} {k : Bytes} : fieldsOf h k = [] ↔ ∀ f ∈ h, nameIs k f = false := by
  unfold fieldsOf
  simp [List.filter_eq_nil_iff]

theorem hdel_of_not_contains {h : Hdrs} {k : Bytes} (hc : hcontains h k = false) : hdel h k = h := by
  have := fieldsOf_nil_iff.mp (not_contains_iff.mp hc)
  unfold hdel
  apply List.filter_eq_self.mpr
  intro f hf; simp [this f hf]

theorem hget_of_not_contains (lib : Lib) {h : Hdrs} {k : Bytes} (hc : hcontains h k = false) :
    hget lib h k = none := by
  unfold hget; rw [not_contains_iff.mp hc]

theorem hget_congr (lib : Lib) {h h' : Hdrs} {k : Bytes} (e : fieldsOf h' k = fieldsOf h k) :
    hget lib h' k = hget lib h k := by
  unfold hget; rw [e]

theorem hcontains_congr {h h' : Hdrs} {k : Bytes} (e : fieldsOf h' k = fieldsOf h k) :
    hcontains h' k = hcontains h k := by
  unfold hcontains; rw [e]

theorem fieldsOf_cons (f : Bytes × Bytes) (h : Hdrs) (k : Bytes) :
    fieldsOf (f :: h) k = if nameIs k f then f.2 :: fieldsOf h k else fieldsOf h k := by
  unfold fieldsOf; by_cases c : nameIs k f = true <;> simp [c]

theorem nameIs_ne {k k' : Bytes} {f : Bytes × Bytes} (hne : k' ≠ k) (hk : nameIs k f = true) : nameIs k' f = false := by
  unfold nameIs at *
  have : asciiLower f.1 = k := by simpa using hk
  simp [this]; exact fun e => hne e.symm

theorem fieldsOf_append (h h' : Hdrs) (k : Bytes) : fieldsOf (h ++ h') k = fieldsOf h k ++ fieldsOf h' k := by
  unfold fieldsOf; simp

theorem fieldsOf_hdel_ne {k k' : Bytes} (hne : k' ≠ k) (h : Hdrs) : fieldsOf (hdel h k) k' = fieldsOf h k' := by
  unfold fieldsOf hdel
  rw [List.filter_filter]
  congr 1
  apply List.filter_congr
  intro f _
  by_cases c : nameIs k f = true
  · simp [c, nameIs_ne hne c]
  · simp [c]

theorem hdel_hsetGo_same (k v : Bytes) : ∀ (h : Hdrs) (done : Bool), hdel (hsetGo k v h done) k = hdel h k := by
  intro h
  induction h with
  | nil => intro done; simp [hsetGo]
  | cons f rest ih =>
    intro done
    by_cases c : nameIs k f = true
    · cases done
      · simp [hsetGo, c, hdel, nameIs_setv]
        simpa [hdel] using ih true
      · simp [hsetGo, c, hdel]
        simpa [hdel] using ih true
    · simp [hsetGo, c, hdel]
      simpa [hdel] using ih done

theorem hdel_hset_same (h : Hdrs) (name v : Bytes) : hdel (hset h name v) (asciiLower name) = hdel h (asciiLower name) := by
  unfold hset
  split
  · exact hdel_hsetGo_same _ v h false
  · unfold hdel
    simp [List.filter_append, nameIs]

/-- `headers[name] = v` touches only fields that `del headers[name]` removes -/
theorem fieldsOf_hset_ne {k' name : Bytes} (h : Hdrs) (v : Bytes) (hne : k' ≠ asciiLower name) :
    fieldsOf (hset h name v) k' = fieldsOf h k' := by
  rw [← fieldsOf_hdel_ne hne, hdel_hset_same, fieldsOf_hdel_ne hne]

theorem hsetGo_id (k v : Bytes) : ∀ (h : Hdrs),
    (fieldsOf h k = [v] → hsetGo k v h false = h) ∧ (fieldsOf h k = [] → hsetGo k v h true = h) := by
  intro h
  induction h with
  | nil => simp [hsetGo]
  | cons f rest ih =>
    by_cases c : nameIs k f = true
    · constructor
      · intro e
        rw [fieldsOf_cons] at e; simp [c] at e
        obtain ⟨e1, e2⟩ := e
        subst e1
        simp [hsetGo, c, ih.2 e2]
      · intro e
        rw [fieldsOf_cons] at e; simp [c] at e
    · constructor
      · intro e
        rw [fieldsOf_cons] at e; simp [c] at e
        simp [hsetGo, c, ih.1 e]
      · intro e
        rw [fieldsOf_cons] at e; simp [c] at e
        simp [hsetGo, c, ih.2 e]

theorem hset_id {h : Hdrs} {name v : Bytes} (e : fieldsOf h (asciiLower name) = [v]) : hset h name v = h := by
  unfold hset
  have : hcontains h (asciiLower name) = true := by unfold hcontains; rw [e]; rfl
  simp [this, (hsetGo_id _ v h).1 e]

/-! ### "same header fields apart from Content-Length": `dropCL h' = dropCL h`, as the comparison `sameButVer` has it -/

theorem lower_kCL : asciiLower kCL = kCL := by decide +kernel

theorem fieldsOf_of_dropCL {h h' : Hdrs} (e : dropCL h' = dropCL h) {k : Bytes} (hk : k ≠ kCL) :
    fieldsOf h' k = fieldsOf h k := by
  rw [← fieldsOf_hdel_ne hk h', ← fieldsOf_hdel_ne hk h]
  exact congrArg (fieldsOf · k) e

theorem dropCL_hset (h : Hdrs) (v : Bytes) : dropCL (hset h kCL v) = dropCL h := by
  have := hdel_hset_same h kCL v
  rw [lower_kCL] at this; exact this

theorem kCE_ne_kCL : kCE ≠ kCL := by decide +kernel
theorem kCT_ne_kCL : kCT ≠ kCL := by decide +kernel
theorem kTE_ne_kCL : kTE ≠ kCL := by decide +kernel
theorem kHost_ne_kCL : kHost ≠ kCL := by decide +kernel

/-! ### messages without Content-Encoding -/

theorem getContentStrict_noCE (lib : Lib) {m : Msg} (h : hcontains m.hdrs kCE = false) :
    getContentStrict lib m = some m.body := by
  unfold getContentStrict; rw [hget_of_not_contains lib h]

theorem getContent_noCE (lib : Lib) {m : Msg} (h : hcontains m.hdrs kCE = false) : getContent lib m = m.body := by
  unfold getContent; rw [getContentStrict_noCE lib h]; rfl

theorem setContent_noCE (lib : Lib) {m : Msg} (h : hcontains m.hdrs kCE = false) (v : Bytes) :
    setContent lib m v =
      { m with hdrs := if hcontains m.hdrs kTE then m.hdrs else hset m.hdrs kCL (natDec v.length), body := v } := by
  unfold setContent; rw [hget_of_not_contains lib h]

theorem setContent_noCE_props (lib : Lib) {m : Msg} (h : hcontains m.hdrs kCE = false) (v : Bytes) :
    (setContent lib m v).ver = m.ver ∧ (setContent lib m v).body = v ∧ dropCL (setContent lib m v).hdrs = dropCL m.hdrs := by
  rw [setContent_noCE lib h]
  refine ⟨rfl, rfl, ?_⟩
  by_cases c : hcontains m.hdrs kTE = true
  · simp [c]
  · simp [c, dropCL_hset]

theorem noCE_of_dropCL {h h' : Hdrs} (e : dropCL h' = dropCL h) (c : hcontains h kCE = false) : hcontains h' kCE = false := by
  rw [hcontains_congr (fieldsOf_of_dropCL e kCE_ne_kCL)]; exact c

/-- `decode()` of a non-empty message without Content-Encoding sets the content it already has -/
theorem decodeMsg_noCE_eq (lib : Lib) {m : Msg} (strict : Bool) (h : hcontains m.hdrs kCE = false) (e : m.body ≠ []) :
    decodeMsg lib m strict = some (setContent lib m m.body) := by
  have hc : (if strict = true then getContentStrict lib m else some (getContent lib m)) = some m.body := by
    cases strict <;> simp [getContentStrict_noCE lib h, getContent_noCE lib h]
  unfold decodeMsg
  simp only [e, if_false, hc, hdel_of_not_contains h]

/-- `decode()` on a message without Content-Encoding: succeeds, keeps version and body, touches only Content-Length -/
theorem decodeMsg_noCE (lib : Lib) {m : Msg} (strict : Bool) (h : hcontains m.hdrs kCE = false) :
    ∃ m', decodeMsg lib m strict = some m' ∧ m'.ver = m.ver ∧ m'.body = m.body ∧ dropCL m'.hdrs = dropCL m.hdrs := by
  by_cases e : m.body = []
  · simp [decodeMsg, e]
  · exact ⟨_, decodeMsg_noCE_eq lib strict h e, setContent_noCE_props lib h m.body⟩

/-- with a Content-Length that is already right (or Transfer-Encoding, or no body) `decode()` changes nothing -/
theorem decodeMsg_noCE_clOk (lib : Lib) {m : Msg} (strict : Bool) (h : hcontains m.hdrs kCE = false)
    (cl : m.body = [] ∨ hcontains m.hdrs kTE = true ∨ fieldsOf m.hdrs kCL = [natDec m.body.length]) :
    decodeMsg lib m strict = some m := by
  by_cases e : m.body = []
  · simp [decodeMsg, e]
  · rw [decodeMsg_noCE_eq lib strict h e, setContent_noCE lib h]
    rcases cl with c | c | c
    · exact absurd c e
    · simp [c]
    · have : hset m.hdrs kCL (natDec m.body.length) = m.hdrs := hset_id (by rw [lower_kCL]; exact c)
      by_cases t : hcontains m.hdrs kTE = true <;> simp [t, this]

/-! ### `request_to_flow` -/

/-- `Request.make` once headers, method and URL are read: the Host update, then `set_text` on the empty HTTP/1.1 request -/
theorem makeReq_eq {lib : Lib} {r : HarReq} {h h1 : Hdrs} {mb hp : Bytes} {m : Msg}
    (e1 : fixHeaders lib r.headers = some h) (e2 : lib.senc r.method = some mb) (e3 : lib.urlHostport r.url = some hp)
    (e4 : (if hcontains h kHost then (lib.senc hp).map (hset h (L "Host")) else some h) = some h1)
    (e5 : setText lib { ver := v11, hdrs := h1, body := [] } (r.postData.getD []) = some m) :
    makeReq lib r = some (mb, m) := by
  unfold makeReq
  rw [e1, e2, e3]
  simp only [e4, e5, Option.map_some]

/-- the flow `request_to_flow` returns once its two messages are made and decoded -/
theorem importEntry_eq {lib : Lib} {e : Entry} {mb : Bytes} {rq rs rq' rs' : Msg}
    (h1 : makeReq lib e.request = some (mb, rq)) (h2 : makeResp lib e.response = some rs)
    (d1 : decodeMsg lib { rq with ver := mapVer e.request.httpVersion } true = some rq')
    (d2 : decodeMsg lib { rs with ver := mapVer e.response.httpVersion } false = some rs') :
    importEntry lib e = some
      { method := mb
        purl := if methodOf lib mb = L "CONNECT" then [] else lib.urlPretty e.request.url (hget lib rq'.hdrs kHost)
        req := rq', status := e.response.status, resp := rs' } := by
  unfold importEntry
  rw [h1, h2]
  simp only [d1, d2]

end MitmVerif.C41
