/-
  `s.split(sep)` for a one-element separator and `sep.join(ps)`, over any element type, once for all properties.
  The models transcribe `split` per call site (`C01.splitOn`, `C13.splitDot`, `C34.splitSlash`, …), each with its own
  recursion; the lemma module of a property proves by one induction that its function is `splitSep` (and its join
  `joinBy`) and takes everything else from here.

  `splitSep` is determined by two equations (`splitSep_no_sep`, `splitSep_append_sep`); with `sep_induction` they are how
  it is reasoned about, and its recursion is not unfolded again.
-/
namespace MitmVerif
variable {α : Type}

def joinBy (sep : List α) : List (List α) → List α
  | [] => []
  | [p] => p
  | p :: q :: r => p ++ sep ++ joinBy sep (q :: r)

theorem joinBy_cons (sep p : List α) {ps : List (List α)} (h : ps ≠ []) :
    joinBy sep (p :: ps) = p ++ sep ++ joinBy sep ps := by
  cases ps with
  | nil => exact absurd rfl h
  | cons q r => rfl

/-- what holds of the separator and of every element of every piece holds of every element of the joined list -/
theorem joinBy_forall (P : α → Prop) {sep : List α} (hsep : ∀ c ∈ sep, P c) :
    ∀ (ps : List (List α)), (∀ p ∈ ps, ∀ c ∈ p, P c) → ∀ c ∈ joinBy sep ps, P c
  | [], _ => by simp [joinBy]
  | [p], h => h p (by simp)
  | p :: q :: r, h => by
    intro c hc
    rw [joinBy_cons _ _ (by simp), List.mem_append, List.mem_append] at hc
    rcases hc with (hc | hc) | hc
    · exact h p (by simp) c hc
    · exact hsep c hc
    · exact joinBy_forall P hsep (q :: r) (fun p' hp' => h p' (by simp [hp'])) c hc

/-- an element of the joined list that is not in the separator comes from a piece -/
theorem mem_joinBy {sep : List α} {c : α} (hc : c ∉ sep) :
    ∀ {ps : List (List α)}, c ∈ joinBy sep ps → ∃ p ∈ ps, c ∈ p
  | [], h => by simp [joinBy] at h
  | [p], h => ⟨p, by simp, h⟩
  | p :: q :: r, h => by
    rw [joinBy_cons _ _ (by simp), List.mem_append, List.mem_append] at h
    rcases h with (h | h) | h
    · exact ⟨p, by simp, h⟩
    · exact absurd h hc
    · obtain ⟨p', hp', hcp⟩ := mem_joinBy hc h
      exact ⟨p', by simp [hp'], hcp⟩

theorem infix_joinBy (sep : List α) : ∀ {ps : List (List α)} {p : List α}, p ∈ ps → p <:+: joinBy sep ps
  | [x], p, h => by
    rw [List.mem_singleton.mp h]
    exact List.infix_refl _
  | x :: y :: r, p, h => by
    rw [joinBy_cons _ _ (by simp)]
    rcases List.mem_cons.mp h with rfl | h
    · exact ((List.prefix_append _ _).trans (List.prefix_append _ _)).isInfix
    · exact (infix_joinBy sep h).trans (List.suffix_append _ _).isInfix

theorem joinBy_eq_nil {sep : List α} {ps : List (List α)} (h : joinBy sep ps = []) (hp : ∀ p ∈ ps, p ≠ []) :
    ps = [] := by
  cases ps with
  | nil => rfl
  | cons p r => exact absurd (List.infix_nil.mp (h ▸ infix_joinBy sep List.mem_cons_self)) (hp p List.mem_cons_self)

theorem joinBy_append_joinBy (sep : List α) (as : List (List α)) {bs : List (List α)} (hb : bs ≠ []) :
    joinBy sep (as ++ [joinBy sep bs]) = joinBy sep (as ++ bs) := by
  induction as with
  | nil => rfl
  | cons a as ih =>
    rw [List.cons_append, List.cons_append, joinBy_cons _ _ (by simp), joinBy_cons _ _ (by simp [hb]), ih]

theorem getLast_suffix_joinBy (sep : List α) : ∀ {ps : List (List α)} (h : ps ≠ []), ps.getLast h <:+ joinBy sep ps
  | [p], _ => List.suffix_refl p
  | p :: q :: r, _ => by
    rw [joinBy_cons _ _ (by simp), List.getLast_cons (by simp)]
    exact (getLast_suffix_joinBy sep _).trans (List.suffix_append _ _)

/-! `joinBy` as a `flatMap` -/

theorem joinBy_cons_flatMap (sep p : List α) (ps : List (List α)) :
    joinBy sep (p :: ps) = p ++ ps.flatMap (sep ++ ·) := by
  induction ps generalizing p with
  | nil => simp [joinBy]
  | cons q ps ih => rw [joinBy_cons _ _ (by simp), ih, List.flatMap_cons, List.append_assoc, List.append_assoc]

theorem joinBy_concat (sep : List α) (ps : List (List α)) (q : List α) :
    joinBy sep (ps ++ [q]) = ps.flatMap (· ++ sep) ++ q := by
  induction ps with
  | nil => rfl
  | cons p ps ih =>
    rw [List.cons_append, joinBy_cons _ _ (by simp), ih, List.flatMap_cons]
    simp only [List.append_assoc]

theorem joinBy_append_sep (sep : List α) {ps : List (List α)} (h : ps ≠ []) :
    joinBy sep ps ++ sep = ps.flatMap (· ++ sep) := by
  rw [← List.dropLast_concat_getLast h, joinBy_concat, List.flatMap_append]
  simp

/-- `joinBy` in the spelling of core's `intersperse` -/
theorem flatten_intersperse (sep : List α) :
    ∀ ps : List (List α), (ps.intersperse sep).flatten = joinBy sep ps
  | [] => rfl
  | [p] => by simp [joinBy]
  | p :: q :: r => by simp [joinBy, flatten_intersperse sep (q :: r)]

variable [DecidableEq α]

def splitSep (sep : α) : List α → List (List α)
  | [] => [[]]
  | c :: r =>
    if c = sep then [] :: splitSep sep r
    else match splitSep sep r with
      | p :: ps => (c :: p) :: ps
      | [] => [[c]]

theorem splitSep_no_sep {sep : α} {q : List α} (h : sep ∉ q) : splitSep sep q = [q] := by
  induction q with
  | nil => rfl
  | cons c r ih =>
    obtain ⟨hc, hr⟩ := not_or.mp (mt List.mem_cons.mpr h)
    simp [splitSep, Ne.symm hc, ih hr]

theorem splitSep_append_sep {sep : α} {q : List α} (h : sep ∉ q) (r : List α) :
    splitSep sep (q ++ sep :: r) = q :: splitSep sep r := by
  induction q with
  | nil => simp [splitSep]
  | cons c q ih =>
    obtain ⟨hc, hq⟩ := not_or.mp (mt List.mem_cons.mpr h)
    simp [splitSep, Ne.symm hc, ih hq]

/-- induction over the pieces of a list: it is a piece without the separator, or such a piece, the separator and a list -/
theorem sep_induction (sep : α) {P : List α → Prop} (last : ∀ q, sep ∉ q → P q)
    (piece : ∀ q r, sep ∉ q → P r → P (q ++ sep :: r)) : ∀ b, P b := by
  -- `p`: what of the first piece has been passed
  have key : ∀ (b p : List α), sep ∉ p → P (p ++ b) := by
    intro b
    induction b with
    | nil => intro p hp; simpa using last p hp
    | cons c rest ih =>
      intro p hp
      by_cases hc : c = sep
      · subst hc
        exact piece p rest hp (by simpa using ih [] (by simp))
      · simpa using ih (p ++ [c]) (by simp [hp, Ne.symm hc])
  exact fun b => by simpa using key b [] (by simp)

theorem splitSep_ne_nil (sep : α) (b : List α) : splitSep sep b ≠ [] := by
  induction b using sep_induction sep with
  | last q hq => simp [splitSep_no_sep hq]
  | piece q r hq _ => simp [splitSep_append_sep hq]

theorem splitSep_pieces (sep : α) (b : List α) : ∀ p ∈ splitSep sep b, sep ∉ p := by
  induction b using sep_induction sep with
  | last q hq => simpa [splitSep_no_sep hq] using hq
  | piece q r hq ih => simpa [splitSep_append_sep hq, hq] using ih

theorem splitSep_joinBy {sep : α} : ∀ (qs : List (List α)), qs ≠ [] → (∀ q ∈ qs, sep ∉ q) →
    splitSep sep (joinBy [sep] qs) = qs
  | [q], _, h => splitSep_no_sep (h q (by simp))
  | q :: q' :: r, _, h => by
    rw [joinBy_cons _ _ (by simp), List.append_assoc, List.singleton_append, splitSep_append_sep (h q (by simp)),
      splitSep_joinBy (q' :: r) (by simp) fun p hp => h p (by simp [hp])]

theorem joinBy_splitSep (sep : α) (b : List α) : joinBy [sep] (splitSep sep b) = b := by
  induction b using sep_induction sep with
  | last q hq => rw [splitSep_no_sep hq]; rfl
  | piece q r hq ih => rw [splitSep_append_sep hq, joinBy_cons _ _ (splitSep_ne_nil sep r), ih]; simp

theorem splitSep_piece_infix (sep : α) (b p : List α) (h : p ∈ splitSep sep b) : p <:+: b := by
  have := infix_joinBy [sep] h
  rwa [joinBy_splitSep] at this


/-- splitting commutes with a map under which exactly the separator goes to the separator -/
theorem splitSep_map {β : Type} [DecidableEq β] {f : α → β} {sep : α} {sep' : β}
    (hf : ∀ c, f c = sep' ↔ c = sep) (l : List α) :
    splitSep sep' (l.map f) = (splitSep sep l).map (List.map f) := by
  have hmap : ∀ {q : List α}, sep ∉ q → sep' ∉ q.map f := fun h => by simpa [hf] using h
  induction l using sep_induction sep with
  | last q hq => rw [splitSep_no_sep hq, splitSep_no_sep (hmap hq)]; rfl
  | piece q r hq ih =>
    rw [List.map_append, List.map_cons, (hf sep).mpr rfl, splitSep_append_sep (hmap hq), splitSep_append_sep hq, ih]
    rfl

/-! ### `s.split(sep, 1)`: cutting at the first separator only -/

/-- what stands before the first `sep` and what follows it; `none` if there is no `sep` -/
def splitFirst (sep : α) : List α → Option (List α × List α)
  | [] => none
  | c :: r => if c = sep then some ([], r) else (splitFirst sep r).map fun p => (c :: p.1, p.2)

theorem splitFirst_append {sep : α} {a : List α} (h : sep ∉ a) (r : List α) :
    splitFirst sep (a ++ sep :: r) = some (a, r) := by
  induction a with
  | nil => simp [splitFirst]
  | cons c a ih =>
    obtain ⟨hc, ha⟩ := not_or.mp (mt List.mem_cons.mpr h)
    simp [splitFirst, Ne.symm hc, ih ha]

theorem splitFirst_eq_none {sep : α} {l : List α} (h : sep ∉ l) : splitFirst sep l = none := by
  induction l with
  | nil => rfl
  | cons c l ih =>
    obtain ⟨hc, hl⟩ := not_or.mp (mt List.mem_cons.mpr h)
    simp [splitFirst, Ne.symm hc, ih hl]

theorem splitFirst_some {sep : α} {l a r : List α} (h : splitFirst sep l = some (a, r)) :
    l = a ++ sep :: r ∧ sep ∉ a := by
  by_cases hm : sep ∈ l
  · obtain ⟨a', r', rfl, ha'⟩ := List.eq_append_cons_of_mem hm
    rw [splitFirst_append ha'] at h
    cases h
    exact ⟨rfl, ha'⟩
  · rw [splitFirst_eq_none hm] at h
    cases h

end MitmVerif
