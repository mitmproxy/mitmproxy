/-
  Lemmas for C31, state layer: `step` / `run` on the two-message state.  What one op can do to the cache
  (`stepWith_cacheStep`), hence the invariant `Inv` along every history (`run_inv`) and its two guarded relatives;
  which ops leave a message alone; the message-level results of `C31Message` read off the state.
-/
import MitmVerif.Lemmas.C31Message
namespace MitmVerif.C31
open MitmVerif MitmVerif.Gen.C31

variable {C : Codecs} {c : Cache} {s : State}

theorem setMsg_cache (s : State) (i : Bool) (m : Msg) : (s.setMsg i m).cache = s.cache := by
  cases i <;> rfl

theorem setMsg_msg (s : State) (i : Bool) (m : Msg) : (s.setMsg i m).msg i = m := by
  cases i <;> rfl

theorem setMsg_msg_ne (s : State) {i j : Bool} (m : Msg) (h : i ≠ j) : (s.setMsg i m).msg j = s.msg j := by
  cases i <;> cases j <;> first | rfl | exact absurd rfl h

theorem setMsg_setMsg (s : State) (i : Bool) (c c' : Cache) (m m' : Msg) :
    ({ ({ s with cache := c } : State).setMsg i m with cache := c' } : State).setMsg i m' =
      ({ s with cache := c' } : State).setMsg i m' := by
  cases i <;> rfl

theorem setMsg_self (s : State) (i : Bool) : (({ s with cache := s.cache } : State).setMsg i (s.msg i)) = s := by
  cases i <;> rfl

theorem withCache_msg (s : State) (c : Cache) (i : Bool) : ({ s with cache := c } : State).msg i = s.msg i := by
  cases i <;> rfl

theorem core_msg (s : State) (i : Bool) : (s.core).msg i = (s.msg i).core := by
  cases i <;> rfl

theorem core_setMsg (s : State) (i : Bool) (m : Msg) : (s.setMsg i m).core = s.core.setMsg i m.core := by
  cases i <;> rfl

theorem core_setMsg_congr (s : State) (i : Bool) (m m' : Msg) (h : m.core = m'.core) :
    (s.core.setMsg i m).core = (s.setMsg i m').core := by
  rw [core_setMsg, core_setMsg, h]
  cases i <;> rfl

theorem core_put (s : State) (i : Bool) (c : Cache) (m : Msg) :
    (({ s.core with cache := c } : State).setMsg i m.core).core = (({ s with cache := c } : State).setMsg i m).core := by
  cases i <;> rfl

theorem step_set (C : Codecs) (s : State) (i : Bool) (v : Option Bytes) :
    step C s (.setContent i v) =
      (({ s with cache := (setContent s.cache (s.msg i) v (freshOf C s (.setContent i v))).2.1 } : State).setMsg i
          (setContent s.cache (s.msg i) v (freshOf C s (.setContent i v))).2.2,
        (setContent s.cache (s.msg i) v (freshOf C s (.setContent i v))).1) := rfl

theorem step_get (C : Codecs) (s : State) (i st : Bool) :
    (step C s (.getContent i st)).2 = (getContent s.cache (s.msg i) st (freshOf C s (.getContent i st))).1 := rfl

theorem step_mdecode (C : Codecs) (s : State) (i st : Bool) :
    step C s (.mdecode i st) =
      (({ s with cache := (msgDecode s.cache (s.msg i) st (freshOf C s (.mdecode i st))).2.1 } : State).setMsg i
          (msgDecode s.cache (s.msg i) st (freshOf C s (.mdecode i st))).2.2,
        (msgDecode s.cache (s.msg i) st (freshOf C s (.mdecode i st))).1) := rfl

theorem step_mencode (C : Codecs) (s : State) (i : Bool) (cd : Bytes) :
    step C s (.mencode i cd) =
      (({ s with cache := (msgEncode s.cache (s.msg i) cd (freshOf C s (.mencode i cd))).2.1 } : State).setMsg i
          (msgEncode s.cache (s.msg i) cd (freshOf C s (.mencode i cd))).2.2,
        (msgEncode s.cache (s.msg i) cd (freshOf C s (.mencode i cd))).1) := rfl

theorem run_append (C : Codecs) (a b : List Op) :
    ∀ s, (run C s (a ++ b)).1 = (run C (run C s a).1 b).1 := by
  induction a with
  | nil => intro s; rfl
  | cons o a ih => intro s; simp only [List.cons_append, run]; exact ih _

theorem run_cons_fst (C : Codecs) (s : State) (op : Op) (tail : List Op) :
    (run C s (op :: tail)).1 = (run C (step C s op).1 tail).1 := rfl

theorem stepWith_cacheStep (s : State) (op : Op) (fresh : Res) :
    CacheStep s.cache (need s op) fresh (stepWith s op fresh).1.cache := by
  cases op with
  | dec x c e => exact decodeStep_cacheStep s.cache x c e fresh
  | enc d c e => exact encodeStep_cacheStep s.cache d c e fresh
  | getContent i st => exact getContent_cacheStep s.cache (s.msg i) st fresh
  | setContent i v =>
    cases v with
    | none => exact Or.inl (setMsg_cache _ i _)
    | some v => cases i <;> exact setContent_cacheStep s.cache _ v fresh
  | mdecode i st => cases i <;> exact msgDecode_cacheStep s.cache _ st fresh
  | mencode i cd => cases i <;> exact msgEncode_cacheStep s.cache _ cd fresh
  | _ => exact Or.inl (setMsg_cache _ _ _)

/-- any predicate on cache entries that holds for entries made from true codec facts is preserved -/
theorem step_pres (C : Codecs) (P : Entry → Prop) (s : State) (op : Op)
    (hP : ∀ e, s.cache = some e → P e)
    (hd : ∀ n e x d, need s op = .dec n e x → C.dec n e x = .ok d → kindOf n = .cached → P ⟨x, n, e, d⟩)
    (he : ∀ n e d x, need s op = .enc n e d → C.enc n e d = .ok x → kindOf n = .cached → P ⟨x, n, e, d⟩) :
    ∀ e, (step C s op).1.cache = some e → P e := by
  have hf := freshFor_freshOf C s op
  apply (stepWith_cacheStep s op (freshOf C s op)).pres hP
  · intro n e x d hn hok hk
    rw [hn] at hf
    exact hd n e x d hn (hf.symm.trans hok) hk
  · intro n e d x hn hok hk
    rw [hn] at hf
    exact he n e d x hn (hf.symm.trans hok) hk

theorem step_inv (C : Codecs) (s : State) (op : Op) (hi : Inv C s.cache) : Inv C (step C s op).1.cache :=
  (stepWith_cacheStep s op (freshOf C s op)).inv hi (freshFor_freshOf C s op)

theorem run_inv (C : Codecs) (ops : List Op) : ∀ s, Inv C s.cache → Inv C (run C s ops).1.cache := by
  induction ops with
  | nil => intro s h; exact h
  | cons op ops ih => intro s h; exact ih _ (step_inv C s op h)

theorem run_inv_of_empty (C : Codecs) (s0 : State) (h0 : s0.cache = none) (ops : List Op) :
    Inv C (run C s0 ops).1.cache :=
  run_inv C ops s0 (h0 ▸ Inv.empty C)

theorem run_invRef (C : Codecs) (ops : List Op) :
    ∀ s, InvRef C s.cache → strictHist C s ops = true → InvRef C (run C s ops).1.cache := by
  induction ops with
  | nil => intro s h _; exact h
  | cons op ops ih =>
    intro s h hg
    simp only [strictHist, Bool.and_eq_true] at hg
    refine ih _ ?_ hg.2
    apply step_pres C (fun e => kindOf e.coding = .cached ∧ C.ref e.coding e.encoded = some e.decoded) s op h
    · intro n e x d hn hdec hk
      refine ⟨hk, ?_⟩
      simpa [strictOp, hn, hk, hdec] using hg.1
    · intro n e d x _ henc hk
      exact ⟨hk, C.ref_enc n e d x hk henc⟩

theorem InvRef.lenientHit (hr : InvRef C c) (v n : Bytes) : lenientHit C c v n = false := by
  unfold C31.lenientHit
  cases hh : encHit c v n strictB with
  | none => rfl
  | some x =>
    obtain ⟨_, href⟩ := hr _ (encHit_some hh)
    simp [href]

/-- every entry holds the bytes the uncached encoder produces -/
def InvCanon (C : Codecs) (c : Cache) : Prop :=
  ∀ e, c = some e → kindOf e.coding = .cached ∧ C.enc e.coding e.errors e.decoded = .ok e.encoded

theorem run_invCanon (C : Codecs) (ops : List Op) :
    ∀ s, InvCanon C s.cache → canonHist C s ops = true → InvCanon C (run C s ops).1.cache := by
  induction ops with
  | nil => intro s h _; exact h
  | cons op ops ih =>
    intro s h hg
    simp only [canonHist, Bool.and_eq_true] at hg
    refine ih _ ?_ hg.2
    apply step_pres C (fun e => kindOf e.coding = .cached ∧ C.enc e.coding e.errors e.decoded = .ok e.encoded) s op h
    · intro n e x d hn hdec hk
      refine ⟨hk, ?_⟩
      simpa [canonOp, hn, hk, hdec] using hg.1
    · intro n e d x _ henc hk
      exact ⟨hk, henc⟩

theorem InvCanon.nonCanonicalHit (hr : InvCanon C c) (d n e : Bytes) :
    nonCanonicalHit C c d n e = false := by
  unfold C31.nonCanonicalHit
  cases hh : encHit c d n e with
  | none => rfl
  | some x =>
    obtain ⟨_, henc⟩ := hr _ (encHit_some hh)
    simp [henc]

theorem step_msg_of_not_writes (C : Codecs) (s : State) (op : Op) (j : Bool) (h : op.writes j = false) :
    (step C s op).1.msg j = s.msg j := by
  cases op with
  | dec x c e => rfl
  | enc d c e => rfl
  | getContent i st => rfl
  | _ =>
    rename_i i _
    exact setMsg_msg_ne _ _ (ne_of_beq_false h)

theorem run_frame (C : Codecs) (j : Bool) (tail : List Op) :
    ∀ s, (∀ o ∈ tail, o.writes j = false) → (run C s tail).1.msg j = s.msg j := by
  induction tail with
  | nil => intro s _; rfl
  | cons o tail ih =>
    intro s h
    rw [run_cons_fst, ih _ (fun o' ho' => h o' (List.mem_cons_of_mem _ ho')),
      step_msg_of_not_writes C s o j (h o List.mem_cons_self)]

/-- an op that does not write message `j`, or that only sets its trailers / version, leaves raw body,
    Content-Encoding, Transfer-Encoding and Content-Length of message `j` alone -/
theorem body_frame (C : Codecs) (s : State) (op : Op) (j : Bool)
    (h : op.writes j = false ∨ op.setsMeta j = true) : ((step C s op).1.msg j).core = (s.msg j).core := by
  rcases h with h | h
  · rw [step_msg_of_not_writes C s op j h]
  · cases op with
    | setTr i t =>
      cases (show i = j by simpa [Op.setsMeta] using h)
      show ((s.setMsg _ { s.msg _ with tr := t }).msg _).core = _
      rw [setMsg_msg]
      rfl
    | setVer i w =>
      cases (show i = j by simpa [Op.setsMeta] using h)
      show ((s.setMsg _ { s.msg _ with ver := w }).msg _).core = _
      rw [setMsg_msg]
      rfl
    | _ => cases h

theorem run_body_frame (C : Codecs) (j : Bool) (tail : List Op) :
    ∀ s, (∀ o ∈ tail, o.writes j = false ∨ o.setsMeta j = true) → ((run C s tail).1.msg j).core = (s.msg j).core := by
  induction tail with
  | nil => intro s _; rfl
  | cons o tail ih =>
    intro s h
    rw [run_cons_fst, ih _ (fun o' ho' => h o' (List.mem_cons_of_mem _ ho')), body_frame C s o j (h o List.mem_cons_self)]

theorem need_core (s : State) (op : Op) : need s.core op = need s op := by
  cases op with
  | setContent i v => cases i <;> cases v <;> rfl
  | getContent i st => cases i <;> rfl
  | mdecode i st => cases i <;> rfl
  | mencode i cd => cases i <;> rfl
  | _ => rfl

theorem raw_after_set (hi : Inv C s.cache) (i : Bool) (v : Bytes)
    (hk : kindOf (effName (s.msg i).ce) = .cached) :
    ∃ x, ((step C s (.setContent i (some v))).1.msg i).raw = some x ∧
      C.dec (effName (s.msg i).ce) strictB x = .ok v ∧
      (encHit s.cache v (effName (s.msg i).ce) strictB = some x ∨
        (encHit s.cache v (effName (s.msg i).ce) strictB = none ∧ C.enc (effName (s.msg i).ce) strictB v = .ok x)) := by
  obtain ⟨x, c', hs, h1, h3⟩ :=
    setContent_cached hi (s.msg i) v _ hk (freshFor_freshOf C s (.setContent i (some v)))
  refine ⟨x, ?_, h1, h3⟩
  rw [step_set, setMsg_msg, hs, fixLen_raw]

theorem okName_after_set (C : Codecs) (s : State) (i : Bool) (v : Bytes) (hok : OkName (effName (s.msg i).ce)) :
    OkName (effName ((step C s (.setContent i (some v))).1.msg i).ce) := by
  rw [step_set, setMsg_msg]
  rcases setContent_ce s.cache (s.msg i) v (freshOf C s (.setContent i (some v))) with h | h <;> rw [h]
  · exact hok
  · exact Or.inl kind_effName_none

/-- the call `Message.decode` names is that of its `get_content`, when it makes one -/
theorem freshFor_mdecode (C : Codecs) (s : State) (i st : Bool) {raw : Bytes} (hr : (s.msg i).raw = some raw)
    (he : raw ≠ []) : FreshFor C (needGet (s.msg i)) (freshOf C s (.mdecode i st)) := by
  have := freshFor_freshOf C s (.mdecode i st)
  simp only [need, hr] at this
  rwa [if_neg (by rw [List.isEmpty_iff]; exact he)] at this

theorem mdecode_spec (hi : Inv C s.cache) (i st : Bool) (v : Bytes)
    (hhdr : OkName (effName (s.msg i).ce)) (hget : (step C s (.getContent i true)).2 = .ok v) :
    (step C s (.mdecode i st)).2 = .done ∧ ((step C s (.mdecode i st)).1.msg i).raw = some v := by
  rw [step_get, getContent_res hi _ _ _ (freshFor_freshOf C s (.getContent i true))] at hget
  rw [step_mdecode, setMsg_msg]
  exact msgDecode_spec hi (s.msg i) st _ v hhdr (fun raw hr he => freshFor_mdecode C s i st hr he) hget

theorem freshFor_mencode (C : Codecs) (s : State) (i : Bool) (cd : Bytes) {v : Bytes} (hr : (s.msg i).raw = some v) :
    FreshFor C (needEnc (ceOrIdentity (some cd)) strictB v) (freshOf C s (.mencode i cd)) := by
  have := freshFor_freshOf C s (.mencode i cd)
  simpa only [need, hr] using this

/-- `msgEncode_spec` on the state -/
theorem mencode_spec (hi : Inv C s.cache) (i : Bool) (cd v : Bytes)
    (hr : (s.msg i).raw = some v) (hcd : OkName (effName (some cd))) :
    (kindOf (effName (some cd)) = .unknown → (step C s (.mencode i cd)).2 = .verr) ∧
    (kindOf (effName (some cd)) ≠ .unknown → (step C s (.mencode i cd)).2 = .done) ∧
    (∀ st, contentOf C ((step C s (.mencode i cd)).1.msg i) st = .ok v) := by
  obtain ⟨hg, hu, hd⟩ := msgEncode_spec hi (s.msg i) v cd _ hr hcd (freshFor_mencode C s i cd hr)
  rw [step_mencode, setMsg_msg]
  exact ⟨hu, hd, hg⟩

/-- … under a compressed coding the stored body decodes (uncached) to `v` and the header names `cd` -/
theorem mencode_cached (hi : Inv C s.cache) (i : Bool) (cd v : Bytes)
    (hr : (s.msg i).raw = some v) (hk : kindOf (effName (some cd)) = .cached) :
    ∃ x, ((step C s (.mencode i cd)).1.msg i).raw = some x ∧
      ((step C s (.mencode i cd)).1.msg i).ce = some cd ∧ C.dec (effName (some cd)) strictB x = .ok v := by
  obtain ⟨x, c', hs, hd, _⟩ :=
    setContent_cached hi { s.msg i with raw := some v, ce := some cd } v _ hk (freshFor_mencode C s i cd hr)
  refine ⟨x, ?_, ?_, hd⟩
  · rw [step_mencode, setMsg_msg, msgEncode_snd, hr, hs, fixLen_raw]
  · rw [step_mencode, setMsg_msg, msgEncode_snd, hr, hs, fixLen_ce]

/-- a content assignment that ran to completion: Content-Length follows the raw body unless Transfer-Encoding is present;
    Transfer-Encoding, trailers and version are left alone (each of the three ops ends in a `set_content` on the message
    with at most its raw body and Content-Encoding replaced) -/
theorem assign_len (C : Codecs) (s : State) (i : Bool) (op : Op) (h : completesAssign C s i op) :
    ((s.msg i).te = false → ∃ raw, ((step C s op).1.msg i).raw = some raw ∧
        ((step C s op).1.msg i).cl = some raw.length) ∧
    ((s.msg i).te = true → ((step C s op).1.msg i).cl = (s.msg i).cl) ∧
    ((step C s op).1.msg i).te = (s.msg i).te ∧ ((step C s op).1.msg i).tr = (s.msg i).tr ∧
    ((step C s op).1.msg i).ver = (s.msg i).ver := by
  cases op with
  | setContent j v =>
    cases v with
    | none => exact h.elim
    | some v =>
      obtain ⟨hj, hd⟩ := h
      subst hj
      rw [step_set] at hd ⊢
      rw [setMsg_msg]
      exact setContent_len _ _ _ _ hd
  | mdecode j st =>
    obtain ⟨hj, ⟨r, hr, he⟩, hd⟩ := h
    subst hj
    rw [step_mdecode] at hd ⊢
    rw [setMsg_msg]
    have hne : r ≠ [] := fun h => by rw [h] at he; cases he
    rcases getContent_shape s.cache (s.msg j) st (freshOf C s (.mdecode j st)) with ⟨d, hg⟩ | ⟨hn, _⟩
    · rw [msgDecode_ok hr hne (Prod.ext hg rfl)] at hd ⊢
      exact setContent_len _ { s.msg j with ce := none } _ _ hd
    · rw [msgDecode_err hr hne hn] at hd
      exact absurd hd (getContent_ne_done _ _ _ _)
  | mencode j cd =>
    obtain ⟨hj, ⟨r, hr⟩, hne⟩ := h
    subst hj
    rw [step_mencode] at hne ⊢
    rw [setMsg_msg]
    rw [msgEncode_fst] at hne
    rw [msgEncode_snd, hr]
    rw [hr] at hne
    rcases setContent_res_cases s.cache { s.msg j with raw := some r, ce := some cd } r (freshOf C s (.mencode j cd))
      with hd | ht
    · exact setContent_len _ { s.msg j with raw := some r, ce := some cd } _ _ hd
    · rw [ht] at hne
      simp at hne
  | _ => exact h.elim

end MitmVerif.C31
