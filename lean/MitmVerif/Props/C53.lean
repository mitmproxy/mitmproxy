/-
  C53 — client replay runs queued flows sequentially and cleans up.
  Theorems about the model `MitmVerif.C53` (Model/C53.lean) for EVERY history of replay submissions,
  stop commands, user edits, playback-loop steps and replay completions (`Reach attrs fs s`: `s` is
  reached from the idle addon holding flows `attrs`/`fs` by some list of operations).
  "every replayed flow ends with a response or an error" is a liveness claim.  What is PROVED, about the model and
  under an explicit fairness hypothesis (the history continues with playback-loop / server operations until no
  terminal event is enabled): a variant decreases on every such operation (`replay_variant_decreases`,
  `replay_run_bounded`), a terminal event is always enabled while a flow is queued or awaited
  (`terminal_event_enabled`), a completing continuation EXISTS and is short (`fair_completion_exists`), and at an idle
  end every started replay has its `fin` (`every_replay_completes`, `all_started_replays_complete` — by
  `terminal_event_enabled` their hypothesis says "the end state is quiescent", and their conclusion is the log
  invariant read there).  `quiescent` and `log`, and with them `terminal_event_enabled`, `fair_completion_exists` and
  `every_replay_completes`, look at the queue and at the replay the loop AWAITS (dispatched with the option at 1)
  only: a state with background replays still running is quiescent (the variant does count them).
  Background replays are covered by `glog` and `all_started_replays_complete`, whose hypothesis also asks that no
  `bfinish` is enabled; that such an end can be reached is shown by an `example`, not by a theorem.  What is NOT
  proved: that the real ReplayHandler turns every server outcome into a response/error hook — that is explored by the
  harness (winddown of every script, oracle clauses), see level_note.

  Tie conditions.  Some theorems carry a hypothesis their proof does not use (`_hnot : stopBlocked s = false`,
  `_hloop : ∀ o ∈ os, isLoopOp o = true`).  They are not what makes the statement true — it holds for the model
  function in every state — but what makes it a statement about mitmproxy: in a blocked state `step s .stop = none`,
  the driver never runs `stopReplay` there and the real code is outside the model (F-C53b/c); and only for histories
  of loop/server operations is "the end state enables no terminal event" the fairness hypothesis meant here.

  "Unreplayable" in `unreplayable_never_queued` is read at the time of queueing (`check` is evaluated by
  `start_replay`): a flow already queued can become live later (a replay of it starts) and stay in the queue.
-/
import MitmVerif.Lemmas.C53
namespace MitmVerif.Props.C53
open MitmVerif.C53

/-- with client_replay_concurrency = 1 replays never overlap: read oldest-first, the log is a sequence of
    `start t, [sent t], fin t` groups — a request is sent only by the one replay that is running, and
    the next replay starts only after `fin` of the previous one.  (`log` records the replays dispatched with the
    option at 1; for histories that switch the option see `sequential_while_option_is_one`.) -/
theorem sequential {attrs : List Attr} {fs : List FState} {s : St} (h : Reach attrs fs s) :
    logStatus s.log = some (statusOf s.inflight) :=
  (Reach.inv h).seq

/-- flows are replayed in queue order: the tickets (order of `put_nowait`) of the replays started so far
    are strictly increasing in time, every ticket still queued is larger than every ticket started, and
    the queue itself is in ticket order. -/
theorem queue_order {attrs : List Attr} {fs : List FState} {s : St} (h : Reach attrs fs s) :
    (startTickets s.log).Pairwise (· > ·) ∧
    (∀ t ∈ startTickets s.log, ∀ e ∈ s.queue, t < e.ticket) ∧
    (s.queue.map (·.ticket)).Pairwise (· < ·) :=
  ⟨(Reach.inv h).ord.order, (Reach.inv h).ord.ahead, (Reach.inv h).ord.sorted⟩

/-- flows that cannot be replayed (live, intercepted, non-HTTP, missing request or content, WebSocket)
    are never in the queue. -/
theorem unreplayable_never_queued {attrs : List Attr} {fs : List FState} {s : St} (h : Reach attrs fs s) :
    ∀ e ∈ s.queue, ∃ a, s.attrs[e.idx]? = some a ∧ replayable a = true :=
  fun e he => ((Reach.inv h).queue e he).repl

/-- the full statement: stopping replay restores every still-queued flow (its earliest queued occurrence)
    to the state it had right before start_replay prepared it -/
def StopRestoresQueued (s : St) : Prop :=
  ∀ e ∈ s.queue, s.queue.find? (·.idx == e.idx) = some e →
    ((stopReplay s).fs[e.idx]?).map (·.cur) = some e.pre

/-- proved part: every queued flow that had no older backup when start_replay prepared it (`fresh`) is
    restored to its pre-replay state.  What is excluded is exactly `Flow.backup()` finding an older backup
    (a user edit, or an earlier replay that finished): known finding F-C53a — and stop while a still-queued
    flow also has a replay running whose request is out (`stopBlocked`, known findings F-C53b / F-C53c), where the
    code is outside the model. -/
theorem stop_restores_queued_partial {attrs : List Attr} {fs : List FState} {s : St} (h : Reach attrs fs s)
    (_hnot : stopBlocked s = false)   -- tie condition (unused in the proof): only then does `step s .stop` run `stopReplay`
    :
    ∀ e ∈ s.queue, e.fresh = true → ((stopReplay s).fs[e.idx]?).map (·.cur) = some e.pre := by
  intro e he hf
  rw [(Reach.inv h).queue.stop_restores he, ((Reach.inv h).queue e he).fresh hf]

/-- full strength, no guard on the flow: stopping replay sets EVERY still-queued flow to the backup it has carried
    since it was queued (`bk`) — its pre-replay state if it had no backup then (`fresh_backup_is_pre`), the older
    backup otherwise.  This is exactly what the code does, F-C53a included: the model predicts the wrong outcome. -/
theorem stop_restores_backup {attrs : List Attr} {fs : List FState} {s : St} (h : Reach attrs fs s)
    (_hnot : stopBlocked s = false)   -- tie condition (unused in the proof): only then does `step s .stop` run `stopReplay`
    :
    ∀ e ∈ s.queue, ((stopReplay s).fs[e.idx]?).map (·.cur) = some e.bk :=
  fun _ he => (Reach.inv h).queue.stop_restores he

/-- the backup recorded for an entry whose flow had none is that flow's pre-replay state -/
theorem fresh_backup_is_pre {attrs : List Attr} {fs : List FState} {s : St} (h : Reach attrs fs s) :
    ∀ e ∈ s.queue, e.fresh = true → e.bk = e.pre :=
  fun e he => ((Reach.inv h).queue e he).fresh

/-- hence a queued flow is restored to its pre-replay state exactly when the backup it carries is that state -/
theorem stop_restores_pre_iff {attrs : List Attr} {fs : List FState} {s : St} (h : Reach attrs fs s)
    (hnot : stopBlocked s = false) :
    ∀ e ∈ s.queue, (((stopReplay s).fs[e.idx]?).map (·.cur) = some e.pre ↔ e.bk = e.pre) := by
  intro e he
  rw [stop_restores_backup h hnot e he]
  exact ⟨Option.some.inj, congrArg some⟩

def okAttr : Attr := { live := false, intercepted := false, isHttp := true, hasReq := true, hasContent := true, ws := false }
def cur0 : Cur := { resp := true, err := false, marked := false, ver := 0 }

/-- F-C53a: an edited flow (it has a backup) is queued, replay is stopped: the flow is reverted to the state
    before the *edit*, not to its pre-replay state -/
theorem stop_restores_queued_counterexample :
    ∃ s, Reach [okAttr] [{ cur := cur0, backup := none }] s ∧ ¬ StopRestoresQueued s := by
  refine ⟨_, ⟨[.edit 0, .start [0]], rfl⟩, ?_⟩
  intro h
  have := h { ticket := 0, idx := 0, fresh := false, pre := { cur0 with ver := 1 }, bk := cur0 } (by decide) (by decide)
  revert this
  decide

/-- F-C53b/c is reachable in the model's terms: the same flow submitted twice, the first occurrence taken and its
    request out (server connection open) -/
theorem stop_blocked_reachable :
    ∃ s, Reach [okAttr] [{ cur := cur0, backup := none }] s ∧ stopBlocked s = true ∧ step s .stop = none :=
  ⟨_, ⟨[.start [0, 0], .take, .send], rfl⟩, by decide⟩

/- Liveness.  The server side is the environment.  The fairness hypothesis is stated explicitly: the history continues
   with playback-loop / server operations only (`isLoopOp`: take, send, finish, bsend, bfinish — no new submissions,
   stops, edits or option changes) until no terminal event is enabled any more, i.e. the loop has taken what it can
   take and the server has answered, refused or dropped everything pending. -/

/-- variant: every playback-loop / server operation strictly decreases `variant` (3 per queued flow, 2 for a
    taken replay, 1 for a replay whose request is out) -/
theorem replay_variant_decreases {s s' : St} {o : Op} (ho : isLoopOp o = true) (h : step s o = some s') :
    variant s' < variant s := by
  have := variant_step ho h; omega

/-- hence no history of loop/server operations is longer than the variant: the loop cannot run forever
    without new submissions -/
theorem replay_run_bounded {s s' : St} {os : List Op} (hloop : ∀ o ∈ os, isLoopOp o = true)
    (hrun : run s os = some s') : os.length + variant s' ≤ variant s :=
  variant_run os s s' hloop hrun

/-- progress: while a flow is queued or in flight, a terminal event is enabled — the loop can take the next
    flow, or the replay in flight can be completed by a response as well as by an error -/
theorem terminal_event_enabled (s : St) (h : quiescent s = false) :
    (∃ s', step s .take = some s') ∨ (∀ r, ∃ s', step s (.finish r) = some s') :=
  progress s h

/-- completing a replay leaves the flow with a response or an error -/
theorem finish_sets_outcome {s s' : St} {r : Bool} {e : Entry} {ph : Phase} {f : FState}
    (h : step s (.finish r) = some s') (hinf : s.inflight = some (e, ph)) (hf : s.fs[e.idx]? = some f) :
    ∃ f', s'.fs[e.idx]? = some f' ∧ (f'.cur.resp = true ∨ f'.cur.err = true) := by
  obtain ⟨e', ph', hinf', rfl⟩ := step_finish h
  cases hinf.symm.trans hinf'
  exact ⟨_, finishFlow_self r hf, by cases r <;> simp⟩

/-- liveness under fairness: from any reachable state, if the history continues with loop/server operations
    only and ends where no terminal event is enabled (the server has answered or refused everything pending
    and the loop has taken everything), then nothing is queued or awaited and every replay the loop has awaited
    (`log`: those dispatched with the option at 1) has finished (`fin`: its response/error hook completed).
    Replays dispatched as background tasks may still be running there: `all_started_replays_complete`. -/
theorem every_replay_completes {attrs : List Attr} {fs : List FState} {s s' : St} {os : List Op}
    (h : Reach attrs fs s) (_hloop : ∀ o ∈ os, isLoopOp o = true) (hrun : run s os = some s')
    (hfair : step s' .take = none ∧ ∀ r, step s' (.finish r) = none) :
    s'.inflight = none ∧ s'.queue = [] ∧ ∀ t ∈ startTickets s'.log, t ∈ finTickets s'.log :=
  (Reach.extend h hrun).quiescent_closed (quiescent_of_stuck hfair.1 hfair.2)

/-- and such a fair completion always exists and is short: at most `variant s` loop/server operations (`take` and
    `finish true` only, see `drain_exists`; replays it dispatches with the option at -1 are left running) -/
theorem fair_completion_exists {attrs : List Attr} {fs : List FState} {s : St} (h : Reach attrs fs s) :
    ∃ os s', (∀ o ∈ os, isLoopOp o = true) ∧ os.length ≤ variant s ∧ run s os = some s' ∧
      s'.inflight = none ∧ s'.queue = [] ∧ ∀ t ∈ startTickets s'.log, t ∈ finTickets s'.log := by
  obtain ⟨os, s', hl, hlen, hrun, hq⟩ := drain_exists s
  exact ⟨os, s', hl, hlen, hrun, (Reach.extend h hrun).quiescent_closed hq⟩

/-- the fairness hypothesis is satisfiable and the conclusion not vacuous: two queued flows, the server answers
    one and refuses the other — both replays are started and finished -/
example : ∃ s', run (startReplay (init [okAttr, okAttr] [{ cur := cur0, backup := none }, { cur := cur0, backup := none }]) [0, 1])
      [.take, .send, .finish true, .take, .finish false] = some s' ∧
    step s' .take = none ∧ startTickets s'.log = [1, 0] ∧ finTickets s'.log = [1, 0] :=
  ⟨_, rfl, by decide⟩

/-- without fairness nothing is promised: a replay whose server never answers stays in flight -/
example : ∃ s', run (init [okAttr] [{ cur := cur0, backup := none }]) [.start [0], .take, .send] = some s' ∧
    s'.inflight.isSome = true ∧ finTickets s'.log = [] :=
  ⟨_, rfl, by decide⟩

/-- `take` decides with the option value it finds when the flow has been dequeued: with the option at 1 the loop
    awaits the replay (it becomes `inflight`, nothing joins the background set), with -1 the replay joins the
    background set and the loop stays free -/
theorem dispatch_reads_option_at_take {s s' : St} (h : step s .take = some s') :
    (s.seq = true → s'.inflight.isSome = true ∧ s'.bg = s.bg) ∧
    (s.seq = false → s'.inflight = none ∧ s'.bg.length = s.bg.length + 1) := by
  obtain ⟨e, rest, hinf, _, ⟨hs, rfl⟩ | ⟨hs, rfl⟩⟩ := step_take h
  · exact ⟨fun _ => ⟨rfl, rfl⟩, fun h' => by simp [hs] at h'⟩
  · exact ⟨fun h' => by simp [hs] at h', fun _ => ⟨hinf, by simp⟩⟩

/-- whatever the option did before and does afterwards (`setopt` at idle or busy moments): read oldest-first, the
    global log never shows a replay being started while a replay that was started with the option at 1 has not
    finished; the status is the ticket of the replay the loop is awaiting -/
theorem sequential_while_option_is_one {attrs : List Attr} {fs : List FState} {s : St} (h : Reach attrs fs s) :
    seqStatus s.glog = some (openTicket s) :=
  (Reach.inv h).gseq

/-- in particular no `take` is possible while a replay started with the option at 1 is running -/
theorem no_dispatch_while_awaiting {s : St} (h : s.inflight.isSome = true) : step s .take = none := by
  cases hinf : s.inflight with
  | none => simp [hinf] at h
  | some p => simp [step, hinf]

/-- every replay ever started, in either mode, has finished, is awaited by the loop, or runs in the background -/
theorem started_replays_accounted {attrs : List Attr} {fs : List FState} {s : St} (h : Reach attrs fs s) :
    ∀ t ∈ gstartTickets s.glog, t ∈ gfinTickets s.glog ∨ openTicket s = some t ∨ t ∈ s.bg.map (·.1.ticket) :=
  (Reach.inv h).gclosed

/-- liveness for both modes under fairness: if the history continues with loop/server operations only and ends
    where no terminal event is enabled — nothing to take, nothing awaited, no background replay left to
    complete — then every replay ever started (awaited or background) has finished -/
theorem all_started_replays_complete {attrs : List Attr} {fs : List FState} {s s' : St} {os : List Op}
    (h : Reach attrs fs s) (_hloop : ∀ o ∈ os, isLoopOp o = true) (hrun : run s os = some s')
    (hfair : step s' .take = none ∧ (∀ r, step s' (.finish r) = none) ∧ ∀ t r, step s' (.bfinish t r) = none) :
    s'.inflight = none ∧ s'.queue = [] ∧ s'.bg = [] ∧ ∀ t ∈ gstartTickets s'.glog, t ∈ gfinTickets s'.glog := by
  obtain ⟨h1, h2, _⟩ := every_replay_completes h _hloop hrun ⟨hfair.1, hfair.2.1⟩
  have hbg : s'.bg = [] := by
    cases hb : s'.bg with
    | nil => rfl
    | cons p ps =>
      have := hfair.2.2 p.1.ticket true
      simp [step, hb] at this
  exact ⟨h1, h2, hbg, fun t ht =>
    ((Reach.inv (Reach.extend h hrun)).gclosed t ht).resolve_right (by simp [openTicket, h1, hbg])⟩

/-- the option switched from -1 to 1 while the loop is idle, then two flows queued: the first is dispatched with
    the option value current at dispatch (1): it is awaited, and the second cannot be taken before it finishes -/
example : ∃ s, run (init [okAttr, okAttr] [{ cur := cur0, backup := none }, { cur := cur0, backup := none }])
      [.setopt false, .setopt true, .start [0, 1], .take] = some s ∧
    s.inflight.isSome = true ∧ s.bg = [] ∧ step s .take = none :=
  ⟨_, rfl, by decide⟩

/-- with the option at -1 both are dispatched at once and run in the background; switching to 1 afterwards does
    not stop them, but the next flow is awaited -/
example : ∃ s, run (init [okAttr, okAttr, okAttr]
        [{ cur := cur0, backup := none }, { cur := cur0, backup := none }, { cur := cur0, backup := none }])
      [.setopt false, .start [0, 1], .take, .take, .setopt true, .start [2], .take, .bsend 0, .bfinish 1 false] = some s ∧
    s.bg.map (·.1.ticket) = [0] ∧ openTicket s = some 2 ∧ seqStatus s.glog = some (some 2) :=
  ⟨_, rfl, by decide⟩

/-- two flows replayed one after the other, the first answered, the second failing before it is sent -/
example : ∃ s, Reach [okAttr, okAttr] [{ cur := cur0, backup := none }, { cur := cur0, backup := none }] s ∧
    s.log = [.fin 1, .start 1, .fin 0, .sent 0, .start 0] ∧ s.queue = [] :=
  ⟨_, ⟨[.start [0, 1], .take, .send, .finish true, .take, .finish false], rfl⟩, by decide⟩

/-- the model refuses overlapping replays and sends without a running replay -/
example : run (init [okAttr, okAttr] [{ cur := cur0, backup := none }, { cur := cur0, backup := none }])
    [.start [0, 1], .take, .take] = none := by decide +kernel
example : run (init [okAttr] [{ cur := cur0, backup := none }]) [.start [0], .send] = none := by decide +kernel

/-- check refuses: a live flow is not queued -/
example : (startReplay (init [{ okAttr with live := true }] [{ cur := cur0, backup := none }]) [0]).queue = [] := by
  decide +kernel

/-- the guard of the partial theorem is satisfiable: a fresh queued flow is restored -/
example : ∃ s, Reach [okAttr] [{ cur := cur0, backup := none }] s ∧
    stopBlocked s = false ∧ (∃ e ∈ s.queue, e.fresh = true) ∧ (stopReplay s).fs = [{ cur := cur0, backup := none }] :=
  ⟨_, ⟨[.start [0]], rfl⟩, by decide⟩

private def f0 : FState := { cur := cur0, backup := none }

/-- `queue_order` on a state where all three conjuncts speak about something: two replays started (tickets 1, 0), one
    flow still queued (ticket 2) -/
example : ∃ s, Reach [okAttr, okAttr, okAttr] [f0, f0, f0] s ∧ startTickets s.log = [1, 0] ∧
    s.queue.map (·.ticket) = [2] ∧ s.inflight.isSome = true :=
  ⟨_, ⟨[.start [0, 1, 2], .take, .send, .finish true, .take], rfl⟩, by decide⟩

/-- `unreplayable_never_queued`: a WebSocket flow, an intercepted flow and a flow without content submitted together
    with a replayable one — only the replayable one is queued -/
example : ∃ s, Reach [okAttr, { okAttr with ws := true }, { okAttr with intercepted := true }, { okAttr with hasContent := false }]
      [f0, f0, f0, f0] s ∧ s.queue.map (·.idx) = [0] :=
  ⟨_, ⟨[.start [1, 0, 2, 3]], rfl⟩, by decide⟩

/-- `stop_restores_backup` / `stop_restores_pre_iff` on a NON-fresh entry (the F-C53a situation) with the guard
    `stopBlocked = false`: the flow is set to the backup it carried (`bk = cur0`), which is not its pre-replay state -/
example : ∃ s, Reach [okAttr] [f0] s ∧ stopBlocked s = false ∧
    s.queue.map (fun e => (e.fresh, e.bk, e.pre)) = [(false, cur0, { cur0 with ver := 1 })] ∧
    (stopReplay s).fs.map (·.cur) = [cur0] :=
  ⟨_, ⟨[.edit 0, .start [0]], rfl⟩, by decide⟩

/-- the same flow queued twice, first occurrence taken but its request not yet out: stop is NOT blocked (the guard of the
    stop theorems holds while a queued flow is also in flight) and the flow is reverted -/
example : ∃ s, Reach [okAttr] [f0] s ∧ stopBlocked s = false ∧ s.inflight.isSome = true ∧ s.queue.map (·.idx) = [0] ∧
    (stopReplay s).fs.map (·.cur) = [cur0] :=
  ⟨_, ⟨[.start [0, 0], .take], rfl⟩, by decide⟩

/-- `all_started_replays_complete`: its fairness hypothesis is satisfiable after background replays — nothing to take,
    nothing awaited, no background replay left — and both started replays have finished -/
example : ∃ s', run (init [okAttr, okAttr] [f0, f0]) [.setopt false, .start [0, 1], .take, .take, .bsend 1, .bfinish 0 true, .bfinish 1 false] = some s' ∧
    step s' .take = none ∧ (∀ r, step s' (.finish r) = none) ∧ (∀ t r, step s' (.bfinish t r) = none) ∧
    gstartTickets s'.glog = [1, 0] ∧ gfinTickets s'.glog = [1, 0] :=
  ⟨_, rfl, by decide, fun _ => rfl, fun _ _ => rfl, by decide, by decide⟩

/-- `finish_sets_outcome`: its hypotheses hold in a reachable state (a replay in flight on an existing flow) -/
example : ∃ s e ph f, Reach [okAttr] [f0] s ∧ s.inflight = some (e, ph) ∧ s.fs[e.idx]? = some f ∧
    (step s (.finish false)).isSome = true :=
  ⟨_, _, _, _, ⟨[.start [0], .take], rfl⟩, rfl, rfl, by decide⟩

end MitmVerif.Props.C53
