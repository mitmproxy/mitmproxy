/-
  C14 — property theorems.  Everything here is RELATIVE to `Laws K` (the stream-faithfulness law of the TLS engine,
  hypotheses as structure fields) and to the run-to-completion reading of `Layer.handle_event` (see Model/C14.lean); only
  the `_ref` theorems, about the reference codec whose `Laws` are proved (Lemmas/C14_RefL.lean), have no law hypothesis.

  First the theorems about ONE call from an arbitrary state (`receive_data`, `_handle_command`, `event_to_child` /
  `_handshake_finished`), read off `receiveData_spec` and `Out.outLoop`.  Then whole connections: `reach` puts the two
  history invariants of Lemmas/C14Hist.lean (`QueueInv_run`, `EngineInv_run`) on `run … (init K sd) evs`, and each
  whole-history theorem is a reading of `QueueInv ∧ EngineSync` there.  `crashed = false` is a hypothesis throughout:
  `EngineInv` says nothing after a crash.
-/
import MitmVerif.Model.C14
import MitmVerif.Lemmas.C14
import MitmVerif.Lemmas.C14Hist
import MitmVerif.Lemmas.C14_RefL
namespace MitmVerif.Props.C14
open MitmVerif MitmVerif.C14 MitmVerif.C14.Lemmas MitmVerif.C14.Hist

variable {K : Codec}

/-- **queued_during_handshake_in_order.**  While the tunnel is being established on an already open connection
    (ESTABLISHING, no `command_to_reply_to`) an event for the child is stored and the child sees nothing; when the
    handshake finishes, the stored events are handed to the child in arrival order, each exactly once, before anything
    else, and the store is empty afterwards. -/
theorem queued_during_handshake_in_order (child : Child) (s : St K) (he : s.errored = false) :
    (s.st = .establishing → s.replyTo = false → ∀ e,
        (eventToChild child s e).queue = s.queue ++ [e] ∧ (eventToChild child s e).toChild = s.toChild
        ∧ (eventToChild child s e).routed = s.routed ++ [e])
    ∧ (s.replyTo = false → ∀ err,
        (handshakeFinished child s err).toChild = s.toChild ++ s.queue ∧ (handshakeFinished child s err).queue = []) := by
  constructor
  · intro h1 h2 e
    rw [etc_store child s e he (by simp [queueing, isEst, h1, h2])]
    exact ⟨rfl, rfl, rfl⟩
  · intro h2 err
    rw [handshakeFinished_flush child s err h2]
    have := (foldl_etcCore_pass child s.queue (setSt s (if err then .closed else .open_))
      he (by cases err <;> simp [queueing, isEst, setSt])).toChild
    exact ⟨by simpa [clearQueue, setSt] using this, by simp [clearQueue]⟩

/-- **child_receives_exactly.**  One `receive_data` call on an open tunnel appends to what the child has seen exactly the
    plaintext `P` that the ciphertext received so far (`fed ++ d`, however it was segmented) newly decodes: a prefix of
    the not-yet-delivered plaintext, once and in order; and when the `recv` loop ends normally (WantRead or close_notify)
    nothing decodable is left behind. -/
theorem child_receives_exactly (L : Laws K) (child : Child) (s : St K) (c : K.σ) (d : Bytes)
    (htls : s.tls = some c) (hd : s.st = .establishing → s.replyTo = true) (he : s.errored = false) :
    ∃ P, plainOf (receiveData child s d).toChild = plainOf s.toChild ++ P
      ∧ (∃ rest, (L.dec (L.fed c ++ d)).1.drop (L.taken c) = P ++ rest)
      ∧ ((recvLoop K (K.inPending (feedIf c d) + 1) (feedIf c d) []).2.1 ≠ .err →
            L.taken c + P.length = (L.dec (L.fed c ++ d)).1.length) := by
  obtain ⟨P, e, he', h1, h2, hfuel, h3, h4⟩ := receiveData_spec L child s c d htls ((queueing_false_iff s).mpr hd) he
  refine ⟨P, by rw [h1, plainOf_append, plainOf_recvEvents], h2, ?_⟩
  rw [← he']
  intro hne
  cases e with
  | want => exact (h3 rfl).1
  | closed => exact (h4 rfl).1
  | err => exact absurd rfl hne
  | fuel => exact absurd rfl hfuel

/-- **close_after_data.**  A ConnectionClosed produced by `receive_data` comes from a close_notify (the session's reading
    of the inbound stream says "closed"), it is the last thing the child is given in that call — after the
    DataReceived of the same call — and at that moment every plaintext byte that precedes the close_notify has been
    delivered; without close_notify the call gives the child no ConnectionClosed. -/
theorem close_after_data (L : Laws K) (child : Child) (s : St K) (c : K.σ) (d : Bytes)
    (htls : s.tls = some c) (hd : s.st = .establishing → s.replyTo = true) (he : s.errored = false) :
    ∃ P, (∃ rest, (L.dec (L.fed c ++ d)).1.drop (L.taken c) = P ++ rest) ∧
      (((recvLoop K (K.inPending (feedIf c d) + 1) (feedIf c d) []).2.1 = .closed ∧
          (receiveData child s d).toChild = s.toChild ++ (if P.isEmpty then [] else [.data P]) ++ [.closed]
          ∧ (L.dec (L.fed c ++ d)).2 = true ∧ L.taken c + P.length = (L.dec (L.fed c ++ d)).1.length)
      ∨ ((recvLoop K (K.inPending (feedIf c d) + 1) (feedIf c d) []).2.1 ≠ .closed ∧
          (receiveData child s d).toChild = s.toChild ++ (if P.isEmpty then [] else [.data P]))) := by
  obtain ⟨P, e, he', h1, h2, _, _, h4⟩ := receiveData_spec L child s c d htls ((queueing_false_iff s).mpr hd) he
  refine ⟨P, h2, ?_⟩
  rw [← he']
  by_cases hc : e = .closed
  · left; subst hc
    exact ⟨rfl, by simpa [recvEvents] using h1, (h4 rfl).2, (h4 rfl).1⟩
  · right
    refine ⟨hc, ?_⟩
    have : (e == RecvEnd.closed) = false := by simpa using hc
    simpa [recvEvents, this] using h1

/-- **client_receives_exactly.**  After the child's SendData the ciphertext this layer has emitted so far is exactly what
    the TLS engine produced, and the peer's reading of it is exactly the payloads `sendall` accepted so far, in order
    (the invariants "emitted ciphertext = engine output" and "accepted = engine's plaintext" are kept, and after the
    call everything is flushed). -/
theorem client_receives_exactly (L : Laws K) (s : St K) (c : K.σ) (d : Bytes) (htls : s.tls = some c)
    (hup : cipherOf s.up = L.emitted c) (hacc : s.accepted = L.sent c) :
    ∃ c', (handleCmd s (.send d)).tls = some c'
      ∧ cipherOf (handleCmd s (.send d)).up = L.emitted c'
      ∧ (handleCmd s (.send d)).accepted = L.sent c'
      ∧ L.enc (cipherOf (handleCmd s (.send d)).up) = (handleCmd s (.send d)).accepted
      ∧ (handleCmd s (.send d)).accepted = s.accepted ++ (if (K.send c d).1 then d else []) := by
  obtain ⟨chunks, q, o⟩ := (Out.send (fl := false) ⟨hup.symm, hacc.symm, nofun⟩ d).outLoop
    (K.outPending (K.send c d).2 + 1) [] (by omega)
  refine ⟨(outLoop K (K.outPending (K.send c d).2 + 1) (K.send c d).2 []).2, ?_, ?_, ?_, ?_, ?_⟩
  all_goals simp only [handleCmd, htls, interact, emit]
  · rw [cipherOf_append, cipherOf_sends, q]; exact o.emitted.symm
  · exact o.sent.symm
  · rw [cipherOf_append, cipherOf_sends, q]; exact o.flushed rfl
  · cases (K.send c d).1 <;> simp

/-! ### whole connections: every event history from Start -/

/-- the state a layer object starts in -/
def init (K : Codec) (sd : Side) : St K := { side := sd }

private theorem reach (L : Laws K) (env : Env K) (child : Child) (hfresh : ∀ c, env.mkTls = some c → Fresh L c)
    (sd : Side) (evs : List Ev) (hc : (run env child (init K sd) evs).crashed = false) :
    QueueInv (run env child (init K sd) evs) ∧ EngineSync L (dataOf evs) [] (run env child (init K sd) evs) := by
  refine ⟨QueueInv_run env child evs _ (QueueInv_init sd), ?_⟩
  have := EngineInv_run env child hfresh evs (b := []) (s := init K sd) (Or.inr (EngineSync_init L sd))
  rcases this with h | h
  · rw [hc] at h; cases h
  · simpa using h

/-- **child_stream_exact.**  For every event history from Start (handshake flights cut anywhere, ClientHello buffering,
    events stored while ESTABLISHING, any interleaving of data, child commands, unrelated events and closes), any child
    and any lawful engine whose connection object starts fresh, as long as no exception was raised: the events passed to
    `event_to_child` are the events the child handled, then the stored ones (then, only after a failed client handshake, the
    swallowed ones) — nothing lost, nothing twice, in order; their DataReceived payloads concatenate to a prefix
    (`take (taken c)`) of the plaintext of ALL bytes received on the connection, so what the child has handled is a
    prefix of the peer's plaintext stream; and when nothing is stored or swallowed it is exactly that prefix. -/
theorem child_stream_exact (L : Laws K) (env : Env K) (child : Child) (hfresh : ∀ c, env.mkTls = some c → Fresh L c)
    (sd : Side) (evs : List Ev) (hc : (run env child (init K sd) evs).crashed = false) :
    let s := run env child (init K sd) evs
    (∃ t, s.routed = s.toChild ++ s.queue ++ t ∧ (s.errored = false → t = []))
    ∧ (queueing s = false → s.queue = [])
    ∧ (∃ n rest, plainOf s.toChild ++ rest = (L.dec (dataOf evs)).1.take n)
    ∧ (∀ c, s.tls = some c → L.fed c = dataOf evs ∧ plainOf s.routed = (L.dec (dataOf evs)).1.take (L.taken c))
    ∧ (∀ c, s.tls = some c → s.errored = false → queueing s = false →
          plainOf s.toChild = (L.dec (dataOf evs)).1.take (L.taken c)) := by
  obtain ⟨q, t⟩ := reach L env child hfresh sd evs hc
  obtain ⟨tl, htl, htl0⟩ := q.q1
  refine ⟨q.q1, q.q2, ?_, ?_, ?_⟩
  · cases hs : (run env child (init K sd) evs).tls with
    | none =>
      have := (t.tn hs).2.2.1
      simp only [htl, plainOf_append, List.append_eq_nil_iff] at this
      exact ⟨0, [], by simp [this.1.1.1]⟩
    | some c =>
      have := (t.ts c hs).1.take
      rw [htl, plainOf_append, plainOf_append] at this
      exact ⟨L.taken c, _, by simpa [List.append_assoc] using this⟩
  · intro c hs
    exact ⟨(t.ts c hs).1.fed, by simpa using (t.ts c hs).1.take⟩
  · intro c hs he hq
    have := (t.ts c hs).1.take
    rw [htl, htl0 he, q.q2 hq] at this
    simpa using this

/-- **child_stream_complete.**  On a connection whose history raised no exception, a DataReceived that reaches
    `receive_data` with nothing stored or swallowed and whose `recv` loop ends normally leaves the child with the COMPLETE
    plaintext of everything received on the connection so far (history ++ this segment): no byte is held back. -/
theorem child_stream_complete (L : Laws K) (env : Env K) (child : Child) (hfresh : ∀ c, env.mkTls = some c → Fresh L c)
    (sd : Side) (evs : List Ev) (hc : (run env child (init K sd) evs).crashed = false) (c : K.σ) (d : Bytes)
    (hs : (run env child (init K sd) evs).tls = some c) (he : (run env child (init K sd) evs).errored = false)
    (hq : queueing (run env child (init K sd) evs) = false)
    (hok : (recvLoop K (K.inPending (feedIf c d) + 1) (feedIf c d) []).2.1 ≠ .err) :
    plainOf (receiveData child (run env child (init K sd) evs) d).toChild = (L.dec (dataOf evs ++ d)).1 := by
  obtain ⟨q, t⟩ := reach L env child hfresh sd evs hc
  obtain ⟨tl, htl, htl0⟩ := q.q1
  obtain ⟨P, hp1, ⟨rest, hp2⟩, hp3⟩ := child_receives_exactly L child _ c d hs ((queueing_false_iff _).mp hq) he
  have i := (t.ts c hs).1
  -- the reading of everything received begins with what was routed; what is left of it is `P`, and nothing more
  obtain ⟨r0, hr0⟩ := (i.feed d).pre
  have hlen := hp3 hok
  rw [i.fed, hr0, i.taken, List.drop_left] at hp2
  rw [i.fed, hr0, i.taken, hp2] at hlen
  have hrest : rest = [] := by simpa using hlen
  rw [hp1, hr0, hp2, hrest, htl, htl0 he, q.q2 hq]
  simp

/-- **peer_stream_exact.**  For every event history from Start without an exception: the ciphertext this layer has
    emitted on the tunnel connection is exactly what the engine produced, and the peer's reading of it is exactly the
    concatenation of the child's SendData payloads that `sendall` accepted, in order (before a TLS object exists nothing
    is emitted and nothing accepted). -/
theorem peer_stream_exact (L : Laws K) (env : Env K) (child : Child) (hfresh : ∀ c, env.mkTls = some c → Fresh L c)
    (sd : Side) (evs : List Ev) (hc : (run env child (init K sd) evs).crashed = false) :
    let s := run env child (init K sd) evs
    L.enc (cipherOf s.up) = s.accepted
    ∧ (∀ c, s.tls = some c → cipherOf s.up = L.emitted c ∧ s.accepted = L.sent c) := by
  obtain ⟨_, t⟩ := reach L env child hfresh sd evs hc
  refine ⟨?_, ?_⟩
  · cases hs : (run env child (init K sd) evs).tls with
    | none =>
      obtain ⟨_, _, _, h5, h6⟩ := t.tn hs
      rw [h5, h6]; exact L.enc_nil
    | some c => exact (t.ts c hs).2.1.flushed rfl
  · intro c hs
    exact ⟨(t.ts c hs).2.1.emitted.symm, (t.ts c hs).2.1.sent.symm⟩

/-- **close_last.**  On a connection whose history raised no exception, when a segment makes the peer's close_notify
    visible (the `recv` loop ends with ZeroReturn) and nothing is stored or swallowed: the child is given, in this order,
    the remaining plaintext (at most one DataReceived) and then exactly one ConnectionClosed; at that moment it holds
    the COMPLETE plaintext of the whole connection, and the session's reading of the inbound stream says "closed". -/
theorem close_last (L : Laws K) (env : Env K) (child : Child) (hfresh : ∀ c, env.mkTls = some c → Fresh L c)
    (sd : Side) (evs : List Ev) (hc : (run env child (init K sd) evs).crashed = false) (c : K.σ) (d : Bytes)
    (hs : (run env child (init K sd) evs).tls = some c) (he : (run env child (init K sd) evs).errored = false)
    (hq : queueing (run env child (init K sd) evs) = false)
    (hcl : (recvLoop K (K.inPending (feedIf c d) + 1) (feedIf c d) []).2.1 = .closed) :
    let s := run env child (init K sd) evs
    ∃ P, (receiveData child s d).toChild = s.toChild ++ (if P.isEmpty then [] else [.data P]) ++ [.closed]
      ∧ plainOf (receiveData child s d).toChild = (L.dec (dataOf evs ++ d)).1
      ∧ (L.dec (dataOf evs ++ d)).2 = true := by
  have hdir := (queueing_false_iff _).mp hq
  obtain ⟨_, _, _, h4, _⟩ := child_stream_exact L env child hfresh sd evs hc
  have hfed := (h4 c hs).1
  obtain ⟨P, _, hcase⟩ := close_after_data L child _ c d hs hdir he
  have hcomp := child_stream_complete L env child hfresh sd evs hc c d hs he hq (by rw [hcl]; simp)
  rcases hcase with ⟨_, h2, h3, _⟩ | ⟨h1, _⟩
  · exact ⟨P, h2, hcomp, by rw [← hfed]; exact h3⟩
  · exact absurd hcl h1

private theorem run_snoc (env : Env K) (child : Child) (s : St K) (evs : List Ev) (e : Ev) :
    run env child s (evs ++ [e]) = handle env child (run env child s evs) e := by
  simp [run, List.foldl_append]

private theorem dataOf_snoc_data (evs : List Ev) (d : Bytes) : dataOf (evs ++ [.data d]) = dataOf evs ++ d := by
  simp [dataOf, dataOfEv]

private theorem handle_data_open (env : Env K) (child : Child) (s : St K) (d : Bytes) (h : s.st = .open_) :
    handle env child s (.data d) = receiveData child s d := by
  simp [handle, h]

/-- **child_stream_complete_run** — `child_stream_complete` as a statement about the history itself: if after `evs` the tunnel is OPEN
    (nothing swallowed, no exception) and the next event is a segment whose `recv` loop ends normally, then after `evs ++ [segment]`
    the child holds the COMPLETE plaintext of all bytes of the history. -/
theorem child_stream_complete_run (L : Laws K) (env : Env K) (child : Child) (hfresh : ∀ c, env.mkTls = some c → Fresh L c)
    (sd : Side) (evs : List Ev) (hc : (run env child (init K sd) evs).crashed = false) (c : K.σ) (d : Bytes)
    (hs : (run env child (init K sd) evs).tls = some c) (he : (run env child (init K sd) evs).errored = false)
    (hst : (run env child (init K sd) evs).st = .open_)
    (hok : (recvLoop K (K.inPending (feedIf c d) + 1) (feedIf c d) []).2.1 ≠ .err) :
    plainOf (run env child (init K sd) (evs ++ [.data d])).toChild = (L.dec (dataOf (evs ++ [.data d]))).1 := by
  have hq : queueing (run env child (init K sd) evs) = false := by simp [queueing, hst, isEst]
  rw [run_snoc, handle_data_open _ _ _ _ hst, dataOf_snoc_data]
  exact child_stream_complete L env child hfresh sd evs hc c d hs he hq hok

/-- **close_last_run** — `close_last` about the history itself: when the segment appended to a history that left the tunnel OPEN makes the
    close_notify visible, the history's child events end with (the rest of the data,) exactly one ConnectionClosed, and the child then
    holds the complete plaintext of the whole connection. -/
theorem close_last_run (L : Laws K) (env : Env K) (child : Child) (hfresh : ∀ c, env.mkTls = some c → Fresh L c)
    (sd : Side) (evs : List Ev) (hc : (run env child (init K sd) evs).crashed = false) (c : K.σ) (d : Bytes)
    (hs : (run env child (init K sd) evs).tls = some c) (he : (run env child (init K sd) evs).errored = false)
    (hst : (run env child (init K sd) evs).st = .open_)
    (hcl : (recvLoop K (K.inPending (feedIf c d) + 1) (feedIf c d) []).2.1 = .closed) :
    ∃ P, (run env child (init K sd) (evs ++ [.data d])).toChild
          = (run env child (init K sd) evs).toChild ++ (if P.isEmpty then [] else [.data P]) ++ [.closed]
      ∧ plainOf (run env child (init K sd) (evs ++ [.data d])).toChild = (L.dec (dataOf (evs ++ [.data d]))).1
      ∧ (L.dec (dataOf (evs ++ [.data d]))).2 = true := by
  have hq : queueing (run env child (init K sd) evs) = false := by simp [queueing, hst, isEst]
  rw [run_snoc, handle_data_open _ _ _ _ hst, dataOf_snoc_data]
  exact close_last L env child hfresh sd evs hc c d hs he hq hcl

/-- What the peer's TCP close does to an OPEN tunnel whose child does not react to ConnectionClosed (or which has already seen the
    close_notify): tunnel CLOSED, the TLS object, the emitted ciphertext and the accepted payloads untouched — exactly the state
    `send_after_half_close` starts from. -/
theorem half_close_keeps_engine (env : Env K) (child : Child) (s : St K) (c : K.σ)
    (hst : s.st = .open_) (htls : s.tls = some c) (he : s.errored = false)
    (hquiet : K.gotShutdown c = true ∨ child s.toChild .closed = []) :
    (handle env child s .closeEv).st = .closed ∧ (handle env child s .closeEv).tls = some c
    ∧ (handle env child s .closeEv).errored = false ∧ (handle env child s .closeEv).up = s.up
    ∧ (handle env child s .closeEv).accepted = s.accepted
    ∧ ((handle env child s .closeEv).toChild = s.toChild ∨ (handle env child s .closeEv).toChild = s.toChild ++ [.closed]) := by
  by_cases hg : K.gotShutdown c = true
  · simp [handle, hst, htls, hg, he]
  · have hch : child s.toChild .closed = [] := by
      rcases hquiet with h | h
      · exact absurd h hg
      · exact h
    have hq : queueing s = false := by simp [queueing, hst, isEst]
    simp only [handle, hst, htls, hg, Bool.false_eq_true, if_false, if_true]
    rw [etc_deliver child s .closed he hq hch]
    exact ⟨trivial, htls, he, rfl, rfl, Or.inr rfl⟩

/-- **send_after_half_close** (tunnel level).  The peer's TCP close puts the tunnel into CLOSED (first part) — and CLOSED
    does not stop the outbound direction: when the child then answers an event with SendData, `_handle_command` still hands
    the payload to the engine and forwards everything it produces; the peer's reading of the emitted ciphertext is the
    accepted payloads including this one (for whole histories this is `peer_stream_exact`, which quantifies over histories
    with closes anywhere). -/
theorem send_after_half_close (L : Laws K) (env : Env K) (child : Child) (s t : St K) (c : K.σ) (n : Nat) (d : Bytes)
    (hst : t.st = .closed) (he : t.errored = false) (htls : t.tls = some c)
    (hchild : child t.toChild (.other n) = [.send d])
    (hup : cipherOf t.up = L.emitted c) (hacc : t.accepted = L.sent c) :
    (handle env child s .closeEv).st = .closed
    ∧ (handle env child t (.other n)).accepted = t.accepted ++ (if (K.send c d).1 then d else [])
    ∧ L.enc (cipherOf (handle env child t (.other n)).up) = (handle env child t (.other n)).accepted := by
  refine ⟨by simp [handle], ?_⟩
  have hq : queueing t = false := by simp [queueing, hst, isEst]
  have hstep : handle env child t (.other n)
      = handleCmd ({ addRouted t (.other n) with toChild := t.toChild ++ [.other n] } : St K) (.send d) := by
    rw [handle, etc_deliver child t (.other n) he hq hchild]
    rfl
  rw [hstep]
  obtain ⟨c', _, _, _, h4, h5⟩ := client_receives_exactly L
    ({ addRouted t (.other n) with toChild := t.toChild ++ [.other n] } : St K) c d htls hup hacc
  exact ⟨h5, h4⟩

/-! ### the driver's framed reference codec is a lawful instance (Lemmas/C14_RefL.lean) -/

/-- the environment the driver runs the model in: the tls_start hook hands over a fresh reference-codec object -/
def refEnv (client : Bool) (parse : Bytes → Hello) (serverFirst : Bool) : Env RefL.refCodec :=
  { mkTls := some (RefL.refInit client), parse := parse, serverFirst := serverFirst }

private theorem refEnv_fresh (client : Bool) (parse : Bytes → Hello) (sf : Bool) :
    ∀ c, (refEnv client parse sf).mkTls = some c → Fresh RefL.refLaws c := by
  intro c hc
  simp only [refEnv] at hc
  injection hc with hc
  subst hc
  exact RefL.refInit_fresh client

/-- **ref_codec_lawful.**  The framed record codec the compiled driver uses in the differential run (records
    `[type][len][payload]`, handshake / application data / close_notify / ignorable, framed byte by byte, over the subtype of
    consistent states) satisfies the stream-faithfulness law, and the object handed over by the hook is fresh — so the
    engine with which the correspondence run exercises the layer model is a PROVED-lawful one (the pass-through engine
    below only shows the law satisfiable; it is never run against the code).  The `∃` hides which `dec` / `enc`: they are
    `RefL.dec` / `RefL.enc` of the definition `RefL.refLaws`, named in the two theorems that follow. -/
theorem ref_codec_lawful : ∃ L : Laws RefL.refCodec, ∀ client, Fresh L (RefL.refInit client) :=
  ⟨RefL.refLaws, fun client => RefL.refInit_fresh client⟩

/-- `child_stream_exact` for the reference codec: no law hypothesis, no freshness hypothesis left. -/
theorem child_stream_exact_ref (client : Bool) (parse : Bytes → Hello) (sf : Bool) (child : Child) (sd : Side) (evs : List Ev)
    (hc : (run (refEnv client parse sf) child (init RefL.refCodec sd) evs).crashed = false) :
    let s := run (refEnv client parse sf) child (init RefL.refCodec sd) evs
    (∃ t, s.routed = s.toChild ++ s.queue ++ t ∧ (s.errored = false → t = []))
    ∧ (∃ n rest, plainOf s.toChild ++ rest = (RefL.dec (dataOf evs)).1.take n)
    ∧ (∀ c, s.tls = some c → c.1.fed = dataOf evs ∧ plainOf s.routed = (RefL.dec (dataOf evs)).1.take c.1.m.plain.length) := by
  obtain ⟨h1, _, h3, h4, _⟩ := child_stream_exact RefL.refLaws (refEnv client parse sf) child (refEnv_fresh client parse sf) sd evs hc
  exact ⟨h1, h3, h4⟩

/-- `peer_stream_exact` for the reference codec: what the peer reads out of the emitted records (`RefL.enc`: the payloads of the
    application-data records) is exactly what `sendall` accepted, for every history. -/
theorem peer_stream_exact_ref (client : Bool) (parse : Bytes → Hello) (sf : Bool) (child : Child) (sd : Side) (evs : List Ev)
    (hc : (run (refEnv client parse sf) child (init RefL.refCodec sd) evs).crashed = false) :
    RefL.enc (cipherOf (run (refEnv client parse sf) child (init RefL.refCodec sd) evs).up)
      = (run (refEnv client parse sf) child (init RefL.refCodec sd) evs).accepted :=
  (peer_stream_exact RefL.refLaws (refEnv client parse sf) child (refEnv_fresh client parse sf) sd evs hc).1

/-! ### non-vacuity: the law is satisfiable (a pass-through engine), and the theorems apply to it -/

private structure IdS where
  fedB : Bytes := []
  takenN : Nat := 0
  sentB : Bytes := []
  emittedN : Nat := 0

private def idCodec : Codec where
  σ := IdS
  feed := fun s x => { s with fedB := s.fedB ++ x, takenN := min s.takenN s.fedB.length }
  recv := fun s => if s.fedB.length ≤ s.takenN then (.wantRead, s)
                   else (.data (s.fedB.drop s.takenN), { s with takenN := s.fedB.length })
  send := fun s d => (true, { s with sentB := s.sentB ++ d, emittedN := min s.emittedN s.sentB.length })
  out := fun s => if s.sentB.length ≤ s.emittedN then (none, s)
                  else (some (s.sentB.drop s.emittedN), { s with emittedN := s.sentB.length })
  handshake := fun s => (.done, s)
  gotShutdown := fun _ => false
  inPending := fun s => s.fedB.length - s.takenN
  outPending := fun s => s.sentB.length - s.emittedN

private def idLaws : Laws idCodec where
  fed := fun s => s.fedB
  taken := fun s => min s.takenN s.fedB.length
  sent := fun s => s.sentB
  emitted := fun s => s.sentB.take s.emittedN
  dec := fun b => (b, false)
  enc := fun b => b
  dec_mono := fun a b => ⟨b, rfl⟩
  enc_nil := rfl
  feed_fed := fun _ _ => rfl
  feed_taken := by intro s x; simp [idCodec]
  feed_out := fun _ _ => ⟨rfl, rfl⟩
  recv_in := by intro s; simp only [idCodec]; split <;> rfl
  recv_out := by intro s; simp only [idCodec]; split <;> exact ⟨rfl, rfl⟩
  recv_data := by
    intro s d h
    simp only [idCodec] at h ⊢
    split at h
    · cases h
    · rename_i hlt
      simp only [RecvRes.data.injEq] at h
      subst h
      simp only [hlt, if_false, List.length_drop]
      refine ⟨by omega, ⟨[], ?_⟩, by omega⟩
      have : min s.takenN s.fedB.length = s.takenN := by omega
      rw [this]; simp
  recv_nodata := by
    intro s h
    simp only [idCodec] at h ⊢
    split
    · rfl
    · rename_i hlt
      exact absurd (by simp [hlt]) (h (s.fedB.drop s.takenN))
  recv_want := by
    intro s h
    simp only [idCodec] at h ⊢
    split at h
    · rename_i hle; exact ⟨by omega, trivial⟩
    · cases h
  recv_zero := by
    intro s h
    simp only [idCodec] at h
    split at h <;> cases h
  send_in := fun _ _ => ⟨rfl, rfl⟩
  send_out := by
    intro s d
    simp only [idCodec, if_true]
    refine ⟨?_, trivial⟩
    rw [List.take_append_of_le_length (by omega)]
    by_cases h : s.emittedN ≤ s.sentB.length
    · have : min s.emittedN s.sentB.length = s.emittedN := by omega
      rw [this]
    · have : min s.emittedN s.sentB.length = s.sentB.length := by omega
      rw [this, List.take_length, List.take_of_length_le (by omega)]
  out_in := by intro s; simp only [idCodec]; split <;> exact ⟨rfl, rfl⟩
  out_some := by
    intro s c h
    simp only [idCodec] at h ⊢
    split at h
    · cases h
    · rename_i hlt
      simp only [Option.some.injEq] at h
      subst h
      simp only [hlt, if_false, List.take_length]
      exact ⟨(List.take_append_drop _ _).symm, trivial, by omega⟩
  out_none := by
    intro s h
    simp only [idCodec] at h ⊢
    split at h
    · rename_i hle
      simp only [hle, if_true]
      exact ⟨trivial, trivial, List.take_of_length_le hle⟩
    · cases h
  hs_in := fun _ => ⟨rfl, rfl⟩
  hs_out := fun _ => ⟨rfl, rfl⟩

/-- `child_receives_exactly` computed on an open server-side tunnel over the pass-through engine: the three bytes fed reach the child -/
example : ∃ P, plainOf (receiveData (K := idCodec) (fun _ _ => []) { side := .server, st := .open_, tls := some {} } [1, 2, 3]).toChild
    = plainOf [] ++ P ∧ P = [1, 2, 3] := by
  refine ⟨[1, 2, 3], ?_, rfl⟩
  decide

/-- the whole-history theorems are not vacuous: the pass-through engine's initial object is `Fresh`, so `child_stream_exact`,
    `peer_stream_exact`, … apply to every history of a layer whose tls_start hook hands it over -/
example : ∀ c, (({ mkTls := some {}, parse := fun _ => .complete, serverFirst := false } : Env idCodec).mkTls = some c) → Fresh idLaws c := by
  intro c hc
  injection hc with hc
  subst hc
  exact ⟨rfl, rfl, rfl, rfl⟩

example : (run (K := idCodec) { mkTls := some {}, parse := fun _ => .complete, serverFirst := false } (fun _ _ => []) (init idCodec .server)
    [.start true, .data [1, 2], .data [3]]).crashed = false := by decide

/-- the model is not constant: a handshake-phase event is stored, an open tunnel delivers -/
example : (eventToChild (K := idCodec) (fun _ _ => []) { side := .client, st := .establishing } (.other 7)).toChild = [] := by decide
example : (eventToChild (K := idCodec) (fun _ _ => []) { side := .client, st := .open_ } (.other 7)).toChild = [.other 7] := by decide

/-- W1: reference codec, server side on an open connection: handshake, data cut inside a record, close_notify -/
example :
    let s := run (refEnv true (fun _ => .complete) false) (fun _ _ => []) (init RefL.refCodec .server)
      [.start true, .data [0x16, 0, 1, 1], .data [0x17, 0, 2, 0x61], .data [0x62, 0x15, 0, 0]]
    s.crashed = false ∧ s.toChild = [.start, .data [0x61, 0x62], .closed] ∧ s.st = .open_ ∧ s.queue = [] := by
  decide +kernel

/-- W2: client side (ClientTLSLayer): ClientHello buffered, handshake, child answers an unrelated event with SendData -/
example :
    let s := run (refEnv false (fun b => if b.length < 4 then .incomplete else .complete) false)
      (fun _ e => match e with | .other 5 => [.send [1, 2, 3]] | _ => []) (init RefL.refCodec .client)
      [.start true, .data [0x16, 0], .other 9, .data [1, 1], .other 5, .data [0x17, 0, 1, 7]]
    s.crashed = false ∧ s.errored = false ∧ s.toChild = [.start, .other 9, .other 5, .data [7]]
      ∧ s.accepted = [1, 2, 3] ∧ RefL.enc (cipherOf s.up) = [1, 2, 3] := by
  decide +kernel

/-- W3: the hypotheses of `close_last` / `child_stream_complete` hold together on a reachable reference-codec state:
    after [Start, handshake-done record] the layer is OPEN, nothing stored or swallowed, not crashed, and the segment
    "application record ++ close_notify" makes the recv loop end with ZeroReturn (`.closed`) -/
example :
    let s := run (refEnv true (fun _ => .complete) false) (fun _ _ => []) (init RefL.refCodec .server)
      [.start true, .data [0x16, 0, 1, 1]]
    let d : Bytes := [0x17, 0, 1, 0x41, 0x15, 0, 0]
    s.crashed = false ∧ s.errored = false ∧ queueing s = false ∧
      s.tls.map (fun c => decide ((recvLoop RefL.refCodec (RefL.refCodec.inPending (feedIf c d) + 1) (feedIf c d) []).2.1 = .closed))
        = some true := by
  decide +kernel

/-- W4: … and with a segment that ends inside a record the loop ends with WantRead (`hok` of `child_stream_complete`) -/
example :
    let s := run (refEnv true (fun _ => .complete) false) (fun _ _ => []) (init RefL.refCodec .server)
      [.start true, .data [0x16, 0, 1, 1]]
    let d : Bytes := [0x17, 0, 1, 0x41, 0x17, 0, 5, 1]
    s.tls.map (fun c => decide ((recvLoop RefL.refCodec (RefL.refCodec.inPending (feedIf c d) + 1) (feedIf c d) []).2.1 = .want))
      = some true := by
  decide +kernel

/-- W5: the state `t` of `send_after_half_close` is reachable: after the peer's TCP close the tunnel is CLOSED, the TLS object is
    still there, nothing crashed/errored (hup/hacc then follow from `peer_stream_exact`), and a child that answers `.other 3`
    with SendData gets its payload accepted and readable by the peer -/
example :
    let child : Child := fun _ e => match e with | .other 3 => [.send [9, 8]] | _ => []
    let t := run (refEnv true (fun _ => .complete) false) child (init RefL.refCodec .server)
      [.start true, .data [0x16, 0, 1, 1], .closeEv]
    t.st = .closed ∧ t.tls.isSome = true ∧ t.errored = false ∧ t.crashed = false ∧ child t.toChild (.other 3) = [.send [9, 8]]
      ∧ (handle (refEnv true (fun _ => .complete) false) child t (.other 3)).accepted = [9, 8]
      ∧ RefL.enc (cipherOf (handle (refEnv true (fun _ => .complete) false) child t (.other 3)).up) = [9, 8] := by
  decide +kernel

/-- W6: `queued_during_handshake_in_order` on a non-initial state: two events stored during the handshake come out in order -/
example :
    let s := run (refEnv false (fun b => if b.length < 4 then .incomplete else .complete) false) (fun _ _ => []) (init RefL.refCodec .client)
      [.start true, .other 1, .data [0x16, 0], .other 2]
    s.st = .establishing ∧ s.replyTo = false ∧ s.errored = false ∧ s.queue = [.start, .other 1, .other 2] ∧ s.toChild = []
      ∧ (handshakeFinished (fun _ _ => []) s false).toChild = [.start, .other 1, .other 2] := by
  decide +kernel

/-- W7: a failed client handshake (fatal record): the child is told nothing more (errored), `t ≠ []` branch of `child_stream_exact` -/
example :
    let s := run (refEnv false (fun _ => .complete) false) (fun _ _ => []) (init RefL.refCodec .client)
      [.start true, .data [0x16, 0, 1, 2], .other 4]
    s.crashed = false ∧ s.errored = true ∧ s.st = .closed ∧ s.toChild = [] ∧ s.queue = [] ∧ s.routed = [.start, .other 4] := by
  decide +kernel

end MitmVerif.Props.C14
