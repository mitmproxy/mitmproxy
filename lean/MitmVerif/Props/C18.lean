/-
  C18 — property theorems.

  A. about the hand model `alpnSelectG` for EVERY protocol type, configuration and offer list (any length,
     repetitions): `selected_in_offers_or_none`, `upstream_refused_none`, `swp_only_http11`,
     `upstream_known_mirrored_partial` (+ `_counterexample`, `upstream_not_offered_falls_back`),
     `http2_off_never_h2_partial` (+ `_counterexample`), and with `tls_start_server`'s offers:
     `server_offers_subset`, `mirrored_when_mitmproxy_chose_offers`, `http2_off_never_h2_reachable`.
  B. about the table regenerated by CALLING the real callback (Gen/C18.lean), by kernel evaluation
     (`table_pass_*`: `decide +kernel` compares every entry with the hand model, the other predicates of `entryOk`
     hold of the model's answer by `entryOk_model`): `table_eq_model`, `table_selected_in_offers_or_none`,
     `table_upstream_known_mirrored`, `table_swp_only_http11`, `table_http2_off_never_h2`.
  C. lifting: `select_reduce` (the callback depends on the offers only through "needle offered?" and "first
     HTTP protocol"), `lift_to_any_offers` (for every tabulated configuration and EVERY offer list over the
     classes, of any length, the model's answer is literally a row of the table), `lifted_selected_in_offers`.
  D–F. about the model again: the whole chain with the upstream handshake first and nested client TLS; which handshake
     is the secure web proxy's outer one; QUIC clients.
-/
import MitmVerif.Model.C18
import MitmVerif.Lemmas.C18Table
import MitmVerif.Model.C18_Quic
namespace MitmVerif.Props.C18
open MitmVerif MitmVerif.C18

/-! ## A. the model, all inputs -/

/-- **C18 (1).** Whatever the configuration, the selected protocol is one the client offered (or none). -/
theorem selected_in_offers_or_none {α : Type} [DecidableEq α] (http1 httpAll : List α) (c : Option α)
    (s : Upstream α) (h2on : Bool) (offers : List α) (r : α)
    (h : alpnSelectG http1 httpAll c s h2on offers = some r) : r ∈ offers :=
  select_mem h

/-- upstream negotiated no protocol ⇒ the client gets none -/
theorem upstream_refused_none {α : Type} [DecidableEq α] (http1 httpAll : List α) (h2on : Bool) (offers : List α) :
    alpnSelectG http1 httpAll none .refused h2on offers = none := rfl

/-- **C18 (2), guarded.** No override, upstream protocol known and among this client's offers ⇒ the
    client gets exactly that protocol. -/
theorem upstream_known_mirrored_partial {α : Type} [DecidableEq α] (http1 httpAll : List α) (y : α)
    (h2on : Bool) (offers : List α) (hy : y ∈ offers) :
    alpnSelectG http1 httpAll none (.proto y) h2on offers = some y := by
  simp [alpnSelectG, hy]

/-- outside the guard the callback falls back to the client's first HTTP protocol -/
theorem upstream_not_offered_falls_back {α : Type} [DecidableEq α] (http1 httpAll : List α) (y : α)
    (h2on : Bool) (offers : List α) (hy : y ∉ offers) :
    alpnSelectG http1 httpAll none (.proto y) h2on offers = firstIn (if h2on then httpAll else http1) offers := by
  simp [alpnSelectG, hy]

/-- the full statement of C18 (2): "if the upstream protocol is already known, the client gets that protocol
    or none" — FALSE for the current code (finding F-C18a) -/
def UpstreamKnownMirrored : Prop :=
  ∀ (y : Bytes) (h2on : Bool) (offers : List Bytes), y ≠ [] →
    alpnSelect none (some y) h2on offers = some y ∨ alpnSelect none (some y) h2on offers = none

/-- upstream negotiated h2, the client offers only http/1.1 ⇒ the callback selects http/1.1 -/
theorem upstream_known_mirrored_counterexample : ¬ UpstreamKnownMirrored := by
  intro H
  have := H h2B true [http11B] (by decide)
  revert this
  decide

/-- the full statement of C18 (3): "HTTP/2 is never selected when http2 is disabled" over every upstream
    protocol — FALSE for the current code (finding F-C18b) -/
def Http2OffNeverH2 : Prop :=
  ∀ (s : Option Bytes) (offers : List Bytes), alpnSelect none s false offers ≠ some h2B

/-- http2 off, upstream already negotiated h2 and the client offers it ⇒ h2 is selected -/
theorem http2_off_never_h2_counterexample : ¬ Http2OffNeverH2 := by
  intro H
  exact H (some h2B) [h2B] (by decide)

private theorem gen_facts : h2B ∉ Gen.C18.http1B ∧ Gen.C18.http2Alpn = h2B ∧ http11B ∈ Gen.C18.http1B ∧
    Gen.C18.classes.getD Gen.C18.swpClass [] = http11B ∧ Gen.C18.classes.getD 1 [] = h2B := by decide

/-- **C18 (3), guarded.** http2 off, no override, and the upstream protocol is not h2 (unknown, none, or any
    other protocol) ⇒ h2 is never selected, whatever the client offers. -/
theorem http2_off_never_h2_partial (s : Option Bytes) (offers : List Bytes) (hs : s ≠ some h2B) :
    alpnSelect none s false offers ≠ some h2B := by
  refine select_h2off gen_facts.1 nofun fun h => hs ?_
  -- `upstreamOfBytes s = .proto h2B` only for `s = some h2B`
  rcases s with _ | ⟨_ | ⟨b, bs⟩⟩ <;> cases h
  rfl

/-- **C18 (4).** On a secure web proxy's outer connection (override `http/1.1` set by `tls_start_client`)
    only http/1.1 — or nothing — is selected, whatever client.alpn, upstream, http2 option and offers. -/
theorem swp_only_http11 (clientAlpn s : Option Bytes) (h2on : Bool) (offers : List Bytes) :
    negotiate true clientAlpn s h2on offers = some http11B ∨ negotiate true clientAlpn s h2on offers = none := by
  unfold negotiate alpnSelect
  exact (select_override ..).symm

/-- `tls_start_server` (nothing preset): what mitmproxy offers upstream are offers of this client, and
    never h2 when http2 is off -/
theorem server_offers_subset (clientOffers : List Bytes) (h2on : Bool) :
    (∀ y ∈ serverOffers [] clientOffers h2on, y ∈ clientOffers) ∧
    (h2on = false → h2B ∉ serverOffers [] clientOffers h2on) := by
  unfold serverOffers
  by_cases hc : clientOffers = [] <;> cases h2on <;> simp [hc, List.mem_filter]
  exact fun _ h _ => h

/-- **C18 (2), reachable form.** If the upstream protocol `y` was negotiated from what mitmproxy itself
    offered upstream for this client (TLS: negotiated ∈ offered), the client gets exactly `y`. -/
theorem mirrored_when_mitmproxy_chose_offers (y : Bytes) (h2on : Bool) (offers : List Bytes) (hne : y ≠ [])
    (hy : y ∈ serverOffers [] offers h2on) : negotiate false none (some y) h2on offers = some y := by
  have hin := (server_offers_subset offers h2on).1 y hy
  cases y with
  | nil => exact absurd rfl hne
  | cons b bs =>
    simp only [negotiate, clientOverride, alpnSelect, upstreamOfBytes]
    exact upstream_known_mirrored_partial _ _ _ _ _ hin

/-- **C18 (3), reachable form.** http2 off and the upstream protocol is unknown, none, or negotiated from
    what mitmproxy itself offered upstream ⇒ h2 is never selected. -/
theorem http2_off_never_h2_reachable (s : Option Bytes) (offers : List Bytes)
    (hs : s = none ∨ s = some [] ∨ ∃ y ∈ serverOffers [] offers false, s = some y) :
    negotiate false none s false offers ≠ some h2B := by
  apply http2_off_never_h2_partial
  rcases hs with rfl | rfl | ⟨y, hy, rfl⟩
  · simp
  · simp [h2B]
  · intro h
    simp only [Option.some.injEq] at h
    subst h
    exact (server_offers_subset offers false).2 rfl hy

-- non-vacuity: the model's answers on concrete inputs (bytes of "h2", "http/1.1", "foo")
example : alpnSelect none none true [[0x66,0x6f,0x6f], http11B, h2B] = some http11B ∧
          alpnSelect none none false [h2B] = none ∧
          alpnSelect none (some []) true [http11B] = none ∧
          alpnSelect none (some h2B) true [http11B, h2B] = some h2B ∧
          negotiate true none none true [h2B] = none ∧
          serverOffers [] [h2B, http11B] false = [http11B] := by decide

/-! ## B. the regenerated table -/

/-- every entry of the table of the real callback satisfies `entryOk` (= agrees with the model ∧ selected
    offered-or-none ∧ mirrored ∧ secure-web-proxy ∧ http2-off); the kernel passes are in Lemmas/C18Table.lean -/
theorem table_pass_0 : rowsOk (passChunk 0) = true := tablePass0
theorem table_pass_1 : rowsOk (passChunk 1) = true := tablePass1
theorem table_pass_2 : rowsOk (passChunk 2) = true := tablePass2
theorem table_pass_3 : rowsOk (passChunk 3) = true := tablePass3

private theorem entry_ok : ∀ e ∈ tableEntries, entryOk e.1 e.2.1 e.2.2 = true := by
  intro e he
  simp only [tableEntries, List.mem_flatMap] at he
  obtain ⟨p, hp, hep⟩ := he
  have hall : rowsOk (configsC.zip Gen.C18.rows) = true := by
    rw [chunksCover.1]
    simp only [rowsOk, List.all_append, Bool.and_eq_true]
    exact ⟨⟨⟨table_pass_0, table_pass_1⟩, table_pass_2⟩, table_pass_3⟩
  have := (rowGo_iff p.1 _ _ _).mp (List.all_eq_true.mp hall p hp) e hep
  rw [this.1]; exact this.2

/-- **table = model.** On the whole tabulated domain the real callback returned what the hand model computes. -/
theorem table_eq_model : ∀ e ∈ tableEntries, e.2.2 = alpnSelectC e.1 e.2.1 :=
  fun e he => ((entryOk_iff ..).mp (entry_ok e he)).1

/-- **table, C18 (1).** Every tabulated answer of the real callback is one of the offers, or none. -/
theorem table_selected_in_offers_or_none : ∀ e ∈ tableEntries, ∀ x, e.2.2 = some x → x ∈ e.2.1 :=
  fun e he => ((entryOk_iff ..).mp (entry_ok e he)).2.1

/-- **table, C18 (2) guarded.** No override: upstream refused ⇒ none; upstream known and offered ⇒ exactly it. -/
theorem table_upstream_known_mirrored : ∀ e ∈ tableEntries, e.1.1 = none →
    (e.1.2.1 = .refused → e.2.2 = none) ∧ (∀ y, e.1.2.1 = .proto y → y ∈ e.2.1 → e.2.2 = some y) :=
  fun e he => ((entryOk_iff ..).mp (entry_ok e he)).2.2.1

/-- **table, C18 (4).** With the secure-web-proxy override every tabulated answer is http/1.1 or none. -/
theorem table_swp_only_http11 : ∀ e ∈ tableEntries, e.1.1 = some Gen.C18.swpClass →
    e.2.2 = none ∨ e.2.2 = some Gen.C18.swpClass :=
  fun e he => ((entryOk_iff ..).mp (entry_ok e he)).2.2.2.1

/-- **table, C18 (3) guarded.** http2 off and upstream ≠ h2 (class 1): no tabulated answer is h2. -/
theorem table_http2_off_never_h2 : ∀ e ∈ tableEntries, e.1.2.2 = false → e.1.2.1 ≠ .proto 1 → e.2.2 ≠ some 1 :=
  fun e he => ((entryOk_iff ..).mp (entry_ok e he)).2.2.2.2

-- the table is not vacuous: 32 configurations x 157 offer lists; and the guards matter (F-C18a, then F-C18b, are in the table)
example : ((none, Upstream.proto 1, true), [2], some 2) ∈ decodeRow (none, .proto 1, true) allOffers (Gen.C18.rows.getD 7 0) ∧
    ((none, Upstream.proto 1, false), [1, 2], some 1) ∈ decodeRow (none, .proto 1, false) allOffers (Gen.C18.rows.getD 6 0) ∧
    configsC.length = 32 ∧ allOffers.length = 157 := by
  decide +kernel

/-! ## C. lifting to offer lists of any length -/

private theorem needleList_cases (cfg : Cfg) (L : List Nat) :
    (needleList cfg L = [] ∧ ∀ x, needle cfg = some x → x ∉ L) ∨
    (∃ x, needle cfg = some x ∧ x ∈ L ∧ needleList cfg L = [x]) := by
  unfold needleList
  cases hn : needle cfg with
  | none => left; simp
  | some x =>
    by_cases hx : x ∈ L
    · right; exact ⟨x, rfl, hx, by simp [hx]⟩
    · left; simp [hx]

private theorem firstList_cases (cfg : Cfg) (L : List Nat) :
    (firstIn (httpSet cfg) L = none ∧ firstList cfg L = []) ∨
    (∃ a, firstIn (httpSet cfg) L = some a ∧ a ∈ L ∧ a ∈ httpSet cfg ∧ firstList cfg L = [a]) := by
  unfold firstList
  cases hf : firstIn (httpSet cfg) L with
  | none => left; simp
  | some a => right; exact ⟨a, rfl, (firstIn_some _ L a hf).1, (firstIn_some _ L a hf).2, rfl⟩

private theorem reduce_subset (cfg : Cfg) (L : List Nat) : ∀ x ∈ reduce cfg L, x ∈ L := by
  intro x hx
  simp only [reduce, List.mem_append, List.mem_filter] at hx
  rcases hx with hx | ⟨hx, _⟩
  · rcases needleList_cases cfg L with ⟨h, _⟩ | ⟨y, _, hy, h⟩
    · rw [h] at hx; simp at hx
    · rw [h] at hx; simp only [List.mem_singleton] at hx; subst hx; exact hy
  · rcases firstList_cases cfg L with ⟨_, h⟩ | ⟨a, _, ha, _, h⟩
    · rw [h] at hx; simp at hx
    · rw [h] at hx; simp only [List.mem_singleton] at hx; subst hx; exact ha

/-- when the needle is not offered the reduced list has the same first HTTP protocol -/
private theorem firstIn_reduce (cfg : Cfg) (L : List Nat) (hn : needleList cfg L = []) :
    firstIn (httpSet cfg) (reduce cfg L) = firstIn (httpSet cfg) L := by
  simp only [reduce, hn, List.nil_append, List.contains_nil, Bool.not_false, List.filter_eq_self.mpr fun _ _ => rfl]
  rcases firstList_cases cfg L with ⟨hf, h⟩ | ⟨a, hf, _, ha, h⟩
  · rw [h, hf]; rfl
  · rw [h, hf]; simp [firstIn, ha]

private theorem needle_mem_reduce (cfg : Cfg) (L : List Nat) (x : Nat) (hx : needle cfg = some x) :
    x ∈ reduce cfg L ↔ x ∈ L :=
  ⟨reduce_subset cfg L x, fun h => by simp [reduce, needleList, hx, h]⟩

/-- **lifting lemma.** The callback depends on the offer list only through "is the needle (override / upstream
    protocol) offered" and "which is the first HTTP protocol": on ANY offer list the model answers what it
    answers on `reduce cfg offers` (at most two, distinct elements of the list). -/
theorem select_reduce (cfg : Cfg) (L : List Nat) : alpnSelectC cfg L = alpnSelectC cfg (reduce cfg L) := by
  obtain ⟨c, s, h⟩ := cfg
  have hm := fun x hx => needle_mem_reduce (c, s, h) L x hx
  have hf := firstIn_reduce (c, s, h) L
  cases c with
  | some x => by_cases hx : x ∈ L <;> simp [alpnSelectC, alpnSelectG, hx, hm x rfl]
  | none =>
    cases s with
    | refused => rfl
    | unknown => simpa [alpnSelectC, alpnSelectG, httpSet] using (hf (by simp [needleList, needle])).symm
    | proto y =>
      by_cases hy : y ∈ L
      · simp [alpnSelectC, alpnSelectG, hy, hm y rfl]
      · simpa [alpnSelectC, alpnSelectG, httpSet, hy, hm y rfl] using (hf (by simp [needleList, needle, hy])).symm

private theorem small_lists_in_domain :
    [] ∈ allOffers ∧ (∀ a ∈ classIdx, [a] ∈ allOffers) ∧ (∀ a ∈ classIdx, ∀ b ∈ classIdx, a ≠ b → [a, b] ∈ allOffers) ∧
    (∀ cfg ∈ configsC, (configsC.zip Gen.C18.rows).any (fun p => p.1 == cfg) = true) := by
  decide +kernel

private theorem reduce_in_domain (cfg : Cfg) (L : List Nat) (hL : ∀ x ∈ L, x ∈ classIdx) : reduce cfg L ∈ allOffers := by
  obtain ⟨h0, h1, h2, _⟩ := small_lists_in_domain
  unfold reduce
  rcases needleList_cases cfg L with ⟨hn, _⟩ | ⟨x, _, hx, hn⟩ <;>
    rcases firstList_cases cfg L with ⟨_, hf⟩ | ⟨a, _, ha, _, hf⟩ <;> rw [hn, hf]
  · simpa using h0
  · simpa using h1 a (hL a ha)
  · simpa using h1 x (hL x hx)
  · by_cases hax : a = x
    · subst hax; simpa using h1 a (hL a ha)
    · have hd : decide (a = x) = false := by simpa using hax
      simpa [List.filter, hd] using h2 x (hL x hx) a (hL a ha) (fun e => hax e.symm)

private theorem decodeRow_keys (cfg : Cfg) : ∀ (os : List (List Nat)) (r : Nat) (o : List Nat), o ∈ os →
    ∃ res, (cfg, o, res) ∈ decodeRow cfg os r
  | [], _, o, h => by simp at h
  | o' :: os, r, o, h => by
    simp only [List.mem_cons] at h
    rcases h with rfl | h
    · exact ⟨decodeR (r % 9), by simp [decodeRow]⟩
    · obtain ⟨res, hres⟩ := decodeRow_keys cfg os (r / 9) o h
      exact ⟨res, by simp [decodeRow, hres]⟩

/-- **lift.** For every tabulated configuration and EVERY offer list over the classes — any length,
    repetitions allowed — the model's answer is literally an entry of the table of the real callback
    (at the reduced offer list). -/
theorem lift_to_any_offers (cfg : Cfg) (hcfg : cfg ∈ configsC) (L : List Nat) (hL : ∀ x ∈ L, x ∈ classIdx) :
    (cfg, reduce cfg L, alpnSelectC cfg L) ∈ tableEntries := by
  have hdom := reduce_in_domain cfg L hL
  have hany := small_lists_in_domain.2.2.2 cfg hcfg
  simp only [List.any_eq_true, beq_iff_eq] at hany
  obtain ⟨p, hp, hpc⟩ := hany
  obtain ⟨res, hres⟩ := decodeRow_keys cfg allOffers p.2 (reduce cfg L) hdom
  have hmem : (cfg, reduce cfg L, res) ∈ tableEntries := by
    simp only [tableEntries, List.mem_flatMap]
    exact ⟨p, hp, by rw [hpc]; exact hres⟩
  have := table_eq_model _ hmem
  simp only at this
  rw [this, ← select_reduce] at hmem
  exact hmem

/-- **C18 (1), lifted from the table.** For every tabulated configuration and every offer list of any
    length, the answer is one of the offers or none — obtained from the table theorem, not from the model. -/
theorem lifted_selected_in_offers (cfg : Cfg) (hcfg : cfg ∈ configsC) (L : List Nat) (hL : ∀ x ∈ L, x ∈ classIdx)
    (x : Nat) (hx : alpnSelectC cfg L = some x) : x ∈ L := by
  have h := table_selected_in_offers_or_none _ (lift_to_any_offers cfg hcfg L hL) x hx
  exact reduce_subset cfg L x h

example : reduce (none, .proto 5, true) [5, 5, 3, 1, 5, 0, 0, 2] = [5, 3] ∧
          alpnSelectC (none, .proto 5, true) [5, 5, 3, 1, 5, 0, 0, 2] = some 5 := by decide

/-! ## D. the whole chain (upstream handshake first) and nested client TLS -/

private theorem peerSelect_mem (prefs : Option (List Bytes)) (offered : List Bytes) (y : Bytes)
    (h : peerSelect prefs offered = some y) : y ∈ offered := by
  unfold peerSelect at h
  cases prefs with
  | none => simp at h
  | some ps =>
    have := List.find?_some h
    simpa using this

/-- Server-first, without any hypothesis on the offer list: the client gets exactly what the upstream selected, an empty
    protocol name (which TLS forbids, but a peer could send) counting as "nothing negotiated" -/
theorem eager_chain_mirrors_total (prefs : Option (List Bytes)) (h2on : Bool) (offers : List Bytes) :
    (eagerChain prefs h2on offers).2 = ((eagerChain prefs h2on offers).1).bind (fun y => if y = [] then none else some y) := by
  unfold eagerChain
  simp only
  cases hp : peerSelect prefs (serverOffers [] offers h2on) with
  | none => simp [recordedAlpn, negotiate, clientOverride, alpnSelect, upstreamOfBytes, alpnSelectG]
  | some y =>
    by_cases hy0 : y = []
    · subst hy0; simp [recordedAlpn, negotiate, clientOverride, alpnSelect, upstreamOfBytes, alpnSelectG]
    · have hy := peerSelect_mem _ _ _ hp
      simpa [recordedAlpn, hy0] using mirrored_when_mitmproxy_chose_offers y h2on offers hy0 hy

/-- **C18 (2) at full strength on the reachable chain.** Server-first: whatever ALPN preference list the upstream
    server has (or none at all), whatever the client offers and whatever the http2 option, the client is given
    exactly what the upstream selected — the same protocol, or nothing when upstream negotiated nothing.  No guard:
    that the upstream protocol is among the client's offers is a consequence of `tls_start_server`'s offers. -/
theorem eager_chain_mirrors (prefs : Option (List Bytes)) (h2on : Bool) (offers : List Bytes) (hne : [] ∉ offers) :
    (eagerChain prefs h2on offers).2 = (eagerChain prefs h2on offers).1 := by
  rw [eager_chain_mirrors_total]
  cases hp : (eagerChain prefs h2on offers).1 with
  | none => rfl
  | some y =>
    have hyo := (server_offers_subset offers h2on).1 y (peerSelect_mem _ _ _ hp)
    simp [show y ≠ [] from fun e => hne (e ▸ hyo)]

/-- http2 off on the chain, without hypothesis -/
theorem eager_chain_http2_off_total (prefs : Option (List Bytes)) (offers : List Bytes) :
    (eagerChain prefs false offers).2 ≠ some h2B := by
  rw [eager_chain_mirrors_total]
  intro h
  obtain ⟨y, hy, h⟩ := Option.bind_eq_some_iff.mp h
  split at h <;> cases h
  exact (server_offers_subset offers false).2 rfl (peerSelect_mem _ _ _ hy)

/-- **C18 (3) at full strength on the reachable chain.** Server-first with http2 off: h2 is never selected for the
    client, whatever the upstream server prefers and whatever the client offers. -/
theorem eager_chain_http2_off (prefs : Option (List Bytes)) (offers : List Bytes) (hne : [] ∉ offers) :
    (eagerChain prefs false offers).2 ≠ some h2B :=
  eager_chain_http2_off_total prefs offers

/-- **C18 (1) on the chain.** -/
theorem eager_chain_selected_offered (prefs : Option (List Bytes)) (h2on : Bool) (offers : List Bytes) (r : Bytes)
    (h : (eagerChain prefs h2on offers).2 = some r) : r ∈ offers := by
  simp only [eagerChain, negotiate, alpnSelect] at h
  exact selected_in_offers_or_none _ _ _ _ _ _ _ h

/-- **nested client TLS.** On a secure web proxy the inner handshake is an ordinary one: whatever the outer session
    negotiated (and recorded on the shared client object), the inner selection is the one of a fresh client —
    the chain result when the upstream handshake comes first, the preference pick otherwise. -/
theorem nested_inner_ignores_outer (h2on : Bool) (outerOffers innerOffers : List Bytes) (prefs : Option (List Bytes)) (eager : Bool) :
    (nestedSession h2on outerOffers innerOffers prefs eager).2.2 =
      (if eager then (eagerChain prefs h2on innerOffers).2 else negotiate false none none h2on innerOffers) ∧
    (nestedSession h2on outerOffers innerOffers prefs eager).2.1 =
      (if eager then (eagerChain prefs h2on innerOffers).1 else none) := by
  cases eager <;> simp [nestedSession, eagerChain, resetOnNested]

/-- **C18 (4) in the session.** The outer connection of the nested session gets http/1.1 or nothing. -/
theorem nested_outer_http11 (h2on : Bool) (outerOffers innerOffers : List Bytes) (prefs : Option (List Bytes)) (eager : Bool) :
    (nestedSession h2on outerOffers innerOffers prefs eager).1 = some http11B ∨
    (nestedSession h2on outerOffers innerOffers prefs eager).1 = none := by
  have := swp_only_http11 none none h2on outerOffers
  cases eager <;> simpa [nestedSession] using this

-- the reset matters: with the outer protocol left on the client object (seed c18-3) the inner handshake would be
-- pinned to http/1.1 although upstream selected h2
example : (nestedSession true [http11B] [h2B, http11B] (some [h2B, http11B]) true) = (some http11B, some h2B, some h2B) ∧
          negotiate false (recordedAlpn (some http11B)) (some h2B) true [h2B, http11B] = some http11B := by decide
-- the upstream server's preference order decides, not the client's; no overlap / no ALPN upstream ⇒ nothing for the client
example : eagerChain (some [http11B, h2B]) true [h2B, http11B] = (some http11B, some http11B) ∧
          eagerChain (some [h2B, http11B]) false [h2B, http11B] = (some http11B, some http11B) ∧
          eagerChain none true [h2B, http11B] = (none, none) ∧
          eagerChain (some [[0x7a]]) true [h2B, http11B] = (none, none) := by decide

/-! ## E. which handshake is the secure web proxy's outer one -/

/-- **C18 (4), the decision.** For the stack the proxy core really builds below an explicit HTTP proxy whose client
    starts with a TLS record — `[HttpProxy, ClientTLSLayer, HttpLayer]`, complete before the handshake — the handshake
    is recognised as the outer one, so it is given http/1.1 or nothing whatever client.alpn, upstream and options. -/
theorem swp_outer_recognised (clientAlpn s : Option Bytes) (h2on : Bool) (offers : List Bytes) :
    isSwpOuter (explicitProxyStack .httpProxy true) = true ∧
    (negotiateL (explicitProxyStack .httpProxy true) clientAlpn s h2on offers = some http11B ∨
     negotiateL (explicitProxyStack .httpProxy true) clientAlpn s h2on offers = none) := by
  have h : isSwpOuter (explicitProxyStack .httpProxy true) = true := by decide
  exact ⟨h, by simpa [negotiateL, startClientPin, h, negotiate] using swp_only_http11 clientAlpn s h2on offers⟩

/-- every later client TLS layer on the same connection (TLS inside the CONNECT tunnel, with anything in between) is
    NOT treated as the outer one: its pin is `client.alpn` — `none` after `ClientTLSLayer.__init__`'s reset -/
theorem nested_handshake_not_outer (mode : LayerKind) (tls : Bool) (mid : List LayerKind) (clientAlpn : Option Bytes) :
    isSwpOuter (explicitProxyStack mode tls ++ mid ++ [.clientTls]) = false ∧
    startClientPin (explicitProxyStack mode tls ++ mid ++ [.clientTls]) (resetOnNested true clientAlpn) = none := by
  have h : isSwpOuter (explicitProxyStack mode tls ++ mid ++ [.clientTls]) = false := by
    cases tls <;> simp [isSwpOuter, explicitProxyStack, List.any_append]
  refine ⟨h, ?_⟩
  simp only [startClientPin, h, clientOverride, resetOnNested]
  simp

/-- no other mode is ever given the override: without `HttpProxy` at the bottom the pin is `client.alpn` -/
theorem other_modes_not_outer (layers : List LayerKind) (clientAlpn : Option Bytes) (h : layers.head? ≠ some .httpProxy) :
    startClientPin layers clientAlpn = clientAlpn := by
  have : isSwpOuter layers = false := by
    cases layers with
    | nil => rfl
    | cons a l =>
      have : a ≠ .httpProxy := by simpa using h
      simp [isSwpOuter, this]
  simp [startClientPin, this, clientOverride]

-- the defect fixed in 19d48a72c: counting layers (== 2) misses the real three-layer stack; the transcription does not
example : isSwpOuter [.httpProxy, .clientTls, .http] = true ∧ isSwpOuter [.httpProxy, .clientTls] = true ∧
          isSwpOuter [.httpProxy, .http, .serverTls, .clientTls] = false ∧ isSwpOuter [.httpProxy] = false ∧
          isSwpOuter [.httpUpstreamProxy, .clientTls, .http] = false := by decide

/-! ## F. QUIC clients (`quic_start_client` + aioquic's negotiation)

  Left out of `quicClientAlpns`: the code decodes every protocol of the list as ASCII and raises out of the hook on any other
  protocol id; the model's list is total. -/

private theorem truthy_some (a : Option Bytes) (y : Bytes) (h : truthy a = some y) : a = some y ∧ y ≠ [] := by
  unfold truthy at h
  split at h
  · simp only [Option.some.injEq] at h; subst h; exact ⟨rfl, by simp⟩
  · simp at h

/-- **C18 (1), QUIC.** What a QUIC client is given is one of its offers, or nothing. -/
theorem quic_selected_offered (clientAlpn serverAlpn : Option Bytes) (offers : List Bytes) (r : Bytes)
    (h : quicNegotiate clientAlpn serverAlpn offers = some r) : r ∈ offers :=
  peerSelect_mem _ _ _ h

/-- **C18 (2), QUIC, full strength.** No addon pin and the upstream protocol `y` known (non-empty): the QUIC client
    gets exactly `y` if it offered it, and nothing (the handshake fails) otherwise — never another protocol. -/
theorem quic_upstream_known_mirrored (y : Bytes) (offers : List Bytes) (hy : y ≠ []) :
    quicNegotiate none (some y) offers = (if y ∈ offers then some y else none) := by
  cases y with
  | nil => exact absurd rfl hy
  | cons b bs =>
    simp only [quicNegotiate, quicClientAlpns, List.filterMap_cons, truthy, List.filterMap_nil]
    by_cases hin : (b :: bs) ∈ offers <;> simp [peerSelect, hin]

/-- upstream unknown or ALPN-less (`None` / `b""` are both falsy here) and no pin: the list handed to aioquic is the
    client's own offer list, so the client gets its first offer — unlike the TLS callback, an upstream that negotiated
    nothing is not mirrored on the QUIC path -/
theorem quic_without_upstream_protocol (s : Option Bytes) (offers : List Bytes) (hs : s = none ∨ s = some []) :
    quicClientAlpns none s offers = offers ∧ quicNegotiate none s offers = offers.head? := by
  have hl : quicClientAlpns none s offers = offers := by
    rcases hs with rfl | rfl <;> simp [quicClientAlpns, truthy]
  refine ⟨hl, ?_⟩
  simp only [quicNegotiate, hl, peerSelect]
  cases offers with
  | nil => rfl
  | cons o os => simp

example : quicNegotiate none (some h2B) [http11B] = none ∧ quicNegotiate none (some h2B) [http11B, h2B] = some h2B ∧
          quicNegotiate (some http11B) (some h2B) [h2B, http11B] = some http11B ∧
          quicNegotiate none (some []) [h2B, http11B] = some h2B := by decide

/-! ## non-vacuity witnesses (hypotheses instantiated on concrete, non-trivial values) -/

-- `mirrored_when_mitmproxy_chose_offers` / `http2_off_never_h2_reachable`: the guard "negotiated from what mitmproxy offered
-- upstream" holds for a real configuration (client offers h2 and http/1.1, http2 off: only http/1.1 goes upstream)
example : http11B ≠ [] ∧ http11B ∈ serverOffers [] [h2B, http11B] false ∧
    (∃ y ∈ serverOffers [] [h2B, http11B] false, some http11B = some y) ∧
    negotiate false none (some http11B) false [h2B, http11B] = some http11B := by decide

-- the `∀ e ∈ tableEntries` theorems are not vacuous: the table has entries, among them ones that satisfy the guards of
-- `table_upstream_known_mirrored` (no override, upstream known and offered), `table_swp_only_http11` (override set, a
-- protocol selected) and `table_http2_off_never_h2` (http2 off, upstream not h2, something selected)
example : tableEntries.any (fun e => e.1.1 == none && e.1.2.1 == .proto 1 && e.2.1.contains 1 && e.2.2 == some 1) = true ∧
    tableEntries.any (fun e => e.1.1 == some Gen.C18.swpClass && e.2.2 == some Gen.C18.swpClass) = true ∧
    tableEntries.any (fun e => e.1.2.2 == false && e.1.2.1 != .proto 1 && e.2.2 != none) = true :=
  ⟨List.any_eq_true.mpr ⟨_, lift_to_any_offers (none, .proto 1, false) (by decide) [1] (by decide), by decide⟩,
   List.any_eq_true.mpr ⟨_, lift_to_any_offers (some 2, .unknown, false) (by decide) [2] (by decide), by decide⟩,
   List.any_eq_true.mpr ⟨_, lift_to_any_offers (none, .unknown, false) (by decide) [2] (by decide), by decide⟩⟩

-- `lift_to_any_offers` / `lifted_selected_in_offers`: a tabulated configuration and a long offer list with repetitions
example : ((none, Upstream.proto 5, true) : Cfg) ∈ configsC ∧ (∀ x ∈ [5, 5, 3, 1, 5, 0, 0, 2], x ∈ classIdx) ∧
    alpnSelectC (none, .proto 5, true) [5, 5, 3, 1, 5, 0, 0, 2] = some 5 := by decide

-- `eager_chain_mirrors` / `eager_chain_http2_off`: the hypothesis `[] ∉ offers` on a real offer list, with a selection
example : ([] : Bytes) ∉ [h2B, http11B] ∧ (eagerChain (some [h2B, http11B]) false [h2B, http11B]).2 = some http11B := by decide

-- `other_modes_not_outer`: a stack whose bottom layer is not HttpProxy, with a pin that is kept
example : ([LayerKind.httpUpstreamProxy, .clientTls, .http] : List LayerKind).head? ≠ some .httpProxy ∧
    startClientPin [.httpUpstreamProxy, .clientTls, .http] (some h2B) = some h2B := by decide

end MitmVerif.Props.C18
