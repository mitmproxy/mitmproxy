/-
  C41 — HAR export followed by HAR import preserves the exchange.

  Full statement (`ImportExportPreserves`): for every library satisfying the codec laws and every list of
  flows, `roundtrip` succeeds and yields flows that agree with the originals, in order, on method, URL, HTTP
  version, request header fields apart from Content-Length, request body for POST/PUT/PATCH, status, response
  header fields and decoded response body.

  The code as it is does NOT satisfy the full statement (findings F-C41a … F-C41h, one guard conjunct each in
  `Model/C41_Spec.lean`): `import_export_preserves_counterexample*` refute it on concrete flows, and
  `import_export_preserves_partial` proves it for all flows (any number, any library obeying the laws)
  satisfying the decidable guard that excludes exactly those classes.

  The library comes in four sizes, each an instance of the one before: `Lib` (everything a parameter), `mkLib p`
  (Model/C41_Lib: mitmproxy's own helpers transcribed over `Prim`), `mkLibU p U` (Model/C41_Url: the URL functions over
  the C33 model), `mkLibH p H` (Model/C41_Host: the host checks over C13 / C22).  The guarded theorem is proved once, for
  `Lib`; `…_transcribed`, `…_url_transcribed`, `…_host_transcribed` are its instances, and the theorems between them
  turn guard conjuncts into conditions on the input.  The URL part rests on `Props/C33.lean` (`GetterUrlOk`, `HostOk`,
  `url_parse_reads_getter_url`, `parseAuthority_hostport`), which is why one Props file imports another here.
-/
import MitmVerif.Lemmas.C41
import MitmVerif.Model.C41_Lib
import MitmVerif.Model.C41_Url
import MitmVerif.Model.C41_Host
import MitmVerif.Props.C33
namespace MitmVerif.Props.C41
open MitmVerif MitmVerif.C41

/-- what is assumed of the text codecs and base64 (CPython: utf-8/surrogateescape round-trips every byte
string, ASCII is a fixed point, `upper()` of a decoded method encodes again and is idempotent through the
round trip, `b64decode ∘ b64encode = id`) -/
structure Laws (lib : Lib) : Prop where
  senc_sdec : ∀ b, lib.senc (lib.sdec b) = some b
  sdec_ascii : ∀ b : Bytes, (∀ x ∈ b, x.toNat < 128) → lib.sdec b = b
  method_rt : ∀ m, ∃ m', lib.senc (lib.upper (lib.sdec m)) = some m' ∧ lib.upper (lib.sdec m') = lib.upper (lib.sdec m)
  b64 : ∀ b, lib.b64dec (lib.b64enc b) = some b

/-- `json.loads(json.dumps(x)) = x` on HAR documents -/
def JsonLaw {J : Type} (js : Json J) : Prop := ∀ es, js.load (js.dump es) = some es

/-- the property at full strength (false for the code as it is, see the counter-examples) -/
def ImportExportPreserves : Prop :=
  ∀ (J : Type) (lib : Lib) (js : Json J), Laws lib → JsonLaw js → ∀ fs : List Flow,
    ∃ fs', roundtrip lib js fs = some fs' ∧ InOrder (fun f f' => same lib f f' = true) fs fs'

/-! ### the pieces -/

private theorem fixHeaders_fmt {lib : Lib} (laws : Laws lib) (h : Hdrs) :
    fixHeaders lib (fmtHeaders lib h) = some h := by
  induction h with
  | nil => rfl
  | cons f r ih =>
    have ih' : fixHeaders lib (List.map (fun f => (lib.sdec f.1, lib.sdec f.2)) r) = some r := ih
    simp [fmtHeaders, fixHeaders, laws.senc_sdec, ih']

private theorem lower_Host : asciiLower (L "Host") = kHost := by decide +kernel
private theorem mapVer_v11 : mapVer v11 = v11 := by decide +kernel
private theorem mapVer_v3 : mapVer v3 = v3 := by decide +kernel
private theorem ascii_v11 : ∀ x ∈ v11, x.toNat < 128 := by decide +kernel
private theorem ascii_v3 : ∀ x ∈ v3, x.toNat < 128 := by decide +kernel

private theorem guard_split {lib : Lib} {f : Flow} (g : guardButVer lib f = true) :
    gMethod lib f = true ∧ gUrlParse lib f = true ∧ gUrl lib f = true ∧ gHost lib f = true ∧ gNoCE f = true
    ∧ gReqText lib f = true ∧ gRespCL f = true ∧ gRespText lib f = true := by
  simp only [guardButVer, Bool.and_eq_true] at g
  obtain ⟨⟨⟨⟨⟨⟨⟨a, b⟩, c⟩, d⟩, e⟩, f'⟩, g'⟩, h⟩ := g
  exact ⟨a, b, c, d, e, f', g', h⟩

private theorem noCE_split {f : Flow} (g : gNoCE f = true) :
    hcontains f.req.hdrs kCE = false ∧ hcontains f.resp.hdrs kCE = false := by
  simp only [gNoCE, Bool.and_eq_true, Bool.not_eq_true'] at g
  exact g

/-- `Request.make` on the exported request: succeeds; method, body (POST/PUT/PATCH) and all header fields but
Content-Length are the original ones -/
private theorem makeReq_export {lib : Lib} (laws : Laws lib) (f : Flow) (g : guardButVer lib f = true) :
    ∃ mb m, makeReq lib (exportReq lib f) = some (mb, m) ∧ methodOf lib mb = methodOf lib f.method ∧
      dropCL m.hdrs = dropCL f.req.hdrs ∧
      (isBodyMethod (methodOf lib f.method) = true → m.body = f.req.body) := by
  obtain ⟨_, gp, _, gh, gce, gt, _, _⟩ := guard_split g
  obtain ⟨rce, _⟩ := noCE_split gce
  obtain ⟨mb, hmb, hup⟩ := laws.method_rt f.method
  obtain ⟨hp, hhp⟩ : ∃ hp, lib.urlHostport (exportUrl lib f) = some hp := by
    simpa [gUrlParse, Option.isSome_iff_exists] using gp
  have epost : (exportReq lib f).postData.getD [] = postText lib f := by
    unfold exportReq postText
    by_cases c : isBodyMethod (methodOf lib f.method) = true <;> simp [c]
  -- Host update leaves the headers alone
  have hhost : (if hcontains f.req.hdrs kHost then (lib.senc hp).map (hset f.req.hdrs (L "Host")) else some f.req.hdrs)
      = some f.req.hdrs := by
    by_cases c : hcontains f.req.hdrs kHost = true
    · simp only [gHost, hhp, c, if_true] at gh
      cases hs : lib.senc hp with
      | none => simp [hs] at gh
      | some hpB =>
        simp only [hs] at gh
        have e : fieldsOf f.req.hdrs kHost = [hpB] := by simpa using gh
        have : hset f.req.hdrs (L "Host") hpB = f.req.hdrs := hset_id (by rw [lower_Host]; exact e)
        simp [c, this]
    · simp [c]
  -- the text re-encodes
  obtain ⟨b, hb, hbody⟩ : ∃ b, lib.csEnc (lib.infer (ctOf lib f.req) []) (postText lib f) = some b ∧
      (isBodyMethod (methodOf lib f.method) = true → b = f.req.body) := by
    unfold gReqText at gt
    cases hc : lib.csEnc (lib.infer (ctOf lib f.req) []) (postText lib f) with
    | none => simp [hc] at gt
    | some b =>
      refine ⟨b, rfl, fun hbm => ?_⟩
      simp [hc, hbm] at gt
      exact gt
  let m0 : Msg := { ver := v11, hdrs := f.req.hdrs, body := [] }
  have hct : ctOf lib m0 = ctOf lib f.req := rfl
  have hset' : setText lib m0 (postText lib f) = some (setContent lib m0 b) := by
    unfold setText; rw [hct, hb]
  have p := setContent_noCE_props lib (m := m0) rce b
  exact ⟨mb, setContent lib m0 b,
    makeReq_eq (fixHeaders_fmt laws _) hmb hhp hhost (epost ▸ hset'),
    hup, p.2.2, fun hbm => p.2.1.trans (hbody hbm)⟩

/-- the response rebuilt from the exported entry is the original response (before `decode()` and the version) -/
private theorem makeResp_export {lib : Lib} (laws : Laws lib) (f : Flow) (g : guardButVer lib f = true) :
    makeResp lib (exportResp lib f) = some { ver := v11, hdrs := f.resp.hdrs, body := f.resp.body } := by
  obtain ⟨_, _, _, _, gce, _, _, gt⟩ := guard_split g
  obtain ⟨_, sce⟩ := noCE_split gce
  have hc : getContent lib f.resp = f.resp.body := getContent_noCE lib sce
  have hce : hget lib f.resp.hdrs kCE = none := hget_of_not_contains lib sce
  have hct : (hget lib f.resp.hdrs kCT).getD [] = ctOf lib f.resp := rfl
  unfold makeResp
  have ehdr : (exportResp lib f).headers = fmtHeaders lib f.resp.hdrs := rfl
  rw [ehdr, fixHeaders_fmt laws]
  simp only [hce, hct]
  by_cases bin : f.resp.body ≠ [] ∧ lib.mostlyBin f.resp.body = true
  · have e1 : (exportResp lib f).encoding = some (L "base64") := by simp [exportResp, hc, bin]
    have e2 : (exportResp lib f).text = lib.b64enc f.resp.body := by simp [exportResp, hc, bin]
    simp [e1, e2, laws.b64]
  · have e1 : (exportResp lib f).encoding = none := by simp [exportResp, hc, bin]
    have e2 : (exportResp lib f).text = getText lib f.resp := by simp [exportResp, hc, bin]
    have : importText lib (lib.infer (ctOf lib f.resp) []) (getText lib f.resp) = some f.resp.body := by
      unfold gRespText at gt
      simp only [Bool.or_eq_true, Bool.and_eq_true, bne_iff_ne, ne_eq, beq_iff_eq] at gt
      rcases gt with h | h
      · exact absurd h bin
      · exact h
    simp [e1, e2, this]

/-- one flow: under the guard the import of the exported entry succeeds and preserves everything the
statement names except (unless `gVer`) the HTTP version -/
private theorem entry_partial {lib : Lib} (laws : Laws lib) (f : Flow) (g : guardButVer lib f = true) :
    ∃ f', importEntry lib (exportEntry lib f) = some f' ∧ sameButVer lib f f' = true ∧
      (gVer f = true → f'.req.ver = f.req.ver) := by
  obtain ⟨mb, m, hreq, hmeth, hsame, hbody⟩ := makeReq_export laws f g
  have hresp := makeResp_export laws f g
  obtain ⟨gm, _, gu, _, gce, _, gcl, _⟩ := guard_split g
  obtain ⟨rce, sce⟩ := noCE_split gce
  have hm : methodOf lib f.method ≠ L "CONNECT" := by simpa [gMethod] using gm
  -- request.decode()
  let rv := mapVer (exportEntry lib f).request.httpVersion
  have mce : hcontains ({ m with ver := rv } : Msg).hdrs kCE = false := noCE_of_dropCL hsame rce
  obtain ⟨m', hdec, hver, hb', hs'⟩ := decodeMsg_noCE lib (m := { m with ver := rv }) true mce
  -- response.decode(strict=False)
  let sv := mapVer (exportEntry lib f).response.httpVersion
  have hcl : ({ ver := sv, hdrs := f.resp.hdrs, body := f.resp.body } : Msg).body = [] ∨
      hcontains f.resp.hdrs kTE = true ∨ fieldsOf f.resp.hdrs kCL = [natDec f.resp.body.length] := by
    simp only [gRespCL, Bool.or_eq_true, beq_iff_eq] at gcl
    rcases gcl with (h | h) | h
    · exact Or.inl h
    · exact Or.inr (Or.inl h)
    · exact Or.inr (Or.inr h)
  have hdecs := decodeMsg_noCE_clOk lib (m := { ver := sv, hdrs := f.resp.hdrs, body := f.resp.body }) false sce hcl
  have hall : dropCL m'.hdrs = dropCL f.req.hdrs := hs'.trans hsame
  have m'ce : hcontains m'.hdrs kCE = false := noCE_of_dropCL hall rce
  have heu : exportUrl lib f = f.purl := by simp [exportUrl, hm]
  have hurl : (exportEntry lib f).request.url = f.purl := heu
  have hstat : (exportEntry lib f).response.status = f.status := rfl
  refine ⟨_, importEntry_eq hreq hresp hdec hdecs, ?_, ?_⟩
  · have hhost : hget lib m'.hdrs kHost = hget lib f.req.hdrs kHost := hget_congr lib (fieldsOf_of_dropCL hall kHost_ne_kCL)
    have hu : lib.urlPretty f.purl (hget lib f.req.hdrs kHost) = f.purl := by simpa [gUrl, heu] using gu
    have hbd : isBodyMethod (methodOf lib f.method) = true → getContent lib m' = getContent lib f.req := by
      intro hbm
      rw [getContent_noCE lib m'ce, getContent_noCE lib rce, hb']
      exact hbody hbm
    have hrc : getContent lib ({ ver := sv, hdrs := f.resp.hdrs, body := f.resp.body } : Msg) = getContent lib f.resp := rfl
    simp only [sameButVer, hmeth, hm, if_false, hurl, hstat, hhost, hu, hall, hrc, beq_self_eq_true, Bool.and_true, Bool.true_and]
    cases hbm : isBodyMethod (methodOf lib f.method) with
    | false => simp
    | true => simp [hbd hbm]
  · intro gv
    show m'.ver = f.req.ver
    rw [hver]
    show mapVer (lib.sdec f.req.ver) = f.req.ver
    simp only [gVer, Bool.or_eq_true, beq_iff_eq] at gv
    rcases gv with h | h
    · rw [h, laws.sdec_ascii v11 ascii_v11, mapVer_v11]
    · rw [h, laws.sdec_ascii v3 ascii_v3, mapVer_v3]

/-- the importer works entry by entry: once the JSON codec has returned the exported entries, what holds between each flow
and the import of its entry holds between the two lists, in order -/
private theorem roundtrip_inOrder {J : Type} {lib : Lib} {js : Json J} (jl : JsonLaw js) (R : Flow → Flow → Prop) :
    ∀ fs : List Flow, (∀ f ∈ fs, ∃ f', importEntry lib (exportEntry lib f) = some f' ∧ R f f') →
      ∃ fs', roundtrip lib js fs = some fs' ∧ InOrder R fs fs' := by
  simp only [roundtrip, jl _]
  intro fs
  induction fs with
  | nil => intro _; exact ⟨[], rfl, InOrder.nil⟩
  | cons f r ih =>
    intro h
    obtain ⟨f', h1, h2⟩ := h f List.mem_cons_self
    obtain ⟨r', hr1, hr2⟩ := ih (fun x hx => h x (List.mem_cons_of_mem _ hx))
    exact ⟨f' :: r', by simp [importAll, h1, hr1], InOrder.cons h2 hr2⟩

/-! ### the theorems -/

/-- **import_export_preserves (partial)**: for every library obeying the codec laws, every JSON codec obeying
`loads ∘ dumps = id` and every list of flows each satisfying the guard (`guardButVer`: not one of the classes
F-C41b…h), exporting and importing succeeds and returns as many flows, in the same order, each agreeing with
its original on method, URL, request header fields apart from Content-Length, request body (POST/PUT/PATCH),
status, response header fields and decoded response body — and on the HTTP version too unless the flow is in
class F-C41a (`gVer`). -/
theorem import_export_preserves_partial {J : Type} (lib : Lib) (js : Json J) (laws : Laws lib) (jl : JsonLaw js)
    (fs : List Flow) (hg : ∀ f ∈ fs, guardButVer lib f = true) :
    ∃ fs', roundtrip lib js fs = some fs' ∧
      InOrder (fun f f' => sameButVer lib f f' = true ∧ (gVer f = true → f'.req.ver = f.req.ver)) fs fs' :=
  roundtrip_inOrder jl _ fs fun f hf => entry_partial laws f (hg f hf)

/-- under the whole guard the full comparison `same` holds -/
theorem import_export_preserves_guarded {J : Type} (lib : Lib) (js : Json J) (laws : Laws lib) (jl : JsonLaw js)
    (fs : List Flow) (hg : ∀ f ∈ fs, guardAll lib f = true) :
    ∃ fs', roundtrip lib js fs = some fs' ∧ InOrder (fun f f' => same lib f f' = true) fs fs' := by
  refine roundtrip_inOrder jl _ fs fun f hf => ?_
  have ga := hg f hf
  simp only [guardAll, Bool.and_eq_true] at ga
  obtain ⟨f', h1, h2, h3⟩ := entry_partial laws f ga.2
  exact ⟨f', h1, by simp [same, h2, h3 ga.1]⟩

private theorem importAll_length {lib : Lib} (es : List Entry) :
    ∀ fs : List Flow, importAll lib es = some fs → fs.length = es.length := by
  induction es with
  | nil => intro fs h; cases h; rfl
  | cons e r ih =>
    intro fs h
    simp only [importAll] at h
    split at h
    · rename_i f r' _ hr
      cases h
      simp [ih r' hr]
    · cases h

/-- whenever the import succeeds it returns as many flows as were exported (that they correspond in order is the `InOrder`
of the guarded theorems) -/
theorem roundtrip_length {J : Type} (lib : Lib) (js : Json J) (jl : JsonLaw js) (fs fs' : List Flow)
    (h : roundtrip lib js fs = some fs') : fs'.length = fs.length := by
  simp only [roundtrip, jl _] at h
  simpa using importAll_length _ fs' h

/-! ### a concrete library (identity codecs) for non-vacuity and the counter-examples -/

def toyLib : Lib where
  sdec := id
  senc := some
  upper := asciiUpper
  b64enc := id
  b64dec := some
  mostlyBin := fun b => b.any (fun x => x.toNat < 9)
  ceDec := fun _ b => some b
  ceEnc := fun _ b => some b
  infer := fun _ _ => L "latin-1"
  csDec := fun _ b => some b
  csEnc := fun _ t => some t
  ctUtf8 := id
  urlHostport := fun _ => some (L "example.com")
  urlPretty := fun u _ => u

def toyJson : Json (List Entry) := ⟨id, some⟩

private theorem asciiUpper_idem (b : Bytes) : asciiUpper (asciiUpper b) = asciiUpper b := by
  have hb : ∀ n : Fin 256, asciiUpperB (asciiUpperB (UInt8.ofNat n.val)) = asciiUpperB (UInt8.ofNat n.val) := by
    decide +kernel
  have hx : ∀ x : UInt8, asciiUpperB (asciiUpperB x) = asciiUpperB x := by
    intro x
    have := hb ⟨x.toNat, UInt8.toNat_lt x⟩
    simpa using this
  simp [asciiUpper, List.map_map, Function.comp_def, hx]

theorem toyLaws : Laws toyLib where
  senc_sdec := fun _ => rfl
  sdec_ascii := fun _ _ => rfl
  method_rt := fun m => ⟨asciiUpper m, rfl, asciiUpper_idem m⟩
  b64 := fun _ => rfl

theorem toyJsonLaw : JsonLaw toyJson := fun _ => rfl

def hdr (k v : String) : Bytes × Bytes := (L k, L v)

/-- a POST over HTTP/1.1 with a Host header, duplicate fields and a correct Content-Length: inside the guard -/
def okFlow : Flow :=
  { method := L "post", purl := L "http://example.com/a?x=1"
    req := ⟨v11, [hdr "Host" "example.com", hdr "X-A" "1", hdr "x-a" "2", hdr "Content-Length" "3"], L "abc"⟩
    status := 200
    resp := ⟨v11, [hdr "Content-Type" "text/plain", hdr "Set-Cookie" "a=b", hdr "Set-Cookie" "c=d", hdr "Content-Length" "5"], L "hello"⟩ }

/-- the guard is satisfiable by a non-trivial flow, and the round trip really returns it -/
example : guardAll toyLib okFlow = true := by decide +kernel
example : (roundtrip toyLib toyJson [okFlow, okFlow]).map (·.length) = some 2 := by decide +kernel
/-- the model's import does reject something (a header the text codec cannot encode, a URL that does not parse) -/
example : importEntry { toyLib with urlHostport := fun _ => none } (exportEntry toyLib okFlow) = none := by decide +kernel

/-- F-C41a: an HTTP/2 flow (mitmproxy writes "HTTP/2.0") comes back as HTTP/1.1 -/
def h2Flow : Flow := { okFlow with req := { okFlow.req with ver := v20 } }
/-- F-C41e: a gzip-coded response loses its Content-Encoding field -/
def ceFlow : Flow := { okFlow with resp := ⟨v11, [hdr "Content-Encoding" "gzip", hdr "Content-Length" "5"], L "hello"⟩ }
/-- F-C41g: a response without Content-Length gains one -/
def clFlow : Flow := { okFlow with resp := ⟨v11, [hdr "Server" "x"], L "hello"⟩ }
/-- F-C41d: a Host header that is not host[:port] of the URL is overwritten -/
def hostFlow : Flow := { okFlow with req := { okFlow.req with hdrs := [hdr "Host" "EXAMPLE.com:80"] } }

def refutes (f : Flow) : Bool :=
  match roundtrip toyLib toyJson [f] with
  | some [f'] => !same toyLib f f'
  | _ => true

/-- the conjuncts e, g, d of the guard each exclude a flow on which the full comparison really fails (`refutes`; with `toyLaws`
that refutes `ImportExportPreserves`, as `refuteWith_of` shows for the conjuncts a, b, c, f, h further down) -/
theorem import_export_preserves_counterexample_coding : refutes ceFlow = true ∧ gNoCE ceFlow = false := by
  simp only [ceFlow, okFlow, hdr, L_ofList]
  decide +kernel
theorem import_export_preserves_counterexample_length : refutes clFlow = true ∧ gRespCL clFlow = false := by
  simp only [clFlow, okFlow, hdr, L_ofList]
  decide +kernel
theorem import_export_preserves_counterexample_host : refutes hostFlow = true ∧ gHost toyLib hostFlow = false := by
  simp only [hostFlow, okFlow, hdr, L_ofList]
  decide +kernel

/-! ### the mitmproxy-side helpers are transcribed (`Model/C41_Lib.lean`), only CPython primitives remain parameters -/

/-- the laws, stated on the primitives -/
structure PrimLaws (p : Prim) : Prop where
  senc_sdec : ∀ b, p.senc (p.sdec b) = some b
  sdec_ascii : ∀ b : Bytes, (∀ x ∈ b, x.toNat < 128) → p.sdec b = b
  method_rt : ∀ m, ∃ m', p.senc (p.upper (p.sdec m)) = some m' ∧ p.upper (p.sdec m') = p.upper (p.sdec m)
  b64 : ∀ b, p.b64dec (p.b64enc b) = some b

theorem laws_of_prim {p : Prim} (h : PrimLaws p) : Laws (mkLib p) :=
  ⟨h.senc_sdec, h.sdec_ascii, h.method_rt, h.b64⟩

/-- **the round trip with `is_mostly_bin`, `infer_content_encoding`, `parse_content_type`/`assemble_content_type`
and set_text's Content-Type rewrite inside the model**: only the text codecs, base64, content codings, str
primitives, three regex searches, the URL library and JSON are parameters. -/
theorem import_export_preserves_transcribed {J : Type} (p : Prim) (js : Json J) (pl : PrimLaws p) (jl : JsonLaw js)
    (fs : List Flow) (hg : ∀ f ∈ fs, guardAll (mkLib p) f = true) :
    ∃ fs', roundtrip (mkLib p) js fs = some fs' ∧ InOrder (fun f f' => same (mkLib p) f f' = true) fs fs' :=
  import_export_preserves_guarded (mkLib p) js (laws_of_prim pl) jl fs hg

/-- no byte-order mark at the start of the content -/
def noBom (c : Bytes) : Bool :=
  !(startsWith c [0x00, 0x00, 0xfe, 0xff] || startsWith c [0xff, 0xfe, 0x00, 0x00] || startsWith c [0xfe, 0xff]
    || startsWith c [0xff, 0xfe] || startsWith c [0xef, 0xbb, 0xbf])

private theorem declared_noBom (p : Prim) (ct : Text) (c : Bytes) (hb : noBom c = true) :
    declaredCharset p ct c = declaredCharset p ct [] := by
  simp only [noBom, Bool.not_eq_true', Bool.or_eq_false_iff] at hb
  obtain ⟨⟨⟨⟨h1, h2⟩, h3⟩, h4⟩, h5⟩ := hb
  have e : ∀ pre : Bytes, pre ≠ [] → startsWith [] pre = false := by
    intro pre hp; cases pre with
    | nil => exact absurd rfl hp
    | cons a r => rfl
  simp [declaredCharset, h1, h2, h3, h4, h5, e]

/-- F-C41f/h characterised, part 1: when the header names a charset and the body has no BOM, the exporter's
content sniffing cannot disagree with the importer's header-only inference -/
theorem infer_header_charset (p : Prim) (ct : Text) (c : Bytes) (hb : noBom c = true)
    (hc : declaredCharset p ct [] ≠ []) : inferT p ct c = inferT p ct [] := by
  have h1 := declared_noBom p ct c hb
  unfold inferT
  simp [orElse, h1, hc]

/-- part 2: without a BOM, sniffing only matters for html, xml and css content types -/
theorem infer_no_sniff (p : Prim) (ct : Text) (c : Bytes) (hb : noBom c = true)
    (hh : isInfix (L "html") ct = false) (hx : isInfix (L "xml") ct = false) (hs : isInfix (L "text/css") ct = false) :
    inferT p ct c = inferT p ct [] := by
  have h1 := declared_noBom p ct c hb
  unfold inferT
  simp [orElse, h1, hh, hx, hs]

/-- the response-text conjunct of the guard follows from: no Content-Encoding, sniffing-independent charset,
and the charset codec round-tripping this body -/
theorem gRespText_of_roundtrip (lib : Lib) (f : Flow) (t : Text)
    (hce : hcontains f.resp.hdrs kCE = false)
    (hi : lib.infer (ctOf lib f.resp) f.resp.body = lib.infer (ctOf lib f.resp) [])
    (hd : lib.csDec (lib.infer (ctOf lib f.resp) []) f.resp.body = some t)
    (he : lib.csEnc (lib.infer (ctOf lib f.resp) []) t = some f.resp.body) : gRespText lib f = true := by
  have hc : getContent lib f.resp = f.resp.body := getContent_noCE lib hce
  have ht : getText lib f.resp = t := by
    unfold getText; simp only [hc, hi, hd]
  simp [gRespText, ht, importText, he]

/-- likewise for the request text of a POST/PUT/PATCH -/
theorem gReqText_of_roundtrip (lib : Lib) (f : Flow) (t : Text)
    (hce : hcontains f.req.hdrs kCE = false)
    (hi : lib.infer (ctOf lib f.req) f.req.body = lib.infer (ctOf lib f.req) [])
    (hd : lib.csDec (lib.infer (ctOf lib f.req) []) f.req.body = some t)
    (he : lib.csEnc (lib.infer (ctOf lib f.req) []) t = some f.req.body)
    (hbm : isBodyMethod (methodOf lib f.method) = true) : gReqText lib f = true := by
  have hc : getContent lib f.req = f.req.body := getContent_noCE lib hce
  have ht : getText lib f.req = t := by
    unfold getText; simp only [hc, hi, hd]
  simp [gReqText, postText, hbm, ht, he]

private theorem cutText_mem (s : Bytes) : ∀ x ∈ cutText s, x ∈ s := by
  intro x hx
  unfold cutText at hx
  split at hx
  · split at hx <;> exact List.mem_of_mem_take hx
  · exact hx

private theorem cutText_ne_nil (s : Bytes) (h : s ≠ []) : cutText s ≠ [] := by
  unfold cutText
  split
  · split
    · rename_i cut hf
      have hm := List.mem_of_find?_eq_some hf
      have h100 : 100 ≤ cut := by
        have := List.mem_range'_1.mp hm; omega
      intro e
      rcases List.take_eq_nil_iff.mp e with c | c
      · omega
      · exact h c
    · intro e
      rcases List.take_eq_nil_iff.mp e with c | c
      · omega
      · exact h c
  · exact h

/-- `is_mostly_bin` never sends a body of printable ASCII (and TAB/LF/CR…) to base64: such bodies take the text path -/
theorem mostlyBin_printable (p : Prim) (s : Bytes) (h : ∀ x ∈ s, isLow x = false ∧ isHigh x = false) :
    mostlyBinT p s = false := by
  unfold mostlyBinT
  by_cases e : s = []
  · simp [e]
  · have hl : (cutText s).countP isLow = 0 := List.countP_eq_zero.mpr (fun x hx => by simp [(h x (cutText_mem s x hx)).1])
    have hh : (cutText s).countP isHigh = 0 := List.countP_eq_zero.mpr (fun x hx => by simp [(h x (cutText_mem s x hx)).2])
    have hn : (cutText s).length > 0 := List.length_pos_iff.mpr (cutText_ne_nil s e)
    simp only [e, if_false, hl, hh, Nat.sub_zero]
    have : 10 * (cutText s).length > 7 * (cutText s).length := by omega
    simp [this]

/-! ### the URL library is transcribed too (`Model/C41_Url.lean`, over the C33 model of `mitmproxy.net.http.url`) -/

section url
open MitmVerif.C33 (Str)

/-- an ASCII string is its own UTF-8 text, code point by code point -/
private theorem toText_ascii (s : Str) (h : ∀ c ∈ s, c < 128) : toText s = s.map UInt8.ofNat := by
  induction s with
  | nil => rfl
  | cons c r ih =>
    have e : toText (c :: r) = UInt8.ofNat c :: toText r := by simp [toText, utf8Enc1, h c List.mem_cons_self]
    rw [e, ih fun x hx => h x (List.mem_cons_of_mem _ hx), List.map_cons]

private theorem toStrF_ascii : ∀ (s : Str) (f : Nat), (∀ c ∈ s, c < 128) → s.length ≤ f → toStrF f (s.map UInt8.ofNat) = s := by
  intro s
  induction s with
  | nil => intro f _ _; cases f <;> rfl
  | cons c r ih =>
    intro f hs hf
    cases f with
    | zero => simp at hf
    | succ f' =>
      have hc : c < 128 := hs c (List.mem_cons_self)
      have hn : (UInt8.ofNat c).toNat = c := by
        simp; omega
      simp only [List.map_cons, toStrF, hn, hc, if_true]
      rw [ih f' (fun x hx => hs x (List.mem_cons_of_mem _ hx)) (by simpa using hf)]

/-- on ASCII strings the two representations of a Python `str` coincide -/
theorem toStr_toText_ascii (s : Str) (h : ∀ c ∈ s, c < 128) : toStr (toText s) = s := by
  unfold toStr
  rw [toText_ascii s h, List.length_map]
  exact toStrF_ascii s _ h (Nat.le_refl _)

/-- `url.parse` only accepts ASCII URLs -/
theorem urlParse_ascii (P : C33.UrlLib) (u : Str) (q : Str × Str × Nat × Str) (h : C33.urlParse P u = some q) :
    ∀ c ∈ u, c < 128 := by
  obtain ⟨s, hh, p, path⟩ := q
  obtain ⟨_, _, _, _, _, _, ha, _⟩ := (C33.urlParse_some P u s hh p path).mp h
  exact ha

/-- **F-C41c as a theorem (1)**: for a request whose URL is `scheme://host[:port]/path` with http/https, a lower-case ASCII
host, a port in 1…65535 and an ASCII path (`GetterUrlOk` of C33), `Request.make(url=…)` parses it and would write exactly
`hostport(scheme, host, port)` into the Host header -/
theorem urlHostport_getter (U : UrlPrim) (r : C33.Req) (ok : MitmVerif.Props.C33.GetterUrlOk (pyOf U) r) :
    urlHostportT U (toText (C33.url r)) = some (toText (C33.hostport r.scheme r.host r.port)) := by
  have hp := MitmVerif.Props.C33.url_parse_reads_getter_url (pyOf U) r ok
  have ha := urlParse_ascii _ _ _ hp
  unfold urlHostportT parseUrl
  rw [toStr_toText_ascii _ ha, hp]; rfl

private theorem prettyPort_portOpt (s : Str) (p : Nat) (hp : 1 ≤ p) :
    prettyPort s (MitmVerif.Props.C33.portOpt s p) = p := by
  unfold prettyPort MitmVerif.Props.C33.portOpt
  by_cases hd : C33.defaultPort s = some p
  · simp [hd]
  · have : p ≠ 0 := by omega
    simp [hd, this]

/-- **F-C41c as a theorem (2)**: the imported request shows the same URL, whether it has no Host header, an empty one, or
the canonical `host[:port]` one -/
theorem urlPretty_getter (U : UrlPrim) (r : C33.Req) (ok : MitmVerif.Props.C33.GetterUrlOk (pyOf U) r) (h : Option Text)
    (hh : h = none ∨ h = some [] ∨
      (h = some (toText (C33.hostport r.scheme r.host r.port)) ∧ U.validAuthHost r.host = true)) :
    urlPrettyT U (toText (C33.url r)) h = toText (C33.url r) := by
  have hp := MitmVerif.Props.C33.url_parse_reads_getter_url (pyOf U) r ok
  have ha := urlParse_ascii _ _ _ hp
  have hform := C33.url_eq_unparse r ok.notConnect ok.pathSlash
  have hne42 : r.path ≠ [42] := by intro e; have := ok.pathSlash; rw [e] at this; simp at this
  unfold urlPrettyT parseUrl
  rw [toStr_toText_ascii _ ha, hp]
  simp only [hne42, if_false]
  rcases hh with rfl | rfl | ⟨rfl, hv⟩
  · simp [hform]
  · simp [hform]
  · -- hostport is ASCII (it is part of the URL) and non-empty
    have hsub : ∀ c ∈ C33.hostport r.scheme r.host r.port, c < 128 := by
      intro c hc
      apply ha c
      rw [hform]; unfold C33.unparse
      simp [hc]
    have hne : toText (C33.hostport r.scheme r.host r.port) ≠ [] := by
      rw [toText_ascii _ hsub]
      exact fun e => C33.hostport_ne _ _ _ ok.host.shape.1 (List.map_eq_nil_iff.mp e)
    have hpa := MitmVerif.Props.C33.parseAuthority_hostport U.validAuthHost r.scheme r.host r.port ok.host.shape hv ok.port.2
    simp only [hne, if_false, toStr_toText_ascii _ hsub, C33.parseAuthorityLoose, hpa, Option.getD_some,
      prettyPort_portOpt r.scheme r.port ok.port.1, hform]

/-- **the URL/Host conjuncts of the guard are theorems** for the library with the URL functions transcribed: if the
flow's `pretty_url` is the rendering of a well-formed request (C33 `GetterUrlOk`) and its Host field is absent or is
exactly `host[:port]`, then `gUrlParse`, `gUrl` and `gHost` hold (F-C41c/d cannot occur). -/
theorem url_guards_of_getter (p : Prim) (U : UrlPrim) (f : Flow) (r : C33.Req)
    (ok : MitmVerif.Props.C33.GetterUrlOk (pyOf U) r)
    (hm : gMethod (mkLibU p U) f = true)
    (hu : f.purl = toText (C33.url r))
    (hh : fieldsOf f.req.hdrs kHost = [] ∨
      (∃ hpB, fieldsOf f.req.hdrs kHost = [hpB] ∧ p.senc (toText (C33.hostport r.scheme r.host r.port)) = some hpB ∧
        p.sdec hpB = toText (C33.hostport r.scheme r.host r.port) ∧ U.validAuthHost r.host = true)) :
    gUrlParse (mkLibU p U) f = true ∧ gUrl (mkLibU p U) f = true ∧ gHost (mkLibU p U) f = true := by
  have hmeth : methodOf (mkLibU p U) f.method ≠ L "CONNECT" := by simpa [gMethod] using hm
  have heu : exportUrl (mkLibU p U) f = toText (C33.url r) := by simp [exportUrl, hmeth, hu]
  have h1 := urlHostport_getter U r ok
  have e1 : (mkLibU p U).urlHostport = urlHostportT U := rfl
  have e2 : (mkLibU p U).urlPretty = urlPrettyT U := rfl
  have e3 : (mkLibU p U).senc = p.senc := rfl
  have e4 : (mkLibU p U).sdec = p.sdec := rfl
  refine ⟨by simp [gUrlParse, heu, e1, h1], ?_, ?_⟩
  · rcases hh with h0 | ⟨hpB, hf, _, hsd, hv⟩
    · have : hget (mkLibU p U) f.req.hdrs kHost = none := by unfold hget; rw [h0]
      have h2 := urlPretty_getter U r ok none (Or.inl rfl)
      simp [gUrl, heu, e2, this, h2, hu]
    · have : hget (mkLibU p U) f.req.hdrs kHost = some (toText (C33.hostport r.scheme r.host r.port)) := by
        unfold hget; rw [hf]; simp [joinCS, e4, hsd]
      have h2 := urlPretty_getter U r ok _ (Or.inr (Or.inr ⟨rfl, hv⟩))
      simp [gUrl, heu, e2, this, h2, hu]
  · rcases hh with h0 | ⟨hpB, hf, hse, _, _⟩
    · have hc : hcontains f.req.hdrs kHost = false := not_contains_iff.mpr h0
      simp [gHost, heu, e1, h1, hc]
    · have hc : hcontains f.req.hdrs kHost = true := by unfold hcontains; rw [hf]; rfl
      simp [gHost, heu, e1, h1, hc, e3, hse, hf]

/-- the guarded round trip with the URL library inside the model as well: the parameters left are the text codecs,
str primitives, UTF-8 validity, base64, content codings, three regex searches, `_check_bracketed_host`, the IDNA codec,
`is_valid_host` and JSON -/
theorem import_export_preserves_url_transcribed {J : Type} (p : Prim) (U : UrlPrim) (js : Json J) (pl : PrimLaws p)
    (jl : JsonLaw js) (fs : List Flow) (hg : ∀ f ∈ fs, guardAll (mkLibU p U) f = true) :
    ∃ fs', roundtrip (mkLibU p U) js fs = some fs' ∧ InOrder (fun f f' => same (mkLibU p U) f f' = true) fs fs' :=
  import_export_preserves_guarded (mkLibU p U) js ⟨pl.senc_sdec, pl.sdec_ascii, pl.method_rt, pl.b64⟩ jl fs hg

end url

/-- a concrete primitive set for non-vacuity (identity codecs) -/
def toyPrim : Prim where
  sdec := id
  senc := some
  upper := asciiUpper
  lower := asciiLower
  strip := fun s => ((s.dropWhile (· == 32)).reverse.dropWhile (· == 32)).reverse
  b64enc := id
  b64dec := some
  utf8Valid := fun b => b.all (fun x => x.toNat < 128)
  ceDec := fun _ b => some b
  ceEnc := fun _ b => some b
  csDec := fun _ b => some b
  csEnc := fun _ t => some t
  reMeta := fun _ => none
  reXml := fun _ => none
  reCss := fun _ => none
  urlHostport := fun _ => some (L "example.com")
  urlPretty := fun u _ => u

theorem toyPrimLaws : PrimLaws toyPrim where
  senc_sdec := fun _ => rfl
  sdec_ascii := fun _ _ => rfl
  method_rt := fun m => ⟨asciiUpper m, rfl, asciiUpper_idem m⟩
  b64 := fun _ => rfl

/-- the transcriptions compute what the Python functions return on familiar inputs -/
example : inferT toyPrim (L "text/html; charset=GBK") [] = L "gb18030" := by decide +kernel
example : inferT toyPrim (L "application/json") (L "{}") = L "utf8" := by decide +kernel
example : inferT toyPrim (L "image/png") (L "x") = L "latin-1" := by decide +kernel
example : inferT toyPrim (L "text/plain; charset=utf-8") [0xff, 0xfe, 0x41, 0x00] = L "utf-16le" := by decide +kernel
example : ctUtf8T toyPrim (L "text/plain; charset=bogus; x=1") = L "text/plain; charset=utf-8; x=1" := by decide +kernel
example : ctUtf8T toyPrim (L "nonsense") = L "text/plain; charset=utf-8" := by decide +kernel
example : mostlyBinT toyPrim [0x00, 0x01, 0x02, 0x41] = true := by decide +kernel
example : mostlyBinT toyPrim (L "hello world") = false := by decide +kernel
/-- the guarded class is inhabited under the transcribed library too, and an HTTP/2 flow is still outside it -/
example : guardAll (mkLib toyPrim) okFlow = true := by decide +kernel
example : guardAll (mkLib toyPrim) h2Flow = false := by decide +kernel

/-- CPython answers for non-vacuity: every bracketed literal / host accepted, IDNA leaves names alone -/
def toyUrl : UrlPrim := ⟨fun _ => true, some, fun _ => true, fun _ => true⟩

def toyReq : C33.Req :=
  { h2 := false, method := C33.S "POST", scheme := C33.S "http", host := C33.S "example.com", port := 8080,
    path := C33.S "/a;p?x=1", hostHeader := none, authority := [] }

/-- the hypotheses of the URL theorems are satisfiable … -/
example : MitmVerif.Props.C33.GetterUrlOk (pyOf toyUrl) toyReq where
  notConnect := by decide +kernel
  scheme := Or.inl rfl
  host := ⟨⟨by decide +kernel, by decide +kernel, by decide +kernel, by decide +kernel⟩, by decide +kernel,
           by decide +kernel, by decide +kernel⟩
  port := by decide
  pathSlash := by decide +kernel
  pathAscii := by decide +kernel
  bracketedOk := fun _ => rfl
  idnaAscii := rfl
  hostValid := rfl
  restStable := by decide +kernel

/-- … and the transcription computes what the Python functions return -/
example : urlHostportT toyUrl (L "http://Example.COM:8080/a;p?x=1") = some (L "example.com:8080") := by decide +kernel
example : urlHostportT toyUrl (L "https://example.com:443/") = some (L "example.com") := by decide +kernel
example : urlHostportT toyUrl (L "http://example.com/" ++ [0xc3, 0xa9]) = none := by decide +kernel
example : urlPrettyT toyUrl (L "http://10.0.0.1:8080/x") (some (L "example.com")) = L "http://example.com/x" := by decide +kernel
example : urlPrettyT toyUrl (L "http://10.0.0.1:8080/x") none = L "http://10.0.0.1:8080/x" := by decide +kernel
example : guardAll (mkLibU toyPrim toyUrl) { okFlow with purl := L "http://example.com/a?x=1" } = true := by decide +kernel
/-- F-C41d inside the transcribed library: `Host: example.com:80` is not what hostport writes -/
example : gHost (mkLibU toyPrim toyUrl) { hostFlow with purl := L "http://example.com/a" } = false := by decide +kernel

/-! ### `is_valid_host`, `_check_bracketed_host` and the IDNA fast paths are transcribed (`Model/C41_Host.lean`,
over `C13.validHostT` and `C22.parseIp`); for DNS-name hosts no library hypothesis is left -/

section host
open MitmVerif.C33 (Str)

/-- a host name given as text: ASCII, no `xn--` label, labels of 1…63 DNS-label characters, at most 255 bytes
(all conditions are computable on the input) -/
structure DnsHost (h : Str) : Prop where
  nonempty : h ≠ []
  ascii : ∀ c ∈ h, c < 128
  noAce : C13.isInfix C13.acePrefix (toText h) = false
  lens : labelsLenOk (toText h) = true
  short : (toText h).length ≤ 255
  labels : (C13.splitDot (C13.stripDot (toText h))).all C13.labelValid = true

private theorem toText_bytes_ascii (s : Str) (h : ∀ c ∈ s, c < 128) : ∀ b ∈ toText s, b.toNat < 128 := by
  intro b hb
  rw [toText_ascii s h] at hb
  obtain ⟨c, hc, rfl⟩ := List.mem_map.mp hb
  have := h c hc
  simp; omega

/-- **the IDNA round trip and `is_valid_host` for a DNS name, computed**: `hostname.encode("idna").decode("idna")` gives
the name back and `is_valid_host` accepts it — the fields `idnaAscii` and `hostValid` of C33's `GetterUrlOk` -/
theorem dns_host_lib_facts (H : HostPrim) (h : Str) (d : DnsHost h) :
    idnaRtT H h = some h ∧ validHostU H h = true := by
  have hasc : isAsciiStr h = true := by
    unfold isAsciiStr; rw [List.all_eq_true]; intro c hc; simpa using d.ascii c hc
  have henc : idnaEncodeT H h = some (toText h) := by
    unfold idnaEncodeT; simp [d.nonempty, hasc, d.lens]
  have hall : (toText h).all (fun b => decide (b.toNat < 128)) = true := by
    rw [List.all_eq_true]; intro b hb; simpa using toText_bytes_ascii h d.ascii b hb
  have htxt : C13.idnaText (idnaLibOf H) (toText h) = some (toText h) := by
    unfold C13.idnaText; simp [d.noAce, hall]
  constructor
  · unfold idnaRtT; rw [henc]; simp [htxt, toStr_toText_ascii h d.ascii]
  · unfold validHostU; rw [henc]
    have hidn : C13.idnaOk (C13.hostLibOf (idnaLibOf H)) (toText h) = true := by
      unfold C13.idnaOk; simp [d.noAce, hall]
    have hlen : ¬ (255 < (toText h).length) := by have := d.short; omega
    show C13.validHost (C13.hostLibOf (idnaLibOf H)) (toText h) = true
    unfold C13.validHost
    simp [hidn, hlen, d.labels]

/-- C33's `GetterUrlOk` for a request to a DNS-name host over the transcribed library: only input properties are left -/
theorem getterUrlOk_of_dns (H : HostPrim) (r : C33.Req)
    (hm : r.method.map C33.upperC ≠ C33.S "CONNECT") (hs : r.scheme = C33.S "http" ∨ r.scheme = C33.S "https")
    (hk : MitmVerif.Props.C33.HostOk r.host) (d : DnsHost r.host) (hcolon : 58 ∉ r.host)
    (hport : 1 ≤ r.port ∧ r.port ≤ 65535) (hslash : r.path.head? = some 47)
    (hpath : ∀ c ∈ r.path, c < 128 ∧ c ≠ 9 ∧ c ≠ 10 ∧ c ≠ 13) (hrest : C33.normRestPy r.scheme r.path = r.path) :
    MitmVerif.Props.C33.GetterUrlOk (pyOf (urlPrimOf H)) r where
  notConnect := hm
  scheme := hs
  host := hk
  port := hport
  pathSlash := hslash
  pathAscii := hpath
  bracketedOk := fun h58 => absurd h58 hcolon
  idnaAscii := (dns_host_lib_facts H r.host d).1
  hostValid := (dns_host_lib_facts H r.host d).2
  restStable := hrest

/-- **F-C41c/d excluded without any library hypothesis**: a flow whose `pretty_url` renders `scheme://name[:port]/path`
(http/https, lower-case DNS name, port 1…65535, ASCII path stable under urlunparse) and whose Host field is absent or
exactly `name[:port]` satisfies the URL, URL-parse and Host conjuncts of the guard, for every choice of the remaining
primitives (text codecs, IDNA slow path). -/
theorem url_guards_of_dns_name (p : Prim) (H : HostPrim) (f : Flow) (r : C33.Req)
    (hm : r.method.map C33.upperC ≠ C33.S "CONNECT") (hs : r.scheme = C33.S "http" ∨ r.scheme = C33.S "https")
    (hk : MitmVerif.Props.C33.HostOk r.host) (d : DnsHost r.host) (hcolon : 58 ∉ r.host)
    (hport : 1 ≤ r.port ∧ r.port ≤ 65535) (hslash : r.path.head? = some 47)
    (hpath : ∀ c ∈ r.path, c < 128 ∧ c ≠ 9 ∧ c ≠ 10 ∧ c ≠ 13) (hrest : C33.normRestPy r.scheme r.path = r.path)
    (hmeth : gMethod (mkLibH p H) f = true) (hu : f.purl = toText (C33.url r))
    (hh : fieldsOf f.req.hdrs kHost = [] ∨
      (∃ hpB, fieldsOf f.req.hdrs kHost = [hpB] ∧ p.senc (toText (C33.hostport r.scheme r.host r.port)) = some hpB ∧
        p.sdec hpB = toText (C33.hostport r.scheme r.host r.port))) :
    gUrlParse (mkLibH p H) f = true ∧ gUrl (mkLibH p H) f = true ∧ gHost (mkLibH p H) f = true := by
  have ok := getterUrlOk_of_dns H r hm hs hk d hcolon hport hslash hpath hrest
  have hv : (urlPrimOf H).validAuthHost r.host = true := (dns_host_lib_facts H r.host d).2
  apply url_guards_of_getter p (urlPrimOf H) f r ok hmeth hu
  rcases hh with h0 | ⟨hpB, a, b, c⟩
  · exact Or.inl h0
  · exact Or.inr ⟨hpB, a, b, c, hv⟩

/-- the guarded round trip over the library with the host checks inside the model: parameters left are the text codecs,
str primitives, UTF-8 validity, base64, content codings, three regex searches, the IDNA slow path and JSON -/
theorem import_export_preserves_host_transcribed {J : Type} (p : Prim) (H : HostPrim) (js : Json J) (pl : PrimLaws p)
    (jl : JsonLaw js) (fs : List Flow) (hg : ∀ f ∈ fs, guardAll (mkLibH p H) f = true) :
    ∃ fs', roundtrip (mkLibH p H) js fs = some fs' ∧ InOrder (fun f f' => same (mkLibH p H) f f' = true) fs fs' :=
  import_export_preserves_url_transcribed p (urlPrimOf H) js pl jl fs hg

/-- IDNA slow path that fails on everything: never asked for names without `xn--` / non-ASCII characters -/
def noHostPrim : HostPrim := ⟨fun _ => none, fun _ => none⟩

example : DnsHost (C33.S "example.com") :=
  ⟨by decide +kernel, by decide +kernel, by decide +kernel, by decide +kernel, by decide +kernel, by decide +kernel⟩
example : validBracketedT (C33.S "::1") = true ∧ validBracketedT (C33.S "1.2.3.4") = false ∧
    validBracketedT (C33.S "vF.a:b") = true ∧ validBracketedT (C33.S "v.x") = false ∧
    validBracketedT (C33.S "fe80::1%eth0") = true := by decide +kernel
example : validHostU noHostPrim (C33.S "a_b.example.") = true ∧ validHostU noHostPrim (C33.S "a..b") = false ∧
    validHostU noHostPrim (C33.S "exa mple.com") = false ∧ validHostU noHostPrim (C33.S "192.0.2.7") = true := by decide +kernel
example : guardAll (mkLibH toyPrim noHostPrim) { okFlow with purl := L "http://example.com/a?x=1" } = true := by decide +kernel
example : urlHostportT (urlPrimOf noHostPrim) (L "http://[::1]:8080/x") = some (L "[::1]:8080") := by decide +kernel
example : urlHostportT (urlPrimOf noHostPrim) (L "http://[1.2.3.4]/x") = none := by decide +kernel

end host

/-! ### witnesses that the guarded round-trip theorems are not vacuous on a list of
    two DIFFERENT flows, and that their conclusion really is the field-by-field agreement (computed, not just implied) -/
/-- a GET without body next to `okFlow`'s POST -/
def okGet : Flow :=
  { method := L "GET", purl := L "http://example.com/b"
    req := ⟨v3, [hdr "Host" "example.com", hdr "Accept" "*/*"], []⟩
    status := 404
    resp := ⟨v11, [hdr "Server" "x", hdr "Content-Length" "2"], L "no"⟩ }
example : guardAll toyLib okGet = true ∧ okGet ≠ okFlow := by decide +kernel
example : (∀ f ∈ [okFlow, okGet], guardAll toyLib f = true) := by decide +kernel
example : (match roundtrip toyLib toyJson [okFlow, okGet] with
    | some [a, b] => same toyLib okFlow a && same toyLib okGet b && !(same toyLib okFlow b)
    | _ => false) = true := by decide +kernel
-- the same two flows over the library with the transcribed helpers
example : (∀ f ∈ [okFlow, okGet], guardAll (mkLib toyPrim) f = true) := by decide +kernel

/-! ### a Lean refutation for the guard conjuncts a, b, c, f, h, so that "the guard excludes exactly the recorded classes"
rests on theorems: with e, g, d above, each of the eight classes has a witness.  (Of the nine conjuncts `gUrl`, the second
half of F-C41c, has none of its own.) -/

section conjuncts

/-- `refutes` for an arbitrary library -/
def refutesWith (lib : Lib) (f : Flow) : Bool :=
  match roundtrip lib toyJson [f] with
  | some [f'] => !same lib f f'
  | _ => true

private theorem refuteWith_of {lib : Lib} (laws : Laws lib) {f : Flow} (h : refutesWith lib f = true) :
    ¬ ImportExportPreserves := by
  intro hp
  obtain ⟨fs', h1, h2⟩ := hp _ lib toyJson laws toyJsonLaw [f]
  unfold refutesWith at h
  rw [h1] at h
  cases h2 with
  | cons hab hr =>
    cases hr
    simp [hab] at h

/-- a library whose URL parser rejects everything (an IDN / non-ASCII URL for the real one) -/
def noUrlLib : Lib := { toyLib with urlHostport := fun _ => none }
/-- a library whose charset encoder is not the inverse of its decoder (content sniffing, BOMs, undecodable bytes for the real one) -/
def lossyLib : Lib := { toyLib with csEnc := fun _ t => some (t.map fun _ => 0x3f) }

/-- **counter-example** to the full statement (F-C41a, HTTP version) -/
theorem import_export_preserves_counterexample : ¬ ImportExportPreserves :=
  refuteWith_of toyLaws (f := h2Flow) (by simp only [h2Flow, okFlow, hdr, L_ofList]; decide +kernel)

theorem noUrlLaws : Laws noUrlLib := ⟨toyLaws.senc_sdec, toyLaws.sdec_ascii, toyLaws.method_rt, toyLaws.b64⟩
theorem lossyLaws : Laws lossyLib := ⟨toyLaws.senc_sdec, toyLaws.sdec_ascii, toyLaws.method_rt, toyLaws.b64⟩

/-- F-C41b: a CONNECT flow comes back with an empty URL -/
def connectFlow : Flow := { okFlow with method := L "connect" }

theorem import_export_preserves_counterexample_connect :
    refutes connectFlow = true ∧ gMethod toyLib connectFlow = false ∧ ¬ ImportExportPreserves := by
  have h : refutes connectFlow = true ∧ gMethod toyLib connectFlow = false := by
    simp only [connectFlow, okFlow, hdr, L_ofList]
    decide +kernel
  exact ⟨h.1, h.2, refuteWith_of toyLaws (f := connectFlow) h.1⟩

/-- F-C41c: a URL the importer cannot parse loses the whole file -/
theorem import_export_preserves_counterexample_urlparse :
    refutesWith noUrlLib okFlow = true ∧ gUrlParse noUrlLib okFlow = false ∧ ¬ ImportExportPreserves := by
  have h : refutesWith noUrlLib okFlow = true ∧ gUrlParse noUrlLib okFlow = false := by
    simp only [okFlow, hdr, L_ofList]
    decide +kernel
  exact ⟨h.1, h.2, refuteWith_of noUrlLaws h.1⟩

/-- F-C41f: a POST body whose text does not re-encode to the same bytes is changed -/
theorem import_export_preserves_counterexample_reqtext :
    refutesWith lossyLib okFlow = true ∧ gReqText lossyLib okFlow = false ∧ ¬ ImportExportPreserves := by
  have h : refutesWith lossyLib okFlow = true ∧ gReqText lossyLib okFlow = false := by
    simp only [okFlow, hdr, L_ofList]
    decide +kernel
  exact ⟨h.1, h.2, refuteWith_of lossyLaws h.1⟩

/-- F-C41h: the same for a response body exported as text (a GET, so that only the response side is concerned) -/
def getFlow : Flow := { okFlow with method := L "GET", req := ⟨v11, [hdr "Host" "example.com"], []⟩ }

theorem import_export_preserves_counterexample_resptext :
    refutesWith lossyLib getFlow = true ∧ gRespText lossyLib getFlow = false ∧ gReqText lossyLib getFlow = true ∧
      ¬ ImportExportPreserves := by
  have h : refutesWith lossyLib getFlow = true ∧ gRespText lossyLib getFlow = false ∧ gReqText lossyLib getFlow = true := by
    simp only [getFlow, okFlow, hdr, L_ofList]
    decide +kernel
  exact ⟨h.1, h.2.1, h.2.2, refuteWith_of lossyLaws h.1⟩

end conjuncts

end MitmVerif.Props.C41
