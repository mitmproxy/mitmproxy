/-
  C52 — property theorems for the model of `mitmproxy/addons/serverplayback.py` (Model/C52.lean), in two parts.

  First part (the `section`): over ALL histories `es` (loads, adds, clears, changes of the matching options,
  requests with arbitrary reuse/extra settings) starting from the freshly created addon, and over an
  arbitrary key function `hash` (the options-dependent matching key). `s.recorded` is the list of
  not-yet-served recordings in recording order (`pending_in_recording_order`), and the theorems speak of it, not of
  `flowmap`: by the invariant `Inv` (Lemmas/C52) every bucket of `flowmap` is the pending recordings with that key in
  recording order, and `request_spec` (Lemmas/C52) says what one request does in those terms. Everything about the
  outcome of one request comes from `request_spec` (through `request_out` and `serves_first_match`), everything about
  counts and order over a history from `runFrom_spec`.

  Second part: the key function of the code, `keyOf` (`_hash` before `repr` / SHA-256, whose injectivity is trusted).
  `key_eq_iff_fields` reads a key equality as agreement on the non-ignored request parts (`Agree`), and
  `agreeing_request_served_next` instantiates the first part with it. What the library parsers deliver (query,
  urlencoded form, boundary) are fields of `ReqF`; `decode_multipart` and `Headers.get` are inside the model.
-/
import MitmVerif.Lemmas.C52
set_option linter.unusedSectionVars false
namespace MitmVerif.Props.C52
open MitmVerif MitmVerif.C52

section
variable {O Req Key : Type} [DecidableEq Req] [DecidableEq Key] (hash : O → Req → Key)

/-- every HTTP recording handed to `load_flows`/`add_flows` in the history, in order -/
def loadedOf : List (Event O Req) → List (Rec Req)
  | [] => []
  | .load rs :: es => rs.filter (·.isHttp) ++ loadedOf es
  | .add rs :: es => rs.filter (·.isHttp) ++ loadedOf es
  | _ :: es => loadedOf es

/-- the recordings served by a list of request outcomes, in order -/
def servedOf : List (Outcome Req) → List (Rec Req)
  | [] => []
  | .served r :: os => r :: servedOf os
  | _ :: os => servedOf os

/-- no request of the history runs with `server_replay_reuse` / `server_replay_nopop` -/
def NoReuse (es : List (Event O Req)) : Prop := ∀ q c, Event.request q c ∈ es → (c.reuse || c.nopop) = false

private theorem unmatched_ne (c : RCfg) :
    (∀ r, (unmatched c : Outcome Req) ≠ .served r) ∧ (unmatched c : Outcome Req) ≠ .crash := by
  unfold unmatched; split
  · simp
  · split <;> simp

private theorem inv_step {s : State O Req Key} (h : Inv hash s) (e : Event O Req) : Inv hash (step hash s e).1 := by
  cases e with
  | load rs => exact inv_loadFlows hash s rs
  | add rs => exact inv_addFlows hash h rs
  | clear => exact inv_empty hash s.opts
  | configure o => exact inv_configure hash s o
  | request q c => exact (request_spec hash h q c).1
  | edit k c => exact h

/-- the pending list after a request is a sub-list (same order) of the pending list before it -/
private theorem request_sublist {s : State O Req Key} (h : Inv hash s) (q : Req) (c : RCfg) :
    (request hash s q c).1.recorded.Sublist s.recorded := by
  cases hc : (c.reuse || c.nopop) with
  | true => rw [(request_spec hash h q c).2.1 hc]; exact List.Sublist.refl _
  | false => rw [(request_spec hash h q c).2.2.1 hc]; exact popKey_sublist _ _

/-- **the outcome of a request**, with or without reuse: the first pending recording (recording order) with an equal
    key and a response is served; if there is none the request is forwarded while nothing is pending, and treated as
    configured otherwise -/
private theorem request_out {s : State O Req Key} (h : Inv hash s) (q : Req) (c : RCfg) :
    (request hash s q c).2 =
      match s.recorded.find? (fun x => decide (hash s.opts x.req = hash s.opts q) && x.hasResp) with
      | some r => .served r
      | none => if s.recorded = [] then .forwarded else unmatched c :=
  (request_spec hash h q c).2.2.2

/-- a request does not crash, and what it adds to the served recordings is the first pending match, if there is one -/
private theorem request_served {s : State O Req Key} (h : Inv hash s) (q : Req) (c : RCfg) :
    (request hash s q c).2 ≠ .crash ∧ ∀ os, servedOf ((request hash s q c).2 :: os) =
      (s.recorded.find? (fun x => sameKey hash s.opts q x && x.hasResp)).toList ++ servedOf os := by
  rw [(request_spec hash h q c).2.2.2]
  cases s.recorded.find? (fun x => sameKey hash s.opts q x && x.hasResp) with
  | some r => exact ⟨nofun, fun _ => rfl⟩
  | none =>
    dsimp only
    split
    · exact ⟨nofun, fun _ => rfl⟩
    · refine ⟨(unmatched_ne c).2, fun os => ?_⟩
      simp only [unmatched]
      repeat' split
      all_goals rfl

/-- **one history**, from any state that satisfies the invariant: the invariant holds at the end, no request crashes,
    what is pending at the end is a sub-list (order kept) of what was pending followed by what was loaded, and without
    reuse a recording is served and left pending together at most as often as it was pending or loaded -/
private theorem runFrom_spec {s : State O Req Key} (h : Inv hash s) (es : List (Event O Req)) :
    Inv hash (runFrom hash s es).1 ∧ Outcome.crash ∉ (runFrom hash s es).2 ∧
    (runFrom hash s es).1.recorded.Sublist (s.recorded ++ loadedOf es) ∧
    (NoReuse es → ∀ r, (servedOf (runFrom hash s es).2).count r + (runFrom hash s es).1.recorded.count r
        ≤ s.recorded.count r + (loadedOf es).count r) := by
  induction es generalizing s with
  | nil => exact ⟨h, by simp [runFrom], by simp [runFrom, loadedOf], fun _ r => by simp [runFrom, servedOf, loadedOf]⟩
  | cons e es ih =>
    obtain ⟨hi, hcr, hsub, hcnt⟩ := ih (inv_step hash h e)
    replace hcnt := fun hn : NoReuse (e :: es) => hcnt fun q c hm => hn q c (List.mem_cons_of_mem _ hm)
    simp only [runFrom]
    cases e with
    | request q c =>
      obtain ⟨hnc, hso⟩ := request_served hash h q c
      simp only [step, loadedOf] at hi hcr hsub hcnt ⊢
      refine ⟨hi, by simp [hnc.symm, hcr], hsub.trans ((request_sublist hash h q c).append (.refl _)), fun hn r => ?_⟩
      have := hcnt hn r
      rw [(request_spec hash h q c).2.2.1 (hn q c (List.mem_cons_self ..))] at this
      rw [hso, List.count_append]
      have := popKey_count (sameKey hash s.opts q) s.recorded r
      omega
    | _ =>
      -- the other events serve nothing; they keep the pending list, append what they load to it, or replace it by what they load
      simp only [step, loadFlows_recorded, addFlows_recorded, MitmVerif.C52.clear, configure_recorded hash h, loadedOf,
        List.append_assoc, List.nil_append, List.count_append, List.count_nil] at hi hcr hsub hcnt ⊢
      exact ⟨hi, hcr, hsub.trans (by simp), fun hn r => by have := hcnt hn r; omega⟩

private theorem inv_run (o : O) (es : List (Event O Req)) : Inv hash (run hash o es).1 :=
  (runFrom_spec hash (inv_empty hash o) es).1

/-- `recorded` really is "the not yet served recordings in recording order": it is a sub-list (order kept)
    of everything that was loaded, in loading order -/
theorem pending_in_recording_order (o : O) (es : List (Event O Req)) :
    (run hash o es).1.recorded.Sublist (loadedOf es) :=
  (runFrom_spec hash (inv_empty hash o) es).2.2.1

/-- **the next unused recording for the key is served** (with or without reuse, after any history): the request is
    answered with `r` exactly when `r` is the first pending recording, in recording order, that has a response and
    whose key equals the request's key. -/
theorem serves_first_match (o : O) (es : List (Event O Req)) (q : Req) (c : RCfg) (r : Rec Req) :
    let s := (run hash o es).1
    (request hash s q c).2 = .served r ↔
      s.recorded.find? (fun x => decide (hash s.opts x.req = hash s.opts q) && x.hasResp) = some r := by
  intro s
  rw [request_out hash (inv_run hash o es) q c]
  cases s.recorded.find? (fun x => decide (hash s.opts x.req = hash s.opts q) && x.hasResp) with
  | some r' => simp
  | none =>
    show (if s.recorded = [] then Outcome.forwarded else unmatched c) = .served r ↔ _
    refine ⟨fun h' => ?_, nofun⟩
    split at h'
    · cases h'
    · exact absurd h' ((unmatched_ne c).1 r)

/-- **served only if keys equal**: whatever happened before, a request is answered with recording `r` only if
    `r` is a pending recording that has a response and whose matching key (under the current options) equals
    the key of the request. -/
theorem served_only_if_keys_equal (o : O) (es : List (Event O Req)) (q : Req) (c : RCfg) (r : Rec Req) :
    let s := (run hash o es).1
    (request hash s q c).2 = .served r →
      r ∈ s.recorded ∧ r.hasResp = true ∧ hash s.opts r.req = hash s.opts q := by
  intro s hs
  have hf := (serves_first_match hash o es q c r).mp hs
  have hp := List.find?_some hf
  simp only [Bool.and_eq_true, decide_eq_true_eq] at hp
  exact ⟨List.mem_of_find?_eq_some hf, hp.2, hp.1⟩

/-- **at most once without reuse**: in a history without reuse, every recording is served at most as often
    as it was loaded (so a recording loaded once is served at most once). -/
theorem at_most_once_without_reuse (o : O) (es : List (Event O Req)) (hnr : NoReuse es) (r : Rec Req) :
    (servedOf (run hash o es).2).count r ≤ (loadedOf es).count r := by
  have := (runFrom_spec hash (inv_empty hash o) es).2.2.2 hnr r
  simp only [List.count_nil, Nat.zero_add] at this
  exact Nat.le_of_add_right_le this

/-- **equal keys in recording order**: without reuse, the recording served to a request is the first pending
    recording, in recording order, whose key equals the request's key and that has a response; afterwards it
    (and the response-less recordings with that key recorded before it) are no longer pending, everything
    else stays pending in the same order. -/
theorem equal_keys_in_recording_order (o : O) (es : List (Event O Req)) (q : Req) (c : RCfg) (r : Rec Req)
    (hc : (c.reuse || c.nopop) = false) :
    let s := (run hash o es).1
    (request hash s q c).2 = .served r →
      ∃ pre post, s.recorded = pre ++ r :: post ∧
        (∀ x ∈ pre, ¬ (hash s.opts x.req = hash s.opts q ∧ x.hasResp = true)) ∧
        (request hash s q c).1.recorded
          = pre.filter (fun x => decide (hash s.opts x.req ≠ hash s.opts q)) ++ post := by
  intro s hs
  obtain ⟨hp, pre, post, e1, hpre⟩ := List.find?_eq_some_iff_append.mp ((serves_first_match hash o es q c r).mp hs)
  refine ⟨pre, post, e1, fun x hx hh => ?_, ?_⟩
  · exact absurd hh.1 (by simpa [hh.2] using hpre x hx)
  · rw [(request_spec hash (inv_run hash o es) q c).2.2.1 hc, e1, popKey_append (sameKey hash s.opts q) pre post r hpre hp]
    congr 1
    apply List.filter_congr
    intro x _; simp [sameKey]

/-- **reuse serves the first**: with reuse the state is unchanged and the request is served exactly the first
    pending recording (recording order) with an equal key and a response. -/
theorem reuse_serves_first (o : O) (es : List (Event O Req)) (q : Req) (c : RCfg)
    (hc : (c.reuse || c.nopop) = true) :
    let s := (run hash o es).1
    (request hash s q c).1 = s ∧
    ∀ r, (request hash s q c).2 = .served r ↔
      s.recorded.find? (fun x => decide (hash s.opts x.req = hash s.opts q) && x.hasResp) = some r := by
  intro s
  exact ⟨(request_spec hash (inv_run hash o es) q c).2.1 hc, fun r => serves_first_match hash o es q c r⟩

/-- **unmatched as configured** (and matched requests are served): replay inactive ⇒ the request is forwarded
    untouched; active and no pending recording with an equal key and a response ⇒ killed / status / forwarded
    exactly as configured (`unmatched`, spelled out in `unmatched_table`); otherwise some recording is served. -/
theorem unmatched_as_configured (o : O) (es : List (Event O Req)) (q : Req) (c : RCfg) :
    let s := (run hash o es).1
    let matching := ∃ x ∈ s.recorded, hash s.opts x.req = hash s.opts q ∧ x.hasResp = true
    (s.recorded = [] → request hash s q c = (s, .forwarded)) ∧
    (s.recorded ≠ [] → ¬ matching → (request hash s q c).2 = unmatched c) ∧
    (matching → ∃ r, (request hash s q c).2 = .served r) := by
  intro s matching
  have h : Inv hash s := inv_run hash o es
  have ho := request_out hash h q c
  refine ⟨fun hr => request_inactive hash h hr q c, fun hr hnm => ?_, fun ⟨x, hx, hk, hxr⟩ => ?_⟩
  · rw [ho]
    cases hf : s.recorded.find? (fun x => decide (hash s.opts x.req = hash s.opts q) && x.hasResp) with
    | none => exact if_neg hr
    | some r =>
      have hp := List.find?_some hf
      simp only [Bool.and_eq_true, decide_eq_true_eq] at hp
      exact absurd ⟨r, List.mem_of_find?_eq_some hf, hp⟩ hnm
  · rw [ho]
    cases hf : s.recorded.find? (fun x => decide (hash s.opts x.req = hash s.opts q) && x.hasResp) with
    | none => exact absurd (List.find?_eq_none.mp hf x hx) (by simp [hk, hxr])
    | some r => exact ⟨r, rfl⟩

/-- **what is served is the recording as it was loaded** — in every history, including histories in which later
    addons rewrite responses that were served earlier (`Event.edit`): an `edit` never changes the addon's state (by the
    definition of `step`: the model has no write path into a recording; that the code hands out copies is not proved
    here), and every response that is served is the value (`resp` included) of a recording exactly as it was handed to
    `load_flows` / `add_flows`.  Serving never changes a recording: the pending list only ever loses elements. -/
theorem served_response_is_recorded (o : O) (es : List (Event O Req)) :
    (∀ s k c, step hash s (.edit k c) = (s, none)) ∧
    (∀ q c r, (request hash (run hash o es).1 q c).2 = .served r → r ∈ loadedOf es) ∧
    (∀ q c, (request hash (run hash o es).1 q c).1.recorded.Sublist (run hash o es).1.recorded) := by
  refine ⟨fun _ _ _ => rfl, ?_, fun q c => request_sublist hash (inv_run hash o es) q c⟩
  intro q c r hs
  exact (pending_in_recording_order hash o es).subset ((served_only_if_keys_equal hash o es q c r hs).1)

/-- the configured treatment of unmatched requests, spelled out -/
theorem unmatched_table (c : RCfg) :
    ((c.killExtra = true ∨ c.extra = .kill) → (unmatched c : Outcome Req) = .killed) ∧
    (c.killExtra = false → ∀ n, c.extra = .status n → (unmatched c : Outcome Req) = .status n) ∧
    (c.killExtra = false → c.extra = .forward → (unmatched c : Outcome Req) = .forwarded) := by
  refine ⟨?_, ?_, ?_⟩
  · rintro (h | h) <;> simp [unmatched, h]
  · intro h n hn; simp [unmatched, h, hn]
  · intro h hn; simp [unmatched, h, hn]

/-- **re-index preserves the multiset**: after a change of the matching options the pending recordings are the
    same list (same order), the contents of `flowmap` are a permutation of what they were, `count()` is unchanged
    — nothing lost, nothing duplicated. -/
theorem reindex_preserves_multiset (o : O) (es : List (Event O Req)) (o' : O) :
    let s := (run hash o es).1
    let s' := configure hash s o'
    s'.recorded = s.recorded ∧
    (s'.flowmap.flatMap (·.2)).Perm (s.flowmap.flatMap (·.2)) ∧
    (s'.flowmap.flatMap (·.2)).Perm s.recorded ∧
    count s' = count s := by
  intro s s'
  have h : Inv hash s := inv_run hash o es
  have h' : Inv hash s' := inv_configure hash s o'
  have hrec : s'.recorded = s.recorded := configure_recorded hash h o'
  have p : (s.flowmap.flatMap (·.2)).Perm s.recorded := flatten_perm hash s.opts _ _ h.nodup h.look
  have p' : (s'.flowmap.flatMap (·.2)).Perm s'.recorded := flatten_perm hash s'.opts _ _ h'.nodup h'.look
  rw [hrec] at p'
  refine ⟨hrec, p'.trans p.symm, p', ?_⟩
  rw [count_eq_length, count_eq_length]
  exact (p'.trans p.symm).length_eq

/-- **never crashes**: in no history does `next_flow` pop from an empty list -/
theorem never_crashes (o : O) (es : List (Event O Req)) : Outcome.crash ∉ (run hash o es).2 :=
  (runFrom_spec hash (inv_empty hash o) es).2.1

end

/-- a part of the key that an option can blank out is compared only when the option is off -/
private theorem ite_none_some_inj {α : Type} (b : Bool) (x y : α) :
    ((if b then none else some x) = (if b then none else some y)) ↔ (b = false → x = y) := by
  cases b <;> simp

/-- **the matching key**: two requests have the same key under options `o` iff they agree on method, scheme,
    path, the query parameters not ignored, and — unless ignored — host, port and content (the body, or the
    non-ignored form fields when payload parameters are ignored and the request carries a form), plus the
    configured headers. -/
theorem key_eq_iff_fields (o : HashOpts) (a b : ReqF) :
    keyOf o a = keyOf o b ↔
      a.scheme = b.scheme ∧ a.method = b.method ∧ a.path = b.path ∧
      a.query.filter (fun p => !o.ignoreParams.contains p.1) = b.query.filter (fun p => !o.ignoreParams.contains p.1) ∧
      (o.ignoreHost = false → a.host = b.host) ∧
      (o.ignorePort = false → a.port = b.port) ∧
      (o.ignoreContent = false → contentOf o a = contentOf o b) ∧
      (∀ i ∈ o.useHeaders, hdrGet a.headers i = hdrGet b.headers i) := by
  have hh : (o.useHeaders.isEmpty = false → o.useHeaders.map (fun i => (i, hdrGet a.headers i))
      = o.useHeaders.map (fun i => (i, hdrGet b.headers i))) ↔ ∀ i ∈ o.useHeaders, hdrGet a.headers i = hdrGet b.headers i := by
    rw [List.map_inj_left]
    cases o.useHeaders <;> simp
  unfold keyOf
  rw [MKey.mk.injEq, ite_none_some_inj, ite_none_some_inj, ite_none_some_inj, ite_none_some_inj, hh]
  constructor
  · rintro ⟨h1, h2, h3, h4, h5, h6, h7, h8⟩; exact ⟨h1, h2, h3, h7, h5, h6, h4, h8⟩
  · rintro ⟨h1, h2, h3, h4, h5, h6, h7, h8⟩; exact ⟨h1, h2, h3, h7, h5, h6, h4, h8⟩

/-- the statement's notion of a matching request, spelled out on the request parts: `a` and `b` agree on every part
    that the options `o` do not ignore -/
def Agree (o : HashOpts) (a b : ReqF) : Prop :=
  a.scheme = b.scheme ∧ a.method = b.method ∧ a.path = b.path ∧
  a.query.filter (fun p => !o.ignoreParams.contains p.1) = b.query.filter (fun p => !o.ignoreParams.contains p.1) ∧
  (o.ignoreHost = false → a.host = b.host) ∧
  (o.ignorePort = false → a.port = b.port) ∧
  (o.ignoreContent = false → contentOf o a = contentOf o b) ∧
  (∀ i ∈ o.useHeaders, hdrGet a.headers i = hdrGet b.headers i)

/-- requests that agree on all non-ignored parts have the same key — for every option combination -/
theorem agreeing_parts_same_key (o : HashOpts) (a b : ReqF) : Agree o a b ↔ keyOf o a = keyOf o b :=
  (key_eq_iff_fields o a b).symm

/-- without payload parameters to ignore, or without any form, the content is the raw body -/
private theorem contentOf_body (o : HashOpts) (r : ReqF)
    (h : o.ignorePayloadParams = [] ∨ (r.multipart = [] ∧ r.urlencoded = [])) : contentOf o r = .body r.body := by
  unfold contentOf
  rcases h with h | ⟨h1, h2⟩
  · rw [h]; rfl
  · rw [h1, h2]
    simp only [List.isEmpty_nil, Bool.not_true, Bool.and_false, Bool.false_eq_true, if_false]

/-- a multipart form takes precedence: its non-ignored fields, tagged `true` -/
private theorem contentOf_multipart (o : HashOpts) (r : ReqF) (h : o.ignorePayloadParams ≠ []) (hm : r.multipart ≠ []) :
    contentOf o r = .form ((r.multipart.filter (fun p => !o.ignorePayloadParams.contains p.1)).map
      (fun p => (true, p.1, p.2))) := by
  unfold contentOf
  rw [List.isEmpty_eq_false_iff.mpr h, List.isEmpty_eq_false_iff.mpr hm]; rfl

/-- otherwise a urlencoded form: its non-ignored fields, tagged `false` -/
private theorem contentOf_urlencoded (o : HashOpts) (r : ReqF) (h : o.ignorePayloadParams ≠ []) (hm : r.multipart = [])
    (hu : r.urlencoded ≠ []) :
    contentOf o r = .form ((r.urlencoded.filter (fun p => !o.ignorePayloadParams.contains p.1)).map
      (fun p => (false, p.1, p.2))) := by
  unfold contentOf
  rw [List.isEmpty_eq_false_iff.mpr h, List.isEmpty_eq_false_iff.mpr hu, hm]; rfl

/-- what "agree on the content" means under each payload option: with payload parameters to ignore and a
    non-empty form of the same kind, the non-ignored form fields must agree (two forms whose fields are all ignored
    agree whatever their kind); otherwise the raw bodies must be equal -/
theorem content_agree_cases (o : HashOpts) (a b : ReqF) :
    (o.ignorePayloadParams = [] → (contentOf o a = contentOf o b ↔ a.body = b.body)) ∧
    (o.ignorePayloadParams ≠ [] → a.multipart ≠ [] → b.multipart ≠ [] →
      (contentOf o a = contentOf o b ↔
        a.multipart.filter (fun p => !o.ignorePayloadParams.contains p.1)
          = b.multipart.filter (fun p => !o.ignorePayloadParams.contains p.1))) ∧
    (o.ignorePayloadParams ≠ [] → a.multipart = [] → b.multipart = [] → a.urlencoded ≠ [] → b.urlencoded ≠ [] →
      (contentOf o a = contentOf o b ↔
        a.urlencoded.filter (fun p => !o.ignorePayloadParams.contains p.1)
          = b.urlencoded.filter (fun p => !o.ignorePayloadParams.contains p.1))) ∧
    (a.multipart = [] → a.urlencoded = [] → b.multipart = [] → b.urlencoded = [] →
      (contentOf o a = contentOf o b ↔ a.body = b.body)) := by
  have inj (t : Bool) (l1 l2 : List (Bytes × Bytes)) :
      l1.map (fun p => (t, p.1, p.2)) = l2.map (fun p => (t, p.1, p.2)) ↔ l1 = l2 :=
    List.map_inj_right fun x y h => Prod.ext (congrArg (·.2.1) h) (congrArg (·.2.2) h)
  refine ⟨fun h => ?_, fun h ha hb => ?_, fun h ha hb hua hub => ?_, fun h1 h2 h3 h4 => ?_⟩
  · rw [contentOf_body o a (.inl h), contentOf_body o b (.inl h), Content.body.injEq]
  · rw [contentOf_multipart o a h ha, contentOf_multipart o b h hb, Content.form.injEq]; exact inj true _ _
  · rw [contentOf_urlencoded o a h ha hua, contentOf_urlencoded o b h hb hub, Content.form.injEq]; exact inj false _ _
  · rw [contentOf_body o a (.inr ⟨h1, h2⟩), contentOf_body o b (.inr ⟨h3, h4⟩), Content.body.injEq]

/-- **requests that differ in a non-ignored form field never share a key** (so a recording is not served to them):
    with payload parameters to ignore, the content not ignored and a non-empty multipart form on both sides, different
    lists of non-ignored fields give different keys — whatever the other request parts and the ignored fields are. -/
theorem differing_field_different_key (o : HashOpts) (a b : ReqF) (hc : o.ignoreContent = false)
    (hp : o.ignorePayloadParams ≠ []) (ha : a.multipart ≠ []) (hb : b.multipart ≠ [])
    (hd : a.multipart.filter (fun p => !o.ignorePayloadParams.contains p.1)
          ≠ b.multipart.filter (fun p => !o.ignorePayloadParams.contains p.1)) :
    keyOf o a ≠ keyOf o b := by
  intro h
  have hag := (agreeing_parts_same_key o a b).mpr h
  have hcont := hag.2.2.2.2.2.2.1 hc
  exact hd (((content_agree_cases o a b).2.1 hp ha hb).mp hcont)

/-- **header lookup inside the model** (`Headers.get`): the configured header names are matched case-insensitively, a
    request without the header has the value `None`, and two fields of the same name are folded in order with ", " (the
    folding is stated for a list of two fields only). -/
theorem header_lookup_spec (hs : List (Bytes × Bytes)) (n n' : Bytes) :
    (asciiLower n = asciiLower n' → hdrGet hs n = hdrGet hs n') ∧
    (hdrGet hs n = none ↔ ∀ p ∈ hs, asciiLower p.1 ≠ asciiLower n) ∧
    (∀ v w, hdrGet [(n, v), (n', w)] n = if asciiLower n' = asciiLower n then some (v ++ [44, 32] ++ w) else some v) := by
  refine ⟨fun h => by unfold hdrGet; rw [h], ?_, fun v w => ?_⟩
  · have hnil : (hs.filter (fun p => asciiLower p.1 == asciiLower n)).map (·.2) = [] ↔
        ∀ p ∈ hs, asciiLower p.1 ≠ asciiLower n := by
      rw [List.map_eq_nil_iff, List.filter_eq_nil_iff]
      exact forall₂_congr fun p _ => by rw [beq_iff_eq]
    unfold hdrGet
    rw [← hnil]
    cases (hs.filter (fun p => asciiLower p.1 == asciiLower n)).map (·.2) <;> simp
  · by_cases h : asciiLower n' = asciiLower n <;> simp [hdrGet, h, joinCommaSpace]

/-- **the property with the real key**: instantiate the replay model with `keyOf` (the transcription of `_hash`'s
    field selection).  After ANY history of loads / adds / clears / option changes / requests and for EVERY option
    combination, a request `q` is answered with recording `r` exactly when `r` is the first pending recording, in
    recording order, that has a response and agrees with `q` on all parts that the current options do not ignore. -/
theorem agreeing_request_served_next (o : HashOpts) (es : List (Event HashOpts ReqF)) (q : ReqF) (c : RCfg)
    (r : Rec ReqF) :
    let s := (run keyOf o es).1
    (request keyOf s q c).2 = .served r ↔
      ∃ pre post, s.recorded = pre ++ r :: post ∧ r.hasResp = true ∧ Agree s.opts r.req q ∧
        ∀ x ∈ pre, ¬ (Agree s.opts x.req q ∧ x.hasResp = true) := by
  intro s
  have hsf : (request keyOf s q c).2 = .served r ↔
      s.recorded.find? (fun x => decide (keyOf s.opts x.req = keyOf s.opts q) && x.hasResp) = some r :=
    serves_first_match keyOf o es q c r
  rw [hsf, List.find?_eq_some_iff_append]
  simp only [agreeing_parts_same_key, Bool.not_eq_true', ← Bool.not_eq_true, Bool.and_eq_true, decide_eq_true_eq]
  constructor
  · rintro ⟨⟨hk, hrr⟩, pre, post, e, hpre⟩
    exact ⟨pre, post, e, hrr, hk, hpre⟩
  · rintro ⟨pre, post, e, hrr, hk, hpre⟩
    exact ⟨⟨hk, hrr⟩, pre, post, e, hpre⟩

/-- … and with the real key a recording is served only to a request that agrees with it on all non-ignored parts -/
theorem served_only_if_parts_agree (o : HashOpts) (es : List (Event HashOpts ReqF)) (q : ReqF) (c : RCfg)
    (r : Rec ReqF) :
    let s := (run keyOf o es).1
    (request keyOf s q c).2 = .served r → Agree s.opts r.req q := by
  intro s h
  obtain ⟨_, _, _, _, ha, _⟩ := (agreeing_request_served_next o es q c r).mp h
  exact ha

/-! ### the models are not vacuous -/
section
private def h0 : Nat → Nat → Nat := fun o r => if o = 0 then r else 0
private def r1 : Rec Nat := ⟨1, 10, true, true, 101⟩
private def r2 : Rec Nat := ⟨2, 20, true, true, 102⟩
private def r3 : Rec Nat := ⟨3, 10, true, true, 103⟩
private def r4 : Rec Nat := ⟨4, 10, false, true, 0⟩
private def nr : RCfg := ⟨false, false, false, .status 404⟩
private def ru : RCfg := ⟨true, false, false, .kill⟩

/-- the F-C52a history (r1(a) r2(b) r3(a); an option change makes the three keys equal; three requests) is served in
    recording order, not bucket by bucket of the old key -/
example : (run h0 0 [.load [r1, r2, r3], .configure 1, .request 7 nr, .request 7 nr, .request 7 nr]).2
    = [.served r1, .served r2, .served r3] := by decide +kernel
/-- with reuse the same recording is served again and again, unaffected by edits of the copies served before -/
example : (run h0 0 [.load [r1], .request 10 ru, .edit 0 999, .request 10 ru, .edit 1 5, .request 10 ru]).2
    = [.served r1, .served r1, .served r1] := by decide +kernel
example : (run h0 0 [.load [r1, r2], .request 10 nr, .request 10 nr, .request 10 nr]).2
    = [.served r1, .status 404, .status 404] := by decide +kernel
/-- response-less recordings are skipped; reuse serves the same recording again; kill when nothing matches -/
example : (run h0 0 [.load [r4, r1, r3], .request 10 ru, .request 10 ru, .request 20 ru, .request 10 nr, .request 10 nr]).2
    = [.served r1, .served r1, .killed, .served r1, .served r3] := by decide +kernel
/-- non-vacuity with the real key: ignoring the host makes a recording for another host match -/
private def oAll : HashOpts := ⟨false, false, false, [], [], []⟩
private def oNoHost : HashOpts := ⟨false, true, false, [], [], []⟩
private def rqA : ReqF := ⟨[104], [71], [47], [], [97], 80, some [], none, [], []⟩
private def rqB : ReqF := { rqA with host := [98] }
private def recA : Rec ReqF := ⟨1, rqA, true, true, 7⟩
example : (run keyOf oAll [.load [recA], .request rqB nr]).2 = [.status 404] := by decide +kernel
example : (run keyOf oAll [.load [recA], .configure oNoHost, .request rqB nr]).2 = [.served recA] := by decide +kernel
/-- the multipart decoder inside the model: a part that writes `filename="u"` BEFORE `name="w"` is the field `w`
    (the `\b` of the name pattern), and a part without a name parameter is no field -/
private def mpBody1 : Bytes := [45, 45, 88, 88, 13, 10, 67, 111, 110, 116, 101, 110, 116, 45, 68, 105, 115, 112, 111, 115, 105, 116, 105, 111, 110, 58, 32, 102, 111, 114, 109, 45, 100, 97, 116, 97, 59, 32, 102, 105, 108, 101, 110, 97, 109, 101, 61, 34, 117, 34, 59, 32, 110, 97, 109, 101, 61, 34, 119, 34, 13, 10, 13, 10, 49, 13, 10, 45, 45, 88, 88, 45, 45, 13, 10]
private def mpBody2 : Bytes := [45, 45, 88, 88, 13, 10, 67, 111, 110, 116, 101, 110, 116, 45, 68, 105, 115, 112, 111, 115, 105, 116, 105, 111, 110, 58, 32, 102, 111, 114, 109, 45, 100, 97, 116, 97, 59, 32, 102, 105, 108, 101, 110, 97, 109, 101, 61, 34, 117, 34, 13, 10, 13, 10, 49, 13, 10, 45, 45, 88, 88, 45, 45, 13, 10]
private def rqM1 : ReqF := { rqA with boundary := some [88, 88], body := some mpBody1 }
private theorem rqM1_multipart : rqM1.multipart = [([119], [49])] := by decide +kernel
example : (({ rqA with boundary := some [88, 88], body := some mpBody1 } : ReqF).multipart) = [([119], [49])] := rqM1_multipart
example : (({ rqA with boundary := some [88, 88], body := some mpBody2 } : ReqF).multipart) = [] := by decide +kernel
example : (({ rqA with boundary := none, body := some mpBody1 } : ReqF).multipart) = [] := by decide +kernel
example : Agree oNoHost rqA rqB ∧ ¬ Agree oAll rqA rqB := by
  constructor
  · simp [Agree, oNoHost, rqA, rqB, contentOf]
  · simp [Agree, oAll, rqA, rqB]
/-! further non-vacuity witnesses -/
-- `differing_field_different_key`: all five hypotheses on two multipart requests whose non-ignored field `w` differs
-- (1 vs 2) while payload parameter `x` is ignored — and the conclusion
private def mpBody3 : Bytes := [45, 45, 88, 88, 13, 10, 67, 111, 110, 116, 101, 110, 116, 45, 68, 105, 115, 112, 111, 115, 105, 116, 105, 111, 110, 58, 32, 102, 111, 114, 109, 45, 100, 97, 116, 97, 59, 32, 102, 105, 108, 101, 110, 97, 109, 101, 61, 34, 117, 34, 59, 32, 110, 97, 109, 101, 61, 34, 119, 34, 13, 10, 13, 10, 50, 13, 10, 45, 45, 88, 88, 45, 45, 13, 10]
private def oPP : HashOpts := ⟨false, false, false, [], [[120]], []⟩
private def rqM3 : ReqF := { rqA with boundary := some [88, 88], body := some mpBody3 }
private theorem rqM3_multipart : rqM3.multipart = [([119], [50])] := by decide +kernel
example : oPP.ignoreContent = false ∧ oPP.ignorePayloadParams ≠ [] ∧ rqM1.multipart ≠ [] ∧ rqM3.multipart ≠ [] ∧
    rqM1.multipart.filter (fun p => !oPP.ignorePayloadParams.contains p.1)
      ≠ rqM3.multipart.filter (fun p => !oPP.ignorePayloadParams.contains p.1) ∧
    keyOf oPP rqM1 ≠ keyOf oPP rqM3 := by
  have hd : rqM1.multipart.filter (fun p => !oPP.ignorePayloadParams.contains p.1)
      ≠ rqM3.multipart.filter (fun p => !oPP.ignorePayloadParams.contains p.1) := by
    rw [rqM1_multipart, rqM3_multipart]; decide +kernel
  have h1 : rqM1.multipart ≠ [] := by rw [rqM1_multipart]; decide +kernel
  have h3 : rqM3.multipart ≠ [] := by rw [rqM3_multipart]; decide +kernel
  exact ⟨rfl, by decide, h1, h3, hd, differing_field_different_key _ _ _ rfl (by decide) h1 h3 hd⟩
-- … while ignoring the field `w` itself makes the two requests share a key (the model is not constant in the option)
example : keyOf ⟨false, false, false, [], [[119]], []⟩ rqM1 = keyOf ⟨false, false, false, [], [[119]], []⟩ rqM3 := by
  refine (key_eq_iff_fields _ _ _).mpr ⟨rfl, rfl, rfl, rfl, fun _ => rfl, fun _ => rfl, fun _ => ?_, fun _ _ => rfl⟩
  simp [contentOf, rqM1_multipart, rqM3_multipart]
-- `equal_keys_in_recording_order` / `at_most_once_without_reuse`: the response-less recording with the key is dropped
-- together with the served one; a recording loaded twice is served twice and no more (the third request finds the
-- replay exhausted = inactive and is forwarded; with another recording still pending it gets the configured status)
example : (run h0 0 [.load [r4, r1, r3], .request 10 nr]).1.recorded = [r3] := by decide +kernel
example : (run h0 0 [.load [r1, r1], .request 10 nr, .request 10 nr, .request 10 nr]).2
    = [.served r1, .served r1, .forwarded] := by decide +kernel
example : (run h0 0 [.load [r1, r1, r2], .request 10 nr, .request 10 nr, .request 10 nr]).2
    = [.served r1, .served r1, .status 404] := by decide +kernel
-- `reindex_preserves_multiset` on a state with something already served: two pending recordings collapse into one bucket
example : (configure h0 (run h0 0 [.load [r1, r2, r3], .request 20 nr]).1 1).flowmap = [(0, [r1, r3])] ∧
    count (configure h0 (run h0 0 [.load [r1, r2, r3], .request 20 nr]).1 1) = 2 := by decide +kernel
-- `unmatched_as_configured`: inactive replay forwards; the deprecated kill_extra wins over a configured status
example : (run h0 0 [.request 10 nr]).2 = [.forwarded] ∧ (run h0 0 [.load [r1], .clear, .request 10 nr]).2 = [.forwarded] ∧
    (run h0 0 [.load [r1], .request 20 ⟨false, false, true, .status 404⟩]).2 = [.killed] := by decide +kernel
-- `header_lookup_spec` / the `useHeaders` part of the key: case-insensitive names, ", " folding, and a differing
-- configured header separates two otherwise equal requests
example : hdrGet [([65], [49]), ([97], [50])] [65] = some [49, 44, 32, 50] ∧ hdrGet [([65], [49])] [66] = none := by decide +kernel
example : keyOf ⟨false, false, false, [], [], [[120]]⟩ { rqA with headers := [([88], [49])] }
    ≠ keyOf ⟨false, false, false, [], [], [[120]]⟩ { rqA with headers := [([88], [50])] } ∧
    keyOf oAll { rqA with headers := [([88], [49])] } = keyOf oAll { rqA with headers := [([88], [50])] } := by decide +kernel
end

end MitmVerif.Props.C52
