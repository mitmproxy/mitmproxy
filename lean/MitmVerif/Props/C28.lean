/-
  C28 — property theorems (model: MitmVerif/Model/C28*.lean).  Most are read off a general theorem of
  MitmVerif/Lemmas/C28*.lean: `C28` (UTF-8 automata, Fragmentizer), `C28_Relay` (what one event does), `C28_Run` (whole
  histories from any state: `run_delivers`, `run_bursts`, `run_live`, `run_close`, `run_safe`; one message:
  `chunks_run`, `step_inject`, `relay_message`), `C28_Wire` (frame codec, streams, message ⇄ frames).

  Text content is held as the UTF-8 bytes of the `str`; "is UTF-8" is `san c = c`, which is `StrictOk c`
  (Lemmas/C28 `strictOk_iff_san`).  The run-level theorems carry `crashed = false`; `no_crash_when_close_is_last` derives
  it from `closeLast`, which `stream_eventsU_close_last` proves of the transcribed receive path.  There are two receive
  paths: `Wire.streamEvents` maps frames to events without decoding text and is run by no driver op; `Wire.streamEventsU`
  puts text payloads through wsproto's incremental decoder and is the one compared with wsproto (`fev`).  Theorems named
  `…U` / `…_any_cuts` are about the latter.  The `client` argument of the `Wire` functions, of `Frame.wf` and of `KeysOk`
  is the role of the RECEIVING endpoint, hence `!fc` on both hops of the end-to-end theorems.
-/
import MitmVerif.Lemmas.C28_Run
import MitmVerif.Lemmas.C28_Wire

namespace MitmVerif.Props.C28
open MitmVerif MitmVerif.C28

@[simp] private theorem setBuf_done (s : St) (fc : Bool) (b : List Bytes) : (s.setBuf fc b).done = s.done := by
  unfold St.setBuf; split <;> rfl
@[simp] private theorem setBuf_closed (s : St) (fc : Bool) (b : List Bytes) : (s.setBuf fc b).closed = s.closed := by
  unfold St.setBuf; split <;> rfl

/-! ### exactly once, in order, with the recorded content -/

/-- **C28 (exactly once, in order).** For every sequence of received wsproto events and injections
    in both directions, every addon policy (keep / edit / drop per message) and either peer: the
    messages that peer reassembles are exactly the recorded, non-dropped messages of the other
    direction — each once, in recording order, with its type and its content as text/binary
    payload (`wire`).  (`crashed` only arises when a peer keeps sending frames behind its own
    close frame within one TCP segment.) -/
theorem each_message_once_in_order (fs : Nat) (pol : Policy) (evs : List Ev) (toClient : Bool)
    (h : (run fs pol {} evs).1.crashed = false) :
    delivered toClient (run fs pol {} evs).2 = expected toClient (run fs pol {} evs).1.msgs := by
  obtain ⟨_, new, hm, hd⟩ := run_delivers fs pol {} evs h
  rw [hm, hd]; rfl

/-- **C28 (content).** If the recorded text messages are UTF-8 (as every received text message is,
    and every message assigned through `WebSocketMessage.text`), each peer receives exactly the
    recorded contents. -/
theorem delivered_equals_recorded (fs : Nat) (pol : Policy) (evs : List Ev) (toClient : Bool)
    (h : (run fs pol {} evs).1.crashed = false)
    (hv : ∀ m ∈ (run fs pol {} evs).1.msgs, m.text = true → san m.content = m.content) :
    delivered toClient (run fs pol {} evs).2 =
      (((run fs pol {} evs).1.msgs).filter (fun m => m.fromClient = !toClient && !m.dropped)).map
        (fun m => (m.text, m.content)) := by
  rw [each_message_once_in_order fs pol evs toClient h]
  unfold expected
  apply List.map_congr_left
  intro m hm
  have hmem : m ∈ (run fs pol {} evs).1.msgs := (List.mem_filter.mp hm).1
  cases ht : m.text with
  | false => simp [wire, payload, ht]
  | true => simp [wire, payload, ht, hv m hmem ht]

/-! ### every burst is one complete message -/

/-- every group of frames handed to wsproto for one message is well framed: all frames but the
    last are unfinished, the last one finishes the message (so the peer reassembles exactly one
    message of the burst's type from it) -/
theorem each_burst_is_one_message (fs : Nat) (pol : Policy) (evs : List Ev) :
    ∀ s : St, ∀ tc t fr, Out.sendMsg tc t fr ∈ (run fs pol s evs).2 → wellFramed fr = true :=
  fun s => run_bursts fs pol s evs

/-! ### Fragmentizer -/

/-- **C28 (binary).** For every content, original fragment lengths and fragment size the binary
    fragments concatenate to exactly the content, as one message. -/
theorem binary_exact (fs : Nat) (lens : List Nat) (c : Bytes) :
    ((fragmentize fs lens false c).map (·.1)).flatten = c ∧
    wellFramed (fragmentize fs lens false c) = true :=
  ⟨fragmentize_binary fs lens c, fragmentize_wellFramed fs lens false c⟩

/-- **C28 (text).** For every byte string the text fragments (each sent as a `str`, i.e. as the
    UTF-8 encoding of its decode-with-replacement) concatenate to the decode-with-replacement
    image of the whole content — no character is damaged by a cut — and hence to the content
    itself whenever it is UTF-8 (`san c = c`). -/
theorem text_exact (fs : Nat) (lens : List Nat) (c : Bytes) :
    ((fragmentize fs lens true c).map (·.1)).flatten = san c ∧
    (san c = c → ((fragmentize fs lens true c).map (·.1)).flatten = c) ∧
    wellFramed (fragmentize fs lens true c) = true :=
  ⟨fragmentize_text fs lens c, fun h => by rw [fragmentize_text, h], fragmentize_wellFramed fs lens true c⟩

/-- **C28 (text, UTF-8).** Every UTF-8 string — any concatenation of well-formed 1- to 4-byte
    sequences (Unicode table 3-7) — is re-fragmented without loss, whatever the original fragment
    lengths and the fragment size are (the repaired F-C28a). -/
theorem text_exact_utf8 (fs : Nat) (lens : List Nat) (chars : List Bytes)
    (h : ∀ ch ∈ chars, wfChar ch = true) :
    ((fragmentize fs lens true chars.flatten).map (·.1)).flatten = chars.flatten :=
  (text_exact fs lens chars.flatten).2.1 (san_wf chars h)

/-- **C28 (boundaries).** When the addons leave a finished message untouched, it is sent with
    exactly the fragments accumulated in `frame_buf` (the original frame boundaries), for text
    messages provided the fragments are UTF-8 — which `text_buffer_stays_valid` shows to be
    preserved from the fresh buffer on, since wsproto hands over decoded `str` pieces. -/
theorem unmodified_keeps_boundaries (fs : Nat) (pol : Policy) (fc inj : Bool) (s : St)
    (text : Bool) (data : Bytes) (ff : Bool)
    (hop : s.ws (!fc) = .wopen)
    (hkeep : pol s.msgs.length (Msg.mk text fc (appendLast (s.buf fc) data).flatten inj false) = .keep)
    (hv : text = true → ∀ f ∈ appendLast (s.buf fc) data, san f = f) :
    (procMsg fs pol fc inj s text data ff true).2 =
      [.hookMsg s.msgs.length, .sendMsg (!fc) text (flagged (appendLast (s.buf fc) data))] := by
  unfold procMsg finishMsg
  simp only [if_true, hkeep, applyAction, hop]
  simp only [Bool.false_eq_true, if_false]
  rw [fragmentize_unmodified fs text _ (appendLast_ne_nil _ _) hv]

/-- appending a decoded `str` piece (`frame_buf[-1] += data`) and opening a new fragment
    (`frame_buf.append(b"")`) keep every buffered fragment UTF-8 -/
theorem text_buffer_stays_valid (buf : List Bytes) (d : Bytes)
    (hb : ∀ f ∈ buf, san f = f) (hd : san d = d) :
    (∀ f ∈ appendLast buf d, san f = f) ∧ (∀ f ∈ appendLast buf d ++ [[]], san f = f) := by
  have h1 : ∀ f ∈ appendLast buf d, san f = f := by
    rcases List.eq_nil_or_concat buf with rfl | ⟨pre, x, rfl⟩
    · simpa [appendLast] using hd
    · rw [List.concat_eq_append] at hb ⊢
      rw [appendLast_snoc]
      exact List.forall_mem_append.2 ⟨fun f hf => hb f (List.mem_append_left _ hf),
        by simpa using san_append_valid x d (hb x (by simp)) hd⟩
  exact ⟨h1, List.forall_mem_append.2 ⟨h1, by simpa using san_nil⟩⟩

/-! ### one message in fragments; injection -/

/-- **C28 (injection).** An injected message is recorded exactly once, as its own message with
    the injected type and content (for text: its decode-with-replacement image), whatever
    fragments of a message still being received are buffered — and those are left untouched
    (the repaired F-C28b). -/
theorem injected_recorded_once (fs : Nat) (pol : Policy) (s : St) (fc text : Bool) (content : Bytes)
    (hnd : s.done = false) (hc : s.crashed = false) :
    (step fs pol s (.inject fc text content)).1.msgs =
      s.msgs ++ [applyAction (Msg.mk text fc (payload text content) true false)
                  (pol s.msgs.length (Msg.mk text fc (payload text content) true false))] ∧
    (step fs pol s (.inject fc text content)).1.buf fc = s.buf fc := by
  simp only [step_inject fs pol s fc text content hnd hc, setBuf_msgs, finishMsg_msgs, fragmentize_wire, setBuf_buf,
    and_self]

/-! ### control frames and close -/

/-- **C28 (ping/pong).** A ping or pong received while the other side is open is handed to the
    other peer exactly once with the same payload, and changes nothing else. -/
theorem pings_pongs_relayed (fs : Nat) (pol : Policy) (fc inj : Bool) (s : St) (p : Bytes)
    (hc : s.crashed = false) (hop : s.ws (!fc) = .wopen) :
    procEv fs pol fc inj s (.ping p) = (s, [.sendPing (!fc) p]) ∧
    procEv fs pol fc inj s (.pong p) = (s, [.sendPong (!fc) p]) := by
  simp [procEv, procCtl, hc, hop]

/-- **C28 (close).** When a peer's close event (close frame with its code and reason, or EOF/
    protocol failure with wsproto's code) is processed, exactly that direction, code and reason
    are recorded for the flow, and nothing that happens afterwards changes them. -/
theorem close_code_reason_recorded (fs : Nat) (pol : Policy) (s : St) (fc : Bool)
    (pre : List WsEv) (kind : CloseKind) (code : Nat) (reason : Option Bytes) (rest : List Ev)
    (hnd : s.done = false) (hc : (procEvs fs pol fc false s pre).1.crashed = false) :
    (run fs pol s (.data fc (pre ++ [.close kind code reason]) :: rest)).1.closed = some (fc, code, reason) ∧
    (run fs pol s (.data fc (pre ++ [.close kind code reason]) :: rest)).1.done = true := by
  obtain ⟨_, _, h⟩ := run_close fs pol s fc pre kind code reason rest hnd hc
  rw [h]
  exact ⟨rfl, rfl⟩

/-! ### the wire: frames, fragmentation -/

open MitmVerif.C28.Wire in
/-- **C28 (wire, frame).** Every frame an endpoint may serialise (FIN, RSV bits the extensions
    accept, opcode, 7/16/64-bit length, optional masking) is read back by the other endpoint's
    decoder exactly — header fields, key and unmasked payload — leaving the rest of the stream. -/
theorem frame_roundtrip (client : Bool) (rsvOk : Nat → Nat → Bool) (f : Wire.Frame) (rest : Bytes)
    (hwf : f.wf client) (hok : rsvOk f.opcode f.rsv = true) :
    Wire.decodeFrame client rsvOk (Wire.encodeFrame f ++ rest) = .ok f rest :=
  Wire.frame_roundtrip' client rsvOk f rest hwf hok

/-- **C28 (wire, stream).** A stream of serialised frames decodes to exactly these frames, nothing
    left over, no error. -/
theorem stream_roundtrip (client : Bool) (rsvOk : Nat → Nat → Bool) (frames : List Wire.Frame)
    (h : Wire.FramesOk client rsvOk frames) (fuel : Nat) (hf : frames.length < fuel) :
    Wire.decodeStream client rsvOk fuel (frames.flatMap Wire.encodeFrame) = (frames, [], false) :=
  Wire.stream_roundtrip' client rsvOk frames h fuel hf

/-- **C28 (wire, message).** The frames of one message — any fragmentation, any masking keys, any
    length encoding — arrive as exactly the fragment events and reassemble to exactly one message
    of the same type whose content is the concatenation of the fragments. -/
theorem message_wire_roundtrip (client : Bool) (t : Bool) (keys : Nat → Option Bytes) (fr : List (Bytes × Bool))
    (hwf : wellFramed fr = true) (hk : Wire.KeysOk client keys)
    (hsz : ∀ pf ∈ fr, pf.1.length < 9223372036854775808) (fuel : Nat) (hfuel : fr.length < fuel) :
    Wire.streamEvents client Wire.noExt fuel none ((Wire.dataFrames t keys 0 true fr).flatMap Wire.encodeFrame)
      = some (fr.map (fun pf => WsEv.msg t pf.1 true pf.2)) ∧
    Wire.reassemble none (fr.map (fun pf => WsEv.msg t pf.1 true pf.2)) = [(t, (fr.map (·.1)).flatten)] :=
  Wire.message_wire_roundtrip client t keys fr hwf hk hsz fuel hfuel

/-- **C28 (fragmentation-insensitive, end to end over the wire).**  A peer sends one message of
    type `t` in ANY fragmentation `fr` (frames with any masking keys and 7/16/64-bit lengths).
    Then (1) the proxy's decoder yields exactly the fragment events; (2) the relay records exactly
    one message whose content is the concatenation of the fragments as edited by the addons and,
    unless it is dropped, hands one burst to the other side; (3) that burst, serialised by the
    proxy with any keys and decoded + reassembled by the receiving peer (which has the same role
    towards the proxy as the proxy has towards the sender: `!fc`), is exactly one message of
    type `t` with the recorded content (`wire m`: the content itself for binary and for UTF-8 text). -/
theorem wire_message_end_to_end (fs : Nat) (pol : Policy) (s : St) (fc t : Bool)
    (fr : List (Bytes × Bool)) (keys keys' : Nat → Option Bytes) (fuel fuel' : Nat)
    (hwf : wellFramed fr = true) (hk : Wire.KeysOk (!fc) keys)
    (hsz : ∀ pf ∈ fr, pf.1.length < 9223372036854775808) (hfuel : fr.length < fuel)
    (hnd : s.done = false) (hc : s.crashed = false) (hop : s.ws (!fc) = .wopen) (hb : s.buf fc = [[]])
    (m : Msg)
    (hm : m = applyAction (Msg.mk t fc (fr.map (·.1)).flatten false false)
                (pol s.msgs.length (Msg.mk t fc (fr.map (·.1)).flatten false false)))
    (hkeep : m.dropped = false)
    (hk' : Wire.KeysOk (!fc) keys')
    (hsz' : ∀ pf ∈ fragmentize fs (fr.map (·.1.length)) t m.content, pf.1.length < 9223372036854775808)
    (hfuel' : (fragmentize fs (fr.map (·.1.length)) t m.content).length < fuel') :
    let evs := fr.map (fun pf => WsEv.msg t pf.1 true pf.2)
    let burst := fragmentize fs (fr.map (·.1.length)) t m.content
    Wire.streamEvents (!fc) Wire.noExt fuel none ((Wire.dataFrames t keys 0 true fr).flatMap Wire.encodeFrame) = some evs ∧
    (step fs pol s (.data fc evs)).1.msgs = s.msgs ++ [m] ∧
    (step fs pol s (.data fc evs)).2 = [.hookMsg s.msgs.length, .sendMsg (!fc) t burst] ∧
    (Wire.streamEvents (!fc) Wire.noExt fuel' none ((Wire.dataFrames t keys' 0 true burst).flatMap Wire.encodeFrame)).map
        (Wire.reassemble none) = some [(t, wire m)] := by
  intro evs burst
  have hin := Wire.message_wire_roundtrip (!fc) t keys fr hwf hk hsz fuel hfuel
  obtain ⟨h2, h3⟩ := relay_message fs pol s fc t fr hwf hnd hc hop hb m hm hkeep
  rw [List.map_map] at h3
  have hmt : m.text = t := by rw [hm, applyAction_text]
  have hout := Wire.message_wire_roundtrip (!fc) t keys' burst (fragmentize_wellFramed _ _ _ _) hk' hsz' fuel' hfuel'
  refine ⟨hin.1, h2, h3, ?_⟩
  rw [hout.1, Option.map_some, hout.2]
  have := fragmentize_wire fs (fr.map (·.1.length)) t m.content
  simp only [burst, this, wire, hmt]

/-! ### whole interleaved histories: segmentation, ping/pong, close, what was recorded -/

/-- **C28 (segmentation).** A frame that wsproto hands over in two pieces (because it arrived in
    two TCP segments) has the same effect — state and output — as the frame in one piece. -/
theorem partial_frame_events_insensitive (fs : Nat) (pol : Policy) (fc inj : Bool) (s : St)
    (t : Bool) (d1 d2 : Bytes) (ff mf : Bool) (hc : s.crashed = false) :
    procEvs fs pol fc inj s [.msg t d1 false false, .msg t d2 ff mf] =
    procEvs fs pol fc inj s [.msg t (d1 ++ d2) ff mf] := by
  simp only [procEvs, procEv, hc, Bool.false_eq_true, if_false, procMsg, setBuf_crashed, setBuf_buf,
    appendLast_appendLast, List.nil_append, List.append_nil]
  cases mf
  · cases ff <;> simp [setBuf_setBuf]
  · simp [finishMsg_setBuf]

/-- **C28 (ping/pong over whole histories).** In every history of both directions — data in any
    fragmentation, injections, addon edits and drops interleaved — as long as nobody has closed,
    each peer is handed exactly the pings and pongs the other peer sent, with their payloads, in
    order. -/
theorem controls_relayed_in_order (fs : Nat) (pol : Policy) (evs : List Ev) (toClient : Bool)
    (hn : ∀ e ∈ evs, e.noClose = true) :
    controlsOut toClient (run fs pol {} evs).2 = controlsIn (!toClient) evs :=
  (run_live fs pol {} evs live_init hn).2.2 toClient

/-- **C28 (close over whole histories).** Whatever happened before in both directions, the first
    close event of the history (a peer's close frame with its code and reason, EOF, or a protocol
    failure) determines `closed_by_client`, `close_code` and `close_reason` of the flow, and
    nothing after it changes them. -/
theorem close_recorded_in_history (fs : Nat) (pol : Policy) (before : List Ev) (fc : Bool) (pre : List WsEv)
    (kind : CloseKind) (code : Nat) (reason : Option Bytes) (rest : List Ev)
    (h1 : ∀ e ∈ before, e.noClose = true) (h2 : ∀ e ∈ pre, e.isClose = false) :
    (run fs pol {} (before ++ .data fc (pre ++ [.close kind code reason]) :: rest)).1.closed
      = some (fc, code, reason) := by
  rw [run_append]
  obtain ⟨l, _⟩ := run_live fs pol {} before live_init h1
  obtain ⟨l2, _⟩ := procEvs_live fs pol fc _ pre l h2
  exact (close_code_reason_recorded fs pol _ fc pre kind code reason rest l.done l2.crashed).1

/-- **C28 (recorded = sent, whole histories).** For every interleaved history of both directions (data events in any
    fragmentation and segmentation, pings/pongs, injections at any point, any addon policy) in which nobody has closed:
    `flow.websocket.messages` is exactly `sentMessages pol evs` — one entry per finished message of either peer and per
    injection, in arrival order, its content the concatenation of the message's fragments (for an injected text message
    its decode-replace image), with the addons' edit/drop applied.  `sentMessages` is a function of the event history
    alone (two accumulators, no frame buffers, no connection states).  Together with `each_message_once_in_order` this is
    "every message the peers sent is delivered exactly once, in order" for whole histories. -/
theorem recorded_is_what_was_sent (fs : Nat) (pol : Policy) (evs : List Ev) (hn : ∀ e ∈ evs, e.noClose = true) :
    (run fs pol {} evs).1.msgs = sentMessages pol evs :=
  congrArg Sent.msgs (run_live fs pol {} evs live_init hn).2.1

/-- … and up to the first close of a history: what was recorded is what the peers had sent before the close (events
    of the closing batch in front of the close included); nothing after it is recorded. -/
theorem recorded_is_what_was_sent_until_close (fs : Nat) (pol : Policy) (before : List Ev) (fc : Bool) (pre : List WsEv)
    (kind : CloseKind) (code : Nat) (reason : Option Bytes) (rest : List Ev)
    (h1 : ∀ e ∈ before, e.noClose = true) (h2 : ∀ e ∈ pre, e.isClose = false) :
    (run fs pol {} (before ++ .data fc (pre ++ [.close kind code reason]) :: rest)).1.msgs
      = sentMessages pol (before ++ [.data fc pre]) := by
  rw [run_append]
  obtain ⟨l, a, _⟩ := run_live fs pol {} before live_init h1
  obtain ⟨l2, a2, _⟩ := procEvs_live fs pol fc _ pre l h2
  obtain ⟨_, _, h⟩ := run_close fs pol _ fc pre kind code reason rest l.done l2.crashed
  rw [h]
  show (St.toSent _).msgs = _
  rw [a2, a]
  simp only [sentMessages, List.foldl_append, List.foldl_cons, List.foldl_nil, sentOf]
  rfl

/-- **C28 (ping/pong until a close).** In every history, the pings and pongs a peer sent BEFORE anybody closed are
    handed to the other peer, in order, whatever happens later (`controls_relayed_in_order` for the close-free prefix
    of an arbitrary history). -/
theorem controls_relayed_until_close (fs : Nat) (pol : Policy) (before rest : List Ev) (toClient : Bool)
    (hn : ∀ e ∈ before, e.noClose = true) :
    ∃ tail, controlsOut toClient (run fs pol {} (before ++ rest)).2 = controlsIn (!toClient) before ++ tail := by
  rw [run_append, controlsOut_append, controls_relayed_in_order fs pol before toClient hn]
  exact ⟨_, rfl⟩

/-- **C28 (boundaries, whole message).** A message that arrives as the frames `fr` (any number,
    any sizes; text frames as the `str` pieces wsproto hands over) and is left untouched by the
    addons is sent on as exactly these frames: same payload per frame, same FIN flags. -/
theorem unmodified_message_keeps_frames (fs : Nat) (pol : Policy) (s : St) (fc inj t : Bool)
    (fr : List (Bytes × Bool)) (hwf : wellFramed fr = true)
    (hc : s.crashed = false) (hb : s.buf fc = [[]]) (hop : s.ws (!fc) = .wopen)
    (hkeep : pol s.msgs.length (Msg.mk t fc (fr.map (·.1)).flatten inj false) = .keep)
    (hv : t = true → ∀ pf ∈ fr, san pf.1 = pf.1) :
    (procEvs fs pol fc inj s (fr.map (fun pf => WsEv.msg t pf.1 true pf.2))).2 =
      [.hookMsg s.msgs.length, .sendMsg (!fc) t fr] := by
  rw [chunks_run fs pol fc inj t fr hwf s [] hc (by simpa using hb)]
  unfold finishMsg
  simp only [List.nil_append, hkeep, applyAction, Bool.false_eq_true, if_false, hop, if_true]
  have hne : fr.map (·.1) ≠ [] := by
    cases fr with
    | nil => simp [wellFramed] at hwf
    | cons a l => simp
  have hv' : t = true → ∀ f ∈ fr.map (·.1), san f = f := by
    intro ht f hf
    obtain ⟨pf, hpf, rfl⟩ := List.mem_map.mp hf
    exact hv ht pf hpf
  rw [fragmentize_unmodified fs t _ hne hv', flagged_of_wellFramed fr hwf]

/-! ### the `crashed` hypothesis is derivable: wsproto never yields anything behind a close -/

/-- **C28 (no crash).** When close events only occur as the last event of a batch — which is what
    wsproto delivers (`stream_eventsU_close_last`) — the relay never hands an event to a wsproto
    connection that cannot send it: the `crashed` hypothesis of the run-level theorems is a theorem. -/
theorem no_crash_when_close_is_last (fs : Nat) (pol : Policy) (evs : List Ev)
    (h : ∀ e ∈ evs, e.closeLast = true) : (run fs pol {} evs).1.crashed = false := by
  rcases run_safe fs pol evs {} (Or.inl live_init) h with h | h
  · exact h.crashed
  · exact h.2

/-- **C28 (exactly once, in order — unconditional form).** For every history of wsproto event
    batches of both directions and injections, every addon policy and either peer: what that
    peer reassembles is exactly the recorded, non-dropped messages of the other direction. -/
theorem each_message_once_in_order_wsproto (fs : Nat) (pol : Policy) (evs : List Ev) (toClient : Bool)
    (h : ∀ e ∈ evs, e.closeLast = true) :
    delivered toClient (run fs pol {} evs).2 = expected toClient (run fs pol {} evs).1.msgs :=
  each_message_once_in_order fs pol evs toClient (no_crash_when_close_is_last fs pol evs h)

/-- the transcribed wsproto receive path yields a close event only as the last event of a batch -/
theorem stream_events_close_last (client : Bool) (rsvOk : Nat → Nat → Bool) :
    ∀ (fuel : Nat) (ms : Wire.MState) (bs : Bytes) (evs : List WsEv),
    Wire.streamEvents client rsvOk fuel ms bs = some evs → closeLast evs = true := by
  intro fuel ms bs
  fun_induction Wire.streamEvents client rsvOk fuel ms bs with
  | case6 _ ms _ f _ _ ms1 e hfe h8 ih =>
    intro evs h
    obtain ⟨r, hr, rfl⟩ := Option.map_eq_some_iff.1 h
    exact Wire.closeLast_cons e r (Wire.frameEvent_close ms f ms1 e hfe h8) (ih r hr)
  | _ => intro evs h; cases h <;> rfl

/-! ### received text frames may end inside a character (wsproto's incremental decoder, transcribed) -/

/-- **C28 (text frames cut anywhere).** Whatever byte positions the sender cuts a text message
    at — also inside multi-byte characters — if wsproto's strict incremental decoder accepts the
    frames, the data of the events it hands to the relay concatenate to exactly the concatenated
    frame payloads, nothing is held back, and that content is UTF-8 (`san c = c`). -/
theorem text_frames_cut_anywhere (cs outs : List Bytes) (p' : Bytes) (hne : cs ≠ [])
    (h : decodeChunks [] cs = some (outs, p')) :
    outs.flatten = cs.flatten ∧ p' = [] ∧ san cs.flatten = cs.flatten := by
  obtain ⟨hg, hp⟩ := decodeChunks_goS cs [] outs p' h
  have hp' := hp hne
  subst hp'
  obtain ⟨h1, h2⟩ := strict_valid cs.flatten outs.flatten hg
  exact ⟨h1, rfl, h2⟩

/-- … and the relay records exactly that content for the message (as edited by the addons),
    for every way the frames were cut. -/
theorem text_message_cut_anywhere_recorded (fs : Nat) (pol : Policy) (s : St) (fc : Bool)
    (cs : List Bytes) (fr : List (Bytes × Bool)) (p' : Bytes) (hne : cs ≠ [])
    (hdec : decodeChunks [] cs = some (fr.map (·.1), p')) (hwf : wellFramed fr = true)
    (hc : s.crashed = false) (hb : s.buf fc = [[]]) :
    (procEvs fs pol fc false s (fr.map (fun pf => WsEv.msg true pf.1 true pf.2))).1.msgs =
      s.msgs ++ [applyAction (Msg.mk true fc cs.flatten false false)
                  (pol s.msgs.length (Msg.mk true fc cs.flatten false false))] := by
  obtain ⟨h1, _, _⟩ := text_frames_cut_anywhere cs (fr.map (·.1)) p' hne hdec
  rw [chunks_run fs pol fc false true fr hwf s [] hc (by simpa using hb), finishMsg_msgs, List.nil_append, h1]

/-- **C28 (decoder output).** Every piece wsproto's strict incremental decoder hands to the relay
    is itself UTF-8, whatever was held back from the previous frame — the hypothesis of
    `text_buffer_stays_valid` / `unmodified_keeps_boundaries` about received text is a theorem
    about the transcribed decoder. -/
theorem decoder_output_is_utf8 (cs outs : List Bytes) (p' : Bytes)
    (h : decodeChunks [] cs = some (outs, p')) : ∀ o ∈ outs, san o = o :=
  decodeChunks_valid cs [] outs p' rfl h

/-- **C28 (boundaries, text cut anywhere).** A text message whose frames the sender cut at
    arbitrary byte positions and that the addons leave untouched is sent on in exactly the pieces
    the decoder handed over (the frame boundaries moved to the next character boundary), and these
    pieces concatenate to the original payload bytes. -/
theorem unmodified_text_message_any_cuts (fs : Nat) (pol : Policy) (s : St) (fc : Bool)
    (cs : List Bytes) (fr : List (Bytes × Bool)) (p' : Bytes) (hne : cs ≠ [])
    (hdec : decodeChunks [] cs = some (fr.map (·.1), p')) (hwf : wellFramed fr = true)
    (hc : s.crashed = false) (hb : s.buf fc = [[]]) (hop : s.ws (!fc) = .wopen)
    (hkeep : pol s.msgs.length (Msg.mk true fc (fr.map (·.1)).flatten false false) = .keep) :
    (procEvs fs pol fc false s (fr.map (fun pf => WsEv.msg true pf.1 true pf.2))).2 =
      [.hookMsg s.msgs.length, .sendMsg (!fc) true fr] ∧
    (fr.map (·.1)).flatten = cs.flatten := by
  refine ⟨?_, (text_frames_cut_anywhere cs (fr.map (·.1)) p' hne hdec).1⟩
  apply unmodified_message_keeps_frames fs pol s fc false true fr hwf hc hb hop hkeep
  intro _ pf hpf
  exact decoder_output_is_utf8 cs (fr.map (·.1)) p' hdec pf.1 (List.mem_map.mpr ⟨pf, hpf, rfl⟩)

/-- **C28 (wire, text cut anywhere).** The frames of a text message whose payloads are cut at
    ARBITRARY byte positions (inside characters too), with any masking keys and length forms: if
    wsproto's decoder accepts them (the text is UTF-8), the receiving endpoint's events are the
    decoder's pieces with the frames' FIN flags, and they reassemble to exactly one text message
    whose content is the concatenation of the frame payloads.  (`message_wire_roundtripU` needs every
    fragment to be complete UTF-8; here only the whole message is.) -/
theorem text_message_wire_roundtrip_any_cuts (client : Bool) (keys : Nat → Option Bytes)
    (cs outs : List Bytes) (p' : Bytes) (fuel : Nat) (hne : cs ≠ []) (hk : Wire.KeysOk client keys)
    (hsz : ∀ c ∈ cs, c.length < 9223372036854775808) (hfuel : cs.length < fuel)
    (hdec : decodeChunks [] cs = some (outs, p')) :
    Wire.streamEventsU client Wire.noExt fuel none []
        ((Wire.dataFrames true keys 0 true (flagged cs)).flatMap Wire.encodeFrame)
      = some ((flagged outs).map (fun pf => WsEv.msg true pf.1 true pf.2)) ∧
    Wire.reassemble none ((flagged outs).map (fun pf => WsEv.msg true pf.1 true pf.2)) = [(true, cs.flatten)] := by
  have hlen : (flagged cs).length = cs.length := by
    have := congrArg List.length (flagged_map_fst cs); simpa using this
  have hsz' : ∀ pf ∈ flagged cs, pf.1.length < 9223372036854775808 := by
    intro pf hpf
    apply hsz
    have : pf.1 ∈ (flagged cs).map (·.1) := List.mem_map.mpr ⟨pf, hpf, rfl⟩
    rwa [flagged_map_fst] at this
  constructor
  · rw [Wire.streamEventsU_encode client Wire.noExt _ (Wire.dataFrames_ok client true keys (flagged cs) hk hsz' 0 true)
        fuel none [] (by rw [Wire.dataFrames_length, hlen]; exact hfuel)]
    have := Wire.dataFrames_eventsU keys cs hne 0 true []
    simp only [if_true] at this
    rw [this, hdec]
    rfl
  · rw [Wire.reassemble_burst true (flagged outs) (flagged_wellFramed outs (decoded_ne_nil cs outs p' hne hdec)) none]
    simp only [flagged_map_fst]
    rw [(text_frames_cut_anywhere cs outs p' hne hdec).1]

/-! ### the wire theorems over the decoder the driver runs -/

/-- the receive path the driver executes (`fev` = `streamEventsU`, with the incremental UTF-8 decoder) yields a close
    event only as the last event of a batch — whenever it yields a batch: on a protocol violation it yields `none`, where
    wsproto hands over the events in front of the violation followed by a close event of its own making -/
theorem stream_eventsU_close_last (client : Bool) (rsvOk : Nat → Nat → Bool) :
    ∀ (fuel : Nat) (ms : Wire.MState) (pend bs : Bytes) (evs : List WsEv),
    Wire.streamEventsU client rsvOk fuel ms pend bs = some evs → closeLast evs = true := by
  intro fuel ms pend bs
  fun_induction Wire.streamEventsU client rsvOk fuel ms pend bs with
  | case6 _ ms pend _ f _ _ ms1 p1 e hfe h8 ih =>
    intro evs h
    obtain ⟨r, hr, rfl⟩ := Option.map_eq_some_iff.1 h
    exact Wire.closeLast_cons e r (Wire.frameEventU_close ms pend f ms1 p1 e hfe h8) (ih r hr)
  | _ => intro evs h; cases h <;> rfl

/-- **C28 (wire, message — tied decoder).** `message_wire_roundtrip` for `streamEventsU`, the function the driver runs:
    binary messages in any fragmentation, text messages whose fragments are each complete UTF-8 (`StrictOk`; text cut
    inside characters is `text_message_wire_roundtrip_any_cuts`). -/
theorem message_wire_roundtripU (client : Bool) (t : Bool) (keys : Nat → Option Bytes) (fr : List (Bytes × Bool))
    (hwf : wellFramed fr = true) (hk : Wire.KeysOk client keys)
    (hsz : ∀ pf ∈ fr, pf.1.length < 9223372036854775808)
    (hv : t = true → ∀ pf ∈ fr, StrictOk pf.1) (fuel : Nat) (hfuel : fr.length < fuel) :
    Wire.streamEventsU client Wire.noExt fuel none [] ((Wire.dataFrames t keys 0 true fr).flatMap Wire.encodeFrame)
      = some (fr.map (fun pf => WsEv.msg t pf.1 true pf.2)) ∧
    Wire.reassemble none (fr.map (fun pf => WsEv.msg t pf.1 true pf.2)) = [(t, (fr.map (·.1)).flatten)] :=
  Wire.message_wire_roundtripU client t keys fr hwf hk hsz hv fuel hfuel

/-- what the relay puts on the wire as text is always accepted, completely and unchanged, by a strict UTF-8 decoder -/
theorem sent_text_is_strictly_utf8 (fs : Nat) (lens : List Nat) (c : Bytes) :
    ∀ pf ∈ fragmentize fs lens true c, StrictOk pf.1 := fragmentize_strictOk fs lens c

/-- **C28 (end to end over the wire — tied decoder).** `wire_message_end_to_end` with both hops decoded by
    `streamEventsU` (the function the driver runs against wsproto): any fragmentation, any keys / length forms, any addon
    edit; for text the sender's fragments are each complete UTF-8 here (cut inside characters:
    `wire_text_message_end_to_end_any_cuts`); that the PROXY's outgoing text fragments pass the peer's strict decoder is
    proved (`sent_text_is_strictly_utf8`), not assumed. -/
theorem wire_message_end_to_endU (fs : Nat) (pol : Policy) (s : St) (fc t : Bool)
    (fr : List (Bytes × Bool)) (keys keys' : Nat → Option Bytes) (fuel fuel' : Nat)
    (hwf : wellFramed fr = true) (hk : Wire.KeysOk (!fc) keys)
    (hsz : ∀ pf ∈ fr, pf.1.length < 9223372036854775808) (hfuel : fr.length < fuel)
    (hv : t = true → ∀ pf ∈ fr, StrictOk pf.1)
    (hnd : s.done = false) (hc : s.crashed = false) (hop : s.ws (!fc) = .wopen) (hb : s.buf fc = [[]])
    (m : Msg)
    (hm : m = applyAction (Msg.mk t fc (fr.map (·.1)).flatten false false)
                (pol s.msgs.length (Msg.mk t fc (fr.map (·.1)).flatten false false)))
    (hkeep : m.dropped = false)
    (hk' : Wire.KeysOk (!fc) keys')
    (hsz' : ∀ pf ∈ fragmentize fs (fr.map (·.1.length)) t m.content, pf.1.length < 9223372036854775808)
    (hfuel' : (fragmentize fs (fr.map (·.1.length)) t m.content).length < fuel') :
    let evs := fr.map (fun pf => WsEv.msg t pf.1 true pf.2)
    let burst := fragmentize fs (fr.map (·.1.length)) t m.content
    Wire.streamEventsU (!fc) Wire.noExt fuel none [] ((Wire.dataFrames t keys 0 true fr).flatMap Wire.encodeFrame) = some evs ∧
    (step fs pol s (.data fc evs)).1.msgs = s.msgs ++ [m] ∧
    (step fs pol s (.data fc evs)).2 = [.hookMsg s.msgs.length, .sendMsg (!fc) t burst] ∧
    (Wire.streamEventsU (!fc) Wire.noExt fuel' none [] ((Wire.dataFrames t keys' 0 true burst).flatMap Wire.encodeFrame)).map
        (Wire.reassemble none) = some [(t, wire m)] := by
  intro evs burst
  have hin := Wire.message_wire_roundtripU (!fc) t keys fr hwf hk hsz hv fuel hfuel
  obtain ⟨h2, h3⟩ := relay_message fs pol s fc t fr hwf hnd hc hop hb m hm hkeep
  rw [List.map_map] at h3
  exact ⟨hin.1, h2, h3, Wire.burst_roundtripU fs _ (!fc) t m keys' fuel' (by rw [hm, applyAction_text]) hk' hsz' hfuel'⟩

/-- **C28 (end to end, text cut anywhere — tied decoder).** A peer sends a text message whose frame payloads `cs` are cut
    at arbitrary byte positions; wsproto's decoder (accepting it) hands the relay the pieces `outs`.  Then the proxy's
    events are these pieces, the relay records exactly one message with content `cs.flatten` (as edited by the addons) and
    sends one burst, and the receiving peer — again through its strict incremental decoder — reassembles exactly one text
    message with the recorded content. -/
theorem wire_text_message_end_to_end_any_cuts (fs : Nat) (pol : Policy) (s : St) (fc : Bool)
    (cs outs : List Bytes) (p' : Bytes) (keys keys' : Nat → Option Bytes) (fuel fuel' : Nat)
    (hne : cs ≠ []) (hk : Wire.KeysOk (!fc) keys) (hsz : ∀ c ∈ cs, c.length < 9223372036854775808)
    (hfuel : cs.length < fuel) (hdec : decodeChunks [] cs = some (outs, p'))
    (hnd : s.done = false) (hc : s.crashed = false) (hop : s.ws (!fc) = .wopen) (hb : s.buf fc = [[]])
    (m : Msg)
    (hm : m = applyAction (Msg.mk true fc cs.flatten false false)
                (pol s.msgs.length (Msg.mk true fc cs.flatten false false)))
    (hkeep : m.dropped = false)
    (hk' : Wire.KeysOk (!fc) keys')
    (hsz' : ∀ pf ∈ fragmentize fs (outs.map List.length) true m.content, pf.1.length < 9223372036854775808)
    (hfuel' : (fragmentize fs (outs.map List.length) true m.content).length < fuel') :
    let evs := (flagged outs).map (fun pf => WsEv.msg true pf.1 true pf.2)
    let burst := fragmentize fs (outs.map List.length) true m.content
    Wire.streamEventsU (!fc) Wire.noExt fuel none []
        ((Wire.dataFrames true keys 0 true (flagged cs)).flatMap Wire.encodeFrame) = some evs ∧
    (step fs pol s (.data fc evs)).1.msgs = s.msgs ++ [m] ∧
    (step fs pol s (.data fc evs)).2 = [.hookMsg s.msgs.length, .sendMsg (!fc) true burst] ∧
    (Wire.streamEventsU (!fc) Wire.noExt fuel' none [] ((Wire.dataFrames true keys' 0 true burst).flatMap Wire.encodeFrame)).map
        (Wire.reassemble none) = some [(true, wire m)] := by
  intro evs burst
  have hin := text_message_wire_roundtrip_any_cuts (!fc) keys cs outs p' fuel hne hk hsz hfuel hdec
  have hflat := (text_frames_cut_anywhere cs outs p' hne hdec).1
  have hr := relay_message fs pol s fc true (flagged outs)
    (flagged_wellFramed outs (decoded_ne_nil cs outs p' hne hdec)) hnd hc hop hb m
    (by rw [flagged_map_fst, hflat]; exact hm) hkeep
  rw [flagged_map_fst] at hr
  exact ⟨hin.1, hr.1, hr.2, Wire.burst_roundtripU fs _ (!fc) true m keys' fuel' (by rw [hm, applyAction_text]) hk' hsz' hfuel'⟩

/-! ### non-vacuity: concrete runs computed by the kernel -/

-- "a" ++ "é"×3 as text with FRAGMENT_SIZE 4: the cut at byte 4 would split the second "é";
-- the fragments are  "aé" | "éé"  and concatenate to the content (F-C28a, repaired)
example : fragmentize 4 [] true [0x61, 0xC3, 0xA9, 0xC3, 0xA9, 0xC3, 0xA9] =
    [([0x61, 0xC3, 0xA9], false), ([0xC3, 0xA9, 0xC3, 0xA9], true)] := by decide +kernel
example : ∀ ch ∈ [[0x61], [0xC3, 0xA9], [0xE2, 0x82, 0xAC], [0xF0, 0x9F, 0x98, 0x80]], wfChar ch = true := by decide
example : wfChar [0xC0, 0x80] = false ∧ wfChar [0xED, 0xA0, 0x80] = false ∧ wfChar [0xF4, 0x90, 0x80, 0x80] = false := by decide
-- the same bytes as a binary message are cut at exactly 4
example : fragmentize 4 [] false [0x61, 0xC3, 0xA9, 0xC3, 0xA9, 0xC3, 0xA9] =
    [([0x61, 0xC3, 0xA9, 0xC3], false), ([0xA9, 0xC3, 0xA9], true)] := by decide +kernel
-- `san` is not the identity: a truncated sequence becomes U+FFFD
example : san [0x61, 0xE2, 0x82] = [0x61, 0xEF, 0xBF, 0xBD] ∧ san [0xE2, 0x82, 0xAC] = [0xE2, 0x82, 0xAC] := by
  decide +kernel
-- injection between two fragments of a client message (F-C28b, repaired): the server gets "X" then "abcd"
example : delivered false (run 4000 (fun _ _ => .keep) {}
      [.data true [.msg true [0x61, 0x62] true false], .inject true true [0x58],
       .data true [.msg true [0x63, 0x64] true true]]).2
    = [(true, [0x58]), (true, [0x61, 0x62, 0x63, 0x64])] := by decide +kernel
-- a dropped message is recorded but not delivered; an edited one is delivered as edited
example : delivered true (run 4000 (fun i _ => if i = 0 then .drop else .edit [0x7A]) {}
      [.data false [.msg false [1] true true, .msg false [2] true true]]).2 = [(false, [0x7A])] := by
  decide +kernel

-- wire: a masked 3-byte text frame and an unmasked 126-byte (16-bit length) binary frame round-trip
example : Wire.decodeFrame false Wire.noExt (Wire.encodeFrame ⟨true, 0, 1, some [1, 2, 3, 4], [0x61, 0x62, 0x63]⟩ ++ [0xFF])
    = .ok ⟨true, 0, 1, some [1, 2, 3, 4], [0x61, 0x62, 0x63]⟩ [0xFF] := by decide +kernel
example : Wire.encodeFrame ⟨true, 0, 1, some [1, 2, 3, 4], [0x61, 0x62, 0x63]⟩ = [0x81, 0x83, 1, 2, 3, 4, 0x60, 0x60, 0x60] := by
  decide +kernel
example : (Wire.encodeFrame ⟨false, 0, 2, none, List.replicate 126 0⟩).take 4 = [0x02, 126, 0, 126] := by decide +kernel
-- the decoder does reject: reserved bit, unmasked frame to a server, non-minimal length, fragmented ping
example : (match Wire.decodeFrame true Wire.noExt [0xC1, 0x00] with | .fail => true | _ => false) = true := by decide +kernel
example : (match Wire.decodeFrame false Wire.noExt [0x81, 0x00] with | .fail => true | _ => false) = true := by decide +kernel
example : (match Wire.decodeFrame true Wire.noExt [0x81, 126, 0, 5, 1, 2, 3, 4, 5] with | .fail => true | _ => false) = true := by
  decide +kernel
example : (match Wire.decodeFrame true Wire.noExt [0x09, 0x00] with | .fail => true | _ => false) = true := by decide +kernel
-- a text message in three frames with a ping in between is reassembled to one message
example : (Wire.streamEvents true Wire.noExt 10 none [0x01, 1, 0x61, 0x89, 0, 0x00, 1, 0x62, 0x80, 1, 0x63]).map (Wire.reassemble none)
    = some [(true, [0x61, 0x62, 0x63])] := by decide +kernel
-- pings of both directions in one history
example : controlsOut false (run 4000 (fun _ _ => .keep) {}
      [.data true [.ping [1], .msg true [0x61] true true], .data false [.pong [2]], .data true [.pong [3]]]).2
    = [(true, [1]), (false, [3])] := by decide +kernel

-- "aé€" cut inside both multi-byte characters: the decoder hands over "a", "é", "€"
example : decodeChunks [] [[0x61, 0xC3], [0xA9, 0xE2], [0x82, 0xAC]] =
    some ([[0x61], [0xC3, 0xA9], [0xE2, 0x82, 0xAC]], []) := by decide +kernel
-- and it rejects an overlong sequence and a message ending inside a character
example : decodeChunks [] [[0x61], [0xC0, 0x80]] = none ∧ decodeChunks [] [[0x61, 0xC3]] = none := by decide +kernel
-- a close frame followed by a ping in one segment: nothing behind the close is an event
example : Wire.streamEvents true Wire.noExt 10 none [0x88, 0x02, 0x03, 0xE8, 0x89, 0x00]
    = some [.close .frame 1000 (some [])] := by decide +kernel

/-! ### the hypotheses of the theorems above hold together on concrete, non-initial values -/

/-- a client text message "a|b" half received: `frame_buf = ["a", ""]` -/
private def auditMid : St := (run 4000 (fun _ _ => .keep) {} [.data true [.msg true [0x61] true false]]).1

-- each_message_once_in_order / delivered_equals_recorded: `crashed = false` and the UTF-8 hypothesis hold for a history
-- with an injection between two fragments, an edit and a drop; and `crashed` is not constantly false
example : (run 4000 (fun i _ => if i = 1 then .edit [0xC3, 0xA9] else if i = 2 then .drop else .keep) {}
      [.data true [.msg true [0x61] true false], .inject true true [0x58], .data true [.msg true [0x62] true true],
       .data false [.msg false [0xFF] true true, .ping [7]]]).1.crashed = false ∧
    (∀ m ∈ (run 4000 (fun i _ => if i = 1 then .edit [0xC3, 0xA9] else if i = 2 then .drop else .keep) {}
      [.data true [.msg true [0x61] true false], .inject true true [0x58], .data true [.msg true [0x62] true true],
       .data false [.msg false [0xFF] true true, .ping [7]]]).1.msgs, m.text = true → san m.content = m.content) ∧
    (run 4000 (fun _ _ => .keep) {} [.data true [.close .frame 1000 none, .msg false [1] true true]]).1.crashed = true := by
  decide +kernel
-- unmodified_keeps_boundaries: other side open, policy keeps, buffered fragments UTF-8 — on a half-received message
example : auditMid.buf true = [[0x61], []] ∧ auditMid.ws false = .wopen ∧
    (∀ f ∈ appendLast (auditMid.buf true) [0xC3, 0xA9], san f = f) ∧
    (procMsg 4000 (fun _ _ => .keep) true false auditMid true [0xC3, 0xA9] true true).2 =
      [.hookMsg 0, .sendMsg false true [([0x61], false), ([0xC3, 0xA9], true)]] := by decide +kernel
-- injected_recorded_once: not done, not crashed, with a fragment buffered; the buffer survives the injection
example : auditMid.done = false ∧ auditMid.crashed = false ∧
    (step 4000 (fun _ _ => .keep) auditMid (.inject true false [1, 2, 3])).1.buf true = [[0x61], []] ∧
    (step 4000 (fun _ _ => .keep) auditMid (.inject true false [1, 2, 3])).1.msgs.length = 1 := by decide +kernel
-- pings_pongs_relayed: its hypotheses on the half-received state; and they can fail (after the server closed)
example : auditMid.crashed = false ∧ auditMid.ws (!true) = .wopen ∧
    (run 4000 (fun _ _ => .keep) {} [.data false [.close .frame 1001 (some [0x62])]]).1.ws false ≠ .wopen := by decide +kernel
-- close_code_reason_recorded / close_recorded_in_history: a close behind a ping and a finished message, after traffic
example : (run 4000 (fun _ _ => .keep) {} [.data true [.msg false [1] true true], .data false [.ping [9]]]).1.done = false ∧
    (∀ e ∈ [Ev.data true [.msg false [1] true true], .data false [.ping [9]]], e.noClose = true) ∧
    (run 4000 (fun _ _ => .keep) {} ([.data true [.msg false [1] true true], .data false [.ping [9]]] ++
      [.data false ([.pong [3]] ++ [.close .frame 1001 (some [0x62, 0x79, 0x65])]), .data true [.ping [1]]])).1.closed
      = some (false, 1001, some [0x62, 0x79, 0x65]) := by decide +kernel
-- controls_relayed_in_order / no_crash_when_close_is_last: `noClose` resp. `closeLast` hold for real batches and fail for others
example : (∀ e ∈ [Ev.data true [.ping [1], .msg true [0x61] true true], .inject false true [0x62], .data false [.pong [2]]], e.noClose = true) ∧
    (∀ e ∈ [Ev.data true [.msg true [0x61] true true, .close .frame 1000 none], .data false [.ping [2]]], e.closeLast = true) ∧
    (Ev.data true [.close .frame 1000 none, .ping [1]]).closeLast = false := by decide +kernel
-- unmodified_message_keeps_frames / wire_message_end_to_end: wellFramed bursts exist beyond the single frame, buffer empty, peer open
example : wellFramed [([1, 2], false), ([], false), ([3], true)] = true ∧ wellFramed [([1], true), ([2], true)] = false ∧
    ({} : St).buf true = [[]] ∧ ({} : St).ws (!true) = .wopen := by decide +kernel
-- wire_message_end_to_end instantiated: a binary client message in three masked frames, kept by the addons, re-serialised
-- with other keys and read by the server as exactly one message with the recorded content
example : (Wire.streamEvents (!true) Wire.noExt 9 none ((Wire.dataFrames false (fun i => some [1, 2, 3, UInt8.ofNat i]) 0 true
        (fragmentize 4000 [2, 0, 1] false [1, 2, 3])).flatMap Wire.encodeFrame)).map (Wire.reassemble none) =
      some [(false, [1, 2, 3])] :=
  (wire_message_end_to_end 4000 (fun _ _ => .keep) {} true false [([1, 2], false), ([], false), ([3], true)]
    (fun _ => some [9, 9, 9, 9]) (fun i => some [1, 2, 3, UInt8.ofNat i]) 9 9 (by decide) (fun _ => ⟨rfl, rfl⟩)
    (by decide) (by decide) rfl rfl rfl rfl _ rfl rfl (fun _ => ⟨rfl, rfl⟩) (by decide +kernel) (by decide +kernel)).2.2.2
-- text_message_cut_anywhere_recorded / unmodified_text_message_any_cuts: their decoder hypothesis with flags
example : decodeChunks [] [[0x61, 0xC3], [0xA9, 0xE2], [0x82, 0xAC]] =
      some (([([0x61], false), ([0xC3, 0xA9], false), ([0xE2, 0x82, 0xAC], true)] : List (Bytes × Bool)).map (·.1), []) ∧
    wellFramed [([0x61], false), ([0xC3, 0xA9], false), ([0xE2, 0x82, 0xAC], true)] = true := by decide +kernel
-- frame_roundtrip / stream_roundtrip: `Frame.wf` and `FramesOk` hold for a masked text frame followed by a ping
example : Wire.FramesOk false Wire.noExt [⟨false, 0, 1, some [1, 2, 3, 4], [0x61]⟩, ⟨true, 0, 9, some [0, 0, 0, 0], []⟩] := by
  intro f hf
  simp only [List.mem_cons, List.not_mem_nil, or_false] at hf
  rcases hf with rfl | rfl <;> exact ⟨by unfold Wire.Frame.wf; decide, by decide⟩
-- the decoder the driver runs (`streamEventsU`) also yields a close only last
example (client : Bool) (rsvOk : Nat → Nat → Bool) : ∀ (fuel : Nat) (ms : Wire.MState) (pend bs : Bytes) (evs : List WsEv),
    Wire.streamEventsU client rsvOk fuel ms pend bs = some evs → closeLast evs = true :=
  stream_eventsU_close_last client rsvOk

-- recorded = sent on an interleaved history: client message in two events with a server message and an injection in
-- between, the second message edited, the third dropped
example : let evs : List Ev := [.data true [.msg true [0x61] true false], .data false [.ping [1], .msg false [7, 8] true true],
      .inject true true [0x58], .data true [.msg true [0x62] true true]]
    let pol : Policy := fun i _ => if i = 1 then .edit [0x7A] else if i = 2 then .drop else .keep
    (∀ e ∈ evs, e.noClose = true) ∧
    sentMessages pol evs = [⟨false, false, [7, 8], false, false⟩, ⟨true, true, [0x7A], true, false⟩, ⟨true, true, [0x61, 0x62], false, true⟩] ∧
    (run 4000 pol {} evs).1.msgs = sentMessages pol evs := by decide +kernel
-- the proxy's own text fragments pass the strict decoder: "a" U+FFFD "b" from invalid input
example : goS [] (san [0x61, 0xFF, 0x62]) = some ([0x61, 0xEF, 0xBF, 0xBD, 0x62], []) := by decide +kernel

end MitmVerif.Props.C28
