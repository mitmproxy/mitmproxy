/-
  C12 — property theorems (for EVERY message `m : Bytes` and every status 100..999).
  * `escaped_has_no_markup`   : html.escape output has none of < > " ' and every & starts one of the 5 entities
  * `unescape_escape`         : decoding the entities gives the message back (it is shown, only escaped)
  * `page_is_template`        : format_error = the fixed template around the escaped message, minus white space only
  * `page_markup_independent` : the < > " ' characters of the page are those of the template, whatever the message
  * `page_amps_ok`            : every & of the page starts an entity
  * `page_wellformed`         : an independent HTTP/1.1 reader accepts make_error_response: status, reason, the four
                                fields (Server, Connection: close, Content-Type: text/html, content-length) and a body of
                                exactly content-length bytes which is the page
  * `h1_declares_html`, `make_error_response_declares_html` : that response declares text/html and Connection: close
  * `h2_declares_html`, `error_status_in_domain` : HTTP/2 header list; every status ErrorCode maps to is in 100..999
  * the send sites: `h1_error_reply_wellformed`, `h1_error_reply_declares_html` (Http1Server.send(ResponseProtocolError):
    what it writes, if anything, is one such response, then close), `error_page_only_before_any_head`,
    `wire_unchanged_after_101_or_final` (a page only while no head has been relayed), `h1_history_at_most_one_page` (every
    sequence of heads, body chunks and errors on one connection, by the invariant `H1Inv`), `h2_error_reply_page` (HTTP/2:
    a page only on a stream without response headers)
  The page theorems rest on one idea (Lemmas/C12): dedent and strip only DELETE white space (`Del isSpace`), and deleting
  white space neither adds a markup character nor breaks an entity.
-/
import MitmVerif.Lemmas.C12
import MitmVerif.Lemmas.Lists
import MitmVerif.Lemmas.Strip
import MitmVerif.Lemmas.Decimal
namespace MitmVerif.Props.C12
open MitmVerif MitmVerif.C12

/-- what `escByte` returns, by cases on the five escaped characters and the others -/
private theorem escByte_ind {P : UInt8 → Bytes → Prop} (hA : P 0x26 eAmp) (hL : P 0x3c eLt) (hG : P 0x3e eGt)
    (hQ : P 0x22 eQuot) (hS : P 0x27 eApos)
    (ho : ∀ b, b ≠ 0x26 → b ≠ 0x3c → b ≠ 0x3e → b ≠ 0x22 → b ≠ 0x27 → P b [b]) (b : UInt8) : P b (escByte b) := by
  fun_cases escByte b with
  | case1 h => exact h ▸ hA
  | case2 _ h => exact h ▸ hL
  | case3 _ _ h => exact h ▸ hG
  | case4 _ _ _ h => exact h ▸ hQ
  | case5 _ _ _ _ h => exact h ▸ hS
  | case6 h1 h2 h3 h4 h5 => exact ho b h1 h2 h3 h4 h5

private theorem escByte_noMarkup : ∀ b, ∀ c ∈ escByte b, isMarkup c = false :=
  escByte_ind (P := fun _ e => ∀ c ∈ e, isMarkup c = false) (by decide) (by decide) (by decide) (by decide) (by decide)
    fun b _ h2 h3 h4 h5 c hc => by
    rw [List.mem_singleton.1 hc]
    simp [isMarkup, h2, h3, h4, h5]

private theorem escByte_ampsOk : ∀ b, ampsOk (escByte b) = true :=
  escByte_ind (P := fun _ e => ampsOk e = true) (by decide) (by decide) (by decide) (by decide) (by decide)
    fun b h1 _ _ _ _ => by
    simp [ampsOk, h1]

private theorem escape_noMarkup (m : Bytes) : ∀ c ∈ htmlEscape m, isMarkup c = false := by
  intro c hc
  simp only [htmlEscape, List.mem_flatMap] at hc
  obtain ⟨b, _, hcb⟩ := hc
  exact escByte_noMarkup b c hcb

private theorem htmlEscape_cons (b : UInt8) (m : Bytes) : htmlEscape (b :: m) = escByte b ++ htmlEscape m :=
  List.flatMap_cons

private theorem escape_ampsOk (m : Bytes) : ampsOk (htmlEscape m) = true := by
  induction m with
  | nil => rfl
  | cons b m ih => exact htmlEscape_cons b m ▸ ampsOk_append (escByte_ampsOk b) ih

/-- **C12 (escape).** For every message, the escaped text contains none of `<` `>` `"` `'`, and every
    `&` in it starts one of `&amp;` `&lt;` `&gt;` `&quot;` `&#x27;`. -/
theorem escaped_has_no_markup (m : Bytes) :
    (∀ c ∈ htmlEscape m, c ≠ 0x3c ∧ c ≠ 0x3e ∧ c ≠ 0x22 ∧ c ≠ 0x27) ∧ ampsOk (htmlEscape m) = true := by
  refine ⟨?_, escape_ampsOk m⟩
  intro c hc
  have := escape_noMarkup m c hc
  simp only [isMarkup, Bool.or_eq_false_iff, decide_eq_false_iff_not] at this
  exact ⟨this.1.1.1, this.1.1.2, this.1.2, this.2⟩

example : htmlEscape [0x3c, 0x61, 0x3e, 0x26, 0x22, 0x27] =
    [0x26,0x6c,0x74,0x3b, 0x61, 0x26,0x67,0x74,0x3b, 0x26,0x61,0x6d,0x70,0x3b, 0x26,0x71,0x75,0x6f,0x74,0x3b,
     0x26,0x23,0x78,0x32,0x37,0x3b] := by decide
-- `ampsOk` does reject something: "&x", "&amp" (no semicolon)
example : ampsOk [0x26, 0x78] = false ∧ ampsOk [0x26, 0x61, 0x6d, 0x70] = false := by decide

private theorem escByte_pos : ∀ b, 1 ≤ (escByte b).length :=
  escByte_ind (P := fun _ e => 1 ≤ e.length) (by decide) (by decide) (by decide) (by decide) (by decide)
    fun _ _ _ _ _ _ => Nat.le_refl 1

private theorem unesc_token (b : UInt8) (rest : Bytes) (f : Nat) :
    unescF (f + 1) (escByte b ++ rest) = b :: unescF f rest :=
  escByte_ind (P := fun b e => unescF (f + 1) (e ++ rest) = b :: unescF f rest) rfl rfl rfl rfl rfl
    (fun b h1 _ _ _ _ => by simp [unescF, h1]) b
private theorem unescF_escape : ∀ (m : Bytes) (f : Nat), (htmlEscape m).length ≤ f → unescF f (htmlEscape m) = m
  | [], f, _ => by cases f <;> simp [htmlEscape, unescF]
  | b :: m, f, hf => by
    rw [htmlEscape_cons] at hf ⊢
    have hpos := escByte_pos b
    simp only [List.length_append] at hf
    cases f with
    | zero => omega
    | succ f =>
      rw [unesc_token, unescF_escape m f (by omega)]

/-- **C12 (nothing lost).** Decoding the five entities of the escaped text gives the message back: the
    page shows exactly the message, in escaped form. -/
theorem unescape_escape (m : Bytes) : unescape (htmlEscape m) = m :=
  unescF_escape m _ (Nat.le_refl _)

example : unescape [0x26,0x6c,0x74,0x3b, 0x26, 0x78] = [0x3c, 0x26, 0x78] := by decide

/-- **C12 (page = template).** `format_error(status, m)` is the fixed template with the *escaped*
    message in its `<p>` element, from which only white-space bytes have been deleted (dedent, strip). -/
theorem page_is_template (s : Nat) (m : Bytes) :
    Del isSpace (template s (htmlEscape m)) (formatError s m) :=
  Del.trans (Del.dedent _) (Del.pyStrip _)

/-- white space lies in 9..13, 28..32; the markup characters are 34, 39, 60, 62 -/
private theorem space_not_markup (c : UInt8) (h : isSpace c = true) : isMarkup c = false := by
  simp only [isSpace, isMarkup, Bool.or_eq_true, Bool.and_eq_true, decide_eq_true_eq, Bool.or_eq_false_iff,
    decide_eq_false_iff_not, ← UInt8.toNat_inj, UInt8.toNat_ofNat] at h ⊢
  omega

private theorem escape_filter_markup (m : Bytes) : (htmlEscape m).filter isMarkup = [] := by
  rw [List.filter_eq_nil_iff]
  intro c hc
  simp [escape_noMarkup m c hc]

/-- **C12 (no markup from the message).** The `<` `>` `"` `'` characters of the page are exactly those
    of the template (the twelve tags, and whatever the constant reason phrase has): the message
    contributes none, whatever it is. -/
theorem page_markup_independent (s : Nat) (m : Bytes) :
    (formatError s m).filter isMarkup = (template s []).filter isMarkup := by
  rw [Del.filter_eq isMarkup space_not_markup (page_is_template s m)]
  simp [template, List.filter_append, escape_filter_markup]

-- the skeleton for a status whose reason has no quote: 12 tags
example : (formatError 502 [0x3c, 0x27]).filter isMarkup =
    [0x3c,0x3e,0x3c,0x3e,0x3c,0x3e,0x3c,0x3e,0x3c,0x3e,0x3c,0x3e,0x3c,0x3e,0x3c,0x3e,0x3c,0x3e,0x3c,0x3e,0x3c,0x3e,0x3c,0x3e] := by
  decide +kernel

private theorem reasons_noAmp : ∀ e ∈ Gen.C12.responses, ∀ c ∈ e.2, c ≠ 0x26 ∧ c ≠ 0x0d := by decide +kernel

/-- `RESPONSES.get(status, d)`: a reason phrase of the table, or the default -/
private theorem reason_ok (s : Nat) (d : Bytes) (hd : ∀ c ∈ d, c ≠ 0x26 ∧ c ≠ 0x0d) :
    ∀ c ∈ (lookupReason s).getD d, c ≠ 0x26 ∧ c ≠ 0x0d := by
  cases h : lookupReason s with
  | none => exact hd
  | some r =>
    obtain ⟨e, hf, rfl⟩ := Option.map_eq_some_iff.1 h
    exact reasons_noAmp e (List.mem_of_find?_eq_some hf)

private theorem digit_facts : ∀ k : Fin 10, UInt8.ofNat (48 + k.val) ≠ 0x26 ∧ UInt8.ofNat (48 + k.val) ≠ 0x0d ∧
    isDigit (UInt8.ofNat (48 + k.val)) = true ∧ isOws (UInt8.ofNat (48 + k.val)) = false ∧
    (UInt8.ofNat (48 + k.val)).toNat - 48 = k.val := by decide

private theorem digit_ok (n : Nat) : digit n ≠ 0x26 ∧ digit n ≠ 0x0d ∧ isDigit (digit n) = true ∧
    isOws (digit n) = false ∧ (digit n).toNat - 48 = n % 10 :=
  digit_facts ⟨n % 10, Nat.mod_lt _ (by decide)⟩

private theorem statusText_noAmp (s : Nat) : ∀ c ∈ statusText s, c ≠ 0x26 := by
  simp only [statusText, dec3, List.forall_mem_append, List.forall_mem_cons]
  exact ⟨⟨(digit_ok _).1, (digit_ok _).1, (digit_ok _).1, by simp⟩, by decide,
    fun c hc => (reason_ok s _ (by decide) c hc).1⟩

/-- **C12 (ampersands).** Every `&` of the whole page starts one of the five entities. -/
theorem page_amps_ok (s : Nat) (m : Bytes) : ampsOk (formatError s m) = true := by
  apply Del.ampsOk (page_is_template s m)
  unfold template
  have hst := ampsOk_of_noAmp _ (statusText_noAmp s)
  have hA : ampsOk tplA = true := by decide
  have hB : ampsOk tplB = true := by decide
  have hC : ampsOk tplC = true := by decide
  have hD : ampsOk tplD = true := by decide
  exact ampsOk_append (ampsOk_append (ampsOk_append (ampsOk_append (ampsOk_append
    (ampsOk_append hA hst) hB) hst) hC) (escape_ampsOk m)) hD

-- the model is the real page: format_error(502, "<'") computed by the kernel
example : formatError 502 [0x3c, 0x27] = strBytes
    "<html>\n<head>\n    <title>502 Bad Gateway</title>\n</head>\n<body>\n    <h1>502 Bad Gateway</h1>\n    <p>&lt;&#x27;</p>\n</body>\n</html>" := by
  simp only [strBytes_ofList]
  decide +kernel
-- a message line without indentation makes the common margin empty: nothing is dedented (as CPython does)
example : formatError 502 [0x61, 0x0a, 0x62] = strBytes
    "<html>\n    <head>\n        <title>502 Bad Gateway</title>\n    </head>\n    <body>\n        <h1>502 Bad Gateway</h1>\n        <p>a\nb</p>\n    </body>\n    </html>" := by
  simp only [strBytes_ofList]
  decide +kernel

private theorem takeLine_append (l rest : Bytes) (h : ∀ c ∈ l, c ≠ 0x0d) :
    takeLine (l ++ 0x0d :: 0x0a :: rest) = some (l, rest) := by
  induction l with
  | nil => simp [takeLine]
  | cons c l ih => simp [takeLine, h c List.mem_cons_self, ih fun d hd => h d (List.mem_cons_of_mem _ hd)]

private theorem splitColon_eq (l : Bytes) : splitColon l = splitFirst 0x3a l := by
  induction l with
  | nil => rfl
  | cons c r ih => rw [splitColon, ih, splitFirst]

private theorem decRev_eq (f n : Nat) : (decRev f n).reverse = (digitsF f n).map digit := by
  fun_induction decRev f n with
  | case1 => rfl
  | case2 f n ih =>
    rw [List.reverse_cons, digitsF]
    split
    · rfl
    · simp [ih, digit]

private theorem natDec_eq (n : Nat) : natDec n = (digits n).map digit :=
  decRev_eq (n + 1) n

private theorem foldl_parseDecStep_digits (ds : List Nat) (h : ∀ d ∈ ds, d < 10) (a : Nat) :
    (ds.map digit).foldl parseDecStep (some a) = some (ofDigits a ds) := by
  induction ds generalizing a with
  | nil => rfl
  | cons d ds ih =>
    rw [List.map_cons, List.foldl_cons, parseDecStep, if_pos (digit_ok d).2.2.1, (digit_ok d).2.2.2.2,
      Nat.mod_eq_of_lt (h d List.mem_cons_self), ih fun x hx => h x (List.mem_cons_of_mem _ hx)]
    rfl

private theorem natDec_forall {P : UInt8 → Prop} (h : ∀ k, P (digit k)) (n : Nat) : ∀ c ∈ natDec n, P c := by
  rw [natDec_eq, List.forall_mem_map]
  exact fun d _ => h d

private theorem parseDec_natDec (n : Nat) : parseDec (natDec n) = some n := by
  rw [parseDec, natDec_eq, if_neg (by simp [digits_ne_nil]), foldl_parseDecStep_digits _ (digits_lt n),
    ofDigits_zero_digits]

private theorem statusLine_ok (s : Nat) (hs : 100 ≤ s ∧ s ≤ 999) :
    parseStatusLine (httpVer ++ dec3 s ++ 0x20 :: reasonLine s) = some (s, reasonLine s) := by
  have hp : httpVer.isPrefixOf (httpVer ++ (dec3 s ++ 0x20 :: reasonLine s)) = true :=
    List.isPrefixOf_iff_prefix.2 (List.prefix_append _ _)
  rw [parseStatusLine, List.append_assoc, if_pos hp, List.drop_left]
  simp only [dec3, List.cons_append, List.nil_append, digit_ok, Bool.and_self, decide_true, if_true]
  congr 2
  rw [← Nat.div_div_eq_div_mul s 10 10]
  omega

private theorem headerLines_consts :
    splitField (hServer ++ Gen.C12.serverHeader) = some (nServer, Gen.C12.serverHeader) ∧
    splitField hConn = some (nConn, vClose) ∧ splitField hCT = some (nCT, vHtml) ∧
    (∀ c ∈ hServer ++ Gen.C12.serverHeader, c ≠ 0x0d) ∧ (∀ c ∈ hConn, c ≠ 0x0d) ∧ (∀ c ∈ hCT, c ≠ 0x0d) ∧
    (∀ c ∈ httpVer, c ≠ 0x0d) ∧ (∀ c ∈ hCL, c ≠ 0x0d) ∧ asciiLower nCL = nCL ∧ (∀ c ∈ nCL, c ≠ 0x3a) := by
  decide +kernel

private theorem clLine_ok (n : Nat) : splitField (hCL ++ natDec n) = some (nCL, natDec n) := by
  obtain ⟨_, _, _, _, _, _, _, _, hlow, hcol⟩ := headerLines_consts
  have : hCL ++ natDec n = nCL ++ 0x3a :: 0x20 :: natDec n := rfl
  have htrim : trimOws (0x20 :: natDec n) = natDec n :=
    (trim_cons_ws rfl _).trans (trim_all_false (natDec_forall (fun k => (digit_ok k).2.2.2.1) n))
  rw [this, splitField, splitColon_eq, splitFirst_append fun h => hcol _ h rfl]
  simp only [if_neg (show nCL ≠ [] by decide), hlow, htrim]

private theorem parseHeaders_line (f : Nat) (l rest : Bytes) (h : Bytes × Bytes) (hl : ∀ c ∈ l, c ≠ 0x0d)
    (hs : splitField l = some h) :
    parseHeaders (f + 1) (l ++ 0x0d :: 0x0a :: rest) = (parseHeaders f rest).map fun p => (h :: p.1, p.2) := by
  rw [parseHeaders, takeLine_append l rest hl]
  cases l with
  | nil => cases hs
  | cons c l => simp only [hs]

private theorem parseHeaders_end (f : Nat) (body : Bytes) :
    parseHeaders (f + 1) (0x0d :: 0x0a :: body) = some ([], body) := by
  simp [parseHeaders, takeLine]

private theorem refParse_assemble (s : Nat) (body : Bytes) (hs : 100 ≤ s ∧ s ≤ 999) :
    refParse (assembleError s body) = some (expected s body) := by
  obtain ⟨cS, cConn, cCT, crS, crConn, crCT, crVer, crCL, _, _⟩ := headerLines_consts
  have hdig (k : Nat) : digit k ≠ 0x0d := (digit_ok k).2.1
  have hsl : ∀ c ∈ httpVer ++ dec3 s ++ 0x20 :: reasonLine s, c ≠ 0x0d := by
    simp only [dec3, List.forall_mem_append, List.forall_mem_cons]
    exact ⟨⟨crVer, hdig _, hdig _, hdig _, by simp⟩, by decide, fun c hc => (reason_ok s _ (by simp) c hc).2⟩
  have hcl : ∀ c ∈ hCL ++ natDec body.length, c ≠ 0x0d :=
    List.forall_mem_append.2 ⟨crCL, natDec_forall hdig _⟩
  have hshape : assembleError s body =
      (httpVer ++ dec3 s ++ 0x20 :: reasonLine s) ++ 0x0d :: 0x0a ::
      ((hServer ++ Gen.C12.serverHeader) ++ 0x0d :: 0x0a :: (hConn ++ 0x0d :: 0x0a :: (hCT ++ 0x0d :: 0x0a ::
      ((hCL ++ natDec body.length) ++ 0x0d :: 0x0a :: (0x0d :: 0x0a :: body))))) := by
    simp only [assembleError, crlf, List.append_assoc]
    rfl
  -- the reader's fuel is the length of the input; one unit per header line and one for the empty line are used
  obtain ⟨k, hk⟩ : ∃ k, (assembleError s body).length = k + 5 := by
    refine Nat.exists_eq_add_of_le' ?_
    rw [hshape]; simp only [List.length_append, List.length_cons]; omega
  rw [refParse, hk, hshape, takeLine_append _ _ hsl]
  simp only [statusLine_ok s hs]
  rw [parseHeaders_line _ _ _ _ crS cS, parseHeaders_line _ _ _ _ crConn cConn, parseHeaders_line _ _ _ _ crCT cCT,
      parseHeaders_line _ _ _ _ hcl (clLine_ok _), parseHeaders_end]
  have hf : List.filter (fun h : Bytes × Bytes => h.1 == nCL)
      [(nServer, Gen.C12.serverHeader), (nConn, vClose), (nCT, vHtml), (nCL, natDec body.length)]
      = [(nCL, natDec body.length)] := rfl
  simp only [Option.map_some, hf, parseDec_natDec, if_true, expected]

/-- **C12 (HTTP/1 framing).** For every message and every status 100..999 the bytes of
    `make_error_response` are one complete HTTP/1.1 response for an independent reader: status line
    with that status, the fields `Server`, `Connection: close`, `Content-Type: text/html` and one
    `content-length` whose value is the exact length of the body, the body is the page, and nothing
    follows it. -/
theorem page_wellformed (s : Nat) (m : Bytes) (hs : 100 ≤ s ∧ s ≤ 999) :
    refParse (makeErrorResponse s m) = some (expected s (formatError s m)) :=
  refParse_assemble s _ hs

example : (expected 400 [0x61]).headers.lookup nCT = some vHtml ∧ (expected 400 [0x61]).headers.lookup nConn = some vClose := by
  decide +kernel
-- the reader does reject: truncated body, surplus bytes, bare LF line ends
example : refParse (makeErrorResponse 400 [0x3c] ++ [0x61]) = none ∧
          refParse ((makeErrorResponse 400 [0x3c]).dropLast) = none ∧
          refParse (strBytes "HTTP/1.1 400 Bad Request\ncontent-length: 0\n\n") = none := by
  simp only [strBytes_ofList]
  decide +kernel

/-- **C12 (HTTP/1 declares HTML).** `expected s body` — by `page_wellformed` what the reference reader extracts from
    `make_error_response` — declares `Content-Type: text/html` and `Connection: close`.  The statement is about `expected`
    alone; `make_error_response_declares_html` is the one about the bytes. -/
theorem h1_declares_html (s : Nat) (body : Bytes) :
    (expected s body).headers.lookup nCT = some vHtml ∧ (expected s body).headers.lookup nConn = some vClose :=
  ⟨rfl, rfl⟩

/-- **C12 (HTTP/2, HTTP/3).** The header list of the error page sent over HTTP/2 declares `text/html`
    and carries the three-digit status. -/
theorem h2_declares_html (s : Nat) :
    (h2ErrorHeaders s).lookup nCT = some vHtml ∧ (h2ErrorHeaders s).lookup nStatus = some (dec3 s) :=
  ⟨rfl, rfl⟩

/-- every status an `ErrorCode` maps to (regenerated from /repo) lies in the domain 100..999 of the
    theorems above, or no page is sent (0) -/
theorem error_status_in_domain :
    ∀ e ∈ Gen.C12.errorStatus, e.2 = 0 ∨ (100 ≤ e.2 ∧ e.2 ≤ 999) := by decide +kernel

private theorem errorStatus_domain (code s : Nat) (h : errorStatus code = some s) : 100 ≤ s ∧ s ≤ 999 := by
  unfold errorStatus at h
  split at h
  · cases h
  · next hne hf =>
    cases h
    exact (error_status_in_domain _ (List.mem_of_find?_eq_some hf)).resolve_left hne
  · cases h

private theorem h1ErrorReply_some {cw st : Bool} {code : Nat} {m b : Bytes} (h : (h1ErrorReply cw st code m).1 = some b) :
    cw = true ∧ st = false ∧ (h1ErrorReply cw st code m).2 = true ∧
      ∃ s, errorStatus code = some s ∧ b = makeErrorResponse s m := by
  unfold h1ErrorReply at h ⊢
  cases hs : errorStatus code with
  | none => cases cw <;> simp [hs] at h
  | some s =>
    cases cw <;> cases st <;> simp [hs] at h ⊢
    exact h.symm

/-- **C12 (the HTTP/1 send site).** Whatever the error code, message and connection state: if
    `Http1Server.send(ResponseProtocolError)` writes anything to the client, it is one complete, correctly framed
    response whose status is the one the code maps to (100..999), with the page for exactly this message as body,
    and the connection is closed right after it; and it never writes into a response that has already started. -/
theorem h1_error_reply_wellformed (canWrite started : Bool) (code : Nat) (m b : Bytes)
    (h : (h1ErrorReply canWrite started code m).1 = some b) :
    ∃ s, errorStatus code = some s ∧ 100 ≤ s ∧ s ≤ 999 ∧ started = false ∧
      refParse b = some (expected s (formatError s m)) ∧ (h1ErrorReply canWrite started code m).2 = true := by
  obtain ⟨_, hst, hcl, s, hs, hb⟩ := h1ErrorReply_some h
  have hd := errorStatus_domain code s hs
  rw [hb]
  exact ⟨s, hs, hd.1, hd.2, hst, page_wellformed s m hd, hcl⟩

/-- **C12 (declares HTML, stated on the response itself).** Whatever the reference reader extracts from
    `make_error_response(status, m)` declares `Content-Type: text/html` and `Connection: close`, has that status, and
    its body is the page. -/
theorem make_error_response_declares_html (s : Nat) (m : Bytes) (hs : 100 ≤ s ∧ s ≤ 999) (r : Resp)
    (h : refParse (makeErrorResponse s m) = some r) :
    r.headers.lookup nCT = some vHtml ∧ r.headers.lookup nConn = some vClose ∧ r.body = formatError s m ∧ r.status = s := by
  rw [page_wellformed s m hs] at h
  injection h with h
  subst h
  exact ⟨(h1_declares_html s _).1, (h1_declares_html s _).2, by simp only [expected], by simp only [expected]⟩

/-- the same for whatever `Http1Server.send(ResponseProtocolError)` writes: it parses, and declares `text/html` -/
theorem h1_error_reply_declares_html (canWrite started : Bool) (code : Nat) (m b : Bytes)
    (h : (h1ErrorReply canWrite started code m).1 = some b) :
    ∃ r, refParse b = some r ∧ r.headers.lookup nCT = some vHtml := by
  obtain ⟨s, _, _, _, _, hp, _⟩ := h1_error_reply_wellformed canWrite started code m b h
  exact ⟨_, hp, (h1_declares_html s _).1⟩

example : ∃ r, refParse (makeErrorResponse 413 [0x26]) = some r ∧ r.headers.lookup nCT = some vHtml :=
  ⟨_, page_wellformed 413 [0x26] (by decide), (h1_declares_html 413 _).1⟩

/-- **C12 (no page into a started or upgraded exchange).** An error page is written only when NO response head has
    gone out to this client yet: never after a `101 Switching Protocols` (the connection speaks another protocol),
    never after a final head (2xx–5xx, with or without part of its body) — there the error path only closes — and,
    as the code stands, not after an interim head either.  When it is written, the client's wire is exactly that one
    complete, correctly framed response. -/
theorem error_page_only_before_any_head (canWrite : Bool) (relayed : Option Nat) (code : Nat) (m b : Bytes)
    (h : (h1ErrorReplyAfter canWrite relayed code m).1 = some b) :
    relayed = none ∧ ∃ s, errorStatus code = some s ∧ clientWire [] canWrite relayed code m = b ∧
      refParse b = some (expected s (formatError s m)) := by
  unfold h1ErrorReplyAfter at h
  obtain ⟨s, hs, _, _, hst, hp, _⟩ := h1_error_reply_wellformed canWrite relayed.isSome code m b h
  refine ⟨by cases relayed <;> simp_all, s, hs, ?_, hp⟩
  simp [clientWire, h1ErrorReplyAfter, h]

/-- after a `101` or a final head the client's wire is what was relayed and nothing else, whatever the error (the
    hypothesis on `st` is not used: as the code stands, the same holds after an interim head) -/
theorem wire_unchanged_after_101_or_final (relayedBytes : Bytes) (canWrite : Bool) (st code : Nat) (m : Bytes)
    (_ : st = 101 ∨ 200 ≤ st) : clientWire relayedBytes canWrite (some st) code m = relayedBytes := by
  have : (h1ErrorReplyAfter canWrite (some st) code m).1 = none := by
    cases hr : (h1ErrorReplyAfter canWrite (some st) code m).1 with
    | none => rfl
    | some b => have := (error_page_only_before_any_head canWrite (some st) code m b hr).1; simp at this
  simp [clientWire, this]

example : (h1ErrorReplyAfter true none 2 [0x3c]).1.isSome = true ∧ (h1ErrorReplyAfter true (some 101) 2 [0x3c]) = (none, true) ∧
          (h1ErrorReplyAfter true (some 200) 2 [0x3c]) = (none, true) ∧ (h1ErrorReplyAfter true (some 100) 2 [0x3c]) = (none, true) := by
  decide +kernel

/-- a connection is in one of two states: no page written yet (and nothing at all while no head was relayed), or
    exactly one page written, which is all the client has received, and the connection closed -/
private def H1Inv (c : H1Conn) : Prop :=
  (c.pages = 0 ∧ (c.relayed = none → c.wire = [])) ∨
  (c.pages = 1 ∧ c.canWrite = false ∧ ∃ s code m, errorStatus code = some s ∧ c.wire = makeErrorResponse s m)

private theorem h1Inv_step (c : H1Conn) (op : H1Op) (hi : H1Inv c) : H1Inv (h1Step c op) := by
  rcases hi with ⟨hp, hw⟩ | ⟨hp, hc, hw⟩
  · cases op with
    | relay st hb => exact .inl ⟨hp, nofun⟩
    | body ch =>
      refine .inl ⟨hp, fun (hr : c.relayed = none) => ?_⟩
      simp [h1Step, hr, hw hr]
    | error code m =>
      cases hr : (h1ErrorReply c.canWrite c.relayed.isSome code m).1 with
      | none => exact .inl (by simpa [h1Step, h1ErrorReplyAfter, hr] using ⟨hp, hw⟩)
      | some b =>
        obtain ⟨_, hrel, hcl, s, hs, hb⟩ := h1ErrorReply_some hr
        have hw := hw (by simpa using hrel)
        refine .inr ⟨?_, ?_, s, code, m, hs, ?_⟩ <;> simp [h1Step, h1ErrorReplyAfter, hr, hp, hw, hcl, hb]
  · -- a closed connection takes no more bytes, whatever the operation
    have h : (h1Step c op).pages = c.pages ∧ (h1Step c op).canWrite = false ∧ (h1Step c op).wire = c.wire := by
      cases op <;> simp [h1Step, h1ErrorReplyAfter, h1ErrorReply, hc]
    exact .inr ⟨h.1 ▸ hp, h.2.1, h.2.2 ▸ hw⟩

/-- **C12 (whole connection).** For EVERY sequence of relayed heads, body chunks and errors on one HTTP/1 client
    connection: at most one error page is ever written, and if one was written the client's wire is exactly that one
    complete, correctly framed response — nothing was relayed before it, nothing is written after it, and the
    connection is closed. -/
theorem h1_history_at_most_one_page (ops : List H1Op) :
    (h1Run ops).pages ≤ 1 ∧
    ((h1Run ops).pages = 1 → (h1Run ops).canWrite = false ∧
      ∃ s code m, errorStatus code = some s ∧ 100 ≤ s ∧ s ≤ 999 ∧ (h1Run ops).wire = makeErrorResponse s m ∧
        refParse (h1Run ops).wire = some (expected s (formatError s m))) := by
  have hrun : H1Inv (h1Run ops) :=
    List.foldlRecOn ops h1Step (.inl ⟨rfl, fun _ => rfl⟩) fun c hc op _ => h1Inv_step c op hc
  rcases hrun with ⟨hp, _⟩ | ⟨hp, hc, s, code, m, hs, hw⟩
  · omega
  · have hd := errorStatus_domain code s hs
    exact ⟨by omega, fun _ => ⟨hc, s, code, m, hs, hd.1, hd.2, hw, hw ▸ page_wellformed s m hd⟩⟩

example : (h1Run [.error 2 [0x3c], .error 2 [0x3c], .relay 200 [0x41]]).pages = 1 ∧
          (h1Run [.relay 101 [0x41], .error 2 [0x3c]]) = ⟨some 101, false, [0x41], 0⟩ ∧
          (h1Run [.relay 200 [0x41], .body [0x42], .error 2 [0x3c], .body [0x43]]).wire = [0x41, 0x42] := by decide +kernel

/-- **C12 (the HTTP/2 send site).** Whatever the stream state, error code and message: if the HTTP/2 error path sends
    a page at all, the stream could still take a response (open for us, no response HEADERS sent yet), the header
    block is `:status` (three digits of a status 100..999) / `server` / `content-type: text/html`, and the body is the
    page for exactly this message (to which all page theorems apply: no markup from the message, every & an entity).
    In every other state it sends RST_STREAM or nothing — never a page after response headers. -/
theorem h2_error_reply_page (closed openForUs headersSent : Bool) (code : Nat) (m : Bytes)
    (hd : List (Bytes × Bytes)) (body : Bytes)
    (h : h2ErrorReply closed openForUs headersSent code m = .page hd body) :
    closed = false ∧ openForUs = true ∧ headersSent = false ∧
    ∃ s, errorStatus code = some s ∧ 100 ≤ s ∧ s ≤ 999 ∧ hd = h2ErrorHeaders s ∧ hd.lookup nCT = some vHtml ∧
      body = formatError s m ∧ body.filter isMarkup = (template s []).filter isMarkup ∧ ampsOk body = true := by
  unfold h2ErrorReply at h
  cases hs : errorStatus code with
  | none => cases closed <;> simp [hs] at h
  | some s =>
    cases closed <;> cases openForUs <;> cases headersSent <;> simp [hs] at h
    obtain ⟨rfl, rfl⟩ := h
    have hdom := errorStatus_domain code s hs
    exact ⟨rfl, rfl, rfl, s, rfl, hdom.1, hdom.2, rfl, (h2_declares_html s).1, rfl,
      page_markup_independent s m, page_amps_ok s m⟩

example : h2ErrorReply false true false 2 [0x3c] = .page (h2ErrorHeaders 502) (formatError 502 [0x3c]) ∧
          h2ErrorReply false true true 2 [0x3c] = .reset 2 ∧ h2ErrorReply false true false 7 [0x3c] = .reset 2 ∧
          h2ErrorReply false true false 8 [] = .reset 13 ∧ h2ErrorReply false false true 11 [] = .reset 8 ∧
          h2ErrorReply true true false 2 [] = .nothing := ⟨rfl, rfl, rfl, rfl, rfl, rfl⟩

-- a code without status (KILL = 7) closes without a page; a started response is never written into
example : h1ErrorReply true false 7 [0x3c] = (none, true) ∧ h1ErrorReply true true 1 [0x3c] = (none, true) ∧
          h1ErrorReply false false 1 [0x3c] = (none, false) ∧ (h1ErrorReply true false 3 [0x3c]).1.isSome = true := by
  decide +kernel

/-! ### non-vacuity witnesses (hypotheses instantiated on concrete, non-trivial values) -/

-- `page_wellformed`: a status of the domain and a message made of markup — the reference reader returns the expected response
example : (100 ≤ 502 ∧ 502 ≤ 999) ∧
    refParse (makeErrorResponse 502 [0x3c, 0x27, 0x26]) = some (expected 502 (formatError 502 [0x3c, 0x27, 0x26])) :=
  ⟨by decide, page_wellformed 502 _ (by decide)⟩

-- `h1_error_reply_wellformed` / `error_page_only_before_any_head`: the hypothesis "a page is written" holds for a writable
-- connection without response head and an error code that maps to a status (2 -> 502), with exactly this page
example : (h1ErrorReply true false 2 [0x3c]).1 = some (makeErrorResponse 502 [0x3c]) ∧
    (h1ErrorReplyAfter true none 2 [0x3c]).1 = some (makeErrorResponse 502 [0x3c]) ∧ errorStatus 2 = some 502 :=
  ⟨rfl, rfl, rfl⟩

-- `h1_history_at_most_one_page`: a history in which the page IS written (pages = 1): the wire is that response, closed
example : (h1Run [.error 2 [0x3c], .relay 200 [0x41], .body [0x42], .error 1 [0x3e]]).pages = 1 ∧
    (h1Run [.error 2 [0x3c], .relay 200 [0x41], .body [0x42], .error 1 [0x3e]]).canWrite = false ∧
    (h1Run [.error 2 [0x3c], .relay 200 [0x41], .body [0x42], .error 1 [0x3e]]).wire = makeErrorResponse 502 [0x3c] := by
  decide +kernel

-- `error_status_in_domain` / `errorStatus_domain`: the regenerated map is not empty and does map codes to pages
example : Gen.C12.errorStatus ≠ [] ∧ Gen.C12.errorStatus.any (fun e => e.2 != 0) = true ∧
    Gen.C12.errorStatus.any (fun e => e.2 == 0) = true := by decide +kernel

-- `wire_unchanged_after_101_or_final`: after a relayed 101 the error path adds nothing to the client's wire
example : clientWire [0x41, 0x42] true (some 101) 2 [0x3c] = [0x41, 0x42] ∧ (101 = 101 ∨ 200 ≤ 101) := by decide +kernel

end MitmVerif.Props.C12
