/-
  C44 — property theorems about the OptManager model (Model/C44.lean): options are typed after every history, a
  rejected update restores every option, an accepted one notifies with the assigned names, saving and loading
  reproduces the non-default values; then `set` value strings, deferred options, `relative_path`, `merge`, `load`.

  Two models: the flat one (`step`, `run`: listeners accept or reject) and the nested one (`stepN`, `runN`: a handler may
  call `opts.update` itself), which is the one the driver executes. The flat model is the nested one with depth bound 0
  (`updateKnown_core`). `Does` says what one operation amounts to in both models at once; the invariant behind
  `typed_always(_nested)` (`TypedStore`, and `KeysNodup`: `allTyped` checks a value against EVERY option of that name, so
  only with distinct names can one conclude that a type check passes), the agreement of the two models on passive
  listeners and the rollback over all update operations are read off its three cases. What listeners END UP seeing
  after a rejected update is false of the code (F-C44c, F-C44d) and proved under guards; the round trip is relative to
  the YAML law (false for U+0085: F-C44b).
-/
import MitmVerif.Model.C44
namespace MitmVerif.Props.C44
open MitmVerif MitmVerif.C44

def TypedStore (s : Store) : Prop :=
  ∀ p ∈ s, typeOk p.2.ty p.2.dflt = true ∧ typeOk p.2.ty p.2.cur = true

def KeysNodup (s : Store) : Prop := (s.map (·.1)).Nodup

/-! ### store lemmas -/

/-- the value an update assigns to option `n` (the last pair for that name), if any -/
def finalVal : List (Name × Val) → Name → Option Val
  | [], _ => none
  | kv :: r, n =>
    match finalVal r n with
    | some v => some v
    | none => if kv.1 == n then some kv.2 else none

private theorem assign_eq (kvs : List (Name × Val)) : ∀ s : Store,
    assign s kvs = s.map fun p => (p.1, { p.2 with cur := (finalVal kvs p.1).getD p.2.cur }) := by
  induction kvs with
  | nil => intro s; exact (List.map_id' s).symm
  | cons kv r ih =>
    intro s
    rw [assign, ih, setVal, List.map_map]
    apply List.map_congr_left
    intro p _
    simp only [Function.comp, finalVal]
    by_cases hk : p.1 = kv.1
    · cases hf : finalVal r kv.1 <;> simp [hk, hf]
    · cases hf : finalVal r p.1 <;> simp [hk, Ne.symm hk, hf]

private theorem finalVal_mem (kvs : List (Name × Val)) (n : Name) (v : Val) (h : finalVal kvs n = some v) :
    (n, v) ∈ kvs := by
  revert h
  fun_induction finalVal kvs n <;> intro h
  · cases h
  · rename_i heq ih
    exact List.mem_cons_of_mem _ (ih (heq.trans h))
  · rename_i hk _
    cases h
    exact beq_iff_eq.mp hk ▸ List.mem_cons_self
  · cases h

private theorem typed_assign (kvs : List (Name × Val)) (s : Store) (h : TypedStore s) (ha : allTyped s kvs = true) :
    TypedStore (assign s kvs) := by
  rw [assign_eq]
  intro q hq
  obtain ⟨p, hp, rfl⟩ := List.mem_map.mp hq
  refine ⟨(h p hp).1, ?_⟩
  cases hf : finalVal kvs p.1 with
  | none => exact (h p hp).2
  | some v =>
    -- the assigned value is one of the checked pairs
    have := List.all_eq_true.mp (List.all_eq_true.mp ha _ (finalVal_mem _ _ _ hf)) p hp
    simpa using this

private theorem assign_keys (kvs : List (Name × Val)) (s : Store) : (assign s kvs).map (·.1) = s.map (·.1) := by
  rw [assign_eq, List.map_map]; rfl

private theorem mem_insertOpt (s : Store) (k : Name) (o : Opt) (q : Name × Opt) (hq : q ∈ insertOpt s k o) :
    q = (k, o) ∨ q ∈ s := by
  revert hq
  fun_induction insertOpt s k o <;> intro hq
  · exact .inl (List.mem_singleton.mp hq)
  · exact (List.mem_cons.mp hq).imp id (List.mem_cons_of_mem _)
  · rename_i ih
    rcases List.mem_cons.mp hq with h | h
    · exact .inr (h ▸ List.mem_cons_self)
    · exact (ih h).imp id (List.mem_cons_of_mem _)

private theorem insertOpt_keys_mem (s : Store) (k : Name) (o : Opt) (n : Name)
    (hn : n ∈ (insertOpt s k o).map (·.1)) : n = k ∨ n ∈ s.map (·.1) := by
  obtain ⟨q, hq, rfl⟩ := List.mem_map.mp hn
  rcases mem_insertOpt s k o q hq with h | h
  · exact Or.inl (by rw [h])
  · exact Or.inr (List.mem_map.mpr ⟨q, h, rfl⟩)

private theorem nodup_insertOpt (s : Store) (k : Name) (o : Opt) (h : KeysNodup s) : KeysNodup (insertOpt s k o) := by
  revert h
  unfold KeysNodup
  fun_induction insertOpt s k o <;> intro h
  · exact List.nodup_cons.mpr ⟨nofun, List.nodup_nil⟩
  · rename_i p r hk
    rw [List.map_cons, List.nodup_cons] at h ⊢
    exact ⟨(beq_iff_eq.mp hk) ▸ h.1, h.2⟩
  · rename_i p r _ _ hk ih
    rw [List.map_cons, List.nodup_cons] at h ⊢
    refine ⟨fun hm => ?_, ih h.2⟩
    rcases insertOpt_keys_mem r _ _ p.1 hm with h1 | h1
    · exact hk (beq_iff_eq.mpr h1)
    · exact h.1 h1

private theorem nodup_assign (kvs : List (Name × Val)) (s : Store) (h : KeysNodup s) : KeysNodup (assign s kvs) := by
  unfold KeysNodup; rw [assign_keys]; exact h

private theorem typed_insertOpt (s : Store) (n : Name) (ty : Ty) (d : Val) (h : TypedStore s) (hd : typeOk ty d = true) :
    TypedStore (insertOpt s n ⟨ty, d, d⟩) := by
  intro q hq
  rcases mem_insertOpt s n _ q hq with hq | hq
  · subst hq; exact ⟨hd, hd⟩
  · exact h q hq

private theorem good_resetStore (s : Store) (h : TypedStore s) (hn : KeysNodup s) :
    TypedStore (s.map fun p => (p.1, { p.2 with cur := p.2.dflt })) ∧
    KeysNodup (s.map fun p => (p.1, { p.2 with cur := p.2.dflt })) := by
  refine ⟨fun q hq => ?_, by simp only [KeysNodup, List.map_map]; exact hn⟩
  obtain ⟨p, hp, rfl⟩ := List.mem_map.mp hq
  exact ⟨(h p hp).1, (h p hp).1⟩

private theorem nodup_keys_eq (s : Store) (hn : KeysNodup s) (p q : Name × Opt) (hp : p ∈ s) (hq : q ∈ s)
    (h : p.1 = q.1) : p = q := by
  induction s with
  | nil => simp at hp
  | cons a t ih =>
    simp only [KeysNodup, List.map_cons, List.nodup_cons] at hn
    rcases List.mem_cons.mp hp with hp | hp <;> rcases List.mem_cons.mp hq with hq | hq
    · rw [hp, hq]
    · exfalso; apply hn.1; rw [← hp, h]; exact List.mem_map.mpr ⟨q, hq, rfl⟩
    · exfalso; apply hn.1; rw [← hq, ← h]; exact List.mem_map.mpr ⟨p, hp, rfl⟩
    · exact ih hn.2 hp hq

private theorem lookup_mem (s : Store) (n : Name) (o : Opt) (h : lookup s n = some o) : (n, o) ∈ s := by
  unfold lookup at h
  cases hf : s.find? (fun p => p.1 == n) with
  | none => simp [hf] at h
  | some p =>
    simp only [hf, Option.map_some, Option.some.injEq] at h
    have hm := List.mem_of_find?_eq_some hf
    have hk := List.find?_some hf
    have : p.1 = n := by simpa using hk
    rw [← this, ← h]; exact hm

/-- with distinct names the type check of an update looks at one option per pair -/
private theorem allTyped_of_mem (s : Store) (hn : KeysNodup s) (kvs : List (Name × Val))
    (h : ∀ kv ∈ kvs, ∃ o, (kv.1, o) ∈ s ∧ typeOk o.ty kv.2 = true) : allTyped s kvs = true := by
  simp only [allTyped, List.all_eq_true]
  intro kv hkv p hp
  obtain ⟨o, ho, ht⟩ := h kv hkv
  by_cases hk : p.1 = kv.1
  · have := nodup_keys_eq s hn p (kv.1, o) hp ho hk
    subst this; simp [ht]
  · simp [hk]

/-! ### notification lemmas -/

private theorem notify_mem (s : Store) (u : List Name) (ls : List Listener) :
    ∀ ob ∈ (notify s u ls).1, ob.seen = s ∧ ob.updated = u ∧ ∃ l ∈ ls, l.id = ob.who ∧ concerned l u = true := by
  fun_induction notify s u ls <;> intro ob h
  · cases h
  · rename_i l _ hc _
    cases List.mem_singleton.mp h
    exact ⟨rfl, rfl, l, List.mem_cons_self, rfl, hc⟩
  · rename_i l _ hc _ _ ih
    rcases List.mem_cons.mp h with e | e
    · subst e; exact ⟨rfl, rfl, l, List.mem_cons_self, rfl, hc⟩
    · obtain ⟨a, b, l', hl', c⟩ := ih ob e
      exact ⟨a, b, l', List.mem_cons_of_mem _ hl', c⟩
  · rename_i ih
    obtain ⟨a, b, l', hl', c⟩ := ih ob h
    exact ⟨a, b, l', List.mem_cons_of_mem _ hl', c⟩

private theorem notify_delivered (s : Store) (u : List Name) (ls : List Listener) (h : (notify s u ls).2 = false) :
    (notify s u ls).1 = (ls.filter (concerned · u)).map (fun l => (⟨l.id, s, u⟩ : Obs)) := by
  revert h
  fun_induction notify s u ls <;> intro h
  · rfl
  · cases h
  · rename_i hc _ _ ih
    rw [List.filter_cons_of_pos (p := (concerned · u)) hc, List.map_cons, ← ih h]
  · rename_i hc ih
    rw [List.filter_cons_of_neg (p := (concerned · u)) hc, ← ih h]

/-- while every handler that acts leaves the store alone and calls nobody, a send with handlers that could act is
    the plain send, and the store stays -/
private theorem notifyW_still (nested : Store → List (Name × Val) → NRes) (u : List Name) (s : Store) (ls : List Listener)
    (hn : ∀ l ∈ ls, ∀ kw, concerned l u = true → l.rejects s u = false → l.act s u = some kw → nested s kw = ⟨s, .ok, [], []⟩) :
    notifyW nested u s ls = (s, (notify s u ls).1, (notify s u ls).2) := by
  induction ls with
  | nil => rfl
  | cons l r ih =>
    have ihr := ih fun l' hl' => hn l' (List.mem_cons_of_mem _ hl')
    simp only [notifyW, notify]
    by_cases hc : concerned l u = true
    · by_cases hr : l.rejects s u = true
      · simp only [hc, hr, if_true]
      · cases ha : l.act s u with
        | none => simp only [hc, hr, ihr, if_true]; rfl
        | some kw =>
          simp only [hc, hr, hn l List.mem_cons_self kw hc (eq_false_of_ne_true hr) ha, ihr, if_true]
          rfl
    · simp only [hc, ihr]
      rfl

/-! ### well-formed stores: typed values, distinct names

The flat model is the nested one with depth bound 0, where a handler's own update does nothing; what `update_known`
keeps is therefore proved once, for `coreUpdate` with any well-behaved `nested`. -/

private theorem notifyW_flat (ls' : List Listener) (u : List Name) (s : Store) (ls : List Listener) :
    notifyW (nestedAt 0 ls') u s ls = (s, (notify s u ls).1, (notify s u ls).2) :=
  notifyW_still _ u s ls fun _ _ _ _ _ _ => rfl

private theorem updateKnown_core (st : St) (kw : List (Name × Val)) :
    updateKnown st kw = withOpts st (coreUpdate (nestedAt 0 st.listeners) st.listeners st.opts kw) := by
  unfold updateKnown coreUpdate withOpts
  simp only [notifyW_flat]
  cases (kw.filter fun kv => hasKey st.opts kv.1).isEmpty <;>
    cases allTyped st.opts (kw.filter fun kv => hasKey st.opts kv.1) <;>
    cases (notify (assign st.opts (kw.filter fun kv => hasKey st.opts kv.1))
      ((kw.filter fun kv => hasKey st.opts kv.1).map (·.1)) st.listeners).2 <;> rfl

/-- what one operation guarantees: the new store is typed with distinct names, and so is everything a listener saw -/
private def Good (r : Res) : Prop :=
  TypedStore r.st.opts ∧ KeysNodup r.st.opts ∧ ∀ ob ∈ r.obs, TypedStore ob.seen

private def NGood (r : NRes) : Prop :=
  TypedStore r.opts ∧ KeysNodup r.opts ∧ ∀ ob ∈ r.obs, TypedStore ob.seen

private def NestedGood (nested : Store → List (Name × Val) → NRes) : Prop :=
  ∀ s kw, TypedStore s → KeysNodup s → NGood (nested s kw)

private theorem notifyW_good (nested : Store → List (Name × Val) → NRes) (hn : NestedGood nested) (u : List Name)
    (ls : List Listener) : ∀ s, TypedStore s → KeysNodup s →
    TypedStore (notifyW nested u s ls).1 ∧ KeysNodup (notifyW nested u s ls).1 ∧
      ∀ ob ∈ (notifyW nested u s ls).2.1, TypedStore ob.seen := by
  intro s
  fun_induction notifyW nested u s ls <;> intro h1 h2
  · exact ⟨h1, h2, nofun⟩
  · exact ⟨h1, h2, List.forall_mem_singleton.mpr h1⟩
  · rename_i ih
    obtain ⟨a, b, c⟩ := ih h1 h2
    exact ⟨a, b, List.forall_mem_cons.mpr ⟨h1, c⟩⟩
  · rename_i s _ _ _ _ kw _ _ _
    obtain ⟨n1, n2, n3⟩ := hn s kw h1 h2
    exact ⟨n1, n2, List.forall_mem_cons.mpr ⟨h1, n3⟩⟩
  · rename_i s _ _ _ _ kw _ _ _ _ ih
    obtain ⟨n1, n2, n3⟩ := hn s kw h1 h2
    obtain ⟨a, b, c⟩ := ih n1 n2
    exact ⟨a, b, List.forall_mem_cons.mpr ⟨h1, List.forall_mem_append.mpr ⟨n3, c⟩⟩⟩
  · rename_i ih
    exact ih h1 h2

private theorem coreUpdate_good (nested : Store → List (Name × Val) → NRes) (hn : NestedGood nested)
    (ls : List Listener) (s : Store) (kw : List (Name × Val)) (h1 : TypedStore s) (h2 : KeysNodup s) :
    NGood (coreUpdate nested ls s kw) := by
  fun_cases coreUpdate nested ls s kw
  · exact ⟨h1, h2, by simp⟩
  · exact ⟨h1, h2, by simp⟩
  · rename_i ht _ _ _
    exact notifyW_good nested hn _ ls _ (typed_assign _ s h1 (by simpa using ht)) (nodup_assign _ s h2)
  · rename_i ht _ _ _ _
    obtain ⟨_, _, c1⟩ := notifyW_good nested hn ((kw.filter fun kv => hasKey s kv.1).map (·.1)) ls _
      (typed_assign _ s h1 (by simpa using ht)) (nodup_assign _ s h2)
    obtain ⟨a2, b2, c2⟩ := notifyW_good nested hn ((kw.filter fun kv => hasKey s kv.1).map (·.1)) ls _ h1 h2
    exact ⟨a2, b2, List.forall_mem_append.mpr ⟨c1, c2⟩⟩

private theorem nestedAt_good (ls : List Listener) : ∀ d, NestedGood (nestedAt d ls) := by
  intro d
  induction d with
  | zero => intro s kw h1 h2; exact ⟨h1, h2, by simp [nestedAt]⟩
  | succ d ih =>
    intro s kw h1 h2
    have := coreUpdate_good (fun s' kw' => nestedAt d ls s' kw') ih ls s kw h1 h2
    simp only [nestedAt, keyErr]
    split <;> exact this

private theorem good_updateKnownN (st : St) (kw : List (Name × Val)) (h : TypedStore st.opts) (hn : KeysNodup st.opts) :
    Good (updateKnownN st kw) :=
  coreUpdate_good _ (nestedAt_good st.listeners maxDepth) st.listeners st.opts kw h hn

private theorem good_updateKnown (st : St) (kw : List (Name × Val)) (h : TypedStore st.opts) (hn : KeysNodup st.opts) :
    Good (updateKnown st kw) := by
  rw [updateKnown_core]
  exact coreUpdate_good _ (nestedAt_good st.listeners 0) st.listeners st.opts kw h hn

/-! ### what one operation does

Every operation, in the flat model and in the one with listener-issued updates alike, is refused before anything
happens, or is one send on a new store, or is one `update_known` followed by something that leaves options and calls
alone. `Does` says so for both models at once; invariants, the agreement of the two models and the rollback are then
read off its three cases. -/

/-- the operations `rejected_update_restores_everything` speaks of: one `update_known` of the values given or parsed
    (`load`, an `update_defer` of the rewritten data, is not counted among them) -/
def isUpdateOp : Op → Bool
  | .update _ | .updateKnown _ | .updateDefer _ | .set _ _ | .processDeferred | .merge _ => true
  | _ => false

/-- what may follow `update_known` inside an operation: options and calls stay, `ok` may become KeyError -/
private def Post (p : Res → Res) : Prop :=
  ∀ r, (p r).st.opts = r.st.opts ∧ (p r).obs = r.obs ∧ ((p r).out = r.out ∨ (p r).out = .keyError ∧ r.out = .ok)

/-- `update` after `update_known` -/
private def keyE (r : Res) : Res := if r.out == .ok && !r.unknown.isEmpty then { r with out := .keyError } else r

/-- `update_defer`, `process_deferred` after their update: on success the deferred options are rewritten -/
private def onOk (f : Res → List (Name × DVal)) (r : Res) : Res :=
  if r.out == .ok then { r with st := { r.st with deferred := f r } } else r

/-- `update_defer` defers the unknown names -/
private def deferUnknown (r : Res) : List (Name × DVal) :=
  dictUpdate r.st.deferred (r.unknown.map fun kv => (kv.1, DVal.typed kv.2))

private theorem post_id : Post id := fun _ => ⟨rfl, rfl, .inl rfl⟩

private theorem post_keyE : Post keyE := by
  intro r
  unfold keyE
  split
  · rename_i h
    rw [Bool.and_eq_true, beq_iff_eq] at h
    exact ⟨rfl, rfl, .inr ⟨rfl, h.1⟩⟩
  · exact ⟨rfl, rfl, .inl rfl⟩

private theorem post_onOk (f : Res → List (Name × DVal)) : Post (onOk f) := by
  intro r
  unfold onOk
  split <;> exact ⟨rfl, rfl, .inl rfl⟩

private theorem Post.comp {p q : Res → Res} (hp : Post p) (hq : Post q) : Post fun r => q (p r) := by
  intro r
  obtain ⟨a, b, c⟩ := hp r
  obtain ⟨a', b', c'⟩ := hq (p r)
  refine ⟨a'.trans a, b'.trans b, ?_⟩
  rcases c' with c' | ⟨c', e⟩
  · exact c.imp c'.trans fun x => ⟨c'.trans x.1, x.2⟩
  · exact .inr ⟨c', c.elim (fun x => x.symm.trans e) (·.2)⟩

/-- a send on the store `s`, which becomes the new store -/
private def sent (st : St) (s : Store) (u : List Name) : Res :=
  ⟨{ st with opts := s }, if (notify s u st.listeners).2 then .optionsError else .ok, (notify s u st.listeners).1, []⟩

private def sentN (st : St) (s : Store) (u : List Name) : Res :=
  let r := notifyW (nestedAt maxDepth st.listeners) u s st.listeners
  ⟨{ st with opts := r.1 }, if r.2.2 then .optionsError else .ok, r.2.1, []⟩

/-- `Does st op r rN`: what `op` amounts to on `st`, with `r` its result in the flat model and `rN` in the nested one -/
private inductive Does (st : St) (op : Op) : Res → Res → Prop
  /-- refused before anything is assigned, or `subscribe`: the options stay and nobody is called -/
  | nothing (r : Res) : r.st.opts = st.opts → r.obs = [] → Does st op r r
  /-- `add_option`, `reset`: a send on a store that is well-formed if the present one is -/
  | send (s : Store) (u : List Name) : isUpdateOp op = false →
      (TypedStore st.opts → KeysNodup st.opts → TypedStore s ∧ KeysNodup s) → Does st op (sent st s u) (sentN st s u)
  /-- one `update_known` on a state with the options and listeners of `st` (`set(defer=True)` has recorded the unknown
      names by then), and what the operation does with its result -/
  | update (st' : St) (kw : List (Name × Val)) (post : Res → Res) : st'.opts = st.opts → st'.listeners = st.listeners →
      Post post → Does st op (post (updateKnown st' kw)) (post (updateKnownN st' kw))

private theorem does (st : St) (op : Op) : Does st op (step st op) (stepN st op) := by
  cases op with
  | addOption n ty d =>
    simp only [step, stepN, addOption, addOptionN]
    split
    · exact .nothing _ rfl rfl
    · rename_i hd
      exact .send _ [n] rfl fun h hn =>
        ⟨typed_insertOpt st.opts n ty d h (by simpa using hd), nodup_insertOpt _ _ _ hn⟩
  | subscribe l =>
    simp only [step, stepN, subscribe]
    split
    · split <;> exact .nothing _ rfl rfl
    · exact .nothing _ rfl rfl
  | update kw => exact .update st kw keyE rfl rfl post_keyE
  | updateKnown kw => exact .update st kw id rfl rfl post_id
  | updateDefer kw => exact .update st kw (onOk deferUnknown) rfl rfl (post_onOk _)
  | set specs defer =>
    simp only [step, stepN, setSpecs, setSpecsN]
    split
    · exact .nothing _ rfl rfl
    · split
      · exact .update _ _ keyE rfl rfl post_keyE
      · split
        · exact .nothing _ rfl rfl
        · exact .update st _ keyE rfl rfl post_keyE
  | processDeferred =>
    simp only [step, stepN, processDeferred, processDeferredN]
    split
    · exact .nothing _ rfl rfl
    · rename_i upd _
      exact .update st upd (fun r => onOk (fun r => r.st.deferred.filter fun p => !(upd.any (·.1 == p.1))) (keyE r))
        rfl rfl (post_keyE.comp (post_onOk _))
  | reset => exact .send _ _ rfl (good_resetStore st.opts)
  | merge kvs =>
    simp only [step, stepN, merge, mergeN]
    split
    · exact .nothing _ rfl rfl
    · exact .update st _ keyE rfl rfl post_keyE
  | load env cwd data =>
    have hd : ∀ d, Does st (.load env cwd data) (updateDefer st d) (updateDeferN st d) := fun d =>
      .update st d (onOk deferUnknown) rfl rfl (post_onOk _)
    simp only [step, stepN, load, loadN]
    split
    · exact hd _
    · split
      · exact .nothing _ rfl rfl
      · exact hd _

private theorem Does.good {st : St} {op : Op} {r rN : Res} (d : Does st op r rN) (h : TypedStore st.opts)
    (hn : KeysNodup st.opts) : Good r ∧ Good rN := by
  cases d with
  | nothing r ho hobs =>
    have : Good r := ⟨ho ▸ h, ho ▸ hn, hobs ▸ nofun⟩
    exact ⟨this, this⟩
  | send s u _ hs =>
    obtain ⟨ts, ks⟩ := hs h hn
    -- a plain send shows every receiver the store it is given
    exact ⟨⟨ts, ks, fun ob hob => (notify_mem s u _ ob hob).1 ▸ ts⟩,
      notifyW_good _ (nestedAt_good st.listeners maxDepth) u st.listeners s ts ks⟩
  | update st' kw post ho _ hp =>
    have key : ∀ r0, Good r0 → Good (post r0) := fun r0 g => by
      obtain ⟨a, b, _⟩ := hp r0
      unfold Good
      rwa [a, b]
    exact ⟨key _ (good_updateKnown st' kw (ho ▸ h) (ho ▸ hn)), key _ (good_updateKnownN st' kw (ho ▸ h) (ho ▸ hn))⟩

/-- a history keeps the store well-formed and shows listeners well-formed stores only -/
private def Inv (x : St × List Obs) : Prop :=
  TypedStore x.1.opts ∧ KeysNodup x.1.opts ∧ ∀ ob ∈ x.2, TypedStore ob.seen

private theorem inv_runFrom (ops : List Op) : ∀ st : St, TypedStore st.opts → KeysNodup st.opts →
    Inv (runFrom st ops) ∧ Inv (runFromN st ops) := by
  induction ops with
  | nil => intro st h hn; exact ⟨⟨h, hn, fun _ hp => nomatch hp⟩, h, hn, fun _ hp => nomatch hp⟩
  | cons op r ih =>
    intro st h hn
    obtain ⟨⟨g1, g2, g3⟩, n1, n2, n3⟩ := (does st op).good h hn
    obtain ⟨⟨i1, i2, i3⟩, _⟩ := ih (step st op).st g1 g2
    obtain ⟨_, j1, j2, j3⟩ := ih (stepN st op).st n1 n2
    exact ⟨⟨i1, i2, List.forall_mem_append.mpr ⟨g3, i3⟩⟩, j1, j2, List.forall_mem_append.mpr ⟨n3, j3⟩⟩

private theorem inv_runs (ops : List Op) : Inv (run ops) ∧ Inv (runN ops) :=
  inv_runFrom ops St.empty (fun _ hp => nomatch hp) List.nodup_nil

private theorem inv_run (ops : List Op) : Inv (run ops) := (inv_runs ops).1

private theorem inv_runN (ops : List Op) : Inv (runN ops) := (inv_runs ops).2

/-- **typed_always.** After ANY history of operations (declarations, listeners with arbitrary verdict functions,
    updates with arbitrary values incl. ill-typed ones, `set` specs, deferred options, reset) every option holds a
    default and a current value of its declared type — and so did every state any listener was shown on the way. -/
theorem typed_always (ops : List Op) :
    TypedStore (run ops).1.opts ∧ ∀ ob ∈ (run ops).2, TypedStore ob.seen :=
  ⟨(inv_run ops).1, (inv_run ops).2.2⟩

/-- **typed_always_nested.** `typed_always` for the model with listener-issued nested updates: after ANY history,
    with listeners that accept, reject or update other options from inside their handlers (nested to the model's depth
    bound), every option holds values of its declared type, and so did every state shown to any listener at any depth. -/
theorem typed_always_nested (ops : List Op) :
    TypedStore (runN ops).1.opts ∧ ∀ ob ∈ (runN ops).2, TypedStore ob.seen :=
  ⟨(inv_runN ops).1, (inv_runN ops).2.2⟩

example : TypedStore (run [.addOption 0 .int (.a (.i 0)), .update [(0, .a (.i 5))]]).1.opts := (typed_always _).1
/-- the model does reject: an ill-typed value is refused, an ill-typed default is refused -/
example : (updateKnown ⟨[(0, ⟨.int, .a (.i 0), .a (.i 0)⟩)], [], [], []⟩ [(0, .a (.s [0x78]))]).out = .typeError := by decide +kernel
example : (addOption St.empty 0 .seqStr (.seq [.s [], .i 1])).out = .typeError := by decide +kernel

/-! ### rejected updates -/

private theorem updateKnown_out (st : St) (kw : List (Name × Val)) :
    (updateKnown st kw).out = .ok ∨ (updateKnown st kw).st = st ∧
      ((updateKnown st kw).out = .typeError ∨ (updateKnown st kw).out = .optionsError) := by
  fun_cases updateKnown st kw
  · exact .inl rfl
  · exact .inr ⟨rfl, .inl rfl⟩
  · exact .inl rfl
  · exact .inr ⟨rfl, .inr rfl⟩

private theorem Does.kept {st : St} {op : Op} {r rN : Res} (d : Does st op r rN) (hop : isUpdateOp op = true) :
    r.st.opts = st.opts ∨ r.out = .ok ∨ r.out = .keyError := by
  cases d with
  | nothing _ ho => exact .inl ho
  | send _ _ hf => rw [hf] at hop; cases hop
  | update st' kw post ho _ hp =>
    obtain ⟨a, _, c⟩ := hp (updateKnown st' kw)
    rcases updateKnown_out st' kw with e | ⟨e, _⟩
    · exact .inr (c.imp (·.trans e) (·.1))
    · exact .inl (a.trans ((congrArg St.opts e).trans ho))

/-- **rejected_update_restores_everything.** Whatever the history before it, an update-family operation
    (`update`, `__setattr__`, `update_known`, `update_defer`, `set`, `process_deferred`, `merge`) that is rejected — by the type
    check (TypeError) or by any listener (OptionsError), including a listener that rejects the rollback notification
    as well — leaves every option exactly as it was (names, types, defaults and values), for ALL listener functions. -/
theorem rejected_update_restores_everything (st : St) (op : Op) (hop : isUpdateOp op = true)
    (h : (step st op).out = .typeError ∨ (step st op).out = .optionsError) :
    (step st op).st.opts = st.opts := by
  rcases (does st op).kept hop with e | e | e
  · exact e
  · rw [e] at h; simp at h
  · rw [e] at h; simp at h

/-- the same for `update_known`, where the rollback is: failing, it returns the identical state (options, deferred
    options and listeners) -/
theorem rejected_update_known_restores_state (st : St) (kw : List (Name × Val))
    (h : (updateKnown st kw).out ≠ .ok) : (updateKnown st kw).st = st :=
  ((updateKnown_out st kw).resolve_left h).1

/-- a listener rejecting `a = 5`: the update is refused and nothing changed -/
example :
    let st : St := ⟨[(0, ⟨.int, .a (.i 0), .a (.i 0)⟩), (1, ⟨.int, .a (.i 0), .a (.i 0)⟩)], [], [],
      [⟨1, none, fun s _ => (lookup s 0).any (fun o => pyEq o.cur (.a (.i 5))), fun _ _ => none⟩]⟩
    (step st (.update [(1, .a (.i 9)), (0, .a (.i 5))])).out = .optionsError ∧
    (step st (.update [(1, .a (.i 9)), (0, .a (.i 5))])).st.opts = st.opts := by decide +kernel

/-- the state a listener saw last during one operation -/
def lastSeen (obs : List Obs) (who : Nat) : Option Store :=
  (obs.reverse.find? (·.who == who)).map (·.seen)

/-- the rollback notification (`changed.send` after restoring the snapshot) was delivered to everybody -/
def rollbackDelivered (st : St) (kw : List (Name × Val)) : Bool :=
  !(notify st.opts ((kw.filter fun kv => hasKey st.opts kv.1).map (·.1)) st.listeners).2

/-- full statement (FALSE for the code as it is, see the counterexample): after a rejected update every listener
    that was called ends up having seen the restored state -/
def ListenersSeeRestoredState : Prop :=
  ∀ (st : St) (kw : List (Name × Val)), (updateKnown st kw).out ≠ .ok →
    ∀ ob ∈ (updateKnown st kw).obs, lastSeen (updateKnown st kw).obs ob.who = some st.opts

private theorem lastSeen_delivered (a : List Obs) (s : Store) (u : List Name) (ls : List Listener)
    (hd : (notify s u ls).2 = false) (l : Listener) (hl : l ∈ ls) (hc : concerned l u = true) :
    lastSeen (a ++ (notify s u ls).1) l.id = some s := by
  unfold lastSeen
  rw [List.reverse_append, List.find?_append]
  have hsome : ((notify s u ls).1.reverse.find? (·.who == l.id)).isSome = true := by
    rw [List.find?_isSome, notify_delivered _ _ _ hd]
    exact ⟨⟨l.id, s, u⟩, List.mem_reverse.mpr (List.mem_map.mpr ⟨l, List.mem_filter.mpr ⟨hl, hc⟩, rfl⟩), by simp⟩
  obtain ⟨x, hx⟩ := Option.isSome_iff_exists.mp hsome
  rw [hx, Option.some_or, Option.map_some,
    (notify_mem _ _ _ x (List.mem_reverse.mp (List.mem_of_find?_eq_some hx))).1]

/-- **rejected_update_…_listeners_see_restored_state (partial).** For ALL states, listener functions and
    arguments: if the update is rejected and the rollback notification is delivered completely, every listener
    that was called during the update has, as its last view, exactly the restored (= previous) option state. -/
theorem rejected_update_listeners_see_restored_state_partial (st : St) (kw : List (Name × Val))
    (h : (updateKnown st kw).out ≠ .ok) (hd : rollbackDelivered st kw = true) :
    (updateKnown st kw).st = st ∧
    ∀ ob ∈ (updateKnown st kw).obs, lastSeen (updateKnown st kw).obs ob.who = some st.opts := by
  refine ⟨rejected_update_known_restores_state st kw h, ?_⟩
  have hd' : (notify st.opts ((kw.filter fun kv => hasKey st.opts kv.1).map (·.1)) st.listeners).2 = false := by
    simpa [rollbackDelivered] using hd
  revert h
  fun_cases updateKnown st kw <;> intro h
  · exact absurd rfl h
  · intro ob hob; cases hob
  · exact absurd rfl h
  · intro ob hob
    -- the listener of `ob` is concerned, hence it is called again by the delivered rollback notification
    obtain ⟨l, hl, hid, hc⟩ : ∃ l ∈ st.listeners, l.id = ob.who ∧
        concerned l ((kw.filter fun kv => hasKey st.opts kv.1).map (·.1)) = true := by
      rcases List.mem_append.mp hob with hob | hob <;> exact (notify_mem _ _ _ ob hob).2.2
    exact hid ▸ lastSeen_delivered _ _ _ _ hd' l hl hc

/-- F-C44c witness: listener 1 accepts `a = 5` but rejects the default `a = 0`; listener 2 rejects `a = 5`.
    `update(a=5)`: 1 sees 5, 2 sees 5 and raises; rollback: 1 sees 0 and raises — 2 is never told. -/
def cexState : St :=
  ⟨[(0, ⟨.int, .a (.i 0), .a (.i 0)⟩)], [], [],
   [⟨1, none, fun s _ => (lookup s 0).any (fun o => pyEq o.cur (.a (.i 0))), fun _ _ => none⟩,
    ⟨2, none, fun s _ => (lookup s 0).any (fun o => pyEq o.cur (.a (.i 5))), fun _ _ => none⟩]⟩

theorem rejected_update_listeners_see_restored_state_counterexample : ¬ ListenersSeeRestoredState := by
  intro h
  have h1 := h cexState [(0, .a (.i 5))] (by decide) ⟨2, [(0, ⟨.int, .a (.i 0), .a (.i 5)⟩)], [0]⟩ (by decide)
  revert h1
  decide +kernel

/-- the guard of the partial theorem is satisfiable with a real rejection (listener 2 alone) -/
example :
    let st : St := { cexState with direct := cexState.direct.drop 1 }
    (updateKnown st [(0, .a (.i 5))]).out = .optionsError ∧ rollbackDelivered st [(0, .a (.i 5))] = true ∧
    lastSeen (updateKnown st [(0, .a (.i 5))]).obs 2 = some st.opts := by decide +kernel

/-! ### accepted updates -/

/-- **accepted_update_notifies_assigned_names.** For ALL states, listener functions and arguments: if `update_known`
    succeeds, then (1) the new options are the old ones with exactly the known names re-assigned (last value wins),
    (2) when at least one name was assigned, exactly the listeners concerned by those names (subscribers whose name
    set meets them, and every receiver connected to `changed`) were each called once, in order, with the names of the
    assigned options and with the new state in view; nobody else was called; (3) the unknown pairs are returned. -/
theorem accepted_update_notifies_assigned_names (st : St) (kw : List (Name × Val))
    (h : (updateKnown st kw).out = .ok) :
    let known := kw.filter fun kv => hasKey st.opts kv.1
    let names := known.map (·.1)
    let new := (updateKnown st kw).st.opts
    new = (st.opts.map fun p => (p.1, { p.2 with cur := (finalVal known p.1).getD p.2.cur })) ∧
    (updateKnown st kw).obs =
      (if known.isEmpty then [] else (st.listeners.filter (concerned · names)).map fun l => (⟨l.id, new, names⟩ : Obs)) ∧
    (updateKnown st kw).unknown = kw.filter (fun kv => !hasKey st.opts kv.1) := by
  revert h
  fun_cases updateKnown st kw <;> intro h
  · rename_i he
    exact ⟨.trans (congrArg (assign st.opts) (List.isEmpty_iff.mp he)).symm (assign_eq _ _), (if_pos he).symm, rfl⟩
  · cases h
  · rename_i he _ _ _ _ hd
    exact ⟨assign_eq _ _, (notify_delivered _ _ _ (by simpa using hd)).trans (if_neg he).symm, rfl⟩
  · cases h

/-- `update` (and `__setattr__`) differ from `update_known` only in reporting unknown names with KeyError afterwards -/
theorem update_is_update_known (st : St) (kw : List (Name × Val)) :
    (update st kw).st = (updateKnown st kw).st ∧ (update st kw).obs = (updateKnown st kw).obs ∧
    ((update st kw).out = .keyError → (updateKnown st kw).out = .ok) := by
  unfold update
  simp only
  split
  · rename_i hc
    rw [Bool.and_eq_true, beq_iff_eq] at hc
    exact ⟨rfl, rfl, fun _ => hc.1⟩
  · refine ⟨rfl, rfl, fun hk => ?_⟩
    rcases updateKnown_out st kw with h | ⟨_, h | h⟩
    · exact h
    · rw [h] at hk; cases hk
    · rw [h] at hk; cases hk

example :
    let st : St := ⟨[(0, ⟨.int, .a (.i 0), .a (.i 0)⟩), (1, ⟨.str, .a (.s []), .a (.s [])⟩)], [],
      [⟨7, some [1], fun _ _ => false, fun _ _ => none⟩], [⟨8, none, fun _ _ => false, fun _ _ => none⟩]⟩
    (updateKnown st [(0, .a (.i 5)), (9, .a .none)]).out = .ok ∧
    (updateKnown st [(0, .a (.i 5)), (9, .a .none)]).obs.map (·.who) = [8] := by decide +kernel

/-! ### config round trip -/

/-- the options after save→load: every non-default value reproduced, the others at their default -/
def reproduced (s : Store) : Store :=
  s.map fun p => (p.1, { p.2 with cur := if p.2.hasChanged then p.2.cur else p.2.dflt })

/-- "saving to a config file and loading that file into fresh options reproduces every non-default value" -/
def Reproduces (s : Store) (r : Option Res) : Prop :=
  ∃ x, r = some x ∧ x.out = .ok ∧ x.st.opts = reproduced s ∧ ∀ p ∈ s, p.2.hasChanged = true → p ∈ x.st.opts

private theorem mem_saveData (s : Store) (kv : Name × Val) (h : kv ∈ saveData s) :
    ∃ p ∈ s, p.2.hasChanged = true ∧ kv = (p.1, p.2.cur) := by
  unfold saveData at h
  obtain ⟨p, hp, hpe⟩ := List.mem_filterMap.mp h
  by_cases hc : p.2.hasChanged = true
  · simp only [hc, if_true, Option.some.injEq] at hpe
    exact ⟨p, hp, hc, hpe.symm⟩
  · simp [hc] at hpe

private theorem finalVal_none (kvs : List (Name × Val)) (n : Name) (h : n ∉ kvs.map (·.1)) : finalVal kvs n = none := by
  induction kvs with
  | nil => rfl
  | cons kv r ih =>
    simp only [List.map_cons, List.mem_cons, not_or] at h
    simp [finalVal, ih h.2, Ne.symm h.1]

private theorem finalVal_saveData (s : Store) (hn : KeysNodup s) :
    ∀ p ∈ s, finalVal (saveData s) p.1 = if p.2.hasChanged then some p.2.cur else none := by
  induction s with
  | nil => intro p hp; cases hp
  | cons q t ih =>
    obtain ⟨hq, ht⟩ := List.nodup_cons.mp hn
    have hsave : saveData (q :: t) = if q.2.hasChanged then (q.1, q.2.cur) :: saveData t else saveData t := by
      cases hc : q.2.hasChanged <;> simp [saveData, hc]
    intro p hp
    rw [hsave]
    rcases List.mem_cons.mp hp with rfl | hp
    · -- the name of the first option is not saved again further on
      have hnone : finalVal (saveData t) p.1 = none := finalVal_none _ _ fun hm => by
        obtain ⟨kv, hkv, hk⟩ := List.mem_map.mp hm
        obtain ⟨p', hp', _, rfl⟩ := mem_saveData t kv hkv
        exact hq (List.mem_map.mpr ⟨p', hp', hk⟩)
      split <;> simp [finalVal, hnone]
    · have hne : q.1 ≠ p.1 := fun e => hq (List.mem_map.mpr ⟨p, hp, e.symm⟩)
      rw [← ih ht p hp]
      split
      · cases hf : finalVal (saveData t) p.1 <;> simp [finalVal, hne, hf]
      · rfl

private theorem updateDefer_opts (st : St) (kw : List (Name × Val)) :
    (updateDefer st kw).st.opts = (updateKnown st kw).st.opts ∧ (updateDefer st kw).obs = (updateKnown st kw).obs ∧
    (updateDefer st kw).out = (updateKnown st kw).out := by
  unfold updateDefer; simp only; split <;> exact ⟨rfl, rfl, rfl⟩

private theorem load_saveData (s : Store) (ht : TypedStore s) (hn : KeysNodup s) :
    (updateDefer (fresh s) (saveData s)).out = .ok ∧ (updateDefer (fresh s) (saveData s)).st.opts = reproduced s := by
  rw [(updateDefer_opts _ _).1, (updateDefer_opts _ _).2.2]
  have hkeys : ∀ kv ∈ saveData s, hasKey (fresh s).opts kv.1 = true := by
    intro kv hkv
    obtain ⟨p, hp, _, rfl⟩ := mem_saveData s kv hkv
    simp only [hasKey, fresh, List.any_map, List.any_eq_true]
    exact ⟨p, hp, by simp⟩
  have hknown : (saveData s).filter (fun kv => hasKey (fresh s).opts kv.1) = saveData s :=
    List.filter_eq_self.mpr hkeys
  have htyped : allTyped (fresh s).opts (saveData s) = true :=
    allTyped_of_mem _ (good_resetStore s ht hn).2 _ fun kv hkv =>
      let ⟨p, hp, _, e⟩ := mem_saveData s kv hkv
      ⟨{ p.2 with cur := p.2.dflt }, List.mem_map.mpr ⟨p, hp, by rw [e]⟩, by rw [e]; exact (ht p hp).2⟩
  have hok : (updateKnown (fresh s) (saveData s)).out = .ok := by
    fun_cases updateKnown (fresh s) (saveData s)
    · rfl
    · rename_i ht
      simp +zetaDelta only [hknown, htyped] at ht
      cases ht
    · rfl
    · rename_i hr _
      exact absurd rfl hr
  refine ⟨hok, ?_⟩
  have hacc := (accepted_update_notifies_assigned_names (fresh s) (saveData s) hok).1
  simp only at hacc
  rw [hacc, hknown]
  simp only [fresh, reproduced, List.map_map]
  apply List.map_congr_left
  intro p hp
  simp only [Function.comp, finalVal_saveData s hn p hp]
  by_cases hc : p.2.hasChanged = true <;> simp [hc]

private theorem reproduces_of_parse {Text : Type} (Y : Yaml Text) (s : Store) (ht : TypedStore s) (hn : KeysNodup s)
    (hlaw : Y.parse (Y.dump (saveData s)) = some (saveData s)) : Reproduces s (saveLoad Y s) := by
  obtain ⟨hok, hopts⟩ := load_saveData s ht hn
  refine ⟨updateDefer (fresh s) (saveData s), by simp [saveLoad, hlaw], hok, hopts, ?_⟩
  intro p hp hc
  rw [hopts]
  exact List.mem_map.mpr ⟨p, hp, by simp [hc]⟩

/-- **config_roundtrip_nondefault.** For ANY history of operations and any YAML library obeying
    `parse (dump d) = some d`: serialising the options reached into a new config file and loading that text into
    fresh options (same declarations) is accepted and yields options in which every non-default value is reproduced
    exactly (and every other option is at its default). The type check of `load` passes because of `typed_always`. -/
theorem config_roundtrip_nondefault {Text : Type} (Y : Yaml Text) (law : ∀ d, Y.parse (Y.dump d) = some d)
    (ops : List Op) : Reproduces (run ops).1.opts (saveLoad Y (run ops).1.opts) :=
  reproduces_of_parse Y _ (inv_run ops).1 (inv_run ops).2.1 (law _)

/-- **config_roundtrip_nondefault_nested.** `config_roundtrip_nondefault` for the NESTED model, i.e. for every store the
    tied model reaches — histories whose listeners issue updates of their own included: for any YAML library obeying
    `parse (dump d) = some d`, saving the options and loading that text into fresh options is accepted and reproduces every
    non-default value. (`saveLoad` itself involves no listener: fresh options have none.) -/
theorem config_roundtrip_nondefault_nested {Text : Type} (Y : Yaml Text) (law : ∀ d, Y.parse (Y.dump d) = some d)
    (ops : List Op) : Reproduces (runN ops).1.opts (saveLoad Y (runN ops).1.opts) :=
  reproduces_of_parse Y _ (inv_runN ops).1 (inv_runN ops).2.1 (law _)

/-- what the real library (ruamel.yaml) satisfies: the law for data without U+0085 in any string -/
def NelLaw {Text : Type} (Y : Yaml Text) : Prop :=
  ∀ d : List (Name × Val), (∀ kv ∈ d, kv.2.nelFree = true) → Y.parse (Y.dump d) = some d

private theorem reproduces_of_nelLaw {Text : Type} (Y : Yaml Text) (law : NelLaw Y) (s : Store) (ht : TypedStore s)
    (hn : KeysNodup s) (hg : ∀ p ∈ s, p.2.hasChanged = true → p.2.cur.nelFree = true) : Reproduces s (saveLoad Y s) := by
  apply reproduces_of_parse Y s ht hn
  apply law
  intro kv hkv
  obtain ⟨p, hp, hc, rfl⟩ := mem_saveData _ kv hkv
  exact hg p hp hc

/-- **config_roundtrip_nondefault (partial, F-C44b).** With a YAML library that is only known to round-trip
    NEL-free data, the statement holds for every history whose non-default values contain no U+0085. -/
theorem config_roundtrip_nondefault_partial {Text : Type} (Y : Yaml Text) (law : NelLaw Y) (ops : List Op)
    (hg : ∀ p ∈ (run ops).1.opts, p.2.hasChanged = true → p.2.cur.nelFree = true) :
    Reproduces (run ops).1.opts (saveLoad Y (run ops).1.opts) :=
  reproduces_of_nelLaw Y law _ (inv_run ops).1 (inv_run ops).2.1 hg

/-- **config_roundtrip_nondefault_nested (partial, F-C44b).** The NEL-guarded variant for the nested model. -/
theorem config_roundtrip_nondefault_nested_partial {Text : Type} (Y : Yaml Text) (law : NelLaw Y) (ops : List Op)
    (hg : ∀ p ∈ (runN ops).1.opts, p.2.hasChanged = true → p.2.cur.nelFree = true) :
    Reproduces (runN ops).1.opts (saveLoad Y (runN ops).1.opts) :=
  reproduces_of_nelLaw Y law _ (inv_runN ops).1 (inv_runN ops).2.1 hg

/-- a library that obeys `NelLaw` and behaves like ruamel.yaml on U+0085: the string does not come back -/
def nelYaml : Yaml (List (Name × Val)) :=
  ⟨id, fun d => some (d.map fun kv => (kv.1, if kv.2.nelFree then kv.2 else .a (.s [0x20])))⟩

private theorem nelYaml_law : NelLaw nelYaml := by
  intro d hd
  simp only [nelYaml, id, Option.some.injEq]
  conv => rhs; rw [← List.map_id' d]
  apply List.map_congr_left
  intro kv hkv
  simp [hd kv hkv]

/-- without the guard the statement is not provable from `NelLaw`: `s = "\x85"` is lost (F-C44b) -/
theorem config_roundtrip_nondefault_counterexample :
    ¬ (∀ (Y : Yaml (List (Name × Val))), NelLaw Y → ∀ ops : List Op,
        Reproduces (run ops).1.opts (saveLoad Y (run ops).1.opts)) := by
  intro h
  obtain ⟨x, hx, _, _, hm⟩ := h nelYaml nelYaml_law
    [.addOption 0 .str (.a (.s [0x64])), .update [(0, .a (.s [0xc2, 0x85]))]]
  -- `x` is what loading the dumped data gives; the changed option is not among its options
  cases (hx : some _ = some x)
  exact absurd (hm (0, ⟨.str, .a (.s [0x64]), .a (.s [0xc2, 0x85])⟩) (by decide +kernel) (by decide +kernel))
    (by decide +kernel)

/-- the hypotheses of the round-trip theorems are satisfiable, and the theorem says something: `b = True` comes back -/
example : Reproduces (run [.addOption 0 .bool (.a (.b false)), .update [(0, .a (.b true))]]).1.opts
    (saveLoad (⟨id, some⟩ : Yaml _) (run [.addOption 0 .bool (.a (.b false)), .update [(0, .a (.b true))]]).1.opts) :=
  config_roundtrip_nondefault _ (fun _ => rfl) _

/-! ### listener-issued (nested) updates -/

def Passive (ls : List Listener) : Prop := ∀ l ∈ ls, ∀ s u, l.act s u = none

/-- nobody reacts to the rollback notification `u` on store `s` by issuing an update -/
def quiet (u : List Name) (s : Store) (ls : List Listener) : Bool :=
  ls.all fun l => !concerned l u || l.rejects s u || (l.act s u).isNone

private theorem notifyW_quiet (nested : Store → List (Name × Val) → NRes) (u : List Name) (s : Store)
    (ls : List Listener) (h : quiet u s ls = true) : notifyW nested u s ls = (s, (notify s u ls).1, (notify s u ls).2) := by
  apply notifyW_still
  intro l hl kw hc hr ha
  have := List.all_eq_true.mp h l hl
  simp [hc, hr, ha] at this

private theorem notifyW_passive (nested : Store → List (Name × Val) → NRes) (u : List Name) (s : Store)
    (ls : List Listener) (h : Passive ls) : notifyW nested u s ls = (s, (notify s u ls).1, (notify s u ls).2) :=
  notifyW_quiet nested u s ls (List.all_eq_true.mpr fun l hl => by simp [h l hl s u])

private theorem updateKnownN_passive (st : St) (kw : List (Name × Val)) (h : Passive st.listeners) :
    updateKnownN st kw = updateKnown st kw := by
  rw [updateKnown_core]
  unfold updateKnownN coreUpdate
  simp only [notifyW_passive _ _ _ _ h]

private theorem Does.agree {st : St} {op : Op} {r rN : Res} (d : Does st op r rN) (h : Passive st.listeners) : rN = r := by
  cases d with
  | nothing => rfl
  | send s u => simp only [sentN, sent, notifyW_passive _ _ _ _ h]
  | update st' kw post _ hl => rw [updateKnownN_passive st' kw (hl ▸ h)]

/-- **nested_model_agrees_with_flat.** The model with listener-issued updates (the one the correspondence run
    executes) coincides with the flat model of the theorems above on every state whose listeners only accept or
    reject: each operation gives the identical result. -/
theorem nested_model_agrees_with_flat (st : St) (op : Op) (h : Passive st.listeners) : stepN st op = step st op :=
  (does st op).agree h

/-- **nested_rejected_update_restores_everything.** With handlers that issue updates of their own (`nested` arbitrary):
    a rejected `update_known` ends with the previous store `s` (TypeError), or with what the rollback notification,
    STARTED FROM `s`, leaves — every assignment of the aborted transaction, nested ones included, is discarded before
    it. True by the shape of `coreUpdate` (the snapshot is the whole store); what the notification leaves is the
    subject of `…_quiet` below. -/
theorem nested_rejected_update_restores_everything (nested : Store → List (Name × Val) → NRes) (ls : List Listener)
    (s : Store) (kw : List (Name × Val)) (h : (coreUpdate nested ls s kw).out ≠ .ok) :
    (coreUpdate nested ls s kw).opts = (notifyW nested ((kw.filter fun kv => hasKey s kv.1).map (·.1)) s ls).1 ∨
      (coreUpdate nested ls s kw).opts = s := by
  revert h
  fun_cases coreUpdate nested ls s kw <;> intro h
  · exact .inr rfl
  · exact .inr rfl
  · exact absurd rfl h
  · exact .inl rfl

/-- … and if no handler answers the rollback notification by yet another update (`quiet`), the operation ends with
    every option at its previous value. Without `quiet` it need not: such an update is not rolled back. -/
theorem nested_rejected_update_restores_everything_quiet (st : St) (kw : List (Name × Val))
    (h : (updateKnownN st kw).out ≠ .ok)
    (hq : quiet ((kw.filter fun kv => hasKey st.opts kv.1).map (·.1)) st.opts st.listeners = true) :
    (updateKnownN st kw).st.opts = st.opts := by
  have := nested_rejected_update_restores_everything (nestedAt maxDepth st.listeners) st.listeners st.opts kw h
  simp only [updateKnownN, withOpts] at h ⊢
  rcases this with e | e
  · rw [e, notifyW_quiet _ _ _ _ hq]
  · exact e

/-- **nested_rejected_update_over_histories.** The same for the state reached by ANY history of operations, where the
    options restored are typed. -/
theorem nested_rejected_update_over_histories (ops : List Op) (kw : List (Name × Val))
    (h : (stepN (runN ops).1 (.updateKnown kw)).out ≠ .ok)
    (hq : quiet ((kw.filter fun kv => hasKey (runN ops).1.opts kv.1).map (·.1)) (runN ops).1.opts (runN ops).1.listeners = true) :
    (stepN (runN ops).1 (.updateKnown kw)).st.opts = (runN ops).1.opts ∧
    TypedStore (stepN (runN ops).1 (.updateKnown kw)).st.opts :=
  ⟨nested_rejected_update_restores_everything_quiet _ kw h hq,
   ((does _ _).good (inv_runN ops).1 (inv_runN ops).2.1).2.1⟩

/-- listener 1 reacts to `a = 5` by `update(b = 5)`, listener 3 rejects `a = 5` -/
def nestedState : St :=
  ⟨[(0, ⟨.int, .a (.i 0), .a (.i 0)⟩), (1, ⟨.int, .a (.i 0), .a (.i 0)⟩)], [],
   [⟨1, some [0], fun _ _ => false, fun s _ => if (lookup s 0).any (fun o => pyEq o.cur (.a (.i 5))) then some [(1, .a (.i 5))] else none⟩,
    ⟨3, some [0], fun s _ => (lookup s 0).any (fun o => pyEq o.cur (.a (.i 5))), fun _ _ => none⟩], []⟩

example : (updateKnownN nestedState [(0, .a (.i 5))]).out = .optionsError ∧
    (updateKnownN nestedState [(0, .a (.i 5))]).st.opts = nestedState.opts ∧
    ((updateKnownN nestedState [(0, .a (.i 5))]).obs.map fun ob => (ob.who, ob.seen.map fun p => p.2.cur)) =
      [(1, [.a (.i 5), .a (.i 0)]), (3, [.a (.i 5), .a (.i 5)]), (1, [.a (.i 0), .a (.i 0)]), (3, [.a (.i 0), .a (.i 0)])] := by
  decide +kernel

/-! ### rejected updates with nested listener updates: what listeners end up seeing -/

/-- full statement (FALSE, F-C44c / F-C44d): after a rejected update — whatever listeners did from inside their
    handlers — every listener that was called ends up having seen the final option state -/
def NestedListenersSeeFinalState : Prop :=
  ∀ (st : St) (kw : List (Name × Val)), (updateKnownN st kw).out ≠ .ok →
    ∀ ob ∈ (updateKnownN st kw).obs, lastSeen (updateKnownN st kw).obs ob.who = some (updateKnownN st kw).st.opts

/-- **nested_rejected_update_listeners_see_restored_state (partial).** For ALL states — hence after every history —
    with listeners that may issue nested updates: if `update_known` is rejected, nobody reacts to the rollback
    notification by another update (`quiet`) and that notification is delivered completely, then every option is
    at its previous value AND every listener that is concerned by the names of the outer update — whatever it was
    shown in between, at any nesting depth — has the restored state as its last view. A TypeError notifies nobody. -/
theorem nested_rejected_update_listeners_see_restored_state_partial (st : St) (kw : List (Name × Val))
    (h : (updateKnownN st kw).out ≠ .ok)
    (hq : quiet ((kw.filter fun kv => hasKey st.opts kv.1).map (·.1)) st.opts st.listeners = true)
    (hd : (notifyW (nestedAt maxDepth st.listeners) ((kw.filter fun kv => hasKey st.opts kv.1).map (·.1)) st.opts
      st.listeners).2.2 = false) :
    (updateKnownN st kw).st.opts = st.opts ∧
    ((updateKnownN st kw).out = .typeError → (updateKnownN st kw).obs = []) ∧
    ∀ ob ∈ (updateKnownN st kw).obs,
      (∃ l ∈ st.listeners, l.id = ob.who ∧ concerned l ((kw.filter fun kv => hasKey st.opts kv.1).map (·.1)) = true) →
      lastSeen (updateKnownN st kw).obs ob.who = some st.opts := by
  refine ⟨nested_rejected_update_restores_everything_quiet st kw h hq, ?_⟩
  simp only [updateKnownN, withOpts] at h ⊢
  revert h
  fun_cases coreUpdate (nestedAt maxDepth st.listeners) st.listeners st.opts kw <;> intro h
  · exact absurd rfl h
  · exact ⟨fun _ => rfl, fun ob hob => nomatch hob⟩
  · exact absurd rfl h
  · refine ⟨nofun, fun ob _ ⟨l, hlm, hid, hc⟩ => ?_⟩
    rw [notifyW_quiet _ _ _ _ hq] at hd
    simp +zetaDelta only [notifyW_quiet _ _ _ _ hq]
    exact hid ▸ lastSeen_delivered _ _ _ _ hd l hlm hc

/-- F-C44d witness: listener 1 (on a) sets b when a = 5, listener 2 watches b only, listener 3 (on a) rejects a = 5 -/
def nestedWatchState : St :=
  ⟨[(0, ⟨.int, .a (.i 0), .a (.i 0)⟩), (1, ⟨.int, .a (.i 0), .a (.i 0)⟩)], [],
   [⟨1, some [0], fun _ _ => false, fun s _ => if (lookup s 0).any (fun o => pyEq o.cur (.a (.i 5))) then some [(1, .a (.i 5))] else none⟩,
    ⟨2, some [1], fun _ _ => false, fun _ _ => none⟩,
    ⟨3, some [0], fun s _ => (lookup s 0).any (fun o => pyEq o.cur (.a (.i 5))), fun _ _ => none⟩], []⟩

theorem nested_rejected_update_listeners_see_restored_state_counterexample : ¬ NestedListenersSeeFinalState := by
  intro h
  have h1 := h nestedWatchState [(0, .a (.i 5))] (by decide)
    ⟨2, [(0, ⟨.int, .a (.i 0), .a (.i 5)⟩), (1, ⟨.int, .a (.i 0), .a (.i 5)⟩)], [1]⟩ (by decide)
  revert h1
  decide +kernel

/-- the guards of the partial theorem hold in the witness state (the rollback notification is quiet and delivered):
    the counterexample is exactly the listener that is not concerned by the outer names -/
example :
    quiet [0] nestedWatchState.opts nestedWatchState.listeners = true ∧
    (notifyW (nestedAt maxDepth nestedWatchState.listeners) [0] nestedWatchState.opts nestedWatchState.listeners).2.2 = false ∧
    (updateKnownN nestedWatchState [(0, .a (.i 5))]).st.opts = nestedWatchState.opts ∧
    lastSeen (updateKnownN nestedWatchState [(0, .a (.i 5))]).obs 1 = some nestedWatchState.opts := by decide +kernel

/-! ### accepted updates with nested listener updates -/

private theorem notifyW_calls_concerned (nested : Store → List (Name × Val) → NRes) (u : List Name) (ls : List Listener) :
    ∀ s, (notifyW nested u s ls).2.2 = false →
      ∀ l ∈ ls, concerned l u = true → ∃ ob ∈ (notifyW nested u s ls).2.1, ob.who = l.id ∧ ob.updated = u := by
  intro s
  fun_induction notifyW nested u s ls <;> intro hd l hl hc
  · cases hl
  · cases hd
  · rename_i ih
    rcases List.mem_cons.mp hl with e | e
    · exact ⟨_, List.mem_cons_self, by rw [e], rfl⟩
    · obtain ⟨ob, hob, h⟩ := ih hd l e hc
      exact ⟨ob, List.mem_cons_of_mem _ hob, h⟩
  · cases hd
  · rename_i ih
    rcases List.mem_cons.mp hl with e | e
    · exact ⟨_, List.mem_cons_self, by rw [e], rfl⟩
    · obtain ⟨ob, hob, h⟩ := ih hd l e hc
      exact ⟨ob, List.mem_cons_of_mem _ (List.mem_append_right _ hob), h⟩
  · rename_i hn ih
    rcases List.mem_cons.mp hl with e | e
    · exact absurd (e ▸ hc) hn
    · exact ih hd l e hc

/-- **accepted_update_notifies_assigned_names_nested.** The clause "an accepted update notifies listeners with the names
    of the assigned options" for the model the driver executes, with listeners that may issue nested updates from inside
    their handlers: if `update_known` is accepted and assigns at least one option, EVERY listener concerned by the assigned
    names (subscribers whose name set meets them, every receiver connected to `changed`) is called with exactly those names;
    the unknown pairs are returned; with no known name nobody is called and nothing changes. (What each listener is shown
    is the store as threaded through the handlers before it; for listeners that only accept or reject it is the assigned
    state — `accepted_update_notifies_assigned_names` via `nested_model_agrees_with_flat`.) -/
theorem accepted_update_notifies_assigned_names_nested (st : St) (kw : List (Name × Val))
    (h : (updateKnownN st kw).out = .ok) :
    let known := kw.filter fun kv => hasKey st.opts kv.1
    let names := known.map (·.1)
    (updateKnownN st kw).unknown = kw.filter (fun kv => !hasKey st.opts kv.1) ∧
    (known = [] → (updateKnownN st kw).st = st ∧ (updateKnownN st kw).obs = []) ∧
    (known ≠ [] → ∀ l ∈ st.listeners, concerned l names = true →
        ∃ ob ∈ (updateKnownN st kw).obs, ob.who = l.id ∧ ob.updated = names) := by
  simp only [updateKnownN, withOpts] at h ⊢
  revert h
  fun_cases coreUpdate (nestedAt maxDepth st.listeners) st.listeners st.opts kw <;> intro h
  · rename_i hk
    exact ⟨rfl, fun _ => ⟨rfl, rfl⟩, fun hne => absurd (List.isEmpty_iff.mp hk) hne⟩
  · cases h
  · rename_i hk _ _ _ hd
    exact ⟨rfl, fun he => absurd (List.isEmpty_iff.mpr he) hk,
      fun _ l hl hc => notifyW_calls_concerned _ _ _ _ (by simpa using hd) l hl hc⟩
  · cases h

-- the accepted update of `a` calls listener 1 (on `a`) with [a]; its nested update of `b` calls the watcher of `b` with [b]
example :
    let st : St := { nestedWatchState with subs := nestedWatchState.subs.take 2 }
    (updateKnownN st [(0, .a (.i 5))]).out = .ok ∧
    (updateKnownN st [(0, .a (.i 5))]).obs.map (fun ob => (ob.who, ob.updated)) = [(1, [0]), (2, [1])] := by decide +kernel

/-! ### `set` specs: the typed parsing of value strings -/

/-- whatever `_parse_setval` returns is of the option's declared type — for EVERY value string -/
theorem parse_setval_typed (o : Opt) (vs : List PyStr) (v : Val) (h : parseSetval o vs = some v) :
    typeOk o.ty v = true := by
  revert h
  -- one case per path through `_parse_setval`: each fixes the declared type and the shape of the value
  fun_cases parseSetval o vs <;> intro h <;> simp_all only [reduceCtorEq, Option.some.injEq, Option.map_eq_some_iff]
  all_goals first
    | (subst h; rfl)
    | (obtain ⟨_, _, rfl⟩ := h; rfl)
    | skip
  -- left: the two sequence branches (every element is a `str`) and `Optional[str]`
  · subst h; exact List.all_eq_true.mpr fun a ha => by obtain ⟨_, _, rfl⟩ := List.mem_map.mp ha; rfl
  · subst h
    rename_i os _ _ _; clear_value os; cases os <;> rfl
  · subst h; exact List.all_eq_true.mpr fun a ha => by obtain ⟨_, _, rfl⟩ := List.mem_map.mp ha; rfl

private theorem parseAll_typed (s : Store) (g : List (Name × List PyStr)) :
    ∀ processed, parseAll s g = some processed →
      ∀ kv ∈ processed, ∃ o, (kv.1, o) ∈ s ∧ typeOk o.ty kv.2 = true := by
  fun_induction parseAll s g <;> intro p h kv hkv
  · cases h; cases hkv
  · rename_i ih; exact ih p h kv hkv
  · rename_i o hl v rest hr hv ih
    cases h
    rcases List.mem_cons.mp hkv with e | e
    · subst e; exact ⟨o, lookup_mem s _ o hl, parse_setval_typed o _ v hv⟩
    · exact ih rest hr kv e
  · cases h

private theorem coreUpdate_typeError (nested : Store → List (Name × Val) → NRes) (ls : List Listener) (s : Store)
    (kw : List (Name × Val)) (h : (coreUpdate nested ls s kw).out = .typeError) :
    allTyped s (kw.filter fun kv => hasKey s kv.1) = false := by
  revert h
  fun_cases coreUpdate nested ls s kw <;> intro h
  · cases h
  · rename_i ht; simpa using ht
  · cases h
  · cases h

private theorem updateN_not_typeError (st : St) (kw : List (Name × Val)) (hn : KeysNodup st.opts)
    (h : ∀ kv ∈ kw, ∃ o, (kv.1, o) ∈ st.opts ∧ typeOk o.ty kv.2 = true) : (updateN st kw).out ≠ .typeError := by
  intro he
  have hk : (updateKnownN st kw).out = .typeError := by
    unfold updateN at he
    simp only at he
    split at he
    · cases he
    · exact he
  have := coreUpdate_typeError _ _ _ _ hk
  rw [allTyped_of_mem st.opts hn _ fun kv hkv => h kv (List.mem_filter.mp hkv).1] at this
  cases this

/-- **set_never_type_error.** After ANY history (nested listener updates included), `set` with ANY specs — any
    value strings, known and unknown names, deferring or not — never fails with a TypeError: every value it assigns was
    produced by the typed parsing and is of the declared type (it can only be refused with OptionsError). -/
theorem set_never_type_error (ops : List Op) (specs : List (Name × Option PyStr)) (defer : Bool) :
    (stepN (runN ops).1 (.set specs defer)).out ≠ .typeError := by
  obtain ⟨_, hn, _⟩ := inv_runN ops
  simp only [stepN, setSpecsN]
  cases hp : parseAll (runN ops).1.opts (groupSpecs specs) with
  | none => simp
  | some processed =>
    have ht := parseAll_typed _ _ processed hp
    simp only
    split
    · exact updateN_not_typeError _ processed hn ht
    · split
      · simp
      · exact updateN_not_typeError _ processed hn ht

/-- `toggle` flips a bool option -/
theorem set_bool_toggle (o : Opt) (x : Bool) (hty : o.ty = .bool) (hc : o.cur = .a (.b x)) :
    parseSetval o [strToggle] = some (.a (.b (!x))) := by
  obtain ⟨ty, d, c⟩ := o
  simp only at hty hc
  subst hty; subst hc
  simp [parseSetval, truthy]

/-- a sequence option collects all the values given for it, in order (none: it is cleared) -/
theorem set_sequence_collects (o : Opt) (hty : o.ty = .seqStr) (vs : List PyStr) :
    parseSetval o vs = some (.seq (vs.map fun v => Atom.s (utf8 v))) := by
  simp [parseSetval, hty]

/-- a bare name: clears a sequence, sets a bool, resets an optional option to None, is refused for str / int -/
theorem set_bare_name (o : Opt) :
    parseSetval o [] = (match o.ty with
      | .seqStr => some (.seq [])
      | .bool => some (.a (.b true))
      | .optStr => some (.a .none)
      | .optInt => some (.a .none)
      | .str => none
      | .int => none) := by
  obtain ⟨ty, d, c⟩ := o
  cases ty <;> simp [parseSetval]

/-- several values for a scalar option are refused -/
theorem set_scalar_multiple_refused (o : Opt) (hty : o.ty ≠ .seqStr) (a b : PyStr) (r : List PyStr) :
    parseSetval o (a :: b :: r) = none := by
  simp [parseSetval, hty]

/-- Python's `int()` as transcribed: surrounding whitespace of any script, sign, digits of any script, single `_` -/
example : pyInt [32, 43, 49, 95, 48, 0x3000] = some 10 := by decide +kernel
example : pyInt [0x663, 0x664] = some 34 := by decide +kernel
example : pyInt [45, 48] = some 0 := by decide +kernel
example : pyInt [0x1c, 53] = none ∧ pyInt [49, 95, 95, 48] = none ∧ pyInt [95, 49] = none ∧ pyInt [43, 32, 53] = none ∧
    pyInt [] = none ∧ pyInt [49, 32, 50] = none ∧ pyInt [53, 0] = none := by decide +kernel
example : groupSpecs [(3, some [97]), (4, none), (3, some [98])] = [(3, [[97], [98]]), (4, [])] := by decide +kernel

/-! ### deferred options -/

/-- **deferred_spec_is_parsed_when_declared.** `set(name=v, defer=True)` for a not yet declared option, then its
    declaration (any type, any typed default), then `process_deferred()`: for EVERY value string `v` the option ends
    up holding exactly what the typed parsing of `v` yields for the declared type and the deferred entry is gone —
    or, when the string is not acceptable for that type, `process_deferred` is refused with OptionsError, the option
    keeps its default and the entry stays deferred. -/
theorem deferred_spec_is_parsed_when_declared (n : Name) (v : PyStr) (ty : Ty) (d : Val) (hd : typeOk ty d = true) :
    let st1 := (stepN St.empty (.set [(n, some v)] true)).st
    let st2 := (stepN st1 (.addOption n ty d)).st
    let r := stepN st2 .processDeferred
    st1.deferred.map (·.1) = [n] ∧ st2.opts = [(n, ⟨ty, d, d⟩)] ∧
    (match parseSetval ⟨ty, d, d⟩ [v] with
     | some x => r.out = .ok ∧ r.st.opts = [(n, ⟨ty, d, x⟩)] ∧ r.st.deferred.map (·.1) = []
     | none => r.out = .optionsError ∧ r.st.opts = [(n, ⟨ty, d, d⟩)] ∧ r.st.deferred.map (·.1) = [n]) := by
  have h1 : (stepN St.empty (.set [(n, some v)] true)).st = ⟨[], [(n, .unconv [v])], [], []⟩ := by
    simp [stepN, setSpecsN, groupSpecs, parseAll, lookup, St.empty, dictSet, dictUpdate, hasKey, updateN, updateKnownN,
      coreUpdate, withOpts]
  have h2 : (stepN ⟨[], [(n, .unconv [v])], [], []⟩ (.addOption n ty d)).st =
      ⟨[(n, ⟨ty, d, d⟩)], [(n, .unconv [v])], [], []⟩ := by
    simp [stepN, addOptionN, hd, insertOpt, St.listeners, notifyW]
  simp only [h1, h2]
  refine ⟨rfl, trivial, ?_⟩
  cases hp : parseSetval ⟨ty, d, d⟩ [v] with
  | none =>
    simp [stepN, processDeferredN, deferredValues, lookup, hp]
  | some x =>
    have hx : typeOk ty x = true := parse_setval_typed ⟨ty, d, d⟩ [v] x hp
    simp [stepN, processDeferredN, deferredValues, lookup, hp, updateN, updateKnownN, coreUpdate, withOpts, hasKey,
      allTyped, hx, assign, setVal, St.listeners, notifyW]

example : (stepN (stepN (stepN St.empty (.set [(7, some [32, 0x663, 95, 0x664])] true)).st (.addOption 7 .optInt (.a .none))).st
    .processDeferred).st.opts = [(7, ⟨.optInt, .a .none, .a (.i 34)⟩)] := by decide +kernel

/-! ### config-file paths (`relative_path`) -/

/-- an absolute script path is taken as it is (in pathlib's normal form), whatever the config file's directory,
    the working directory and the environment are -/
theorem relative_path_of_absolute (home : Option PyStr) (pw : PyStr → Option PyStr) (cwd rel path : PyStr)
    (h : (parsePath path).root.isEmpty = false) :
    relativePath home pw cwd rel path = .ok (parsePath path) := by
  simp [relativePath, pExpandUser, pAbsolute, pjoin, h]

/-- a relative script path without `~` is appended to the (absolute) directory of the config file -/
theorem relative_path_of_plain (home : Option PyStr) (pw : PyStr → Option PyStr) (cwd rel path : PyStr)
    (hp : (parsePath path).root.isEmpty = true) (ht : ∀ f ∈ (parsePath path).parts.head?, f.head? ≠ some 126)
    (hr : (parsePath rel).root.isEmpty = false) :
    relativePath home pw cwd rel path = .ok ⟨(parsePath rel).root, (parsePath rel).parts ++ (parsePath path).parts⟩ := by
  have hex : pExpandUser home pw (parsePath path) = .ok (parsePath path) := by
    unfold pExpandUser
    simp only [hp, Bool.not_true, Bool.false_eq_true, if_false]
    cases hparts : (parsePath path).parts with
    | nil => rfl
    | cons f t =>
      have := ht f (by simp [hparts])
      simp [this]
  simp [relativePath, hex, pAbsolute, pjoin, hp, hr]

private theorem pAbsolute_root (cwd : PyStr) (q : PPath) (hc : (parsePath cwd).root.isEmpty = false) :
    (pAbsolute cwd q).root.isEmpty = false := by
  unfold pAbsolute pjoin
  by_cases hq : q.root.isEmpty = true
  · simp [hq, hc]
  · simp [hq]

/-- **relative_path_is_absolute.** Whenever `relative_path` returns (no undeterminable home, no NUL user name) and
    the working directory is absolute, the result is an absolute path — for every config directory, script path and
    environment: the `scripts` entries `load` produces never depend on where the process is started later. -/
theorem relative_path_is_absolute (home : Option PyStr) (pw : PyStr → Option PyStr) (cwd rel path : PyStr) (r : PPath)
    (hc : (parsePath cwd).root.isEmpty = false) (h : relativePath home pw cwd rel path = .ok r) :
    r.root.isEmpty = false := by
  revert h
  fun_cases relativePath home pw cwd rel path <;> intro h
  · cases h
  · cases h
  · cases h
    exact pAbsolute_root cwd _ hc

example : (relativePath (some [47, 104]) (fun _ => none) [47, 119] [47, 101, 116, 99] [126, 47, 97]).toOption.map PPath.str =
    some [47, 104, 47, 97] := by decide +kernel
example : (match relativePath none (fun _ => none) [47, 119] [99] [126, 117, 47, 97] with
    | .error e => some e | .ok _ => none) = some .runtime ∧
    (relativePath none (fun _ => none) [47, 119] [99] [97, 47, 46, 47, 47, 98]).toOption.map PPath.str =
      some [47, 119, 47, 99, 47, 97, 47, 98] := by decide +kernel

/-! ### `merge`: Sequence values are appended -/

/-- the pairs `merge` hands on, traced to pairs of a list `all` that contains the merged ones -/
private theorem mergeVals_spec (s : Store) (all kvs toset : List (Name × Val)) (hsub : ∀ x ∈ kvs, x ∈ all)
    (h : mergeVals s kvs = .ok toset) :
    ∀ kv ∈ toset, (∃ v, (kv.1, v) ∈ all ∧ kv.2 = v ∧ (∀ xs, v ≠ .seq xs) ∧ v ≠ .a .none) ∨
      (∃ xs o cur, (kv.1, Val.seq xs) ∈ all ∧ lookup s kv.1 = some o ∧ o.cur = .seq cur ∧ kv.2 = .seq (cur ++ xs)) := by
  revert toset
  fun_induction mergeVals s kvs <;> intro toset h kv hkv
  · cases h; cases hkv
  · rename_i ih
    exact ih (List.forall_mem_cons.mp hsub).2 toset h kv hkv
  · cases h
  · rename_i k r xs o hl cur hc ih
    obtain ⟨hd, tl⟩ := List.forall_mem_cons.mp hsub
    cases hr : mergeVals s r with
    | error e => rw [hr] at h; cases h
    | ok t =>
      rw [hr] at h; cases h
      rcases List.mem_cons.mp hkv with e | e
      · subst e; exact .inr ⟨xs, o, cur, hd, hl, hc, rfl⟩
      · exact ih tl t hr kv e
  · cases h
  · rename_i k r v hn hs ih
    obtain ⟨hd, tl⟩ := List.forall_mem_cons.mp hsub
    cases hr : mergeVals s r with
    | error e => rw [hr] at h; cases h
    | ok t =>
      rw [hr] at h; cases h
      rcases List.mem_cons.mp hkv with e | e
      · subst e; exact .inl ⟨v, hd, rfl, hs, hn⟩
      · exact ih tl t hr kv e

/-- **merge_appends_sequences.** What `merge` hands to `update`: every None is dropped, every scalar is passed as
    given, and every list is the option's CURRENT list followed by the given one (a list for an option whose current
    value is not a list is a TypeError, for an unknown option an AttributeError — nothing is updated then). -/
theorem merge_appends_sequences (st : St) (kvs : List (Name × Val)) :
    (∃ toset, mergeVals st.opts kvs = .ok toset ∧ mergeN st kvs = updateN st toset ∧
      ∀ kv ∈ toset, (∃ v, (kv.1, v) ∈ kvs ∧ kv.2 = v ∧ (∀ xs, v ≠ .seq xs) ∧ v ≠ .a .none) ∨
        (∃ xs o cur, (kv.1, Val.seq xs) ∈ kvs ∧ lookup st.opts kv.1 = some o ∧ o.cur = .seq cur ∧ kv.2 = .seq (cur ++ xs))) ∨
    (∃ e, mergeVals st.opts kvs = .error e ∧ (mergeN st kvs).st = st ∧ (mergeN st kvs).obs = []) := by
  cases h : mergeVals st.opts kvs with
  | error e => exact Or.inr ⟨e, rfl, by simp [mergeN, h], by simp [mergeN, h]⟩
  | ok toset => exact Or.inl ⟨toset, rfl, by simp [mergeN, h], mergeVals_spec st.opts kvs kvs toset (fun _ => id) h⟩

example :
    let st : St := ⟨[(0, ⟨.seqStr, .seq [], .seq [.s [97]]⟩), (1, ⟨.int, .a (.i 0), .a (.i 0)⟩)], [], [], []⟩
    (mergeN st [(0, .seq [.s [98]]), (1, .a .none)]).st.opts = [(0, ⟨.seqStr, .seq [], .seq [.s [97], .s [98]]⟩), (1, ⟨.int, .a (.i 0), .a (.i 0)⟩)] ∧
    (mergeN st [(1, .seq [])]).out = .typeError ∧ (mergeN st [(5, .seq [])]).out = .attributeError := by decide +kernel

/-! ### `load(opts, text, cwd)` -/

/-- without a config directory `load` is `update_defer` of the parsed data -/
theorem load_without_cwd (env : PathEnv) (st : St) (data : List (Name × Val)) :
    loadN env st none data = updateDeferN st data := rfl

private theorem relOne_absolute (env : PathEnv) (dir path : PyStr) (x : Atom)
    (hc : (parsePath env.getcwd).root.isEmpty = false) (h : relOne env dir path = .ok x) :
    ∃ p : PPath, p.root.isEmpty = false ∧ x = .s (utf8 p.str) := by
  unfold relOne at h
  cases hr : relativePath env.home env.pw env.getcwd dir path with
  | error e => cases e <;> simp [hr] at h
  | ok p =>
    simp only [hr, Except.ok.injEq] at h
    exact ⟨p, relative_path_is_absolute _ _ _ _ _ p hc hr, h.symm⟩

private theorem relAll_absolute (env : PathEnv) (dir : PyStr) (hc : (parsePath env.getcwd).root.isEmpty = false) :
    ∀ (xs ys : List Atom), relAll env dir xs = .ok ys →
      ys.length = xs.length ∧ ∀ y ∈ ys, ∃ p : PPath, p.root.isEmpty = false ∧ y = .s (utf8 p.str) := by
  intro xs
  fun_induction relAll env dir xs <;> intro ys h
  · cases h; exact ⟨rfl, nofun⟩
  · cases h
  · rename_i b r x h1 ih
    cases h2 : relAll env dir r with
    | error e => rw [h2] at h; cases h
    | ok t =>
      rw [h2] at h; cases h
      obtain ⟨hl, hall⟩ := ih t h2
      exact ⟨congrArg (· + 1) hl, List.forall_mem_cons.mpr ⟨relOne_absolute env dir _ _ hc h1, hall⟩⟩
  · cases h

/-- **load_makes_scripts_absolute.** For every environment with an absolute working directory, every config
    directory and every parsed config whose `scripts` entry is a list: if the rewriting `load(…, cwd)` applies goes
    through, the data handed to `update_defer` is the parsed data with `scripts` replaced by a list of the same length
    whose entries are all absolute paths (in pathlib's normal form); everything else is untouched. A non-str entry is
    a TypeError, an undeterminable `~user` a RuntimeError, a NUL in a user name a ValueError — and then nothing at all
    is loaded. -/
theorem load_makes_scripts_absolute (env : PathEnv) (dir : PyStr) (data : List (Name × Val)) (xs : List Atom)
    (hc : (parsePath env.getcwd).root.isEmpty = false)
    (hs : (data.find? (·.1 == scriptsName)).map (·.2) = some (.seq xs)) :
    (∃ ys, rewriteScripts env dir data = .ok (dictReplace data scriptsName (.seq ys)) ∧ ys.length = xs.length ∧
        ∀ y ∈ ys, ∃ p : PPath, p.root.isEmpty = false ∧ y = .s (utf8 p.str)) ∨
    (∃ e, rewriteScripts env dir data = .error e ∧ ∀ st, (loadN env st (some dir) data).st = st ∧
        (loadN env st (some dir) data).obs = []) := by
  unfold rewriteScripts
  simp only [hs]
  cases hr : relAll env dir xs with
  | error e =>
    refine Or.inr ⟨e, by simp [Except.map], ?_⟩
    intro st
    simp [loadN, rewriteScripts, hs, hr, Except.map]
  | ok ys =>
    obtain ⟨hl, hall⟩ := relAll_absolute env dir hc xs ys hr
    exact Or.inl ⟨ys, by simp [Except.map], hl, hall⟩

/-- a config without a `scripts` entry (or with `scripts: null`) is loaded as it is -/
theorem load_without_scripts (env : PathEnv) (dir : PyStr) (data : List (Name × Val))
    (hs : (data.find? (·.1 == scriptsName)).map (·.2) = none ∨ (data.find? (·.1 == scriptsName)).map (·.2) = some (.a .none)) :
    rewriteScripts env dir data = .ok data := by
  unfold rewriteScripts
  rcases hs with h | h <;> simp [h]

/-! ### non-vacuity witnesses -/

/-- a history with an ACTING listener (1: on a = 5 sets b = 5) and a rejecting one (3) -/
def auditOps : List Op :=
  [.addOption 0 .int (.a (.i 0)), .addOption 1 .int (.a (.i 0)),
   .subscribe ⟨1, some [0], fun _ _ => false,
     fun s _ => if (lookup s 0).any (fun o => pyEq o.cur (.a (.i 5))) then some [(1, .a (.i 5))] else none⟩,
   .subscribe ⟨3, some [0], fun s _ => (lookup s 0).any (fun o => pyEq o.cur (.a (.i 5))), fun _ _ => none⟩,
   .update [(0, .a (.i 4))]]

/-- `nested_rejected_update_over_histories`: both hypotheses hold after that history (a real OptionsError, a quiet
    rollback notification), and the accepted update before it really changed the store -/
example :
    (stepN (runN auditOps).1 (.updateKnown [(0, .a (.i 5))])).out = .optionsError ∧
    quiet (([(0, Val.a (.i 5))].filter fun kv => hasKey (runN auditOps).1.opts kv.1).map (·.1)) (runN auditOps).1.opts
      (runN auditOps).1.listeners = true ∧
    (runN auditOps).1.opts.map (fun p => p.2.cur) = [.a (.i 4), .a (.i 0)] := by decide +kernel

/-- `nested_rejected_update_restores_everything_quiet`: its hypotheses on `nestedState` (nested assignment of b discarded) -/
example :
    (updateKnownN nestedState [(0, .a (.i 5))]).out ≠ .ok ∧
    quiet (([(0, Val.a (.i 5))].filter fun kv => hasKey nestedState.opts kv.1).map (·.1)) nestedState.opts nestedState.listeners = true := by
  decide +kernel

/-- `rejected_update_restores_everything` on the other update-family operations: a `set` whose value string is refused
    for the type (OptionsError), a `set` rejected by a listener, an ill-typed `update_defer`, a `merge` of a list into a scalar -/
example :
    let st : St := ⟨[(0, ⟨.int, .a (.i 0), .a (.i 7)⟩), (1, ⟨.bool, .a (.b false), .a (.b false)⟩)], [], [],
      [⟨1, none, fun s _ => (lookup s 1).any (fun o => pyEq o.cur (.a (.b true))), fun _ _ => none⟩]⟩
    isUpdateOp (.set [(0, some [120])] false) = true ∧ (step st (.set [(0, some [120])] false)).out = .optionsError ∧
    (step st (.set [(1, none), (0, some [57])] false)).out = .optionsError ∧
    (step st (.set [(1, none), (0, some [57])] false)).st.opts = st.opts ∧
    (step st (.updateDefer [(0, .a (.s [120])), (9, .a .none)])).out = .typeError ∧
    (step st (.merge [(0, .seq [.s [97]])])).out = .typeError := by decide +kernel

/-- `nested_model_agrees_with_flat`: `Passive` holds for listeners that only accept or reject (here: the F-C44c state) -/
example : Passive cexState.listeners := by
  intro l hl s u
  simp [cexState, St.listeners] at hl
  rcases hl with rfl | rfl <;> rfl

/-- … and fails for an acting listener, on which the two models really differ (what listener 3 is shown: b = 5 vs b = 0) -/
example :
    ((stepN nestedState (.update [(0, .a (.i 5))])).obs.map fun ob => ob.seen.map fun p => p.2.cur) ≠
    ((step nestedState (.update [(0, .a (.i 5))])).obs.map fun ob => ob.seen.map fun p => p.2.cur) := by decide +kernel

/-- `config_roundtrip_nondefault_partial`: the guard and `NelLaw` are satisfiable together on a history with YAML-special
    words, a newline, non-ASCII text, a sequence and an optional int set to None and back -/
def auditCfgOps : List Op :=
  [.addOption 0 .str (.a (.s [])), .addOption 1 .seqStr (.seq []), .addOption 2 .optInt (.a .none), .addOption 3 .bool (.a (.b true)),
   .update [(0, .a (.s [0x6e, 0x75, 0x6c, 0x6c])), (1, .seq [.s [0x79, 0x65, 0x73], .s [0x61, 0x0a, 0x27, 0x22], .s [0xc3, 0xa9]]),
            (2, .a (.i (-3))), (3, .a (.b false))]]

example : Reproduces (run auditCfgOps).1.opts (saveLoad nelYaml (run auditCfgOps).1.opts) :=
  config_roundtrip_nondefault_partial nelYaml nelYaml_law auditCfgOps (by decide)

example : (saveData (run auditCfgOps).1.opts).length = 4 := by decide +kernel

example {Text : Type} (Y : Yaml Text) (law : ∀ d, Y.parse (Y.dump d) = some d) (ops : List Op) :
    Reproduces (runN ops).1.opts (saveLoad Y (runN ops).1.opts) :=
  config_roundtrip_nondefault_nested Y law ops

/-- `parse_setval_typed` / `set_never_type_error`: value strings that parse (Arabic-Indic digits with an underscore and
    surrounding blanks, `toggle`) and one that is refused -/
example : parseSetval ⟨.optInt, .a .none, .a .none⟩ [[32, 0x663, 95, 0x664, 32]] = some (.a (.i 34)) ∧
    parseSetval ⟨.bool, .a (.b false), .a (.b true)⟩ [strToggle] = some (.a (.b false)) ∧
    parseSetval ⟨.int, .a (.i 0), .a (.i 0)⟩ [[49, 95, 95, 48]] = none := by decide +kernel

/-- `load_makes_scripts_absolute`: hypotheses and the first alternative on a config with three script entries -/
example :
    let env : PathEnv := ⟨some [47, 104], fun _ => none, [47, 119]⟩
    let data : List (Name × Val) := [(0, .a (.i 1)), (scriptsName, .seq [.s [97, 46, 112, 121], .s [126, 47, 98], .s [47, 120]])]
    (parsePath env.getcwd).root.isEmpty = false ∧
    (rewriteScripts env [47, 99, 102, 103] data).toOption =
      some [(0, .a (.i 1)), (scriptsName, .seq [.s [47, 99, 102, 103, 47, 97, 46, 112, 121], .s [47, 104, 47, 98], .s [47, 120]])] := by
  decide +kernel

/-- … and the second alternative: a non-str entry is a TypeError and nothing is loaded -/
example :
    let env : PathEnv := ⟨some [47, 104], fun _ => none, [47, 119]⟩
    (loadN env nestedState (some [47, 99]) [(scriptsName, .seq [.s [97], .i 1])]).out = .typeError ∧
    (loadN env nestedState (some [47, 99]) [(scriptsName, .seq [.s [97], .i 1])]).st.opts = nestedState.opts := by decide +kernel

/-- `relative_path_of_plain`: its three hypotheses on `sub/a.py` relative to `/etc/mitm` -/
example : (parsePath [115, 117, 98, 47, 97]).root.isEmpty = true ∧
    (∀ f ∈ (parsePath [115, 117, 98, 47, 97]).parts.head?, f.head? ≠ some 126) ∧
    (parsePath [47, 101, 116, 99]).root.isEmpty = false := by decide +kernel

end MitmVerif.Props.C44
