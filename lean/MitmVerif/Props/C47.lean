/-
  C47 — property theorems about the model of `FlowHandler.put` (Model/C47.lean, Model/C47_Conv.lean), in four parts.
  * The transaction (`put` on a flow = history of effect ids + backup): `put_all_or_nothing`, from which everything else
    in this part follows. Its proof is `runDoc_outcome`: the run of a document from `c` ends in `c ++ d.effects` without
    error iff `d.valid`, level by level (steps, leaves, top-level entries, document; `Predicts.seq` is the step of the
    two loops). Whether a setter step raises is an INPUT (`Step.fail`), and the roll-back is `Flow.restore`, which
    returns the old value by definition: what is proved is the dispatch (when the handler commits or rolls back, the
    order of effects, the backup afterwards, never a 500). `putOld` is the handler that reverts on `APIError` only; the
    two counterexamples are about it.
  * The fields (`putF`, `Doc.ops`, `interp`): which write determines each of the 17 fields after an accepted update.
    `putF_refused_unchanged` is true by the shape of `putF`; the link to `put` is `putF_status` + `ops_ids_eq_effects`.
  * The conversions the statement names (Model/C47_Conv: `int()` = `C44.pyInt`, `_str_pair` + `Headers.add`, the
    iteration) produce the step outcomes of a `port` / `code` / `headers` / `trailers` key (`intLeaf`, `headersLeaf`);
    a failing one makes the PUT a no-op by `failing_key_leaves_flow_unchanged`. Sessions of PUTs by induction.
  * That `set_state(get_state())` really restores a message after in-place edits is imported from C40's heap of
    `Headers` objects (`Props/C40`: `fromState_fresh_roundtrip`), for messages only, not for the flow-level fields.
-/
import MitmVerif.Model.C47
import MitmVerif.Model.C47_Conv
import MitmVerif.Props.C40
namespace MitmVerif.Props.C47
open MitmVerif.C47

/-- what validity `v` and effect list `eff` predict of a run from `c`: every effect applied, or an exception -/
private def Predicts (c : Core) : Bool → List Nat → Core × Option Err → Prop
  | true, eff, r => r = (c ++ eff, none)
  | false, _, r => ∃ c' e, r = (c', some e)

private theorem Predicts.shift {c e₁ e₂ : List Nat} {v : Bool} {r : Core × Option Err} (h : Predicts (c ++ e₁) v e₂ r) :
    Predicts c v (e₁ ++ e₂) r := by
  cases v with
  | false => exact h
  | true => exact Eq.trans h (congrArg (·, none) (List.append_assoc ..))

/-- the `match … | (c', none) => next c' | r => r` of `runLeaves` and `runTops` -/
private theorem Predicts.seq {c : Core} {v₁ v₂ : Bool} {e₁ e₂ : List Nat} {r : Core × Option Err}
    {next : Core → Core × Option Err} (h₁ : Predicts c v₁ e₁ r) (h₂ : ∀ c', Predicts c' v₂ e₂ (next c')) :
    Predicts c (v₁ && v₂) (e₁ ++ e₂) (match (generalizing := false) r with | (c', none) => next c' | r => r) := by
  cases v₁ with
  | false => obtain ⟨c', e, rfl⟩ := h₁; exact ⟨c', e, rfl⟩
  | true => obtain rfl := h₁; exact (h₂ (c ++ e₁)).shift

private theorem runSteps_outcome (st : List Step) (c : Core) :
    Predicts c (stepsValid st) (stepsEffects st) (runSteps c st) := by
  fun_induction runSteps c st
  · exact congrArg (·, none) (List.append_nil _).symm
  · rename_i c i rest ih
    exact ih.shift
  · exact ⟨_, _, rfl⟩

private theorem runLeaves_outcome (known : Key → Bool) (ls : List Leaf) (c : Core) :
    Predicts c (leavesValid known ls) (leavesEffects ls) (runLeaves known c ls) := by
  induction ls generalizing c with
  | nil => exact congrArg (·, none) (List.append_nil _).symm
  | cons l r ih =>
    have hl : Predicts c (known l.key && stepsValid l.steps) (stepsEffects l.steps) (runLeaf known c l) := by
      unfold runLeaf
      cases known l.key
      · exact ⟨_, _, rfl⟩
      · exact runSteps_outcome l.steps c
    exact hl.seq ih

private theorem runTop_outcome (k : Kind) (t : Top) (c : Core) : Predicts c (t.valid k) t.effects (runTop k c t) := by
  cases t with
  | request sub =>
    cases sub with
    | none => cases h : k.hasReq <;> simp only [runTop, h] <;> exact ⟨_, _, rfl⟩
    | some ls =>
      cases h : k.hasReq <;> simp only [runTop, Top.valid, Top.effects, h]
      · exact ⟨_, _, rfl⟩
      · exact runLeaves_outcome _ ls c
  | response sub =>
    cases sub with
    | none => cases h : k.hasResp <;> simp only [runTop, h] <;> exact ⟨_, _, rfl⟩
    | some ls =>
      cases h : k.hasResp <;> simp only [runTop, Top.valid, Top.effects, h]
      · exact ⟨_, _, rfl⟩
      · exact runLeaves_outcome _ ls c
  | marked st => exact runSteps_outcome st c
  | comment st => exact runSteps_outcome st c
  | unknown => exact ⟨_, _, rfl⟩

private theorem runDoc_outcome (k : Kind) (d : Doc) (c : Core) : Predicts c (d.valid k) d.effects (runDoc k c d) := by
  cases d with
  | badJson => exact ⟨_, _, rfl⟩
  | notObject => exact ⟨_, _, rfl⟩
  | obj ts =>
    show Predicts c (topsValid k ts) (topsEffects ts) (runTops k c ts)
    induction ts generalizing c with
    | nil => exact congrArg (·, none) (List.append_nil _).symm
    | cons t r ih => exact (runTop_outcome k t c).seq ih

private theorem doBackup_cur (σ : Flow) : σ.doBackup.cur = σ.cur := by
  unfold Flow.doBackup; cases σ.backup <;> rfl

private theorem doBackup_backup (σ : Flow) : σ.doBackup.backup = some (σ.backup.getD σ.cur) := by
  unfold Flow.doBackup; cases h : σ.backup <;> simp [h]

/-- **C47.** A PUT either applies the whole document — accepted, state = old state followed by every update of the
    document in order, backup = the backup that existed or else the pre-PUT state — or, when some part is invalid
    (unknown key, key not applicable to this flow, sub-document not an object, a setter that raises, unreadable JSON),
    is refused and leaves the flow, backup included, exactly as it was. -/
theorem put_all_or_nothing (k : Kind) (σ : Flow) (d : Doc) :
    (d.valid k = true ∧ (put k σ d).1 = .ok ∧
        (put k σ d).2 = { cur := σ.cur ++ d.effects, backup := some (σ.backup.getD σ.cur) })
    ∨ (d.valid k = false ∧ (put k σ d).1 = .refused400 ∧ (put k σ d).2 = σ) := by
  have h := runDoc_outcome k d σ.doBackup.cur
  rw [doBackup_cur] at h
  cases hv : d.valid k <;> rw [hv] at h
  · obtain ⟨c', e, he⟩ := h
    simp [put, he, doBackup_cur, Flow.restore]
  · have h : runDoc k σ.cur d = _ := h
    simp [put, h, doBackup_cur, doBackup_backup]

/-- a PUT is refused exactly when the document has an invalid part; never a third outcome -/
theorem put_refused_iff_invalid (k : Kind) (σ : Flow) (d : Doc) :
    ((put k σ d).1 = .refused400 ↔ d.valid k = false) ∧ (put k σ d).1 ≠ .error500 := by
  rcases put_all_or_nothing k σ d with ⟨hv, hs, _⟩ | ⟨hv, hs, _⟩ <;> simp [hv, hs]

/-- a refused PUT does not even disturb a later `revert`: the revert target is what it was -/
theorem put_refused_keeps_revert_target (k : Kind) (σ : Flow) (d : Doc) (h : (put k σ d).1 ≠ .ok) :
    (put k σ d).2.revert = σ.revert := by
  rcases put_all_or_nothing k σ d with ⟨_, hs, _⟩ | ⟨_, _, hf⟩
  · exact absurd hs h
  · rw [hf]

/-- F-C47a (`putOld`): `{"request": {"path": "/x", "port": "abc"}}` — the path effect stays, status 500 -/
theorem putOld_setter_error_counterexample :
    let k : Kind := ⟨true, true⟩
    let σ : Flow := ⟨[], none⟩
    let d : Doc := .obj [.request (some [⟨.path, [.eff 1]⟩, ⟨.port, [.fail]⟩])]
    d.valid k = false ∧ (putOld k σ d).1 = .error500 ∧ (putOld k σ d).2.cur = [1] ∧ (putOld k σ d).2 ≠ σ := by
  decide +kernel

/-- F-C47b (`putOld`): an edit (effect 1) was accepted earlier, so a backup `[]` exists; a later PUT with an
    unknown key reverts to that *old* backup and discards the earlier edit -/
theorem putOld_old_backup_counterexample :
    let k : Kind := ⟨true, true⟩
    let σ : Flow := ⟨[1], some []⟩
    let d : Doc := .obj [.request (some [⟨.path, [.eff 2]⟩, ⟨.unknown, []⟩])]
    d.valid k = false ∧ (putOld k σ d).1 = .refused400 ∧ (putOld k σ d).2 = ⟨[], none⟩ ∧ (putOld k σ d).2 ≠ σ := by
  decide +kernel

/-! non-vacuity: a valid document with effects is accepted and changes the flow; an invalid one with the same
    prefix is refused; the model is not constant -/
example : (put ⟨true, true⟩ ⟨[1], some []⟩ (.obj [.comment [.eff 7], .request (some [⟨.port, [.eff 8]⟩])])) =
    (.ok, ⟨[1, 7, 8], some []⟩) := by decide +kernel
example : (put ⟨true, true⟩ ⟨[1], some []⟩ (.obj [.comment [.eff 7], .request (some [⟨.port, [.fail]⟩])])) =
    (.refused400, ⟨[1], some []⟩) := by decide +kernel
example : (put ⟨false, false⟩ ⟨[], none⟩ (.obj [.request (some [])])).1 = .refused400 := by decide +kernel
example : (put ⟨true, true⟩ ⟨[], none⟩ (.obj [.request (some [⟨.reason, [.eff 1]⟩])])).1 = .refused400 := by decide +kernel
example : (put ⟨true, true⟩ ⟨[], none⟩ (.obj [])) = (.ok, ⟨[], some []⟩) := by decide +kernel


/-! ## the per-key dispatch: which field every accepted update ends up in -/

/-- the dispatch tables: a key reaches a setter exactly when the handler's `if/elif` chain names it -/
theorem request_keys_dispatch : ∀ k : Key, (reqField k).isSome = k.forRequest := by
  intro k; cases k <;> rfl

theorem response_keys_dispatch : ∀ k : Key, (respField k).isSome = k.forResponse := by
  intro k; cases k <;> rfl

private theorem scalarOps_ids (f : Field) (st : List Step) : (scalarOps f st).map (·.2.id) = stepsEffects st := by
  fun_induction scalarOps f st <;> simp_all [stepsEffects] <;> rfl

private theorem addOps_ids (f : Field) (st : List Step) : (addOps f st).map (·.2.id) = stepsEffects st := by
  fun_induction addOps f st <;> simp_all [stepsEffects] <;> rfl

private theorem listOps_ids (f : Field) (st : List Step) : (listOps f st).map (·.2.id) = stepsEffects st := by
  fun_induction listOps f st <;> simp_all [stepsEffects, addOps_ids] <;> rfl

private theorem leavesOps_ids (field : Key → Option Field) (known : Key → Bool)
    (hk : ∀ k, (field k).isSome = known k) : ∀ ls, leavesValid known ls = true →
    (leavesOps field ls).map (·.2.id) = leavesEffects ls := by
  intro ls; induction ls with
  | nil => intro _; rfl
  | cons l r ih =>
    intro h
    simp [leavesValid] at h
    obtain ⟨⟨hkn, _⟩, hr⟩ := h
    have : (field l.key).isSome = true := by rw [hk]; exact hkn
    obtain ⟨f, hf⟩ := Option.isSome_iff_exists.mp this
    simp only [leavesOps, leafOps, hf, leavesEffects, List.map_append, ih hr]
    by_cases hl : l.key.isList = true <;> simp [hl, listOps_ids, scalarOps_ids]

private theorem top_ops_ids (k : Kind) (t : Top) (h : t.valid k = true) : t.ops.map (·.2.id) = t.effects := by
  cases t with
  | request sub =>
    cases sub with
    | none => cases h
    | some ls => exact leavesOps_ids reqField Key.forRequest request_keys_dispatch ls (Bool.and_eq_true_iff.mp h).2
  | response sub =>
    cases sub with
    | none => cases h
    | some ls => exact leavesOps_ids respField Key.forResponse response_keys_dispatch ls (Bool.and_eq_true_iff.mp h).2
  | marked st => exact scalarOps_ids _ st
  | comment st => exact scalarOps_ids _ st
  | unknown => cases h

/-- **the typed writes are exactly the committed effects.** For a valid document, the ids of `Doc.ops` (the writes with
    their target fields) are, in order, the effects that `put` appends to the flow state. -/
theorem ops_ids_eq_effects (k : Kind) (d : Doc) (h : d.valid k = true) : d.ops.map (·.2.id) = d.effects := by
  cases d with
  | badJson => cases h
  | notObject => cases h
  | obj ts =>
    show (topsOps ts).map (·.2.id) = topsEffects ts
    induction ts with
    | nil => rfl
    | cons t r ih =>
      obtain ⟨ht, hr⟩ := Bool.and_eq_true_iff.mp h
      rw [topsOps, topsEffects, List.map_append, top_ops_ids k t ht, ih hr]

/-- the field-level PUT accepts and refuses exactly like the transaction model -/
theorem putF_status (k : Kind) (σ : Flow) (fs : Fields) (d : Doc) : (putF k fs d).1 = (put k σ d).1 := by
  rcases put_all_or_nothing k σ d with ⟨hv, hs, _⟩ | ⟨hv, hs, _⟩ <;> simp [putF, hv, hs]

/-- **atomicity on the fields**: a refused update leaves every field as it was (by the shape of `putF`; that `putF` refuses
    when `put` does is `putF_status`) -/
theorem putF_refused_unchanged (k : Kind) (fs : Fields) (d : Doc) (h : (putF k fs d).1 ≠ .ok) :
    (putF k fs d).2 = fs := by
  unfold putF at h ⊢
  by_cases hv : d.valid k = true <;> simp [hv] at h ⊢

private theorem interp_append (fs : Fields) (a b : List (Field × Op)) :
    interp fs (a ++ b) = interp (interp fs a) b := by
  induction a generalizing fs with
  | nil => rfl
  | cons w r ih => simp [interp, ih]

private theorem applyOp_other (fs : Fields) (w : Field × Op) (f : Field) (h : w.1 ≠ f) : applyOp fs w f = fs f := by
  have h' : ¬ f = w.1 := fun e => h e.symm
  unfold applyOp
  cases w.2 with
  | set i => simp [Fields.put, h']
  | clear i => simp [Fields.put, h']
  | add i => cases fs w.1 <;> simp [Fields.put, h']

private theorem interp_untouched (f : Field) : ∀ (ops : List (Field × Op)) (fs : Fields),
    (∀ w ∈ ops, w.1 ≠ f) → interp fs ops f = fs f := by
  intro ops; induction ops with
  | nil => intro fs _; rfl
  | cons w r ih =>
    intro fs h
    simp only [interp]
    rw [ih _ (fun x hx => h x (List.mem_cons_of_mem _ hx)), applyOp_other fs w f (h w List.mem_cons_self)]

/-- ids of the `add`s on field `f` -/
def addsOn (f : Field) : List (Field × Op) → List Nat
  | [] => []
  | (g, .add i) :: r => if g = f then i :: addsOn f r else addsOn f r
  | _ :: r => addsOn f r

private theorem interp_adds (f : Field) : ∀ (ops : List (Field × Op)) (fs : Fields) (l : List Nat),
    fs f = .pairs l → (∀ w ∈ ops, w.1 = f → ∃ i, w.2 = .add i) →
    interp fs ops f = .pairs (l ++ addsOn f ops) := by
  intro ops; induction ops with
  | nil => intro fs l hl _; simp [interp, addsOn, hl]
  | cons w r ih =>
    intro fs l hl h
    obtain ⟨g, op⟩ := w
    by_cases hg : g = f
    · subst hg
      obtain ⟨i, hi⟩ := h (g, op) List.mem_cons_self rfl
      simp only at hi; subst hi
      have hstep : applyOp fs (g, .add i) g = .pairs (l ++ [i]) := by simp [applyOp, hl, Fields.put]
      simp only [interp]
      rw [ih _ (l ++ [i]) hstep (fun x hx => h x (List.mem_cons_of_mem _ hx))]
      simp [addsOn]
    · have hstep : applyOp fs (g, op) f = .pairs l := by rw [applyOp_other fs (g, op) f hg, hl]
      simp only [interp]
      rw [ih _ l hstep (fun x hx => h x (List.mem_cons_of_mem _ hx))]
      cases op <;> simp [addsOn, hg]

/-- an accepted update does not touch a field no key of the document targets -/
theorem putF_untouched (k : Kind) (fs : Fields) (d : Doc) (f : Field) (hv : d.valid k = true)
    (h : ∀ w ∈ d.ops, w.1 ≠ f) : (putF k fs d).2 f = fs f := by
  simp [putF, hv, interp_untouched f d.ops fs h]

/-- **last writer wins (scalar fields)**: after an accepted update a field holds the value of the last key that targets it -/
theorem putF_scalar_last_writer (k : Kind) (fs : Fields) (d : Doc) (f : Field) (i : Nat)
    (pre post : List (Field × Op)) (hv : d.valid k = true) (hd : d.ops = pre ++ (f, .set i) :: post)
    (hpost : ∀ w ∈ post, w.1 ≠ f) : (putF k fs d).2 f = .scalar i := by
  simp only [putF, hv, if_true, hd]
  rw [interp_append]
  simp only [interp]
  rw [interp_untouched f post _ hpost]
  simp [applyOp, Fields.put]

/-- **header lists are replaced as a whole**: after an accepted update a header/trailer field holds exactly the pairs
    added after its last `clear`, in order -/
theorem putF_list_replaced (k : Kind) (fs : Fields) (d : Doc) (f : Field) (c : Nat)
    (pre post : List (Field × Op)) (hv : d.valid k = true) (hd : d.ops = pre ++ (f, .clear c) :: post)
    (hpost : ∀ w ∈ post, w.1 = f → ∃ i, w.2 = .add i) : (putF k fs d).2 f = .pairs (addsOn f post) := by
  simp only [putF, hv, if_true, hd]
  rw [interp_append]
  simp only [interp]
  have h0 : applyOp (interp fs pre) (f, .clear c) f = .pairs [] := by simp [applyOp, Fields.put]
  rw [interp_adds f post _ [] h0 hpost]
  simp

/-! non-vacuity for the dispatch theorems -/
example : (putF ⟨true, true⟩ (fun _ => .orig)
    (.obj [.request (some [⟨.path, [.eff 1]⟩, ⟨.headers, [.eff 2, .eff 3, .eff 4]⟩, ⟨.path, [.eff 5]⟩])])).2 .reqPath = .scalar 5 := by
  decide +kernel
example : (putF ⟨true, true⟩ (fun _ => .orig)
    (.obj [.request (some [⟨.headers, [.eff 2, .eff 3, .eff 4]⟩])])).2 .reqHeaders = .pairs [3, 4] := by decide +kernel
example : (putF ⟨true, true⟩ (fun _ => .orig)
    (.obj [.request (some [⟨.path, [.eff 1]⟩, ⟨.port, [.fail]⟩])])).2 .reqPath = .orig := by decide +kernel
example : reqField .reason = none ∧ respField .method = none ∧ respField .code = some .respCode := by decide +kernel


/-! ## the statement's "malformed port or status code, malformed header list", transcribed; whole sessions -/

/-- `_str_pair` accepts exactly the two-element lists of strings -/
theorem strPair_iff (e : Elem) (a b : C35.PyStr) : strPair e = some (a, b) ↔ e = .seq [.str a, .str b] := by
  constructor
  · intro h
    unfold strPair at h
    split at h
    · cases h; rfl
    · cases h
  · intro h; subst h; rfl

private theorem firstFail_all (l : List Bool) : (firstFail l).all id = l.all id := by
  induction l with
  | nil => rfl
  | cons b r ih => cases b <;> simp [firstFail, ih]

/-- the header loop succeeds entirely iff the value is a list whose every element is a pair of encodable strings
    (or an empty string / empty object, which iterate zero times) -/
theorem headerOutcomes_all_ok_iff (c : Container) :
    (headerOutcomes c).all id = true ↔
      (∃ es, c = .list es ∧ ∀ e ∈ es, addOk e = true) ∨ c = .chars 0 ∨ c = .keys 0 := by
  cases c with
  | list es =>
    simp only [headerOutcomes, List.all_cons, id, Bool.true_and, firstFail_all]
    constructor
    · intro h; left; exact ⟨es, rfl, by simpa using h⟩
    · intro h
      rcases h with ⟨es', he, h⟩ | h | h
      · cases he; simpa using h
      · cases h
      · cases h
  | chars n =>
    by_cases hn : n = 0
    · subst hn; simp [headerOutcomes, firstFail]
    · simp [headerOutcomes, firstFail, hn]
  | keys n =>
    by_cases hn : n = 0
    · subst hn; simp [headerOutcomes, firstFail]
    · simp [headerOutcomes, firstFail, hn]
  | notIterable => simp [headerOutcomes, firstFail]

private theorem mkSteps_valid : ∀ (outs : List Bool) (ids : List Nat), stepsValid (mkSteps ids outs) = outs.all id := by
  intro outs
  induction outs with
  | nil => intro ids; rfl
  | cons o os ih =>
    intro ids
    cases o with
    | false => simp [mkSteps, stepsValid]
    | true => cases ids <;> simp [mkSteps, stepsValid, ih]

private theorem leavesValid_eq_all (known : Key → Bool) (ls : List Leaf) :
    leavesValid known ls = ls.all fun l => known l.key && stepsValid l.steps := by
  induction ls with
  | nil => rfl
  | cons l r ih => simp [leavesValid, ih]

private theorem topsValid_eq_all (k : Kind) (ts : List Top) : topsValid k ts = ts.all (Top.valid k) := by
  induction ts with
  | nil => rfl
  | cons t r ih => simp [topsValid, ih]

/-- a document whose request or response part contains a key with a failing setter step is refused and leaves the
    flow — state and backup — exactly as it was, wherever that key stands and whatever valid parts surround it -/
theorem failing_key_leaves_flow_unchanged (k : Kind) (σ : Flow) (tops : List Top) (ls : List Leaf) (l : Leaf)
    (ht : Top.request (some ls) ∈ tops ∨ Top.response (some ls) ∈ tops) (hl : l ∈ ls)
    (hs : stepsValid l.steps = false) :
    (put k σ (.obj tops)).1 = .refused400 ∧ (put k σ (.obj tops)).2 = σ := by
  have hls : ∀ known, leavesValid known ls = false := fun known => by
    rw [leavesValid_eq_all, List.all_eq_false]
    exact ⟨l, hl, by simp [hs]⟩
  have hinv : (Doc.obj tops).valid k = false := by
    show topsValid k tops = false
    rw [topsValid_eq_all, List.all_eq_false]
    rcases ht with h | h <;> exact ⟨_, h, by simp [Top.valid, hls]⟩
  rcases put_all_or_nothing k σ (.obj tops) with ⟨hv, _, _⟩ | ⟨_, h1, h2⟩
  · rw [hinv] at hv; cases hv
  · exact ⟨h1, h2⟩

/-- **malformed header list ⇒ flow exactly as it was**: a `headers` / `trailers` value that is not a list of pairs of
    (encodable) strings — wrong container, an element that is not a two-element list of strings — makes the whole PUT a no-op -/
theorem malformed_header_list_leaves_flow_unchanged (k : Kind) (σ : Flow) (tops : List Top) (ls : List Leaf)
    (key : Key) (ids : List Nat) (c : Container)
    (ht : Top.request (some ls) ∈ tops ∨ Top.response (some ls) ∈ tops) (hl : headersLeaf key ids c ∈ ls)
    (hbad : ¬ ((∃ es, c = .list es ∧ ∀ e ∈ es, addOk e = true) ∨ c = .chars 0 ∨ c = .keys 0)) :
    (put k σ (.obj tops)).1 = .refused400 ∧ (put k σ (.obj tops)).2 = σ := by
  refine failing_key_leaves_flow_unchanged k σ tops ls _ ht hl ?_
  have : (headerOutcomes c).all id = false := Bool.eq_false_iff.mpr (mt (headerOutcomes_all_ok_iff c).mp hbad)
  simp [headersLeaf, mkSteps_valid, this]

/-- **malformed port or status code ⇒ flow exactly as it was**: a `port` / `code` value on which `int()` does not
    return (null, containers, NaN, ±Infinity, text outside Python's integer grammar) makes the whole PUT a no-op -/
theorem malformed_port_or_code_leaves_flow_unchanged (k : Kind) (σ : Flow) (tops : List Top) (ls : List Leaf)
    (key : Key) (id : Nat) (v : Scalar)
    (ht : Top.request (some ls) ∈ tops ∨ Top.response (some ls) ∈ tops) (hl : intLeaf key id v ∈ ls)
    (hbad : intOk v = false) :
    (put k σ (.obj tops)).1 = .refused400 ∧ (put k σ (.obj tops)).2 = σ := by
  refine failing_key_leaves_flow_unchanged k σ tops ls _ ht hl ?_
  simp [intLeaf, mkSteps_valid, hbad]

/-- **whole sessions**: after any sequence of PUTs the state is the initial state followed by the effects of exactly the
    accepted documents, in order; and a session in which every document is refused leaves the flow — backup included —
    exactly as it was.  (Nothing is stated here about the backup after a MIXED session; per PUT it is given by
    `put_all_or_nothing`: the earlier backup, else the state before the first accepted document.) -/
theorem session_all_or_nothing (k : Kind) : ∀ (docs : List Doc) (σ : Flow),
    (runSession k σ docs).cur = σ.cur ++ sessionEffects k docs ∧
    ((∀ d ∈ docs, d.valid k = false) → runSession k σ docs = σ) := by
  intro docs
  induction docs with
  | nil => intro σ; simp [runSession, sessionEffects]
  | cons d r ih =>
    intro σ
    rcases put_all_or_nothing k σ d with ⟨hv, _, hf⟩ | ⟨hv, _, hf⟩
    · obtain ⟨h1, _⟩ := ih (put k σ d).2
      refine ⟨?_, ?_⟩
      · simp only [runSession, sessionEffects, hv, if_true]
        rw [h1, hf]; simp [List.append_assoc]
      · intro hall
        have := hall d List.mem_cons_self
        rw [hv] at this; cases this
    · obtain ⟨h1, h2⟩ := ih (put k σ d).2
      refine ⟨?_, ?_⟩
      · simp only [runSession, sessionEffects, hv]
        rw [h1, hf]; simp
      · intro hall
        simp only [runSession]
        rw [h2 (fun x hx => hall x (List.mem_cons_of_mem _ hx)), hf]

/-! non-vacuity -/
example : intOk (.float false) = false ∧ intOk .null = false ∧ intOk .bool = true ∧ intOk (.str [52, 50]) = true ∧
    intOk (.str [97, 98, 99]) = false ∧ intOk (.str [32, 55, 32]) = true ∧ intOk (.str []) = false := by decide +kernel
example : addOk (.seq [.str [97], .str [98]]) = true ∧ addOk (.seq [.str [97]]) = false ∧
    addOk (.seq [.str [97], .other]) = false ∧ addOk .notSeq = false ∧ addOk (.seq [.str [97], .str [0xD800]]) = false := by decide +kernel
example : headerOutcomes (.list [.seq [.str [97], .str [98]], .seq [.str [99]], .seq [.str [97], .str [98]]]) = [true, true, false] := by
  decide +kernel
example : headerOutcomes .notIterable = [true, false] ∧ headerOutcomes (.chars 0) = [true] ∧ headerOutcomes (.chars 2) = [true, false] := by
  decide +kernel


/-! ## the roll-back at the level of message OBJECTS (C40's heap of Headers objects) -/

/-- **the roll-back cannot be disturbed by in-place edits.**  `FlowHandler.put` takes `old_state = flow.get_state()` — in
    C40's transcription of `MessageData.get_state` a pure value in which every `Headers` object is serialised — then edits
    the message in place (`headers.clear()`, `headers.add`, `.content = …`, new trailer objects: any list `es` of C40's
    message edits), and on failure calls `set_state(old_state)`, which rebuilds the message with `Message.from_state`.
    Whatever the edits did to the heap, the rebuilt message's state is the snapshot.  (The seeded change `seeded/c47-3` — a
    `get_state` that kept the live, empty `Headers` object — is exactly a `get_state` that is not this function.) -/
theorem put_rollback_object_level (h : C40.OHeap) (o : C40.MsgObj) (es : List C40.MsgEdit) :
    (C40.MsgObj.fromState (C40.applyObjs es h o).1 (o.getState h)).2.getState
        (C40.MsgObj.fromState (C40.applyObjs es h o).1 (o.getState h)).1 = o.getState h :=
  (C40.fromState_fresh_roundtrip _ _).1

/-- … and the rebuilt message shares no `Headers` object with anything that existed before the roll-back -/
theorem put_rollback_objects_fresh (h : C40.OHeap) (o : C40.MsgObj) (es : List C40.MsgEdit) :
    ∀ a ∈ (C40.MsgObj.fromState (C40.applyObjs es h o).1 (o.getState h)).2.refs, (C40.applyObjs es h o).1.next ≤ a :=
  (C40.fromState_fresh_roundtrip _ _).2.2.1


/-! the string-field setters, transcribed (tied by the driver op `conv utf8` / `conv latin1`) -/
example : utf8Ok (.str [0xD800, 120]) = false ∧ utf8Ok (.str [0xDCFF]) = true ∧ utf8Ok (.str [233, 0x65E5]) = true ∧ utf8Ok .null = true := by
  decide +kernel
example : latin1Ok (.str [233]) = true ∧ latin1Ok (.str [0x65E5]) = false ∧ latin1Ok (.str [0xD800]) = false ∧ latin1Ok .int = true := by decide +kernel

/-! ## non-vacuity witnesses -/

/-- `malformed_port_or_code_leaves_flow_unchanged`: a valid comment edit followed by `"port": "a"` — refused, the earlier
    accepted edit (effect 1) and its backup stay, the comment effect 7 is rolled back -/
example : intOk (.str [97]) = false ∧
    put ⟨true, true⟩ ⟨[1], some []⟩ (.obj [.comment [.eff 7], .request (some [⟨.path, [.eff 8]⟩, intLeaf .port 9 (.str [97])])])
      = (.refused400, ⟨[1], some []⟩) := by decide +kernel

/-- `malformed_header_list_leaves_flow_unchanged`: the second element is not a pair — the `clear` and the first `add` are undone -/
example : put ⟨true, true⟩ ⟨[], none⟩
    (.obj [.response (some [headersLeaf .headers [3, 4, 5] (.list [.seq [.str [97], .str [98]], .seq [.str [99]]])])])
      = (.refused400, ⟨[], none⟩) := by decide +kernel

/-- `failing_key_leaves_flow_unchanged` with the failing key in the middle of valid ones, in the response part -/
example : put ⟨true, true⟩ ⟨[2], none⟩
    (.obj [.marked [.eff 1], .response (some [⟨.code, [.eff 5]⟩, ⟨.reason, [.fail]⟩, ⟨.content, [.eff 6]⟩])]) = (.refused400, ⟨[2], none⟩) := by decide +kernel

/-- `session_all_or_nothing` on a session of three documents (accepted, refused, accepted): exactly the accepted effects, in order -/
example : runSession ⟨true, false⟩ ⟨[], none⟩
    [.obj [.request (some [⟨.method, [.eff 1]⟩])], .obj [.request (some [⟨.path, [.eff 2]⟩]), .unknown], .obj [.comment [.eff 3]]]
      = ⟨[1, 3], some []⟩ ∧
    sessionEffects ⟨true, false⟩
      [.obj [.request (some [⟨.method, [.eff 1]⟩])], .obj [.request (some [⟨.path, [.eff 2]⟩]), .unknown], .obj [.comment [.eff 3]]] = [1, 3] := by decide +kernel

/-- `put_refused_keeps_revert_target` / `put_refused_iff_invalid` with an existing backup -/
example : (put ⟨true, true⟩ ⟨[1, 2], some [1]⟩ (.obj [.request none])).2.revert = ⟨[1], none⟩ ∧
    (put ⟨true, true⟩ ⟨[1, 2], some [1]⟩ .notObject).1 = .refused400 := by decide +kernel
end MitmVerif.Props.C47
