/-
  C16 — property theorems about the model of `TlsConfig.get_cert` + `dummy_cert` (Model/C16.lean), with C15's
  specification `matches` as the strict verifier's name check.  Signing, ASN.1 and chain building are
  `cryptography`'s / the verifier's and enter only through the correspondence run.

  The theorems hold for EVERY classifier `classify` (= `_ip_or_dns_name`); all of them about names go through
  `getNames_some` (the list `get_cert` de-duplicates is `sources`) and `mem_dedup`.  One section instantiates `classify` with
  the transcription `classifyT` of Model/C15_Classify.lean and rests on `Props.C15.classify_ascii_kinds`.
-/
import MitmVerif.Model.C16
import MitmVerif.Props.C15
import MitmVerif.Gen.C16
namespace MitmVerif.Props.C16
open MitmVerif MitmVerif.C15 MitmVerif.C16

/-! ### `dict.fromkeys` -/

private theorem mem_dedup (a : GName) (l : List GName) : a ∈ dedup l ↔ a ∈ l := by
  induction l with
  | nil => simp [dedup]
  | cons x xs ih =>
    simp only [dedup, List.mem_cons, List.mem_filter, ih, bne_iff_ne, ne_eq]
    by_cases h : a = x <;> simp [h]

private theorem nodup_dedup (l : List GName) : (dedup l).Nodup := by
  induction l with
  | nil => simp [dedup]
  | cons x xs ih =>
    simp only [dedup, List.nodup_cons, List.mem_filter, bne_iff_ne, ne_eq]
    exact ⟨fun h => by simp at h, ih.sublist List.filter_sublist⟩

private theorem head_dedup (x : GName) (xs : List GName) : (dedup (x :: xs)).head? = some x := by simp [dedup]

private theorem specMatchOne_refl (g : GName) (r : RefId) (h : refOf g = some r) : specMatchOne g r = true := by
  cases g with
  | dns v => simp [refOf] at h; subst h; simp [specMatchOne, specMatchDns]
  | ip v => simp [refOf] at h; subst h; simp [specMatchOne]
  | other k v => simp [refOf] at h

/-! ### which names the certificate carries -/

/-- when `get_cert` does not raise, the list it de-duplicates is `sources`: upstream names, the requested identity,
    the server address -/
private theorem getNames_some {classify : Bytes → Option GName} {r : Req} {n : Names}
    (h : getNames classify r = some n) :
    ∃ g al, classify (requested r) = some g ∧ addrNames classify r = some al
      ∧ sources classify r = upList classify r ++ g :: al ∧ n = mkNames (dedup (sources classify r)) r := by
  unfold getNames at h
  split at h
  · rename_i g al hg hal
    have hs : sources classify r = upList classify r ++ g :: al := by
      unfold addrNames at hal
      unfold sources
      rw [hg]
      generalize r.addr = oa at hal
      cases oa with
      | none => cases hal; simp
      | some a =>
        dsimp only at hal ⊢
        generalize classify a = c at hal
        cases c <;> cases hal
        simp
    exact ⟨g, al, hg, hal, hs, by rw [hs]; exact (Option.some.inj h).symm⟩
  · cases h

private theorem truthy_some {o : Option Bytes} {b : Bytes} (h : truthy o = some b) : o = some b := by
  unfold truthy at h
  split at h
  · split at h <;> simp_all
  · simp at h

/-- Every subjectAltName entry is one of: the classified SNI (or local address), the classified server address, the
    upstream certificate's CN (classified) or one of its SANs; the Common Name is the text of one of them; the
    organization and the CRL distribution point come from the upstream certificate only. -/
theorem names_subset_sources (classify : Bytes → Option GName) (r : Req) (n : Names)
    (h : getNames classify r = some n) :
    (∀ g ∈ n.sans, g ∈ sources classify r)
    ∧ (∀ c, n.cn = some c → ∃ g ∈ sources classify r, gText g = c)
    ∧ (∀ o, n.org = some o → ∃ u, r.up = some u ∧ u.org = some o)
    ∧ (∀ u', n.crl = some u' → ∃ u, r.up = some u ∧ u.crl = some u') := by
  obtain ⟨_, _, _, _, _, rfl⟩ := getNames_some h
  refine ⟨fun x => (mem_dedup x _).mp, ?_, ?_, ?_⟩
  · intro c hc
    simp only [mkNames, Option.map_eq_some_iff] at hc
    obtain ⟨g0, hg0, rfl⟩ := hc
    exact ⟨g0, (mem_dedup g0 _).mp (List.mem_of_mem_head? hg0), rfl⟩
  all_goals
    intro o ho
    simp only [mkNames, upOrg, upCrl] at ho
    cases hu : r.up with
    | none => simp [hu] at ho
    | some u => simp only [hu] at ho; exact ⟨u, rfl, truthy_some ho⟩

/-- The identity the client asked for (SNI, else the local address) is always one of the subjectAltName entries, as a
    name of its own kind (dNSName for a host name, iPAddress for an IP literal); without upstream names it is the
    first entry and supplies the Common Name. -/
theorem sni_or_local_first_class (classify : Bytes → Option GName) (r : Req) (n : Names)
    (h : getNames classify r = some n) :
    ∃ g, classify (requested r) = some g ∧ g ∈ n.sans
      ∧ (upList classify r = [] → n.sans.head? = some g ∧ n.cn = some (gText g)) := by
  obtain ⟨g, al, hg, _, hs, rfl⟩ := getNames_some h
  refine ⟨g, hg, ?_, ?_⟩
  · simp only [mkNames]; rw [mem_dedup, hs]; simp
  · intro hnil
    simp only [mkNames, hs, hnil, List.nil_append, head_dedup, Option.map_some, and_self]

/-- the leaf carries the name `classify` gives the requested identity -/
private theorem requested_in_leaf {classify : Bytes → Option GName} {offset expiry : Int} {caHasSki : Bool} {now : Int}
    {r : Req} {p : C16.Plan} (h : leaf classify offset expiry caHasSki now r = some p)
    {g : GName} (hg : classify (requested r) = some g) : g ∈ p.sans := by
  obtain ⟨n, hn, rfl⟩ := Option.map_eq_some_iff.mp h
  obtain ⟨g', hg', hmem, _⟩ := sni_or_local_first_class classify r n hn
  cases hg.symm.trans hg'
  exact hmem

/-- The certificate verifies for the requested identity as far as names go: C15's specification `matches` accepts
    the SAN list for the reference identifier derived from the SNI (or local address). -/
theorem matches_requested (classify : Bytes → Option GName) (offset expiry : Int) (caHasSki : Bool) (now : Int)
    (r : Req) (p : C16.Plan) (h : leaf classify offset expiry caHasSki now r = some p)
    (g : GName) (hg : classify (requested r) = some g) (ref : RefId) (href : refOf g = some ref) :
    «matches» p.sans ref = true :=
  List.any_eq_true.mpr ⟨g, requested_in_leaf h hg, specMatchOne_refl g ref href⟩

private theorem osslMatchDns_refl (v : Bytes) (hv : v ≠ []) : osslMatchDns v v = true := by
  unfold osslMatchDns
  split
  · rename_i hs
    unfold validStar at hs
    split at hs
    · rename_i a b t
      simp only [Bool.and_eq_true, decide_eq_true_eq] at hs
      obtain ⟨⟨ha, _⟩, _⟩ := hs
      subst ha
      simp [osslWild]
    · simp at hs
  · cases v with
    | nil => exact absurd rfl hv
    | cons a t => simp

private theorem osslMatchOne_refl (g : GName) (r : RefId) (h : refOf g = some r) (hne : gText g ≠ []) :
    osslMatchOne g r = true := by
  cases g with
  | dns v => cases h; exact osslMatchDns_refl v hne
  | ip v => cases h; simp [osslMatchOne]
  | other k v => cases h

/-- The same under the transcription of OpenSSL's own host check (`osslMatches`, C15): a client that verifies with
    X509_check_host / X509_check_ip accepts the leaf's SAN list for the non-empty name it asked for — including a
    wildcard-looking SNI, which OpenSSL matches literally. -/
theorem matches_requested_openssl (classify : Bytes → Option GName) (offset expiry : Int) (caHasSki : Bool) (now : Int)
    (r : Req) (p : C16.Plan) (h : leaf classify offset expiry caHasSki now r = some p)
    (g : GName) (hg : classify (requested r) = some g) (ref : RefId) (href : refOf g = some ref) (hne : gText g ≠ []) :
    osslMatches p.sans ref = true :=
  List.any_eq_true.mpr ⟨g, requested_in_leaf h hg, osslMatchOne_refl g ref href hne⟩

/-- No exception leaves `get_cert` because of the upstream certificate: if the requested name and the server
    address classify, names are produced whatever the upstream CN / SANs / organization / CRL are. -/
theorem upstream_never_blocks (classify : Bytes → Option GName) (r : Req) (g : GName)
    (hreq : classify (requested r) = some g) (haddr : ∀ a, r.addr = some a → (classify a).isSome = true) :
    (getNames classify r).isSome = true := by
  unfold getNames
  have : ∃ al, addrNames classify r = some al := by
    unfold addrNames
    cases ha : r.addr with
    | none => exact ⟨[], rfl⟩
    | some a =>
      have := haddr a ha
      cases hc : classify a with
      | none => simp [hc] at this
      | some y => exact ⟨[y], by simp [hc]⟩
  obtain ⟨al, hal⟩ := this
  simp [hreq, hal]

/-- Conversely nothing is dropped: every source name — each upstream SAN and CN, the requested identity, the server address — is a
    subjectAltName entry of the leaf (with `names_subset_sources`: the SAN set IS the source set; e.g. a host name below an
    upstream wildcard is kept although the wildcard "covers" it). -/
theorem sources_all_named (classify : Bytes → Option GName) (r : Req) (n : Names)
    (h : getNames classify r = some n) : ∀ g ∈ sources classify r, g ∈ n.sans := by
  obtain ⟨_, _, _, _, _, rfl⟩ := getNames_some h
  exact fun g => (mem_dedup g _).mpr

/-- `dummy_cert` puts the whole list into the certificate — there is no cap on the number of names: every source name is a SAN of the
    LEAF, however long the upstream certificate's list is (the identity the client asked for comes after the upstream names). -/
theorem leaf_names_all_sources (classify : Bytes → Option GName) (offset expiry : Int) (caHasSki : Bool) (now : Int)
    (r : Req) (p : C16.Plan) (h : leaf classify offset expiry caHasSki now r = some p) :
    (∀ g ∈ sources classify r, g ∈ p.sans) ∧ (∀ n, getNames classify r = some n → p.sans = n.sans ∧ p.sans.length = n.sans.length) := by
  obtain ⟨n, hn, rfl⟩ := Option.map_eq_some_iff.mp h
  refine ⟨sources_all_named classify r n hn, ?_⟩
  intro n' hn'
  cases hn.symm.trans hn'
  exact ⟨rfl, rfl⟩

private theorem dedup_sublist (l : List GName) : (dedup l).Sublist l := by
  induction l with
  | nil => simp [dedup]
  | cons x xs ih =>
    simp only [dedup]
    exact (List.Sublist.cons_cons x (List.filter_sublist.trans ih))

/-- Order: the SAN list is a subsequence of the source list (upstream names, then the requested identity, then the server
    address) with the same head.  That it is the FIRST occurrences that are kept is `dedup`'s definition (`getNames_some`:
    `n.sans = dedup (sources …)`), more than this statement says. -/
theorem sans_in_source_order (classify : Bytes → Option GName) (r : Req) (n : Names)
    (h : getNames classify r = some n) :
    ∃ g al, classify (requested r) = some g ∧ addrNames classify r = some al
      ∧ n.sans.Sublist (upList classify r ++ g :: al) ∧ n.sans.head? = (upList classify r ++ g :: al).head? := by
  obtain ⟨g, al, hg, hal, hs, rfl⟩ := getNames_some h
  simp only [mkNames, hs]
  refine ⟨g, al, hg, hal, dedup_sublist _, ?_⟩
  cases hu : upList classify r ++ g :: al with
  | nil => simp at hu
  | cons x xs => simp [dedup]

/-! ### with `_ip_or_dns_name` transcribed (C15_Classify: C22.parseIp + the idna codec's ASCII fast path)

  Trap: `classifyAscii` writes an iPAddress as version byte + packed address, whereas the tie of this property
  (harness/c16.py) hands the model the address as its canonical text.  `gText`, and with it the model's Common Name, is
  `str(name.value)` only under the latter: under `classifyT` the `cn` of a certificate whose first name is an IP address is not
  what the code writes.  The theorems of this section therefore speak of SAN entries, and of the CN only for a host name.
  (On a scoped IPv6 address it is the other way round: the text keeps the scope id, the certificate's iPAddress does not.) -/

/-- An ASCII host-name SNI (not an IP literal, labels within the codec's bounds) is carried by the leaf VERBATIM as a dNSName — no
    case folding, no rewriting — and without upstream names it is also the Common Name. -/
theorem requested_host_kept_verbatim (slow : Bytes → Option GName) (r : Req) (n : Names)
    (ha : isAscii (requested r) = true) (hip : C22.parseIp (requested r) = none) (hl : idnaAsciiOk (requested r) = true)
    (h : getNames (classifyT slow) r = some n) :
    GName.dns (requested r) ∈ n.sans
    ∧ (upList (classifyT slow) r = [] → n.sans.head? = some (.dns (requested r)) ∧ n.cn = some (requested r)) := by
  have hc : classifyT slow (requested r) = some (.dns (requested r)) := by
    simp [classifyT, ha, classifyAscii, hip, hl]
  obtain ⟨g, hg, hmem, hfirst⟩ := sni_or_local_first_class (classifyT slow) r n h
  rw [hc] at hg; injection hg with hg; subst hg
  exact ⟨hmem, fun hu => by simpa [gText] using hfirst hu⟩

/-- An IP-literal SNI (or local address) is carried as iPAddress with exactly the packed address `ipaddress` parses it to. -/
theorem requested_ip_kept_packed (slow : Bytes → Option GName) (r : Req) (n : Names)
    (ha : isAscii (requested r) = true) (hip : (C22.parseIp (requested r)).isSome = true)
    (h : getNames (classifyT slow) r = some n) :
    ∃ v, classifyAscii (requested r) = some (.ip v) ∧ GName.ip v ∈ n.sans := by
  obtain ⟨g, hg, hmem, _⟩ := sni_or_local_first_class (classifyT slow) r n h
  simp only [classifyT, ha, if_true] at hg
  rcases Props.C15.classify_ascii_kinds _ _ hg with ⟨v, hv, _⟩ | ⟨_, hnp, _⟩
  · subst hv; exact ⟨v, hg, hmem⟩
  · rw [hnp] at hip; cases hip

/-- `get_cert` cannot raise for an ASCII SNI (or local address) that is an IP literal or satisfies the codec's label rule, whatever
    the upstream certificate carries (no server address, or one of the same kind). -/
theorem get_cert_total_ascii (slow : Bytes → Option GName) (r : Req)
    (ha : isAscii (requested r) = true) (hok : (classifyAscii (requested r)).isSome = true)
    (haddr : ∀ a, r.addr = some a → isAscii a = true ∧ (classifyAscii a).isSome = true) :
    (getNames (classifyT slow) r).isSome = true := by
  cases hg : classifyAscii (requested r) with
  | none => rw [hg] at hok; cases hok
  | some g =>
    exact upstream_never_blocks (classifyT slow) r g (by simp [classifyT, ha, hg])
      (fun a hra => by obtain ⟨h1, h2⟩ := haddr a hra; simpa [classifyT, h1] using h2)

/-! ### the field plan of `dummy_cert` -/

/-- At the moment of issue (and for as long as the expiry says) the certificate is inside its validity window, even though
    `dummy_cert` reads the naive local clock: the window starts `|validityOffset|` = 2 days early, more than any time-zone
    offset.  `skew` = local clock − UTC. -/
theorem valid_at_issue (caHasSki : Bool) (utcNow skew : Int) (n : Names)
    (hskew : -Gen.C16.maxZoneSkew ≤ skew ∧ skew ≤ Gen.C16.maxZoneSkew) :
    let p := dummyCert Gen.C16.validityOffset Gen.C16.certExpiry caHasSki (utcNow + skew) n
    p.notBefore < utcNow ∧ utcNow < p.notAfter ∧ p.notAfter - p.notBefore = Gen.C16.certExpiry := by
  simp only [dummyCert, Gen.C16.validityOffset, Gen.C16.certExpiry, Gen.C16.maxZoneSkew] at *
  omega

/-- The window does not only contain the moment of issue: the certificate stays valid for every instant from issue until
    `certExpiry − 2 days − 14 h` later, whatever the clock's time zone. -/
theorem valid_throughout (caHasSki : Bool) (utcNow skew t : Int) (n : Names)
    (hskew : -Gen.C16.maxZoneSkew ≤ skew ∧ skew ≤ Gen.C16.maxZoneSkew)
    (ht : utcNow ≤ t ∧ t < utcNow + Gen.C16.certExpiry + Gen.C16.validityOffset - Gen.C16.maxZoneSkew) :
    let p := dummyCert Gen.C16.validityOffset Gen.C16.certExpiry caHasSki (utcNow + skew) n
    p.notBefore < t ∧ t < p.notAfter := by
  simp only [dummyCert, Gen.C16.validityOffset, Gen.C16.certExpiry, Gen.C16.maxZoneSkew] at *
  omega

/-- Usable for TLS server authentication (`ekuServerAuth = true` holds by construction of `dummyCert`: that the real certificate
    carries the EKU is the tie's and the strict verifier's business); SAN critical exactly when the subject is empty (no CN and
    no O; RFC 5280 §4.2.1.6); a Common Name is present only with 0 < length < 64 (X.520 upper bound) and then equals the first
    name's text; SAN entries are pairwise distinct, and there is at least one. -/
theorem plan_wellformed (classify : Bytes → Option GName) (offset expiry : Int) (caHasSki : Bool) (now : Int)
    (r : Req) (p : C16.Plan) (h : leaf classify offset expiry caHasSki now r = some p) :
    p.ekuServerAuth = true
    ∧ (p.sanCritical = true ↔ (p.subjectCn = none ∧ p.subjectOrg = none))
    ∧ (∀ c, p.subjectCn = some c → Gen.C16.cnLenLowerExclusive < cpLen c ∧ cpLen c < Gen.C16.cnLenUpperExclusive
          ∧ ∃ g, p.sans.head? = some g ∧ gText g = c)
    ∧ p.sans.Nodup ∧ p.sans ≠ [] := by
  obtain ⟨n, hn, rfl⟩ := Option.map_eq_some_iff.mp h
  obtain ⟨g, _, hg, _, _, hn'⟩ := getNames_some hn
  have hsans : n.sans.Nodup ∧ n.sans ≠ [] ∧ n.cn = n.sans.head?.map gText :=
    ⟨by rw [hn']; exact nodup_dedup _, List.ne_nil_of_mem (requested_in_leaf h hg), by rw [hn']; rfl⟩
  refine ⟨rfl, ?_, ?_, hsans.1, hsans.2.1⟩
  · simp only [dummyCert]
    cases n.cn <;> cases n.org <;> simp
    omega
  · intro c hc
    simp only [dummyCert, hsans.2.2] at hc ⊢
    cases hh : n.sans.head? with
    | none => simp [hh] at hc
    | some g =>
      simp only [hh, Option.map_some, Bool.and_eq_true, decide_eq_true_eq] at hc
      split at hc
      · cases hc; rename_i hv; exact ⟨hv.1, hv.2, g, rfl, rfl⟩
      · cases hc

/-! ### non-vacuity -/

private def cls0 (b : Bytes) : Option GName :=
  if b = strBytes "10.0.0.1" then some (.ip b) else if b.length > 63 then none else some (.dns b)
private def req0 : Req :=
  { up := some { cn := some (List.replicate 64 0x61), sans := [.dns (strBytes "example.com"), .dns (strBytes "*.example.com")],
                 org := some (strBytes "Ex"), crl := none }
    sni := some (strBytes "example.com"), localAddr := strBytes "127.0.0.1", addr := some (strBytes "10.0.0.1") }

example : (leaf cls0 (-172800) 17193600 true 0 req0).map (·.sans) =
    some [.dns (strBytes "example.com"), .dns (strBytes "*.example.com"), .ip (strBytes "10.0.0.1")] := by decide +kernel
example : (leaf cls0 (-172800) 17193600 true 0 req0).map (·.subjectCn) = some (some (strBytes "example.com")) := by decide +kernel
example : (leaf cls0 (-172800) 17193600 true 0 { req0 with sni := some (List.replicate 64 0x61) }) = none := by decide +kernel
example : (leaf cls0 (-172800) 17193600 true 0 { req0 with up := none, sni := some (List.replicate 63 0x61 ++ strBytes ".example") }) = none := by
  decide +kernel

private def up1 : Upstream :=
  { cn := some (strBytes "Upstream CN with spaces"), sans := [.dns (strBytes "*.example.com"), .dns (strBytes "example.com"), .ip [4, 10, 0, 0, 1]],
    org := some (strBytes "Org"), crl := some (strBytes "http://crl.example/x.crl") }

/-- W1 (`requested_host_kept_verbatim`, `get_cert_total_ascii`): hypotheses hold with the TRANSCRIBED classifier (slow path never
    asked) for a mixed-case ASCII SNI below an upstream wildcard; the SNI is kept verbatim, after the upstream names -/
example :
    let r : Req := { up := some up1, sni := some (strBytes "WWW.Example.com"), localAddr := strBytes "127.0.0.1", addr := some (strBytes "10.0.0.1") }
    isAscii (requested r) = true ∧ C22.parseIp (requested r) = none ∧ idnaAsciiOk (requested r) = true
      ∧ (classifyAscii (requested r)).isSome = true ∧ isAscii (strBytes "10.0.0.1") = true ∧ (classifyAscii (strBytes "10.0.0.1")).isSome = true
      ∧ (getNames (classifyT (fun _ => none)) r).map (·.sans) =
          some [.dns (strBytes "Upstream CN with spaces"), .dns (strBytes "*.example.com"), .dns (strBytes "example.com"), .ip [4, 10, 0, 0, 1],
                .dns (strBytes "WWW.Example.com")]
      ∧ (getNames (classifyT (fun _ => none)) r).map (·.cn) = some (some (strBytes "Upstream CN with spaces")) := by decide +kernel

/-- W2 (`requested_ip_kept_packed`): no SNI, IPv6 local address: carried as iPAddress with the packed 16 bytes -/
example :
    let r : Req := { up := none, sni := some [], localAddr := strBytes "2001:db8::1", addr := none }
    isAscii (requested r) = true ∧ (C22.parseIp (requested r)).isSome = true
      ∧ (getNames (classifyT (fun _ => none)) r).map (·.sans) = some [.ip [6, 0x20, 0x01, 0x0d, 0xb8, 0, 0, 0, 0, 0, 0, 0, 0, 0, 0, 0, 1]] := by
  decide +kernel

/-- W3 (`matches_requested`, `matches_requested_openssl`, `plan_wellformed`): a leaf exists for a wildcard-looking SNI and both the
    specification and the OpenSSL transcription accept it for that very name -/
example :
    let r : Req := { up := some up1, sni := some (strBytes "*.example.com"), localAddr := strBytes "127.0.0.1", addr := none }
    (leaf classifyAscii Gen.C16.validityOffset Gen.C16.certExpiry true 0 r).isSome = true
      ∧ classifyAscii (requested r) = some (.dns (strBytes "*.example.com")) ∧ gText (.dns (strBytes "*.example.com")) ≠ []
      ∧ (leaf classifyAscii Gen.C16.validityOffset Gen.C16.certExpiry true 0 r).map (fun p => osslMatches p.sans (.host (strBytes "*.example.com"))) = some true
      ∧ (leaf classifyAscii Gen.C16.validityOffset Gen.C16.certExpiry true 0 r).map (fun p => «matches» p.sans (.host (strBytes "*.example.com"))) = some true
      ∧ (leaf classifyAscii Gen.C16.validityOffset Gen.C16.certExpiry true 0 r).map (·.sanCritical) = some false := by decide +kernel

/-- W4 (`valid_at_issue`, `valid_throughout`): the skew hypothesis at both extremes (UTC+14 / UTC-14) -/
example :
    (-Gen.C16.maxZoneSkew ≤ (50400 : Int) ∧ (50400 : Int) ≤ Gen.C16.maxZoneSkew) ∧ (-Gen.C16.maxZoneSkew ≤ (-50400 : Int) ∧ (-50400 : Int) ≤ Gen.C16.maxZoneSkew)
      ∧ (dummyCert Gen.C16.validityOffset Gen.C16.certExpiry true (1000000 + 50400) ⟨none, [], none, none⟩).notBefore < 1000000
      ∧ (1000000 : Int) < (dummyCert Gen.C16.validityOffset Gen.C16.certExpiry true (1000000 - 50400) ⟨none, [], none, none⟩).notAfter := by decide

/-- W5 (`get_cert` raises = `none` branch is real): a 64-byte label makes the codec rule fail → no certificate; an over-long CN (64 code
    points) is dropped from the subject and the SAN extension becomes critical when there is no organization either -/
example :
    (getNames classifyAscii { up := none, sni := some (List.replicate 64 0x61), localAddr := strBytes "127.0.0.1", addr := none }) = none
    ∧ (leaf classifyAscii Gen.C16.validityOffset Gen.C16.certExpiry false 0
        { up := none, sni := some (List.replicate 63 0x61 ++ strBytes "." ++ List.replicate 10 0x62), localAddr := [], addr := none }).map
          (fun p => (p.subjectCn, p.sanCritical, p.akiFromSki)) = some (none, true, false) := by decide +kernel

end MitmVerif.Props.C16
