/-
  C40 — backup, revert, modified() and copy of flows: no operation on one flow shows in another.

  All three layers keep an object as a list of references into a heap of cells; Lemmas/C40_Cells.lean has the notion
  (`Moves`) of what an operation on one object does to the cells, its primitive instances and its frame rule.  Flow
  store (Model/C40.lean), for an arbitrary component value type V, an arbitrary in-place/re-bind choice `ip` of
  set_state, arbitrary stores and arbitrary operation histories: `act` is the five operations on what a flow shows to a
  caller (a `FlowVal`: id, liveness, content, backup); `Acts σ σ' a φ` says that `σ'` has no aliasing, that every flow
  but `a` is the same object with the same content, and that what `a` shows has changed by `φ`.  It is the conclusion
  of the frame rule `touch_spec`, of which every operation is an instance, and so of `step_spec` (one operation acts
  as `act` says) and `run_spec` (a history).  Typed histories (Model/C40_Http.lean) are store histories of their
  compiled operations.  `del` and `set_all` of the header multi-dict have one `get_all` equation each
  (Lemmas/C40_Headers.lean); they tie `set_content` to the C31 model.  In the two object layers (Model/C40_Obj.lean,
  Model/C40_Obj2.lean) every edit is a primitive operation on the object's reference list or a composition of two
  (`applyObj_spec`, `gobj_edit_simulates`), and so is a history of edits.  The calculus of the flow store (`touch_spec`,
  the `*_spec` lemmas, `run_spec`) is private to this file.  The concrete stores at the end show that the hypotheses of
  the theorems can be met.
-/
import MitmVerif.Model.C40
import MitmVerif.Model.C40_Http
import MitmVerif.Model.C31
import MitmVerif.Model.C40_Obj
import MitmVerif.Model.C40_Obj2
import MitmVerif.Lemmas.C40_Cells
import MitmVerif.Lemmas.C40_Store
import MitmVerif.Lemmas.C40_Headers
namespace MitmVerif.Props.C40
open MitmVerif.C40

variable {V : Type}

/-- no aliasing: component cells are allocated, distinct within a flow and disjoint between flows -/
def Sep (σ : Store V) : Prop :=
  (∀ (a : Nat) (f : FlowObj V), σ.flows[a]? = some f → f.parts.Nodup ∧ ∀ ad ∈ f.parts, ad < σ.next) ∧
  (∀ (a b : Nat) (fa fb : FlowObj V), a ≠ b → σ.flows[a]? = some fa → σ.flows[b]? = some fb → ∀ ad ∈ fa.parts, ad ∉ fb.parts)

/-- everything a caller can observe of flow handle b is unchanged between σ and σ' -/
def Same (σ σ' : Store V) (b : Nat) : Prop :=
  ∀ fb : FlowObj V, σ.flows[b]? = some fb → σ'.flows[b]? = some fb ∧ content σ' fb = content σ fb

/-- what a caller can observe of a flow: `get_state()` and liveness -/
structure FlowVal (V : Type) where
  id : Nat
  live : Bool
  content : List V
  backup : Option (Nat × List V)

def view (σ : Store V) (f : FlowObj V) : FlowVal V := ⟨f.id, f.live, content σ f, f.backup⟩

def Shows (σ : Store V) (a : Nat) (x : FlowVal V) : Prop := ∃ f, σ.flows[a]? = some f ∧ view σ f = x

def FlowVal.edit (g : List V → List V) (x : FlowVal V) : FlowVal V := { x with content := g x.content }

/-- pure list counterpart of `restore` -/
private def setFrom : List V → Nat → List V → List V
  | l, _, [] => l
  | l, j, v :: vs => setFrom (l.set j v) (j + 1) vs

/-- The operations on values: what an operation does to what the flow it is addressed to shows.  An in-place edit and an
    assignment are the same write, `backup` keeps a backup that exists, `revert` writes the backup over the state and
    clears it, `copy` leaves its source alone. -/
def act : Op V → FlowVal V → FlowVal V
  | .mutate _ j v, x | .rebind _ j v, x => x.edit (·.set j v)
  | .backup _, x => match x.backup with
    | some _ => x
    | none => { x with backup := some (x.id, x.content) }
  | .revert _, x => match x.backup with
    | some (i, vs) => ⟨i, x.live, setFrom x.content 0 vs, none⟩
    | none => x
  | .copy _ _, x => x

section ActEquations
variable {a : Nat} {x : FlowVal V}

private theorem act_backup_none (h : x.backup = none) :
    act (.backup a) x = { x with backup := some (x.id, x.content) } := by
  cases x; cases h; rfl
private theorem act_backup_some {b : Nat × List V} (h : x.backup = some b) : act (.backup a) x = x := by
  cases x; cases h; rfl
private theorem act_revert_none (h : x.backup = none) : act (.revert a) x = x := by
  cases x; cases h; rfl
private theorem act_revert_some {i : Nat} {vs : List V} (h : x.backup = some (i, vs)) :
    act (.revert a) x = ⟨i, x.live, setFrom x.content 0 vs, none⟩ := by
  cases x; cases h; rfl
end ActEquations

/-- `σ'` comes from `σ` by an operation on flow `a`: there is no aliasing afterwards, every other flow is the same object
    with the same content, and what flow `a` shows has changed by `φ` -/
def Acts (σ σ' : Store V) (a : Nat) (φ : FlowVal V → FlowVal V) : Prop :=
  Sep σ' ∧ (∀ b, b ≠ a → Same σ σ' b) ∧ ∀ x, Shows σ a x → Shows σ' a (φ x)

private theorem Same.trans {σ σ1 σ2 : Store V} {b : Nat} (h1 : Same σ σ1 b) (h2 : Same σ1 σ2 b) : Same σ σ2 b := by
  intro fb hfb
  obtain ⟨k1, c1⟩ := h1 fb hfb
  obtain ⟨k2, c2⟩ := h2 fb k1
  exact ⟨k2, c2.trans c1⟩

private theorem Same.shows {σ σ' : Store V} {b : Nat} {x : FlowVal V} (h : Same σ σ' b) : Shows σ b x → Shows σ' b x :=
  fun ⟨f, hf, hx⟩ => have ⟨k, c⟩ := h f hf; ⟨f, k, (congrArg (FlowVal.mk f.id f.live · f.backup) c).trans hx⟩

namespace Acts
variable {σ σ1 σ2 σ' : Store V} {a : Nat} {f : FlowObj V} {φ ψ φ1 φ2 : FlowVal V → FlowVal V}

private theorem absent (hs : Sep σ) (h : σ.flows[a]? = none) : Acts σ σ a φ :=
  ⟨hs, fun _ _ _ h => ⟨h, rfl⟩, fun _ ⟨_, hf, _⟩ => nomatch h.symm.trans hf⟩

private theorem refl (hs : Sep σ) (a : Nat) : Acts σ σ a id := ⟨hs, fun _ _ _ h => ⟨h, rfl⟩, fun _ h => h⟩

private theorem congr (h : Acts σ σ' a φ) (hf : σ.flows[a]? = some f) (hφ : φ (view σ f) = ψ (view σ f)) :
    Acts σ σ' a ψ := by
  refine ⟨h.1, h.2.1, fun _ ⟨f', hf', e⟩ => ?_⟩
  cases hf.symm.trans hf'
  exact e ▸ hφ ▸ h.2.2 _ ⟨f, hf, rfl⟩

private theorem trans (h1 : Acts σ σ1 a φ1) (h2 : Acts σ1 σ2 a φ2) : Acts σ σ2 a (fun x => φ2 (φ1 x)) :=
  ⟨h2.1, fun b hb => (h1.2.1 b hb).trans (h2.2.1 b hb), fun x hx => h2.2.2 _ (h1.2.2 x hx)⟩

private theorem noop {j : Nat} (hs : Sep σ) (hfa : σ.flows[a]? = some f) (hj : f.parts[j]? = none) (v : V) :
    Acts σ σ a (FlowVal.edit (·.set j v)) :=
  (refl hs a).congr hfa (congrArg (FlowVal.mk f.id f.live · f.backup) (set_map_of_none _ v hj)).symm

end Acts

/-- The frame rule of the flow store.  Handle `a` is pointed at an object `f'` by an operation that `Moves` cells `r`
    of the flow it held before, and nothing else in the flow list changes: then no aliasing arises, every other flow
    is the same object with the same content, and `a` shows `f'`.  Every operation of the model is an instance (`a`
    past the end of the list and `r` empty for `copy` and `newFlow`). -/
private theorem touch_spec {σ σ' : Store V} {a : Nat} {f' : FlowObj V} {r : List Addr} (hs : Sep σ)
    (hother : ∀ b, b ≠ a → σ'.flows[b]? = σ.flows[b]?) (hown : σ'.flows[a]? = some f')
    (hr : ∀ ad ∈ r, ∃ f, σ.flows[a]? = some f ∧ ad ∈ f.parts)
    (hm : Moves σ.heap σ.next r σ'.heap σ'.next f'.parts) : Acts σ σ' a fun _ => view σ' f' := by
  have key : ∀ c fc, c ≠ a → σ.flows[c]? = some fc →
      (∀ ad ∈ fc.parts, σ'.heap ad = σ.heap ad) ∧ Refs σ'.next fc.parts ∧ ∀ ad ∈ f'.parts, ad ∉ fc.parts :=
    fun c fc hc hfc => hm.frame (hs.1 c fc hfc) fun ad had =>
      have ⟨f, hf, hm⟩ := hr ad had
      hs.2 a c f fc (Ne.symm hc) hf hfc ad hm
  refine ⟨⟨fun b fb hfb => ?_, fun b c fb fc hbc hfb hfc ad had hm => ?_⟩, fun b hb fb hfb => ?_,
    fun _ _ => ⟨f', hown, rfl⟩⟩
  · by_cases hb : b = a
    · cases (hb ▸ hfb).symm.trans hown
      exact hm.wf
    · exact (key b fb hb (hother b hb ▸ hfb)).2.1
  · by_cases hb : b = a
    · cases (hb ▸ hfb).symm.trans hown
      have hc : c ≠ a := fun e => hbc (hb.trans e.symm)
      exact (key c fc hc (hother c hc ▸ hfc)).2.2 ad had hm
    · rw [hother b hb] at hfb
      by_cases hc : c = a
      · cases (hc ▸ hfc).symm.trans hown
        exact (key b fb hb hfb).2.2 ad hm had
      · exact hs.2 b c fb fc hbc hfb (hother c hc ▸ hfc) ad had hm
  · exact ⟨(hother b hb).trans hfb, List.map_congr_left (key b fb hb hfb).1⟩

private theorem mutate_spec (σ : Store V) (a j : Nat) (v : V) (hs : Sep σ) :
    Acts σ (mutate σ a j v) a (FlowVal.edit (·.set j v)) := by
  fun_cases mutate σ a j v with
  | case1 hfa => exact Acts.absent hs hfa
  | case2 f hfa hj => exact Acts.noop hs hfa hj v
  | case3 f hfa ad hj =>
    have ⟨hm, hc⟩ := Moves.write (c := σ.heap) (hs.1 a f hfa) hj v
    exact (touch_spec (σ' := Store.mk (upd σ.heap ad v) σ.next σ.flows) hs (fun _ _ => rfl) hfa
      (fun _ hx => ⟨f, hfa, hx⟩) hm).congr hfa (congrArg (FlowVal.mk f.id f.live · f.backup) hc)

private theorem rebind_spec (σ : Store V) (a j : Nat) (v : V) (hs : Sep σ) :
    Acts σ (rebind σ a j v) a (FlowVal.edit (·.set j v)) := by
  fun_cases rebind σ a j v with
  | case1 hfa => exact Acts.absent hs hfa
  | case2 f hfa hj => exact Acts.noop hs hfa hj v
  | case3 f hfa ad hj =>
    have ⟨hm, hc⟩ := Moves.rebind (c := σ.heap) (hs.1 a f hfa) j v
    exact (touch_spec
      (σ' := Store.mk (upd σ.heap σ.next v) (σ.next + 1)
        (σ.flows.set a (FlowObj.mk f.id f.live (f.parts.set j σ.next) f.backup)))
      hs (fun b hb => List.getElem?_set_ne (Ne.symm hb)) (getElem?_set_of_some _ hfa) (fun _ hx => ⟨f, hfa, hx⟩) hm).congr
      hfa (congrArg (FlowVal.mk f.id f.live · f.backup) hc)

/-- replacing the flow object at `a` by one with the same component cells -/
private theorem setfields_spec {σ : Store V} {a : Nat} {f : FlowObj V} (i : Nat) (b : Option (Nat × List V))
    (hfa : σ.flows[a]? = some f) (hs : Sep σ) :
    Acts σ (Store.mk σ.heap σ.next (σ.flows.set a (FlowObj.mk i f.live f.parts b))) a
      fun x => ⟨i, x.live, x.content, b⟩ :=
  (touch_spec (σ' := Store.mk σ.heap σ.next (σ.flows.set a (FlowObj.mk i f.live f.parts b))) hs
    (fun _ hb => List.getElem?_set_ne (Ne.symm hb)) (getElem?_set_of_some _ hfa) (fun _ hx => ⟨f, hfa, hx⟩)
    (Moves.refl (hs.1 a f hfa))).congr hfa rfl

private theorem backupOp_spec (σ : Store V) (a : Nat) (hs : Sep σ) : Acts σ (backupOp σ a) a (act (.backup a)) := by
  fun_cases backupOp σ a with
  | case1 hfa => exact Acts.absent hs hfa
  | case2 f hfa b hb => exact (Acts.refl hs a).congr hfa (act_backup_some (x := view σ f) hb).symm
  | case3 f hfa hb =>
    exact (setfields_spec f.id (some (f.id, content σ f)) hfa hs).congr hfa (act_backup_none (x := view σ f) hb).symm

private theorem setMeta_none {σ : Store V} {a i : Nat} {b : Option (Nat × List V)} (h : σ.flows[a]? = none) :
    setMeta σ a i b = σ := by
  simp only [setMeta, h]
private theorem setMeta_some {σ : Store V} {a i : Nat} {b : Option (Nat × List V)} {f : FlowObj V}
    (h : σ.flows[a]? = some f) :
    setMeta σ a i b = Store.mk σ.heap σ.next (σ.flows.set a (FlowObj.mk i f.live f.parts b)) := by
  simp only [setMeta, h]

private theorem setFrom_length : ∀ (vs l : List V) (j : Nat), (setFrom l j vs).length = l.length := by
  intro vs
  induction vs with
  | nil => intro l j; rfl
  | cons v vs ih => intro l j; simp [setFrom, ih]

private theorem setFrom_append : ∀ (vs pre l : List V), l.length = vs.length →
    setFrom (pre ++ l) pre.length vs = pre ++ vs := by
  intro vs
  induction vs with
  | nil =>
    intro pre l hl
    rw [List.length_eq_zero_iff.mp hl]
    rfl
  | cons v vs ih =>
    intro pre l hl
    cases l with
    | nil => cases hl
    | cons x l =>
      have := ih (pre ++ [v]) l (Nat.succ.inj hl)
      rw [List.length_append, List.append_assoc] at this
      rw [setFrom, List.set_append_right _ _ (Nat.le_refl _), Nat.sub_self]
      simpa using this

private theorem setFrom_all (l vs : List V) (h : vs.length = l.length) : setFrom l 0 vs = vs :=
  setFrom_append vs [] l h.symm

private theorem restore_spec (ip : Nat → Bool) (a : Nat) :
    ∀ (vs : List V) (σ : Store V) (j : Nat), Sep σ → Acts σ (restore ip σ a j vs) a (FlowVal.edit (setFrom · j vs)) := by
  intro vs
  induction vs with
  | nil => intro σ j hs; exact Acts.refl hs a
  | cons v vs ih =>
    intro σ j hs
    have h1 : Acts σ (if ip j then mutate σ a j v else rebind σ a j v) a (FlowVal.edit (·.set j v)) := by
      split
      · exact mutate_spec σ a j v hs
      · exact rebind_spec σ a j v hs
    exact h1.trans (ih _ (j + 1) h1.1)

private theorem revert_spec (ip : Nat → Bool) (σ : Store V) (a : Nat) (hs : Sep σ) :
    Acts σ (revert ip σ a) a (act (.revert a)) := by
  fun_cases revert ip σ a with
  | case1 hfa => exact Acts.absent hs hfa
  | case2 f hfa hb => exact (Acts.refl hs a).congr hfa (act_revert_none (x := view σ f) hb).symm
  | case3 f hfa i vs hb =>
    have h1 := restore_spec ip a vs σ 0 hs
    obtain ⟨f1, hf1, _⟩ := h1.2.2 _ ⟨f, hfa, rfl⟩
    rw [setMeta_some hf1]
    exact (h1.trans (setfields_spec i none hf1 h1.1)).congr hfa (act_revert_some (x := view σ f) hb).symm

private theorem append_spec (σ : Store V) (vs : List V) (g : FlowObj V) (hs : Sep σ)
    (hg : g.parts = List.range' σ.next vs.length) :
    let σ' := Store.mk (allocHeap σ.heap σ.next vs) (σ.next + vs.length) (σ.flows ++ [g])
    Sep σ' ∧ (∀ b, Same σ σ' b) ∧ σ'.flows[σ.flows.length]? = some g ∧ content σ' g = vs := by
  intro σ'
  have hnew : σ'.flows[σ.flows.length]? = some g := List.getElem?_concat_length
  have hold : ∀ b, b ≠ σ.flows.length → σ'.flows[b]? = σ.flows[b]? := by
    intro b hb
    rcases Nat.lt_or_gt_of_ne hb with h | h
    · exact List.getElem?_append_left h
    · rw [List.getElem?_eq_none (Nat.le_of_lt h), List.getElem?_eq_none]
      rw [List.length_append]
      exact h
  have ⟨hm, hc⟩ := Moves.alloc (c := σ.heap) (n := σ.next) (r := []) vs
  obtain ⟨h1, h2, _⟩ := touch_spec (σ' := σ') (r := []) hs hold hnew (fun _ hx => nomatch hx) (hg ▸ hm)
  refine ⟨h1, fun b fb hfb => ?_, hnew, (congrArg (List.map σ'.heap) hg).trans hc⟩
  exact h2 b (fun e => nomatch (List.getElem?_eq_none (Nat.le_of_eq e.symm)).symm.trans hfb) fb hfb

private theorem copy_spec (σ : Store V) (a n : Nat) (hs : Sep σ) :
    Sep (copy σ a n) ∧ (∀ b, Same σ (copy σ a n) b) := by
  fun_cases copy σ a n with
  | case1 => exact ⟨hs, fun b fb h => ⟨h, rfl⟩⟩
  | case2 f hfa vs =>
    have := append_spec σ vs (FlowObj.mk n false (List.range' σ.next vs.length) f.backup) hs rfl
    exact ⟨this.1, this.2.1⟩

private theorem step_spec (ip : Nat → Bool) (σ : Store V) (op : Op V) (hs : Sep σ) :
    Acts σ (step ip σ op) op.target (act op) := by
  cases op with
  | mutate a j v => exact mutate_spec σ a j v hs
  | rebind a j v => exact rebind_spec σ a j v hs
  | backup a => exact backupOp_spec σ a hs
  | revert a => exact revert_spec ip σ a hs
  | copy a n =>
    have h := copy_spec σ a n hs
    exact ⟨h.1, fun b _ => h.2 b, fun _ => (h.2 a).shows⟩

def actOn (a : Nat) (x : FlowVal V) (op : Op V) : FlowVal V := if op.target = a then act op x else x

/-- The three clauses of `Acts` for a history: the last one follows every flow, addressed or not. -/
private theorem run_spec (ip : Nat → Bool) (ops : List (Op V)) : ∀ σ : Store V, Sep σ →
    Sep (run ip σ ops) ∧ (∀ b, (∀ op ∈ ops, op.target ≠ b) → Same σ (run ip σ ops) b) ∧
    ∀ a x, Shows σ a x → Shows (run ip σ ops) a (ops.foldl (actOn a) x) := by
  induction ops with
  | nil => exact fun _ hs => ⟨hs, fun _ _ _ h => ⟨h, rfl⟩, fun _ _ hx => hx⟩
  | cons op ops ih =>
    intro σ hs
    have h := step_spec ip σ op hs
    obtain ⟨k1, k2, k3⟩ := ih _ h.1
    refine ⟨k1, fun b hb => ?_, fun a x hx => k3 a _ ?_⟩
    · exact (h.2.1 b (hb op List.mem_cons_self).symm).trans (k2 b fun op' h' => hb op' (List.mem_cons_of_mem _ h'))
    · rw [actOn]
      split
      next e => exact e ▸ h.2.2 x (e ▸ hx)
      next e => exact (h.2.1 a (Ne.symm e)).shows hx

/-- under a history without a `revert` of its own, a flow that has a backup changes only in the values of its
    components -/
private theorem actOn_keeps {a : Nat} {ops : List (Op V)} (hops : ∀ op ∈ ops, op ≠ .revert a) {x : FlowVal V}
    {bk : Nat × List V} (hb : x.backup = some bk) :
    ∃ c, c.length = x.content.length ∧ ops.foldl (actOn a) x = { x with content := c } := by
  refine List.foldlRecOn ops (actOn a) (motive := fun y => ∃ c, c.length = x.content.length ∧ y = { x with content := c })
    ⟨_, rfl, rfl⟩ fun y ⟨c, hc, hy⟩ op hop => ?_
  subst hy
  by_cases e : op.target = a
  · rw [actOn, if_pos e]
    cases op with
    | mutate _ j v => exact ⟨c.set j v, List.length_set.trans hc, rfl⟩
    | rebind _ j v => exact ⟨c.set j v, List.length_set.trans hc, rfl⟩
    | backup _ => exact ⟨c, hc, act_backup_some hb⟩
    | revert _ => exact absurd (congrArg Op.revert e) (hops _ hop)
    | copy _ _ => exact ⟨c, hc, rfl⟩
  · rw [actOn, if_neg e]
    exact ⟨c, hc, rfl⟩

/-- **invariant.** No operation ever creates aliasing between flows. -/
theorem sep_preserved (ip : Nat → Bool) (ops : List (Op V)) :
    ∀ σ : Store V, Sep σ → Sep (run ip σ ops) :=
  fun σ hs => (run_spec ip ops σ hs).1

/-- the invariant holds for the empty store and for every flow created from a state -/
theorem sep_newFlow (σ : Store V) (id : Nat) (live : Bool) (vs : List V) (hs : Sep σ) :
    Sep (newFlow σ id live vs) :=
  (append_spec σ vs (FlowObj.mk id live (List.range' σ.next vs.length) none) hs rfl).1

theorem sep_empty (d : V) : Sep (empty d) :=
  ⟨fun _ _ h => (nomatch h), fun _ _ _ _ _ h => (nomatch h)⟩

/-- **C40 (copy independence).** For ANY history of operations none of which is addressed to flow b
    (edits, backups, reverts and copies of any other flows, including b's copies or b's original),
    flow b is the same object with the same get_state() content, id, backup and liveness. -/
theorem copy_independent (ip : Nat → Bool) (ops : List (Op V)) :
    ∀ (σ : Store V) (b : Nat) (fb : FlowObj V), Sep σ → σ.flows[b]? = some fb →
      (∀ op ∈ ops, op.target ≠ b) →
      (run ip σ ops).flows[b]? = some fb ∧ getState (run ip σ ops) fb = getState σ fb := by
  intro σ b fb hs hfb hops
  obtain ⟨h1, h2⟩ := (run_spec ip ops σ hs).2.1 b hops fb hfb
  exact ⟨h1, congrArg (fun c => (fb.id, c, fb.backup)) h2⟩

/-- what flow `a` shows after `backup a` and then a history without `revert a` -/
private theorem after_backup (ip : Nat → Bool) (σ : Store V) (a : Nat) (f : FlowObj V) (ops : List (Op V))
    (hs : Sep σ) (hf : σ.flows[a]? = some f) (hnb : f.backup = none)
    (hops : ∀ op ∈ ops, op ≠ .revert a) :
    Sep (run ip (backupOp σ a) ops) ∧
    ∃ c, c.length = (content σ f).length ∧
      Shows (run ip (backupOp σ a) ops) a ⟨f.id, f.live, c, some (f.id, content σ f)⟩ := by
  have hb := backupOp_spec σ a hs
  obtain ⟨hs', _, h⟩ := run_spec ip ops _ hb.1
  replace h := h a _ (hb.2.2 _ ⟨f, hf, rfl⟩)
  rw [act_backup_none (x := view σ f) hnb] at h
  obtain ⟨c, hc, hy⟩ := actOn_keeps hops (x := ⟨f.id, f.live, content σ f, some (f.id, content σ f)⟩) rfl
  exact ⟨hs', c, hc, hy ▸ h⟩

private theorem revert_shows (ip : Nat → Bool) {σ : Store V} {a : Nat} {x : FlowVal V} {i : Nat} {vs : List V}
    (hs : Sep σ) (hx : Shows σ a x) (hb : x.backup = some (i, vs)) :
    Shows (revert ip σ a) a ⟨i, x.live, setFrom x.content 0 vs, none⟩ :=
  act_revert_some hb ▸ (revert_spec ip σ a hs).2.2 x hx

/-- **C40 (revert).** Take any flow a without a backup, back it up, then run ANY history of operations
    on any flows (edits of every component of a, repeated backups, copies, reverts of *other* flows)
    that does not revert a itself; reverting a then yields exactly the get_state() a had at backup
    time — same id, same content, backup cleared — and its liveness is untouched. -/
theorem revert_restores_and_clears (ip : Nat → Bool) (σ : Store V) (a : Nat) (f : FlowObj V)
    (ops : List (Op V)) (hs : Sep σ) (hf : σ.flows[a]? = some f) (hnb : f.backup = none)
    (hops : ∀ op ∈ ops, op ≠ .revert a) :
    ∃ f', (revert ip (run ip (backupOp σ a) ops) a).flows[a]? = some f' ∧
          getState (revert ip (run ip (backupOp σ a) ops) a) f' = (f.id, content σ f, none) ∧
          f'.live = f.live := by
  obtain ⟨hs2, c, hc, hx⟩ := after_backup ip σ a f ops hs hf hnb hops
  obtain ⟨f', h1, hv⟩ := revert_shows ip hs2 hx rfl
  rw [setFrom_all _ _ hc.symm] at hv
  exact ⟨f', h1, congrArg (fun x => (x.id, x.content, x.backup)) hv, congrArg FlowVal.live hv⟩

theorem revert_without_backup_noop (ip : Nat → Bool) (σ : Store V) (a : Nat) (f : FlowObj V)
    (hf : σ.flows[a]? = some f) (hnb : f.backup = none) : revert ip σ a = σ :=
  revert_some_none hf hnb

/-- a second revert is a no-op: the backup was cleared by the first -/
theorem revert_twice (ip : Nat → Bool) (σ : Store V) (a : Nat) (f : FlowObj V) (i : Nat) (vs : List V)
    (hs : Sep σ) (hf : σ.flows[a]? = some f) (hb : f.backup = some (i, vs)) :
    revert ip (revert ip σ a) a = revert ip σ a := by
  obtain ⟨f', h1, hv⟩ := revert_shows ip hs ⟨f, hf, rfl⟩ hb
  exact revert_some_none h1 (congrArg FlowVal.backup hv)

/-- **C40 (modified).** A flow reports itself as modified exactly when it has a backup and its
    current state (id and content; the embedded backup is not part of the comparison) differs from it. -/
theorem modified_iff_state_ne_backup [DecidableEq V] (σ : Store V) (f : FlowObj V) :
    modified σ f = true ↔ ∃ b, f.backup = some b ∧ b ≠ (f.id, content σ f) := by
  unfold modified
  cases hb : f.backup with
  | none => simp
  | some b => simp

/-- the F-C40a situation: immediately after backup() a flow is not modified -/
theorem not_modified_right_after_backup [DecidableEq V] (σ : Store V) (a : Nat) (f : FlowObj V)
    (hs : Sep σ) (hf : σ.flows[a]? = some f) (hnb : f.backup = none) :
    ∃ g, (backupOp σ a).flows[a]? = some g ∧ modified (backupOp σ a) g = false := by
  rw [backupOp_some_none hf hnb]
  exact ⟨_, getElem?_set_of_some _ hf, by simp [modified, content]⟩

/-- along ANY history after a backup (without a revert of a): modified() ⇔ the content differs from
    the content at backup time — in particular editing back to the original value gives False. -/
theorem modified_after_backup_history [DecidableEq V] (ip : Nat → Bool) (σ : Store V) (a : Nat)
    (f : FlowObj V) (ops : List (Op V)) (hs : Sep σ) (hf : σ.flows[a]? = some f) (hnb : f.backup = none)
    (hops : ∀ op ∈ ops, op ≠ .revert a) :
    ∃ g, (run ip (backupOp σ a) ops).flows[a]? = some g ∧
         (modified (run ip (backupOp σ a) ops) g = true ↔
            content (run ip (backupOp σ a) ops) g ≠ content σ f) := by
  obtain ⟨_, c, _, g, hg, hx⟩ := after_backup ip σ a f ops hs hf hnb hops
  have hbk : g.backup = _ := congrArg FlowVal.backup hx
  have hid : g.id = _ := congrArg FlowVal.id hx
  refine ⟨g, hg, ?_⟩
  simp only [modified, hbk, hid, ne_eq, Prod.mk.injEq, true_and, decide_eq_true_eq]
  exact not_congr eq_comm

theorem not_modified_after_revert [DecidableEq V] (ip : Nat → Bool) (σ : Store V) (a : Nat) (f : FlowObj V)
    (i : Nat) (vs : List V) (hs : Sep σ) (hf : σ.flows[a]? = some f) (hb : f.backup = some (i, vs)) :
    ∃ g, (revert ip σ a).flows[a]? = some g ∧ modified (revert ip σ a) g = false := by
  obtain ⟨f', h1, hv⟩ := revert_shows ip hs ⟨f, hf, rfl⟩ hb
  exact ⟨f', h1, by simp [modified, show f'.backup = none from congrArg FlowVal.backup hv]⟩

/-- **C40 (copy).** `copy a n` creates, at the next handle, a flow with the given id n (fresh ⇒ different
    from the source id), the same content and the same backup, not live; the source flow is the same
    object with the same state. -/
theorem copy_fresh_id_equal_content_not_live (σ : Store V) (a n : Nat) (f : FlowObj V) (hs : Sep σ)
    (hf : σ.flows[a]? = some f) :
    ∃ g, (copy σ a n).flows[σ.flows.length]? = some g ∧ g.id = n ∧ (n ≠ f.id → g.id ≠ f.id) ∧
         g.live = false ∧ content (copy σ a n) g = content σ f ∧ g.backup = f.backup ∧
         (copy σ a n).flows[a]? = some f ∧ getState (copy σ a n) f = getState σ f := by
  rw [copy_some hf]
  obtain ⟨_, hsame, hnew, hc⟩ := append_spec σ (content σ f)
    (FlowObj.mk n false (List.range' σ.next (content σ f).length) f.backup) hs rfl
  obtain ⟨h1, h1c⟩ := hsame a f hf
  exact ⟨_, hnew, rfl, fun h => h, rfl, hc, rfl, h1, congrArg (fun c => (f.id, c, f.backup)) h1c⟩

/-- after a copy, any history of edits/backups/reverts on the original leaves the copy's state
    untouched and vice versa (instance of `copy_independent` for the pair original/copy) -/
theorem copy_then_edits_independent (ip : Nat → Bool) (σ : Store V) (a n : Nat) (f : FlowObj V)
    (ops : List (Op V)) (hs : Sep σ) (hf : σ.flows[a]? = some f) :
    (∀ g, (copy σ a n).flows[σ.flows.length]? = some g → (∀ op ∈ ops, op.target ≠ σ.flows.length) →
        getState (run ip (copy σ a n) ops) g = getState (copy σ a n) g) ∧
    ((∀ op ∈ ops, op.target ≠ a) →
        getState (run ip (copy σ a n) ops) f = getState σ f) := by
  have hsc : Sep (copy σ a n) := (copy_spec σ a n hs).1
  refine ⟨fun g hg hops => (copy_independent ip ops _ _ g hsc hg hops).2, ?_⟩
  intro hops
  obtain ⟨_, _, _, _, _, _, _, h7, h8⟩ := copy_fresh_id_equal_content_not_live σ a n f hs hf
  rw [(copy_independent ip ops _ a f hsc h7 hops).2, h8]

/-- a typed history is the heap history of its compiled operations -/
theorem runT_eq_run (ip : Nat → Bool) (ts : List TOp) :
    ∀ σ : Store Comp, runT ip σ ts = run ip σ (compileAll ip σ ts) := by
  induction ts with
  | nil => intro σ; rfl
  | cons t ts ih =>
    intro σ
    simp only [runT, List.foldl_cons, compileAll, run] at ih ⊢
    exact ih (stepT ip σ t)

/-- a typed edit compiles to one write, in place or by assignment, to component `e.comp` of its flow; the value
    written is `e.apply` of the component's state whenever the component exists -/
private theorem compile_edit (σ : Store Comp) (a : Nat) (e : Edit) :
    ∃ v, (compile σ (.edit a e) = .mutate a e.comp v ∨ compile σ (.edit a e) = .rebind a e.comp v) ∧
      ∀ f ad, σ.flows[a]? = some f → f.parts[e.comp]? = some ad → v = e.apply (σ.heap ad) := by
  cases hf : σ.flows[a]? with
  | none =>
    simp only [compile, hf]
    exact ⟨_, Or.inl rfl, fun _ _ h => nomatch h⟩
  | some f =>
    simp only [compile, hf]
    cases hp : f.parts[e.comp]? with
    | none => exact ⟨_, Or.inl rfl, fun f' ad h h' => nomatch (Option.some.inj h ▸ hp).symm.trans h'⟩
    | some ad =>
      refine ⟨e.apply (σ.heap ad), ?_, fun f' ad' h h' => ?_⟩
      · cases e.rebinds
        · exact Or.inl rfl
        · exact Or.inr rfl
      · cases h
        cases hp.symm.trans h'
        rfl

private theorem compile_spec (σ : Store Comp) (t : TOp) :
    (compile σ t).target = t.target ∧ ∀ a, compile σ t = .revert a → t = .revert a := by
  cases t with
  | edit b e =>
    obtain ⟨v, h | h, _⟩ := compile_edit σ b e
    · rw [h]; exact ⟨rfl, fun _ h' => nomatch h'⟩
    · rw [h]; exact ⟨rfl, fun _ h' => nomatch h'⟩
  | revert b => exact ⟨rfl, fun _ h => congrArg TOp.revert (Op.revert.inj h)⟩
  | _ => exact ⟨rfl, fun _ h => nomatch h⟩

/-- every operation of a compiled history is the compilation, in some store, of an operation of the typed history -/
private theorem compileAll_mem (ip : Nat → Bool) (ts : List TOp) :
    ∀ σ : Store Comp, ∀ op ∈ compileAll ip σ ts, ∃ t ∈ ts, ∃ σ', op = compile σ' t := by
  induction ts with
  | nil => intro σ op h; cases h
  | cons t ts ih =>
    intro σ op h
    rcases List.mem_cons.mp h with rfl | h
    · exact ⟨t, List.mem_cons_self, σ, rfl⟩
    · obtain ⟨t', ht', r⟩ := ih _ op h
      exact ⟨t', List.mem_cons_of_mem _ ht', r⟩

private theorem compileAll_no_revert (ip : Nat → Bool) (σ : Store Comp) (ts : List TOp) (a : Nat)
    (hts : TOp.revert a ∉ ts) : ∀ op ∈ compileAll ip σ ts, op ≠ .revert a := by
  intro op hop heq
  obtain ⟨t, ht, σ', rfl⟩ := compileAll_mem ip ts σ op hop
  exact hts ((compile_spec σ' t).2 a heq ▸ ht)

/-- **C40 (typed edits are predicted).** In a store without aliasing, a typed edit changes exactly component
    `e.comp` of the addressed flow to `e.apply` of its previous state — id, liveness, backup and all other
    components stay, and (by `typed_copy_independent`) so does every other flow. -/
theorem typed_edit_predicts (ip : Nat → Bool) (σ : Store Comp) (a : Nat) (e : Edit) (f : FlowObj Comp)
    (hs : Sep σ) (hf : σ.flows[a]? = some f) :
    ∃ f', (stepT ip σ (.edit a e)).flows[a]? = some f' ∧ f'.id = f.id ∧ f'.live = f.live ∧ f'.backup = f.backup ∧
      content (stepT ip σ (.edit a e)) f' =
        match f.parts[e.comp]? with
        | some ad => (content σ f).set e.comp (e.apply (σ.heap ad))
        | none => content σ f := by
  obtain ⟨v, hv, hval⟩ := compile_edit σ a e
  have hE : Acts σ (stepT ip σ (.edit a e)) a (FlowVal.edit (·.set e.comp v)) := by
    rw [stepT]
    rcases hv with h | h
    · rw [h]; exact mutate_spec σ a e.comp v hs
    · rw [h]; exact rebind_spec σ a e.comp v hs
  obtain ⟨f', h1, hx⟩ := hE.2.2 _ ⟨f, hf, rfl⟩
  refine ⟨f', h1, congrArg FlowVal.id hx, congrArg FlowVal.live hx, congrArg FlowVal.backup hx,
    (congrArg FlowVal.content hx).trans ?_⟩
  cases hp : f.parts[e.comp]? with
  | none => exact set_map_of_none _ v hp
  | some ad => rw [hval f ad hf hp]; rfl

/-- **C40 (revert ∘ edit* = id, typed).** Back up flow a, then run ANY typed history — edits of nested objects of
    any flow (request/response attributes, headers, trailers, bodies, WebSocket messages, connection fields,
    metadata, error, markers, comments), repeated backups, copies, reverts of other flows — without a revert of a;
    reverting a gives back exactly the get_state() of backup time and clears the backup. -/
theorem typed_revert_restores (ip : Nat → Bool) (σ : Store Comp) (a : Nat) (f : FlowObj Comp) (ts : List TOp)
    (hs : Sep σ) (hf : σ.flows[a]? = some f) (hnb : f.backup = none) (hts : TOp.revert a ∉ ts) :
    ∃ f', (revert ip (runT ip (backupOp σ a) ts) a).flows[a]? = some f' ∧
          getState (revert ip (runT ip (backupOp σ a) ts) a) f' = (f.id, content σ f, none) ∧ f'.live = f.live := by
  rw [runT_eq_run]
  exact revert_restores_and_clears ip σ a f _ hs hf hnb (compileAll_no_revert ip _ ts a hts)

/-- **C40 (copy independence, typed).** ANY typed history none of whose operations addresses flow b leaves b the
    same object with the same get_state(): editing a copy's (or the original's) nested objects never shows in the
    other. -/
theorem typed_copy_independent (ip : Nat → Bool) (σ : Store Comp) (b : Nat) (fb : FlowObj Comp) (ts : List TOp)
    (hs : Sep σ) (hfb : σ.flows[b]? = some fb) (hts : ∀ t ∈ ts, t.target ≠ b) :
    (runT ip σ ts).flows[b]? = some fb ∧ getState (runT ip σ ts) fb = getState σ fb := by
  rw [runT_eq_run]
  apply copy_independent ip _ σ b fb hs hfb
  intro op hop
  obtain ⟨t, ht, σ', rfl⟩ := compileAll_mem ip ts σ op hop
  rw [(compile_spec σ' t).1]
  exact hts t ht

theorem typed_sep_preserved (ip : Nat → Bool) (σ : Store Comp) (ts : List TOp) (hs : Sep σ) : Sep (runT ip σ ts) := by
  rw [runT_eq_run]; exact sep_preserved ip _ σ hs

/-- along any typed history after a backup: modified() ⇔ the (typed) content differs from the backup content -/
theorem typed_modified_after_backup (ip : Nat → Bool) (σ : Store Comp) (a : Nat) (f : FlowObj Comp) (ts : List TOp)
    (hs : Sep σ) (hf : σ.flows[a]? = some f) (hnb : f.backup = none) (hts : TOp.revert a ∉ ts) :
    ∃ g, (runT ip (backupOp σ a) ts).flows[a]? = some g ∧
         (modified (runT ip (backupOp σ a) ts) g = true ↔ content (runT ip (backupOp σ a) ts) g ≠ content σ f) := by
  rw [runT_eq_run]
  exact modified_after_backup_history ip σ a f _ hs hf hnb (compileAll_no_revert ip _ ts a hts)

/-- every store reachable from one flow created from a state by any typed history has no aliasing -/
theorem sep_reachable (ip : Nat → Bool) (d : Comp) (id : Nat) (live : Bool) (cs : List Comp) (pre : List TOp) :
    Sep (runT ip (newFlow (empty d) id live cs) pre) :=
  typed_sep_preserved ip _ pre (sep_newFlow _ id live cs (sep_empty d))

/-- `typed_revert_restores` for reachable stores: the hypothesis `Sep σ` is derived -/
theorem typed_revert_restores_reachable (ip : Nat → Bool) (d : Comp) (id : Nat) (live : Bool) (cs : List Comp)
    (pre ts : List TOp) (a : Nat) (f : FlowObj Comp)
    (hf : (runT ip (newFlow (empty d) id live cs) pre).flows[a]? = some f) (hnb : f.backup = none)
    (hts : TOp.revert a ∉ ts) :
    ∃ f', (revert ip (runT ip (backupOp (runT ip (newFlow (empty d) id live cs) pre) a) ts) a).flows[a]? = some f' ∧
          getState (revert ip (runT ip (backupOp (runT ip (newFlow (empty d) id live cs) pre) a) ts) a) f' =
            (f.id, content (runT ip (newFlow (empty d) id live cs) pre) f, none) ∧ f'.live = f.live :=
  typed_revert_restores ip _ a f ts (sep_reachable ip d id live cs pre) hf hnb hts

/-- `typed_copy_independent` for reachable stores -/
theorem typed_copy_independent_reachable (ip : Nat → Bool) (d : Comp) (id : Nat) (live : Bool) (cs : List Comp)
    (pre ts : List TOp) (b : Nat) (fb : FlowObj Comp)
    (hfb : (runT ip (newFlow (empty d) id live cs) pre).flows[b]? = some fb) (hts : ∀ t ∈ ts, t.target ≠ b) :
    (runT ip (runT ip (newFlow (empty d) id live cs) pre) ts).flows[b]? = some fb ∧
    getState (runT ip (runT ip (newFlow (empty d) id live cs) pre) ts) fb =
      getState (runT ip (newFlow (empty d) id live cs) pre) fb :=
  typed_copy_independent ip _ b fb ts (sep_reachable ip d id live cs pre) hfb hts

theorem hdrDel_not_has (h : Fields) (k : Bytes) : hdrHas (hdrDel h k) k = false := by
  rw [has_iff_getAll, getAll_del, if_pos rfl]
  rfl

private theorem getAll_setAll_other (k v k' : Bytes) (hne : kconv k' ≠ kconv k) :
    ∀ (h : Fields) (u : Bool), (u = false → True) → hdrGetAll (setAllAux k v h u) k' =
      hdrGetAll h k' ++ (if u then [] else []) := by
  intro h u _
  rw [getAll_setAllAux, if_neg hne, ite_self, List.append_nil]

theorem hdrSet_has (h : Fields) (k v : Bytes) : hdrHas (hdrSet h k v) k = true := by
  rw [has_iff_getAll, hdrSet, getAll_setAllAux, if_pos rfl]
  rfl

/-- `.content = b` on a message without transfer-encoding leaves a content-length header behind -/
theorem setContent_sets_length (m : Msg) (b : Bytes) (ht : hdrHas m.headers transferEncoding = false) :
    (setContent m (some b)).content = some b ∧ hdrHas (setContent m (some b)).headers contentLength = true := by
  simp [setContent, ht, hdrSet_has]

/-- `headers[k] = v` then `headers.get(k)` is v (exactly one field is left for the key) -/
theorem hdrGet_set_self (h : Fields) (k v : Bytes) : hdrGet (hdrSet h k v) k = some v := by
  rw [hdrGet, hdrSet, getAll_setAllAux, if_pos rfl]
  rfl

/-- `headers[k] = v` does not disturb any other header name -/
theorem hdrGet_set_other (h : Fields) (k v k' : Bytes) (hne : kconv k' ≠ kconv k) :
    hdrGet (hdrSet h k v) k' = hdrGet h k' ∧ hdrHas (hdrSet h k v) k' = hdrHas h k' := by
  rw [hdrGet, hdrGet, has_iff_getAll, has_iff_getAll, hdrSet, getAll_setAllAux, if_neg hne]
  exact ⟨rfl, rfl⟩

/-- `del headers[k]`: the name is gone, every other name is untouched -/
theorem hdrGet_del (h : Fields) (k k' : Bytes) :
    hdrGet (hdrDel h k) k = none ∧
    (kconv k' ≠ kconv k → hdrGet (hdrDel h k) k' = hdrGet h k' ∧ hdrHas (hdrDel h k) k' = hdrHas h k') := by
  refine ⟨by rw [hdrGet, getAll_del, if_pos rfl], fun hne => ?_⟩
  rw [hdrGet, hdrGet, has_iff_getAll, has_iff_getAll, getAll_del, if_neg hne]
  exact ⟨rfl, rfl⟩

/-- the C31 view of a typed message: body, Content-Encoding value, Transfer-Encoding present, and
    "Content-Length is str(n)" (one direction: what C31 claims about the header holds of the real header list) -/
def RefinesC31 (a : C31.Msg) (m : Msg) : Prop :=
  a.raw = m.content ∧ a.ce = hdrGet m.headers contentEncoding ∧ a.te = hdrHas m.headers transferEncoding ∧
  (∀ n, a.cl = some n → hdrGet m.headers contentLength = some (decimal n))

/-- what the typed edit is told about `encoding.encode`, as a function of C31's outcome -/
def encResOf : C31.Res → Option EncRes
  | .ok x => some (.ok x)
  | .verr => some .verr
  | _ => none

/-- the last step of `set_content` in both models: Content-Length is rewritten unless Transfer-Encoding is present -/
private theorem fixLen_refines (a : C31.Msg) (m : Msg) (href : RefinesC31 a m) :
    RefinesC31 (C31.fixLen a)
      (if hdrHas m.headers transferEncoding then m
       else { m with headers := hdrSet m.headers contentLength (decimal (m.content.getD []).length) }) := by
  obtain ⟨h1, h2, h3, h4⟩ := href
  obtain ⟨d1, d2, _⟩ := names_distinct
  rw [C31.fixLen, ← h3]
  by_cases hte : a.te = true
  · rw [if_pos hte, if_pos hte]
    exact ⟨h1, h2, h3, h4⟩
  · rw [if_neg hte, if_neg hte]
    refine ⟨h1, h2.trans (hdrGet_set_other _ _ _ _ (Ne.symm d1)).1.symm,
      h3.trans (hdrGet_set_other _ _ _ _ (Ne.symm d2)).2.symm, fun n hn => ?_⟩
    rw [h1] at hn
    rw [hdrGet_set_self]
    cases hc : m.content with
    | none => rw [hc] at hn; cases hn
    | some b => rw [hc] at hn; cases hn; rfl

/-- **C40 ⊑ C31 (set_content with Content-Encoding).** The header-list transcription of `Message.set_content`
    used by the typed C40 model refines C31's model of the same method for EVERY message, cache state and codec
    answer: if the abstract message describes the typed one before `.content = v`, it does so afterwards — the
    body becomes the encoded bytes (or the plain value with the Content-Encoding header deleted when the coding
    is invalid), and Content-Length is rewritten unless Transfer-Encoding is present. -/
theorem setContentCE_refines_C31 (c : C31.Cache) (a : C31.Msg) (m : Msg) (v : Option Bytes) (fresh : C31.Res)
    (r : EncRes) (href : RefinesC31 a m)
    (hr : ∀ b, v = some b → encResOf (C31.encodeStep c b (C31.ceOrIdentity a.ce) C31.strictB fresh).1 = some r) :
    RefinesC31 (C31.setContent c a v fresh).2.2 (setContentCE m v r) := by
  obtain ⟨h1, h2, h3, h4⟩ := href
  cases v with
  | none => exact ⟨rfl, h2, h3, h4⟩
  | some b =>
    have hr' := hr b rfl
    simp only [C31.setContent, setContentCE]
    rcases hres : C31.encodeStep c b (C31.ceOrIdentity a.ce) C31.strictB fresh with ⟨res, c'⟩
    rw [hres] at hr'
    cases res with
    | ok x =>
      cases hr'
      exact fixLen_refines { a with raw := some x } { m with content := some x } ⟨rfl, h2, h3, h4⟩
    | verr =>
      cases hr'
      obtain ⟨d1, _, d3⟩ := names_distinct
      have g := hdrGet_del m.headers contentEncoding
      exact fixLen_refines { a with raw := some b, ce := none }
        { m with content := some b, headers := hdrDel m.headers contentEncoding }
        ⟨rfl, (g contentEncoding).1.symm, h3.trans ((g transferEncoding).2 (Ne.symm d3)).2.symm,
          fun n hn => ((g contentLength).2 d1).1.trans (h4 n hn)⟩
    | _ => cases hr'

/-- without a Content-Encoding header the general transcription is `setContent` (`encode(v, "identity") = v`) -/
theorem setContentCE_identity (m : Msg) (b : Bytes) : setContentCE m (some b) (.ok b) = setContent m (some b) := by
  simp only [setContentCE, setContent]
  split <;> simp

/-- the Headers objects of a message are allocated and the trailers object is not the headers object -/
def WfObj (h : OHeap) (o : MsgObj) : Prop :=
  o.headers < h.next ∧ ∀ ad, o.trailers = some ad → ad < h.next ∧ ad ≠ o.headers

/-- two message objects share no Headers object -/
def DisjObj (o1 o2 : MsgObj) : Prop := ∀ a ∈ o1.refs, a ∉ o2.refs

private theorem wfObj_iff {h : OHeap} {o : MsgObj} : WfObj h o ↔ Refs h.next o.refs := by
  obtain ⟨oa, oh, oc, ot⟩ := o
  cases ot with
  | none =>
    exact ⟨fun hw => ⟨List.pairwise_singleton _ _, fun _ ha => List.mem_singleton.mp ha ▸ hw.1⟩,
      fun hr => ⟨hr.2 oh (.head _), nofun⟩⟩
  | some ad =>
    refine ⟨fun hw => ⟨List.nodup_cons.mpr ⟨fun hm => (hw.2 ad rfl).2 (List.mem_singleton.mp hm).symm,
        List.pairwise_singleton _ _⟩, List.forall_mem_cons.mpr ⟨hw.1, fun _ ha => List.mem_singleton.mp ha ▸ (hw.2 ad rfl).1⟩⟩,
      fun hr => ⟨hr.2 oh (.head _), fun _ e => ?_⟩⟩
    cases e
    exact ⟨hr.2 ad (.tail _ (.head _)), fun e => (List.nodup_cons.mp hr.1).1 (e ▸ .head _)⟩

private theorem getState_congr {h h' : OHeap} {o : MsgObj} (hc : ∀ a ∈ o.refs, h'.cells a = h.cells a) :
    o.getState h' = o.getState h := by
  obtain ⟨oa, oh, oc, ot⟩ := o
  have h1 : h'.cells oh = h.cells oh := hc oh (.head _)
  cases ot with
  | none => exact congrArg (Msg.mk oa · oc none) h1
  | some ad =>
    exact (congrArg (Msg.mk oa · oc _) h1).trans (congrArg (Msg.mk oa _ oc <| some ·) (hc ad (.tail _ (.head _))))

-- `updF` (Model/C40_Obj.lean) is `upd` at `Fields` under another name: the `Moves` lemmas, stated with `upd`, apply to it
-- by unfolding, but `rw` needs these two copies of `upd_self` / `upd_ne`
private theorem updF_self (c : Addr → Fields) (a : Addr) (v : Fields) : updF c a v a = v := if_pos rfl
private theorem updF_ne (c : Addr → Fields) {a x : Addr} (v : Fields) (h : x ≠ a) : updF c a v x = c x := if_neg h

/-- writing a value into the existing Headers objects: one in-place write to reference 0 and, for trailers, one to
    reference 1 -/
private theorem writeBack_spec (h : OHeap) (o : MsgObj) (m : Msg) (hw : WfObj h o)
    (hs : m.trailers.isSome = o.trailers.isSome) :
    (writeBack h o m).2.getState (writeBack h o m).1 = m ∧
    Moves h.cells h.next o.refs (writeBack h o m).1.cells (writeBack h o m).1.next (writeBack h o m).2.refs := by
  have hr := wfObj_iff.mp hw
  obtain ⟨oa, oh, oc, ot⟩ := o
  obtain ⟨ma, mh, mc, mt⟩ := m
  have m1 := (Moves.write (c := h.cells) hr (j := 0) rfl mh).1
  cases ot with
  | none =>
    cases mt with
    | some t => cases hs
    | none => exact ⟨congrArg (Msg.mk ma · mc none) (updF_self ..), m1⟩
  | some ad =>
    cases mt with
    | none => cases hs
    | some t =>
      refine ⟨?_, m1.trans (Moves.write hr (j := 1) rfl t).1⟩
      show Msg.mk ma (updF (updF h.cells oh mh) ad t oh) mc (some (updF (updF h.cells oh mh) ad t ad)) =
        Msg.mk ma mh mc (some t)
      rw [updF_self, updF_ne _ _ (Ne.symm (hw.2 ad rfl).2), updF_self]

/-- one edit of a message object: its value-level effect, and what it does to the object's Headers cells `o.refs`.
    `.headers = …` re-binds reference 0, `.trailers = …` drops, re-binds or appends reference 1, everything else
    writes in place. -/
private theorem applyObj_spec (e : MsgEdit) (h : OHeap) (o : MsgObj) (hw : WfObj h o) :
    (applyObj e h o).2.getState (applyObj e h o).1 = e.apply (o.getState h) ∧
    Moves h.cells h.next o.refs (applyObj e h o).1.cells (applyObj e h o).1.next (applyObj e h o).2.refs := by
  have hr := wfObj_iff.mp hw
  -- edits in place go through `writeBack`; they keep `trailers` present or absent as it was
  have inplace := fun (m : Msg) (hm : m.trailers.isSome = (o.getState h).trailers.isSome) =>
    writeBack_spec h o m hw (hm.trans Option.isSome_map)
  have fresh : ∀ (v : Fields) (a : Addr), a < h.next → updF h.cells h.next v a = h.cells a :=
    fun v a ha => updF_ne _ _ (Nat.ne_of_lt ha)
  cases e with
  | content v => exact inplace _ (congrArg Option.isSome (setContent_trailers _ v))
  | contentCE v r => exact inplace _ (congrArg Option.isSome (setContentCE_trailers _ v r))
  | thset k v => exact inplace _ Option.isSome_map
  | hrep f =>
    refine ⟨?_, (Moves.rebind hr 0 f).1⟩
    show Msg.mk o.atoms (updF h.cells h.next f h.next) o.content (o.trailers.map (updF h.cells h.next f)) =
      Msg.mk o.atoms f o.content (o.trailers.map h.cells)
    rw [updF_self, Option.map_congr (fun ad had => fresh f ad (hw.2 ad had).1)]
  | tset t =>
    cases t with
    | none => exact ⟨rfl, Moves.sublist hr (.cons_cons _ (List.nil_sublist _))⟩
    | some t =>
      refine ⟨?_, ?_⟩
      · show Msg.mk o.atoms (updF h.cells h.next t o.headers) o.content (some (updF h.cells h.next t h.next)) =
          Msg.mk o.atoms (h.cells o.headers) o.content (some t)
        rw [updF_self, fresh t _ hw.1]
      · obtain ⟨oa, oh, oc, ot⟩ := o
        cases ot with
        | none => exact (Moves.append hr t).1
        | some ad => exact (Moves.rebind hr 1 t).1
  | _ => exact inplace _ rfl

/-- what one edit of a message object does: the object's get_state() changes exactly as the value-level edit of
    the typed model says, the object stays well formed, and cells of Headers objects it does not own are untouched;
    `.headers = …` / `.trailers = …` bind a NEW object (address ≥ the old allocation pointer) -/
theorem obj_edit_simulates (e : MsgEdit) (h : OHeap) (o : MsgObj) (hw : WfObj h o) :
    (applyObj e h o).2.getState (applyObj e h o).1 = e.apply (o.getState h) ∧
    WfObj (applyObj e h o).1 (applyObj e h o).2 ∧ h.next ≤ (applyObj e h o).1.next ∧
    (∀ a, a < h.next → a ∉ o.refs → (applyObj e h o).1.cells a = h.cells a) ∧
    (∀ a ∈ (applyObj e h o).2.refs, a ∈ o.refs ∨ h.next ≤ a) :=
  have ⟨hv, hm⟩ := applyObj_spec e h o hw
  ⟨hv, wfObj_iff.mpr hm.1, hm.2⟩

/-- **C40 (no sharing below the component level), one edit.** Editing message object o1 — in place through its
    Headers objects or by binding new ones — leaves the get_state() of every message object o2 that shares no
    Headers object with it unchanged, and they still share nothing afterwards. -/
theorem obj_edit_frame (e : MsgEdit) (h : OHeap) (o1 o2 : MsgObj) (hw1 : WfObj h o1) (hw2 : WfObj h o2)
    (hd : DisjObj o1 o2) :
    o2.getState (applyObj e h o1).1 = o2.getState h ∧ WfObj (applyObj e h o1).1 o2 ∧
    DisjObj (applyObj e h o1).2 o2 := by
  obtain ⟨f1, f2, f3⟩ := (applyObj_spec e h o1 hw1).2.frame (wfObj_iff.mp hw2) hd
  exact ⟨getState_congr f1, wfObj_iff.mpr f2, f3⟩

/-- `from_state` appends a new Headers cell for the headers and, if the state has trailers, one for them -/
private theorem fromState_spec (h : OHeap) (s : Msg) :
    (MsgObj.fromState h s).2.getState (MsgObj.fromState h s).1 = s ∧
    Moves h.cells h.next [] (MsgObj.fromState h s).1.cells (MsgObj.fromState h s).1.next
      (MsgObj.fromState h s).2.refs := by
  obtain ⟨sa, sh, sc, st⟩ := s
  have m1 := (Moves.append (c := h.cells) (n := h.next) Refs.nil sh).1
  cases st with
  | none => exact ⟨by simp only [MsgObj.fromState, MsgObj.getState, updF_self, Option.map_none], m1⟩
  | some t =>
    refine ⟨?_, m1.trans (Moves.append m1.wf t).1⟩
    simp only [MsgObj.fromState, MsgObj.getState, updF_self, Option.map_some,
      updF_ne _ _ (Nat.ne_of_lt (Nat.lt_succ_self h.next))]

/-- **C40 (from_state builds fresh objects).** `Message.from_state(s)` yields an object whose get_state() is s
    (round trip), built only from Headers objects allocated by the call: it shares nothing with any existing
    message object, and existing objects keep their state.  Derived from the transcription, not assumed. -/
theorem fromState_fresh_roundtrip (h : OHeap) (s : Msg) :
    (MsgObj.fromState h s).2.getState (MsgObj.fromState h s).1 = s ∧
    WfObj (MsgObj.fromState h s).1 (MsgObj.fromState h s).2 ∧
    (∀ a ∈ (MsgObj.fromState h s).2.refs, h.next ≤ a) ∧
    (∀ o2, WfObj h o2 → o2.getState (MsgObj.fromState h s).1 = o2.getState h ∧ WfObj (MsgObj.fromState h s).1 o2 ∧
        DisjObj (MsgObj.fromState h s).2 o2) := by
  obtain ⟨hv, hm⟩ := fromState_spec h s
  refine ⟨hv, wfObj_iff.mpr hm.wf, hm.fresh, fun o2 hw2 => ?_⟩
  obtain ⟨f1, f2, f3⟩ := hm.frame (wfObj_iff.mp hw2) nofun
  exact ⟨getState_congr f1, wfObj_iff.mpr f2, f3⟩

/-- a history of edits is one edit: it has the value-level effect of the history and `Moves` the object's cells -/
private theorem applyObjs_spec (es : List MsgEdit) (h : OHeap) (o : MsgObj) (hw : WfObj h o) :
    (applyObjs es h o).2.getState (applyObjs es h o).1 = es.foldl (fun m e => e.apply m) (o.getState h) ∧
    Moves h.cells h.next o.refs (applyObjs es h o).1.cells (applyObjs es h o).1.next (applyObjs es h o).2.refs := by
  refine List.foldl_rel (f := fun p e => applyObj e p.1 p.2) (g := fun m e => e.apply m)
    (r := fun p m => p.2.getState p.1 = m ∧ Moves h.cells h.next o.refs p.1.cells p.1.next p.2.refs)
    ⟨rfl, Moves.refl (wfObj_iff.mp hw)⟩ ?_
  intro e _ p m ⟨g, mv⟩
  obtain ⟨a1, a2⟩ := applyObj_spec e p.1 p.2 (wfObj_iff.mpr mv.wf)
  exact ⟨g ▸ a1, mv.trans a2⟩

/-- **C40 (copy independence below the component level, all histories).** Copy a message object
    (get_state → from_state); then ANY sequence of edits of the original — header/trailer edits in place, body
    assignments with their Content-Length / Content-Encoding side effects, new header or trailer objects — leaves
    the copy's get_state() equal to the original's state at copy time, and ANY sequence of edits of the copy leaves
    the original's state untouched.  (This is the level of the empty-trailers seed c40-5.) -/
theorem obj_copy_independent (h : OHeap) (o : MsgObj) (es : List MsgEdit) (hw : WfObj h o) :
    (MsgObj.copy h o).2.getState (applyObjs es (MsgObj.copy h o).1 o).1 = o.getState h ∧
    o.getState (applyObjs es (MsgObj.copy h o).1 (MsgObj.copy h o).2).1 = o.getState h := by
  obtain ⟨r1, r2, _, r4⟩ := fromState_fresh_roundtrip h (o.getState h)
  obtain ⟨s1, s2, s3⟩ := r4 o hw
  exact ⟨(getState_congr ((applyObjs_spec es _ o s2).2.frame (wfObj_iff.mp r2) fun a ha hb => s3 a hb ha).1).trans r1,
    (getState_congr ((applyObjs_spec es _ _ r2).2.frame (wfObj_iff.mp s2) s3).1).trans s1⟩

/-- a history of object edits is the history of the value-level edits of the typed model -/
theorem obj_edits_simulate (es : List MsgEdit) :
    ∀ (h : OHeap) (o : MsgObj), WfObj h o →
      (applyObjs es h o).2.getState (applyObjs es h o).1 = es.foldl (fun m e => e.apply m) (o.getState h) :=
  fun h o hw => (applyObjs_spec es h o hw).1

section GenericObjects
variable {I I2 SV : Type}

/-- the sub-objects of an object are allocated and pairwise distinct -/
def WfG (h : GHeap SV) (o : GObj I) : Prop := o.subs.Nodup ∧ ∀ a ∈ o.subs, a < h.next

/-- two objects share no sub-object -/
def DisjG (o1 : GObj I) (o2 : GObj I2) : Prop := ∀ a ∈ o1.subs, a ∉ o2.subs

/-- **one edit of an object graph.** The object's get_state() changes exactly as the value-level edit says; the
    object stays well formed; cells of sub-objects it does not own are untouched; new sub-objects are NEW. -/
theorem gobj_edit_simulates (e : GEdit I SV) (h : GHeap SV) (o : GObj I) (hw : WfG h o) :
    (applyG e h o).2.getState (applyG e h o).1 = e.applyV (o.getState h) ∧
    WfG (applyG e h o).1 (applyG e h o).2 ∧ h.next ≤ (applyG e h o).1.next ∧
    (∀ a, a < h.next → a ∉ o.subs → (applyG e h o).1.cells a = h.cells a) ∧
    (∀ a ∈ (applyG e h o).2.subs, a ∈ o.subs ∨ h.next ≤ a) := by
  -- each edit is one primitive operation on the reference list `o.subs`
  fun_cases applyG e h o with
  | case1 g => exact ⟨rfl, Moves.refl hw⟩
  | case2 j g ad hj =>
    have ⟨hm, hc⟩ := Moves.write (c := h.cells) hw hj (g (h.cells ad))
    refine ⟨?_, hm⟩
    simp only [GObj.getState, GEdit.applyV, List.getElem?_map, hj, Option.map_some, hc]
  | case3 j g hj =>
    refine ⟨?_, Moves.refl hw⟩
    simp only [GObj.getState, GEdit.applyV, List.getElem?_map, hj, Option.map_none]
  | case4 j v ad hj =>
    have ⟨hm, hc⟩ := Moves.rebind (c := h.cells) hw j v
    exact ⟨congrArg (Prod.mk o.imm) hc, hm⟩
  | case5 j v hj => exact ⟨congrArg (Prod.mk o.imm) (set_map_of_none _ v hj).symm, Moves.refl hw⟩
  | case6 v =>
    have ⟨hm, hc⟩ := Moves.append (c := h.cells) hw v
    exact ⟨congrArg (Prod.mk o.imm) hc, hm⟩
  | case7 => exact ⟨congrArg (Prod.mk o.imm) List.map_dropLast, Moves.sublist hw (List.dropLast_sublist _)⟩
  | case8 vs =>
    have ⟨hm, hc⟩ := Moves.alloc (c := h.cells) (n := h.next) (r := o.subs) vs
    exact ⟨congrArg (Prod.mk o.imm) hc, hm⟩

private theorem gGetState_congr {h h' : GHeap SV} {o : GObj I} (hc : ∀ a ∈ o.subs, h'.cells a = h.cells a) :
    o.getState h' = o.getState h :=
  congrArg (Prod.mk o.imm) (List.map_congr_left hc)

/-- **no sharing between objects, one edit.** Editing o1 leaves the get_state() of every object o2 (of any class)
    that shares no sub-object with it unchanged; they still share nothing. -/
theorem gobj_edit_frame (e : GEdit I SV) (h : GHeap SV) (o1 : GObj I) (o2 : GObj I2) (hw1 : WfG h o1)
    (hw2 : WfG h o2) (hd : DisjG o1 o2) :
    o2.getState (applyG e h o1).1 = o2.getState h ∧ WfG (applyG e h o1).1 o2 ∧ DisjG (applyG e h o1).2 o2 := by
  obtain ⟨f1, f2, f3⟩ := Moves.frame (gobj_edit_simulates e h o1 hw1).2 hw2 hd
  exact ⟨gGetState_congr f1, f2, f3⟩

/-- **from_state builds fresh objects (every component class).** The object built from a state has that state
    (round trip), consists only of sub-objects allocated by the call, shares nothing with any existing object, and
    existing objects keep their state. -/
theorem gobj_fromState_fresh_roundtrip (h : GHeap SV) (s : I × List SV) :
    (GObj.fromState h s).2.getState (GObj.fromState h s).1 = s ∧ WfG (GObj.fromState h s).1 (GObj.fromState h s).2 ∧
    (∀ a ∈ (GObj.fromState h s).2.subs, h.next ≤ a) ∧
    (∀ o2 : GObj I2, WfG h o2 → o2.getState (GObj.fromState h s).1 = o2.getState h ∧
        WfG (GObj.fromState h s).1 o2 ∧ DisjG (GObj.fromState h s).2 o2) := by
  have ⟨hm, hc⟩ := Moves.alloc (c := h.cells) (n := h.next) (r := []) s.2
  refine ⟨congrArg (Prod.mk s.1) hc, hm.wf, hm.fresh, fun o2 hw2 => ?_⟩
  obtain ⟨f1, f2, f3⟩ := hm.frame hw2 nofun
  exact ⟨gGetState_congr f1, f2, f3⟩

/-- a history of edits is one edit: it has the value-level effect of the history and `Moves` the object's cells -/
private theorem applyGs_spec (es : List (GEdit I SV)) (h : GHeap SV) (o : GObj I) (hw : WfG h o) :
    (applyGs es h o).2.getState (applyGs es h o).1 = es.foldl (fun s e => e.applyV s) (o.getState h) ∧
    Moves h.cells h.next o.subs (applyGs es h o).1.cells (applyGs es h o).1.next (applyGs es h o).2.subs := by
  refine List.foldl_rel (f := fun p e => applyG e p.1 p.2) (g := fun s e => e.applyV s)
    (r := fun p s => p.2.getState p.1 = s ∧ Moves h.cells h.next o.subs p.1.cells p.1.next p.2.subs)
    ⟨rfl, Moves.refl hw⟩ ?_
  intro e _ p s ⟨g, m⟩
  obtain ⟨a1, a2⟩ := gobj_edit_simulates e p.1 p.2 m.wf
  exact ⟨g ▸ a1, m.trans a2⟩

/-- **copy independence for every component class, all histories.** Copy an object (get_state → from_state); ANY
    sequence of edits of the original — in-place mutation of sub-objects, new sub-objects, append/pop, replacing the
    list — leaves the copy's state equal to the original's state at copy time, and ANY sequence of edits of the copy
    leaves the original untouched. -/
theorem gobj_copy_independent (h : GHeap SV) (o : GObj I) (es : List (GEdit I SV)) (hw : WfG h o) :
    (GObj.copy h o).2.getState (applyGs es (GObj.copy h o).1 o).1 = o.getState h ∧
    o.getState (applyGs es (GObj.copy h o).1 (GObj.copy h o).2).1 = o.getState h := by
  obtain ⟨r1, r2, _, r4⟩ := gobj_fromState_fresh_roundtrip (I2 := I) h (o.getState h)
  obtain ⟨s1, s2, s3⟩ := r4 o hw
  exact ⟨(gGetState_congr ((applyGs_spec es _ o s2).2.frame r2 fun a ha hb => s3 a hb ha).1).trans r1,
    (gGetState_congr ((applyGs_spec es _ _ r2).2.frame s2 s3).1).trans s1⟩

/-- an edit history of an object graph is the history of the value-level edits -/
theorem gobj_edits_simulate (es : List (GEdit I SV)) :
    ∀ (h : GHeap SV) (o : GObj I), WfG h o →
      (applyGs es h o).2.getState (applyGs es h o).1 = es.foldl (fun s e => e.applyV s) (o.getState h) :=
  fun h o hw => (applyGs_spec es h o hw).1
end GenericObjects

/-- in-place mutation of sub-object `j` is `List.modify` on the state value -/
private theorem applyV_inPlace {I SV : Type} (j : Nat) (g : SV → SV) (i : I) (l : List SV) :
    (GEdit.inPlace j g).applyV (i, l) = (i, l.modify j g) := by
  refine congrArg (Prod.mk i) ?_
  cases hj : l[j]? with
  | none => exact (List.modify_eq_self (List.getElem?_eq_none_iff.mp hj)).symm
  | some x =>
    haveI : Inhabited SV := ⟨x⟩
    rw [List.modify_eq_set, hj]
    rfl

/-- the value-level edits of the generic layer ARE the typed model's edits of WebSocketData, TCP/UDP message lists
    and DNS messages: the object graph of each class simulates the typed component edit (with `gobj_edit_simulates`) -/
theorem ws_edit_is_generic (e : WsEdit) (s : List A × List WsMsg) :
    wsOfState (e.toG.applyV s) = e.apply (wsOfState s) := by
  obtain ⟨i, l⟩ := s
  cases e with
  | setContent j c => exact congrArg wsOfState (applyV_inPlace ..)
  | drop j b => exact congrArg wsOfState (applyV_inPlace ..)
  | _ => rfl

theorem tmsg_edit_is_generic (e : TMsgEdit) (s : Unit × List TMsg) :
    (e.toG.applyV s).2 = e.apply s.2 := by
  obtain ⟨i, l⟩ := s
  cases e with
  | setContent j c => exact congrArg Prod.snd (applyV_inPlace ..)
  | setFc j b => exact congrArg Prod.snd (applyV_inPlace ..)
  | _ => rfl

theorem dns_edit_is_generic (e : DnsEdit) (s : List A × List (List A)) :
    dnsOfState (e.toG.applyV s) = e.apply (dnsOfState s) := by
  obtain ⟨i, l⟩ := s
  cases e with
  | qname j a => exact congrArg dnsOfState (applyV_inPlace ..)
  | _ => rfl

private def σ0 : Store Nat := newFlow (empty 0) 7 true [10, 20, 30]
private def ipx : Nat → Bool := fun j => j % 2 == 0

-- backup, edit component 1 in place and re-bind component 2, copy, revert: the original state is back
example : (let σ := revert ipx (run ipx (backupOp σ0 0) [.mutate 0 1 21, .rebind 0 2 31, .copy 0 8, .backup 0]) 0
           (σ.flows.map (fun f => (f.id, f.live, content σ f, f.backup))))
        = [(7, true, [10, 20, 30], none), (8, false, [10, 21, 31], some (7, [10, 20, 30]))] := by decide +kernel
-- modified(): False after backup, True after an edit, False again after editing back
example : (let σ := backupOp σ0 0; σ.flows.map (modified σ)) = [false] := by decide +kernel
example : (let σ := run ipx (backupOp σ0 0) [.mutate 0 1 21]; σ.flows.map (modified σ)) = [true] := by decide +kernel
example : (let σ := run ipx (backupOp σ0 0) [.mutate 0 1 21, .mutate 0 1 20]; σ.flows.map (modified σ)) = [false] := by decide +kernel
-- a copy inherits the backup; reverting the copy gives it the *original's* id (modelled as implemented)
example : (let σ := revert ipx (run ipx (backupOp σ0 0) [.mutate 0 0 11, .copy 0 8]) 1
           (σ.flows.map (fun f => (f.id, content σ f)))) = [(7, [11, 20, 30]), (7, [10, 20, 30])] := by decide +kernel
example : Sep σ0 := sep_newFlow _ _ _ _ (sep_empty 0)

-- typed: Host header spelled "HoSt" is replaced case-insensitively, body assignment rewrites content-length
private def m0 : Msg := { atoms := [1, 2], headers := [([0x48,0x6f,0x53,0x74], [0x61]), ([0x78], [0x31]), ([0x68,0x6f,0x73,0x74], [0x62])],
                          content := none, trailers := none }
example : (MsgEdit.hset [0x68,0x4f,0x73,0x54] [0x7a]).apply m0 =
    { m0 with headers := [([0x48,0x6f,0x53,0x74], [0x7a]), ([0x78], [0x31])] } := by decide +kernel
example : ((MsgEdit.content (some [1,2,3,4,5,6,7,8,9,10,11,12])).apply m0).headers.getLast? =
    some (contentLength, [0x31, 0x32]) := by decide +kernel
-- EMPTY-but-present containers are values like any other: trailers = Headers() (empty), backed up, edited in place,
-- reverted: the empty trailer block is back; a copy taken before the edit keeps the empty block as well
private def mE : Msg := { m0 with trailers := some [], headers := [] }
private def σe : Store Comp := newFlow (empty (.flag false)) 7 true
  [.conn [], .conn [2], .err none, .flag false, .atom 0, .atom 0, .mdata [], .atom 0, .atom 0, .req mE, .resp (some mE), .ws (some ⟨[], [0]⟩)]
example : (let σ := revert ipx (runT ipx (backupOp σe 0)
              [.copy 0 8, .edit 0 (.req (.thset [0x74] [0x31])), .edit 0 (.req (.hadd [0x78] [0x31])), .edit 0 (.metaSet 1 2),
               .edit 0 (.ws (.append ⟨1, true, [], 0, false, false⟩)), .edit 0 (.resp (.thset [0x74] [0x32]))]) 0
           σ.flows.map (fun f => content σ f == content σe (σe.flows.headD f))) = [true, true] := by decide +kernel
example : ((MsgEdit.thset [0x74] [0x31]).apply mE).trailers = some [([0x74], [0x31])] := by decide +kernel
-- set_content with a Content-Encoding header: the encoded bytes and their length go in; an invalid coding is deleted
private def mCE : Msg := { m0 with headers := [(contentEncoding, [0x67,0x7a,0x69,0x70]), (contentLength, [0x37])] }
example : setContentCE mCE (some [1,2,3]) (.ok [9,9,9,9,9,9,9,9,9,9,9]) =
    { mCE with content := some [9,9,9,9,9,9,9,9,9,9,9], headers := [(contentEncoding, [0x67,0x7a,0x69,0x70]), (contentLength, [0x31,0x31])] } := by decide +kernel
example : setContentCE mCE (some [1,2,3]) .verr =
    { mCE with content := some [1,2,3], headers := [(contentLength, [0x33])] } := by decide +kernel
example : RefinesC31 ⟨none, some [0x67,0x7a,0x69,0x70], false, some 7, .absent, .h11⟩ mCE := by
  refine ⟨rfl, by decide +kernel, by decide +kernel, ?_⟩
  intro n hn
  cases hn
  decide +kernel
-- object layer: a message with an EMPTY trailers object; copy; edit the original's trailers and headers in place;
-- the copy still has the state of copy time, and `WfObj` holds of the example
private def hO : OHeap := { cells := fun a => if a = 0 then [([0x78], [0x31])] else [], next := 2 }
private def oO : MsgObj := { atoms := [1], headers := 0, content := none, trailers := some 1 }
example : WfObj hO oO := ⟨by decide, fun ad had => by cases had; decide⟩
example : (let c := MsgObj.copy hO oO
           let r := applyObjs [.thset [0x74] [0x31], .hdel [0x78], .content (some [1,2])] c.1 oO
           (c.2.getState r.1 == oO.getState hO, r.2.getState r.1 == oO.getState hO)) = (true, false) := by decide +kernel
-- generic object layer: a WebSocketData object with two message objects; copy; edits of the original in place and by
-- append/pop/replace; the copy keeps the state of copy time; `WfG` holds of the example
private def hG : GHeap WsMsg := { cells := fun a => ⟨a, true, [], 0, false, false⟩, next := 2 }
private def oG : GObj (List A) := { imm := [0, 1000], subs := [0, 1] }
example : WfG hG oG := ⟨by decide, by decide⟩
example : (let c := GObj.copy hG oG
           let r := applyGs [(WsEdit.setContent 0 [1]).toG, (WsEdit.append ⟨9, false, [], 0, false, false⟩).toG, WsEdit.pop.toG,
                             (WsEdit.drop 1 true).toG, (WsEdit.atom 1 7).toG] c.1 oG
           (decide (c.2.getState r.1 = oG.getState hG), decide (r.2.getState r.1 = oG.getState hG))) = (true, false) := by decide +kernel
private def σt : Store Comp := newFlow (empty (.flag false)) 7 true
  [.conn [1], .conn [2], .err none, .flag false, .atom 0, .atom 0, .mdata [], .atom 0, .atom 0, .req m0, .resp none, .ws none]
-- backup, header edit + response assignment + copy + edit of the copy, revert: original back, copy keeps its edits
example : (let σ := revert ipx (runT ipx (backupOp σt 0)
              [.edit 0 (.req (.hdel [0x78])), .edit 0 (.respReplace (some m0)), .copy 0 8, .edit 1 (.req (.atom 0 9))]) 0
           σ.flows.map (fun f => (f.id, content σ f == content σt (σt.flows.headD f), modified σ f))) =
    [(7, true, false), (8, false, true)] := by decide +kernel


-- `revert_twice` / `not_modified_after_revert` / `revert_without_backup_noop`: a flow WITH a backup and edits
private def σb : Store Nat := run ipx (backupOp σ0 0) [.mutate 0 1 21, .rebind 0 2 31]
example : (σb.flows.map (fun f => (f.backup, modified σb f))) = [(some (7, [10, 20, 30]), true)] := by decide +kernel
example : (let σ := revert ipx σb 0; σ.flows.map (fun f => (content σ f, f.backup, modified σ f))) =
    [([10, 20, 30], none, false)] := by decide +kernel
example : (let σ := revert ipx (revert ipx σb 0) 0; σ.flows.map (fun f => (content σ f, f.backup))) =
    [([10, 20, 30], none)] := by decide +kernel
-- `copy_then_edits_independent`, both directions on one history: edits of the original (in place and by assignment)
-- and of the copy, a backup + revert of the copy; each side only shows its own edits, the copy has the fresh id
example : (let σ := run ipx (copy σ0 0 8) [.mutate 0 0 11, .rebind 1 1 99, .backup 1, .mutate 1 2 98, .rebind 0 2 33, .revert 1]
           σ.flows.map (fun f => (f.id, f.live, content σ f))) = [(7, true, [11, 20, 33]), (8, false, [10, 99, 30])] := by decide +kernel
example : Sep (copy σ0 0 8) := sep_preserved ipx [.copy 0 8] σ0 (sep_newFlow _ _ _ _ (sep_empty 0))
-- hypotheses of `copy_independent` on that store: flow 1 exists and a history that never addresses it
example : (copy σ0 0 8).flows[1]?.isSome = true ∧
    (∀ op ∈ ([.mutate 0 0 11, .backup 0, .revert 0, .copy 0 9] : List (Op Nat)), op.target ≠ 1) := by decide +kernel
-- `hdrGet_set_self` / `hdrGet_set_other` / `hdrGet_del`: folding lookup after a case-insensitive assignment
example : hdrGet (hdrSet m0.headers [0x48,0x4f,0x53,0x54] [0x7a]) [0x68,0x6f,0x73,0x74] = some [0x7a] ∧
    hdrGet (hdrSet m0.headers [0x48,0x4f,0x53,0x54] [0x7a]) [0x78] = some [0x31] ∧
    hdrGet m0.headers [0x68,0x6f,0x73,0x74] = some [0x61, 0x2c, 0x20, 0x62] ∧
    hdrGet (hdrDel m0.headers [0x48,0x4f,0x53,0x54]) [0x68,0x6f,0x73,0x74] = none ∧
    kconv [0x78] ≠ kconv [0x48,0x4f,0x53,0x54] := by decide +kernel
-- `typed_copy_independent_reachable` / `typed_revert_restores_reachable`: a store reachable by a typed history
-- (copy, then an edit of the copy) — the original is untouched; then backup/edit/revert of the copy restores it
example : (let σ := runT ipx σt [.copy 0 8, .edit 1 (.req (.hset [0x78] [0x39])), .backup 1, .edit 1 (.metaSet 1 2),
                                 .edit 1 (.respReplace (some m0)), .revert 1]
           (σ.flows.map (fun f => (f.id, f.backup.isSome, modified σ f)),
            content σ (σ.flows.headD (σt.flows.headD ⟨0, false, [], none⟩)) == content σt (σt.flows.headD ⟨0, false, [], none⟩)))
    = ([(7, false, false), (8, false, false)], true) := by decide +kernel
-- an edit addressed to an absent component object is a no-op in the model (`Edit.apply` falls through) where Python
-- would raise; the harness edit functions carry the same guards (`if f.response: …`), so such calls are never issued
example : (Edit.resp (.atom 0 9)).apply (.resp none) = .resp none ∧ (Edit.errMsg 3).apply (.err none) = .err none ∧
    (WsEdit.pop).apply ⟨[], [0]⟩ = ⟨[], [0]⟩ := by decide +kernel

end MitmVerif.Props.C40
