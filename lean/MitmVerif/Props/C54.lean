/-
  C54 — property theorems about the sticky-cookie jar model (Model/C54.lean), for ALL histories of responses
  and requests, every clock (the `expired` flags), every filter outcome (`flt`) and every notion of
  "IP address" obeying the two laws of `IPNotion`.

  The claim of the property is `attached_only_if_spec_match`: a cookie put on a request was set by an earlier,
  unexpired Set-Cookie of a response on the same port, whose stored domain is RFC 6265 domain-matched by the request
  host AND by the host that set it, and whose stored path is path-matched by the request path.  It is read off the
  jar as a function of the history (`jar_is_last_write`: the last accepted Set-Cookie per key and name decides,
  expired = gone; `jar_keys_and_names_unique`: so membership is `jarGet`) and the two matcher theorems
  (`impl_domain_match_sound`: an implication, the code is stricter than the RFC for a Domain without leading dot;
  `impl_path_match_iff`: an equality).  The same statement is then given for histories closer to the wire, each by
  mapping the history down: `_raw` (clock, `cookies.is_expired`, `int()` and the attribute lookup inside the model) and
  `_hdr` (responses given by the TEXT of their Set-Cookie headers, Model/C54_Header.lean: the tokenizer is C34's
  transcription of `_read_set_cookie_pairs`; only email.utils' verdict on an Expires value stays a parameter).
  The expiry clause holds under the code's own acceptance test (`expired_removed`, `expired_removed_history`); read
  with the RFC's acceptance rule it is false (`ExpiredRemovedRFC`, `expired_removed_rfc_counterexample`: finding F-C54g).

  Rests on Lemmas/C54 (the matchers against the RFC, `setCookie` as an association-list update, `jarGet_run`, `JarWF`).
  Lemmas/Lists is imported for `strBytes_ofList`, which the examples need to evaluate string literals.
-/
import MitmVerif.Lemmas.C54
import MitmVerif.Lemmas.Lists
import MitmVerif.Model.C54_Header
namespace MitmVerif.Props.C54
open MitmVerif MitmVerif.C54

theorem impl_domain_match_sound (ip : IPNotion) (host dom : Bytes)
    (h : implDomainMatch host dom = true) : domainMatch6265 ip.isIP host dom = true :=
  implDomainMatch_sound ip host dom h

theorem impl_path_match_iff (req cpath : Bytes) :
    implPathMatch req cpath = pathMatch6265 (uriPath req) cpath :=
  implPathMatch_eq req cpath

/-- **Empty Domain value.** An empty cookie domain (`Domain=` or `Domain=.`) suffix-matches nothing in the RFC reading used
    here (§5.2.3 / §5.3 step 4: such a cookie is host-only): for every host that is not the attribute string itself the
    spec says no — in particular for hosts ending in a dot. -/
theorem empty_domain_matches_nothing (isIP : Bytes → Bool) (host dom : Bytes)
    (hd : dropDot (asciiLower dom) = []) (hne : asciiLower host ≠ asciiLower dom) (hne' : asciiLower host ≠ []) :
    domainMatch6265 isIP host dom = false := by
  simp [domainMatch6265, hd, hne, hne']

/-- **Foreign domains.** A Set-Cookie whose (effective) domain is not RFC 6265 domain-matched by the responding
    host does not change the jar. -/
theorem foreign_domain_not_stored (ip : IPNotion) (jar : Jar) (host : Bytes) (port : Nat) (c : Cookie)
    (h : domainMatch6265 ip.isIP host (ckey c host port).domain = false) :
    setCookie jar host port c = jar := by
  cases hdm : implDomainMatch host (ckey c host port).domain with
  | false => exact setCookie_of_not_match hdm
  | true => rw [implDomainMatch_sound ip _ _ hdm] at h; cases h

/-- **Last write wins.** After any history the slot `(key, name)` of the jar holds exactly what the last accepted
    Set-Cookie for that key and name says: its value, or nothing if it was expired (or there was none). -/
theorem jar_is_last_write (evs : List Event) (k : JKey) (n : Bytes) :
    jarGet (runJar [] evs) k n = lastWrite evs k n := by
  rw [jarGet_run]; rfl

/-- After any history the jar's keys are pairwise different and so are the cookie names under each key: the
    association lists of the model are Python dicts. -/
theorem jar_keys_and_names_unique (evs : List Event) :
    ((runJar [] evs).map (·.1)).Nodup ∧ ∀ k d, (k, d) ∈ runJar [] evs → (d.map (·.1)).Nodup :=
  runJar_invariant (P := JarWF) (fun _ host port c h => setCookie_wf h host port c) evs [] ⟨by simp, by simp⟩

/-- the jar never holds an empty dict (`if not self.jar[dom_port_path]: self.jar.pop(...)`) -/
theorem jar_no_empty_dicts (evs : List Event) (k : JKey) (d : Dict) (h : (k, d) ∈ runJar [] evs) : d ≠ [] :=
  runJar_invariant (P := fun jar => ∀ k d, (k, d) ∈ jar → d ≠ []) (fun _ host port c h => setCookie_nonempty h host port c)
    evs [] (by simp) k d h

/-- After any history every cookie in the jar sits under a key whose domain is domain-matched by the host of the
    response that set it (and whose port is that response's port). -/
theorem stored_only_from_matching_host (ip : IPNotion) (evs : List Event) (k : JKey) (d : Dict) (n : Bytes) (v : Val)
    (hk : (k, d) ∈ runJar [] evs) (hn : (n, v) ∈ d) :
    ∃ rhost rport cs c, Event.resp rhost rport cs ∈ evs ∧ c ∈ cs ∧ c.name = n ∧ c.value = v ∧ c.expired = false ∧
      k = ckey c rhost rport ∧ domainMatch6265 ip.isIP rhost k.domain = true := by
  have hg := jarGet_of_mem (jar_keys_and_names_unique evs) hk hn
  rw [jar_is_last_write] at hg
  rcases lastWriteFrom_some evs none hg with h0 | ⟨rhost, rport, cs, c, hev, hc, h1, h2, h3, hk', hdm⟩
  · cases h0
  · exact ⟨rhost, rport, cs, c, hev, hc, h1, h2, h3, hk', implDomainMatch_sound ip _ _ hdm⟩

/-- **Attachment, exactly.** A cookie `(n, v)` put on a request after any history is, for some jar key matching
    the request (domain, port, path), the value of the LAST accepted Set-Cookie for that key and name — so a cookie
    that was expired (or overwritten) later in the history is never sent. -/
theorem attached_is_latest_unexpired (evs : List Event) (flt : Bool) (host : Bytes) (port : Nat)
    (path n : Bytes) (v : Val) (h : (n, v) ∈ attached (runJar [] evs) flt host port path) :
    ∃ k : JKey, implDomainMatch host k.domain = true ∧ port = k.port ∧ implPathMatch path k.path = true ∧
      lastWrite evs k n = some v := by
  obtain ⟨_, k, d, hkd, hm, hdom, hport, hpath⟩ := mem_attached h
  exact ⟨k, hdom, hport, hpath, by rw [← jar_is_last_write]; exact jarGet_of_mem (jar_keys_and_names_unique evs) hkd hm⟩

/-- **Attachment.** If `(n, v)` is in the Cookie header the addon builds for a request after any history, then the
    filter matched and some response of that history carried an unexpired Set-Cookie `n=v`, on the same port,
    whose stored domain is RFC 6265 domain-matched both by the request host and by the host that set it, and whose
    stored path is RFC 6265 path-matched by the request path. -/
theorem attached_only_if_spec_match (ip : IPNotion) (evs : List Event) (flt : Bool) (host : Bytes) (port : Nat)
    (path n : Bytes) (v : Val) (h : (n, v) ∈ attached (runJar [] evs) flt host port path) :
    flt = true ∧
    ∃ rhost rport cs c, Event.resp rhost rport cs ∈ evs ∧ c ∈ cs ∧ c.name = n ∧ c.value = v ∧ c.expired = false ∧
      rport = port ∧
      domainMatch6265 ip.isIP host (ckey c rhost rport).domain = true ∧
      domainMatch6265 ip.isIP rhost (ckey c rhost rport).domain = true ∧
      pathMatch6265 (uriPath path) (ckey c rhost rport).path = true := by
  obtain ⟨hf, k, d, hkd, hm, hdom, hport, hpath⟩ := mem_attached h
  obtain ⟨rhost, rport, cs, c, hev, hc, h1, h2, h3, hk, hdm⟩ :=
    stored_only_from_matching_host ip evs k d n v hkd hm
  subst hk
  exact ⟨hf, rhost, rport, cs, c, hev, hc, h1, h2, h3, hport.symm, implDomainMatch_sound ip _ _ hdom, hdm,
    by rw [← implPathMatch_eq]; exact hpath⟩

/-- **Expiry.** After a Set-Cookie that is expired and passes the domain check, no dict stored under its key holds a
    cookie of that name, and no empty dict is left under that key — for every jar, hence after every history. -/
theorem expired_removed (jar : Jar) (host : Bytes) (port : Nat) (c : Cookie)
    (hexp : c.expired = true) (hdm : implDomainMatch host (ckey c host port).domain = true) :
    ∀ d, (ckey c host port, d) ∈ setCookie jar host port c → d ≠ [] ∧ ∀ v, (c.name, v) ∉ d := by
  intro d hk
  have := mem_setCookie hdm hk
  rw [if_pos rfl] at this
  exact ⟨newDict_ne_nil this, newDict_expired hexp this⟩

/-- the same at the end of a history: if the last Set-Cookie processed is an accepted expired one, the jar holds no
    cookie of that name under its key -/
theorem expired_removed_history (evs : List Event) (host : Bytes) (port : Nat) (cs : List Cookie) (c : Cookie)
    (hexp : c.expired = true) (hdm : implDomainMatch host (ckey c host port).domain = true) :
    ∀ d, (ckey c host port, d) ∈ runJar [] (evs ++ [Event.resp host port (cs ++ [c])]) →
      d ≠ [] ∧ ∀ v, (c.name, v) ∉ d := by
  intro d hk
  simp only [runJar, List.foldl_append, List.foldl_cons, List.foldl_nil, stepJar, response] at hk
  exact expired_removed _ host port c hexp hdm d hk

/-- the statement of `expired_removed` once more, under a `_partial` name: it is the PARTIAL form of the expiry clause —
    guarded by the code's own acceptance test `implDomainMatch`; the full RFC reading is `ExpiredRemovedRFC` below, with
    `expired_removed_rfc_partial` and `expired_removed_rfc_counterexample` (finding F-C54g). -/
theorem expired_removed_partial (jar : Jar) (host : Bytes) (port : Nat) (c : Cookie)
    (hexp : c.expired = true) (hguard : implDomainMatch host (ckey c host port).domain = true) :
    ∀ d, (ckey c host port, d) ∈ setCookie jar host port c → d ≠ [] ∧ ∀ v, (c.name, v) ∉ d :=
  expired_removed jar host port c hexp hguard

private def s (x : String) : Bytes := x.toUTF8.toList

private def ck (n v : String) (attrs : List (String × String)) (e : Bool) : Cookie :=
  { name := s n, value := s v, attrs := attrs.map (fun p => (s p.1, some (s p.2))), expired := e }

private def hist : List Event :=
  [ .resp (s "a.example.com") 80 [ck "sid" "1" [("Domain", ".example.com"), ("Path", "/foo")] false],
    .resp (s "x.example.com.evil.org") 80 [ck "sid" "evil" [("Domain", ".example.com")] false] ]

private def twoHist : List Event :=
  [ .resp (s "a.example.com") 80 [ck "sid" "1" [("Domain", ".example.com")] false, ck "lang" "en" [("Domain", ".example.com")] false] ]

private def at' (l : List (String × Option String)) : List (Bytes × Option Bytes) := l.map (fun p => (s p.1, p.2.map s))

/- A string literal is `String.ofList` of its characters, so `s` and `C34.S` of a literal can be read off by the next two
   lemmas (`no_index` lets `simp` try them on literals).  Left to `decide +kernel`, the kernel runs the byte-array loops of
   `String.ofList` / `ByteArray.toList` and the UTF-8 decoder of `String.toList` for every character, which is several
   times slower to check than the model's own work on the test vectors below; hence `simp only [.., s_ofList]` in front
   of their evaluation. -/
private theorem s_ofList (l : List Char) : s (no_index (String.ofList l)) = l.flatMap String.utf8EncodeChar :=
  strBytes_ofList l

private theorem S_ofList (l : List Char) : C34.S (no_index (String.ofList l)) = l.map Char.toNat :=
  congrArg _ String.toList_ofList

/-- Full-strength RFC reading: an expired Set-Cookie from ANY host that RFC-domain-matches its domain empties the slot.
    The code does not satisfy this (it accepts a Set-Cookie only when `stickycookie.domain_match` does, which treats a
    Domain without leading dot as exact-host): finding F-C54g; see `_partial` and `_counterexample`. -/
def ExpiredRemovedRFC (isIP : Bytes → Bool) : Prop :=
  ∀ (jar : Jar) (host : Bytes) (port : Nat) (c : Cookie), c.expired = true →
    domainMatch6265 isIP host (ckey c host port).domain = true →
    jarGet (setCookie jar host port c) (ckey c host port) c.name = none

/-- what holds: the same under the guard that the code's own domain check accepts the response -/
theorem expired_removed_rfc_partial (jar : Jar) (host : Bytes) (port : Nat) (c : Cookie) (hexp : c.expired = true)
    (hguard : implDomainMatch host (ckey c host port).domain = true) :
    jarGet (setCookie jar host port c) (ckey c host port) c.name = none := by
  rw [jarGet_setCookie]
  simp [writeCookie, hguard, hexp]

/-- witness: `sid` stored for `Domain=example.com` by example.com; sub.example.com (which RFC-domain-matches) expires it -/
theorem expired_removed_rfc_counterexample : ¬ ExpiredRemovedRFC stdIP := by
  intro h
  have := h [(⟨s "example.com", 80, [slash]⟩, [(s "sid", s "1")])] (s "sub.example.com") 80
    { name := s "sid", value := some [], attrs := [(s "Domain", some (s "example.com"))], expired := true }
    rfl (by simp only [s_ofList]; decide +kernel)
  revert this
  simp only [s_ofList]; decide +kernel

/-- `attached_only_if_spec_match` for histories of raw Set-Cookies processed at arbitrary clock readings: the
    unexpired-ness of the cookie is the transcribed `cookies.is_expired` at the time of its response. -/
theorem attached_only_if_spec_match_raw (ip : IPNotion) (evs : List RawEvent) (flt : Bool) (host : Bytes)
    (port : Nat) (path n : Bytes) (v : Val) (h : (n, v) ∈ attached (runRaw [] evs) flt host port path) :
    flt = true ∧
    ∃ now rhost rport cs c, RawEvent.resp now rhost rport cs ∈ evs ∧ c ∈ cs ∧ c.name = n ∧ c.value = v ∧
      isExpired now c.attrs c.dateTs = false ∧ rport = port ∧
      domainMatch6265 ip.isIP host (ckey (c.toCookie now) rhost rport).domain = true ∧
      domainMatch6265 ip.isIP rhost (ckey (c.toCookie now) rhost rport).domain = true ∧
      pathMatch6265 (uriPath path) (ckey (c.toCookie now) rhost rport).path = true := by
  obtain ⟨hf, rhost, rport, cs, c, hev, hc, hrest⟩ :=
    attached_only_if_spec_match ip (evs.map RawEvent.toEvent) flt host port path n v h
  obtain ⟨rev, hrev, hre⟩ := List.mem_map.mp hev
  cases rev with
  | req f h' p' pa => cases hre
  | resp now rh rp rcs =>
    cases hre
    obtain ⟨rc, hrc, rfl⟩ := List.mem_map.mp hc
    exact ⟨hf, _, _, _, _, rc, hrev, hrc, hrest⟩

/-- **From the header text.** `attached_only_if_spec_match` for histories whose responses are given by the TEXT of
    their Set-Cookie headers: the tokenizer (`cookies._read_set_cookie_pairs`, transcription shared with C34), the
    attribute lookup, `is_expired` and the clock are all inside the model; only email.utils' verdict on an Expires
    value (`dateOf`) is a parameter, and the theorem holds for every such function. -/
theorem attached_only_if_spec_match_hdr (ip : IPNotion) (dateOf : Bytes → Option Int) (evs : List HdrEvent)
    (flt : Bool) (host : Bytes) (port : Nat) (path n : Bytes) (v : Val)
    (h : (n, v) ∈ attached (runHdr dateOf [] evs) flt host port path) :
    flt = true ∧
    ∃ now rhost rport hs hd c, HdrEvent.resp now rhost rport hs ∈ evs ∧ hd ∈ hs ∧ c ∈ cookiesOfHeader dateOf hd ∧
      c.name = n ∧ c.value = v ∧ isExpired now c.attrs c.dateTs = false ∧ rport = port ∧
      domainMatch6265 ip.isIP host (ckey (c.toCookie now) rhost rport).domain = true ∧
      domainMatch6265 ip.isIP rhost (ckey (c.toCookie now) rhost rport).domain = true ∧
      pathMatch6265 (uriPath path) (ckey (c.toCookie now) rhost rport).path = true := by
  obtain ⟨hf, now, rhost, rport, cs, c, hev, hc, hrest⟩ :=
    attached_only_if_spec_match_raw ip (evs.map (HdrEvent.toRaw dateOf)) flt host port path n v h
  obtain ⟨hev', hmem, heq⟩ := List.mem_map.mp hev
  cases hev' with
  | req f h' p' pa => cases heq
  | resp now' rh rp hs =>
    cases heq
    obtain ⟨hd, hhd, hcd⟩ := List.mem_flatMap.mp hc
    exact ⟨hf, _, _, _, _, hd, c, hmem, hhd, hcd, hrest⟩

/-- the jar after a header-text history is the last-write function of the parsed history -/
theorem jar_is_last_write_hdr (dateOf : Bytes → Option Int) (evs : List HdrEvent) (k : JKey) (n : Bytes) :
    jarGet (runHdr dateOf [] evs) k n =
      lastWrite ((evs.map (HdrEvent.toRaw dateOf)).map RawEvent.toEvent) k n :=
  jar_is_last_write _ k n

/-- A Max-Age that `int()` accepts and that is ≤ 0 makes the cookie expired at every clock reading, whatever the
    Expires attribute says (RFC 6265 §4.1.2.2: Max-Age has precedence). -/
theorem max_age_nonpositive_is_expired (now : Int) (attrs : List (Bytes × Option Bytes)) (dateTs : Option Int)
    (v : Bytes) (m : Int) (h1 : attrGet kMaxAge attrs = some (some v)) (h2 : pyInt v = some m) (h3 : m ≤ 0) :
    isExpired now attrs dateTs = true := by
  simp only [isExpired, expirationTs, h1, h2, decide_eq_true_eq]
  omega

/-- without a usable Max-Age and without an Expires attribute a cookie is never expired -/
theorem no_expiry_attribute_not_expired (now : Int) (attrs : List (Bytes × Option Bytes)) (dateTs : Option Int)
    (h1 : attrGet kMaxAge attrs = none) (h2 : attrGet kExpires attrs = none) :
    isExpired now attrs dateTs = false := by
  simp [isExpired, expirationTs, h1, h2]

/-- a Domain / Path attribute without a value is ignored: the cookie is host-only / has path "/" -/
theorem valueless_domain_path_ignored (c : Cookie) (host : Bytes) (port : Nat) :
    (attrGet kDomain c.attrs = some none → (ckey c host port).domain = host) ∧
    (attrGet kPath c.attrs = some none → (ckey c host port).path = [slash]) := by
  constructor <;> intro h <;> simp [ckey, h]

-- the hypotheses of `attached_only_if_spec_match` are satisfiable: a cookie is attached …
example : attached (runJar [] hist) true (s "b.example.com") 80 (s "/foo/bar?x") = [(s "sid", some (s "1"))] := by
  simp only [hist, ck, List.map, s_ofList]
  decide +kernel
-- … and the model is not constant: other host / port / path / filter get nothing, the foreign Set-Cookie was dropped
example : attached (runJar [] hist) true (s "x.example.com.evil.org") 80 (s "/foo") = [] := by
  simp only [hist, ck, List.map, s_ofList]
  decide +kernel
example : attached (runJar [] hist) true (s "b.example.com") 81 (s "/foo") = [] := by
  simp only [hist, ck, List.map, s_ofList]
  decide +kernel
example : attached (runJar [] hist) true (s "b.example.com") 80 (s "/foobar") = [] := by
  simp only [hist, ck, List.map, s_ofList]
  decide +kernel
example : attached (runJar [] hist) false (s "b.example.com") 80 (s "/foo") = [] := by
  simp only [hist, ck, List.map, s_ofList]
  decide +kernel
example : (runJar [] hist).length = 1 := by
  simp only [hist, ck, List.map, s_ofList]
  decide +kernel
-- expiry removes the entry
example : runJar [] (hist ++ [.resp (s "a.example.com") 80
    [ck "sid" "" [("Domain", ".example.com"), ("Path", "/foo"), ("Max-Age", "0")] true]]) = [] := by
  simp only [hist, ck, List.map, s_ofList]
  decide +kernel
-- the matchers the code used before the repairs violate RFC 6265 on exactly the recorded witnesses
example : oldPathMatch (s "/foobar") (s "/foo") = true ∧ pathMatch6265 (s "/foobar") (s "/foo") = false := by
  simp only [s_ofList]
  decide +kernel
example : oldDomainMatch (s "x.example.com.evil.org") (s ".example.com") = true ∧
    domainMatch6265 stdIP (s "x.example.com.evil.org") (s ".example.com") = false := by
  simp only [s_ofList]
  decide +kernel
example : oldDomainMatch (s "example.com") (s "example.com.") = true ∧
    domainMatch6265 stdIP (s "example.com") (s "example.com.") = false := by
  simp only [s_ofList]
  decide +kernel
example : implDomainMatch (s "x.example.com.evil.org") (s ".example.com") = false ∧
    implDomainMatch (s "example.com") (s "example.com.") = false ∧
    implDomainMatch (s "www.Example.com") (s ".example.COM") = true ∧
    implDomainMatch (s "example.com") (s ".example.com") = true := by
  simp only [s_ofList]
  decide +kernel
-- empty Domain values: neither the code nor the RFC spec lets "example.com." (or anything else) match them
example : domainMatch6265 stdIP (s "example.com.") (s "") = false ∧ domainMatch6265 stdIP (s "example.com.") (s ".") = false ∧
    implDomainMatch (s "example.com.") (s "") = false ∧ implDomainMatch (s "example.com.") (s ".") = false ∧
    domainMatch6265 stdIP (s "sub.example.com") (s ".example.com") = true := by
  simp only [s_ofList]
  decide +kernel
-- an IP host never suffix-matches
example : domainMatch6265 stdIP (s "1.2.3.4") (s ".3.4") = false ∧ implDomainMatch (s "1.2.3.4") (s ".3.4") = false := by
  simp only [s_ofList]
  decide +kernel
-- last write wins: re-set, then expired
example : lastWrite hist ⟨s ".example.com", 80, s "/foo"⟩ (s "sid") = some (s "1") := by
  simp only [hist, ck, List.map, s_ofList]
  decide +kernel
example : lastWrite (hist ++ [.resp (s "a.example.com") 80
    [ck "sid" "" [("Domain", ".example.com"), ("Path", "/foo")] true]]) ⟨s ".example.com", 80, s "/foo"⟩ (s "sid") = none := by
  simp only [hist, ck, List.map, s_ofList]
  decide +kernel
-- the transcribed expiry: Max-Age beats Expires, int() grammar, valueless attributes
example : isExpired 1000 (at' [("Expires", some "x"), ("Max-Age", some "0")]) (some 5000) = true := by
  simp only [at', List.map, s_ofList]
  decide +kernel
example : isExpired 1000 (at' [("Max-Age", some "1_0")]) none = false ∧ pyInt (s "1_0") = some 10 := by
  simp only [at', List.map, s_ofList]
  decide +kernel
example : isExpired 1000 (at' [("Max-Age", none), ("expires", some "x")]) (some 999) = true := by
  simp only [at', List.map, s_ofList]
  decide +kernel
example : isExpired 1000 (at' [("Max-Age", some "abc")]) none = false ∧ pyInt (s "abc") = none ∧ pyInt (s "1__0") = none ∧
    pyInt (s "-5") = some (-5) ∧ pyInt (s " +7 ") = some 7 := by
  simp only [at', List.map, s_ofList]
  decide +kernel
example : (ckey { name := s "a", value := s "b", attrs := at' [("Domain", none)], expired := false } (s "h.example") 80).domain
    = s "h.example" := by
  simp only [at', List.map, s_ofList]
  decide +kernel
-- the tokenizer inside the model (after e0e81be4a / 8cc872297): a short Expires value no longer swallows the Path …
example : ((cookiesOfHeader (fun _ => none) (C34.S "a=b; Expires=0; Path=/admin")).map
    (fun c => (ckey (c.toCookie 0) (s "example.com") 80).path)) = [s "/admin"] := by
  simp only [s_ofList, S_ofList]
  decide +kernel
-- … and an RFC 850 date with a long weekday name is ONE cookie whose Expires value is the whole date
example : (cookiesOfHeader (fun _ => some 0) (C34.S "sid=; Expires=Thursday, 01-Jan-70 00:00:00 GMT; Path=/")).map
    (fun c => (c.name, attrGet kExpires c.attrs, isExpired 1000 c.attrs c.dateTs))
    = [(s "sid", some (some (s "Thursday, 01-Jan-70 00:00:00 GMT")), true)] := by
  simp only [s_ofList, S_ofList]
  decide +kernel
-- a header-text history: learn from the text, attach, expire by text
example : attached (runHdr (fun _ => none) [] [.resp 1000 (s "a.example.com") 80 [C34.S "sid=1; Domain=.example.com; Path=/foo"]])
    true (s "b.example.com") 80 (s "/foo/bar") = [(s "sid", some (s "1"))] := by
  simp only [s_ofList, S_ofList]
  decide +kernel
example : runHdr (fun _ => none) [] [.resp 1000 (s "a.example.com") 80 [C34.S "sid=1; Domain=.example.com; Path=/foo"],
    .resp 1001 (s "a.example.com") 80 [C34.S "sid=; Max-Age=0; Domain=.example.com; Path=/foo"]] = [] := by
  simp only [s_ofList, S_ofList]
  decide +kernel
-- a cookie NAME without "=value" is stored with value `none` and sent back as the bare name; special values are quoted
example : (cookiesOfHeader (fun _ => none) (C34.S "flag; Path=/x")).map (fun c => (c.name, c.value)) = [(s "flag", none)] := by
  simp only [s_ofList, S_ofList]
  decide +kernel
example : cookieHeaderText (attached (runHdr (fun _ => none) [] [.resp 0 (s "example.com") 80 [C34.S "flag", C34.S "sid=\"a b\""]])
    true (s "example.com") 80 (s "/")) = C34.S "flag; sid=\"a b\"" := by
  simp only [s_ofList, S_ofList]
  decide +kernel
-- the laws of `IPNotion` are satisfiable
example : IPNotion := stdIPNotion

-- `expired_removed` on its non-trivial branch: two cookies under one key, one is expired — the dict stays, without it
-- (the expiry example above empties the jar, where the ∀ d of the theorem ranges over nothing)
example : runJar [] (twoHist ++ [.resp (s "a.example.com") 80 [ck "sid" "" [("Domain", ".example.com")] true]]) =
    [(⟨s ".example.com", 80, [slash]⟩, [(s "lang", some (s "en"))])] := by
  simp only [twoHist, ck, List.map, s_ofList]
  decide +kernel
example : implDomainMatch (s "a.example.com") (ckey (ck "sid" "" [("Domain", ".example.com")] true) (s "a.example.com") 80).domain = true := by
  simp only [ck, List.map, s_ofList]
  decide +kernel
-- `attached_only_if_spec_match` applied to a concrete attachment (its hypothesis holds; stdIPNotion is an IPNotion)
example : ∃ rhost rport cs c, Event.resp rhost rport cs ∈ hist ∧ c ∈ cs ∧ c.name = s "sid" ∧ c.value = some (s "1") ∧ c.expired = false ∧
    rport = 80 ∧ domainMatch6265 stdIP (s "b.example.com") (ckey c rhost rport).domain = true ∧
    domainMatch6265 stdIP rhost (ckey c rhost rport).domain = true ∧
    pathMatch6265 (uriPath (s "/foo/bar?x")) (ckey c rhost rport).path = true :=
  (attached_only_if_spec_match stdIPNotion hist true (s "b.example.com") 80 (s "/foo/bar?x") (s "sid") (some (s "1"))
    (by simp only [hist, ck, List.map, s_ofList]; decide +kernel)).2
-- `foreign_domain_not_stored` applied: the hypothesis (RFC says no) holds for the evil host of `hist`
example : setCookie (runJar [] twoHist) (s "x.example.com.evil.org") 80 (ck "sid" "evil" [("Domain", ".example.com")] false) =
    runJar [] twoHist :=
  foreign_domain_not_stored stdIPNotion _ _ _ _ (by simp only [ck, List.map, s_ofList]; decide +kernel)
-- `attached_is_latest_unexpired`: an overwritten value is not sent any more, only the last one
example : attached (runJar [] (twoHist ++ [.resp (s "b.example.com") 80 [ck "sid" "2" [("Domain", ".example.com")] false]]))
    true (s "c.example.com") 80 (s "/") = [(s "sid", some (s "2")), (s "lang", some (s "en"))] := by
  simp only [twoHist, ck, List.map, s_ofList]
  decide +kernel
example : lastWrite (twoHist ++ [.resp (s "b.example.com") 80 [ck "sid" "2" [("Domain", ".example.com")] false]])
    ⟨s ".example.com", 80, [slash]⟩ (s "sid") = some (some (s "2")) := by
  simp only [twoHist, ck, List.map, s_ofList]
  decide +kernel
-- `max_age_nonpositive_is_expired` applied (hypotheses hold together): Max-Age=-5 with a far-future Expires
example : isExpired 1000 (at' [("Expires", some "x"), ("Max-Age", some "-5")]) (some 999999) = true :=
  max_age_nonpositive_is_expired 1000 _ _ (s "-5") (-5) (by simp only [at', List.map, s_ofList]; decide +kernel)
    (by simp only [s_ofList]; decide +kernel) (by decide)
-- an empty cookie domain is host-only (§5.2.3): spec and code agree that a host ending in a dot does not match it
-- (`empty_domain_matches_nothing`)
example : domainMatch6265 stdIP (s "example.com.") [] = false ∧ implDomainMatch (s "example.com.") [] = false := by
  simp only [s_ofList]
  decide +kernel

end MitmVerif.Props.C54
