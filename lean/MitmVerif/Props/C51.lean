/-
  C51 — property theorems: `escaped_str_to_bytes(bytes_to_escaped_str(b, k, q)) = b` for all b, k, q (`roundtrip`),
  and the escaped text is printable ASCII plus TAB/LF/CR only when kept on request (`output_clean`).
  Both go through `Tok`, the three forms of text that stand for one byte: `encByte` emits nothing else, the decoder
  reads each form back, each form is clean.  `enc_injective` and `edit_roundtrip` are corollaries of the round trip
  (the latter with `enc_append`: escaping is byte-local).  Props/C49 uses `output_no_control`, Props/C50 `roundtrip`.
-/
import MitmVerif.Model.C51
import MitmVerif.Lemmas.Lists
namespace MitmVerif.Props.C51
open MitmVerif MitmVerif.C51

private theorem hexVal_hexDigit (n : Nat) (h : n < 16) : hexVal (hexDigit n) = some n :=
  (by decide : ∀ n : Fin 16, hexVal (hexDigit n.val) = some n.val) ⟨n, h⟩

private theorem hexDigit_ok : ∀ n : Fin 16, okChar false (hexDigit n.val) = true := by decide

/-- the texts that stand for a byte `b`: the byte itself (never a backslash), a backslash and a letter that
    `simpleEsc` maps back to `b`, or `\x` and the two hex digits of `b` -/
private inductive Tok (k : Bool) (b : UInt8) : Bytes → Prop
  | lit : b ≠ 0x5c → okChar k b = true → Tok k b [b]
  | esc (e : UInt8) : e ≠ 0x0a → simpleEsc e = some b → okChar false e = true → Tok k b [0x5c, e]
  | hex : Tok k b [0x5c, 0x78, hexDigit (b.toNat / 16), hexDigit (b.toNat % 16)]

private theorem encByte_tok (k q : Bool) (b : UInt8) : Tok k b (encByte k q b) := by
  fun_cases encByte k q b
  -- the printable byte and the hex escape leave `b` a variable; in the other branches `b` is a known byte
  case case10 h _ _ _ _ hp => exact .lit h (by simp [okChar, hp])
  case case11 => exact .hex
  all_goals subst b
  case case3 | case4 | case6 | case8 => exact .lit (by decide) (by simp [okChar, *])
  all_goals exact .esc _ (by decide) (by decide) (by decide)

private theorem okChar_mono {k : Bool} {c : UInt8} (h : okChar false c = true) : okChar k c = true := by
  simp only [okChar, Bool.false_and, Bool.or_false] at h
  simp [okChar, h]

private theorem Tok.clean {k : Bool} {b : UInt8} {t : Bytes} (h : Tok k b t) : ∀ c ∈ t, okChar k c = true := by
  have hd : ∀ n, n < 16 → okChar k (hexDigit n) = true := fun n hn => okChar_mono (hexDigit_ok ⟨n, hn⟩)
  have hb := UInt8.toNat_lt b
  cases h with
  | lit _ h => simpa using h
  | esc e _ _ h => simpa using ⟨okChar_mono (by decide), okChar_mono h⟩
  | hex => simpa using ⟨okChar_mono (by decide), okChar_mono (by decide), hd _ (by omega), hd _ (by omega)⟩

private theorem Tok.pos {k : Bool} {b : UInt8} {t : Bytes} (h : Tok k b t) : 1 ≤ t.length := by
  cases h <;> exact Nat.succ_le_succ (Nat.zero_le _)

/-- decoding one token yields its byte and continues on the rest -/
private theorem Tok.dec {k : Bool} {b : UInt8} {t : Bytes} (h : Tok k b t) (rest : Bytes) (f : Nat) :
    decF (f + 1) (t ++ rest) = (decF f rest).map (b :: ·) := by
  cases h with
  | lit h _ => simp [decF, h]
  | esc e he hs _ => simp [decF, decEsc, he, hs]
  | hex =>
    have hb := UInt8.toNat_lt b
    simp [decF, decEsc, simpleEsc, hexVal_hexDigit (b.toNat / 16) (by omega), hexVal_hexDigit (b.toNat % 16) (by omega),
      byte_recompose]

private theorem decF_enc (k q : Bool) (bs : Bytes) :
    ∀ f, (enc k q bs).length ≤ f → decF f (enc k q bs) = some bs := by
  induction bs with
  | nil => intro f _; cases f <;> rfl
  | cons b bs ih =>
    intro f hf
    have henc : enc k q (b :: bs) = encByte k q b ++ enc k q bs := List.flatMap_cons ..
    have ht := encByte_tok k q b
    have hpos := ht.pos
    rw [henc, List.length_append] at hf
    obtain ⟨f, rfl⟩ : ∃ g, f = g + 1 := ⟨f - 1, by omega⟩
    rw [henc, ht.dec, ih f (by omega)]; rfl

/-- **C51 (round trip).** For every byte string and every option pair the escaped text converts
    back to exactly the same bytes. -/
theorem roundtrip (k q : Bool) (bs : Bytes) : dec (enc k q bs) = some bs :=
  decF_enc k q bs _ (Nat.le_refl _)

/-- **C51 (clean output).** The escaped text contains no raw control character other than the
    TAB / LF / CR kept on request (and no non-ASCII byte). -/
theorem output_clean (k q : Bool) (bs : Bytes) : ∀ c ∈ enc k q bs, okChar k c = true := by
  intro c hc
  simp only [enc, List.mem_flatMap] at hc
  obtain ⟨b, _, hcb⟩ := hc
  exact (encByte_tok k q b).clean c hcb

/-- without `keep_spacing` the text has no control character at all -/
theorem output_no_control (q : Bool) (bs : Bytes) :
    ∀ c ∈ enc false q bs, 0x20 ≤ c.toNat ∧ c.toNat ≤ 0x7e := by
  intro c hc
  have := output_clean false q bs c hc
  simpa [okChar] using this

/-- Two different byte strings never show as the same text (whatever the options of each view). -/
theorem enc_injective (k q k' q' : Bool) (a b : Bytes) (h : enc k q a = enc k' q' b) : a = b := by
  have ha := roundtrip k q a
  rw [h, roundtrip k' q' b] at ha
  exact (Option.some.inj ha).symm

/-- Escaping is byte-local: the text of a concatenation is the concatenation of the texts
    (so an edit of one region of the text changes only the corresponding bytes). -/
theorem enc_append (k q : Bool) (a b : Bytes) : enc k q (a ++ b) = enc k q a ++ enc k q b := by
  simp [enc, List.flatMap_append]

/-- Replacing the middle of the text by the escaped form of other bytes converts back to the
    bytes with exactly that region replaced. -/
theorem edit_roundtrip (k q : Bool) (a b' c : Bytes) :
    dec (enc k q a ++ enc k q b' ++ enc k q c) = some (a ++ b' ++ c) := by
  rw [← enc_append, ← enc_append]; exact roundtrip k q _

-- non-vacuity / sanity: concrete instances computed by the kernel
--   b"\x00'\\\n\xffA"  ->  \x00'\\\n\xffA
example : enc false false [0x00, 0x27, 0x5c, 0x0a, 0xff, 0x41] =
    [0x5c,0x78,0x30,0x30, 0x27, 0x5c,0x5c, 0x5c,0x6e, 0x5c,0x78,0x66,0x66, 0x41] := by decide +kernel
example : dec [0x5c,0x78,0x30,0x30, 0x27, 0x5c,0x5c, 0x5c,0x6e, 0x5c,0x78,0x66,0x66, 0x41] =
    some [0x00, 0x27, 0x5c, 0x0a, 0xff, 0x41] := by decide +kernel
-- the decoder does reject something (the theorem is not about a constant function)
example : dec [0x5c] = none ∧ dec [0x5c, 0x78, 0x34] = none := by decide +kernel

/-! ## further non-vacuity witnesses -/

-- the hypothesis of `enc_injective` is satisfiable across DIFFERENT option pairs (same text, different views)
example : enc false false [0x41, 0x22] = enc true true [0x41, 0x22] := by decide +kernel
example : ([0x41, 0x22] : Bytes) = [0x41, 0x22] := enc_injective false false true true _ _ (by decide +kernel)
-- keep_spacing really keeps TAB / LF / CR raw and still escapes the other controls (`output_clean` with k = true is not
-- the k = false statement in disguise)
example : enc true false [0x09, 0x0a, 0x0d, 0x00, 0x7f] =
    [0x09, 0x0a, 0x0d, 0x5c,0x78,0x30,0x30, 0x5c,0x78,0x37,0x66] := by decide +kernel
example : ∀ c ∈ enc true false [0x09, 0x1b, 0x80], okChar true c = true := output_clean true false _
example : okChar false 0x09 = false ∧ okChar true 0x09 = true ∧ okChar true 0x1b = false ∧ okChar true 0x80 = false := by decide
-- `edit_roundtrip` on a concrete three-region text (quote + backslash | newline kept raw | non-ASCII)
example : dec (enc true true [0x27, 0x5c] ++ enc true true [0x0a] ++ enc true true [0xff]) = some ([0x27, 0x5c] ++ [0x0a] ++ [0xff]) :=
  edit_roundtrip true true _ _ _
-- the round trip where the escaped text itself contains backslash-n as two characters next to a raw newline
example : dec (enc true false [0x5c, 0x6e, 0x0a]) = some [0x5c, 0x6e, 0x0a] ∧ enc true false [0x5c, 0x6e, 0x0a] = [0x5c, 0x5c, 0x6e, 0x0a] := by
  decide +kernel

end MitmVerif.Props.C51
