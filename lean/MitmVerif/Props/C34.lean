/-
  C34 — property theorems (model: Model/C34.lean): the views on a message (cookies, Set-Cookie, query, urlencoded form, path
  components, multipart form) read back what was assigned to them; urllib and the text codec enter as parameters with their laws.
  Multipart: the full statement `MultipartRoundtrips` is false for the code — `multipart_roundtrip_counterexample` (F-C34a);
  `multipart_roundtrip_partial` proves the round trip under the guards (induction over the part list); `noEarly_piece` derives its
  delimiter guard and `multipart_roundtrip` states every guard on the input (key/value/content type do not contain `--boundary`).
  The cookie proofs are in `Lemmas/C35CookieCodec.lean` (the Set-Cookie reader reuses its `loop_joined` / `fmtPair_value`), the
  request-target lemmas in `Lemmas/C34Path.lean` (over `Lemmas/C33Rest.lean`), `split("/")`, `split("&")` and the joins as
  `splitSep` / `joinBy` in `Lemmas/C34Split.lean`; the multipart lemmas (`bytes.split`, `splitlines`, the
  name regex, `NoEarly` / `NoOccur`) are private to this file.  The second half of the file takes the write-back clause view by view.
-/
import MitmVerif.Model.C34
import MitmVerif.Lemmas.C34Path
import MitmVerif.Lemmas.C34Split
import MitmVerif.Lemmas.C35CookieCodec
namespace MitmVerif.Props.C34
open MitmVerif MitmVerif.C34

/-! ### the Cookie header (proofs in `Lemmas/C35CookieCodec.lean`) -/

/-- what a Cookie header can carry: the name has no `;` or `=`, no leading whitespace, and name and value are not both empty -/
def RepPair (e : Str × Str) : Prop := (∀ x ∈ e.1, isSemiEq x = false) ∧ lstrip e.1 = e.1 ∧ (e.2 ≠ [] ∨ e.1 ≠ [])

def Representable (ps : List (Str × Str)) : Prop := ∀ e ∈ ps, RepPair e

/-- **C34 (cookies).** Every representable pair list survives formatting and parsing, in order. -/
theorem cookie_roundtrip (ps : List (Str × Str)) (h : Representable ps) : parseCookie (formatCookie ps) = ps :=
  C35CookieCodec.cookie_roundtrip ps h

theorem parse_yields_representable (s : Str) : Representable (parseCookie s) :=
  C35CookieCodec.parse_yields_representable s

/-- **C34 (cookies view).** Assigning representable pairs and reading the view back yields the same pairs in the same order. -/
theorem request_cookies_view_roundtrip (ps : List (Str × Str)) (h : Representable ps) : getCookies (setCookies ps) = ps :=
  C35CookieCodec.request_cookies_view_roundtrip ps h

/-- **C34 (write-back).** For any Cookie header values whatsoever, writing the view's current value back leaves the view unchanged. -/
theorem view_writeback_idempotent (hdrs : List Str) : getCookies (setCookies (getCookies hdrs)) = getCookies hdrs := by
  apply request_cookies_view_roundtrip
  intro e he
  unfold getCookies at he
  rw [List.mem_flatMap] at he
  obtain ⟨h, _, hm⟩ := he
  exact parse_yields_representable h e hm

/-! ### query view (urllib as a parameter) -/

/-- On abstract target components, where — given the law — it holds by the shape of `getQuery` / `setQuery`; the statement about
    the raw request target, which involves urlparse's cutting, is `query_view_roundtrip_target`. -/
theorem query_view_roundtrip (U : UrlCodec) (hlaw : ∀ ps, U.parseQsl (U.urlencode ps) = ps) (t : Target) (ps : List (Str × Str)) :
    getQuery U (setQuery U t ps) = ps ∧ (setQuery U t ps).path = t.path ∧ (setQuery U t ps).params = t.params ∧
      (setQuery U t ps).fragment = t.fragment ∧ setQuery U (setQuery U t ps) (getQuery U (setQuery U t ps)) = setQuery U t ps := by
  refine ⟨hlaw ps, rfl, rfl, rfl, ?_⟩
  simp [getQuery, setQuery, hlaw]

/-! ### urlencoded form view (urllib and the text codec as parameters) -/

/-- **C34 (form view).** Laws: `parse_qsl (urlencode ps) = ps`; the bare form content type decodes the ASCII bytes of an urlencoded
    text back to that text; urlencode never writes a parameter without `=`.  Guard: the existing body, as the setter reads it, has no
    parameter without `=` (otherwise the pair ('','') is erased: F-C34e).  Then, whatever Content-Type the request carried before
    (any charset parameter included): the view reads back the assigned pairs, the header is the bare form type, and writing the
    view's current value back leaves the message as it is. -/
theorem form_view_roundtrip (L : FormLib) (m : FormMsg) (ps : List (Str × Str))
    (hlaw : ∀ qs, L.U.parseQsl (L.U.urlencode qs) = qs)
    (hdec : ∀ qs, L.getText (some formCT) (L.encodeAscii (L.U.urlencode qs)) = L.U.urlencode qs)
    (hnobare : ∀ qs, bareStyle (L.U.urlencode qs) = false)
    (hguard : bareStyle (L.getText (some formCT) m.body) = false) :
    getForm L (setForm L m ps) = ps ∧ (setForm L m ps).ct = some formCT ∧
      setForm L (setForm L m ps) (getForm L (setForm L m ps)) = setForm L m ps := by
  have hct : hasSub formCT (lower ((some formCT : Option Str).getD [])) = true := by decide +kernel
  have henc : ∀ sim, bareStyle sim = false → encodeForm L.U ps sim = L.U.urlencode ps := by
    intro sim h; simp [encodeForm, h]
  have hset : setForm L m ps = { ct := some formCT, body := L.encodeAscii (L.U.urlencode ps) } := by
    simp [setForm, henc _ hguard]
  have hget : getForm L (setForm L m ps) = ps := by
    rw [hset]; simp only [getForm, hct, if_true]; rw [hdec, hlaw]
  refine ⟨hget, by rw [hset], ?_⟩
  rw [hget, hset]
  simp [setForm, encodeForm, hdec, hnobare]

/-- the style imitation is not vacuous: with a bare parameter in the existing body the pair ('','') is erased (F-C34e) -/
example : dropTrailingEq (replEqAmp (S "a=1&=&b=&=")) = S "a=1&&b&" ∧ bareStyle (S "a&b=2") = true ∧ bareStyle (S "a=1&b=2") = false ∧
    bareStyle [] = false := by decide +kernel

/-! ### the path_components and query views on the raw request target (urlparse's reading transcribed, tied by `tparts`/`tset`) -/

/-- what is assumed of `urllib.parse.quote(c, safe="")` / `unquote`: unquote inverts quote, a quoted component contains none of
    `/ ; ? #`, and only the empty component quotes to the empty string -/
structure QuoteLaw (U : UrlCodec) : Prop where
  inv : ∀ c, U.unquote (U.quote c) = c
  clean : ∀ c x, x ∈ U.quote c → x ≠ 47 ∧ x ≠ 59 ∧ x ≠ 63 ∧ x ≠ 35
  nonempty : ∀ c, c ≠ [] → U.quote c ≠ []

/-- **C34 (path components).** For ANY request target `p` (leading `//`, `;params`, several `?`, `#`, `*`, empty …), any scheme and
    any list of non-empty components: after assigning them, the view reads back exactly these components in order, and the target's
    `;params`, query and fragment are the ones it had. -/
theorem path_components_roundtrip (U : UrlCodec) (law : QuoteLaw U) (scheme p : Str) (cs : List Str) (hcs : ∀ c ∈ cs, c ≠ []) :
    getPathComponents U scheme (setPathComponents U scheme p cs) = cs ∧
    targetParts scheme (setPathComponents U scheme p cs) =
      { targetParts scheme p with path := 47 :: joinSlash (cs.map U.quote) } := by
  have wf := targetParts_wf scheme p
  -- the new path contains none of the delimiters
  have hnp : ∀ x ∈ (47 :: joinSlash (cs.map U.quote)), x ≠ 59 ∧ x ≠ 63 ∧ x ≠ 35 := by
    intro x hx
    rcases List.mem_cons.mp hx with rfl | hx
    · decide
    · by_cases h47 : x = 47
      · subst h47; decide
      · rw [joinSlash_eq] at hx
        obtain ⟨q, hq, hxq⟩ := mem_joinBy (by simpa using h47) hx
        obtain ⟨c, _, rfl⟩ := List.mem_map.mp hq
        exact (law.clean c x hxq).2
  let t' : Target := { targetParts scheme p with path := 47 :: joinSlash (cs.map U.quote) }
  have wf' : C33.PartsWF scheme t' :=
    { wf with path35 := fun m => (hnp 35 m).2.2 rfl, path63 := fun m => (hnp 63 m).2.1 rfl,
              seg59 := fun _ m => (hnp 59 (C33.lastSlash_snd_sub _ 59 m)).1 rfl }
  have hstar : unparseTarget t' ≠ [42] := by
    unfold unparseTarget; simp [t']
  have hparts : targetParts scheme (setPathComponents U scheme p cs) = t' := targetParts_unparse scheme t' wf' hstar
  refine ⟨?_, hparts⟩
  unfold getPathComponents
  rw [hparts]
  unfold getComponents
  show (List.filter (fun x => decide (x ≠ [])) (splitSlash (47 :: joinSlash (cs.map U.quote)))).map U.unquote = cs
  have hsp : splitSlash (47 :: joinSlash (cs.map U.quote)) = [] :: splitSep 47 (joinBy [47] (cs.map U.quote)) := by
    rw [splitSlash_eq, joinSlash_eq]
    exact splitSep_append_sep (q := []) (by simp) _
  rw [hsp]
  by_cases hemp : cs = []
  · subst hemp; simp [joinBy, splitSep]
  · have hq47 : ∀ q ∈ cs.map U.quote, 47 ∉ q := by
      intro q hq m
      obtain ⟨c, _, rfl⟩ := List.mem_map.mp hq
      exact (law.clean c 47 m).1 rfl
    rw [splitSep_joinBy _ (by simpa using hemp) hq47]
    have hall : ∀ q ∈ cs.map U.quote, q ≠ [] := by
      intro q hq
      obtain ⟨c, hc, rfl⟩ := List.mem_map.mp hq
      exact law.nonempty c (hcs c hc)
    have hf : List.filter (fun x => decide (x ≠ [])) ([] :: cs.map U.quote) = cs.map U.quote := by
      rw [List.filter_cons_of_neg (by simp), List.filter_eq_self]
      intro q hq; simpa using hall q hq
    rw [hf, List.map_map]
    have : (U.unquote ∘ U.quote) = id := funext law.inv
    simp [this]

/-- **C34 (query view on the target).** With urllib's law `parse_qsl (urlencode ps) = ps` and urlencode writing no `#`: after assigning
    pairs to the query of any request target whose path is not the bare `*`, the view reads them back, and path, `;params` and fragment
    are untouched; writing the view's value back gives the same target.  (`hpath` is not used: `urlparse` cuts `;params` off the last
    segment only, and a `;` left in an earlier segment of the path is read back in place.) -/
theorem query_view_roundtrip_target (U : UrlCodec) (hlaw : ∀ ps, U.parseQsl (U.urlencode ps) = ps) (hno : ∀ ps, 35 ∉ U.urlencode ps)
    (scheme p : Str) (ps : List (Str × Str))
    (hpath : 59 ∉ (targetParts scheme p).path) (hstar : unparseTarget (setQuery U (targetParts scheme p) ps) ≠ [42]) :
    getQueryOf U scheme (setQueryOf U scheme p ps) = ps ∧
    targetParts scheme (setQueryOf U scheme p ps) = { targetParts scheme p with query := U.urlencode ps } ∧
    setQueryOf U scheme (setQueryOf U scheme p ps) (getQueryOf U scheme (setQueryOf U scheme p ps)) = setQueryOf U scheme p ps :=
  query_target_roundtrip U hlaw hno scheme p ps hstar

-- the reading of the target is not constant and handles the URL-significant shapes
example : targetParts (S "http") (S "//a/b;k?v=1?w#f#g") =
      { path := S "//a/b", params := S "k", query := S "v=1?w", fragment := S "f#g" } ∧
    (targetParts (S "http") (S "*")).path = [] ∧
    setPathComponents { urlencode := fun _ => [], parseQsl := fun _ => [], quote := id, unquote := id } (S "http") (S "//a/b;k?v=1#f")
      [S "x", S "y"] = S "/x/y;k?v=1#f" := by decide +kernel

/-! ### multipart: the full statement is false -/

/-- the full statement for multipart forms (keys non-empty; the guessed content types are arbitrary) -/
def MultipartRoundtrips : Prop :=
  ∀ (b : Bytes) (parts : List (Bytes × Bytes × Bytes)) (body : Bytes), (∀ p ∈ parts, p.1 ≠ []) →
    encodeMultipart b parts = some body → decodeMultipart b body = some (parts.map (fun p => (p.1, p.2.1)))

/-- F-C34a: the value `l1 CRLF l2` under key `k` reads back as `l1l2` -/
theorem multipart_roundtrip_counterexample : ¬ MultipartRoundtrips := by
  intro h
  have := h (B "XX") [(B "k", B "l1\r\nl2", B "text/plain; charset=utf-8")]
    ((encodeMultipart (B "XX") [(B "k", B "l1\r\nl2", B "text/plain; charset=utf-8")]).getD []) (by decide +kernel) (by decide +kernel)
  revert this
  decide +kernel

/-! ### Set-Cookie: one header per cookie -/

private def scSpecials : List Str := [S "expires", S "path"]

/-- what a Set-Cookie header can carry for one name / attribute: the key has no `;` `=` `,` and no leading whitespace; a key without
    value is non-empty; a value that the formatter leaves unquoted (because the key is `expires`/`path`) has no `;` `,` and does not
    start with a quote.  (The reader's read-on heuristic for `expires` fires only at a comma — e0e81be4a / 8cc872297 in /repo —
    so the length of the value does not matter.) -/
def RepSc (e : Str × Option Str) : Prop :=
  (∀ x ∈ e.1, isSemiEqComma x = false) ∧ lstrip e.1 = e.1 ∧
  match e.2 with
  | none => e.1 ≠ []
  | some v => scSpecials.contains (lower e.1) = true →
      ((∀ x ∈ v, isSemiComma x = false) ∧ v.head? ≠ some 34)

private def fmtSc (e : Str × Option Str) : Str := fmtPair scSpecials e.1 e.2

private theorem sc_step_fmt (st : ScState) (pre : Str) (e : Str × Option Str) (tail : Str) (hp : pre = [] ∨ pre = [32])
    (he : RepSc e) (ht : C35CookieCodec.EndOrSemi tail) :
    scStep st (pre ++ fmtSc e ++ tail) = ({ cookies := st.cookies, pairs := st.pairs ++ [e] }, tail.drop 1) := by
  obtain ⟨k, ov⟩ := e
  obtain ⟨hk, hl, hv⟩ := he
  simp only at hk hl hv
  obtain ⟨hA, hstrip⟩ := C35CookieCodec.key_part isSemiEqComma (by decide) pre k hp hk hl
  cases ov with
  | none =>
    have hne : k ≠ [] := hv
    have hform : pre ++ fmtSc (k, none) ++ tail = (pre ++ k) ++ tail := by simp [fmtSc, fmtPair]
    unfold scStep
    rw [hform, C35CookieCodec.readUntil_end isSemiEqComma (by decide) (pre ++ k) tail hA ht]
    simp only [hstrip]
    rcases ht with rfl | ⟨t, rfl⟩ <;> simp [hne]
  | some v =>
    obtain ⟨X, hX, hread⟩ := C35CookieCodec.fmtPair_value scSpecials isSemiComma (by decide)
      (fun x h1 h2 => by simp [isSemiComma, h1, h2]) k v tail hv ht
    -- the value ends at `;` or at the end of the header, never at a comma: the expires read-on does not fire
    have hnocomma : ¬ (lower k = S "expires" ∧ tail.head? = some 44 ∧ isAlphaStr (strip v) = true) := by
      intro ⟨_, h44, _⟩
      rcases ht with rfl | ⟨t, rfl⟩ <;> simp at h44
    have hform : pre ++ fmtSc (k, some v) ++ tail = (pre ++ k) ++ 61 :: (X ++ tail) := by simp [fmtSc, hX]
    unfold scStep
    rw [hform, C35CookieCodec.readUntil_stop isSemiEqComma (pre ++ k) 61 (X ++ tail) hA (by decide)]
    simp only [hstrip, hread, hnocomma, if_false]
    rcases ht with rfl | ⟨t, rfl⟩ <;> simp

/-- **C34 (Set-Cookie, one header).** A non-empty representable list (cookie name/value followed by its attributes) is read back
    as exactly one cookie with the same pairs in the same order. -/
theorem set_cookie_header_roundtrip (ps : List (Str × Option Str)) (hne : ps ≠ []) (h : ∀ e ∈ ps, RepSc e) :
    parseSetCookie (formatSetCookie ps) = [ps] := by
  have : scLoop _ { cookies := [], pairs := [] } ([] ++ formatSetCookie ps) = { cookies := [], pairs := [] ++ ps } :=
    C35CookieCodec.loop_joined scLoop scStep (fun st es => { cookies := st.cookies, pairs := st.pairs ++ es }) fmtSc RepSc
      (fun _ _ _ => rfl) (by simp) sc_step_fmt ps hne h _ [] (Or.inl rfl) ((formatSetCookie ps).length + 1) (Nat.lt_succ_self _)
  unfold parseSetCookie
  simp only [List.nil_append] at this
  rw [this]
  simp [hne]

/-- **C34 (response cookies view).** Assigning representable cookies (each with its attributes) to `response.cookies` — one
    Set-Cookie header per cookie — and reading the view back yields the same cookies, attributes and order. -/
theorem set_cookie_roundtrip (cs : List (List (Str × Option Str))) (hne : ∀ c ∈ cs, c ≠ []) (h : ∀ c ∈ cs, ∀ e ∈ c, RepSc e) :
    getSetCookies (setSetCookies cs) = cs := by
  unfold getSetCookies setSetCookies
  induction cs with
  | nil => rfl
  | cons c cs ih =>
    simp only [List.map_cons, List.flatMap_cons]
    rw [set_cookie_header_roundtrip c (hne c (by simp)) (h c (by simp)), List.filter_append]
    have hc : ([c] : List (List (Str × Option Str))).filter (· ≠ []) = [c] := by
      simp [hne c (by simp)]
    rw [hc, ih (fun x hx => hne x (List.mem_cons_of_mem _ hx)) (fun x hx => h x (List.mem_cons_of_mem _ hx))]
    rfl

example : parseSetCookie (S "sid=abc; Path=/; HttpOnly; expires=Thu, 01 Jan 2030 00:00:00 GMT") =
    [[(S "sid", some (S "abc")), (S "Path", some (S "/")), (S "HttpOnly", none), (S "expires", some (S "Thu, 01 Jan 2030 00:00:00 GMT"))]] := by
  decide +kernel
-- the reader as of e0e81be4a / 8cc872297 in /repo: a short Expires value does not swallow the next attribute, a long weekday stays whole
example : parseSetCookie (S "a=b; Expires=0; Path=/admin") = [[(S "a", some (S "b")), (S "Expires", some (S "0")), (S "Path", some (S "/admin"))]] ∧
    parseSetCookie (S "sid=; Expires=Thursday, 01-Jan-70 00:00:00 GMT") =
      [[(S "sid", some []), (S "Expires", some (S "Thursday, 01-Jan-70 00:00:00 GMT"))]] ∧
    parseSetCookie (S "a=b; expires=12, c=d") = [[(S "a", some (S "b")), (S "expires", some (S "12"))], [(S "c", some (S "d"))]] := by
  decide +kernel
-- the guard matters: an unquoted path value holding `;` is split (F-C34f)
example : parseSetCookie (formatSetCookie [(S "a", some (S "b")), (S "path", some (S "/x;y"))]) ≠
    [[(S "a", some (S "b")), (S "path", some (S "/x;y"))]] := by decide +kernel

/-! ### multipart: the guarded round trip -/

/-- the delimiter line -/
def delim (b : Bytes) : Bytes := B "--" ++ b
def cdLine (k : Bytes) : Bytes := B "Content-Disposition: form-data; name=\"" ++ k ++ [34]
def ctLine (c : Bytes) : Bytes := B "Content-Type: " ++ c
/-- what `encode_multipart` writes for one part after its delimiter line: six CRLF-terminated lines
    (empty, Content-Disposition, Content-Type, empty, the value, and the encoder's extra empty line) -/
def piece (k v c : Bytes) : Bytes := [[], cdLine k, ctLine c, [], v, []].flatMap (· ++ [13, 10])

/-- the delimiter does not start anywhere inside `p` when `p` is followed by the delimiter -/
def NoEarly (sep : Bytes) : Bytes → Prop
  | [] => True
  | c :: p => sep.isPrefixOf (c :: p ++ sep) = false ∧ NoEarly sep p

private theorem B_dd : B "--" = [45, 45] := by decide +kernel
private theorem B_last : B "--\r\n" = [45, 45, 13, 10] := by decide +kernel
private theorem B_name : B "name=\"" = [110, 97, 109, 101, 61, 34] := by decide +kernel
private theorem B_ct : B "Content-Type: " = [67, 111, 110, 116, 101, 110, 116, 45, 84, 121, 112, 101, 58, 32] := by decide +kernel
private theorem B_cd : B "Content-Disposition: form-data; name=\"" = [67, 111, 110, 116, 101, 110, 116, 45, 68, 105, 115, 112, 111, 115,
    105, 116, 105, 111, 110, 58, 32, 102, 111, 114, 109, 45, 100, 97, 116, 97, 59, 32, 110, 97, 109, 101, 61, 34] := by decide +kernel

private def bodyOf (b : Bytes) : List (Bytes × Bytes × Bytes) → Bytes
  | [] => delim b ++ B "--\r\n"
  | p :: ps => delim b ++ piece p.1 p.2.1 p.2.2 ++ bodyOf b ps

private theorem joinCRLF_cons (x : Bytes) (r : List Bytes) (h : r ≠ []) : joinCRLF (x :: r) = x ++ 13 :: 10 :: joinCRLF r := by
  rw [joinCRLF_eq, joinCRLF_eq, joinBy_cons _ _ h, List.append_assoc]
  rfl

private theorem join_partLines (b : Bytes) (parts : List (Bytes × Bytes × Bytes)) (hk : ∀ p ∈ parts, p.1 ≠ []) :
    joinCRLF (partLines b parts ++ [B "--" ++ b ++ B "--\r\n"]) = bodyOf b parts := by
  induction parts with
  | nil => simp [partLines, joinCRLF, bodyOf, delim]
  | cons p ps ih =>
    obtain ⟨k, v, c⟩ := p
    have hk0 : k ≠ [] := hk (k, v, c) (by simp)
    have ih' := ih (fun q hq => hk q (List.mem_cons_of_mem _ hq))
    have hne : partLines b ps ++ [B "--" ++ b ++ B "--\r\n"] ≠ [] := by simp
    simp only [partLines, hk0, ne_eq, not_false_eq_true, if_true, List.cons_append, List.nil_append, joinCRLF]
    rw [ih']
    simp [bodyOf, piece, delim, cdLine, ctLine]

/-! #### bytes.split -/
private theorem isPrefixOf_append (sep x rest : Bytes) (h : sep.length ≤ x.length) :
    sep.isPrefixOf (x ++ rest) = sep.isPrefixOf x := by
  induction sep generalizing x with
  | nil => simp
  | cons a sep ih =>
    cases x with
    | nil => simp at h
    | cons y x =>
      simp only [List.cons_append, List.isPrefixOf]
      rw [ih x (by simpa using h)]

private theorem splitOnF_piece (sep : Bytes) (hs : sep ≠ []) (p : Bytes) : ∀ (f : Nat) (cur rest : Bytes), NoEarly sep p →
    (p ++ sep ++ rest).length < f →
    ∃ f', rest.length < f' ∧ splitOnF f sep cur (p ++ sep ++ rest) = (cur ++ p) :: splitOnF f' sep [] rest := by
  induction p with
  | nil =>
    intro f cur rest _ hf
    cases f with
    | zero => omega
    | succ f =>
      obtain ⟨a, sep', rfl⟩ := List.exists_cons_of_ne_nil hs
      refine ⟨f, by simp at hf; omega, ?_⟩
      have hp : (a :: sep').isPrefixOf (a :: (sep' ++ rest)) = true :=
        List.isPrefixOf_iff_prefix.mpr (List.prefix_append (a :: sep') rest)
      have hdrop : (a :: (sep' ++ rest)).drop (a :: sep').length = rest :=
        List.drop_left (l₁ := a :: sep') (l₂ := rest)
      simp only [List.nil_append, List.cons_append, splitOnF, hp, if_true, List.append_nil, hdrop]
  | cons c p ih =>
    intro f cur rest hne hf
    obtain ⟨h0, hrest⟩ := hne
    cases f with
    | zero => omega
    | succ f =>
      have hpre : sep.isPrefixOf (c :: (p ++ sep ++ rest)) = false := by
        have e : c :: (p ++ sep ++ rest) = (c :: p ++ sep) ++ rest := by simp
        rw [e, isPrefixOf_append sep (c :: p ++ sep) rest (by simp; omega)]
        exact h0
      obtain ⟨f', hf', he⟩ := ih f (cur ++ [c]) rest hrest (by simp at hf ⊢; omega)
      refine ⟨f', hf', ?_⟩
      simp only [List.cons_append, splitOnF, hpre, Bool.false_eq_true, if_false]
      rw [he]; simp

private theorem splitOnF_last (b : Bytes) (hb : b ≠ [] ∧ 13 ∉ b) (f : Nat) (hf : 4 < f) :
    splitOnF f (delim b) [] (B "--\r\n") = [B "--\r\n"] := by
  obtain ⟨hne, h13⟩ := hb
  cases b with
  | nil => exact absurd rfl hne
  | cons x b' =>
    have hx : x ≠ 13 := fun e => h13 (by simp [e])
    have e1 : delim (x :: b') = 45 :: 45 :: x :: b' := by simp [delim, B_dd]
    rw [e1, B_last]
    match f, hf with
    | f + 5, _ => simp [splitOnF, List.isPrefixOf, hx]

private theorem splitOn_body (b : Bytes) (hb : b ≠ [] ∧ 13 ∉ b) (parts : List (Bytes × Bytes × Bytes))
    (hd : ∀ p ∈ parts, NoEarly (delim b) (piece p.1 p.2.1 p.2.2)) :
    ∀ f, (bodyOf b parts).length < f →
      splitOnF f (delim b) [] (bodyOf b parts) =
        [] :: (parts.map (fun p => piece p.1 p.2.1 p.2.2) ++ [B "--\r\n"]) := by
  have hsep : delim b ≠ [] := by simp [delim, B_dd]
  -- generalise over the piece collected so far: body = pre ++ delim ++ …
  have key : ∀ (parts : List (Bytes × Bytes × Bytes)), (∀ p ∈ parts, NoEarly (delim b) (piece p.1 p.2.1 p.2.2)) →
      ∀ (pre : Bytes), NoEarly (delim b) pre → ∀ f, (pre ++ bodyOf b parts).length < f →
      splitOnF f (delim b) [] (pre ++ bodyOf b parts) =
        pre :: (parts.map (fun p => piece p.1 p.2.1 p.2.2) ++ [B "--\r\n"]) := by
    intro parts
    induction parts with
    | nil =>
      intro _ pre hpre f hf
      have e : pre ++ bodyOf b [] = pre ++ delim b ++ B "--\r\n" := by simp [bodyOf]
      rw [e] at hf ⊢
      obtain ⟨f', hf', he⟩ := splitOnF_piece (delim b) hsep pre f [] (B "--\r\n") hpre hf
      rw [he, splitOnF_last b hb f' (by have : (B "--\r\n").length = 4 := by rw [B_last]; rfl
                                        omega)]
      simp
    | cons p ps ih =>
      intro hd pre hpre f hf
      have e : pre ++ bodyOf b (p :: ps) = pre ++ delim b ++ (piece p.1 p.2.1 p.2.2 ++ bodyOf b ps) := by simp [bodyOf]
      rw [e] at hf ⊢
      obtain ⟨f', hf', he⟩ := splitOnF_piece (delim b) hsep pre f [] _ hpre hf
      rw [he, ih (fun q hq => hd q (List.mem_cons_of_mem _ hq)) _ (hd p (by simp)) f' hf']
      simp
  intro f hf
  have := key parts hd [] trivial f (by simpa using hf)
  simpa using this

/-! #### bytes.splitlines -/
private theorem splitLinesF_line (a : Bytes) : ∀ (f : Nat) (cur rest : Bytes), (∀ x ∈ a, x ≠ 10 ∧ x ≠ 13) →
    (a ++ 13 :: 10 :: rest).length < f →
    ∃ f', rest.length < f' ∧ splitLinesF f cur (a ++ 13 :: 10 :: rest) = (cur ++ a) :: splitLinesF f' [] rest := by
  induction a with
  | nil =>
    intro f cur rest _ hf
    cases f with
    | zero => omega
    | succ f =>
      refine ⟨f, by simp at hf; omega, ?_⟩
      simp [splitLinesF]
  | cons x a ih =>
    intro f cur rest hx hf
    cases f with
    | zero => omega
    | succ f =>
      obtain ⟨h10, h13⟩ := hx x (by simp)
      obtain ⟨f', hf', he⟩ := ih f (cur ++ [x]) rest (fun y hy => hx y (List.mem_cons_of_mem _ hy)) (by simp at hf ⊢; omega)
      refine ⟨f', hf', ?_⟩
      simp only [List.cons_append, splitLinesF, h10, h13, if_false]
      rw [he]; simp

private theorem splitLines_lines (ls : List Bytes) (h : ∀ l ∈ ls, ∀ x ∈ l, x ≠ 10 ∧ x ≠ 13) :
    ∀ f, (ls.flatMap (· ++ [13, 10])).length < f → splitLinesF f [] (ls.flatMap (· ++ [13, 10])) = ls := by
  induction ls with
  | nil => intro f hf; cases f <;> simp [splitLinesF]
  | cons l ls ih =>
    intro f hf
    have e : (l :: ls).flatMap (· ++ [13, 10]) = l ++ 13 :: 10 :: ls.flatMap (· ++ [13, 10]) := by simp
    rw [e] at hf ⊢
    obtain ⟨f', hf', he⟩ := splitLinesF_line l f [] _ (h l (by simp)) hf
    rw [he, ih (fun m hm => h m (List.mem_cons_of_mem _ hm)) f' hf']
    simp

/-! #### the name regex -/
private theorem findName_skip (prev : Option UInt8) (c : UInt8) (r : Bytes) (h : c ≠ 110) :
    findNameGo prev (c :: r) = findNameGo (some c) r := by
  have : (B "name=\"").isPrefixOf (c :: r) = false := by
    rw [B_name]; simp [List.isPrefixOf, Ne.symm h]
  simp [findNameGo, this]

private theorem findName_skip_n (prev : Option UInt8) (d : UInt8) (r : Bytes) (h : d ≠ 97) :
    findNameGo prev (110 :: d :: r) = findNameGo (some 110) (d :: r) := by
  have : (B "name=\"").isPrefixOf (110 :: d :: r) = false := by
    rw [B_name]; simp [List.isPrefixOf, Ne.symm h]
  simp [findNameGo, this]

private theorem findName_cdLine (k : Bytes) (hne : k ≠ []) (hq : 34 ∉ k) : findNameGo none (cdLine k) = some k := by
  simp only [cdLine, B_cd, List.cons_append, List.nil_append]
  -- up to the last blank no `name="` starts: every byte is not `n`, or is an `n` not followed by `a`
  simp (disch := decide) only [findName_skip, findName_skip_n]
  have e6 := B_name
  have htw : (k ++ [34]).takeWhile (fun b => b != 34) = k := by
    rw [List.takeWhile_append_of_pos fun x hx => bne_iff_ne.mpr fun (e : x = 34) => hq (e ▸ hx)]
    simp
  unfold findNameGo
  simp only [e6, isWordB]
  simp [List.isPrefixOf, htw, hne]

/-! #### one part, and the whole body -/
private theorem decodePiece_piece (k v c : Bytes) (hk : k ≠ [] ∧ 34 ∉ k ∧ 10 ∉ k ∧ 13 ∉ k) (hv : 10 ∉ v ∧ 13 ∉ v)
    (hc : 10 ∉ c ∧ 13 ∉ c) : decodePiece (piece k v c) = some (some (k, v)) := by
  obtain ⟨hk0, hkq, hk10, hk13⟩ := hk
  have hlines : splitLines (piece k v c) = [[], cdLine k, ctLine c, [], v, []] := by
    unfold splitLines piece
    apply splitLines_lines _ _ _ (Nat.lt_succ_self _)
    intro l hl x hx
    simp only [List.mem_cons, List.not_mem_nil, or_false] at hl
    have fixed1 : ∀ y ∈ B "Content-Disposition: form-data; name=\"", y ≠ 10 ∧ y ≠ 13 := by rw [B_cd]; decide
    have fixed2 : ∀ y ∈ B "Content-Type: ", y ≠ 10 ∧ y ≠ 13 := by rw [B_ct]; decide
    rcases hl with rfl | rfl | rfl | rfl | rfl | rfl
    · cases hx
    · simp only [cdLine, List.mem_append, List.mem_singleton] at hx
      rcases hx with (hx | hx) | rfl
      · exact fixed1 x hx
      · exact ⟨fun e => hk10 (e ▸ hx), fun e => hk13 (e ▸ hx)⟩
      · decide
    · simp only [ctLine, List.mem_append] at hx
      rcases hx with hx | hx
      · exact fixed2 x hx
      · exact ⟨fun e => hc.1 (e ▸ hx), fun e => hc.2 (e ▸ hx)⟩
    · cases hx
    · exact ⟨fun e => hv.1 (e ▸ hx), fun e => hv.2 (e ▸ hx)⟩
    · cases hx
  have hct : ctLine c ≠ [] := by
    simp [ctLine, B_ct]
  unfold decodePiece
  rw [hlines]
  have h2 : (([] : Bytes).take 2 ≠ B "--") := by rw [B_dd]; decide
  simp only [List.length_cons, List.length_nil, List.headD_cons, List.drop_succ_cons, List.drop_zero]
  simp only [show (0 + 1 + 1 + 1 + 1 + 1 + 1 > 1) from by omega, h2, ne_eq, not_false_eq_true, and_self, if_true,
    findName_cdLine k hk0 hkq]
  simp [indexOfEmpty, hct]

private theorem collect_pieces (ps : List (Bytes × Bytes)) (tail : List (Option (Option (Bytes × Bytes))))
    (t : List (Bytes × Bytes)) (ht : collect tail = some t) :
    collect (ps.map (fun p => some (some p)) ++ tail) = some (ps ++ t) := by
  induction ps with
  | nil => simpa using ht
  | cons p ps ih => simp [collect, ih]

/-- **C34 (multipart, partial).** For every boundary (non-empty, no CR) and every list of parts whose keys are non-empty and free of
    `"`, CR and LF, whose values (and guessed content types) are free of CR and LF, which the encoder does not refuse, and inside
    whose written form the delimiter `--boundary` does not occur: decoding the encoded body yields the same key/value pairs in the
    same order.  (F-C34a/b are exactly the excluded CR/LF/quote cases; F-C34c is the case where encoder and decoder use different
    boundaries.) -/
theorem multipart_roundtrip_partial (b : Bytes) (parts : List (Bytes × Bytes × Bytes))
    (hb : b ≠ [] ∧ 13 ∉ b)
    (hk : ∀ p ∈ parts, p.1 ≠ [] ∧ 34 ∉ p.1 ∧ 10 ∉ p.1 ∧ 13 ∉ p.1)
    (hv : ∀ p ∈ parts, 10 ∉ p.2.1 ∧ 13 ∉ p.2.1)
    (hc : ∀ p ∈ parts, 10 ∉ p.2.2 ∧ 13 ∉ p.2.2)
    (hacc : ∀ p ∈ parts, valueIsDelim b p.2.1 = false)
    (hd : ∀ p ∈ parts, NoEarly (delim b) (piece p.1 p.2.1 p.2.2)) :
    ∃ body, encodeMultipart b parts = some body ∧
      decodeMultipart b body = some (parts.map (fun p => (p.1, p.2.1))) := by
  refine ⟨bodyOf b parts, ?_, ?_⟩
  · unfold encodeMultipart
    have : parts.any (fun p => valueIsDelim b p.2.1) = false := by
      rw [List.any_eq_false]; intro p hp; simp [hacc p hp]
    simp only [this, Bool.false_eq_true, if_false]
    rw [join_partLines b parts (fun p hp => (hk p hp).1)]
  · unfold decodeMultipart splitOn
    have hsp := splitOn_body b hb parts hd ((bodyOf b parts).length + 1) (by omega)
    have hdl : B "--" ++ b = delim b := rfl
    rw [hdl, hsp]
    have h0 : decodePiece [] = some none := by decide +kernel
    have hlast : decodePiece (B "--\r\n") = some none := by decide +kernel
    simp only [List.map_cons, List.map_append, List.map_map, List.map_nil, h0, hlast, collect]
    have hmap : parts.map (decodePiece ∘ fun p => piece p.1 p.2.1 p.2.2) =
        (parts.map (fun p => (p.1, p.2.1))).map (fun p => some (some p)) := by
      rw [List.map_map]
      apply List.map_congr_left
      intro p hp
      exact decodePiece_piece p.1 p.2.1 p.2.2 (hk p hp) (hv p hp) (hc p hp)
    rw [hmap, collect_pieces _ [some none] [] (by simp [collect])]
    simp

/-! #### the delimiter guard, derived from "key, value and content type do not contain the delimiter" -/

/-- `sep` occurs nowhere in `x` (the meaning of `b"--" + boundary not in x`) -/
def NoOccur (sep : Bytes) : Bytes → Prop
  | [] => True
  | c :: x => sep.isPrefixOf (c :: x) = false ∧ NoOccur sep x

private theorem prefix_through (sep : Bytes) : ∀ (s : Bytes) (d : UInt8) (y : Bytes),
    sep.isPrefixOf (s ++ d :: y) = true → sep.isPrefixOf s = true ∨ d ∈ sep := by
  induction sep with
  | nil => intro s d y _; left; simp
  | cons a sep ih =>
    intro s d y h
    cases s with
    | nil =>
      simp only [List.nil_append, List.isPrefixOf, Bool.and_eq_true, beq_iff_eq] at h
      right; simp [h.1]
    | cons x s =>
      simp only [List.cons_append, List.isPrefixOf, Bool.and_eq_true, beq_iff_eq] at h
      rcases ih s d y h.2 with h' | h'
      · left; simp [List.isPrefixOf, h.1, h']
      · right; exact List.mem_cons_of_mem _ h'

/-- a segment free of the delimiter, followed by a character the delimiter does not contain, cannot host the start of one -/
private theorem noEarly_seg (sep x : Bytes) (d : UInt8) (y : Bytes) (hd : d ∉ sep) (hx : NoOccur sep x)
    (hr : NoEarly sep (d :: y)) : NoEarly sep (x ++ d :: y) := by
  induction x with
  | nil => simpa using hr
  | cons c x ih =>
    obtain ⟨h0, hx'⟩ := hx
    refine ⟨?_, ih hx'⟩
    show sep.isPrefixOf (c :: (x ++ d :: y) ++ sep) = false
    cases hp : sep.isPrefixOf (c :: (x ++ d :: y) ++ sep) with
    | false => rfl
    | true =>
      exfalso
      have e : c :: (x ++ d :: y) ++ sep = (c :: x) ++ d :: (y ++ sep) := by simp
      rw [e] at hp
      rcases prefix_through sep (c :: x) d (y ++ sep) hp with h | h
      · rw [h0] at h; cases h
      · exact hd h

private theorem noEarly_ne (b : Bytes) (c : UInt8) (p : Bytes) (hc : c ≠ 45) (h : NoEarly (45 :: 45 :: b) p) :
    NoEarly (45 :: 45 :: b) (c :: p) := by
  refine ⟨?_, h⟩
  simp [List.isPrefixOf, Ne.symm hc]

private theorem noEarly_dash (b : Bytes) (c : UInt8) (p : Bytes) (hc : c ≠ 45) (h : NoEarly (45 :: 45 :: b) (c :: p)) :
    NoEarly (45 :: 45 :: b) (45 :: c :: p) := by
  refine ⟨?_, h⟩
  simp [List.isPrefixOf, Ne.symm hc]

/-- a text without `--` that does not end in `-`: no place in it, or across its end, where `--boundary` could start -/
private def dashFree : Bytes → Bool
  | [] => true
  | [c] => c != 45
  | c :: d :: w => (c != 45 || d != 45) && dashFree (d :: w)

private theorem noEarly_text (b : Bytes) : ∀ (w p : Bytes), dashFree w = true → NoEarly (45 :: 45 :: b) p →
    NoEarly (45 :: 45 :: b) (w ++ p)
  | [], _, _, h => h
  | [c], p, hw, h => noEarly_ne b c p (by simpa [dashFree] using hw) h
  | c :: d :: w, p, hw, h => by
    simp only [dashFree, Bool.and_eq_true, Bool.or_eq_true, bne_iff_ne, ne_eq] at hw
    have ih := noEarly_text b (d :: w) p hw.2 h
    by_cases hc : c = 45
    · subst hc
      exact noEarly_dash b d _ (by simpa using hw.1) ih
    · exact noEarly_ne b c _ hc ih

/-- **the guard of `multipart_roundtrip_partial`, derived.**  If the boundary contains no CR and no double quote, and the
    delimiter `--boundary` occurs neither in the key nor in the value nor in the guessed content type, then it does not start
    anywhere inside the written part. -/
theorem noEarly_piece (b k v c : Bytes) (hb13 : 13 ∉ b) (hb34 : 34 ∉ b)
    (hk : NoOccur (delim b) k) (hv : NoOccur (delim b) v) (hc : NoOccur (delim b) c) :
    NoEarly (delim b) (piece k v c) := by
  have hd : delim b = 45 :: 45 :: b := by simp [delim, B_dd]
  rw [hd] at hk hv hc ⊢
  have n13 : (13 : UInt8) ∉ (45 :: 45 :: b) := by
    simp only [List.mem_cons, not_or]; exact ⟨by decide, by decide, hb13⟩
  have n34 : (34 : UInt8) ∉ (45 :: 45 :: b) := by
    simp only [List.mem_cons, not_or]; exact ⟨by decide, by decide, hb34⟩
  -- from the end of the part backwards: the fixed texts hold no `--`, and each variable segment ends at a CR or a quote
  have t4 := noEarly_text b [13, 10, 13, 10] [] (by decide) trivial
  have tv := noEarly_seg (45 :: 45 :: b) v 13 [10, 13, 10] n13 hv t4
  have t3 := noEarly_text b [13, 10, 13, 10] _ (by decide) tv
  have tc := noEarly_seg (45 :: 45 :: b) c 13 _ n13 hc t3
  have tct := noEarly_text b ([34, 13, 10] ++ B "Content-Type: ") _ (by decide +kernel) tc
  have tk := noEarly_seg (45 :: 45 :: b) k 34 _ n34 hk tct
  have := noEarly_text b ([13, 10] ++ B "Content-Disposition: form-data; name=\"") _ (by decide +kernel) tk
  simpa [piece, cdLine, ctLine] using this

/-- **C34 (multipart).** The round trip with every guard stated on the INPUT: a boundary that is non-empty and free of CR and of
    double quotes (it may hold LF); keys non-empty and free of `"`, CR, LF; values and guessed content types free of CR, LF;
    and the delimiter `--boundary` occurring in no key, value or content type.  (The encoder's refusal and the "delimiter inside
    the written part" guards of `multipart_roundtrip_partial` are derived.) -/
theorem multipart_roundtrip (b : Bytes) (parts : List (Bytes × Bytes × Bytes))
    (hb : b ≠ [] ∧ 13 ∉ b ∧ 34 ∉ b)
    (hk : ∀ p ∈ parts, p.1 ≠ [] ∧ 34 ∉ p.1 ∧ 10 ∉ p.1 ∧ 13 ∉ p.1)
    (hv : ∀ p ∈ parts, 10 ∉ p.2.1 ∧ 13 ∉ p.2.1)
    (hc : ∀ p ∈ parts, 10 ∉ p.2.2 ∧ 13 ∉ p.2.2)
    (hfree : ∀ p ∈ parts, NoOccur (delim b) p.1 ∧ NoOccur (delim b) p.2.1 ∧ NoOccur (delim b) p.2.2) :
    ∃ body, encodeMultipart b parts = some body ∧
      decodeMultipart b body = some (parts.map (fun p => (p.1, p.2.1))) := by
  apply multipart_roundtrip_partial b parts ⟨hb.1, hb.2.1⟩ hk hv hc
  · -- the encoder does not refuse: a value equal to the delimiter line would contain the delimiter
    intro p hp
    have hd : delim b = 45 :: 45 :: b := by simp [delim, B_dd]
    obtain ⟨_, hvf, _⟩ := hfree p hp
    have ne1 : ¬ p.2.1 = B "--" ++ b := by
      intro e
      have e' : p.2.1 = delim b := e
      rw [e', hd] at hvf
      have hs : (45 :: 45 :: b).isPrefixOf (45 :: 45 :: b) = true := List.isPrefixOf_iff_prefix.mpr (List.prefix_refl _)
      rw [hvf.1] at hs; cases hs
    have ne2 : ¬ p.2.1 = B "--" ++ b ++ [10] := by
      intro e
      have : (10 : UInt8) ∈ p.2.1 := by rw [e]; simp
      exact (hv p hp).1 this
    unfold valueIsDelim
    simp only [Bool.or_eq_false_iff, decide_eq_false_iff_not]
    exact ⟨ne1, ne2⟩
  · intro p hp
    obtain ⟨a, b', c'⟩ := hfree p hp
    exact noEarly_piece b p.1 p.2.1 p.2.2 hb.2.1 hb.2.2 a b' c'

instance instDecNoOccur (sep : Bytes) : (x : Bytes) → Decidable (NoOccur sep x)
  | [] => isTrue trivial
  | c :: x =>
    have := instDecNoOccur sep x
    inferInstanceAs (Decidable (sep.isPrefixOf (c :: x) = false ∧ NoOccur sep x))

instance instDecNoEarly (sep : Bytes) : (p : Bytes) → Decidable (NoEarly sep p)
  | [] => isTrue trivial
  | c :: p =>
    have := instDecNoEarly sep p
    inferInstanceAs (Decidable (sep.isPrefixOf (c :: p ++ sep) = false ∧ NoEarly sep p))

/-- the hypotheses of `multipart_roundtrip_partial` are satisfiable (two parts, a browser-style boundary, a value containing dashes) -/
example : ∃ body, encodeMultipart (B "----B1") [(B "a", B "x--y", B "text/plain"), (B "file", [], B "text/plain")] = some body ∧
    decodeMultipart (B "----B1") body = some [(B "a", B "x--y"), (B "file", [])] :=
  multipart_roundtrip_partial (B "----B1") [(B "a", B "x--y", B "text/plain"), (B "file", [], B "text/plain")]
    (by decide +kernel) (by decide +kernel) (by decide +kernel) (by decide +kernel) (by decide +kernel) (by decide +kernel)

/-- the input-level hypotheses of `multipart_roundtrip` are satisfiable (a value with dashes and with a shorter look-alike `--B1`) -/
example : ∃ body, encodeMultipart (B "----B1") [(B "a", B "x--B1--y", B "text/plain"), (B "file", [], B "text/plain")] = some body ∧
    decodeMultipart (B "----B1") body = some [(B "a", B "x--B1--y"), (B "file", [])] :=
  multipart_roundtrip (B "----B1") [(B "a", B "x--B1--y", B "text/plain"), (B "file", [], B "text/plain")]
    (by decide +kernel) (by decide +kernel) (by decide +kernel) (by decide +kernel) (by decide +kernel)

/-- the guards are satisfiable, with two parts and a browser-style boundary -/
example : ∃ body, encodeMultipart (B "----B1") [(B "a", B "x y", B "text/plain"), (B "file", [], B "text/plain")] = some body ∧
    decodeMultipart (B "----B1") body = some [(B "a", B "x y"), (B "file", [])] := by
  refine ⟨(encodeMultipart (B "----B1") [(B "a", B "x y", B "text/plain"), (B "file", [], B "text/plain")]).getD [],
    by decide +kernel, by decide +kernel⟩

/-! ### non-vacuity -/
example : Representable [(S "a", S "b c"), (S "", S "x\"y\\z;"), (S "k", [])] := by
  intro e he
  simp only [List.mem_cons, List.not_mem_nil, or_false] at he
  rcases he with rfl | rfl | rfl <;> exact ⟨by decide, by decide, by decide⟩

example : formatCookie [(S "a", S "b c"), (S "", S "x\"y"), (S "k", [])] = S "a=\"b c\"; =\"x\\\"y\"; k=" := by decide +kernel
-- the parser is not the identity on junk and the guard matters: a name with `;` does not survive
example : parseCookie (formatCookie [(S "a;b", S "c")]) = [(S "a", []), (S "b", S "c")] := by decide +kernel
example : decodeMultipart (B "XX") ((encodeMultipart (B "XX") [(B "k", B "v", B "text/plain")]).getD []) = some [(B "k", B "v")] := by
  decide +kernel

/-! ### non-vacuity witnesses (toy codecs that satisfy the assumed urllib laws for ALL inputs) -/

/-- `quote`/`unquote` by shifting every code point out of the ASCII range: satisfies `QuoteLaw` -/
private def shQ (s : Str) : Str := s.map (· + 200)
private def ushQ (s : Str) : Str := s.map (· - 200)

private theorem ush_sh (s : Str) : ushQ (shQ s) = s := by
  induction s with
  | nil => rfl
  | cons c r ih => simp [shQ, ushQ] at ih ⊢; exact ih

/-- pair lists as length-prefixed shifted text (no code point below 200, so no `#`, `&`, `=`) -/
private def ser : List (Str × Str) → Str
  | [] => []
  | (k, v) :: r => (k.length + 200) :: (shQ k ++ (v.length + 200) :: (shQ v ++ ser r))

private def de : Nat → Str → List (Str × Str)
  | 0, _ => []
  | _ + 1, [] => []
  | f + 1, n :: rest =>
    let r2 := rest.drop (n - 200)
    if r2.isEmpty then [] else
    (ushQ (rest.take (n - 200)), ushQ (r2.tail.take (r2.headD 0 - 200))) :: de f (r2.tail.drop (r2.headD 0 - 200))

private theorem de_ser (qs : List (Str × Str)) : ∀ f, (ser qs).length ≤ f → de f (ser qs) = qs := by
  induction qs with
  | nil => intro f _; cases f <;> rfl
  | cons e r ih =>
    obtain ⟨k, v⟩ := e
    intro f hf
    cases f with
    | zero => simp [ser] at hf
    | succ f =>
      have hk : (shQ k).length = k.length := by simp [shQ]
      have hv : (shQ v).length = v.length := by simp [shQ]
      have d1 : (shQ k ++ (v.length + 200) :: (shQ v ++ ser r)).drop (k.length + 200 - 200) =
          (v.length + 200) :: (shQ v ++ ser r) := by
        rw [Nat.add_sub_cancel, ← hk, List.drop_left']; rfl
      have t1 : (shQ k ++ (v.length + 200) :: (shQ v ++ ser r)).take (k.length + 200 - 200) = shQ k := by
        rw [Nat.add_sub_cancel, ← hk, List.take_left']; rfl
      have t2 : (shQ v ++ ser r).take (v.length + 200 - 200) = shQ v := by
        rw [Nat.add_sub_cancel, ← hv, List.take_left']; rfl
      have d2 : (shQ v ++ ser r).drop (v.length + 200 - 200) = ser r := by
        rw [Nat.add_sub_cancel, ← hv, List.drop_left']; rfl
      have hlen : (ser r).length ≤ f := by
        simp only [ser, List.length_cons, List.length_append] at hf; omega
      have e : ser ((k, v) :: r) = (k.length + 200) :: (shQ k ++ (v.length + 200) :: (shQ v ++ ser r)) := rfl
      rw [e]
      simp only [de, d1, t1, List.isEmpty_cons, Bool.false_eq_true, if_false, List.tail_cons, List.headD_cons, t2, d2, ush_sh,
        ih f hlen]

private theorem ser_big : ∀ qs, ∀ x ∈ ser qs, 200 ≤ x := by
  intro qs
  induction qs with
  | nil => intro x hx; cases hx
  | cons e r ih =>
    obtain ⟨k, v⟩ := e
    intro x hx
    simp only [ser, List.mem_cons, List.mem_append, shQ, List.mem_map] at hx
    rcases hx with rfl | ⟨a, _, rfl⟩ | rfl | ⟨a, _, rfl⟩ | hx
    · omega
    · omega
    · omega
    · omega
    · exact ih x hx

private def toyCodec : UrlCodec where
  urlencode qs := ser qs
  parseQsl s := de s.length s
  quote := shQ
  unquote := ushQ

private theorem toy_law (ps : List (Str × Str)) : toyCodec.parseQsl (toyCodec.urlencode ps) = ps :=
  de_ser ps _ (Nat.le_refl _)

private theorem toy_quote : QuoteLaw toyCodec where
  inv := ush_sh
  clean := by
    intro c x hx
    simp only [toyCodec, shQ, List.mem_map] at hx
    obtain ⟨a, _, rfl⟩ := hx
    refine ⟨by omega, by omega, by omega, by omega⟩
  nonempty := by
    intro c hc h
    apply hc
    simpa [toyCodec, shQ] using h

/-- `path_components_roundtrip` is not vacuous: `QuoteLaw` has an instance, and on a target with `;params`, query and fragment
    the components `["a b", "ü/", "x"]` read back -/
example : getPathComponents toyCodec (S "http") (setPathComponents toyCodec (S "http") (S "/old;k?v=1#f") [S "a b", [252, 47], S "x"])
    = [S "a b", [252, 47], S "x"] :=
  (path_components_roundtrip toyCodec toy_quote (S "http") (S "/old;k?v=1#f") [S "a b", [252, 47], S "x"]
    (by intro c hc; simp only [List.mem_cons, List.not_mem_nil, or_false] at hc
        rcases hc with rfl | rfl | rfl <;> decide)).1

/-- `query_view_roundtrip` is not vacuous: the urllib law has an instance; pairs with separators, `#` and empty strings read back -/
example : getQuery toyCodec (setQuery toyCodec { path := S "/p", params := [], query := S "old=1", fragment := S "f" }
    [(S "a&b", S "c=d#"), ([], []), (S "k", [])]) = [(S "a&b", S "c=d#"), ([], []), (S "k", [])] :=
  (query_view_roundtrip toyCodec toy_law _ _).1

/-- `query_view_roundtrip_target` is not vacuous either (law, no `#` written, a target with `//`, several `?` and a fragment) -/
example : getQueryOf toyCodec (S "http") (setQueryOf toyCodec (S "http") (S "//a/b?v=1?w#f#g") [(S "a&b", S "c=d#"), ([], [])])
    = [(S "a&b", S "c=d#"), ([], [])] :=
  (query_view_roundtrip_target toyCodec toy_law
    (by intro ps h; have := ser_big ps 35 h; omega) (S "http") (S "//a/b?v=1?w#f#g") [(S "a&b", S "c=d#"), ([], [])]
    (by decide +kernel) (by decide +kernel)).1

/-- `set_cookie_roundtrip` / `set_cookie_header_roundtrip`: `RepSc` holds for a realistic response (two cookies with attributes,
    a quoted value with `;`, a unary attribute, an `expires` date without comma) -/
example : getSetCookies (setSetCookies
    [[(S "sid", some (S "a;b c")), (S "Path", some (S "/admin")), (S "HttpOnly", none)],
     [(S "t", some []), (S "expires", some (S "01 Jan 2030 00:00:00 GMT")), (S "Max-Age", some (S "0"))]]) =
    [[(S "sid", some (S "a;b c")), (S "Path", some (S "/admin")), (S "HttpOnly", none)],
     [(S "t", some []), (S "expires", some (S "01 Jan 2030 00:00:00 GMT")), (S "Max-Age", some (S "0"))]] :=
  set_cookie_roundtrip _
    (by intro c hc; simp only [List.mem_cons, List.not_mem_nil, or_false] at hc
        rcases hc with rfl | rfl <;> simp)
    (by intro c hc e he
        simp only [List.mem_cons, List.not_mem_nil, or_false] at hc
        rcases hc with rfl | rfl <;>
          (simp only [List.mem_cons, List.not_mem_nil, or_false] at he
           rcases he with rfl | rfl | rfl <;> exact ⟨by decide, by decide, by decide⟩))

/-! #### a witness for `form_view_roundtrip`: a toy urlencode that writes only the ASCII characters `x , = ;` (code points in
unary), so that it survives the byte round trip; all four hypotheses hold for ALL pair lists -/

/-- a code point in unary: `c` times `x`, then `,` -/
private def encC (c : Nat) : Str := List.replicate c 120 ++ [44]
private def encS (s : Str) : Str := s.flatMap encC
private def encP (e : Str × Str) : Str := encS e.1 ++ 61 :: (encS e.2 ++ [59])
private def enc (qs : List (Str × Str)) : Str := qs.flatMap encP

private def readNum (s : Str) : Nat × Str := ((s.takeWhile (· == 120)).length, (s.dropWhile (· == 120)).tail)

private theorem readNum_encC (c : Nat) (rest : Str) : readNum (encC c ++ rest) = (c, rest) := by
  unfold readNum encC
  induction c with
  | zero => simp
  | succ n ih =>
    simp only [List.replicate_succ, List.cons_append]
    simp only [List.takeWhile_cons, List.dropWhile_cons, beq_self_eq_true, if_true, List.length_cons]
    simp only [List.append_assoc] at ih ⊢
    rw [Prod.mk.injEq] at ih ⊢
    exact ⟨by rw [ih.1], ih.2⟩

/-- decode one string up to (and consuming) its terminator `=` or `;` -/
private def decS : Nat → Str → Str × Str
  | 0, s => ([], s)
  | _ + 1, [] => ([], [])
  | f + 1, c :: r =>
    if c = 61 ∨ c = 59 then ([], r)
    else ((readNum (c :: r)).1 :: (decS f (readNum (c :: r)).2).1, (decS f (readNum (c :: r)).2).2)

private theorem encC_head (c : Nat) (rest : Str) : ∃ h t, encC c ++ rest = h :: t ∧ h ≠ 61 ∧ h ≠ 59 := by
  cases c with
  | zero => exact ⟨44, rest, by simp [encC], by decide, by decide⟩
  | succ n => exact ⟨120, List.replicate n 120 ++ [44] ++ rest, by simp [encC, List.replicate_succ], by decide, by decide⟩

private theorem decS_encS (s : Str) (t : Nat) (ht : t = 61 ∨ t = 59) (rest : Str) :
    ∀ f, (encS s).length < f → decS f (encS s ++ t :: rest) = (s, rest) := by
  induction s with
  | nil =>
    intro f hf
    cases f with
    | zero => omega
    | succ f => simp [encS, decS, ht]
  | cons c s ih =>
    intro f hf
    cases f with
    | zero => omega
    | succ f =>
      have e : encS (c :: s) ++ t :: rest = encC c ++ (encS s ++ t :: rest) := by simp [encS]
      rw [e]
      obtain ⟨h, tl, ehd, h1, h2⟩ := encC_head c (encS s ++ t :: rest)
      rw [ehd]
      simp only [decS, h1, h2, or_self, if_false]
      rw [← ehd, readNum_encC]
      have hl : (encS s).length < f := by
        simp only [encS, List.flatMap_cons, List.length_append, encC, List.length_replicate, List.length_cons,
          List.length_nil] at hf ⊢
        omega
      rw [ih f hl]

private def parse : Nat → Str → List (Str × Str)
  | 0, _ => []
  | _ + 1, [] => []
  | f + 1, c :: r =>
    ((decS (c :: r).length (c :: r)).1, (decS (c :: r).length (decS (c :: r).length (c :: r)).2).1) ::
      parse f (decS (c :: r).length (decS (c :: r).length (c :: r)).2).2

private theorem enc_cons (k v : Str) (r : List (Str × Str)) :
    enc ((k, v) :: r) = encS k ++ 61 :: (encS v ++ 59 :: enc r) := by
  simp [enc, encP]

private theorem parse_enc (qs : List (Str × Str)) : ∀ f, (enc qs).length ≤ f → parse f (enc qs) = qs := by
  induction qs with
  | nil => intro f _; cases f <;> rfl
  | cons e r ih =>
    obtain ⟨k, v⟩ := e
    intro f hf
    rw [enc_cons] at hf ⊢
    have hne : ∃ h tl, encS k ++ 61 :: (encS v ++ 59 :: enc r) = h :: tl := by
      cases hk : encS k with
      | nil => exact ⟨61, _, rfl⟩
      | cons a b => exact ⟨a, _, rfl⟩
    obtain ⟨h, tl, ehd⟩ := hne
    cases f with
    | zero => simp at hf
    | succ f =>
      have hlen := hf
      rw [ehd] at hf ⊢
      simp only [parse]
      rw [← ehd]
      have l1 : (encS k).length < (encS k ++ 61 :: (encS v ++ 59 :: enc r)).length := by
        simp only [List.length_append, List.length_cons]; omega
      have l2 : (encS v).length < (encS k ++ 61 :: (encS v ++ 59 :: enc r)).length := by
        simp only [List.length_append, List.length_cons]; omega
      rw [decS_encS k 61 (Or.inl rfl) _ _ l1]
      simp only
      rw [decS_encS v 59 (Or.inr rfl) _ _ l2]
      simp only
      rw [ih f (by simp only [List.length_append, List.length_cons] at hlen; omega)]

private theorem enc_chars (qs : List (Str × Str)) : ∀ x ∈ enc qs, x = 120 ∨ x = 44 ∨ x = 61 ∨ x = 59 := by
  intro x hx
  simp only [enc, encP, encS, encC, List.mem_flatMap, List.mem_append, List.mem_cons, List.mem_replicate,
    List.not_mem_nil, or_false] at hx
  obtain ⟨e, _, h⟩ := hx
  rcases h with ⟨c, _, h⟩ | rfl | ⟨c, _, h⟩ | rfl
  · rcases h with ⟨_, rfl⟩ | rfl <;> simp
  · simp
  · rcases h with ⟨_, rfl⟩ | rfl <;> simp
  · simp

private theorem enc_notbare (qs : List (Str × Str)) : bareStyle (enc qs) = false := by
  cases qs with
  | nil => rfl
  | cons e r =>
    obtain ⟨k, v⟩ := e
    have hno : 38 ∉ enc ((k, v) :: r) := by
      intro m; rcases enc_chars _ 38 m with h | h | h | h <;> cases h
    have h61 : (enc ((k, v) :: r)).contains 61 = true := by
      rw [enc_cons]; simp
    have hm : 61 ∈ enc ((k, v) :: r) := by simpa using h61
    simp [bareStyle, splitAmp_eq, splitSep_no_sep hno, hm]

private def toyForm : FormLib where
  U := { urlencode := enc, parseQsl := fun s => parse s.length s, quote := id, unquote := id }
  getText _ b := b.map (·.toNat)
  encodeAscii s := s.map UInt8.ofNat

private theorem toy_dec (qs : List (Str × Str)) :
    toyForm.getText (some formCT) (toyForm.encodeAscii (toyForm.U.urlencode qs)) = toyForm.U.urlencode qs := by
  show ((enc qs).map UInt8.ofNat).map (·.toNat) = enc qs
  rw [List.map_map]
  have : ∀ x ∈ enc qs, ((·.toNat) ∘ UInt8.ofNat) x = x := by
    intro x hx
    rcases enc_chars qs x hx with rfl | rfl | rfl | rfl <;> rfl
  rw [List.map_congr_left this, List.map_id']

private theorem toy_form_law (qs : List (Str × Str)) : toyForm.U.parseQsl (toyForm.U.urlencode qs) = qs :=
  parse_enc qs _ (Nat.le_refl _)

/-- `form_view_roundtrip` is not vacuous: on a request that carried `text/plain; charset=utf-16` and the body `a=1&b=2`, assigning
    pairs with separators and an empty value reads them back, the header becomes the bare form type, and write-back is idempotent -/
example : getForm toyForm (setForm toyForm { ct := some (S "text/plain; charset=utf-16"), body := B "a=1&b=2" }
      [(S "a&b", S "c=d"), (S "k", [])]) = [(S "a&b", S "c=d"), (S "k", [])] ∧
    (setForm toyForm { ct := some (S "text/plain; charset=utf-16"), body := B "a=1&b=2" } [(S "a&b", S "c=d"), (S "k", [])]).ct
      = some formCT :=
  have h := form_view_roundtrip toyForm { ct := some (S "text/plain; charset=utf-16"), body := B "a=1&b=2" }
    [(S "a&b", S "c=d"), (S "k", [])] toy_form_law toy_dec enc_notbare (by decide +kernel)
  ⟨h.1, h.2.1⟩

end MitmVerif.Props.C34

/-! ### the write-back clause ("writing a view's current value back leaves the message's meaning unchanged"), view by view:
    full statement as a `def`, and either a theorem or a `_counterexample`

    * request cookies  : `view_writeback_idempotent` (above) — holds for ALL header values
    * query            : `QueryWritebackKeepsTarget` is false (`*`, F-C34g): `query_writeback_counterexample`; `query_writeback_partial`
    * urlencoded form  : `FormStyleLossless` is false (F-C34e): `form_writeback_counterexample`; the partial result is `form_view_roundtrip`
    * response cookies : `SetCookieWritebackIdempotent` is false (F-C34f): `set_cookie_writeback_counterexample`;
                         `set_cookie_writeback_partial`
    * path components  : `PathComponentsWritebackKeepsPath` is false (F-C34d): `path_components_writeback_counterexample`
    * multipart        : F-C34a (`MultipartRoundtrips`, `multipart_roundtrip_counterexample`); under the guards the decoded view equals the
                         assigned parts (`multipart_roundtrip`), so writing it back is the same assignment -/

namespace MitmVerif.Props.C34
open MitmVerif MitmVerif.C34

/-! #### query -/

/-- full statement: writing the query view back never turns a target into the asterisk form or out of it -/
def QueryWritebackKeepsTarget : Prop :=
  ∀ (U : UrlCodec), (∀ ps, U.parseQsl (U.urlencode ps) = ps) → ∀ (scheme p : Str),
    (setQueryOf U scheme p (getQueryOf U scheme p) = [42] ↔ p = [42])

/-- F-C34g: `request.query = request.query` on `OPTIONS *` leaves the empty target -/
theorem query_writeback_counterexample : ¬ QueryWritebackKeepsTarget := by
  intro h
  have := (h toyCodec toy_law (S "http") [42]).mpr rfl
  revert this
  decide +kernel

/-- **C34 (query write-back, partial).** For any request target whose path part is not the bare `*`: writing the view's current
    value back leaves the view, the path, the `;params` and the fragment as they were.  (`hpath` is only handed on to
    `query_view_roundtrip_target`, which does not use it.) -/
theorem query_writeback_partial (U : UrlCodec) (hlaw : ∀ ps, U.parseQsl (U.urlencode ps) = ps) (hno : ∀ ps, 35 ∉ U.urlencode ps)
    (scheme p : Str) (hpath : 59 ∉ (targetParts scheme p).path)
    (hstar : unparseTarget (setQuery U (targetParts scheme p) (getQueryOf U scheme p)) ≠ [42]) :
    getQueryOf U scheme (setQueryOf U scheme p (getQueryOf U scheme p)) = getQueryOf U scheme p ∧
    targetParts scheme (setQueryOf U scheme p (getQueryOf U scheme p)) =
      { targetParts scheme p with query := U.urlencode (getQueryOf U scheme p) } :=
  let ⟨hget, hparts, _⟩ := query_view_roundtrip_target U hlaw hno scheme p _ hpath hstar
  ⟨hget, hparts⟩

/-! #### urlencoded form -/

/-- full statement: whatever style the existing body has, what `url.encode(pairs, similar_to)` writes parses back to the pairs —
    given only urllib's law -/
def FormStyleLossless : Prop :=
  ∀ (U : UrlCodec), (∀ ps, U.parseQsl (U.urlencode ps) = ps) → ∀ (ps : List (Str × Str)) (similar : Str),
    U.parseQsl (encodeForm U ps similar) = ps

/-- a codec that satisfies the law and ends every non-empty encoding with `=` (as urlencode does for an empty last value) -/
private def eqCodec : UrlCodec where
  urlencode qs := if qs = [] then [] else ser qs ++ [61]
  parseQsl s := if s.getLast? = some 61 then de s.dropLast.length s.dropLast else []
  quote := id
  unquote := id

private theorem eqCodec_law (ps : List (Str × Str)) : eqCodec.parseQsl (eqCodec.urlencode ps) = ps := by
  by_cases h : ps = []
  · subst h; rfl
  · simp only [eqCodec, h, if_false, List.getLast?_append, List.getLast?_singleton, List.dropLast_concat]
    exact de_ser ps _ (Nat.le_refl _)

/-- F-C34e: under the bare-parameter style the trailing `=` is cut off and the pairs are not read back -/
theorem form_writeback_counterexample : ¬ FormStyleLossless := by
  intro h
  have := h eqCodec eqCodec_law [(S "a", [])] (S "x&y=1")
  revert this
  decide +kernel

/-! #### response cookies -/

/-- full statement: writing the response cookies view back leaves the view unchanged, for any Set-Cookie header values -/
def SetCookieWritebackIdempotent : Prop :=
  ∀ hdrs : List Str, getSetCookies (setSetCookies (getSetCookies hdrs)) = getSetCookies hdrs

/-- F-C34f: `a=b; path="/x;y"` is written back as `path=/x;y` and then read as two attributes -/
theorem set_cookie_writeback_counterexample : ¬ SetCookieWritebackIdempotent := by
  intro h
  have := h [S "a=b; path=\"/x;y\""]
  revert this
  decide +kernel

/-- **C34 (response cookies write-back, partial).** If every pair the view holds is representable (`RepSc`: in particular no
    `expires`/`path` value with `;`, `,` or a leading quote), writing the view back leaves it unchanged. -/
theorem set_cookie_writeback_partial (hdrs : List Str) (h : ∀ c ∈ getSetCookies hdrs, ∀ e ∈ c, RepSc e) :
    getSetCookies (setSetCookies (getSetCookies hdrs)) = getSetCookies hdrs := by
  apply set_cookie_roundtrip _ _ h
  intro c hc
  unfold getSetCookies at hc
  have := (List.mem_filter.mp hc).2
  simpa using this

/-! #### path components -/

/-- full statement: writing the path components back leaves the path part of the target as it was -/
def PathComponentsWritebackKeepsPath : Prop :=
  ∀ (U : UrlCodec), QuoteLaw U → ∀ (scheme p : Str),
    (targetParts scheme (setPathComponents U scheme p (getPathComponents U scheme p))).path = (targetParts scheme p).path

/-- F-C34d: the trailing slash of `/<seg>/` is gone after `request.path_components = request.path_components`
    (`<seg>` is a component as the codec itself quotes it, so quoting is not what changes) -/
theorem path_components_writeback_counterexample : ¬ PathComponentsWritebackKeepsPath := by
  intro h
  have := h toyCodec toy_quote (S "http") (47 :: (toyCodec.quote (S "a") ++ [47]))
  revert this
  decide +kernel

-- the partial results are not vacuous: a target with `//`, several `?` and fragments written back through the query view,
-- and a two-cookie response written back through the cookies view
example : getQueryOf toyCodec (S "http") (setQueryOf toyCodec (S "http") (S "//a/b?v=1?w#f#g") (getQueryOf toyCodec (S "http") (S "//a/b?v=1?w#f#g")))
    = getQueryOf toyCodec (S "http") (S "//a/b?v=1?w#f#g") :=
  (query_writeback_partial toyCodec toy_law (by intro ps h; have := ser_big ps 35 h; omega) (S "http") (S "//a/b?v=1?w#f#g")
    (by decide +kernel) (by decide +kernel)).1

example : getSetCookies (setSetCookies (getSetCookies [S "sid=abc; Path=/; HttpOnly", S "a=\"x y\"; Max-Age=3, c=d"]))
    = getSetCookies [S "sid=abc; Path=/; HttpOnly", S "a=\"x y\"; Max-Age=3, c=d"] := by decide +kernel

end MitmVerif.Props.C34
