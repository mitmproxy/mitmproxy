/-
  C05 — HTTP/2 streams are isolated and correctly mapped: the property theorems.

  Three kinds of statement.

  (1) About EVERY state `σ` the model of `Http2Client` can reach (`Reach σ`): any interleaving of client events (per
  stream: the request head first and once, as `HttpStream` emits them — `Good`), of segments reported by hyper-h2 (any
  list of events: SETTINGS changing MAX_CONCURRENT_STREAMS / INITIAL_WINDOW_SIZE / the frame size, WINDOW_UPDATE,
  responses, RST_STREAM, GOAWAY, protocol errors) and of the connection closing.  The invariant that carries the id
  maps, the queue and the routing (`Inv`, `reach_inv`) is proved in Lemmas/C05_Map.lean by induction over the history,
  through every iteration of the resume loop.  The byte invariant `BInv` (Lemmas/C05_Bytes.lean) and, under the
  per-stream order `Good2` (`Reach2`), the buffer invariant `SubInv` (Lemmas/C05_Sub.lean) ride on the same induction
  (`Rides`).

  (2) About `BufferedH2Connection` alone, for an arbitrary `Conn` (Lemmas/C05.lean), and about the table
  `HttpLayer.streams`.

  (3) The hypotheses `Good` / `Good2` themselves, derived from the C03 model of `HttpStream` (Lemmas/C05_C03Def.lean,
  C05_C03.lean, C05_C03Run.lean).  What stays unproved there is that the events of one client stream reach
  `Http2Client` in the order `HttpStream` emitted them (the harness evaluates `Good` and `Good2` on the real events).

  hyper-h2 is not modelled beyond the events it reports and what mitmproxy reads from it (windows, frame size, open
  flags per stream): that abstraction is tied by the lock-step runs only.
-/
import MitmVerif.Lemmas.C05_Map
import MitmVerif.Lemmas.C05_Sub
import MitmVerif.Lemmas.C05_C03Run
import MitmVerif.Lemmas.C05_Bytes
import MitmVerif.Lemmas.C05_First
import MitmVerif.Lemmas.C05_Crash
namespace MitmVerif.Props.C05
open MitmVerif MitmVerif.C05

/-- `our_stream_id` and `their_stream_id` are inverse to each other -/
theorem id_maps_inverse (σ : St) (h : Reach σ) (t o : Nat) :
    alookup t σ.ours = some o ↔ alookup o σ.theirs = some t :=
  ⟨(reach_inv σ h).map.fwd t o, (reach_inv σ h).map.bwd o t⟩

/-- upstream ids are handed out once: two client streams never share one -/
theorem id_maps_injective (σ : St) (h : Reach σ) (t1 t2 o : Nat)
    (h1 : alookup t1 σ.ours = some o) (h2 : alookup t2 σ.ours = some o) : t1 = t2 := by
  have a := (reach_inv σ h).map.fwd t1 o h1
  have b := (reach_inv σ h).map.fwd t2 o h2
  rw [a] at b; exact Option.some.inj b

/-- Every event the HTTP layer handed over for a client stream is — in the order it was handed over — either passed on
    exactly once, or still waiting in the queue; and whatever was passed on went to the upstream stream that belongs
    to this client stream. -/
theorem no_stream_lost_or_duplicated (σ : St) (h : Reach σ) (hc : σ.closed = false) :
    (∀ t, fwOf t σ ++ qOf t σ = evsOf t σ.sub) ∧ (∀ e ∈ σ.fw, alookup e.1 σ.ours = some e.2.1) := by
  have q := (reach_inv σ h).live hc
  refine ⟨fun t => ?_, q.fw⟩
  have := q.cons t
  rw [q.st] at this
  simpa [evsOf] using this

private theorem failQueued_fails (σ : St) : ∀ t ∈ qkeys σ, (t, UpKind.err, none) ∈ σ.failQueued.up := by
  intro t ht
  simp only [qkeys, List.mem_map] at ht
  obtain ⟨p, hp, rfl⟩ := ht
  exact List.mem_append_right _ (List.mem_map.mpr ⟨p, hp, rfl⟩)

/-- … and when the connection goes away, every stream still waiting for a slot is failed (not forgotten) -/
theorem no_stream_lost_on_close (σ : St) (hc : σ.closed = false) :
    ∀ t ∈ qkeys σ, (t, UpKind.err, none) ∈ (σ.step .connClosed).up := by
  intro t ht
  simp only [St.step]
  rw [if_neg (by rw [hc]; simp)]
  exact failQueued_fails _ t (by rw [qkeys, (closeConnection_reacted σ).same.queue]; exact ht)

/-- Streams are opened in the order in which they arrived: the streams already opened, followed by the streams in
    the queue in queue order, are exactly the arrival order (`arr` records a client stream id when its first event is
    handed over). -/
theorem queue_fifo (σ : St) (h : Reach σ) (hc : σ.closed = false) : opened σ ++ qkeys σ = σ.arr :=
  ((reach_inv σ h).live hc).arr

/-- After every call the resume loop has run to completion, and a stream is left waiting only if there is no free
    slot (`open_outbound_streams >= limit`). -/
theorem queue_nonempty_implies_no_capacity (σ : St) (h : Reach σ) (hc : σ.closed = false) :
    σ.stack = [] ∧ (σ.queue ≠ [] → σ.noFree = true) := by
  have q := (reach_inv σ h).live hc
  exact ⟨q.st, q.cap.resolve_left⟩

/-- The capacity test counts what hyper-h2 — and hence the server — still considers open (`open_outbound_streams`),
    not the streams mitmproxy keeps book of (`Http2Connection.streams`, which is only pruned when the SERVER ends or
    resets a stream): a stream the proxy resets upstream itself (a forwarded client RST_STREAM) is closed at once and
    frees its slot, whatever the server does afterwards.  Together with `queue_nonempty_implies_no_capacity` (`noFree` is
    `limit ≤ conn.openCount`): a queued stream is left waiting only while the server's own count is at the limit.
    The second conjunct is true BY DEFINITION (`rfl`): it only spells out what `noFree` counts, it is no finding of its own. -/
theorem reset_frees_slot (σ : St) (o : Nat) :
    (σ.process o .err).conn.closedS o = true ∧
    (σ.noFree = decide (σ.limit ≤ (σ.conn.streams.filter (fun p => !p.2.closed)).length)) := by
  refine ⟨?_, rfl⟩
  simp only [St.process]
  by_cases hc : σ.conn.closedS o = true
  · simp [hc]
  · simp only [hc, Bool.not_false, if_true]
    unfold Conn.closedS at hc ⊢
    have hd : σ.conn.dead = false := eq_false_of_ne_true fun h => by simp [h] at hc
    cases hg : σ.conn.getS o with
    | none => simp [hg] at hc
    | some st =>
      have hdead : (σ.conn.resetStream o).dead = σ.conn.dead := by
        unfold Conn.resetStream; exact dead_updS _ o _
      have hget : (σ.conn.resetStream o).getS o = some { st with rst := true } := by
        unfold Conn.resetStream
        show (Conn.updS _ o _).getS o = _
        rw [getS_updS]
        simp only [if_true]
        have : ({ σ.conn with bufs := aerase o σ.conn.bufs } : Conn).getS o = some st := hg
        rw [this]; rfl
      rw [hdead, hd, hget]
      simp [Stream.closed]

/-- An upstream stream is only ever opened while fewer streams are open than the limit in force at that moment
    (the server's MAX_CONCURRENT_STREAMS once its SETTINGS have arrived, the provisional 10 before). -/
theorem open_le_limit (σ : St) (h : Reach σ) (hc : σ.closed = false) :
    ∀ a ∈ σ.allocs, a.2.1 < a.2.2 :=
  ((reach_inv σ h).live hc).al

/-- Every response event and every reset passed up to the HTTP layer carries the client stream id whose upstream
    stream it arrived on. -/
theorem response_routed (σ : St) (h : Reach σ) :
    ∀ u ∈ σ.up, ∀ o, u.2.2 = some o → alookup u.1 σ.ours = some o ∧ alookup o σ.theirs = some u.1 := by
  intro u hu o ho
  have inv := reach_inv σ h
  have := inv.up u hu o ho
  exact ⟨this, inv.map.fwd _ _ this⟩

/-- `HttpLayer.streams`: an event is delivered to the stream object registered under its own id, or dropped.  By itself
    this is `alookup` membership; what makes it a statement about mitmproxy is the tie: the driver op `L route sid` runs
    `route` on the table built by `L make` / `L drop` and is compared with every lookup `self.streams[stream_id]` of the
    real HttpLayer (found stream's `stream_id`, or KeyError). -/
theorem route_own_stream {α : Type} (streams : List (Nat × α)) (sid : Nat) (s : α) (h : route streams sid = some s) :
    (sid, s) ∈ streams := alookup_mem sid s streams h

/-- BufferedH2Connection: for every stream, the bytes written to the wire followed by the bytes still buffered are
    exactly what was there before followed by the bytes submitted now (whatever the windows, the frame size and the
    state of the other streams); the flush loop, and `stream_window_updated` on a stream that may still send (it DROPS
    the buffer of one that may not), leave that concatenation as it was for every stream: bytes only move from the
    front of a buffer to the wire. -/
theorem buffered_bytes_conserved (c : Conn) (s sid : Nat) (d : Bytes) (fin : Bool) :
    (c.sendData s d fin).held sid = c.held sid ++ (if s = sid then d else [])
    ∧ (∀ f w sent, (Conn.flushLoop f c s w sent).1.held sid = c.held sid)
    ∧ ((c.liveS s = true ∨ s ≠ sid) → (c.streamWindowUpdated s).1.held sid = c.held sid) :=
  ⟨held_sendData c s sid d fin, fun f w sent => held_flushLoop f c s sid w sent, held_streamWindowUpdated c s sid⟩

/-- … lifted to `connection_window_updated`, the last entry point: the round robin over all buffers (any number of
    rounds, any windows, any order of the dict) conserves, for every well-kept stream, the bytes on the wire followed by
    the bytes still buffered — and leaves the stream well kept.  `StreamOk`: nothing is buffered for a stream that cannot
    send any more, and an end of stream waits behind all its data. -/
theorem buffered_bytes_conserved_connection (c : Conn) (sid : Nat) (h : StreamOk c sid) :
    (∀ f, (Conn.connWindowUpdated f c).held sid = c.held sid ∧ StreamOk (Conn.connWindowUpdated f c) sid)
    ∧ c.connWindowUpdated'.held sid = c.held sid
    ∧ (∀ s, (c.streamWindowUpdated s).1.held sid = c.held sid ∧ StreamOk (c.streamWindowUpdated s).1 sid) :=
  ⟨fun f => connWindowUpdated_ok f c sid h, (connWindowUpdated_ok _ c sid h).1, fun s => streamWindowUpdated_ok c s sid h⟩

/-- `StreamOk` is what the callers keep up: it holds initially and `send_data` (of any size, split at the frame size or
    not) on a stream that may still send and has no end of stream pending keeps it for every stream -/
theorem stream_ok_invariant (c : Conn) (s sid : Nat) (d : Bytes) (fin : Bool) :
    StreamOk Conn.init sid ∧ (CanSubmit c s → StreamOk c sid → StreamOk (c.sendData s d fin) sid) :=
  ⟨⟨fun _ => rfl, trivial⟩, fun hc h => sendData_ok c s sid d fin hc h⟩

/-- `Http2Server` hands every event up with the stream id hyper-h2 reported it on (the identity; which frames belong
    to which stream is hyper-h2's demultiplexing).  `HttpLayer` then looks the id up in `streams`: after any sequence
    of `make_stream` / `DropStream`, the object found under an id is the `HttpStream` that was created FOR that id —
    so the events of a client stream reach exactly the HttpStream registered under its id, or nobody.
    The conclusion follows from the shape of `applyLayerOp` (`.make sid` stores `⟨sid⟩` under `sid`); that the real
    `make_stream` / `DropStream` handling has this shape is the tie: driver ops `L make` / `L drop` replay every
    assignment to and `pop` from the real `HttpLayer.streams` and the whole table (key ↦ `stream_id` of the stored
    HttpStream, in dict order) is compared after each.  Which frames belong to which stream on the client connection
    is hyper-h2's demultiplexing (trusted, exercised by the peer oracle). -/
theorem demux_own_stream (ops : List LayerOp) (sid : Nat) (s : HStream)
    (h : route (ops.foldl applyLayerOp []) sid = some s) : s.id = sid := by
  have inv : ∀ (ops : List LayerOp) (l : List (Nat × HStream)), (∀ p ∈ l, p.2.id = p.1) →
      ∀ p ∈ ops.foldl applyLayerOp l, p.2.id = p.1 := by
    intro ops
    induction ops with
    | nil => intro l hl; exact hl
    | cons op rest ih =>
      intro l hl
      simp only [List.foldl_cons]
      apply ih
      intro p hp
      cases op with
      | make k =>
        have hp' : p ∈ aset k (⟨k⟩ : HStream) l := hp
        rcases mem_aset k ⟨k⟩ l p hp' with h1 | h1
        · subst h1; rfl
        · exact hl p h1
      | drop k =>
        have hp' : p ∈ l.filter (fun q => q.1 != k) := hp
        exact hl p (List.mem_filter.mp hp').1
  have := inv ops [] (by intro p hp; simp at hp) (sid, s) (alookup_mem sid s _ h)
  exact this

/-- trailers wait for the buffered data of their stream, and the end of the stream is not requested twice -/
theorem trailers_after_data (c : Conn) (s : Nat) (hb : c.buf s ≠ []) :
    (c.sendTrailers s).out = c.out ∧ (c.sendTrailers s).trl.contains s = true
    ∧ (c.sendTrailers s).endStream s = c.sendTrailers s := by
  have hne : (c.buf s).isEmpty = false := by cases h : c.buf s <;> simp_all
  have h1 : c.sendTrailers s = { c with trl := if c.trl.contains s then c.trl else c.trl ++ [s] } := by
    simp [Conn.sendTrailers, hne]
  have h2 : (c.sendTrailers s).trl.contains s = true := by
    rw [h1]
    show (if c.trl.contains s = true then c.trl else c.trl ++ [s]).contains s = true
    split
    · assumption
    · simp
  refine ⟨by rw [h1], h2, ?_⟩
  unfold Conn.endStream
  rw [if_pos h2]

/-! ### the hypotheses are satisfiable, the model does queue, resume in order and fail queued streams -/

def ex1 : St := ((St.init.step (.client 1 (.hdr true))).step (.server [.settings (some 1) none none])).step (.client 3 (.hdr true))
def ex2 : St := (ex1.step (.client 5 (.hdr true))).step (.client 3 .eom)

example : Reach ex2 := by
  refine Reach.client _ _ _ (Reach.client _ _ _ (Reach.client _ _ _ (Reach.server _ _ (Reach.client _ _ _ Reach.init ?_)) ?_) ?_) ?_
  all_goals (unfold Good; decide)

example : ex2.ours = [(1, 1)] ∧ qkeys ex2 = [3, 5] ∧ ex2.noFree = true ∧ ex2.closed = false := by decide
/-- the response ends stream 1: both queued streams are opened, in arrival order, each on its own upstream id -/
example : (ex2.step (.server [.settings (some 5) none none, .respHdr 1 true true, .ended 1])).ours = [(1, 1), (3, 3), (5, 5)] := by
  decide
example : (ex2.step (.server [.settings (some 5) none none, .respHdr 1 true true, .ended 1])).conn.out =
    [.hdr 1 true, .hdr 3 true, .hdr 5 true] := by decide
/-- the connection closes: the open stream and both queued streams are failed -/
example : (ex2.step .connClosed).up = [(1, .err, some 1), (3, .err, none), (5, .err, none)] := by decide

/-! ### the callers' discipline, derived

  `CanSubmit` / `StreamOk` are hypotheses of the theorems above about `BufferedH2Connection` alone.  Below they are
  CONSEQUENCES: in every state `Http2Client` can reach (`Reach2`) when the HTTP layer hands over, per stream, the
  request head first and once (`Good`), then body data, at most one set of trailers and one end of message, in this
  order, or an error (`Good2` — the grammar of the `SendHttp` commands `HttpStream` addresses to the server, see
  `httpstream_hands_over_in_order` below for its derivation from the model of C03).  The guard `if self.h2_conn.streams[id].state_machine
  … is_open_for_us` in `Http2Connection._handle_event` is part of the model (`St.process`), not of the hypotheses. -/

/-- every stream is well kept in every reachable state — whatever the windows, the frame size, the other streams, the
    RST_STREAM / GOAWAY / SETTINGS / WINDOW_UPDATE the server sends, the queueing under MAX_CONCURRENT_STREAMS -/
theorem stream_ok_reachable (σ : St) (h : Reach2 σ) (sid : Nat) : StreamOk σ.conn sid :=
  (reach2_sub σ h).ok sid

/-- in a reachable state in which `Http2Client` would next submit body data for a stream (nothing but the head and
    data passed on so far, hyper-h2 still lets us send) `CanSubmit` holds; likewise where it would end the stream
    without trailers waiting.  `σ` is a state between two calls of `handle_event`; for the submissions the resume loop
    makes in between, `CanSubmit` is established inside the proof of `reach2_sub` (`procConn_self`, Lemmas/C05_Sub.lean),
    not by this statement. -/
theorem can_submit_derived (σ : St) (h : Reach2 σ) (t o : Nat) (ho : alookup t σ.ours = some o)
    (hl : σ.conn.liveS o = true) :
    (E2 (fwOf t σ) = false → CanSubmit σ.conn o) ∧
    (E1 (fwOf t σ) = false → ¬ σ.conn.trl.contains o = true → CanSubmit σ.conn o) := by
  have k := (reach2_sub σ h).keeps t o ho
  refine ⟨fun h2 => ⟨hl, (k hl).1 (by rw [h2]; rfl)⟩, fun h1 hnt => ?_⟩
  exact can_of_keeps_end σ.conn o _ _ hl (fun ht => by rw [open_of_E1_hasT _ h1 ht]; rfl) k hnt

/-- `buffered_bytes_conserved_connection` without its hypothesis: in every reachable state, for every stream, the
    round robin and the per-stream flush conserve the bytes on the wire followed by the bytes still buffered -/
theorem buffered_bytes_conserved_reachable (σ : St) (h : Reach2 σ) (sid : Nat) :
    (∀ f, (Conn.connWindowUpdated f σ.conn).held sid = σ.conn.held sid)
    ∧ σ.conn.connWindowUpdated'.held sid = σ.conn.held sid
    ∧ (∀ s, (σ.conn.streamWindowUpdated s).1.held sid = σ.conn.held sid) :=
  have ok := stream_ok_reachable σ h sid
  ⟨fun f => (connWindowUpdated_ok f σ.conn sid ok).1, (connWindowUpdated_ok _ σ.conn sid ok).1,
   fun s => (streamWindowUpdated_ok σ.conn s sid ok).1⟩

/-- `Reach2` only restricts `Reach`: every theorem above about reachable states applies -/
theorem reach2_is_reach (σ : St) (h : Reach2 σ) : Reach σ := reach2_reach σ h

/-! ### … and the order itself, derived from the model of `HttpStream` (C03)

  `C03.srvEvents` reads the `SendHttp(…, context.server)` commands off the trace of the C03 model (`Out.send false`
  with the tags rh / rd / rt / re / rx) as the events `Http2Client` is handed (payloads dropped). -/

/-- in EVERY run of the model of `HttpStream` (any inputs in any order, any addon actions, any body-size verdicts, any
    interleaving with `_paused_event_queue`, with or without streaming) the events handed to the server connection
    keep the order `Reach2` assumes: every one of them is `allowed` after those before it (`GramOk`), and the first —
    and only the first — is the request head (`hdrFirst`) -/
theorem httpstream_hands_over_in_order (l t : Nat) (evs : List C03.Ev) :
    GramOk (C03.srvEvents (C03.run l t evs).trace) ∧
    (C03.srvEvents (C03.run l t evs).trace = [] ∨ hdrFirst (C03.srvEvents (C03.run l t evs).trace)) :=
  C03.srvEvents_grammar l t evs

/-- an event without its payload (the order does not depend on it) -/
def shape : Ev → Ev
  | .hdr _ => .hdr false
  | .data _ => .data []
  | e => e

private theorem any_shape (l : List Ev) (f : Ev → Bool) (hf : ∀ e, f (shape e) = f e) : (l.map shape).any f = l.any f := by
  rw [List.any_map]
  exact congrArg l.any (funext hf)

private theorem allowed_shape (pre : List Ev) (ev : Ev) : allowed (pre.map shape) (shape ev) = allowed pre ev := by
  have h2 : E2 (pre.map shape) = E2 pre := any_shape pre _ (by intro e; cases e <;> rfl)
  have h1 : E1 (pre.map shape) = E1 pre := any_shape pre _ (by intro e; cases e <;> rfl)
  cases ev <;> simp [allowed, shape, h1, h2]

/-- `Good2` discharged: if what the client model was handed for stream `t`, followed by the next event, is — payloads
    aside — the beginning of what some run of the `HttpStream` model hands to the server connection, the next event
    is in order -/
theorem good2_from_httpstream (σ : St) (t : Nat) (ev : Ev) (l tt : Nat) (evs : List C03.Ev) (post : List Ev)
    (h : C03.srvEvents (C03.run l tt evs).trace = (evsOf t σ.sub ++ ev :: post).map shape) : Good2 σ t ev := by
  have g := (httpstream_hands_over_in_order l tt evs).1
  have := g ((evsOf t σ.sub).map shape) (shape ev) (post.map shape) (by rw [h]; simp)
  unfold Good2
  rw [← allowed_shape]; exact this

/-! ### whole-history form of the byte conservation -/

/-- In EVERY reachable state (`Reach`: any interleaving of client events, received segments with WINDOW_UPDATE / SETTINGS
    / RST_STREAM / GOAWAY, queueing, the resume loop), for every client stream `t` with upstream id `o`: the DATA bytes
    written to the wire on `o` (`dataOf o out` — what the server decodes on that stream) followed by the bytes still
    buffered for `o` are a prefix of the body data the HTTP layer handed over for `t` and `Http2Client` passed on —
    nothing of another stream, nothing twice, nothing out of order — and ALL of it as long as hyper-h2 still lets us
    send on `o`; and no DATA was ever written on an id not yet allocated. -/
theorem upstream_bytes_own_stream (σ : St) (h : Reach σ) (t o : Nat) (ho : alookup t σ.ours = some o) :
    σ.conn.held o <+: dataBytes (fwOf t σ)
    ∧ dataOf o σ.conn.out <+: dataBytes (fwOf t σ)
    ∧ (σ.conn.liveS o = true → σ.conn.held o = dataBytes (fwOf t σ))
    ∧ (∀ x, σ.nextId ≤ x → dataOf x σ.conn.out = []) := by
  have b := reach_b σ h
  have k := b.pb t o ho
  refine ⟨k.1, (List.prefix_append _ _).trans k.1, k.2, fun x hx => ?_⟩
  have := b.fresh x hx
  unfold Conn.held at this
  exact (List.append_eq_nil_iff.mp this).1

/-- … and that is a prefix of the body data submitted for `t` (the rest is still queued or being handled) -/
theorem upstream_bytes_prefix_of_submitted (σ : St) (h : Reach σ) (hc : σ.closed = false) (t o : Nat)
    (ho : alookup t σ.ours = some o) : dataOf o σ.conn.out <+: dataBytes (evsOf t σ.sub) := by
  have c := ((reach_inv σ h).live hc).cons t
  rw [← c, List.append_assoc, dataBytes_append]
  exact (upstream_bytes_own_stream σ h t o ho).2.1.trans (List.prefix_append _ _)

/-! ### `Good` discharged too -/

private theorem isHdr_shape (e : Ev) : (shape e).isHdr = e.isHdr := by cases e <;> rfl

/-- a client stream is unknown to `Http2Client` (no upstream id, not queued) exactly when nothing was handed over for it -/
theorem fresh_iff_nothing_handed_over (σ : St) (h : Reach σ) (hc : σ.closed = false) (t : Nat) :
    (alookup t σ.ours = none ∧ t ∉ qkeys σ) ↔ evsOf t σ.sub = [] :=
  fresh_iff_nothing_submitted σ h hc t

/-- `Good` discharged: if what the client model was handed for stream `t`, followed by the next event, is — payloads
    aside — the beginning of what some run of the `HttpStream` model hands to the server connection, the next event is
    the request head exactly when the stream is new.  Together with `good2_from_httpstream`: both hypotheses of `Reach2`
    are properties of the C03 model. -/
theorem good_from_httpstream (σ : St) (h : Reach σ) (hc : σ.closed = false) (t : Nat) (ev : Ev) (l tt : Nat)
    (evs : List C03.Ev) (post : List Ev)
    (hsrc : C03.srvEvents (C03.run l tt evs).trace = (evsOf t σ.sub ++ ev :: post).map shape) : Good σ t ev := by
  have hf := fresh_iff_nothing_submitted σ h hc t
  have hh := (httpstream_hands_over_in_order l tt evs).2
  rw [hsrc] at hh
  have hne : (evsOf t σ.sub ++ ev :: post).map shape ≠ [] := by simp
  obtain ⟨fin, rest, he, hr⟩ := hh.resolve_left hne
  unfold Good
  constructor
  · intro hfr
    have hpre := hf.mp hfr
    rw [hpre] at he
    simp only [List.nil_append, List.map_cons, List.cons.injEq] at he
    rw [← isHdr_shape, he.1]; rfl
  · intro hev
    apply hf.mpr
    cases hp : evsOf t σ.sub with
    | nil => rfl
    | cons p ps =>
      exfalso
      rw [hp] at he
      simp only [List.cons_append, List.map_cons, List.cons.injEq] at he
      have hmem : shape ev ∈ rest := by rw [← he.2]; simp
      have := hr _ hmem
      rw [isHdr_shape, hev] at this
      cases this

/-! ### non-vacuity witnesses on a state with BUFFERED data

  The server lowers INITIAL_WINDOW_SIZE to 3, stream 1 is opened and hands over 5 body bytes: 3 go out, 2 are buffered.
  This instantiates the hypotheses of the BufferedH2Connection theorems (`StreamOk`, `CanSubmit`, `c.buf s ≠ []`, `Reach2`,
  `liveS`, `E2 … = false`) and of the C03 glue theorems (`good2_from_httpstream`, `good_from_httpstream`) on concrete,
  non-initial values. -/

def au3 : St :=
  ((St.init.step (.server [.settings none (some 3) none])).step (.client 1 (.hdr false))).step (.client 1 (.data [1, 2, 3, 4, 5]))

private theorem au3_reach2 : Reach2 au3 := by
  refine Reach2.client _ _ _ (Reach2.client _ _ _ (Reach2.server _ _ Reach2.init) ?_ ?_) ?_ ?_
  all_goals first | (unfold Good; decide) | (unfold Good2; decide)

example : au3.conn.out = [.hdr 1 false, .data 1 [1, 2, 3] false] ∧ au3.conn.buf 1 = [⟨[4, 5], false⟩] ∧
    au3.conn.liveS 1 = true ∧ au3.closed = false ∧ alookup 1 au3.ours = some 1 := by decide
-- hypotheses of buffered_bytes_conserved_connection / stream_ok_invariant / trailers_after_data / can_submit_derived
example : StreamOk au3.conn 1 := stream_ok_reachable au3 au3_reach2 1
example : CanSubmit au3.conn 1 := (can_submit_derived au3 au3_reach2 1 1 (by decide) (by decide)).1 (by decide)
example : au3.conn.buf 1 ≠ [] := by decide
example : ((au3.conn.sendTrailers 1).out = au3.conn.out) := (trailers_after_data au3.conn 1 (by decide)).1
-- the conservation statements say something here: 5 bytes held, 3 of them on the wire; a WINDOW_UPDATE moves the rest
example : au3.conn.held 1 = [1, 2, 3, 4, 5] ∧ dataOf 1 au3.conn.out = [1, 2, 3] ∧ dataBytes (fwOf 1 au3) = [1, 2, 3, 4, 5] := by decide
example : dataOf 1 (au3.step (.server [.winUpd 1 10])).conn.out = [1, 2, 3, 4, 5] ∧
    (au3.step (.server [.winUpd 1 10])).conn.buf 1 = [] := by decide
-- … and the model does refuse: the same data on a stream the server has reset is not sent
example : ((au3.step (.server [.reset 1])).step (.client 1 (.data [9]))).conn.out = au3.conn.out := by decide

/-- a run of the C03 model of HttpStream that hands four events to the server connection (head, data, trailers, end) -/
def auH2 : List C03.Ev :=
  [.reqHeaders false 0 .norm false, .reqData 3, .hookDone .requestheaders .pass, .reqTrailers, .reqEOM,
   .hookDone .request .pass, .connDone true]

example : C03.srvEvents (C03.run 0 0 auH2).trace = [.hdr false, .data [], .trailers, .eom] := by decide
-- the hypothesis `hsrc` of good2_from_httpstream / good_from_httpstream holds for au3, next event = trailers
example : Good2 au3 1 .trailers := good2_from_httpstream au3 1 .trailers 0 0 auH2 [.eom] (by decide)
example : Good au3 1 .trailers :=
  good_from_httpstream au3 (reach2_is_reach au3 au3_reach2) (by decide) 1 .trailers 0 0 auH2 [.eom] (by decide)

-- note: the `crashed` flag (KeyError in `their_stream_id[...]`) IS reachable in the model under `Reach`, for a segment
-- hyper-h2 would never report (trailers on a stream id that was never opened); "cannot happen" rests on hyper-h2, not on a theorem
example : (St.init.step (.server [.respTrailers 7])).crashed = true ∧ Reach (St.init.step (.server [.respTrailers 7])) :=
  ⟨by decide, Reach.server _ _ Reach.init⟩

/-! ### streams lost when a received segment closes the connection; when no KeyError can occur -/

/-- … and likewise when it is a RECEIVED SEGMENT that makes the connection go away (GOAWAY, a protocol error, a response
    head mitmproxy refuses): in every reachable state, if handling the segment closes the connection, every stream
    still waiting for a slot is failed.  With `no_stream_lost_on_close` (the transport closing) these are the only two
    inputs that close the connection: a client event never does (`client_event_never_closes`). -/
theorem no_stream_lost_on_segment_close (σ : St) (h : Reach σ) (hc : σ.closed = false) (evs : List SEv)
    (hcl : (σ.step (.server evs)).closed = true) :
    ∀ t ∈ qkeys σ, (t, UpKind.err, none) ∈ (σ.step (.server evs)).up := by
  obtain ⟨_, _, hd⟩ := handled_ok σ evs (reach_inv σ h)
  rw [step_server_eq σ evs hc] at hcl ⊢
  by_cases hcb : (handled σ evs).closed = true
  · simp only [hcb, if_true]
    exact fun t ht => failQueued_fails _ t (by rw [qkeys, (handled_reacted σ evs).same.queue]; exact ht)
  · exfalso
    rw [if_neg hcb] at hcl
    obtain ⟨hdr, hcl2⟩ := hd hc (by simpa using hcb)
    rw [(drain_inv rides_true _ _ hdr trivial hcl2 (Nat.lt_succ_self _)).2] at hcl
    cases hcl

theorem client_event_never_closes (σ : St) (h : Reach σ) (hc : σ.closed = false) (t : Nat) (ev : Ev) (hg : Good σ t ev) :
    (σ.step (.client t ev)).closed = false :=
  (step_client_inv rides_true σ t ev ((reach_inv σ h).live hc) hc hg trivial).2

/-- The `KeyError` branch of the stream-id translation (`crashed`) is never taken in
    any history in which hyper-h2 reports received trailers only for stream ids that were opened on this connection
    (`ReachT` = `Reach` + that one assumption, `TrOk`): every other lookup is guarded by `Http2Connection.streams`, whose
    keys all have a client stream id.  Without the assumption it IS reachable (witness: `.respTrailers 7`
    on a fresh connection) — that hyper-h2 never reports such an event is trusted, and watched by the lock-step `X=` flag. -/
theorem crashed_only_by_unknown_trailers (σ : St) (h : ReachT σ) : σ.crashed = false ∧ Reach σ :=
  ⟨(reachT_c σ h).ok, reachT_reach σ h⟩

end MitmVerif.Props.C05
