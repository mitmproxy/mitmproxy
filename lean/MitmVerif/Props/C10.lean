/-
  C10 — property theorems about the TimeoutWatchdog model, for every schedule of activity,
  nested/overlapping hooks and time passing (induction over the operation list).

  The watcher coroutine is looked at once, in `run_cases`: what `run` (its resumptions after an environment move)
  leaves of a state, whatever the state.  The step-local theorems read it off; `Good` is the invariant of reachable
  states built on it (a pending timer is never late, an armed watchdog has fired or has a timer in the future).
  The second half states the property without the watcher: `Hist` is the bookkeeping the events alone determine,
  and `closed_iff_idle_prefix` says the connection is closed exactly when some prefix of the history is idle.
-/
import MitmVerif.Model.C10
namespace MitmVerif.Props.C10
open MitmVerif.C10

private theorem env_pc (s : St) (o : Op) : (env s o).pc = s.pc := by
  fun_cases env s o <;> rfl

private theorem env_timeout (s : St) (o : Op) : (env s o).timeout = s.timeout := by
  fun_cases env s o <;> rfl

private theorem env_last_le (s : St) (o : Op) (hl : s.last ≤ s.now) : (env s o).last ≤ (env s o).now := by
  fun_cases env s o <;> (try dsimp only) <;> omega

private theorem env_last_mono (s : St) (o : Op) (hl : s.last ≤ s.now) : s.last ≤ (env s o).last := by
  fun_cases env s o <;> (try dsimp only) <;> omega

private theorem env_flag (s : St) (o : Op) (hinv : s.can = true ↔ s.blocker = 0) :
    (env s o).can = true ↔ (env s o).blocker = 0 := by
  fun_cases env s o <;> simp [hinv]
  -- an exit with further hooks pending: the count was neither 0 nor 1
  omega

private theorem run_cases (s : St) :
    (run s).timeout = s.timeout ∧ (run s).now = s.now ∧ (run s).last = s.last ∧
    (run s).blocker = s.blocker ∧ (run s).can = s.can ∧
    ( ((run s).pc = .fired ∧ (s.pc = .fired ∨ (s.can = true ∧ s.last + s.timeout ≤ s.now)))
    ∨ ((run s).pc = .wait ∧ s.can = false)
    ∨ (∃ w, (run s).pc = .sleep w ∧ s.now < w ∧
        (s.pc = .sleep w ∨ (s.can = true ∧ w = s.last + s.timeout))) ) := by
  obtain ⟨to, now, last, bl, can, pc⟩ := s
  cases pc with
  | fired => simp [run, runStep]
  | wait =>
    cases can
    · simp [run, runStep]
    · by_cases h : last + to ≤ now
      · simp [run, runStep, h]
      · have h2 : now + (last + to - now) = last + to := by omega
        simp [run, runStep, h2, h]
        omega
  | sleep w =>
    by_cases hw : w ≤ now
    · cases can
      · simp [run, runStep, hw]
      · by_cases h : last + to ≤ now
        · simp [run, runStep, hw, h]
        · have h2 : now + (last + to - now) = last + to := by omega
          simp [run, runStep, hw, h, h2]
          omega
    · have : now < w := by omega
      simp [run, runStep, hw, this]

/-- the step at which the watchdog fires: `can_timeout` is set after the environment's move and the idle period has run
    out; that no hook is pending then is `env_flag`, which needs the flag/count invariant -/
private theorem fired_step (s : St) (o : Op) (hnf : s.pc ≠ .fired)
    (hf : (step s o).pc = .fired) :
    (env s o).can = true ∧ (step s o).blocker = (env s o).blocker ∧
    (step s o).last + (step s o).timeout ≤ (step s o).now := by
  obtain ⟨h1, h2, h3, h4, _, hpc⟩ := run_cases (env s o)
  simp only [step] at hf ⊢
  rw [h1, h2, h3]
  rcases hpc with ⟨_, h | h⟩ | ⟨h, _⟩ | ⟨w, h, _⟩
  · rw [env_pc] at h; exact absurd h hnf
  · exact ⟨h.1, h4, h.2⟩
  · rw [h] at hf; cases hf
  · rw [h] at hf; cases hf

/-- **never_fires_while_blocked.** A step that turns a not-yet-fired watchdog into a fired one ends
    with `blocker = 0`: no hook is pending at the moment the connection is closed for inactivity. -/
theorem never_fires_while_blocked (s : St) (o : Op)
    (hinv : s.can = true ↔ s.blocker = 0) (hto : 0 < s.timeout) (hl : s.last ≤ s.now)
    (hnf : s.pc ≠ .fired) (hf : (step s o).pc = .fired) : (step s o).blocker = 0 := by
  -- `hto` and `hl` are not needed: `run_cases` holds in every state, for a zero timeout as well
  obtain ⟨hc, hb, _⟩ := fired_step s o hnf hf
  rw [hb]
  exact (env_flag s o hinv).mp hc

/-- **active_not_closed.** When the watchdog fires, at least `timeout` ticks have passed since the
    last registered activity / last hook completion: a connection with activity within the timeout
    is not closed. -/
theorem active_not_closed (s : St) (o : Op) (hto : 0 < s.timeout) (hl : s.last ≤ s.now)
    (hnf : s.pc ≠ .fired) (hf : (step s o).pc = .fired) :
    (step s o).last + (step s o).timeout ≤ (step s o).now :=
  (fired_step s o hnf hf).2.2

/-- the invariant of reachable states -/
structure Good (to : Nat) (s : St) : Prop where
  flag   : s.can = true ↔ s.blocker = 0
  clock  : s.last ≤ s.now
  tmo    : s.timeout = to
  timer  : ∀ w, s.pc = .sleep w → w ≤ s.last + s.timeout          -- a pending timer is never late
  armed  : s.can = true → s.pc = .fired ∨ ∃ w, s.pc = .sleep w ∧ s.now < w

private theorem start_eq (to : Nat) (hto : 0 < to) : start to = { init to with pc := .sleep to } := by
  have h : ¬ (to ≤ 0) := by omega
  simp [start, run, runStep, init, h]

private theorem good_start (to : Nat) (hto : 0 < to) : Good to (start to) := by
  rw [start_eq to hto]
  constructor <;> simp [init]
  omega

private theorem good_step (to : Nat) (s : St) (o : Op) (g : Good to s) :
    Good to (step s o) := by
  obtain ⟨h1, h2, h3, h4, h5, hpc⟩ := run_cases (env s o)
  have hmono := env_last_mono s o g.clock
  simp only [step]
  constructor
  · rw [h5, h4]; exact env_flag s o g.flag
  · rw [h3, h2]; exact env_last_le s o g.clock
  · rw [h1, env_timeout]; exact g.tmo
  · intro w hw
    rw [h3, h1]
    rcases hpc with ⟨h, _⟩ | ⟨h, _⟩ | ⟨w', h, _, hsrc⟩
    · rw [h] at hw; cases hw
    · rw [h] at hw; cases hw
    · rw [h] at hw; cases hw
      rcases hsrc with hs | ⟨_, hs⟩
      · rw [env_pc] at hs
        have := g.timer w hs
        rw [env_timeout]; omega
      · omega
  · intro hcan
    rw [h5] at hcan
    rcases hpc with ⟨h, _⟩ | ⟨_, h⟩ | ⟨w', h, hlt, _⟩
    · left; exact h
    · rw [h] at hcan; cases hcan
    · right; exact ⟨w', h, by rw [h2]; exact hlt⟩

/-- every state reachable by any schedule satisfies the invariant -/
theorem reachable_good (to : Nat) (hto : 0 < to) (ops : List Op) : Good to (exec (start to) ops) :=
  List.foldlRecOn (motive := Good to) ops step (good_start to hto) fun s g o _ => good_step to s o g

/-- **never_fires_while_blocked, for whole schedules.** Along every schedule from the initial state,
    the step at which the watchdog fires (if any) ends with no hook pending. -/
theorem never_fires_while_blocked_reach (to : Nat) (hto : 0 < to) (ops : List Op) (o : Op)
    (hnf : (exec (start to) ops).pc ≠ .fired)
    (hf : (step (exec (start to) ops) o).pc = .fired) :
    (step (exec (start to) ops) o).blocker = 0 := by
  have g := reachable_good to hto ops
  exact never_fires_while_blocked _ o g.flag (by rw [g.tmo]; exact hto) g.clock hnf hf

/-- **idle_closes.** In every reachable state with no hook pending, once `timeout` ticks have passed
    since the last activity the watchdog has fired (the connection is closed). -/
theorem idle_closes (to : Nat) (hto : 0 < to) (ops : List Op)
    (hb : (exec (start to) ops).blocker = 0)
    (hidle : (exec (start to) ops).last + (exec (start to) ops).timeout ≤ (exec (start to) ops).now) :
    (exec (start to) ops).pc = .fired := by
  have g := reachable_good to hto ops
  rcases g.armed (g.flag.mpr hb) with h | ⟨w, hw, hlt⟩
  · exact h
  · have := g.timer w hw; omega

/-- **restart_after_last_hook.** When the last pending hook completes the idle period restarts: the
    completion itself never fires the watchdog, and `last_activity` is the completion time. -/
theorem restart_after_last_hook (s : St) (hto : 0 < s.timeout) (hb : s.blocker = 1)
    (hc : s.can = false) (hnf : s.pc ≠ .fired) :
    (step s .exit).last = s.now ∧ (step s .exit).blocker = 0 ∧ (step s .exit).pc ≠ .fired := by
  have he : env s .exit = { s with blocker := 0, last := s.now, can := true } := by simp [env, hb]
  obtain ⟨_, _, h3, h4, _, hpc⟩ := run_cases (env s .exit)
  simp only [step]
  refine ⟨by rw [h3, he], by rw [h4, he], fun hf => ?_⟩
  rcases hpc with ⟨_, h | ⟨_, h⟩⟩ | ⟨h, _⟩ | ⟨w, h, _⟩
  · rw [env_pc] at h; exact hnf h
  · rw [he] at h; simp only at h; omega
  · rw [h] at hf; cases hf
  · rw [h] at hf; cases hf

/-- what a history of environment events says by itself (no watcher): the clock, the time of the last activity or
    last-hook completion, and the number of hooks in progress -/
structure Hist where
  now : Nat
  last : Nat
  pending : Nat
  deriving DecidableEq, Repr

def Hist.step (h : Hist) : Op → Hist
  | .activity => { h with last := h.now }
  | .enter => { h with pending := h.pending + 1 }
  | .exit =>
    if h.pending = 0 then h
    else if h.pending = 1 then { h with pending := 0, last := h.now }
    else { h with pending := h.pending - 1 }
  | .tick d => { h with now := h.now + d }

def hist (ops : List Op) : Hist := ops.foldl Hist.step ⟨0, 0, 0⟩

def IdleAt (to : Nat) (ops : List Op) : Prop := (hist ops).pending = 0 ∧ (hist ops).last + to ≤ (hist ops).now

private def absH (s : St) : Hist := ⟨s.now, s.last, s.blocker⟩

private theorem absH_step (s : St) (o : Op) : absH (step s o) = (absH s).step o := by
  obtain ⟨_, h2, h3, h4, _, _⟩ := run_cases (env s o)
  simp only [absH, step, h2, h3, h4]
  fun_cases env s o <;> simp [Hist.step, *]

private theorem absH_exec (ops : List Op) (s : St) : absH (exec s ops) = ops.foldl Hist.step (absH s) :=
  (List.foldl_hom absH fun s o => (absH_step s o).symm).symm

/-- **exec_hist.** The watcher never disturbs the bookkeeping: clock, last event and pending count of every reachable
    state are those the history alone determines. -/
theorem exec_hist (to : Nat) (hto : 0 < to) (ops : List Op) :
    (exec (start to) ops).now = (hist ops).now ∧ (exec (start to) ops).last = (hist ops).last ∧
    (exec (start to) ops).blocker = (hist ops).pending := by
  have key : absH (exec (start to) ops) = hist ops := by
    rw [absH_exec, start_eq to hto]; rfl
  exact ⟨congrArg Hist.now key, congrArg Hist.last key, congrArg Hist.pending key⟩

private theorem run_fired (s : St) (h : s.pc = .fired) : (run s).pc = .fired := by
  obtain ⟨to, now, last, bl, can, pc⟩ := s
  subst h
  simp [run, runStep]

private theorem exec_fired (s : St) (ops : List Op) (h : s.pc = .fired) : (exec s ops).pc = .fired :=
  List.foldlRecOn (motive := fun s => s.pc = .fired) ops step h fun s h o _ => run_fired _ ((env_pc s o).trans h)

/-- a schedule that ends fired from a state that is not has a firing step, and the state right after it is idle -/
private theorem first_fired (to : Nat) : ∀ (ops : List Op) (s : St), Good to s → s.pc ≠ .fired →
    (exec s ops).pc = .fired → ∃ k, k ≤ ops.length ∧ (exec s (ops.take k)).blocker = 0 ∧
      (exec s (ops.take k)).last + (exec s (ops.take k)).timeout ≤ (exec s (ops.take k)).now
  | [], _, _, hnf, hf => absurd hf hnf
  | o :: ops, s, g, hnf, hf => by
    by_cases hp : (step s o).pc = .fired
    · obtain ⟨hc, hb, hi⟩ := fired_step s o hnf hp
      exact ⟨1, Nat.succ_le_succ (Nat.zero_le _), hb.trans ((env_flag s o g.flag).mp hc), hi⟩
    · obtain ⟨k, hk, h⟩ := first_fired to ops (step s o) (good_step to s o g) hp hf
      exact ⟨k + 1, Nat.succ_le_succ hk, h⟩

/-- idleness of a history, read in the state the history leads to -/
private theorem idleAt_iff (to : Nat) (hto : 0 < to) (ops : List Op) :
    IdleAt to ops ↔ (exec (start to) ops).blocker = 0 ∧
      (exec (start to) ops).last + (exec (start to) ops).timeout ≤ (exec (start to) ops).now := by
  obtain ⟨h1, h2, h3⟩ := exec_hist to hto ops
  rw [h1, h2, h3, (reachable_good to hto ops).tmo]
  exact Iff.rfl

/-- **closed_iff_idle_prefix.** For every schedule: the connection has been closed for inactivity exactly when, at some
    point of the history, no hook was in progress and `timeout` ticks had passed since the last activity or the last
    hook completion.  The four clauses of the property in one statement: idle ⇒ closed and active ⇒ not closed are the
    two directions; never while a hook is pending is the clause `pending = 0` of `IdleAt`; the restart at the last hook
    completion is `Hist.step` setting `last` at the exit that brings `pending` to 0. -/
theorem closed_iff_idle_prefix (to : Nat) (hto : 0 < to) (ops : List Op) :
    (exec (start to) ops).pc = .fired ↔ ∃ k, k ≤ ops.length ∧ IdleAt to (ops.take k) := by
  simp only [idleAt_iff to hto]
  constructor
  · exact first_fired to ops _ (good_start to hto) (by rw [start_eq to hto]; simp)
  · rintro ⟨k, _, hb, hi⟩
    have e : exec (start to) ops = exec (exec (start to) (ops.take k)) (ops.drop k) := by
      simp only [exec, ← List.foldl_append, List.take_append_drop]
    rw [e]
    exact exec_fired _ _ (idle_closes to hto (ops.take k) hb hi)

/-- **not_closed_while_never_idle.** A connection whose history was never idle — every gap shorter than the timeout or
    bridged by a pending hook — is still open. -/
theorem not_closed_while_never_idle (to : Nat) (hto : 0 < to) (ops : List Op)
    (h : ∀ k, k ≤ ops.length → ¬ IdleAt to (ops.take k)) : (exec (start to) ops).pc ≠ .fired := by
  intro hf
  obtain ⟨k, hk, hi⟩ := (closed_iff_idle_prefix to hto ops).mp hf
  exact h k hk hi

instance (to : Nat) (ops : List Op) : Decidable (IdleAt to ops) := by unfold IdleAt; infer_instance

-- non-vacuity: a hook bridging the deadline keeps every prefix non-idle; one more idle period closes
example : ∀ k, k ≤ 5 → ¬ IdleAt 4 ([Op.tick 3, .enter, .tick 2, .exit, .tick 3].take k) := by decide
example : IdleAt 4 [Op.tick 3, .enter, .tick 2, .exit, .tick 4] := by decide

-- non-vacuity: concrete schedules on which the guards hold and the conclusions are informative
example : (exec (start 4) [.tick 3, .enter, .tick 2]).pc = .wait ∧
          (exec (start 4) [.tick 3, .enter, .tick 2]).blocker = 1 := by decide   -- hook spans the deadline: not fired
example : (exec (start 4) [.tick 3, .enter, .tick 2, .exit, .tick 3]).pc ≠ .fired := by decide
example : (exec (start 4) [.tick 3, .enter, .tick 2, .exit, .tick 4]).pc = .fired := by decide
example : (exec (start 4) [.tick 3, .activity, .tick 3]).pc ≠ .fired ∧
          (exec (start 4) [.tick 3, .activity, .tick 4]).pc = .fired := by decide

-- the guards of the step-local theorems are jointly satisfiable on reachable states
-- never_fires_while_blocked / active_not_closed: a reachable non-fired state and a step that fires
example : ∃ (s : St) (o : Op), (s.can = true ↔ s.blocker = 0) ∧ 0 < s.timeout ∧ s.last ≤ s.now ∧ s.pc ≠ .fired ∧
    (step s o).pc = .fired :=
  ⟨exec (start 4) [.tick 3, .activity, .tick 3], .tick 1, by decide⟩
-- ... also right after hooks were pending (the firing step is a tick after the last exit)
example : ∃ (s : St) (o : Op), (s.can = true ↔ s.blocker = 0) ∧ s.pc ≠ .fired ∧ (step s o).pc = .fired ∧ s.last = 5 :=
  ⟨exec (start 4) [.tick 3, .enter, .enter, .tick 2, .exit, .exit], .tick 4, by decide⟩
-- restart_after_last_hook: its guards hold on a reachable state whose `last` is stale, so `last = now` is informative
example : ∃ s : St, 0 < s.timeout ∧ s.blocker = 1 ∧ s.can = false ∧ s.pc ≠ .fired ∧ s.last + s.timeout ≤ s.now ∧
    (step s .exit).last = s.now ∧ (step s .exit).pc ≠ .fired :=
  ⟨exec (start 4) [.tick 3, .enter, .tick 2], by decide⟩
-- idle_closes: both guards hold on a reachable state
example : (exec (start 4) [.tick 3, .enter, .tick 2, .exit, .tick 4]).blocker = 0 ∧
    (exec (start 4) [.tick 3, .enter, .tick 2, .exit, .tick 4]).last + (exec (start 4) [.tick 3, .enter, .tick 2, .exit, .tick 4]).timeout
      ≤ (exec (start 4) [.tick 3, .enter, .tick 2, .exit, .tick 4]).now := by decide
-- only the LAST exit restarts the idle period: with two hooks pending, one exit leaves the watchdog blocked past any deadline
example : (exec (start 4) [.enter, .enter, .tick 5, .exit, .tick 5]).pc ≠ .fired ∧
    (exec (start 4) [.enter, .enter, .tick 5, .exit, .tick 5]).blocker = 1 ∧
    (exec (start 4) [.enter, .enter, .tick 5, .exit, .tick 5, .exit]).pc ≠ .fired ∧
    (exec (start 4) [.enter, .enter, .tick 5, .exit, .tick 5, .exit, .tick 4]).pc = .fired := by decide
-- activity while a hook is pending does not re-arm the watchdog, and a tick of 0 never fires an open connection early
example : (exec (start 4) [.enter, .tick 9, .activity, .tick 9]).pc ≠ .fired ∧
    (exec (start 4) [.tick 3, .tick 0]).pc ≠ .fired := by decide

end MitmVerif.Props.C10
