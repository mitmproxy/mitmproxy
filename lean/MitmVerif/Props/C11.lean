/-
  C11 — intercepted flows are held until resumed, killed flows are never forwarded.
  Theorems about `Model/C11.lean`, for ALL schedules of message arrivals and hook completions (any number of
  messages, any verdicts), all protocol kinds, and all sequences of intercept/resume/kill/hook operations; and about
  their product (`prun`), in which a hook completion reaches the layer only after the hook task has returned from
  `wait_for_resume`: `intercepted_message_held` is the clause "while a flow is intercepted nothing of it is sent".

  The run-form layer theorems all rest on `run_sublist`: message ids only move forward, from the arrivals into `held`
  and from the head of `held` into the `settled` ones (forwarded, or ended with an error), so with distinct arrivals
  nothing is forwarded twice, while held, or once it has ended with an error.  The `Flow` theorems rest on the invariant
  `J` (a hook task waits only while the flow is intercepted and its resume event is not set).  The product has two
  projections, `prun_refines_run` and `prun_refines_runA`, through which the layer and `Flow` theorems hold of product
  runs; what is proper to it is `blocked_step`: `deliver` is disabled while the pending hook's task waits.
-/
import MitmVerif.Model.C11
namespace MitmVerif.Props.C11
open MitmVerif.C11

/-- the ids of the messages a layer still holds: the one whose hook is pending, then the queued ones -/
def held (s : L) : List Nat :=
  (match s.paused with | some m => [m.id] | none => []) ++ s.queue.map (·.id)

/-- `Layer` only queues while it is paused -/
def WF (s : L) : Prop := s.paused = none → s.queue = []

private theorem afterHook_cases (k : Kind) (s : L) (m : Msg) (v : Verdict) :
    afterHook k s m v = [.error m.id] ∨ afterHook k s m v = [] ∨ afterHook k s m v = [.send m.id v.content] := by
  fun_cases afterHook k s m v <;> simp

private theorem step_complete (k : Kind) (s : L) (m : Msg) (v : Verdict) (h : s.paused = some m) :
    (step k s (.complete v)).2 = afterHook k s m v ++ (s.queue.head?.map (Out.hook ·.id)).toList := by
  simp only [step, h]
  cases s.queue <;> simp

private theorem held_of_paused {s : L} {m : Msg} (h : s.paused = some m) : held s = m.id :: s.queue.map (·.id) := by
  simp [held, h]

private theorem wf_step (k : Kind) (s : L) (i : In) (h : WF s) : WF (step k s i).1 := by
  fun_cases step k s i <;> simp_all [WF]

private theorem held_step (k : Kind) (s : L) (i : In) (hw : WF s) :
    held (step k s i).1 = match i with
      | .arrive m => held s ++ [m.id]
      | .complete _ => (held s).tail
      | .close _ _ => held s := by
  fun_cases step k s i <;> simp_all [WF, held]

/-- the ids of the messages a list of outputs settles (forwards, or ends with an error), oldest first -/
def settled (os : List Out) : List Nat := os.filterMap fun | .send id _ => some id | .error id => some id | .hook _ => none

private theorem mem_settled {os : List Out} {id c : Nat} (h : Out.send id c ∈ os) : id ∈ settled os :=
  List.mem_filterMap.2 ⟨_, h, rfl⟩

private theorem settled_append (a b : List Out) : settled (a ++ b) = settled a ++ settled b := List.filterMap_append

private theorem settled_hook (o : Option Msg) : settled (o.map (Out.hook ·.id)).toList = [] := by cases o <;> rfl

private theorem settled_afterHook (k : Kind) (s : L) (m : Msg) (v : Verdict) :
    (settled (afterHook k s m v)).Sublist [m.id] := by
  rcases afterHook_cases k s m v with e | e | e <;> rw [e]
  · exact List.Sublist.refl _
  · exact List.nil_sublist _
  · exact List.Sublist.refl _

/-- a message is settled one way only: where the settled ids are distinct, one that ends with an error is not forwarded -/
private theorem settled_once {os : List Out} (hn : (settled os).Nodup) {id : Nat} (he : Out.error id ∈ os) (c : Nat) :
    Out.send id c ∉ os := by
  obtain ⟨a, b, rfl⟩ := List.append_of_mem he
  rw [settled_append] at hn
  obtain ⟨-, hb, hab⟩ := List.nodup_append.1 hn
  intro hs
  rcases List.mem_append.1 hs with h | h
  · exact hab _ (mem_settled h) _ List.mem_cons_self rfl
  · exact (List.nodup_cons.1 hb).1 (mem_settled ((List.mem_cons.1 h).resolve_left nofun))

private theorem length_filter_isSendOf (os : List Out) (id : Nat) :
    (os.filter (Out.isSendOf id)).length ≤ (settled os).count id := by
  rw [settled, List.count_filterMap, ← List.countP_eq_length_filter]
  exact List.countP_mono_left fun o _ => by cases o <;> simp [Out.isSendOf]

/-- **held while intercepted** (step form): whatever the state and the input, a `send` is only ever emitted for the
    message whose hook was pending, in the very step that completes that hook, and with the content the verdict
    carries.  In particular nothing is sent for a message between the start of its hook and its completion, and
    nothing is sent for the messages queued behind it. -/
theorem held_while_intercepted (k : Kind) (s : L) (i : In) (id c : Nat) (h : Out.send id c ∈ (step k s i).2) :
    ∃ m v, s.paused = some m ∧ m.id = id ∧ i = .complete v ∧ c = v.content := by
  cases i with
  | arrive m => cases hp : s.paused <;> simp [step, hp] at h
  | close kl gn => cases h
  | complete v =>
    cases hp : s.paused with
    | none => simp [step, hp] at h
    | some m =>
      rw [step_complete k s m v hp, List.mem_append] at h
      rcases h with h | h
      · rcases afterHook_cases k s m v with e | e | e <;> simp [e] at h
        exact ⟨m, v, rfl, h.1.symm, rfl, h.2⟩
      · cases s.queue.head? <;> simp at h

/-- an arrival never changes which message is pending: the intercepted message stays held until its completion -/
theorem arrival_keeps_pending (k : Kind) (s : L) (m n : Msg) (h : s.paused = some m) :
    (step k s (.arrive n)).1.paused = some m ∧ (step k s (.arrive n)).2 = [] := by
  simp [step, h]

/-- one step moves ids only forward: an arriving id joins the end of `held`, a completion takes the head of `held`
    away and settles at most that -/
private theorem step_sublist (k : Kind) (s : L) (i : In) (hw : WF s) (is : List In) :
    (settled (step k s i).2 ++ (held (step k s i).1 ++ arrivals is)).Sublist (held s ++ arrivals (i :: is)) := by
  rw [held_step k s i hw]
  obtain ⟨p, q, r, g⟩ := s
  cases i with
  | close kl gn => exact .refl _
  | arrive m => cases p <;> (rw [List.append_assoc]; exact .refl _)
  | complete v =>
    cases p with
    | none => exact (List.tail_sublist _).append_right _
    | some m =>
      rw [step_complete k _ m v rfl, settled_append, settled_hook, held_of_paused rfl, List.append_nil]
      exact (settled_afterHook ..).append_right _

/-- what a schedule settles, followed by what is held at its end, is a sub-list of what was held at its start followed
    by what arrived; and every reachable layer state is well-formed -/
private theorem run_sublist (k : Kind) (ins : List In) (s : L) (hw : WF s) :
    WF (run k s ins).1 ∧ (settled (run k s ins).2 ++ held (run k s ins).1).Sublist (held s ++ arrivals ins) := by
  induction ins generalizing s with
  | nil => exact ⟨hw, by simp [run, settled, arrivals]⟩
  | cons i is ih =>
    obtain ⟨hw', h⟩ := ih _ (wf_step k s i hw)
    refine ⟨hw', ?_⟩
    simp only [run, settled_append, List.append_assoc]
    exact (h.append_left _).trans (step_sublist k s i hw is)

private theorem run_settled_nodup (k : Kind) (ins : List In) (s : L) (hw : WF s) (hn : (held s ++ arrivals ins).Nodup) :
    (settled (run k s ins).2).Nodup :=
  ((List.sublist_append_left ..).trans (run_sublist k ins s hw).2).nodup hn

/-- **held while intercepted** (run form): in every schedule with distinct message ids, a message that is still held
    when the schedule ends (its hook is pending or it is queued behind a pending hook) has never been sent. -/
theorem held_never_sent (k : Kind) (ins : List In) (hn : (arrivals ins).Nodup) (id : Nat)
    (hh : id ∈ held (run k {} ins).1) (c : Nat) : Out.send id c ∉ (run k {} ins).2 :=
  fun hc => (List.nodup_append.1 ((run_sublist k ins {} fun _ => rfl).2.nodup hn)).2.2 _ (mem_settled hc) _ hh rfl

/-- **resume forwards once** (step form): completing the hook of a message that was not killed (or whose layer does
    not consult the kill) and not dropped forwards exactly that message, once, with the content it has at
    completion time (i.e. including the user's edits). -/
theorem resume_forwards_edited (k : Kind) (s : L) (m : Msg) (v : Verdict)
    (hk : (k.honoursKill && (v.killed || (k == .http && s.remoteKill))) = false) (hg : s.gone = false)
    (hd : (k == .ws && v.dropped) = false) :
    afterHook k s m v = [.send m.id v.content] := by
  simp only [afterHook, hk, hg, hd]; rfl

/-- **resume forwards once** (run form): in every schedule with distinct message ids, every message is forwarded
    at most once. -/
theorem resume_forwards_once (k : Kind) (ins : List In) (hn : (arrivals ins).Nodup) (id : Nat) :
    ((run k {} ins).2.filter (Out.isSendOf id)).length ≤ 1 :=
  Nat.le_trans (length_filter_isSendOf ..) (List.nodup_iff_count.1 (run_settled_nodup k ins {} (fun _ => rfl) hn) id)

/-- in every schedule with distinct message ids, from any well-formed state, a message that ends with an error is never
    forwarded: not before, not at the completion, not later.  (The conclusion repeats the premise, so that the kill
    theorems below are instances as they stand.) -/
private theorem errored_never_sent (k : Kind) (ins : List In) (s : L) (hw : WF s) (hn : (held s ++ arrivals ins).Nodup)
    {id : Nat} (he : Out.error id ∈ (run k s ins).2) :
    (∀ c, Out.send id c ∉ (run k s ins).2) ∧ Out.error id ∈ (run k s ins).2 :=
  ⟨settled_once (run_settled_nodup k ins s hw hn) he, he⟩

private theorem complete_emits_error (k : Kind) (s : L) (m : Msg) (hp : s.paused = some m) (v : Verdict)
    (he : afterHook k s m v = [.error m.id]) (ins : List In) : Out.error m.id ∈ (run k s (.complete v :: ins)).2 := by
  simp [run, step_complete k s m v hp, he]

/- The full statement — "killing the flow sends nothing further for it and ends it with an error" — for EVERY kind:
     ∀ k s m v ins, s.paused = some m → v.killed →
       (∀ c, send m.id c ∉ (run k s (.complete v :: ins)).2) ∧ error m.id ∈ (run k s (.complete v :: ins)).2
   holds for the layers whose send-after-hook step consults the kill (HTTP, DNS queries) and is FALSE for TCP, UDP,
   WebSocket and DNS answers in the current code (findings F-C11a–d): see the counterexample below. -/

/-- **kill forwards nothing and errors** for the layers that consult the kill: from ANY state in which the message's
    hook is pending, once the flow is killed and the hook completes, the message is never sent — not at completion,
    not later, whatever else arrives — and the flow ends with an error. -/
theorem kill_forwards_nothing_and_errors_partial (k : Kind) (hk : k.honoursKill = true) (s : L) (hw : WF s) (m : Msg)
    (hp : s.paused = some m) (v : Verdict) (hv : v.killed = true) (ins : List In)
    (hn : (held s ++ arrivals ins).Nodup) :
    (∀ c, Out.send m.id c ∉ (run k s (.complete v :: ins)).2) ∧ Out.error m.id ∈ (run k s (.complete v :: ins)).2 :=
  errored_never_sent k (.complete v :: ins) s hw hn (complete_emits_error k s m hp v (by simp [afterHook, hk, hv]) ins)

/-- a close of the source that the layer treats as a kill (HTTP requests: `check_killed` finds the
    RequestProtocolError in the paused-event queue) marks the held message, and changes nothing else -/
theorem remote_close_marks_held (s : L) (hw : WF s) (m : Msg) (hp : s.paused = some m) (gone : Bool) :
    (step .http s (.close true gone)).1.paused = some m ∧ (step .http s (.close true gone)).1.remoteKill = true ∧
    WF (step .http s (.close true gone)).1 ∧ held (step .http s (.close true gone)).1 = held s ∧
    (step .http s (.close true gone)).2 = [] :=
  ⟨hp, by simp [step, hp], hw, rfl, rfl⟩

/-- …and a message so marked is never forwarded: its flow ends with an error when the hook completes, whatever the
    user's verdict (resume, edit) was. -/
theorem remote_close_kills_held (s : L) (hw : WF s) (m : Msg) (hp : s.paused = some m) (hr : s.remoteKill = true)
    (v : Verdict) (ins : List In) (hn : (held s ++ arrivals ins).Nodup) :
    (∀ c, Out.send m.id c ∉ (run .http s (.complete v :: ins)).2) ∧ Out.error m.id ∈ (run .http s (.complete v :: ins)).2 :=
  errored_never_sent .http (.complete v :: ins) s hw hn
    (complete_emits_error .http s m hp v (by simp [afterHook, Kind.honoursKill, hr]) ins)

private theorem run_append (k : Kind) (a b : List In) (s : L) :
    run k s (a ++ b) = ((run k (run k s a).1 b).1, (run k s a).2 ++ (run k (run k s a).1 b).2) := by
  induction a generalizing s with
  | nil => rfl
  | cons i a ih => simp only [List.cons_append, run, ih, List.append_assoc]

private theorem arrivals_append (a b : List In) : arrivals (a ++ b) = arrivals a ++ arrivals b := by
  induction a with
  | nil => rfl
  | cons i a ih => cases i <;> simp only [List.cons_append, arrivals, ih]

/-- **kill forwards nothing and errors** — whole-history form, PARTIAL: only for the layers whose send-after-hook step
    consults the kill (HTTP, DNS queries; 2 of the 6 kinds — for the other four the clause is false, see `_iff` and
    `_counterexample`).  In EVERY history from the initial state with distinct message ids, if the flow is killed
    while the hook of message `m` is pending, then `m` is never sent — not before (it was held), not when the hook
    completes, not afterwards, whatever else arrives — and the flow ends with an error.  No hypothesis on the state:
    well-formedness and distinctness of what is held are derived from the history. -/
theorem kill_forwards_nothing_and_errors_history_partial (k : Kind) (hk : k.honoursKill = true) (ins1 ins2 : List In) (m : Msg)
    (v : Verdict) (hv : v.killed = true) (hp : (run k {} ins1).1.paused = some m)
    (hn : (arrivals (ins1 ++ .complete v :: ins2)).Nodup) :
    (∀ c, Out.send m.id c ∉ (run k {} (ins1 ++ .complete v :: ins2)).2) ∧
    Out.error m.id ∈ (run k {} (ins1 ++ .complete v :: ins2)).2 := by
  refine errored_never_sent k _ {} (fun _ => rfl) hn ?_
  rw [run_append]
  exact List.mem_append_right _ (complete_emits_error k _ m hp v (by simp [afterHook, hk, hv]) ins2)

/-- TCP, UDP, WebSocket messages and DNS answers are forwarded although the flow was killed while intercepted -/
theorem kill_forwards_nothing_and_errors_counterexample :
    ∀ k ∈ [Kind.tcp, Kind.udp, Kind.ws, Kind.dnsResp],
      Out.send 1 7 ∈ (run k {} [.arrive ⟨1, 7⟩, .complete ⟨true, false, 7⟩]).2 := by decide

/-- **the kill clause at full strength, exactly where the code allows it**: a layer kind satisfies the whole-history
    kill statement if and only if its send-after-hook step consults the kill.  (HTTP and DNS queries do; TCP, UDP,
    WebSocket and DNS answers do not — findings F-C11a–d.) -/
theorem kill_forwards_nothing_and_errors_iff (k : Kind) :
    (∀ (ins1 ins2 : List In) (m : Msg) (v : Verdict), v.killed = true → (run k {} ins1).1.paused = some m →
        (arrivals (ins1 ++ .complete v :: ins2)).Nodup →
        (∀ c, Out.send m.id c ∉ (run k {} (ins1 ++ .complete v :: ins2)).2) ∧
          Out.error m.id ∈ (run k {} (ins1 ++ .complete v :: ins2)).2)
    ↔ k.honoursKill = true := by
  refine ⟨fun h => ?_, kill_forwards_nothing_and_errors_history_partial k⟩
  have h7 := (h [.arrive ⟨1, 7⟩] [] ⟨1, 7⟩ ⟨true, false, 7⟩ rfl rfl (by decide)).1 7
  cases k with
  | http => rfl
  | dnsReq => rfl
  | _ => exact absurd (kill_forwards_nothing_and_errors_counterexample _ (by decide)) h7

private theorem get_set_same (p : P) (key : Nat) (l : L) : (p.set key l).get key = l := by
  simp [P.get, P.set]

private theorem get_set_other (p : P) (key key' : Nat) (l : L) (h : key' ≠ key) : (p.set key l).get key' = p.get key' := by
  simp only [P.get, P.set]
  rw [List.find?_cons_of_neg (by simp [Ne.symm h]), List.find?_filter]
  congr 2
  funext x
  by_cases hx : x.1 = key' <;> simp [hx, h]

/-- **siblings progress**: an event for one child is handled by that child alone — its outputs are exactly the
    child's own, and every other child (in particular one that is paused on an intercepted message) is untouched. -/
theorem siblings_progress (k : Kind) (p : P) (j : Nat) (i : In) :
    (stepP k p j i).2 = (step k (p.get j) i).2 ∧
    ((stepP k p j i).1.get j = (step k (p.get j) i).1) ∧
    ∀ j', j' ≠ j → (stepP k p j i).1.get j' = p.get j' :=
  ⟨rfl, get_set_same _ _ _, fun _ h => get_set_other _ _ _ _ h⟩

/-- …hence while child `i` holds an intercepted message, an idle sibling `j` does a complete exchange: its hook
    fires at once, its message is forwarded when its own hook completes, and `i` is still holding its message. -/
theorem sibling_exchange_while_held (k : Kind) (p : P) (i j : Nat) (hij : i ≠ j) (m n : Msg) (v : Verdict)
    (hi : (p.get i).paused = some m) (hj : p.get j = {}) :
    (runP k p [(j, .arrive n), (j, .complete v)]).2 = [.hook n.id] ++ afterHook k {} n v ∧
    ((runP k p [(j, .arrive n), (j, .complete v)]).1.get i).paused = some m := by
  have s1 := siblings_progress k p j (.arrive n)
  have s2 := siblings_progress k (stepP k p j (.arrive n)).1 j (.complete v)
  simp only [runP, List.append_nil]
  refine ⟨?_, ?_⟩
  · rw [s1.1, s2.1, s1.2.1, hj]; rfl
  · rw [s2.2.2 i hij, s1.2.2 i hij]; exact hi

/-- the state of the flow explains every blocked hook: a hook task waits only while the flow is intercepted and its
    resume event exists and is not set; and an intercepted flow never has its event set -/
def J (a : A) : Prop :=
  (a.f.intercepted = true → a.f.event ≠ some true) ∧
  (∀ t ∈ a.tasks, t = Task.waiting → a.f.intercepted = true ∧ a.f.event = some false)

private theorem wait_of_not_intercepted (f : F) (h : f.intercepted = false) : f.wait = (f, .done) := by
  simp [F.wait, h]

private theorem wait_of_intercepted (f : F) (h : f.intercepted = true) (he : f.event ≠ some true) :
    f.wait = ({ f with event := some false }, .waiting) := by
  obtain ⟨i, e, r, l⟩ := f
  cases e <;> simp_all [F.wait]

private theorem intercept_event (f : F) (h : f.intercepted = true → f.event ≠ some true) : f.intercept.event ≠ some true := by
  unfold F.intercept
  split
  · exact h ‹_›
  · cases f.event <;> simp

private theorem intercept_intercepted (f : F) : f.intercept.intercepted = true := by
  unfold F.intercept
  split <;> simp [*]

/-- a starting hook task returns at once if the flow is not intercepted (by the addon now, or before); otherwise it
    blocks, on an intercepted flow whose resume event exists and is not set -/
private theorem stepA_hook (a : A) (h : J a) (ai : Bool) :
    if ai = true ∨ a.f.intercepted = true
    then ∃ g : F, g.intercepted = true ∧ stepA a (.hook ai) = ⟨{ g with event := some false }, a.tasks ++ [.waiting]⟩
    else stepA a (.hook ai) = ⟨a.f, a.tasks ++ [.done]⟩ := by
  cases ai with
  | false =>
    cases hi : a.f.intercepted with
    | false => simp [stepA, wait_of_not_intercepted _ hi]
    | true => exact ⟨_, hi, by simp [stepA, wait_of_intercepted _ hi (h.1 hi)]⟩
  | true =>
    have hi := intercept_intercepted a.f
    exact ⟨_, hi, by simp [stepA, wait_of_intercepted _ hi (intercept_event _ h.1)]⟩

/-- a hook task that starts while the addon intercepts the flow, or while the flow is intercepted already, blocks -/
theorem intercepting_hook_blocks (a : A) (hJ : J a) (ai : Bool) (h : ai = true ∨ a.f.intercepted = true) :
    (stepA a (.hook ai)).tasks.getLast? = some Task.waiting ∧ (stepA a (.hook ai)).f.intercepted = true := by
  have := stepA_hook a hJ ai
  rw [if_pos h] at this
  obtain ⟨g, hg, e⟩ := this
  rw [e]
  exact ⟨List.getLast?_concat, hg⟩

/-- if the resume event is set in `f` (the flow after `resume`/`kill`) whenever the flow was blocking a hook, no task
    is left waiting -/
private theorem wake_done (a : A) (h : J a) (f : F)
    (hf : a.f.intercepted = true → a.f.event = some false → f.event = some true) : ∀ t ∈ wake f a.tasks, t = .done := by
  intro t ht
  unfold wake at ht
  split at ht
  · obtain ⟨_, _, rfl⟩ := List.mem_map.1 ht
    rfl
  next hne =>
    cases t with
    | done => rfl
    | waiting =>
      obtain ⟨hi, he⟩ := h.2 _ ht rfl
      exact absurd (by rw [hf hi he]; rfl) hne

private theorem resume_releases (a : A) (h : J a) :
    (stepA a .resume).f.intercepted = false ∧ ∀ t ∈ (stepA a .resume).tasks, t = .done :=
  ⟨by cases hi : a.f.intercepted <;> simp [stepA, F.resume, hi], wake_done a h _ fun hi he => by simp [F.resume, hi, he]⟩

private theorem kill_releases (a : A) (h : J a) (hk : a.f.killable = true) :
    (stepA a .kill).f.intercepted = false ∧ ∀ t ∈ (stepA a .kill).tasks, t = .done := by
  simp only [stepA, hk, if_true]
  exact ⟨rfl, wake_done a h _ fun _ he => by simp [F.kill, he]⟩

private theorem J_step (a : A) (op : Op) (h : J a) : J (stepA a op) := by
  have released : ∀ b : A, (b.f.intercepted = false ∧ ∀ t ∈ b.tasks, t = .done) → J b :=
    fun b hb => ⟨fun hi => by simp [hb.1] at hi, fun t ht hw => by cases (hb.2 t ht).symm.trans hw⟩
  cases op with
  | hook ai =>
    have := stepA_hook a h ai
    split at this
    · obtain ⟨g, hg, e⟩ := this
      rw [e]
      exact ⟨fun _ => by simp, fun _ _ _ => ⟨hg, rfl⟩⟩
    · rw [this]
      refine ⟨h.1, fun t ht hw => ?_⟩
      rcases List.mem_append.1 ht with ht | ht
      · exact h.2 t ht hw
      · simp [hw] at ht
  | intercept =>
    refine ⟨fun _ => intercept_event _ h.1, fun t ht hw => ?_⟩
    have := h.2 t ht hw
    simpa [stepA, F.intercept, this.1] using this
  | resume => exact released _ (resume_releases a h)
  | kill =>
    cases hk : a.f.killable with
    | true => exact released _ (kill_releases a h hk)
    | false => simpa [stepA, hk] using h

private theorem runA_concat (a : A) (ops : List Op) (op : Op) : runA a (ops ++ [op]) = stepA (runA a ops) op := by
  simp [runA]

/-- **a hook only blocks while the flow is intercepted**: after any sequence of operations -/
theorem waiting_only_while_intercepted (ops : List Op) : J (runA {} ops) :=
  List.foldlRecOn (motive := J) ops stepA ⟨nofun, nofun⟩ fun a h o _ => J_step a o h

/-- **an intercepted flow holds its hook**: a hook task started for a flow that the addon intercepts does not complete -/
theorem intercepted_hook_waits (ops : List Op) :
    (runA {} (ops ++ [.hook true])).tasks.getLast? = some Task.waiting := by
  rw [runA_concat]
  exact (intercepting_hook_blocks _ (waiting_only_while_intercepted ops) true (.inl rfl)).1

/-- **resume and kill release every pending hook** (kill: whenever the flow is killable) -/
theorem resume_or_kill_releases (ops : List Op) :
    (∀ t ∈ (runA {} (ops ++ [.resume])).tasks, t = Task.done) ∧
    ((runA {} ops).f.killable = true → ∀ t ∈ (runA {} (ops ++ [.kill])).tasks, t = Task.done) := by
  rw [runA_concat, runA_concat]
  exact ⟨(resume_releases _ (waiting_only_while_intercepted ops)).2,
    fun hk => (kill_releases _ (waiting_only_while_intercepted ops) hk).2⟩

private theorem userStep_l (s : S) (i : PIn) : (userStep s i).l = s.l := by cases i <;> rfl

/-- the layer component of a product step is a layer step on the input `lin` lets through (or no step) -/
theorem pstep_layer (k : Kind) (pol : Nat → Bool) (s : S) (i : PIn) :
    ((pstep k pol s i).1.l, (pstep k pol s i).2) =
      (match lin s i with | none => (s.l, []) | some x => step k s.l x) := by
  unfold pstep
  cases lin s i with
  | none => simp only [userStep_l]
  | some x =>
    simp only
    cases newHook s.l x <;> rfl

private theorem pstep_out (k : Kind) (pol : Nat → Bool) (s : S) (i : PIn) :
    (pstep k pol s i).2 = match lin s i with | none => [] | some x => (step k s.l x).2 := by
  have := congrArg Prod.snd (pstep_layer k pol s i)
  revert this
  cases lin s i <;> exact id

private theorem run_lin (k : Kind) (pol : Nat → Bool) (s : S) (i : PIn) :
    run k s.l (lin s i).toList = ((pstep k pol s i).1.l, (pstep k pol s i).2) := by
  rw [pstep_layer]
  cases lin s i <;> simp [run]

private theorem arrivals_lin (s : S) (i : PIn) (is : List PIn) :
    arrivals (lin s i).toList ++ parrivals is = parrivals (i :: is) := by
  cases i with
  | deliver => simp only [lin]; split <;> rfl
  | _ => rfl

/-- **the product refines the layer model**: the layer component and the outputs of every product run are those of a
    layer run over the inputs the product let through — same arrivals, and a `complete` only where `deliver` was
    enabled.  Hence every theorem about `run` holds of product runs. -/
theorem prun_refines_run (k : Kind) (pol : Nat → Bool) : ∀ (ins : List PIn) (s : S),
    ∃ ins' : List In, arrivals ins' = parrivals ins ∧
      run k s.l ins' = ((prun k pol s ins).1.l, (prun k pol s ins).2) := by
  intro ins
  induction ins with
  | nil => intro s; exact ⟨[], rfl, rfl⟩
  | cons i is ih =>
    intro s
    obtain ⟨ins', ha, hr⟩ := ih (pstep k pol s i).1
    refine ⟨(lin s i).toList ++ ins', ?_, ?_⟩
    · rw [arrivals_append, ha, arrivals_lin]
    · simp only [run_append, run_lin k pol, hr, prun]

private theorem userStep_a (s : S) (i : PIn) : (userStep s i).a = s.a ∨ ∃ op, (userStep s i).a = stepA s.a op := by
  cases i with
  | intercept => exact .inr ⟨.intercept, rfl⟩
  | resume => exact .inr ⟨.resume, rfl⟩
  | kill => exact .inr ⟨.kill, rfl⟩
  | _ => exact .inl rfl

/-- the flow component of a product step is at most one flow operation (a hook start or a user action) -/
theorem pstep_flow (k : Kind) (pol : Nat → Bool) (s : S) (i : PIn) :
    (pstep k pol s i).1.a = s.a ∨ ∃ op, (pstep k pol s i).1.a = stepA s.a op := by
  fun_cases pstep k pol s i
  · exact userStep_a s i
  · exact .inr ⟨.hook (pol _), rfl⟩
  · exact .inl rfl

/-- **the product refines the flow model**: the flow component of every product run is reached by a sequence of
    `Flow` operations.  Hence every theorem about `runA` holds of product runs. -/
theorem prun_refines_runA (k : Kind) (pol : Nat → Bool) : ∀ (ins : List PIn) (s : S),
    ∃ ops : List Op, (prun k pol s ins).1.a = runA s.a ops := by
  intro ins
  induction ins with
  | nil => intro s; exact ⟨[], rfl⟩
  | cons i is ih =>
    intro s
    obtain ⟨ops, h⟩ := ih (pstep k pol s i).1
    simp only [prun]
    rcases pstep_flow k pol s i with he | ⟨op, he⟩
    · exact ⟨ops, by rw [h, he]⟩
    · exact ⟨op :: ops, by rw [h, he]; rfl⟩

/-- every reachable product state: the flow explains every blocked hook (`J`) -/
theorem prun_J (k : Kind) (pol : Nat → Bool) (ins : List PIn) : J (prun k pol {} ins).1.a := by
  obtain ⟨ops, h⟩ := prun_refines_runA k pol ins {}
  rw [h]; exact waiting_only_while_intercepted ops

/-- **nothing is sent unless the hook task has completed** (step form of the composition): in every product state
    and for every input, a `send` is emitted only by a `deliver` that was ENABLED — the hook task of the pending message
    had returned from `wait_for_resume` — for exactly that message, with the content the flow object holds then. -/
theorem send_requires_released_hook (k : Kind) (pol : Nat → Bool) (s : S) (i : PIn) (id c : Nat)
    (h : Out.send id c ∈ (pstep k pol s i).2) :
    i = .deliver ∧ s.a.tasks.getLast? = some Task.done ∧ (∃ m, s.l.paused = some m ∧ m.id = id) ∧ c = s.cur := by
  rw [pstep_out] at h
  cases hl : lin s i with
  | none => rw [hl] at h; cases h
  | some x =>
    rw [hl] at h
    obtain ⟨m, v, hm, hid, rfl, hc⟩ := held_while_intercepted k s.l x id c h
    cases i <;> simp [lin] at hl
    obtain ⟨⟨-, ht⟩, rfl⟩ := hl
    exact ⟨rfl, ht, ⟨m, hm, hid⟩, hc⟩

/-- while the pending hook's task is blocked, every input except `resume`/`kill` leaves the message pending, the task
    blocked, and emits nothing at all -/
theorem blocked_step (k : Kind) (pol : Nat → Bool) (s : S) (m : Msg) (hp : s.l.paused = some m)
    (hw : s.a.tasks.getLast? = some Task.waiting) (i : PIn) (hr : i ≠ .resume) (hk : i ≠ .kill) :
    (pstep k pol s i).1.l.paused = some m ∧ (pstep k pol s i).1.a.tasks.getLast? = some Task.waiting ∧
    (pstep k pol s i).2 = [] := by
  obtain ⟨⟨p, q, r, g⟩, a, cur, dr⟩ := s
  cases hp
  cases i with
  | resume => exact absurd rfl hr
  | kill => exact absurd rfl hk
  | deliver => simp [pstep, lin, userStep, hw]
  | _ => exact ⟨rfl, hw, rfl⟩

private theorem prun_append (k : Kind) (pol : Nat → Bool) (a b : List PIn) (s : S) :
    prun k pol s (a ++ b) = ((prun k pol (prun k pol s a).1 b).1, (prun k pol s a).2 ++ (prun k pol (prun k pol s a).1 b).2) := by
  induction a generalizing s with
  | nil => rfl
  | cons i a ih => simp only [List.cons_append, prun, ih, List.append_assoc]

private theorem blocked_run (k : Kind) (pol : Nat → Bool) (m : Msg) (ins : List PIn) (s : S) (hp : s.l.paused = some m)
    (hw : s.a.tasks.getLast? = some Task.waiting) (hu : ∀ i ∈ ins, i ≠ .resume ∧ i ≠ .kill) :
    (prun k pol s ins).1.l.paused = some m ∧ (prun k pol s ins).1.a.tasks.getLast? = some Task.waiting ∧
    (prun k pol s ins).2 = [] := by
  induction ins generalizing s with
  | nil => exact ⟨hp, hw, rfl⟩
  | cons i is ih =>
    have hi := hu i List.mem_cons_self
    obtain ⟨a, b, c⟩ := blocked_step k pol s m hp hw i hi.1 hi.2
    obtain ⟨a', b', c'⟩ := ih _ a b fun j hj => hu j (List.mem_cons_of_mem _ hj)
    simp only [prun]
    exact ⟨a', b', by rw [c, c']; rfl⟩

/-- **While a flow is intercepted, nothing of the intercepted message is sent** — over histories of the composed
    system.  Take ANY history `ins1` (arrivals with distinct ids, deliveries, closes, user actions, edits) after which
    message `m`'s hook is pending and its hook task is blocked in `wait_for_resume`, and continue with ANY inputs `ins2`
    that contain no `resume` and no `kill` (more arrivals, delivery attempts, closes, edits, further `intercept`s): then
    `m` is still pending, its task still blocked, the flow is (still) intercepted, `m` has never been sent — neither
    during `ins1` nor during `ins2` — and `ins2` produced no output whatsoever for this flow's layer. -/
theorem intercepted_message_held (k : Kind) (pol : Nat → Bool) (ins1 ins2 : List PIn) (m : Msg)
    (hn : (parrivals ins1).Nodup)
    (hp : (prun k pol {} ins1).1.l.paused = some m)
    (hw : (prun k pol {} ins1).1.a.tasks.getLast? = some Task.waiting)
    (hu : ∀ i ∈ ins2, i ≠ .resume ∧ i ≠ .kill) :
    (prun k pol {} (ins1 ++ ins2)).1.l.paused = some m ∧
    (prun k pol {} (ins1 ++ ins2)).1.a.tasks.getLast? = some Task.waiting ∧
    (prun k pol {} (ins1 ++ ins2)).1.a.f.intercepted = true ∧
    (∀ c, Out.send m.id c ∉ (prun k pol {} (ins1 ++ ins2)).2) ∧
    (prun k pol {} (ins1 ++ ins2)).2 = (prun k pol {} ins1).2 := by
  obtain ⟨a, b, c⟩ := blocked_run k pol m ins2 _ hp hw hu
  have hJ := prun_J k pol (ins1 ++ ins2)
  rw [prun_append] at hJ ⊢
  simp only [c, List.append_nil]
  refine ⟨a, b, (hJ.2 _ (List.mem_of_getLast? b) rfl).1, fun cc hc => ?_, trivial⟩
  obtain ⟨ins', ha, hr⟩ := prun_refines_run k pol ins1 {}
  rw [← ha] at hn
  exact held_never_sent k ins' hn m.id (by rw [hr, held_of_paused hp]; exact List.mem_cons_self) cc (by rw [hr]; exact hc)

/-- the same in the shape "intercepted at the end ⇒ never sent": after ANY history with distinct message ids, if a
    message's hook is pending and its task blocked, then the flow is intercepted and the message has not been sent -/
theorem intercepted_at_end_not_sent (k : Kind) (pol : Nat → Bool) (ins : List PIn) (m : Msg)
    (hn : (parrivals ins).Nodup) (hp : (prun k pol {} ins).1.l.paused = some m)
    (hw : (prun k pol {} ins).1.a.tasks.getLast? = some Task.waiting) :
    (prun k pol {} ins).1.a.f.intercepted = true ∧ ∀ c, Out.send m.id c ∉ (prun k pol {} ins).2 := by
  have h := intercepted_message_held k pol ins [] m hn hp hw (by simp)
  simp only [List.append_nil] at h
  exact ⟨h.2.2.1, h.2.2.2.1⟩

/-- `newHook` names the message the layer becomes paused on in a step; a step without it pauses no idle layer -/
private theorem step_newHook (k : Kind) (l : L) (x : In) :
    (∀ n, newHook l x = some n → (step k l x).1.paused = some n ∧ Out.hook n.id ∈ (step k l x).2) ∧
    (newHook l x = none → (step k l x).1.paused.isSome = true → l.paused.isSome = true) := by
  fun_cases step k l x <;> simp_all [newHook]

/-- **an intercepted message is held**: in every reachable state of the composed system, whenever the hook of a message
    `n` fires (on arrival, or when the previous hook's completion releases it from the queue) while the Intercept addon
    intercepts it or the flow is already intercepted, then after that step `n` is the pending message, its hook task is
    blocked and the flow is intercepted — the premise of `intercepted_message_held`. -/
theorem intercepted_hook_is_held (k : Kind) (pol : Nat → Bool) (ins : List PIn) (i : PIn) (x : In) (n : Msg)
    (hx : lin (prun k pol {} ins).1 i = some x) (hh : newHook (prun k pol {} ins).1.l x = some n)
    (hi : pol n.id = true ∨ (prun k pol {} ins).1.a.f.intercepted = true) :
    (pstep k pol (prun k pol {} ins).1 i).1.l.paused = some n ∧
    (pstep k pol (prun k pol {} ins).1 i).1.a.tasks.getLast? = some Task.waiting ∧
    (pstep k pol (prun k pol {} ins).1 i).1.a.f.intercepted = true ∧
    Out.hook n.id ∈ (pstep k pol (prun k pol {} ins).1 i).2 := by
  have hJ := prun_J k pol ins
  generalize (prun k pol {} ins).1 = s at *
  obtain ⟨b1, b2⟩ := intercepting_hook_blocks s.a hJ (pol n.id) hi
  obtain ⟨c1, c2⟩ := (step_newHook k s.l x).1 n hh
  simp only [pstep, hx, hh, startHook]
  exact ⟨c1, b1, b2, c2⟩

/-- the readable special case: a message arriving at an idle layer while the flow is (or gets) intercepted -/
theorem intercepted_arrival_is_held (k : Kind) (pol : Nat → Bool) (ins : List PIn) (m : Msg)
    (hp : (prun k pol {} ins).1.l.paused = none)
    (hi : pol m.id = true ∨ (prun k pol {} ins).1.a.f.intercepted = true) :
    (prun k pol {} (ins ++ [.arrive m])).1.l.paused = some m ∧
    (prun k pol {} (ins ++ [.arrive m])).1.a.tasks.getLast? = some Task.waiting ∧
    (prun k pol {} (ins ++ [.arrive m])).1.a.f.intercepted = true := by
  have h := intercepted_hook_is_held k pol ins (.arrive m) (.arrive m) m rfl (by simp [newHook, hp]) hi
  rw [prun_append]
  simp only [prun]
  exact ⟨h.1, h.2.1, h.2.2.1⟩

private theorem wake_eq_nil (f : F) (ts : List Task) : wake f ts = [] ↔ ts = [] := by
  unfold wake
  split <;> simp

private theorem stepA_tasks_ne (a : A) (op : Op) (h : a.tasks ≠ []) : (stepA a op).tasks ≠ [] := by
  fun_cases stepA a op <;> simp [wake_eq_nil, h]

private theorem tasks_step (k : Kind) (pol : Nat → Bool) (s : S) (i : PIn)
    (h : s.l.paused.isSome = true → s.a.tasks ≠ []) :
    (pstep k pol s i).1.l.paused.isSome = true → (pstep k pol s i).1.a.tasks ≠ [] := by
  fun_cases pstep k pol s i
  · simp only [userStep_l]
    intro hp
    rcases userStep_a s i with e | ⟨op, e⟩ <;> rw [e]
    · exact h hp
    · exact stepA_tasks_ne _ _ (h hp)
  · exact fun _ => by simp [startHook, stepA]
  · exact fun hp => h ((step_newHook k s.l _).2 ‹_› hp)

/-- in every reachable state a pending hook has a task -/
theorem prun_tasks (k : Kind) (pol : Nat → Bool) : ∀ (ins : List PIn) (s : S),
    (s.l.paused.isSome = true → s.a.tasks ≠ []) →
    (prun k pol s ins).1.l.paused.isSome = true → (prun k pol s ins).1.a.tasks ≠ [] := by
  intro ins
  induction ins with
  | nil => intro s h; exact h
  | cons i is ih => intro s h; simp only [prun]; exact ih _ (tasks_step k pol s i h)

private theorem deliver_enabled (k : Kind) (pol : Nat → Bool) (s : S) (m : Msg) (hp : s.l.paused = some m)
    (hne : s.a.tasks ≠ []) (hd : ∀ t ∈ s.a.tasks, t = .done) :
    lin s .deliver = some (.complete ⟨s.a.f.error, s.dropped, s.cur⟩) ∧
    (pstep k pol s .deliver).2 = (step k s.l (.complete ⟨s.a.f.error, s.dropped, s.cur⟩)).2 := by
  have hl : lin s .deliver = some (.complete ⟨s.a.f.error, s.dropped, s.cur⟩) := by
    simp [lin, hp, List.getLast?_eq_some_getLast hne, hd _ (List.getLast_mem hne)]
  refine ⟨hl, ?_⟩
  rw [pstep_out, hl]

/-- **resume and kill enable exactly the delivery of the pending hook's completion.**  In every reachable state with a
    message `m` pending (blocked or not): after `resume`, `deliver` is enabled and hands the layer the completion with
    the verdict read off the flow and the message NOW — not killed unless the flow has an error, the content the flow
    object holds (the user's edits), the drop flag; after `kill` (flow killable) the same with `killed = true`.  What
    the layer then does is `step … (.complete v)`: `resume_forwards_edited`, `kill_forwards_nothing_and_errors_partial`. -/
theorem resume_or_kill_enables_delivery (k : Kind) (pol : Nat → Bool) (ins : List PIn) (m : Msg)
    (hp : (prun k pol {} ins).1.l.paused = some m) :
    let s := (prun k pol {} ins).1
    (lin (pstep k pol s .resume).1 .deliver = some (.complete ⟨s.a.f.error, s.dropped, s.cur⟩) ∧
      (pstep k pol (pstep k pol s .resume).1 .deliver).2 = (step k s.l (.complete ⟨s.a.f.error, s.dropped, s.cur⟩)).2) ∧
    (s.a.f.killable = true →
      lin (pstep k pol s .kill).1 .deliver = some (.complete ⟨true, s.dropped, s.cur⟩) ∧
      (pstep k pol (pstep k pol s .kill).1 .deliver).2 = (step k s.l (.complete ⟨true, s.dropped, s.cur⟩)).2) := by
  intro s
  have hJ : J s.a := prun_J k pol ins
  have hne : s.a.tasks ≠ [] := prun_tasks k pol ins {} (by simp) (by simp [hp])
  refine ⟨?_, fun hk => ?_⟩
  · have := deliver_enabled k pol { s with a := stepA s.a .resume } m hp (stepA_tasks_ne _ _ hne) (resume_releases _ hJ).2
    have he : (stepA s.a .resume).f.error = s.a.f.error := by simp only [stepA, F.resume]; split <;> rfl
    simp only [he] at this
    exact this
  · have := deliver_enabled k pol { s with a := stepA s.a .kill } m hp (stepA_tasks_ne _ _ hne) (kill_releases _ hJ hk).2
    have he : (stepA s.a .kill).f.error = true := by simp [stepA, hk, F.kill]
    simp only [he] at this
    exact this

/-- **resume forwards the held message once** in the composed system: every message is forwarded at most once in
    every history with distinct ids (lifted from `resume_forwards_once` through `prun_refines_run`) -/
theorem product_forwards_once (k : Kind) (pol : Nat → Bool) (ins : List PIn) (hn : (parrivals ins).Nodup) (id : Nat) :
    ((prun k pol {} ins).2.filter (Out.isSendOf id)).length ≤ 1 := by
  obtain ⟨ins', ha, hr⟩ := prun_refines_run k pol ins {}
  rw [← ha] at hn
  have := resume_forwards_once k ins' hn id
  rwa [hr] at this

-- non-vacuity: the model is not constant
example : (run .http {} [.arrive ⟨1, 5⟩, .arrive ⟨2, 6⟩, .complete ⟨false, false, 9⟩]).2
    = [.hook 1, .send 1 9, .hook 2] := by decide +kernel
example : (run .http {} [.arrive ⟨1, 5⟩, .complete ⟨true, false, 5⟩]).2 = [.hook 1, .error 1] := by decide +kernel
example : (runA {} [.hook true, .hook false]).tasks = [.waiting, .waiting] := by decide +kernel
example : (runA {} [.hook true, .kill]).tasks = [.done] := by decide +kernel

-- the hypotheses of the theorems above instantiated on concrete, reachable states

/-- `held_never_sent` / `resume_forwards_once`: distinct ids, message 1 forwarded exactly once (edited), 2 pending and 3
    queued at the end -/
private def exHeld : List In := [.arrive ⟨1, 5⟩, .arrive ⟨2, 6⟩, .complete ⟨false, false, 9⟩, .arrive ⟨3, 7⟩]

example : (arrivals exHeld).Nodup ∧ held (run .http {} exHeld).1 = [2, 3] ∧
    (run .http {} exHeld).2 = [.hook 1, .send 1 9, .hook 2] ∧
    ((run .http {} exHeld).2.filter (Out.isSendOf 1)).length = 1 ∧
    ((run .http {} exHeld).2.filter (Out.isSendOf 2)).length = 0 := by decide +kernel

/-- `resume_forwards_edited`: its three hypotheses hold in the state reached by one arrival, for a WebSocket message
    that was neither killed-and-honoured nor dropped (and for an HTTP message with no remote close) -/
example : (run .ws {} [.arrive ⟨1, 5⟩]).1.paused = some ⟨1, 5⟩ ∧
    (Kind.ws.honoursKill && (true || (Kind.ws == .http && (run .ws {} [.arrive ⟨1, 5⟩]).1.remoteKill))) = false ∧
    (run .ws {} [.arrive ⟨1, 5⟩]).1.gone = false ∧ (Kind.ws == .ws && false) = false ∧
    afterHook .ws (run .ws {} [.arrive ⟨1, 5⟩]).1 ⟨1, 5⟩ ⟨true, false, 9⟩ = [.send 1 9] := by decide +kernel
example : (Kind.http.honoursKill && (false || (Kind.http == .http && (run .http {} [.arrive ⟨1, 5⟩]).1.remoteKill))) = false ∧
    (run .http {} [.arrive ⟨1, 5⟩]).1.gone = false ∧
    afterHook .http (run .http {} [.arrive ⟨1, 5⟩]).1 ⟨1, 5⟩ ⟨false, false, 9⟩ = [.send 1 9] := by decide +kernel
/-- …and each hypothesis is needed: dropped WebSocket message, UDP association gone -/
example : afterHook .ws {} ⟨1, 5⟩ ⟨false, true, 5⟩ = [] ∧
    (run .udp {} [.arrive ⟨1, 5⟩, .close false true, .complete ⟨false, false, 5⟩]).2 = [.hook 1] := by decide +kernel

/-- `kill_forwards_nothing_and_errors_partial`: a reachable state (1 pending, 2 queued) satisfying WF / paused / Nodup -/
example : Kind.dnsReq.honoursKill = true ∧
    ((run .dnsReq {} [.arrive ⟨1, 5⟩, .arrive ⟨2, 6⟩]).1.paused = none → (run .dnsReq {} [.arrive ⟨1, 5⟩, .arrive ⟨2, 6⟩]).1.queue = []) ∧
    (run .dnsReq {} [.arrive ⟨1, 5⟩, .arrive ⟨2, 6⟩]).1.paused = some ⟨1, 5⟩ ∧
    (held (run .dnsReq {} [.arrive ⟨1, 5⟩, .arrive ⟨2, 6⟩]).1 ++ arrivals [.arrive ⟨3, 7⟩, .complete ⟨false, false, 6⟩]).Nodup := by decide +kernel

/-- `kill_forwards_nothing_and_errors_history_partial` (whole history): hypotheses and conclusion on a history with traffic before and
    after the kill -/
example : (run .http {} [.arrive ⟨1, 5⟩, .arrive ⟨2, 6⟩]).1.paused = some ⟨1, 5⟩ ∧
    (arrivals ([.arrive ⟨1, 5⟩, .arrive ⟨2, 6⟩] ++ In.complete ⟨true, false, 5⟩ :: [.arrive ⟨3, 7⟩, .complete ⟨false, false, 6⟩])).Nodup ∧
    (run .http {} ([.arrive ⟨1, 5⟩, .arrive ⟨2, 6⟩] ++ In.complete ⟨true, false, 5⟩ :: [.arrive ⟨3, 7⟩, .complete ⟨false, false, 6⟩])).2
      = [.hook 1, .error 1, .hook 2, .send 2 6, .hook 3] := by decide +kernel

/-- `remote_close_marks_held` / `remote_close_kills_held`: the state after arrival + remote close satisfies WF, paused,
    remoteKill, and a plain resume then yields the error, not the message -/
example : ((run .http {} [.arrive ⟨1, 5⟩]).1.paused = none → (run .http {} [.arrive ⟨1, 5⟩]).1.queue = []) ∧
    (run .http {} [.arrive ⟨1, 5⟩, .close true false]).1.paused = some ⟨1, 5⟩ ∧
    (run .http {} [.arrive ⟨1, 5⟩, .close true false]).1.remoteKill = true ∧
    (run .http {} [.arrive ⟨1, 5⟩, .close true false, .complete ⟨false, false, 9⟩]).2 = [.hook 1, .error 1] := by decide +kernel

/-- `sibling_exchange_while_held`: child 0 holds message 1, the idle child 4 does a whole exchange meanwhile -/
example : ((runP .http {} [(0, .arrive ⟨1, 5⟩)]).1.get 0).paused = some ⟨1, 5⟩ ∧
    (runP .http {} [(0, .arrive ⟨1, 5⟩)]).1.get 4 = {} ∧
    (runP .http (runP .http {} [(0, .arrive ⟨1, 5⟩)]).1 [(4, .arrive ⟨4, 7⟩), (4, .complete ⟨false, false, 7⟩)]).2
      = [.hook 4, .send 4 7] ∧
    ((runP .http (runP .http {} [(0, .arrive ⟨1, 5⟩)]).1 [(4, .arrive ⟨4, 7⟩), (4, .complete ⟨false, false, 7⟩)]).1.get 0).paused
      = some ⟨1, 5⟩ := by decide +kernel

/-- `resume_or_kill_releases`: the `killable` hypothesis holds with two hooks waiting, and fails after a kill (a second
    kill is a no-op); `intercepted_hook_waits` after a non-trivial prefix (a killed flow intercepted again) -/
example : (runA {} [.hook true, .hook false]).f.killable = true ∧
    (runA {} ([.hook true, .hook false] ++ [.kill])).tasks = [.done, .done] ∧
    (runA {} [.hook true, .hook false, .kill]).f.killable = false ∧
    (runA {} ([.hook true, .resume] ++ [.resume])).tasks = [.done] ∧
    (runA {} ([.hook true, .kill] ++ [.hook true])).tasks = [.done, .waiting] := by decide +kernel

-- the composed system: non-vacuity
-- an intercepted message: delivery attempts, further arrivals and edits produce nothing
example : (prun .http (fun _ => true) {} [.arrive ⟨1, 5⟩, .deliver, .arrive ⟨2, 6⟩, .edit 9, .deliver]).2 = [.hook 1] := by decide +kernel
-- the hypotheses of `intercepted_message_held` hold after that history (pending, task blocked, flow intercepted)
example : (prun .http (fun _ => true) {} [.arrive ⟨1, 5⟩, .deliver, .arrive ⟨2, 6⟩]).1.l.paused = some ⟨1, 5⟩ ∧
    (prun .http (fun _ => true) {} [.arrive ⟨1, 5⟩, .deliver, .arrive ⟨2, 6⟩]).1.a.tasks.getLast? = some Task.waiting ∧
    (prun .http (fun _ => true) {} [.arrive ⟨1, 5⟩, .deliver, .arrive ⟨2, 6⟩]).1.a.f.intercepted = true := by decide +kernel
-- resume: the edited content is forwarded, once, and the queued message's hook fires (and blocks in turn)
example : (prun .tcp (fun _ => true) {} [.arrive ⟨1, 5⟩, .arrive ⟨2, 6⟩, .edit 9, .resume, .deliver, .deliver]).2
    = [.hook 1, .send 1 9, .hook 2] := by decide +kernel
-- kill: HTTP ends with an error and sends nothing; TCP forwards the message (finding F-C11a, as in the layer model)
example : (prun .http (fun _ => true) {} [.arrive ⟨1, 5⟩, .kill, .deliver]).2 = [.hook 1, .error 1] := by decide +kernel
example : (prun .tcp (fun _ => true) {} [.arrive ⟨1, 5⟩, .kill, .deliver]).2 = [.hook 1, .send 1 5] := by decide +kernel
-- not intercepted: the hook task is done at once, the first `deliver` forwards
example : (prun .tcp (fun _ => false) {} [.arrive ⟨1, 5⟩, .deliver]).2 = [.hook 1, .send 1 5] := by decide +kernel
-- the hypothesis "task blocked" matters: an `intercept` AFTER wait_for_resume returned does not hold the message
example : (prun .tcp (fun _ => false) {} [.arrive ⟨1, 5⟩, .intercept, .deliver]).2 = [.hook 1, .send 1 5] ∧
    (prun .tcp (fun _ => false) {} [.arrive ⟨1, 5⟩, .intercept]).1.a.f.intercepted = true ∧
    (prun .tcp (fun _ => false) {} [.arrive ⟨1, 5⟩, .intercept]).1.a.tasks.getLast? = some Task.done := by decide +kernel
-- a user `intercept` before the message arrives holds it although the addon would not intercept
example : (prun .udp (fun _ => false) {} [.intercept, .arrive ⟨1, 5⟩, .deliver]).2 = [.hook 1] := by decide +kernel

end MitmVerif.Props.C11
