/-
  C21 — property theorems: `Socks5Proxy` reads the handshake the same way whatever the segmentation and whenever the
  socks5_auth hook and the connection attempt complete; it answers with the RFC 1928 code and closes, or connects to
  exactly the requested destination and hands what follows the request to the next layer once and in order.

  The statements are over the commands the layer emits (`Out`); the hook's verdict and the result of the connection
  attempt are parameters (`Env`).  Everything about whole streams goes through two lemmas of Lemmas/C21: `run_outcome`
  (a run from `init` has set no destination, or the stream is `greeting [auth] request trailing`) and `run_requested`
  (what such a stream leads to).  Segmentation is removed first by `seg_independent` (the `Lawful` instance,
  Basic/Seg), deferred completions by `actAll_settle_init` (every state of the asynchronous machine stands for a run
  of the synchronous one).
  The host TEXT assigned to `context.server.address` (`hostText`: inet_ntop, `decode("ascii", "replace")`) determines
  the requested address: the IPv4 and IPv6 texts are read back by C22's transcription of `ipaddress.ip_address`
  (Lemmas/C21V6Read, C21V6Py, C21V6Back over Lemmas/C22Render), and the zero run written as "::" is the one RFC 5952
  §4.2 asks for (Lemmas/C21V6).  `textV6Py`, CPython's own writer, is treated here as well; C50 uses it.
  `constants_match_code`: the literals of the model are the `SOCKS5_*` constants regenerated from modes.py (Gen/C21).
-/
import MitmVerif.Lemmas.C21
import MitmVerif.Lemmas.C21V6
import MitmVerif.Lemmas.C21V6Back
import MitmVerif.Lemmas.C21V6Py
import MitmVerif.Gen.C21
namespace MitmVerif.Props.C21
open MitmVerif MitmVerif.C21

/-- **C21 (lawful consumer).** Feeding `a ++ b` equals feeding `a` then `b` — from every state, for all bytes. -/
theorem lawful (env : Env) : (inc env).Lawful := feed_lawful env

/-- **C21 (segmentation independence).** For every state, every byte string and every way of cutting it into
    segments: same final state (phase + unparsed buffer) and same emitted commands (replies, hook, destination,
    connect, close, bytes given to the child) as delivering it whole. -/
theorem seg_independent (env : Env) (s : SState) (segs : List Bytes) :
    (inc env).feedAll s segs = feed env s segs.flatten :=
  Incremental.seg_independent (inc env) (lawful env) s segs

/-- any two segmentations of the same stream are indistinguishable -/
theorem seg_independent_any (env : Env) (s : SState) (a b : List Bytes) (h : a.flatten = b.flatten) :
    (inc env).feedAll s a = (inc env).feedAll s b :=
  Incremental.seg_independent' (inc env) (lawful env) s a b h

/-! ### the property theorems (synchronous machine) -/

/-- **exactness (soundness)**: whatever bytes arrive, if the server address is set to (a, ad, p) then the stream is
    `greeting [auth] request(a, ad, p) trailing` — the destination is exactly the requested one, and it is set once. -/
theorem connects_exactly_requested (env : Env) (input : Bytes) (a : UInt8) (ad : Bytes) (p : Nat)
    (h : (a, ad, p) ∈ setAddrs (feed env init input).2) :
    ∃ pre t, input = pre ++ encodeReq a ad p ++ t ∧ ValidPre env pre ∧ ValidDest a ad p ∧
      setAddrs (feed env init input).2 = [(a, ad, p)] ∧
      (Out.openServer ∈ (feed env init input).2 ↔ env.eager = true) := by
  rcases run_outcome env input with hA | ⟨pre, a', ad', p', t, hin, hpre, hvd, hq⟩
  · rw [hA.2.1] at h; cases h
  · rw [hq.addr] at h
    simp only [List.mem_singleton, Prod.mk.injEq] at h
    obtain ⟨rfl, rfl, rfl⟩ := h
    exact ⟨pre, t, hin, hpre, hvd, hq.addr, hq.opens⟩

/-- after an accepted greeting (+ auth) the machine continues with the connect stage on whatever follows -/
theorem pre_then_connect (env : Env) (pre rest : Bytes) (hpre : ValidPre env pre) :
    ∃ o, feed env init (pre ++ rest) = ((syncConnect env rest).1, o ++ (syncConnect env rest).2) ∧
      sends o = preSends env ∧ setAddrs o = [] ∧ childBytes o = [] ∧ Out.openServer ∉ o ∧ Out.childStart ∉ o ∧
      Out.close ∉ o :=
  feed_pre env pre rest hpre

/-- **exactness (completeness)**: a well-formed handshake for (a, ad, p) sets exactly that destination, whatever follows -/
theorem requested_is_connected (env : Env) (pre : Bytes) (a : UInt8) (ad : Bytes) (p : Nat) (t : Bytes)
    (hpre : ValidPre env pre) (hvd : ValidDest a ad p) :
    ∃ o, feed env init (pre ++ encodeReq a ad p ++ t) = ((connResult env a ad p t).1, o ++ (connResult env a ad p t).2) ∧
      setAddrs o = [] ∧ childBytes o = [] ∧ sends o = preSends env := by
  obtain ⟨o, ho, hs, ha, hc, _⟩ := pre_then_connect env pre (encodeReq a ad p ++ t) hpre
  exact ⟨o, by rw [List.append_assoc, ho, syncConnect_fwd env a ad p t hvd], ha, hc, hs⟩

private def Stuck (env : Env) : SState → Prop
  | .greet b => parseGreet (needed env) b = .more
  | .auth b => parseAuth b = .more
  | .connect b => parseConnect b = .more
  | _ => True

/-- what every stage of the handshake leaves behind: a state whose parser cannot use the buffer yet (or a final
    state), and only well-formed replies -/
private def StageOk (env : Env) (r : SState × List Out) : Prop :=
  Stuck env r.1 ∧ ∀ b ∈ sends r.2, WellFormedReply b

private theorem wf_reply (rep : UInt8) (h : rep ∈ [0, 4, 7, 8, 0xFF]) : WellFormedReply (reply rep) :=
  Or.inr (Or.inr (Or.inr (Or.inr ⟨rep, h, rfl⟩)))

private theorem StageOk.after {env : Env} {s : SState} {o : List Out} (h : StageOk env (s, o)) (o' : List Out)
    (h' : ∀ b ∈ sends o', WellFormedReply b) : StageOk env (s, o' ++ o) :=
  ⟨h.1, fun b hb => by
    rw [sends_append, List.mem_append] at hb
    exact hb.elim (h' b) (h.2 b)⟩

private theorem syncConnect_ok (env : Env) (buf : Bytes) : StageOk env (syncConnect env buf) := by
  unfold syncConnect
  split
  · exact ⟨‹_›, by simp [sends]⟩
  · rename_i c hc
    refine ⟨trivial, List.forall_mem_singleton.2 ?_⟩
    rcases (parseConnect_fail buf c hc).1 with rfl | rfl <;> exact wf_reply _ (by decide)
  · split
    · split
      · exact ⟨trivial, by simpa [sends, relayStart] using wf_reply 0 (by decide)⟩
      · exact ⟨trivial, List.forall_mem_singleton.2 (wf_reply 4 (by decide))⟩
    · exact ⟨trivial, by simpa [sends, relayStart] using wf_reply 0 (by decide)⟩

private theorem syncAuth_ok (env : Env) (buf : Bytes) : StageOk env (syncAuth env buf) := by
  unfold syncAuth
  split
  · exact ⟨‹_›, by simp [sends]⟩
  · split
    · exact (syncConnect_ok env _).after _ (List.forall_mem_singleton.2 (Or.inr (Or.inr (Or.inl rfl))))
    · exact ⟨trivial, List.forall_mem_singleton.2 (Or.inr (Or.inr (Or.inr (Or.inl rfl))))⟩

private theorem syncGreet_ok (env : Env) (buf : Bytes) : StageOk env (syncGreet env buf) := by
  unfold syncGreet
  split
  · exact ⟨‹_›, by simp [sends]⟩
  · exact ⟨trivial, by simp [sends]⟩
  · exact ⟨trivial, List.forall_mem_singleton.2 (wf_reply 0xFF (by decide))⟩
  · split
    · exact (syncAuth_ok env _).after [.send [5, 2]] (List.forall_mem_singleton.2 (Or.inr (Or.inl rfl)))
    · exact (syncConnect_ok env _).after [.send [5, 0]] (List.forall_mem_singleton.2 (Or.inl rfl))

/-- **well-formed replies**: from every state and for every segment, whatever is sent to the client is a method
    selection (`05 00`/`05 02`), an RFC 1929 status (`01 00`/`01 01`) or a 10-byte reply `05 REP 00 01 BND(6)` with
    REP ∈ {00, 04, 07, 08, FF}. -/
theorem reply_wellformed (env : Env) (s : SState) (d : Bytes) :
    ∀ b ∈ sends (feed env s d).2, WellFormedReply b := by
  intro b hb
  by_cases hd : d = []
  · subst hd; simp [feed, sends] at hb
  cases s with
  | greet buf => rw [feed_greet_ne _ _ _ hd] at hb; exact (syncGreet_ok env _).2 b hb
  | auth buf => rw [feed_auth_ne _ _ _ hd] at hb; exact (syncAuth_ok env _).2 b hb
  | connect buf => rw [feed_connect_ne _ _ _ hd] at hb; exact (syncConnect_ok env _).2 b hb
  | relay => rw [feed_relay] at hb; simp at hb
  | done => rw [feed_done] at hb; simp [sends] at hb

/-- the success reply `05 00 00 01 0…` is sent iff the connection is accepted; then the replies are exactly
    method selection, (auth status,) success reply — for every segmentation of the stream -/
theorem success_reply_iff_accepted (env : Env) (segs : List Bytes) :
    let r := (inc env).feedAll init segs
    (reply 0 ∈ sends r.2 ↔ r.1 = .relay) ∧ (r.1 = .relay → sends r.2 = preSends env ++ [reply 0]) := by
  intro r
  have hr : r = feed env init segs.flatten := seg_independent env init segs
  rw [hr]
  rcases run_outcome env segs.flatten with ⟨hrel, _, _, _, _, hsu, _⟩ | ⟨_, _, _, _, _, _, _, _, hq⟩
  · exact ⟨⟨fun h => absurd h hsu, fun h => absurd h hrel⟩, fun h => absurd h hrel⟩
  · rcases hq.ends with ⟨hrel, _, _, hse⟩ | ⟨hdn, _, _, _, hse, _⟩
    · simp [hrel, hse]
    · simp [hdn, hse, reply0_not_pre env, show reply 0 ≠ reply 4 by decide]

/-- **reject codes** (RFC 1928): no acceptable method → `05 FF…`; CMD/RSV/VER of the request wrong → REP 07;
    unknown ATYP → REP 08; connection failure → REP 04; each followed by closing the client and nothing else. -/
theorem reject_codes (env : Env) :
    -- no acceptable method
    (∀ ms rest : Bytes, ms.length < 256 → ms.contains (needed env) = false →
      syncGreet env (greetMsg ms ++ rest) = (.done, [.send (reply 0xFF), .close])) ∧
    -- request header (5 bytes available) with VER CMD RSV ≠ 05 01 00
    (∀ (v c r a x : UInt8) (tl : Bytes), ¬ (v = 5 ∧ c = 1 ∧ r = 0) →
      syncConnect env (v :: c :: r :: a :: x :: tl) = (.done, [.send (reply 7), .close])) ∧
    -- unknown address type
    (∀ (a x : UInt8) (tl : Bytes), a ≠ 1 → a ≠ 4 → a ≠ 3 →
      syncConnect env (5 :: 1 :: 0 :: a :: x :: tl) = (.done, [.send (reply 8), .close])) ∧
    -- the (eager) connection attempt fails
    (∀ (a : UInt8) (ad : Bytes) (p : Nat) (t : Bytes), ValidDest a ad p → env.eager = true → env.connOk = false →
      syncConnect env (encodeReq a ad p ++ t) =
        (.done, [.setAddr a ad p, .openServer, .send (reply 4), .close])) := by
  refine ⟨?_, ?_, ?_, ?_⟩
  · intro ms rest hl hc
    have h1 : ¬ (ms.length + rest.length < ms.length) := by omega
    have hc' : ¬ needed env ∈ ms := by simpa using hc
    simp [syncGreet, greetMsg, parseGreet, UInt8.toNat_ofNat_of_lt' hl, h1, hc']
  · intro v c r a x tl h
    simp [syncConnect, parseConnect, h]
  · intro a x tl h1 h4 h3
    simp [syncConnect, parseConnect, h1, h4, h3]
  · intro a ad p t hv he hc
    rw [syncConnect_fwd env a ad p t hv]; simp [connResult, he, hc]

/-- every rejection closes the client connection last, and nothing ever reached the next layer -/
theorem reject_closes (env : Env) (segs : List Bytes)
    (h : ((inc env).feedAll init segs).1 = .done) :
    ((inc env).feedAll init segs).2.getLast? = some .close ∧
    childBytes ((inc env).feedAll init segs).2 = [] ∧ Out.childStart ∉ ((inc env).feedAll init segs).2 := by
  rw [seg_independent] at h ⊢
  rcases run_outcome env segs.flatten with ⟨_, _, hch, hcs, _, _, hcl⟩ | ⟨_, _, _, _, _, _, _, _, hq⟩
  · exact ⟨hcl h, hch, hcs⟩
  · rcases hq.ends with ⟨hrel, _⟩ | ⟨_, _, _, hch, _, hcl, hcs⟩
    · rw [hrel] at h; cases h
    · exact ⟨hcl, hch, hcs⟩

/-- **relay exactly once, in order**: for every segmentation of `greeting [auth] request trailing` (connection
    possible) the machine ends relaying, the bytes given to the child are exactly `trailing`, the destination is the
    requested one; and from then on every segment goes to the child unchanged. -/
theorem after_request_relayed_once_in_order (env : Env) (segs : List Bytes) (pre : Bytes) (a : UInt8) (ad : Bytes)
    (p : Nat) (t : Bytes) (hflat : segs.flatten = pre ++ encodeReq a ad p ++ t)
    (hpre : ValidPre env pre) (hvd : ValidDest a ad p) (hc : env.eager = true → env.connOk = true) :
    ((inc env).feedAll init segs).1 = .relay ∧
    childBytes ((inc env).feedAll init segs).2 = t ∧
    setAddrs ((inc env).feedAll init segs).2 = [(a, ad, p)] ∧
    (∀ more : List Bytes, ((inc env).feedAll init (segs ++ more)).1 = .relay ∧
        childBytes ((inc env).feedAll init (segs ++ more)).2 = t ++ more.flatten) := by
  have key : ∀ t' : Bytes, (feed env init (pre ++ encodeReq a ad p ++ t')).1 = .relay ∧
      childBytes (feed env init (pre ++ encodeReq a ad p ++ t')).2 = t' ∧
      setAddrs (feed env init (pre ++ encodeReq a ad p ++ t')).2 = [(a, ad, p)] := by
    intro t'
    have hq := run_requested env pre a ad p t' hpre hvd
    rcases hq.ends with ⟨hrel, _, hch, _⟩ | ⟨_, he, hco, _⟩
    · exact ⟨hrel, hch, hq.addr⟩
    · rw [hc he] at hco; cases hco
  refine ⟨?_, ?_, ?_, fun more => ?_⟩
  · rw [seg_independent, hflat]; exact (key t).1
  · rw [seg_independent, hflat]; exact (key t).2.1
  · rw [seg_independent, hflat]; exact (key t).2.2
  · rw [seg_independent, List.flatten_append, hflat, List.append_assoc]
    exact ⟨(key _).1, (key _).2.1⟩

/-- conversely: whenever the machine relays (any stream, any segmentation), the stream *is* a well-formed
    handshake and the child has received exactly the bytes after the request, once and in order -/
theorem relayed_only_after_request (env : Env) (segs : List Bytes)
    (h : ((inc env).feedAll init segs).1 = .relay ∨ childBytes ((inc env).feedAll init segs).2 ≠ []) :
    ∃ pre a ad p t, segs.flatten = pre ++ encodeReq a ad p ++ t ∧ ValidPre env pre ∧ ValidDest a ad p ∧
      ((inc env).feedAll init segs).1 = .relay ∧ childBytes ((inc env).feedAll init segs).2 = t ∧
      setAddrs ((inc env).feedAll init segs).2 = [(a, ad, p)] := by
  rw [seg_independent] at h ⊢
  rcases run_outcome env segs.flatten with hA | ⟨pre, a, ad, p, t, hin, hpre, hvd, hq⟩
  · exact h.elim (absurd · hA.1) (absurd hA.2.2.1 ·)
  · rcases hq.ends with ⟨hrel, _, hch, _⟩ | ⟨hdn, _, _, hch, _⟩
    · exact ⟨pre, a, ad, p, t, hin, hpre, hvd, hrel, hch, hq.addr⟩
    · rcases h with h | h
      · rw [hdn] at h; cases h
      · exact absurd hch h

/-! ### deferred completions (socks5_auth hook, OpenConnection) -/

/-- **C21 (schedule independence).** Take any schedule: client events (data segments, EOF) interleaved with
    completions of whatever command is pending, in any order and number.  Once everything pending has completed,
    the state and the whole command sequence are those of the synchronous machine on the same client events. -/
theorem schedule_independent (env : Env) (acts : List Act) :
    let r := actAll env (.settled init) acts
    let r' := settle env r.1
    r'.1 = .settled (syncAll env init (insOf acts)).1 ∧ r.2 ++ r'.2 = (syncAll env init (insOf acts)).2 := by
  have h := actAll_settle_init env acts
  simp only [andThen, lift, Prod.ext_iff] at h
  exact h

private theorem syncAll_data (env : Env) (s : SState) (segs : List Bytes) :
    syncAll env s (segs.map .data) = (inc env).feedAll s segs := by
  induction segs generalizing s with
  | nil => rfl
  | cons d ds ih => simp [syncAll, syncStep, Incremental.feedAll, ih, inc]

/-- schedule *and* segmentation: whatever the cuts and whenever hook / connect complete, the result is that of the
    whole stream delivered at once with immediate completions (followed by the client's EOF handling if it closes) -/
theorem schedule_and_segmentation_independent (env : Env) (acts : List Act) (segs : List Bytes) (eof : Bool)
    (h : insOf acts = segs.map .data ++ (if eof then [.close] else [])) :
    let r := actAll env (.settled init) acts
    let r' := settle env r.1
    let w := feed env init segs.flatten
    r'.1 = .settled w.1 ∧ r.2 ++ r'.2 = w.2 ++ (if eof then onClose w.1 else []) := by
  intro r r' w
  have hs := schedule_independent env acts
  rw [h, syncAll_append, syncAll_data, seg_independent] at hs
  cases eof <;> simpa [syncAll, syncStep, andThen] using hs

/-! ### the empty-segment guard of `feed` is unobservable -/

/-- On every state reachable from the initial one (any stream, any segmentation) the code's reaction to an empty
    segment (`buf += b""; state()`) is to do nothing — so `feed`'s guard `d = [] ↦ no-op` does not change behaviour. -/
theorem feed_nil_reachable (env : Env) (segs : List Bytes) :
    feedRaw env ((inc env).feedAll init segs).1 [] = (((inc env).feedAll init segs).1, []) := by
  rw [seg_independent]
  have hst : Stuck env (feed env init segs.flatten).1 := by
    by_cases hin : segs.flatten = []
    · rw [hin]; simp [feed, init, Stuck, parseGreet]
    · rw [feed_init env _ hin]; exact (syncGreet_ok env _).1
  generalize (feed env init segs.flatten).1 = s at hst
  cases s with
  | greet b => simp only [Stuck] at hst; simp [feedRaw, syncGreet, hst]
  | auth b => simp only [Stuck] at hst; simp [feedRaw, syncAuth, hst]
  | connect b => simp only [Stuck] at hst; simp [feedRaw, syncConnect, hst]
  | relay => rfl
  | done => rfl

/-- and `feed` is `feedRaw` on every non-empty segment -/
theorem feed_eq_feedRaw (env : Env) (s : SState) (d : Bytes) (h : d ≠ []) : feed env s d = feedRaw env s d := by
  cases s <;> simp [feed, feedRaw, h]

/-! ### non-vacuity: concrete runs computed by the kernel -/

private def envT : Env := ⟨false, fun _ _ => true, true, true⟩
private def envA : Env := ⟨true, fun u p => u == [0x61] && p == [0x62], true, false⟩

-- 05 01 00 | 05 01 00 01 7f000001 1f90 | "hi"   → 127.0.0.1:8080, "hi" relayed
example : feed envT init [5,1,0, 5,1,0,1,127,0,0,1,0x1f,0x90, 0x68,0x69] =
    (.relay, [.send [5,0], .setAddr 1 [127,0,0,1] 8080, .openServer, .childStart, .send (reply 0),
              .child 0x68, .child 0x69]) := by decide +kernel
-- the same stream cut into three segments
example : (inc envT).feedAll init [[5], [1,0,5,1,0,1,127], [0,0,1,0x1f,0x90,0x68,0x69]] =
    feed envT init [5,1,0, 5,1,0,1,127,0,0,1,0x1f,0x90, 0x68,0x69] := by decide +kernel
-- ValidPre / ValidDest are satisfiable
example : ValidPre envT [5,1,0] := ⟨[0], by decide, by decide, Or.inl ⟨rfl, rfl⟩⟩
example : ValidDest 3 [0x61, 0x2e, 0x62] 443 := ⟨Or.inr (Or.inr ⟨rfl, by decide⟩), by decide⟩
-- the machine does reject: HTTP request, missing method, BIND command, ATYP 5, wrong password, connect failure
example : feed envT init [0x47, 0x45, 0x54] = (.done, [.close]) := by decide +kernel
example : feed envT init [5,1,2] = (.done, [.send (reply 0xFF), .close]) := by decide +kernel
example : feed envT init [5,1,0, 5,2,0,1,0] = (.done, [.send [5,0], .send (reply 7), .close]) := by decide +kernel
example : feed envT init [5,1,0, 5,1,0,5,0] = (.done, [.send [5,0], .send (reply 8), .close]) := by decide +kernel
example : feed envA init [5,1,2, 1,1,0x61,1,0x63] =
    (.done, [.send [5,2], .authHook [0x61] [0x63], .send [1,1], .close]) := by decide +kernel
example : feed envA init [5,1,2, 1,1,0x61,1,0x62, 5,1,0,3,1,0x78,0,80] =
    (.done, [.send [5,2], .authHook [0x61] [0x62], .send [1,0], .setAddr 3 [0x78] 80, .openServer,
             .send (reply 4), .close]) := by decide +kernel
-- a deferred schedule: data arrives while the hook is pending, EOF while the connect is pending
example : actAll envT (.settled init) [.ev (.data [5,1,0,5,1,0,1,1,2,3,4,0,80]), .ev (.data [9]), .ev .close, .complete] =
    (.settled .relay, [.send [5,0], .setAddr 1 [1,2,3,4] 80, .openServer, .childStart, .send (reply 0),
                       .child 9, .childClose]) := by decide +kernel

/-! ### BIND / UDP ASSOCIATE, method selection for every offered list -/

/-- a request the connect stage refuses with REP `c`, after any accepted greeting (+ auth), cut in any way -/
private theorem rejected_after_pre (env : Env) (segs : List Bytes) (pre req : Bytes) (c : UInt8)
    (hflat : segs.flatten = pre ++ req) (hpre : ValidPre env pre)
    (hrej : syncConnect env req = (.done, [.send (reply c), .close])) :
    let r := (inc env).feedAll init segs
    r.1 = .done ∧ sends r.2 = preSends env ++ [reply c] ∧ r.2.getLast? = some .close ∧
      setAddrs r.2 = [] ∧ Out.openServer ∉ r.2 ∧ childBytes r.2 = [] ∧ Out.childStart ∉ r.2 := by
  intro r
  have hr : r = feed env init segs.flatten := seg_independent env init segs
  obtain ⟨o, ho, h1, h2, h3, h4, h5, _⟩ := pre_then_connect env pre req hpre
  rw [hr, hflat, ho, hrej]
  simp [h1, h2, h3, h4, h5, sends, setAddrs, childBytes, List.getLast?_append]

/-- **BIND, UDP ASSOCIATE and every other command** are refused: after any accepted greeting (+ auth), a request
    whose CMD is not CONNECT (5 bytes of it available), cut in any way, is answered with REP 07 and the client is
    closed; no destination is set, nothing is opened, nothing reaches the next layer. -/
theorem other_commands_rejected (env : Env) (segs : List Bytes) (pre : Bytes) (cmd rsv a x : UInt8) (tl : Bytes)
    (hflat : segs.flatten = pre ++ (5 :: cmd :: rsv :: a :: x :: tl)) (hpre : ValidPre env pre) (hcmd : cmd ≠ 1) :
    let r := (inc env).feedAll init segs
    r.1 = .done ∧ sends r.2 = preSends env ++ [reply 7] ∧ r.2.getLast? = some .close ∧
      setAddrs r.2 = [] ∧ Out.openServer ∉ r.2 ∧ childBytes r.2 = [] ∧ Out.childStart ∉ r.2 :=
  rejected_after_pre env segs pre _ 7 hflat hpre ((reject_codes env).2.1 5 cmd rsv a x tl (by simp [hcmd]))

/-- BIND (CMD 02) and UDP ASSOCIATE (CMD 03) in particular -/
theorem bind_and_udp_associate_rejected (env : Env) (segs : List Bytes) (pre : Bytes) (rsv a x : UInt8) (tl : Bytes)
    (cmd : UInt8) (hc : cmd = 2 ∨ cmd = 3)
    (hflat : segs.flatten = pre ++ (5 :: cmd :: rsv :: a :: x :: tl)) (hpre : ValidPre env pre) :
    ((inc env).feedAll init segs).1 = .done ∧
      sends ((inc env).feedAll init segs).2 = preSends env ++ [reply 7] ∧
      setAddrs ((inc env).feedAll init segs).2 = [] ∧ childBytes ((inc env).feedAll init segs).2 = [] := by
  have hne : cmd ≠ 1 := by rcases hc with rfl | rfl <;> decide
  have := other_commands_rejected env segs pre cmd rsv a x tl hflat hpre hne
  exact ⟨this.1, this.2.1, this.2.2.2.1, this.2.2.2.2.2.1⟩

/-- **method selection for every offered-method list**: whatever list `ms` of at most 255 methods the client offers,
    whatever follows and however the stream is cut: if the required method (00, or 02 with proxyauth) is in the list
    the first reply is `05 <required>`, otherwise the only reply is `05 FF…`, the client is closed and nothing else
    happens. -/
theorem method_selection (env : Env) (ms rest : Bytes) (segs : List Bytes) (hl : ms.length < 256)
    (hflat : segs.flatten = greetMsg ms ++ rest) :
    (ms.contains (needed env) = true → (sends ((inc env).feedAll init segs).2).head? = some [5, needed env]) ∧
    (ms.contains (needed env) = false →
        (inc env).feedAll init segs = (.done, [.send (reply 0xFF), .close])) := by
  have hne : greetMsg ms ++ rest ≠ [] := by simp [greetMsg]
  rw [seg_independent, hflat, feed_init env _ hne]
  refine ⟨fun hc => ?_, fun hc => (reject_codes env).1 ms rest hl hc⟩
  rw [syncGreet_fwd env ms rest hl hc]
  by_cases ha : env.authOn = true <;> simp [ha, sends, needed]

/-- an incomplete method list is never answered -/
theorem greeting_incomplete_silent (env : Env) (ms : Bytes) (k : Nat) (segs : List Bytes) (hl : ms.length < 256)
    (hk : k < ms.length + 2) (hflat : segs.flatten = (greetMsg ms).take k) :
    (inc env).feedAll init segs = (.greet ((greetMsg ms).take k), []) := by
  rw [seg_independent, hflat]
  by_cases hne : (greetMsg ms).take k = []
  · rw [hne]; simp [feed, init]
  rw [feed_init env _ hne]
  match k, hk with
  | 0, _ => simp at hne
  | 1, _ => simp [greetMsg, syncGreet, parseGreet]
  | k + 2, hk =>
    have hlt : (ms.take k).length < ms.length := by simp only [List.length_take]; omega
    simp [greetMsg, syncGreet, parseGreet, UInt8.toNat_ofNat_of_lt' hl]
    have hm : min k ms.length < ms.length := by omega
    simp [hm]

/-! ### deferred completions: what was buffered is replayed to the handler in force at that moment -/

private theorem handleAll_relay_data (env : Env) (ds : List Bytes) :
    handleAll env (.settled .relay) (ds.map .data) = (.settled .relay, ds.flatten.map .child) := by
  induction ds with
  | nil => rfl
  | cons d ds ih =>
    have hd : handle env (.settled .relay) (.data d) = (.settled .relay, d.map .child) := by
      simp only [handle]; split
      · rename_i h; subst h; rfl
      · rfl
    simp [handleAll, hd, ih]

/-- **buffered request and data (the hook is pending, lazy strategy).**  The CONNECT request and later application
    data arrive as separate segments while the socks5_auth hook is still pending.  When the hook completes with a
    positive verdict the request is parsed by the SOCKS5 state machine, and every *later* buffered segment goes to the
    child layer — the handler is looked up per replayed event — exactly once and in order. -/
theorem buffered_request_then_data_relayed (env : Env) (u p : Bytes) (a : UInt8) (ad : Bytes) (pt : Nat) (t : Bytes)
    (ds : List Bytes) (hv : env.valid u p = true) (hlazy : env.eager = false) (hvd : ValidDest a ad pt) :
    complete env (.authWait u p [] (.data (encodeReq a ad pt ++ t) :: ds.map .data)) =
      (.settled .relay,
        [.send [1, 0], .setAddr a ad pt] ++ relayStart t ++ ds.flatten.map .child) := by
  have hne : encodeReq a ad pt ++ t ≠ [] := by
    unfold encodeReq; split <;> simp
  have hc : aConnect env [] = (.settled (.connect []), []) := by simp [aConnect, parseConnect]
  have hreq : handle env (.settled (.connect [])) (.data (encodeReq a ad pt ++ t)) =
      (.settled .relay, [.setAddr a ad pt] ++ relayStart t) := by
    simp only [handle, hne, if_false, List.nil_append]
    simp [aConnect, parseConnect_fwd a ad pt t hvd, hlazy]
  simp only [complete, hv, if_true, hc, handleAll, hreq, handleAll_relay_data]
  simp

/-- **deferred handshake relays**: any schedule (cuts + timing of hook / connect completions) of a well-formed
    handshake followed by `t` ends, once everything has completed, relaying, with exactly `t` given to the child and the
    requested destination set once. -/
theorem deferred_handshake_relays (env : Env) (acts : List Act) (segs : List Bytes) (pre : Bytes) (a : UInt8)
    (ad : Bytes) (p : Nat) (t : Bytes) (hins : insOf acts = segs.map .data)
    (hflat : segs.flatten = pre ++ encodeReq a ad p ++ t)
    (hpre : ValidPre env pre) (hvd : ValidDest a ad p) (hc : env.eager = true → env.connOk = true) :
    let r := actAll env (.settled init) acts
    let r' := settle env r.1
    r'.1 = .settled .relay ∧ childBytes (r.2 ++ r'.2) = t ∧ setAddrs (r.2 ++ r'.2) = [(a, ad, p)] := by
  intro r r'
  have h := schedule_and_segmentation_independent env acts segs false (by simpa using hins)
  have h2 := after_request_relayed_once_in_order env segs pre a ad p t hflat hpre hvd hc
  rw [seg_independent] at h2
  simp only [Bool.false_eq_true, if_false, List.append_nil] at h
  exact ⟨by rw [h.1, h2.1], by rw [h.2]; exact h2.2.1, by rw [h.2]; exact h2.2.2.1⟩

/-! ### the address text -/

private theorem digit_facts : ∀ d : Fin 10, isDigit (digitChar d.val) = true ∧ (digitChar d.val).toNat - 48 = d.val := by
  decide

private theorem takeDec_digit (d : Nat) (hd : d < 10) (r : List Char) (acc : Nat) :
    takeDec (digitChar d :: r) acc = takeDec r (acc * 10 + d) := by
  have := digit_facts ⟨d, hd⟩
  simp only [takeDec, this.1, if_true, this.2]

private theorem takeDec_stop (r : List Char) (acc : Nat) : takeDec ('.' :: r) acc = (acc, '.' :: r) := by
  simp [takeDec, isDigit]

/-- reading back one rendered byte, up to the next dot or the end -/
private theorem takeDec_decByte (n : Nat) (hn : n < 256) (r : List Char) (hr : r = [] ∨ ∃ r', r = '.' :: r') :
    takeDec (decByte n ++ r) 0 = (n, r) := by
  have stop : ∀ acc, takeDec r acc = (acc, r) := by
    intro acc; rcases hr with rfl | ⟨r', rfl⟩
    · rfl
    · exact takeDec_stop r' acc
  unfold decByte
  split
  · rename_i h; simp only [List.cons_append, List.nil_append]
    rw [takeDec_digit n h, stop]; simp
  · split
    · rename_i h1 h2
      simp only [List.cons_append, List.nil_append]
      rw [takeDec_digit _ (by omega), takeDec_digit _ (by omega), stop]
      congr 1; omega
    · rename_i h1 h2
      simp only [List.cons_append, List.nil_append]
      rw [takeDec_digit _ (by omega), takeDec_digit _ (by omega), takeDec_digit _ (by omega), stop]
      congr 1; omega

/-- **IPv4 text is exact**: the dotted quad the server stores reads back to the four requested bytes -/
theorem textV4_roundtrip (a b c d : UInt8) : parseV4 (textV4 [a, b, c, d]) = some [a, b, c, d] := by
  have ha := a.toNat_lt; have hb := b.toNat_lt; have hc := c.toNat_lt; have hd := d.toNat_lt
  simp only [textV4, parseV4, List.append_assoc, List.cons_append]
  rw [takeDec_decByte a.toNat ha _ (Or.inr ⟨_, rfl⟩)]
  simp only
  rw [takeDec_decByte b.toNat hb _ (Or.inr ⟨_, rfl⟩)]
  simp only
  rw [takeDec_decByte c.toNat hc _ (Or.inr ⟨_, rfl⟩)]
  simp only
  have := takeDec_decByte d.toNat hd [] (Or.inl rfl)
  rw [List.append_nil] at this
  rw [this]
  simp

theorem textV4_injective (x y : Bytes) (hx : x.length = 4) (hy : y.length = 4) (h : textV4 x = textV4 y) : x = y := by
  match x, hx, y, hy with
  | [a, b, c, d], _, [a', b', c', d'], _ =>
    have h1 := textV4_roundtrip a b c d
    rw [h, textV4_roundtrip] at h1
    exact (Option.some.inj h1).symm

private theorem ascii_char : ∀ n : Fin 128, UInt8.ofNat (Char.ofNat n.val).toNat = UInt8.ofNat n.val := by decide +kernel

/-- **ASCII names are exact**: for a name without non-ASCII bytes the stored host is the name, byte for byte -/
theorem textDomain_ascii (ad : Bytes) (h : ∀ b ∈ ad, b.toNat < 128) : asciiBytes (textDomain ad) = ad := by
  induction ad with
  | nil => rfl
  | cons b r ih =>
    have hb := h b (by simp)
    have := ascii_char ⟨b.toNat, hb⟩
    simp only [asciiBytes, textDomain, List.map_cons, hb, if_true] at this ⊢
    rw [this, UInt8.ofNat_toNat]
    congr 1
    exact ih (fun x hx => h x (by simp [hx]))

/-- in general the stored host has one character per byte (non-ASCII bytes become U+FFFD) -/
theorem textDomain_length (ad : Bytes) : (textDomain ad).length = ad.length := by simp [textDomain]

/-- **connects exactly where requested, as text**: for every segmentation of a well-formed handshake the one
    `(host, port)` assigned to `context.server.address` is `hostText` of the requested address and the requested port;
    for IPv4 that text reads back to the requested bytes, for an ASCII name it is the name. -/
theorem connects_to_requested_text (env : Env) (segs : List Bytes) (pre : Bytes) (a : UInt8) (ad : Bytes) (p : Nat)
    (t : Bytes) (hflat : segs.flatten = pre ++ encodeReq a ad p ++ t) (hpre : ValidPre env pre) (hvd : ValidDest a ad p) :
    addrTexts ((inc env).feedAll init segs).2 = [(hostText a ad, p)] ∧
    (a = 1 → parseV4 (hostText a ad) = some ad) ∧
    (a = 3 → (∀ b ∈ ad, b.toNat < 128) → asciiBytes (hostText a ad) = ad) := by
  refine ⟨?_, ?_, ?_⟩
  · rw [seg_independent, hflat, addrTexts, (run_requested env pre a ad p t hpre hvd).addr]
    rfl
  · intro ha; subst ha
    rcases hvd.1 with ⟨_, hl⟩ | ⟨h4, _⟩ | ⟨h3, _⟩
    · match ad, hl with
      | [x, y, z, w], _ => simpa [hostText] using textV4_roundtrip x y z w
    · cases h4
    · cases h3
  · intro ha hasc; subst ha
    simpa [hostText] using textDomain_ascii ad hasc

/-- **IPv6 text, RFC 5952 §4.2.2 / §4.2.3**: for every 16-byte address the run that `hostText` replaces by "::" is
    the leftmost longest run of at least two zero words; without such a run nothing is compressed. -/
theorem textV6_compresses_leftmost_longest_zero_run (ad : Bytes) (h : ad.length = 16) :
    bestRunSpec ((words16 ad).map (· == 0)) (bestRun (words16 ad)) = true :=
  bestRun_spec (words16 ad)

-- the text forms, computed by the kernel (what inet_ntop / decode give for the same bytes)
example : String.ofList (hostText 1 [127, 0, 0, 1]) = "127.0.0.1" := by decide +kernel
example : String.ofList (hostText 4 [0x20,1,0xd,0xb8,0,0,0,0,0,1,0,0,0,0,0,1]) = "2001:db8::1:0:0:1" := by decide +kernel
example : String.ofList (hostText 4 [0,0,0,0,0,0,0,0,0,0,0xff,0xff,1,2,3,4]) = "::ffff:1.2.3.4" := by decide +kernel
example : String.ofList (hostText 4 [0,1,0,0,0,2,0,0,0,3,0,0,0,4,0,0]) = "1:0:2:0:3:0:4:0" := by decide +kernel
example : hostText 3 [0x61, 0xe4] = ['a', Char.ofNat 0xFFFD] := by decide +kernel
-- BIND after a valid greeting, cut in two
example : (inc envT).feedAll init [[5,1,0,5], [2,0,1,0]] = (.done, [.send [5,0], .send (reply 7), .close]) := by decide +kernel
-- the schedule on which a `Layer` that looks the handler up once per resumption, not once per replayed event, goes
-- wrong (seeded/c21-3): request and data buffered while the hook is pending, lazy strategy
example : actAll ⟨true, fun _ _ => true, false, true⟩ (.settled init)
      [.ev (.data [5,1,2,1,0,0]), .ev (.data [5,1,0,1,1,2,3,4,0,80]), .ev (.data [7]), .ev (.data [8]), .complete] =
    (.settled .relay, [.send [5,2], .authHook [] [], .send [1,0], .setAddr 1 [1,2,3,4] 80, .childStart, .send (reply 0),
                       .child 7, .child 8]) := by decide +kernel

/-! ### the IPv6 text reads back (reader = C22's transcription of CPython `ipaddress.ip_address`) -/

/-- **IPv6 text is exact**: for every 16-byte address, `ipaddress.ip_address` (C22.parseIp) applied to the text the
    server stores (`textV6`: RFC 5952 compression, embedded-IPv4 forms) returns the IPv6 address whose integer is
    exactly the 16 requested bytes, big-endian, without scope — never an IPv4 address, never an error. -/
theorem textV6_reads_back (ad : Bytes) (h : ad.length = 16) :
    C22.parseIp (asciiBytes (textV6 ad)) = some (.v6 (beNat ad) none) := by
  rw [parseIp_textV6 ad h, wordsVal_words16 ad h]

/-- hence the IPv6 text determines the address -/
theorem textV6_injective (x y : Bytes) (hx : x.length = 16) (hy : y.length = 16) (h : textV6 x = textV6 y) : x = y := by
  have h1 := textV6_reads_back x hx
  rw [h, textV6_reads_back y hy] at h1
  have hv : beNat y = beNat x := by injection h1 with h1; injection h1
  exact (beFold_inj x y 0 0 (by omega) hv.symm).2

/-- the IPv4 text under the same reader -/
theorem textV4_reads_back_ipaddress (a b c d : UInt8) :
    C22.parseIp (asciiBytes (textV4 [a, b, c, d])) =
      some (.v4 (((a.toNat * 256 + b.toNat) * 256 + c.toNat) * 256 + d.toNat)) := by
  rw [textV4_eq]
  simp [C22.parseIp, Lemmas.C22.parseV4_dotted _ _ _ _ a.toNat_lt b.toNat_lt c.toNat_lt d.toNat_lt]

/-- **connects exactly where requested (IP literals, as `ipaddress` reads them)**: for every segmentation of a
    well-formed handshake for an IPv4 / IPv6 destination, the host text assigned to `context.server.address` parses —
    with CPython's `ipaddress.ip_address` — to exactly the requested address. -/
theorem connects_to_requested_ip (env : Env) (segs : List Bytes) (pre : Bytes) (a : UInt8) (ad : Bytes) (p : Nat)
    (t : Bytes) (hflat : segs.flatten = pre ++ encodeReq a ad p ++ t) (hpre : ValidPre env pre) (hvd : ValidDest a ad p) :
    addrTexts ((inc env).feedAll init segs).2 = [(hostText a ad, p)] ∧
    (a = 4 → C22.parseIp (asciiBytes (hostText a ad)) = some (.v6 (beNat ad) none)) ∧
    (a = 1 → C22.parseIp (asciiBytes (hostText a ad)) = some (.v4 (beNat ad))) := by
  refine ⟨(connects_to_requested_text env segs pre a ad p t hflat hpre hvd).1, ?_, ?_⟩
  · intro ha; subst ha
    rcases hvd.1 with ⟨h1, _⟩ | ⟨_, hl⟩ | ⟨h3, _⟩
    · cases h1
    · simpa [hostText] using textV6_reads_back ad hl
    · cases h3
  · intro ha; subst ha
    rcases hvd.1 with ⟨_, hl⟩ | ⟨h4, _⟩ | ⟨h3, _⟩
    · match ad, hl with
      | [x, y, z, w], _ =>
        have := textV4_reads_back_ipaddress x y z w
        simpa [hostText, beNat] using this
    · cases h4
    · cases h3

-- non-vacuity: the reader on concrete texts (kernel computation)
example : C22.parseIp (asciiBytes (textV6 [0x20,1,0xd,0xb8,0,0,0,0,0,1,0,0,0,0,0,1])) =
    some (.v6 (beNat [0x20,1,0xd,0xb8,0,0,0,0,0,1,0,0,0,0,0,1]) none) := by decide +kernel
example : C22.parseIp (asciiBytes (textV6 [0,0,0,0,0,0,0,0,0,0,0xff,0xff,1,2,3,4])) =
    some (.v6 0xffff01020304 none) := by decide +kernel

/-! ### whole-history forms of the remaining reject clauses, and the outcome trichotomy -/

/-- **unknown address type** (whole history): after any accepted greeting (+ auth), a CONNECT request with an ATYP
    other than 1, 3, 4 (5 bytes of it available), cut in any way: REP 08, client closed, no destination, nothing opened,
    nothing relayed. -/
theorem unknown_atyp_rejected (env : Env) (segs : List Bytes) (pre : Bytes) (a x : UInt8) (tl : Bytes)
    (hflat : segs.flatten = pre ++ (5 :: 1 :: 0 :: a :: x :: tl)) (hpre : ValidPre env pre)
    (h1 : a ≠ 1) (h4 : a ≠ 4) (h3 : a ≠ 3) :
    let r := (inc env).feedAll init segs
    r.1 = .done ∧ sends r.2 = preSends env ++ [reply 8] ∧ r.2.getLast? = some .close ∧
      setAddrs r.2 = [] ∧ Out.openServer ∉ r.2 ∧ childBytes r.2 = [] ∧ Out.childStart ∉ r.2 :=
  rejected_after_pre env segs pre _ 8 hflat hpre ((reject_codes env).2.2.1 a x tl h1 h4 h3)

/-- **destination unreachable** (whole history): a well-formed handshake whose eager connection attempt fails, cut
    in any way: the requested destination is set and tried once, REP 04, client closed, nothing relayed. -/
theorem unreachable_rejected (env : Env) (segs : List Bytes) (pre : Bytes) (a : UInt8) (ad : Bytes) (p : Nat) (t : Bytes)
    (hflat : segs.flatten = pre ++ encodeReq a ad p ++ t) (hpre : ValidPre env pre) (hvd : ValidDest a ad p)
    (he : env.eager = true) (hc : env.connOk = false) :
    let r := (inc env).feedAll init segs
    r.1 = .done ∧ sends r.2 = preSends env ++ [reply 4] ∧ r.2.getLast? = some .close ∧
      setAddrs r.2 = [(a, ad, p)] ∧ childBytes r.2 = [] ∧ Out.childStart ∉ r.2 := by
  intro r
  have hr : r = feed env init segs.flatten := seg_independent env init segs
  have hq := run_requested env pre a ad p t hpre hvd
  rw [hr, hflat]
  rcases hq.ends with ⟨_, hok, _⟩ | ⟨hdn, _, _, hch, hse, hcl, hcs⟩
  · rw [hok he] at hc; cases hc
  · exact ⟨hdn, hse, hcl, hq.addr, hch, hcs⟩

/-- **"either rejects … or connects …"**: for every byte stream and every segmentation the machine is in exactly one
    of three situations — still waiting for handshake bytes (nothing set, opened, relayed or closed beyond the replies
    so far), rejected (client closed last, nothing relayed, no success reply), or connected (the stream is
    `greeting [auth] request(a, ad, p) trailing`, that destination is the one set, the success reply was sent and exactly
    `trailing` reached the next layer). -/
theorem outcome_trichotomy (env : Env) (segs : List Bytes) :
    let r := (inc env).feedAll init segs
    ((∃ buf, r.1 = .greet buf ∨ r.1 = .auth buf ∨ r.1 = .connect buf) ∧
        setAddrs r.2 = [] ∧ childBytes r.2 = [] ∧ Out.openServer ∉ r.2 ∧ reply 0 ∉ sends r.2) ∨
    (r.1 = .done ∧ r.2.getLast? = some .close ∧ childBytes r.2 = [] ∧ Out.childStart ∉ r.2 ∧ reply 0 ∉ sends r.2) ∨
    (r.1 = .relay ∧ ∃ pre a ad p t, segs.flatten = pre ++ encodeReq a ad p ++ t ∧ ValidPre env pre ∧ ValidDest a ad p ∧
        setAddrs r.2 = [(a, ad, p)] ∧ childBytes r.2 = t ∧ sends r.2 = preSends env ++ [reply 0]) := by
  intro r
  have hr : r = feed env init segs.flatten := seg_independent env init segs
  rw [hr]
  rcases run_outcome env segs.flatten with hA | ⟨pre, a, ad, p, t, hin, hpre, hvd, hq⟩
  · obtain ⟨hrel, had, hch, hcs, hop, hsu, hcl⟩ := hA
    cases hst : (feed env init segs.flatten).1 with
    | relay => exact absurd hst hrel
    | done => exact Or.inr (Or.inl ⟨rfl, hcl hst, hch, hcs, hsu⟩)
    | greet buf => exact Or.inl ⟨⟨buf, Or.inl rfl⟩, had, hch, hop, hsu⟩
    | auth buf => exact Or.inl ⟨⟨buf, Or.inr (Or.inl rfl)⟩, had, hch, hop, hsu⟩
    | connect buf => exact Or.inl ⟨⟨buf, Or.inr (Or.inr rfl)⟩, had, hch, hop, hsu⟩
  · rcases hq.ends with ⟨hrel, _, hch, hse⟩ | ⟨hdn, _, _, hch, hse, hcl, hcs⟩
    · exact Or.inr (Or.inr ⟨hrel, pre, a, ad, p, t, hin, hpre, hvd, hq.addr, hch, hse⟩)
    · refine Or.inr (Or.inl ⟨hdn, hcl, hch, hcs, ?_⟩)
      rw [hse]
      simp [reply0_not_pre env, show reply 0 ≠ reply 4 by decide]

/-! ### CPython's IPv6 writer (`str(ipaddress.IPv6Address)`, used elsewhere in mitmproxy, e.g. for AAAA data) -/

/-- the text CPython writes for an IPv6 address reads back — with the transcription of CPython's reader — to exactly
    the 16 bytes, for every address -/
theorem textV6Py_reads_back (ad : Bytes) (h : ad.length = 16) :
    C22.parseIp (asciiBytes (textV6Py ad)) = some (.v6 (beNat ad) none) := by
  rw [parseIp_textV6Py ad h, wordsVal_words16 ad h]

/-- CPython's writer and inet_ntop6 (the text Socks5Proxy stores) give the same text unless inet_ntop6 embeds an IPv4
    suffix (`::a.b.c.d`, `::ffff:a.b.c.d`) -/
theorem textV6Py_eq_inet_ntop_unless_embedded (ad : Bytes)
    (h : ¬ Embedded (bestRun (words16 ad)) ((words16 ad).getD 5 0)) : textV6Py ad = textV6 ad :=
  textV6Py_eq_textV6 ad h

example : String.ofList (textV6Py [0,0,0,0,0,0,0,0,0,0,0xff,0xff,1,2,3,4]) = "::ffff:102:304" := by decide +kernel
example : String.ofList (textV6Py [0x20,1,0xd,0xb8,0,0,0,0,0,1,0,0,0,0,0,1]) = "2001:db8::1:0:0:1" := by decide +kernel
example : bestRun (words16 [0,0,0,0,0,0,0,0,0,0,0xff,0xff,1,2,3,4]) = some ⟨0, 5⟩ := by decide +kernel
example : ¬ Embedded (bestRun (words16 [0x20,1,0xd,0xb8,0,0,0,0,0,1,0,0,0,0,0,1])) 1 := by
  have : bestRun (words16 [0x20,1,0xd,0xb8,0,0,0,0,0,1,0,0,0,0,0,1]) = some ⟨2, 2⟩ := by decide +kernel
  simp [this, Embedded]

/-! ### (T) the model's literals are the constants of the code (Gen/C21.lean is regenerated on every run) -/

open MitmVerif.Gen.C21 in
/-- version, method numbers, address types and reply codes used by the model are modes.py's `SOCKS5_*` constants -/
theorem constants_match_code :
    needed envT = UInt8.ofNat SOCKS5_METHOD_NO_AUTHENTICATION_REQUIRED ∧
    needed envA = UInt8.ofNat SOCKS5_METHOD_USER_PASSWORD_AUTHENTICATION ∧
    syncGreet envT [UInt8.ofNat SOCKS5_VERSION, 0] =
      (.done, [.send (reply (UInt8.ofNat SOCKS5_METHOD_NO_ACCEPTABLE_METHODS)), .close]) ∧
    syncConnect envA [UInt8.ofNat SOCKS5_VERSION, 1, 0, UInt8.ofNat SOCKS5_ATYP_IPV4_ADDRESS, 1, 2, 3, 4, 0, 80] =
      (.done, [.setAddr 1 [1, 2, 3, 4] 80, .openServer, .send (reply (UInt8.ofNat SOCKS5_REP_HOST_UNREACHABLE)), .close]) ∧
    syncConnect envA [UInt8.ofNat SOCKS5_VERSION, 1, 0, UInt8.ofNat SOCKS5_ATYP_DOMAINNAME, 1, 0x78, 0, 80] =
      (.done, [.setAddr 3 [0x78] 80, .openServer, .send (reply (UInt8.ofNat SOCKS5_REP_HOST_UNREACHABLE)), .close]) ∧
    syncConnect envA [UInt8.ofNat SOCKS5_VERSION, 1, 0, UInt8.ofNat SOCKS5_ATYP_IPV6_ADDRESS,
        0, 0, 0, 0, 0, 0, 0, 0, 0, 0, 0, 0, 0, 0, 0, 1, 0, 80] =
      (.done, [.setAddr 4 [0, 0, 0, 0, 0, 0, 0, 0, 0, 0, 0, 0, 0, 0, 0, 1] 80, .openServer,
               .send (reply (UInt8.ofNat SOCKS5_REP_HOST_UNREACHABLE)), .close]) ∧
    syncConnect envT [UInt8.ofNat SOCKS5_VERSION, 2, 0, 1, 0] =
      (.done, [.send (reply (UInt8.ofNat SOCKS5_REP_COMMAND_NOT_SUPPORTED)), .close]) ∧
    syncConnect envT [UInt8.ofNat SOCKS5_VERSION, 1, 0, 9, 0] =
      (.done, [.send (reply (UInt8.ofNat SOCKS5_REP_ADDRESS_TYPE_NOT_SUPPORTED)), .close]) := by
  decide +kernel

/-! ### further non-vacuity witnesses (the hypotheses of the whole-history theorems instantiated) -/

private def auPre : Bytes := [5, 1, 0]                                   -- greeting offering "no authentication"
private def auPreA : Bytes := [5, 2, 0, 2, 1, 1, 0x61, 1, 0x62]           -- greeting offering 00,02 + user "a" / password "b"
private theorem auValidPre : ValidPre envT auPre := ⟨[0], by decide, by decide, Or.inl ⟨rfl, rfl⟩⟩
private theorem auValidPreA : ValidPre envA auPreA :=
  ⟨[0, 2], by decide, by decide, Or.inr ⟨rfl, 1, [0x61], [0x62], by decide, by decide, by decide, rfl⟩⟩
private theorem auDest4 : ValidDest 1 [10, 0, 0, 1] 443 := ⟨Or.inl ⟨rfl, rfl⟩, by decide⟩
private theorem auDest6 : ValidDest 4 [0x20,1,0xd,0xb8,0,0,0,0,0,0,0,0,0,0,0,1] 80 := ⟨Or.inr (Or.inl ⟨rfl, rfl⟩), by decide⟩

/-- `after_request_relayed_once_in_order`, `connects_to_requested_ip` (IPv6), `relayed_only_after_request`: a handshake cut in
    three odd places, with two trailing bytes -/
example := after_request_relayed_once_in_order envT [[5], [1, 0, 5, 1, 0, 1, 10, 0], [0, 1, 1, 0xbb, 7, 8]] auPre 1 [10, 0, 0, 1] 443 [7, 8]
  (by decide) auValidPre auDest4 (fun _ => rfl)
example := connects_to_requested_ip envT [[5, 1, 0, 5, 1, 0, 4, 0x20,1,0xd,0xb8,0,0,0,0], [0,0,0,0,0,0,0,1, 0, 80]] auPre 4
  [0x20,1,0xd,0xb8,0,0,0,0,0,0,0,0,0,0,0,1] 80 [] (by decide) auValidPre auDest6
example : ((inc envT).feedAll init [[5], [1, 0, 5, 1, 0, 1, 10, 0], [0, 1, 1, 0xbb, 7, 8]]).1 = .relay := by decide +kernel
/-- `unreachable_rejected` (eager connect fails, with authentication), `other_commands_rejected`, `unknown_atyp_rejected` -/
example := unreachable_rejected envA [auPreA, [5, 1, 0, 1, 10, 0, 0, 1, 1, 0xbb]] auPreA 1 [10, 0, 0, 1] 443 []
  (by decide) auValidPreA auDest4 rfl rfl
example := other_commands_rejected envT [[5, 1], [0, 5, 3, 0, 1, 0, 9]] auPre 3 0 1 0 [9] (by decide) auValidPre (by decide)
example := unknown_atyp_rejected envA [auPreA ++ [5, 1, 0, 2, 0]] auPreA 2 0 [] (by decide) auValidPreA (by decide) (by decide) (by decide)
/-- `method_selection` (both branches) and `greeting_incomplete_silent` -/
example := (method_selection envA [0, 1] [9] [[5, 2, 0], [1, 9]] (by decide) (by decide)).2 (by decide)
example := (method_selection envA [0, 2] [] [[5, 2, 0], [2]] (by decide) (by decide)).1 (by decide)
example := greeting_incomplete_silent envT [0, 1, 2] 3 [[5], [3, 0]] (by decide) (by decide) (by decide)
/-- `schedule_and_segmentation_independent`, `deferred_handshake_relays`: data, then the hook and the connect complete late, EOF last -/
private def auEnvL : Env := ⟨true, fun _ _ => true, true, true⟩
private theorem auValidPreL : ValidPre auEnvL auPreA :=
  ⟨[0, 2], by decide, by decide, Or.inr ⟨rfl, 1, [0x61], [0x62], by decide, by decide, rfl, rfl⟩⟩
example := deferred_handshake_relays auEnvL
  [.ev (.data auPreA), .ev (.data [5, 1, 0, 1, 10, 0]), .complete, .ev (.data [0, 1, 1, 0xbb, 7]), .ev (.data [8]), .complete]
  [auPreA, [5, 1, 0, 1, 10, 0], [0, 1, 1, 0xbb, 7], [8]] auPreA 1 [10, 0, 0, 1] 443 [7, 8]
  (by decide) (by decide) auValidPreL auDest4 (fun _ => rfl)
example := schedule_and_segmentation_independent auEnvL
  [.ev (.data auPreA), .complete, .ev (.data [5, 1, 0, 1, 10, 0, 0, 1, 1, 0xbb]), .ev .close] [auPreA, [5, 1, 0, 1, 10, 0, 0, 1, 1, 0xbb]] true
  (by decide)
/-- `buffered_request_then_data_relayed`: its start state is reached by the schedule "greeting + credentials, then request, then data" -/
example : (actAll ⟨true, fun _ _ => true, false, true⟩ (.settled init)
    [.ev (.data [5, 1, 2, 1, 0, 0]), .ev (.data (encodeReq 1 [1, 2, 3, 4] 80 ++ [7])), .ev (.data [8])]).1 =
    .authWait [] [] [] [.data (encodeReq 1 [1, 2, 3, 4] 80 ++ [7]), .data [8]] := by decide +kernel

end MitmVerif.Props.C21
