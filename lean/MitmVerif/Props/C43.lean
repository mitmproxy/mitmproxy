/-
  C43 — property theorems for the model of `mitmproxy/addons/view.py` (View / Focus / Settings / _OrderKey).

  `run ops` is the state after ANY sequence of operations (add / update with new attributes / remove / clear /
  clear-unmarked / `mutate` = change of a flow that is NOT reported to the view / set_filter / set_order /
  set_reversed / toggle_marked / focus-follow / go / next / prev / focus assignment / settings write) applied to a
  fresh view; `step s op` is one more operation, its signal trace in `trace`.  `shown s` is `list(view)`.

  Everything about one state is read off `good_run` (Lemmas/C43Ops.lean): after every history the invariant `Good`
  holds, with `stale ops` (= `(runD ops).2`) as the flows whose last change the view has not seen.  Everything about the
  signals of one more operation is read off `step_spec`, whose `Shape` lists the seven forms the announcements of an
  operation take against what it did to list and store (`sigOK_of_shape`).  The refinement to "filter the store, then
  stable sort" is `refilter_view` / `setOrder_view` (Lemmas/C43Wholesale.lean) and `Good.view_eq_sort`.  The real keys:
  `genKey` and `SortKey.le` (Model/C43_Keys.lean) with the rank map of Lemmas/C43KeyOrder.lean;
  `view_sorted_by_real_keys` runs the model on the ranks of the generated keys of a history given by flow data
  (Lemmas/C43FlowData.lean) and so needs no hypothesis about the naturals.

  Not said: `SigOK` speaks of membership in the trace of the operation, neither of how often a signal is sent nor of
  the order of the signals.  With equal keys the order in the list is that of (re-)insertion and depends on the history;
  it is determined only right after a re-filter or re-order, or when the keys are pairwise different.
-/
import MitmVerif.Lemmas.C43FlowData
namespace MitmVerif.Props.C43
open MitmVerif MitmVerif.C43

/-- the flows that were changed behind the view's back (`mutate`) in a way that changed their visibility or their key
    under the selected order, and have not been re-evaluated since: a flow is current again after its own add / update /
    settings write, all flows are after clear, clear-unmarked, set_filter or toggle_marked (`dirtyStep`) -/
def stale (ops : List Op) : List Nat := (runD ops).2

private theorem shown_perm (s : VS) : (shown s).Perm s.view := by
  unfold shown
  split
  · exact List.reverse_perm _
  · exact List.Perm.refl _

/-- an order on (a part of) the underlying list shows in `list(view)`, turned around when reversed -/
private theorem pairwise_shown (s : VS) (F : List Nat → List Nat) (hF : ∀ l, F l.reverse = (F l).reverse)
    {R : Nat → Nat → Prop} (h : (F s.view).Pairwise R) :
    if s.reversed then (F (shown s)).Pairwise (fun a b => R b a) else (F (shown s)).Pairwise R := by
  unfold shown
  cases s.reversed with
  | true =>
    simp only [if_true]
    rw [hF]
    exact List.pairwise_reverse.mpr h
  | false => exact h

/-- **the view is the sorted filter** — after ANY operation sequence, including changes of flows that are not
    reported to the view:
    1. every listed flow is stored (so a removed / cleared flow is gone whatever happened to its key);
    2. a stored flow whose last change the view has seen (`∉ stale`) is listed iff it matches the current filter
       (and is marked while marked-only is on);
    3. among those flows the list is sorted by the current key of the selected order, descending when reversed. -/
theorem view_eq_sorted_filter (ops : List Op) :
    let s := run ops
    (∀ g, g ∈ shown s → g ∈ s.store) ∧
    (∀ g, g ∈ s.store → g ∉ stale ops → (g ∈ shown s ↔ visible s g = true)) ∧
    (if s.reversed then ((shown s).filter (fun g => decide (g ∉ stale ops))).Pairwise (fun a b => gen s b ≤ gen s a)
     else ((shown s).filter (fun g => decide (g ∉ stale ops))).Pairwise (fun a b => gen s a ≤ gen s b)) := by
  intro s
  have h : Good s (stale ops) := good_run ops
  exact ⟨fun g hg => h.core.viewSub g ((shown_perm s).mem_iff.mp hg),
    fun g hg hx => (shown_perm s).mem_iff.trans (h.core.vis g hg hx),
    pairwise_shown s (List.filter _) (fun l => List.filter_reverse ..) h.sorted⟩

/-- … and when every change has been reported (`stale ops = []`, e.g. no `mutate` since the last re-filter, or each
    followed by the flow's `update`) this is the full statement: `list(view)` is a permutation of the matching stored
    flows, sorted by the selected order, reversed when requested. -/
theorem view_eq_sorted_filter_current (ops : List Op) (hcur : stale ops = []) :
    let s := run ops
    (shown s).Perm (s.store.filter (fun f => visible s f)) ∧
    (if s.reversed then (shown s).Pairwise (fun a b => gen s b ≤ gen s a)
     else (shown s).Pairwise (fun a b => gen s a ≤ gen s b)) := by
  intro s
  have ⟨hsort, hperm⟩ := Good.sorted_perm (s := s) (hcur ▸ good_run ops)
  exact ⟨(shown_perm s).trans hperm, pairwise_shown s id (fun _ => rfl) hsort⟩

/-- histories without unreported changes have no stale flows -/
theorem stale_nil_of_reported (ops : List Op) (h : ∀ f a, Op.mutate f a ∉ ops) : stale ops = [] := by
  refine List.foldlRecOn ops _ (motive := fun p : VS × List Nat => p.2 = []) rfl fun p hp o ho => ?_
  show dirtyStep p.1 p.2 o = []
  rw [hp]
  cases o with
  | mutate f a => exact absurd ho (h f a)
  | add f a => simp only [dirtyStep]; split <;> simp
  | setval f => simp only [dirtyStep]; split <;> simp
  | _ => simp [dirtyStep]

/-- **each once**: no flow is listed twice -/
theorem each_once (ops : List Op) : (shown (run ops)).Nodup :=
  (shown_perm _).nodup_iff.mpr (good_run ops).core.viewNodup

/-- **focus in view or empty**: the focus is always one of the listed flows; there is no focus only when
    nothing is listed -/
theorem focus_in_view_or_empty (ops : List Op) :
    match (run ops).focus with
    | none => shown (run ops) = []
    | some f => f ∈ shown (run ops) := by
  have hf := (good_run ops).focus
  unfold FocusOK at hf
  cases hfc : (run ops).focus with
  | none =>
    rw [hfc] at hf
    exact (hf ▸ shown_perm (run ops)).eq_nil
  | some f =>
    rw [hfc] at hf
    exact (shown_perm (run ops)).mem_iff.mpr hf

/-- **settings ⊆ store**: per-flow settings (including the cached sort keys) exist only for stored flows -/
theorem settings_subset_store (ops : List Op) : ∀ g, g ∈ (run ops).settings → g ∈ (run ops).store :=
  (good_run ops).settings

/-- **never crashes**: none of the internal lookups (`settings[f][key]`, `view[idx]`, the focus setter's membership
    test) can fail -/
theorem never_crashes (ops : List Op) : (run ops).crash = false := (good_run ops).nocrash

/-- what the signals of one operation must say about it; `s` before, `s'` after -/
structure SigOK (s s' : VS) : Prop where
  /-- `sig_view_add(f)` only for a flow that was not listed and now is -/
  vadd : ∀ f, .vadd f ∈ s'.trace → f ∉ s.view ∧ f ∈ s'.view
  /-- `sig_view_remove(f, i)` only for a flow that was listed at index `i` and is no longer -/
  vrm : ∀ f i, .vrm f i ∈ s'.trace → f ∈ s.view ∧ i = s.view.idxOf f ∧ f ∉ s'.view
  /-- `sig_view_update(f)` only for a flow listed before and after -/
  vupd : ∀ f, .vupd f ∈ s'.trace → f ∈ s.view ∧ f ∈ s'.view
  /-- `sig_store_remove(f)` only for a flow that was stored and is no longer -/
  srm : ∀ f, .srm f ∈ s'.trace → f ∈ s.store ∧ f ∉ s'.store
  /-- every flow that entered the list is announced (individually or by a refresh) -/
  entered : ∀ f, f ∈ s'.view → f ∉ s.view → .vadd f ∈ s'.trace ∨ .vrefresh ∈ s'.trace
  /-- every flow that left the list is announced -/
  left : ∀ f, f ∈ s.view → f ∉ s'.view → (∃ i, .vrm f i ∈ s'.trace) ∨ .vrefresh ∈ s'.trace
  /-- every flow that left the store is announced -/
  unstored : ∀ f, f ∈ s.store → f ∉ s'.store → .srm f ∈ s'.trace ∨ .srefresh ∈ s'.trace

private theorem in_trace {s : VS} {x : Sig} (h : x ∈ sigs s) : x ∈ s.trace := ((mem_sigs s x).mp h).1

/-- what justifies a single signal -/
@[reducible] private def Justified (s s' : VS) : Sig → Prop
  | .vadd f => f ∉ s.view ∧ f ∈ s'.view
  | .vrm f i => f ∈ s.view ∧ i = s.view.idxOf f ∧ f ∉ s'.view
  | .vupd f => f ∈ s.view ∧ f ∈ s'.view
  | .srm f => f ∈ s.store ∧ f ∉ s'.store
  | _ => True

/-- `SigOK` in terms of the signals other than the focus change -/
private theorem sigOK_of {s s' : VS} (hJ : ∀ x, x ∈ sigs s' → Justified s s' x)
    (h5 : ∀ f, f ∈ s'.view → f ∉ s.view → .vadd f ∈ sigs s' ∨ .vrefresh ∈ sigs s')
    (h6 : ∀ f, f ∈ s.view → f ∉ s'.view → (∃ i, .vrm f i ∈ sigs s') ∨ .vrefresh ∈ sigs s')
    (h7 : ∀ f, f ∈ s.store → f ∉ s'.store → .srm f ∈ sigs s' ∨ .srefresh ∈ sigs s') : SigOK s s' :=
  have tr : ∀ {x : Sig}, x ≠ .fchange → x ∈ s'.trace → x ∈ sigs s' := fun hx h => (mem_sigs s' _).mpr ⟨h, hx⟩
  ⟨fun f h => hJ _ (tr (by simp) h), fun f i h => hJ _ (tr (by simp) h), fun f h => hJ _ (tr (by simp) h),
    fun f h => hJ _ (tr (by simp) h), fun f h1 h2 => (h5 f h1 h2).imp in_trace in_trace,
    fun f h1 h2 => (h6 f h1 h2).imp (fun ⟨i, h⟩ => ⟨i, in_trace h⟩) in_trace,
    fun f h1 h2 => (h7 f h1 h2).imp in_trace in_trace⟩

private theorem sigOK_of_shape {s s' : VS} {D : List Nat} (hg : Good s D) (sh : Shape s.view s.store s') : SigOK s s' := by
  have nv : ∀ f, f ∉ s.view.erase f := fun _ => hg.core.viewNodup.not_mem_erase
  have ns : ∀ f, f ∉ s.store.erase f := fun _ => hg.core.storeNodup.not_mem_erase
  have all1 : ∀ {a : Sig}, Justified s s' a → ∀ x, x ∈ [a] → Justified s s' x :=
    fun ha x hx => List.mem_singleton.mp hx ▸ ha
  have all2 : ∀ {a b : Sig}, Justified s s' a → Justified s s' b → ∀ x, x ∈ [a, b] → Justified s s' x :=
    fun ha hb x hx => (List.mem_cons.mp hx).elim (fun e => e ▸ ha) (all1 hb x)
  -- a flow that left the list / the store by `erase` is the erased one, whose signal is listed
  have left : ∀ g, s'.view = s.view.erase g → .vrm g (s.view.idxOf g) ∈ sigs s' → ∀ f, f ∈ s.view → f ∉ s'.view →
      (∃ i, .vrm f i ∈ sigs s') ∨ .vrefresh ∈ sigs s' := by
    intro g c hin f h1 h2
    by_cases hfg : f = g
    · exact Or.inl ⟨_, hfg ▸ hin⟩
    · exact absurd (c ▸ (List.mem_erase_of_ne hfg).mpr h1) h2
  have unstored : ∀ g, s'.store = s.store.erase g → .srm g ∈ sigs s' → ∀ f, f ∈ s.store → f ∉ s'.store →
      .srm f ∈ sigs s' ∨ .srefresh ∈ sigs s' := by
    intro g d hin f h1 h2
    by_cases hfg : f = g
    · exact Or.inl (hfg ▸ hin)
    · exact absurd (d ▸ (List.mem_erase_of_ne hfg).mpr h1) h2
  rcases sh with ⟨a, b, c⟩ | ⟨g, a, b, c, d⟩ | ⟨g, a, b, c, d⟩ | ⟨g, a, b, c, d⟩ | ⟨g, a, b, c, d, e⟩ | ⟨g, a, b, c, d, e⟩ | a
  · exact sigOK_of (a ▸ nofun) (fun f h1 h2 => absurd ((b f).mp h1) h2) (fun f h1 h2 => absurd ((b f).mpr h1) h2)
      (fun f h1 h2 => absurd (c f h1) h2)
  · refine sigOK_of (a ▸ all1 ⟨b, (c g).mpr (Or.inl rfl)⟩) (fun f h1 h2 => ?_)
      (fun f h1 h2 => absurd ((c f).mpr (Or.inr h1)) h2) (fun f h1 h2 => absurd (d f h1) h2)
    exact ((c f).mp h1).elim (fun e => Or.inl (by rw [a, e]; simp)) (fun h => absurd h h2)
  · exact sigOK_of (a ▸ all1 ⟨b, rfl, c ▸ nv g⟩) (fun f h1 h2 => absurd (List.mem_of_mem_erase (c ▸ h1)) h2)
      (left g c (by rw [a]; simp)) (fun f h1 h2 => absurd (d f h1) h2)
  · refine sigOK_of ?_ (fun f h1 h2 => absurd ((c f).mp h1) h2) (fun f h1 h2 => absurd ((c f).mpr h1) h2)
      (fun f h1 h2 => absurd (d f h1) h2)
    rcases a with a | a
    · exact a ▸ all1 ⟨b, (c g).mpr b⟩
    · exact a ▸ all2 trivial ⟨b, (c g).mpr b⟩
  · exact sigOK_of (a ▸ all2 ⟨b, rfl, c ▸ nv g⟩ ⟨e, d ▸ ns g⟩) (fun f h1 h2 => absurd (List.mem_of_mem_erase (c ▸ h1)) h2)
      (left g c (by rw [a]; simp)) (unstored g d (by rw [a]; simp))
  · exact sigOK_of (a ▸ all1 ⟨e, d ▸ ns g⟩) (fun f h1 h2 => absurd (c ▸ h1) h2) (fun f h1 h2 => absurd (c ▸ h1) h2)
      (unstored g d (by rw [a]; simp))
  · have hR : Sig.vrefresh ∈ sigs s' := by rcases a with ⟨a, _⟩ | a <;> rw [a] <;> simp
    refine sigOK_of ?_ (fun _ _ _ => Or.inr hR) (fun _ _ _ => Or.inr hR) (fun f h1 h2 => ?_)
    · rcases a with ⟨a, _⟩ | a
      · exact a ▸ all1 trivial
      · exact a ▸ all2 trivial trivial
    · rcases a with ⟨_, a2⟩ | a
      · exact absurd (a2 ▸ h1) h2
      · exact Or.inr (by rw [a]; simp)

/-- **signals match changes**: after any history, every add / remove / update / store-remove signal the next operation
    sends names a change it made, and every change of the list or the store is announced, by its own signal or by a
    refresh.  Membership only: that a signal is sent once, and in which order, is not stated. -/
theorem signals_match_changes (ops : List Op) (op : Op) : SigOK (run ops) (step (run ops) op) :=
  sigOK_of_shape (good_run ops) (step_spec (good_run ops) op).2.1

/-- an `update` (or a settings write, which triggers the update hook) of a flow that is listed before and after
    is announced by `sig_view_update` -/
theorem update_is_announced (ops : List Op) (f : Nat) :
    (∀ a, f ∈ (run ops).view → f ∈ (step (run ops) (.update f a)).view →
        .vupd f ∈ (step (run ops) (.update f a)).trace) ∧
    (f ∈ (run ops).view → f ∈ (step (run ops) (.setval f)).view →
        .vupd f ∈ (step (run ops) (.setval f)).trace) :=
  ⟨fun a => step_update_announced (good_run ops) f a, step_setval_announced (good_run ops) f⟩

/-- **the sorted list is a stable sort**: inserting the elements of `l` one after the other at `bisect_right` of their
    key (`insertAll`, the model of `SortedListWithKey.add`/`update`) yields a permutation of `l` that is sorted by the
    key and in which elements with equal keys keep the order they had in `l`. -/
theorem sorted_list_is_stable_sort (k : Nat → Nat) (l : List Nat) :
    (insertAll k l).Perm l ∧ (insertAll k l).Pairwise (fun a b => k a ≤ k b) ∧
    ∀ c, (insertAll k l).filter (fun y => decide (k y = c)) = l.filter (fun y => decide (k y = c)) :=
  ⟨insertAll_perm k l, insertAll_sorted k l, fun c => insertAll_stable k c l⟩

/-- **a re-filter is exactly "filter the store, then stable sort"**: after any history, right after `set_filter`,
    `toggle_marked` or `clear_not_marked` the underlying list equals the stable sort, by the current keys of the
    selected order, of the stored flows (in store order) that match. -/
theorem refilter_is_stable_sort_of_store (ops : List Op) (op : Op)
    (hop : (∃ k, op = .setFilter k) ∨ op = .toggleMarked ∨ op = .clearUnmarked) :
    let s' := step (run ops) op
    s'.view = insertAll (gen s') (s'.store.filter (fun g => visible s' g)) := by
  have hnd := (good_run ops).core.storeNodup
  rcases hop with ⟨k, rfl⟩ | rfl | rfl
  · exact refilter_view (s := { run ops with trace := [], err := false, filt := k }) hnd
  · exact refilter_view (s := { run ops with trace := [], err := false, showMarked := !(run ops).showMarked }) hnd
  · exact sortOfStore_emit_purge _ (refilter_view (hnd.filter _))

/-- **a change of order is exactly a stable re-sort**: the new list is the stable sort of the old list by the current
    keys of the new order. -/
theorem set_order_is_stable_sort_of_view (ops : List Op) (sl : Nat) (hsl : 1 ≤ sl ∧ sl ≤ 4) :
    let s' := step (run ops) (.setOrder sl)
    s'.view = insertAll (gen s') (run ops).view := by
  intro s'
  have : s' = opSetOrder { (run ops) with trace := [], err := false } sl := by
    show apply _ (.setOrder sl) = _
    simp only [apply, hsl, and_self, if_true]
  rw [this]
  exact setOrder_view sl

/-- **with pairwise different keys the list is THE sorted filter**: when no unreported change is pending and the
    matching stored flows have pairwise different keys, `list(view)` is exactly the sort of the filtered store
    (reversed when requested) — whatever the history was. -/
theorem view_is_sort_when_keys_distinct (ops : List Op) (hcur : stale ops = [])
    (hinj : ∀ a b, a ∈ (run ops).store → b ∈ (run ops).store → visible (run ops) a = true → visible (run ops) b = true →
      gen (run ops) a = gen (run ops) b → a = b) :
    let s := run ops
    let sorted := insertAll (gen s) (s.store.filter (fun g => visible s g))
    shown s = if s.reversed then sorted.reverse else sorted := by
  intro s sorted
  unfold shown
  rw [Good.view_eq_sort (s := s) (hcur ▸ good_run ops) hinj]

/-- **the order on the real keys**: within one order all generated keys are of one kind (numbers for time and size,
    strings for method and url), and on keys of one kind Python's `<=` (`SortKey.le`: numeric, resp. byte-wise
    lexicographic on the UTF-8 encodings = by code point) is total, transitive and antisymmetric — so "sorted by the
    selected order" is well defined for flows of every type. -/
theorem real_keys_total_preorder (slot : Nat) (d1 d2 d3 : FlowData) :
    (genKey slot d1).isNum = (genKey slot d2).isNum ∧
    ((genKey slot d1).le (genKey slot d2) = true ∨ (genKey slot d2).le (genKey slot d1) = true) ∧
    ((genKey slot d1).le (genKey slot d2) = true → (genKey slot d2).le (genKey slot d3) = true →
      (genKey slot d1).le (genKey slot d3) = true) ∧
    ((genKey slot d1).le (genKey slot d2) = true → (genKey slot d2).le (genKey slot d1) = true →
      genKey slot d1 = genKey slot d2) := by
  have hk : (genKey slot d1).isNum = (genKey slot d2).isNum := by rw [genKey_kind, genKey_kind]
  exact ⟨hk, SortKey.le_total _ _ hk, SortKey.le_trans _ _ _, SortKey.le_antisymm _ _⟩

/-- **sorted by the generated keys**: let `data f` be what the key generators read of flow `f`.  If the naturals
    handed to the view model are an order-preserving image of the generated keys of the flows whose last change the
    view has seen, then after any history those flows are listed in the order of their generated keys (`SortKey.le`,
    i.e. Python's `<=` on `generate(f)`), descending when reversed. -/
theorem view_sorted_by_generated_keys (ops : List Op) (data : Nat → FlowData)
    (hrank : ∀ a b, a ∈ (run ops).view → b ∈ (run ops).view → a ∉ stale ops → b ∉ stale ops →
      gen (run ops) a ≤ gen (run ops) b →
      (genKey (run ops).slot (data a)).le (genKey (run ops).slot (data b)) = true) :
    let s := run ops
    let cur := (shown s).filter (fun g => decide (g ∉ stale ops))
    if s.reversed then cur.Pairwise (fun a b => (genKey s.slot (data b)).le (genKey s.slot (data a)) = true)
    else cur.Pairwise (fun a b => (genKey s.slot (data a)).le (genKey s.slot (data b)) = true) := by
  intro s cur
  have h : Good s (stale ops) := good_run ops
  have hs := h.sorted
  have hs' : (s.view.filter (fun g => decide (g ∉ stale ops))).Pairwise
      (fun a b => (genKey s.slot (data a)).le (genKey s.slot (data b)) = true) := by
    apply List.Pairwise.imp_of_mem _ hs
    intro a b ha hb hab
    have ha' := List.mem_filter.mp ha
    have hb' := List.mem_filter.mp hb
    exact hrank a b ha'.1 hb'.1 (by simpa using ha'.2) (by simpa using hb'.2) hab
  exact pairwise_shown s (List.filter _) (fun l => List.filter_reverse ..) hs'

/-- **an order-preserving map from the real keys to naturals exists**: the rank of a key among the keys occurring in the
    history (`rankIn K`: how many occurring keys are strictly smaller).  For occurring keys of one kind it preserves and
    reflects Python's `<=`. -/
theorem rank_is_order_embedding (K : List SortKey) (a b : SortKey) (hk : a.isNum = b.isNum) (hb : b ∈ K) :
    rankIn K a ≤ rankIn K b ↔ a.le b = true :=
  ⟨rankIn_reflects K a b hk hb, rankIn_preserves K a b⟩

/-- **sorted by the generated keys — without a hypothesis about the naturals**: take ANY history whose operations
    describe the flows by what the key generators read of them (`ROp`: `mutate` / `add` / `update` carry a `FlowData`).
    Feed the view model the ranks of the generated keys (`toOp (rankIn (keysOf rops))`; the harness does the like in
    Python: numeric keys as they are, string keys by their rank in its fixed pools).
    Then the listed flows whose last change the view has seen are in the order of their GENERATED keys
    (`genKey slot (live data)`, compared with Python's `<=`), descending when reversed.  `view_sorted_by_generated_keys`
    has the order-preservation of the map as a hypothesis; here it is derived. -/
theorem view_sorted_by_real_keys (rops : List ROp) :
    let rank := rankIn (keysOf rops)
    let ops := rops.map (toOp rank)
    let s := run ops
    let data := (rrun rank rops).2
    let cur := (shown s).filter (fun g => decide (g ∉ stale ops))
    if s.reversed then cur.Pairwise (fun a b => (genKey s.slot (data b)).le (genKey s.slot (data a)) = true)
    else cur.Pairwise (fun a b => (genKey s.slot (data a)).le (genKey s.slot (data b)) = true) := by
  intro rank ops s data cur
  have hsync : Synced rank (keysOf rops) (s.attrs, s.store) data := synced_run rank (keysOf rops) rops (fun k hk => hk)
  have h : Good s (stale ops) := good_run ops
  exact view_sorted_by_generated_keys ops data
    (fun a b ha hb _ _ hab => hsync.le (h.core.viewSub a ha) (h.core.viewSub b hb) hab)

-- the scenarios of the two `fixed` entries of known/C43.json, in the model (which follows the repaired code)

private def aU : Attr := ⟨1, 0, 0, 10, false, [false]⟩      -- unmarked, size 10
private def aM : Attr := ⟨0, 0, 0, 20, true, [true]⟩        -- marked, size 20
private def aBig : Attr := ⟨1, 0, 0, 100, false, [false]⟩   -- the first flow grown to size 100

/-- marked-only mode: a new unmarked flow is not listed -/
example : shown (run [.add 0 aM, .toggleMarked, .add 1 aU]) = [0] := by decide +kernel
/-- … and an update that removes the mark removes the flow from the list, with a remove signal -/
example : (run [.add 0 aM, .toggleMarked, .update 0 aU]).trace.contains (.vrm 0 0) = true := by decide +kernel
/-- stale cached keys: size order, switch to time, grow a flow, switch back: sorted by the current sizes -/
example : shown (run [.add 0 aU, .add 1 aM, .setOrder 4, .setOrder 1, .update 0 aBig, .setOrder 4]) = [1, 0] := by decide +kernel
example : shown (run [.add 0 aU, .add 1 aM, .setOrder 4, .setReversed true]) = [1, 0] := by decide +kernel
/-- the seeded defect c43-1: size order, the flow grows without an update, the user removes it — it is gone from
    the list and from the focus, and the removal is announced at its index -/
example : shown (run [.setOrder 4, .add 0 aU, .add 1 aM, .focus 0, .mutate 0 aBig, .remove 0]) = [1] := by decide +kernel
example : (run [.setOrder 4, .add 0 aU, .add 1 aM, .focus 0, .mutate 0 aBig, .remove 0]).focus = some 1 := by decide +kernel
example : (run [.setOrder 4, .add 0 aU, .add 1 aM, .focus 0, .mutate 0 aBig, .remove 0]).trace.contains (.vrm 0 0) = true := by decide +kernel
example : stale [.setOrder 4, .add 0 aU, .mutate 0 aBig, .add 1 aM] = [0] := by decide +kernel
/-- … under the time order the growth of the flow changes neither its key nor its visibility: it is not stale -/
example : stale [.add 0 aU, .mutate 0 aBig, .add 1 aM] = [] := by decide +kernel
example : stale [.setOrder 4, .add 0 aU, .mutate 0 aBig, .update 0 aBig] = [] := by decide +kernel
/-- a history in terms of the real flow data: two HTTP flows with methods POST and GET, ordered by method -/
example : shown (run ([ROp.add 0 (.http 0 [80, 79, 83, 84] [] none none) false [], ROp.add 1 (.http 1 [71, 69, 84] [] none none) false [],
    ROp.setOrder 2].map (toOp (rankIn (keysOf [ROp.add 0 (.http 0 [80, 79, 83, 84] [] none none) false [],
      ROp.add 1 (.http 1 [71, 69, 84] [] none none) false [], ROp.setOrder 2]))))) = [1, 0] := by decide +kernel
/-- the key generators on flows of every type -/
example : genKey 2 (.dns 0 7 none none) = .str [79, 80, 67, 79, 68, 69, 40, 55, 41] := by decide +kernel
example : genKey 2 (.stream 0 false [] []) = .str [85, 68, 80] := by decide +kernel
example : genKey 4 (.http 0 [] [] (some 3) (some (some 4))) = .num 7 ∧ genKey 4 (.http 0 [] [] none (some none)) = .num 0 := by decide +kernel
example : (SortKey.str [71, 69, 84]).le (.str [73, 81, 85, 69, 82, 89]) = true ∧
    (SortKey.str [98]).le (.str [97, 58, 56, 48]) = false := by decide +kernel
/-- ties keep store order after a re-filter; an update that moves a key away and back re-inserts behind its equals -/
private def aT : Attr := ⟨1, 0, 0, 10, false, [true]⟩
private def aT2 : Attr := ⟨2, 0, 0, 10, false, [true]⟩
example : shown (run [.add 0 aT, .add 1 aT, .setFilter 0]) = [0, 1] := by decide +kernel
example : shown (run [.add 0 aT, .add 1 aT, .update 0 aT2, .update 0 aT]) = [1, 0] := by decide +kernel
example : shown (run [.add 0 aT, .add 1 aT, .update 0 aT2, .update 0 aT, .setFilter 0]) = [0, 1] := by decide +kernel
/-- the focus follows removals -/
example : (run [.add 0 aU, .add 1 aM, .remove 1]).focus = some 0 := by decide +kernel
example : (run [.add 0 aU, .remove 0]).focus = none := by decide +kernel

-- `view_eq_sorted_filter_current` / `view_is_sort_when_keys_distinct`: a 3-flow history under the size order, reversed,
-- with an update in between: nothing stale, pairwise different keys, and the list is the reversed sort
private def opsW : List Op := [.add 0 aU, .add 1 aM, .add 2 aBig, .setOrder 4, .update 0 aT2, .setReversed true]
example : stale opsW = [] := by decide +kernel
example : ∀ a ∈ (run opsW).store, ∀ b ∈ (run opsW).store, visible (run opsW) a = true → visible (run opsW) b = true →
    gen (run opsW) a = gen (run opsW) b → a = b := by decide +kernel
example : shown (run opsW) = [2, 1, 0] ∧ (run opsW).focus = some 0 := by decide +kernel
example : shown (run opsW) = (insertAll (gen (run opsW)) ((run opsW).store.filter (fun g => visible (run opsW) g))).reverse :=
  view_is_sort_when_keys_distinct opsW (by decide +kernel) (by
    intro a b ha hb
    have h : ∀ a ∈ (run opsW).store, ∀ b ∈ (run opsW).store, visible (run opsW) a = true → visible (run opsW) b = true →
        gen (run opsW) a = gen (run opsW) b → a = b := by decide +kernel
    exact h a ha b hb)
-- `update_is_announced`: the premises hold (listed before and after) and the update signal is in the trace
example : 0 ∈ (run [.add 0 aU, .add 1 aM]).view ∧ 0 ∈ (step (run [.add 0 aU, .add 1 aM]) (.update 0 aBig)).view ∧
    (step (run [.add 0 aU, .add 1 aM]) (.update 0 aBig)).trace.contains (.vupd 0) = true := by decide +kernel
-- `refilter_is_stable_sort_of_store` on a history with a tie and a hidden flow (filter 1 hides flow 0 and 2)
example : (step (run [.add 0 aU, .add 1 aM, .add 2 aBig, .setOrder 4]) (.setFilter 1)).view = [1] ∧
    (step (run [.add 0 aT, .add 1 aT, .add 2 aT2]) .toggleMarked).view = [] := by decide +kernel
-- `rank_is_order_embedding`: keys of one kind, `b` occurring; both sides of the equivalence true, and both false
example : rankIn [.num 3, .num 1, .num 2] (.num 2) ≤ rankIn [.num 3, .num 1, .num 2] (.num 3) ∧
    (SortKey.num 2).le (.num 3) = true ∧
    ¬ (rankIn [.num 3, .num 1, .num 2] (.num 3) ≤ rankIn [.num 3, .num 1, .num 2] (.num 2)) ∧
    (SortKey.num 3).le (.num 2) = false := by decide +kernel
-- the signal clauses are not trivially true: removing the focused first flow of two sends a focus change,
-- remove(0, idx 1: time order lists flow 1 first) and the store-remove signal, in this order
example : (step (run [.add 0 aU, .add 1 aM]) (.remove 0)).trace = [.fchange, .vrm 0 1, .srm 0] := by decide +kernel

end MitmVerif.Props.C43
