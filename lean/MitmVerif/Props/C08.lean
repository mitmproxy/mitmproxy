/-
  C08 — HttpLayer's pool of upstream connections (Model/C08.lean): a request is handed only a connection that matches
  the spec it asked for, is open, carries no error and is no tunnel connection (`routed_to_matching`,
  `failed_not_reused`); an entry with an error, a failed attempt or a closed socket is never handed out again (the
  `…_never_routed` theorems; their `_reachable` forms start from `Init` instead of assuming `Inv`); address and via of
  an open entry do not change (`open_conn_immutable`, with `setAttr_guard` the Server.__setattr__ rule itself).

  Two hypotheses recur.  `Admissible`: no addon assignment to a connection whose attempt is pending — necessary,
  `pending_poke_misroutes` is the witness.  `NoReopen`: raw `setState` events never set a connection OPEN.

  The proofs go through one description of a step, `Effect`: every connection already in the pool changes by `Upd`
  (at most one of them really does), what is appended is `Fresh` for a request the event serves (`Asks`), and what is
  handed out is `Good`.  The invariant, `Stable`, `Dead` and `PendingClosed` are then facts about `Upd` and `Fresh`.
-/
import MitmVerif.Model.C08
namespace MitmVerif.Props.C08
open MitmVerif.C08

/-- the connection is usable for a request with spec `s` -/
def Good (s : Spec) (c : Conn) : Prop :=
  specMatches s c = true ∧ c.error = false ∧ c.connected = true ∧ c.tunnel = false

/-- pool invariant; `seen` = the events so far -/
structure Inv (p : Pool) (seen : List Ev) : Prop where
  wait_match : ∀ c ∈ p.conns, ∀ ws, c.waiting = some ws → ∀ w ∈ ws, specMatches w.2 c = true
  wait_clean : ∀ c ∈ p.conns, ∀ ws, c.waiting = some ws → c.error = false ∧ c.tunnel = false
  wait_seen : ∀ c ∈ p.conns, ∀ ws, c.waiting = some ws → ∀ w ∈ ws, Ev.get w.1 w.2 ∈ seen
  ctx_idle : p.ctx.waiting = none
  ctx_notunnel : p.ctx.tunnel = false

/-- an addon has no handle on a connection whose attempt is still pending (it is created inside get_connection and
    handed to flows only once established); server_connect hooks that re-address it redirect on purpose -/
def Admissible (p : Pool) : Ev → Prop
  | .poke t _ => (match p.target t with | some c => c.waiting = none | none => True)
  | _ => True

def AllAdm : Pool → List Ev → Prop
  | _, [] => True
  | p, e :: es => Admissible p e ∧ AllAdm (step p e).1 es

instance (p : Pool) (e : Ev) : Decidable (Admissible p e) := by
  cases e <;> simp only [Admissible] <;> (try infer_instance)
  split <;> infer_instance

def decAllAdm : (p : Pool) → (evs : List Ev) → Decidable (AllAdm p evs)
  | _, [] => isTrue trivial
  | p, e :: es =>
    match (inferInstance : Decidable (Admissible p e)), decAllAdm (step p e).1 es with
    | isTrue h1, isTrue h2 => isTrue ⟨h1, h2⟩
    | isFalse h1, _ => isFalse (fun h => h1 h.1)
    | _, isFalse h2 => isFalse (fun h => h2 h.2)

instance (p : Pool) (evs : List Ev) : Decidable (AllAdm p evs) := decAllAdm p evs

/-- HttpLayer.__init__: no connections yet; the context connection is nobody's tunnel and not being established -/
def Init (p : Pool) : Prop := p.conns = [] ∧ p.ctx.waiting = none ∧ p.ctx.tunnel = false

def Stable (c c' : Conn) : Prop :=
  (c.error = true → c'.error = true) ∧
  (c.connected = true → c'.addr = c.addr ∧ c'.via = c.via) ∧
  c'.tls = c.tls ∧ c'.udp = c.udp ∧ c'.tunnel = c.tunnel

def StaysOpen : Pool → List Ev → Nat → Prop
  | _, [], _ => True
  | p, e :: es, i => (∃ c', (step p e).1.conns[i]? = some c' ∧ c'.connected = true) ∧ StaysOpen (step p e).1 es i

/-- raw state changes of the history never set a connection to OPEN (a closed socket does not come back; connections
    open through their connection result only) -/
def NoReopen (evs : List Ev) : Prop := ∀ e ∈ evs, ∀ t r w, e = Ev.setState t r w → (r && w) = false

def Dead (c : Conn) : Prop := c.waiting = none ∧ c.connected = false ∧ c.tunnel = false

def PendingClosed (p : Pool) : Prop := ∀ c ∈ p.conns, c.waiting.isSome = true → c.connected = false

private theorem getElem?_updAt (l : List Conn) (i j : Nat) (f : Conn → Conn) :
    (updAt l j f)[i]? = (l[i]?).map fun c => if i = j then f c else c := by
  unfold updAt
  by_cases h : i = j
  · subst h; cases hc : l[i]? <;> simp [hc, List.getElem?_set_self']
  · split <;> simp [h, Ne.symm h]

private theorem scan_spec (h2 : Bool) (s : Spec) (l : List Conn) (k : Nat) :
    (∀ i, scan h2 s k l = .wait i →
      ∃ j c, i = j + k ∧ l[j]? = some c ∧ specMatches s c = true ∧ c.waiting.isSome = true) ∧
    (∀ i, scan h2 s k l = .reuse i → ∃ j c, i = j + k ∧ l[j]? = some c ∧ Good s c) := by
  have next {P : Conn → Prop} {k i : Nat} {c : Conn} {cs : List Conn} :
      (∃ j c', i = j + (k + 1) ∧ cs[j]? = some c' ∧ P c') → ∃ j c', i = j + k ∧ (c :: cs)[j]? = some c' ∧ P c' :=
    fun ⟨j, c', e, hc⟩ => ⟨j + 1, c', by omega, hc⟩
  fun_induction scan h2 s k l
  case case1 | case3 => exact ⟨fun _ => nofun, fun _ => nofun⟩  -- the list is exhausted; an error is recorded
  case case2 k c cs hm hw =>  -- still being established
    simp only [Bool.and_eq_true] at hm
    exact ⟨fun i h => by cases h; exact ⟨0, c, (Nat.zero_add k).symm, rfl, hm.2, hw⟩, fun _ => nofun⟩
  case case5 k c cs hm _ he hc _ =>  -- open, and speaking HTTP/2 if the client does
    simp only [Bool.and_eq_true, Bool.not_eq_true'] at hm
    exact ⟨fun _ => nofun,
      fun i h => by cases h; exact ⟨0, c, (Nat.zero_add k).symm, rfl, hm.2, by simpa using he, hc, hm.1⟩⟩
  -- in the other cases the loop goes on
  all_goals
    next ih => exact ⟨fun i h => next (ih.1 i h), fun i h => next (ih.2 i h)⟩

private theorem setAttr_fst (c : Conn) (f : Field) : ∃ a v, (setAttr c f).1 = { c with addr := a, via := v } := by
  fun_cases setAttr c f <;> exact ⟨_, _, rfl⟩

/-- **setAttr_guard** (Server.__setattr__): assigning address or via to an open connection either raises and changes
    nothing, or assigns the value it already has. -/
theorem setAttr_guard (c : Conn) (f : Field) (h : c.connected = true) :
    (setAttr c f).1.addr = c.addr ∧ (setAttr c f).1.via = c.via := by
  fun_cases setAttr c f
  case case1 | case3 => exact ⟨rfl, rfl⟩  -- the assignment raises
  case case2 v hv => exact ⟨(by simpa [h] using hv : c.addr = v).symm, rfl⟩
  case case4 v hv => exact ⟨rfl, (by simpa [h] using hv : c.via = v).symm⟩

/-- `Upd p e c c'`: the event `e` may turn the connection `c` of the pool `p` (an entry, or the context connection)
    into `c'` -/
inductive Upd (p : Pool) : Ev → Conn → Conn → Prop
  | same {e c} : Upd p e c c
  | join {rid s c} : c.waiting.isSome = true → specMatches s c = true → Upd p (.get rid s) c (addWaiting (rid, s) c)
  | failed {cid b c ws} : c.waiting = some ws →
      Upd p (.result cid (.fail b)) c { c with waiting := none, error := c.error || b }
  | established {cid h2 c ws} : c.waiting = some ws →
      Upd p (.result cid (.ok h2)) c { c with waiting := none, canRead := true, canWrite := true, alpnH2 := h2 }
  | state {t r w c} : Upd p (.setState t r w) c { c with canRead := r, canWrite := w }
  | peerClosed {t c} : Upd p (.peerClose t) c { c with canRead := false, canWrite := false }
  | done {t h c} : Upd p (.responseDone t h) c { c with canRead := false, canWrite := false }
  | error {t c} : c.waiting = none → Upd p (.setError t) c { c with error := true }
  | attr {t f c a v} : p.target t = some c → (c.connected = true → a = c.addr ∧ v = c.via) →
      Upd p (.poke t f) c { c with addr := a, via := v }

/-- the requests an event may serve: its own, or those waiting for the connection whose attempt has finished -/
inductive Asks (p : Pool) : Ev → Nat × Spec → Prop
  | get {rid s} : Asks p (.get rid s) (rid, s)
  | result {cid res c ws w} : p.conns[cid]? = some c → c.waiting = some ws → w ∈ ws → Asks p (.result cid res) w

/-- a connection that get_connection appends for the request `w`: the new one, on which `w` waits; the context
    connection and the tunnel connection are not being established -/
def Fresh (w : Nat × Spec) (c : Conn) : Prop := c.waiting = none ∨ c = { newConn w.2 with waiting := some [w] }

/-- the part of `Inv` that speaks of one connection -/
def WaitOk (seen : List Ev) (c : Conn) : Prop :=
  ∀ ws, c.waiting = some ws →
    (c.error = false ∧ c.tunnel = false) ∧ ∀ w ∈ ws, specMatches w.2 c = true ∧ Ev.get w.1 w.2 ∈ seen

section
variable {p : Pool} {e : Ev} {c c' : Conn} {seen : List Ev} {w : Nat × Spec}

private theorem Inv.waitOk (h : Inv p seen) (hc : c ∈ p.conns) : WaitOk seen c :=
  fun ws hw => ⟨h.wait_clean c hc ws hw, fun w hwm => ⟨h.wait_match c hc ws hw w hwm, h.wait_seen c hc ws hw w hwm⟩⟩

private theorem Inv.of_waitOk (h : ∀ c ∈ p.conns, WaitOk seen c)
    (hi : p.ctx.waiting = none) (ht : p.ctx.tunnel = false) : Inv p seen :=
  ⟨fun c hc ws hw w hwm => ((h c hc ws hw).2 w hwm).1, fun c hc ws hw => (h c hc ws hw).1,
   fun c hc ws hw w hwm => ((h c hc ws hw).2 w hwm).2, hi, ht⟩

private theorem Inv.mono (h : Inv p seen) (more : List Ev) : Inv p (seen ++ more) :=
  { h with wait_seen := fun c hc ws hw w hwm => List.mem_append_left _ (h.wait_seen c hc ws hw w hwm) }

private theorem Asks.mem_seen (h : Asks p e w) (hinv : Inv p seen)
    (he : e ∈ seen) : Ev.get w.1 w.2 ∈ seen := by
  cases h with
  | get => exact he
  | @result _ _ c ws w hc hw hwm => exact hinv.wait_seen c (List.mem_of_getElem? hc) ws hw w hwm

private theorem Fresh.waitOk (h : Fresh w c)
    (hw : Ev.get w.1 w.2 ∈ seen) : WaitOk seen c := by
  rcases h with h | rfl
  · intro ws hws; rw [h] at hws; cases hws
  · intro ws hws
    cases hws
    refine ⟨⟨rfl, rfl⟩, fun w' hw' => ?_⟩
    cases List.mem_singleton.mp hw'
    exact ⟨by simp [specMatches, newConn], hw⟩

private theorem Upd.waitOk (h : Upd p e c c')
    (hadm : Admissible p e) (he : e ∈ seen) (hc : WaitOk seen c) : WaitOk seen c' := by
  cases h with
  | same => exact hc
  | @join rid s _ hw hm =>
    obtain ⟨ws, hws⟩ := Option.isSome_iff_exists.mp hw
    obtain ⟨hclean, hall⟩ := hc ws hws
    intro ws' hws'
    simp only [addWaiting, hws, Option.getD_some, Option.some.injEq] at hws'
    subst hws'
    refine ⟨hclean, fun w hwm => ?_⟩
    rcases List.mem_append.mp hwm with hwm | hwm
    · exact hall w hwm
    · cases List.mem_singleton.mp hwm; exact ⟨hm, he⟩
  | failed | established => exact fun _ => nofun
  | state | peerClosed | done => exact hc
  | error hw => exact fun ws hws => nomatch hw.symm.trans hws
  | attr ht =>
    have hw : c.waiting = none := by simpa only [Admissible, ht] using hadm
    exact fun ws hws => nomatch hw.symm.trans hws

private theorem Upd.idle (h : Upd p e c c') (hc : c.waiting = none) :
    c'.waiting = none := by
  cases h with
  | join hw => rw [hc] at hw; cases hw
  | failed | established => rfl
  | _ => exact hc

private theorem Upd.stable (h : Upd p e c c') : Stable c c' := by
  cases h with
  | failed => exact ⟨fun he => by simp [he], fun _ => ⟨rfl, rfl⟩, rfl, rfl, rfl⟩
  | error => exact ⟨fun _ => rfl, fun _ => ⟨rfl, rfl⟩, rfl, rfl, rfl⟩
  | attr _ hg => exact ⟨id, hg, rfl, rfl, rfl⟩
  | _ => exact ⟨id, fun _ => ⟨rfl, rfl⟩, rfl, rfl, rfl⟩

private theorem Upd.dead (h : Upd p e c c')
    (hno : ∀ t r w, e = Ev.setState t r w → (r && w) = false) (hd : Dead c) : Dead c' := by
  cases h with
  | same | error | attr => exact hd
  | join hw => rw [hd.1] at hw; cases hw
  | failed hw | established hw => rw [hd.1] at hw; cases hw
  | state => exact ⟨hd.1, hno _ _ _ rfl, hd.2.2⟩
  | peerClosed | done => exact ⟨hd.1, rfl, hd.2.2⟩

private theorem Upd.pendingClosed (h : Upd p e c c')
    (hno : ∀ t r w, e = Ev.setState t r w → (r && w) = false) (hc : c.waiting.isSome = true → c.connected = false) :
    c'.waiting.isSome = true → c'.connected = false := by
  cases h with
  | same | error | attr => exact hc
  | join hw => exact fun _ => hc hw
  | failed | established => exact nofun
  | state => exact fun _ => hno _ _ _ rfl
  | peerClosed | done => exact fun _ => rfl

private theorem Fresh.pendingClosed (h : Fresh w c) (hw : c.waiting.isSome = true) :
    c.connected = false := by
  rcases h with h | rfl
  · rw [h] at hw; cases hw
  · rfl

end

/-- whatever `r` hands out goes to a request among `A` and is good for it -/
def Hands (A : Nat × Spec → Prop) (r : Pool × List Out) : Prop :=
  ∀ rid s k, Out.routed rid s k ∈ r.2 → A (rid, s) ∧ ∃ c, r.1.conns[k]? = some c ∧ Good s c

private theorem Hands.nil (A : Nat × Spec → Prop) (q : Pool) : Hands A (q, []) :=
  fun _ _ _ => nofun

/-- what one event does to the pool: every connection already there changes by `Upd`, those appended are `Fresh` for
    a request the event serves, and the connections handed out are good for a request the event serves -/
structure Effect (p : Pool) (e : Ev) (r : Pool × List Out) : Prop where
  old : ∀ (i : Nat) (c : Conn), p.conns[i]? = some c → ∃ c', r.1.conns[i]? = some c' ∧ Upd p e c c'
  all : ∀ c' ∈ r.1.conns, (∃ c ∈ p.conns, Upd p e c c') ∨ ∃ w, Asks p e w ∧ Fresh w c'
  ctx : Upd p e p.ctx r.1.ctx
  routed : ∀ seen, Inv p seen → Hands (Asks p e) r

private theorem Effect.of_ctx {p : Pool} {e : Ev} {c : Conn} (h : Upd p e p.ctx c) {out : List Out}
    (hout : Hands (Asks p e) ({ p with ctx := c }, out)) : Effect p e ({ p with ctx := c }, out) :=
  ⟨fun _ c h => ⟨c, h, .same⟩, fun c' hc' => .inl ⟨c', hc', .same⟩, h, fun _ _ => hout⟩

private theorem Effect.refl (p : Pool) (e : Ev) {out : List Out} (hout : Hands (Asks p e) (p, out)) :
    Effect p e (p, out) :=
  .of_ctx .same hout

private theorem Effect.of_entry (p : Pool) (e : Ev) (j : Nat) (f : Conn → Conn)
    (hf : ∀ c, p.conns[j]? = some c → Upd p e c (f c)) (out : List Out)
    (hout : ∀ seen, Inv p seen → Hands (Asks p e) ({ p with conns := updAt p.conns j f }, out)) :
    Effect p e ({ p with conns := updAt p.conns j f }, out) := by
  have hu (i : Nat) (c : Conn) (h : p.conns[i]? = some c) : Upd p e c (if i = j then f c else c) := by
    split
    · next hij => exact hf c (hij ▸ h)
    · exact .same
  refine ⟨fun i c h => ⟨_, by rw [getElem?_updAt, h]; rfl, hu i c h⟩, fun c' hc' => ?_, .same, hout⟩
  obtain ⟨i, hi⟩ := List.getElem?_of_mem hc'
  rw [getElem?_updAt] at hi
  obtain ⟨c, hc, rfl⟩ := Option.map_eq_some_iff.mp hi
  exact .inl ⟨c, List.mem_of_getElem? hc, hu i c hc⟩

private theorem Effect.updTarget (p : Pool) (e : Ev) (t : Target) (f : Conn → Conn)
    (hf : ∀ c, p.target t = some c → Upd p e c (f c)) : Effect p e (p.updTarget t f, []) := by
  fun_cases Pool.updTarget p t f
  case case1 j hci =>
    exact .of_entry p e j f (fun c h => hf c (by simpa [Pool.target, hci] using h)) [] fun _ _ => .nil _ _
  case case2 hci => exact .of_ctx (hf p.ctx (by simp [Pool.target, hci])) (.nil _ _)
  case case3 j => exact .of_entry p e j f hf [] fun _ _ => .nil _ _

/-- connections that are `Fresh` for requests the event serves are appended; the context connection can be handed out
    if it is no tunnel connection -/
private theorem Effect.append {p q : Pool} {e : Ev} {r : Pool × List Out} (h : Effect p e r) {extra : List Conn}
    {out : List Out} (hq : q.conns = r.1.conns ++ extra) (hctx : q.ctx = r.1.ctx)
    (hx : ∀ c ∈ extra, ∃ w, Asks p e w ∧ Fresh w c) (hout : r.1.ctx.tunnel = false → Hands (Asks p e) (q, out)) :
    Effect p e (q, r.2 ++ out) := by
  have keeps {i : Nat} {c : Conn} (hc : r.1.conns[i]? = some c) : q.conns[i]? = some c := by
    rw [hq, List.getElem?_append_left (List.getElem?_eq_some_iff.mp hc).1, hc]
  refine ⟨fun i c hc => ?_, fun c' hc' => ?_, hctx ▸ h.ctx, fun seen hinv rid s k hm => ?_⟩
  · exact let ⟨c', hc', hu⟩ := h.old i c hc; ⟨c', keeps hc', hu⟩
  · exact (List.mem_append.mp (hq ▸ hc')).elim (h.all c') fun hc' => .inr (hx c' hc')
  · rcases List.mem_append.mp hm with hm | hm
    · exact let ⟨ha, c, hc, hg⟩ := h.routed seen hinv rid s k hm; ⟨ha, c, keeps hc, hg⟩
    · exact hout (h.ctx.stable.2.2.2.2.trans hinv.ctx_notunnel) rid s k hm

private theorem Effect.then_getFresh {p : Pool} {e : Ev} {r : Pool × List Out} (h : Effect p e r) {rid : Nat} {s : Spec}
    (hA : Asks p e (rid, s)) : Effect p e ((getFresh r.1 rid s).1, r.2 ++ (getFresh r.1 rid s).2) := by
  fun_cases getFresh r.1 rid s
  · exact h.append (List.append_nil _).symm rfl (List.forall_mem_nil _) fun _ _ _ _ hm => by simp at hm
  · next h1 h2 =>
    refine h.append rfl rfl (fun c hc => ⟨_, hA, Or.inl ?_⟩) fun ht rid' s' k hm => ?_
    · cases List.mem_singleton.mp hc; rfl
    · cases List.mem_singleton.mp hm
      have ⟨hm, hopen⟩ := (Bool.and_eq_true _ _).mp h2
      exact ⟨hA, _, List.getElem?_concat_length .., ((Bool.and_eq_true _ _).mp hm).2, by simpa [hm] using h1, hopen, ht⟩
  · refine h.append (List.append_assoc ..) rfl (fun c hc => ⟨_, hA, ?_⟩) fun _ _ _ _ hm => by simp at hm
    rcases List.mem_cons.mp hc with rfl | hc
    · exact Or.inr rfl
    · split at hc
      · cases List.mem_singleton.mp hc; exact Or.inl rfl
      · cases hc

private theorem Effect.then_regetAll {p : Pool} {e : Ev} {r : Pool × List Out} (h : Effect p e r) {ws : List (Nat × Spec)}
    (hA : ∀ w ∈ ws, Asks p e w) : Effect p e ((regetAll r.1 ws).1, r.2 ++ (regetAll r.1 ws).2) := by
  induction ws generalizing r with
  | nil => simpa [regetAll] using h
  | cons w ws ih =>
    have := ih (h.then_getFresh (hA w List.mem_cons_self)) fun w h => hA w (List.mem_cons_of_mem _ h)
    rwa [List.append_assoc] at this

private theorem getConn_effect (p : Pool) (rid : Nat) (s : Spec) : Effect p (.get rid s) (getConn p true rid s) := by
  fun_cases getConn p true rid s
  case case1 j hs =>
    obtain ⟨i, c, (rfl : j = i), hc, hm, hw⟩ := (scan_spec _ _ _ _).1 j hs
    exact .of_entry p _ j _ (fun c' hc' => by cases hc.symm.trans hc'; exact .join hw hm) _
      fun _ _ _ _ _ hm => by simp at hm
  case case2 => exact .refl p _ fun _ _ _ hm => by simp at hm
  case case3 j hs =>
    obtain ⟨i, c, (rfl : j = i), hc, hg⟩ := (scan_spec _ _ _ _).2 j hs
    refine .refl p _ fun rid' s' k hm => ?_
    cases List.mem_singleton.mp hm
    exact ⟨.get, c, hc, hg⟩
  case case4 => exact (Effect.refl p _ (.nil _ _)).then_getFresh .get

/-- register_connection: the entry `cid` becomes `c₁`, and whatever is handed out goes to a request that waited for it -/
private theorem Effect.settle {p : Pool} {cid : Nat} {res : Res} {c c₁ : Conn} {ws : List (Nat × Spec)}
    {out : List Out} (hc : p.conns[cid]? = some c) (hw : c.waiting = some ws) (hu : Upd p (.result cid res) c c₁)
    (hout : ∀ rid s k, Out.routed rid s k ∈ out → (rid, s) ∈ ws ∧ k = cid ∧
      (specMatches s c = true → c.error = false ∧ c.tunnel = false → Good s c₁)) :
    Effect p (.result cid res) ({ p with conns := p.conns.set cid c₁ }, out) := by
  have hset : p.conns.set cid c₁ = updAt p.conns cid fun _ => c₁ := by simp [updAt, hc]
  rw [hset]
  refine .of_entry p _ cid _ (fun c' hc' => by cases hc.symm.trans hc'; exact hu) out fun seen hinv rid s k hm => ?_
  obtain ⟨hws, rfl, hg⟩ := hout rid s k hm
  have hmem := List.mem_of_getElem? hc
  exact ⟨.result hc hw hws, c₁, by simp [getElem?_updAt, hc],
    hg (hinv.wait_match c hmem ws hw (rid, s) hws) (hinv.wait_clean c hmem ws hw)⟩

private theorem register_effect (p : Pool) (cid : Nat) (res : Res) :
    Effect p (.result cid res) (register p cid res) := by
  fun_cases register p cid res
  case case1 | case2 => exact .refl p _ (.nil _ _)  -- no such entry, or none that is pending
  case case3 c hc ws hw b => exact .settle hc hw (.failed hw) fun _ _ _ hm => by simp at hm
  -- HTTP/2 client, HTTP/1 server: the first waiting request keeps the connection, the others ask again
  case case4 c hc h2 _ _ hw => exact .settle hc hw (.established hw) fun _ _ _ => nofun
  case case5 c hc h2 _ _ w ws _ hw =>
    refine Effect.then_regetAll (.settle hc hw (.established hw) (out := [.routed w.1 w.2 cid]) fun rid s k hm => ?_)
      fun w h => .result hc hw (List.mem_cons_of_mem _ h)
    cases List.mem_singleton.mp hm
    exact ⟨List.mem_cons_self, rfl, fun hm h => ⟨hm, h.1, rfl, h.2⟩⟩
  case case6 c hc ws hw h2 _ _ =>
    exact .settle hc hw (.established hw) fun rid s k hm => by
      obtain ⟨w, hwm, h⟩ := List.mem_map.mp hm
      cases h
      exact ⟨hwm, rfl, fun hm h => ⟨hm, h.1, rfl, h.2⟩⟩

private theorem step_effect (p : Pool) (e : Ev) : Effect p e ((step p e).1, (step p e).2.1) := by
  fun_cases step p e
  case case1 => exact getConn_effect p ..
  case case2 => exact register_effect p ..
  case case3 => exact .updTarget p _ _ _ fun _ _ => .state
  case case4 =>
    exact .updTarget p _ _ _ fun c _ => by
      split
      · exact .peerClosed
      · exact .same
  case case5 =>
    exact .updTarget p _ _ _ fun c _ => by
      split
      · exact .done
      · exact .same
  case case7 t c ht hw =>  -- setError on a connection that is not pending
    exact .updTarget p _ t _ fun c' hc' => by
      cases ht.symm.trans hc'
      exact .error (by simpa using hw)
  case case9 t f _ _ =>  -- poke
    exact .updTarget p _ t _ fun c h => by
      obtain ⟨a, v, e⟩ := setAttr_fst c f
      rw [e]
      exact .attr h fun hc => by have := setAttr_guard c f hc; rwa [e] at this
  -- a pending connection is not marked, and there may be no connection where the target points
  all_goals exact .refl p _ (.nil _ _)

private theorem inv_init (p : Pool) (h : Init p) : Inv p [] :=
  .of_waitOk (h.1 ▸ List.forall_mem_nil _) h.2.1 h.2.2

private theorem step_inv (p : Pool) (seen : List Ev) (e : Ev) (hinv : Inv p seen) (hadm : Admissible p e) :
    Inv (step p e).1 (seen ++ [e]) := by
  have hs := step_effect p e
  have hinv' := hinv.mono [e]
  have he : e ∈ seen ++ [e] := List.mem_append_right _ (List.mem_singleton_self e)
  refine .of_waitOk (fun c' hc' => ?_) (hs.ctx.idle hinv.ctx_idle) (hs.ctx.stable.2.2.2.2.trans hinv.ctx_notunnel)
  rcases hs.all c' hc' with ⟨c, hc, hu⟩ | ⟨w, ha, hf⟩
  · exact hu.waitOk hadm he (hinv'.waitOk hc)
  · exact hf.waitOk (ha.mem_seen hinv' he)

private theorem inv_run (p : Pool) (seen evs : List Ev) (h : Inv p seen) (ha : AllAdm p evs) :
    Inv (run p evs) (seen ++ evs) := by
  induction evs generalizing p seen with
  | nil => simpa [run] using h
  | cons e es ih =>
    have := ih (step p e).1 (seen ++ [e]) (step_inv p seen e h ha.1) ha.2
    simpa [run, List.append_assoc] using this

private theorem allAdm_append (p : Pool) (a b : List Ev) (h : AllAdm p (a ++ b)) :
    AllAdm p a ∧ AllAdm (run p a) b := by
  induction a generalizing p with
  | nil => exact ⟨trivial, h⟩
  | cons e es ih => exact ⟨⟨h.1, (ih _ h.2).1⟩, (ih _ h.2).2⟩

private theorem trace_spec (p : Pool) (seen evs : List Ev) (hinv : Inv p seen) (hadm : AllAdm p evs) :
    ∀ x ∈ trace p evs, Hands (fun w => Ev.get w.1 w.2 ∈ seen ++ evs) x := by
  induction evs generalizing p seen with
  | nil => exact List.forall_mem_nil _
  | cons e es ih =>
    intro x hx rid s k hm
    rcases List.mem_cons.mp hx with rfl | hx
    · have ⟨ha, h⟩ := (step_effect p e).routed seen hinv rid s k hm
      exact ⟨ha.mem_seen (hinv.mono _) (List.mem_append_right _ List.mem_cons_self), h⟩
    · rw [List.append_cons]
      exact ih (step p e).1 (seen ++ [e]) (step_inv p seen e hinv hadm.1) hadm.2 x hx rid s k hm

/-- an entry with a property that events keep and that no good connection has is never handed out -/
private theorem never_routed {Q : Conn → Prop} (hbad : ∀ s c, Q c → ¬Good s c) (p : Pool) (seen evs : List Ev)
    (hinv : Inv p seen) (ha : AllAdm p evs) (hq : ∀ e ∈ evs, ∀ (p : Pool) (c c' : Conn), Upd p e c c' → Q c → Q c')
    (i : Nat) (c : Conn) (h : p.conns[i]? = some c) (hc : Q c) :
    ∀ x ∈ trace p evs, ∀ (rid : Nat) (s : Spec), Out.routed rid s i ∉ x.2 := by
  induction evs generalizing p seen c with
  | nil => exact List.forall_mem_nil _
  | cons e es ih =>
    have hs := step_effect p e
    obtain ⟨c', hc', hu⟩ := hs.old i c h
    have hc'' := hq e List.mem_cons_self p c c' hu hc
    intro x hx rid s hm
    rcases List.mem_cons.mp hx with rfl | hx
    · obtain ⟨_, c₂, hc₂, hg⟩ := hs.routed seen hinv rid s i hm
      cases hc'.symm.trans hc₂
      exact hbad s c' hc'' hg
    · exact ih (step p e).1 (seen ++ [e]) (step_inv p seen e hinv ha.1) ha.2
        (fun e' he' => hq e' (List.mem_cons_of_mem _ he')) c' hc' hc'' x hx rid s hm

private theorem good_fields {s : Spec} {c : Conn} (h : specMatches s c = true) :
    c.addr = some (s.host, s.port) ∧ c.tls = s.tls ∧ c.via = s.via ∧ c.udp = s.udp := by
  simp only [specMatches, Bool.and_eq_true, beq_iff_eq] at h
  exact ⟨h.1.1.1, h.1.1.2, h.1.2, h.2⟩

/-- **routed_to_matching.** For every admissible history from an empty pool: whenever a request is handed a connection
    (its head is then written to it), the request asked for that spec in its own `get` event, and the connection's
    address, TLS flag, upstream proxy and transport equal the spec — at that moment. -/
theorem routed_to_matching (p : Pool) (evs : List Ev) (hi : Init p) (ha : AllAdm p evs) :
    ∀ x ∈ trace p evs, ∀ (rid : Nat) (s : Spec) (k : Nat), Out.routed rid s k ∈ x.2 →
      Ev.get rid s ∈ evs ∧
      ∃ c, x.1.conns[k]? = some c ∧
        c.addr = some (s.host, s.port) ∧ c.tls = s.tls ∧ c.via = s.via ∧ c.udp = s.udp := by
  intro x hx rid s k hm
  obtain ⟨g, c, hc, hg⟩ := trace_spec p [] evs (inv_init p hi) ha x hx rid s k hm
  exact ⟨g, c, hc, good_fields hg.1⟩

/-- **failed_not_reused.** The connection a request is handed has no error recorded, is connected (state OPEN) and is
    not a tunnel connection. -/
theorem failed_not_reused (p : Pool) (evs : List Ev) (hi : Init p) (ha : AllAdm p evs) :
    ∀ x ∈ trace p evs, ∀ (rid : Nat) (s : Spec) (k : Nat), Out.routed rid s k ∈ x.2 →
      ∃ c, x.1.conns[k]? = some c ∧ c.error = false ∧ c.connected = true ∧ c.tunnel = false := by
  intro x hx rid s k hm
  obtain ⟨_, c, hc, hg⟩ := trace_spec p [] evs (inv_init p hi) ha x hx rid s k hm
  exact ⟨c, hc, hg.2⟩

/-- requests wait only on connections that match them, have no error and are no tunnels (the invariant itself) -/
theorem waiting_matches (p : Pool) (evs : List Ev) (hi : Init p) (ha : AllAdm p evs) :
    ∀ c ∈ (run p evs).conns, ∀ ws, c.waiting = some ws →
      c.error = false ∧ c.tunnel = false ∧ ∀ w ∈ ws, specMatches w.2 c = true ∧ Ev.get w.1 w.2 ∈ evs := by
  intro c hc ws hw
  have h := (inv_run p [] evs (inv_init p hi) ha).waitOk hc ws hw
  exact ⟨h.1.1, h.1.2, h.2⟩

/-- **open_conn_immutable.** No event — request, connection result, state change, error mark, or an addon assigning
    server.address / server.via — changes the address or the upstream proxy of a pool entry that is open; its TLS flag
    and transport never change at all. -/
theorem open_conn_immutable (p : Pool) (e : Ev) (i : Nat) (c : Conn) (h : p.conns[i]? = some c)
    (hopen : c.connected = true) :
    ∃ c', (step p e).1.conns[i]? = some c' ∧ c'.addr = c.addr ∧ c'.via = c.via ∧ c'.tls = c.tls ∧ c'.udp = c.udp := by
  obtain ⟨c', hc', hu⟩ := (step_effect p e).old i c h
  have hst := hu.stable
  exact ⟨c', hc', (hst.2.1 hopen).1, (hst.2.1 hopen).2, hst.2.2.1, hst.2.2.2.1⟩

/-- **errored_never_routed.** Once Server.error is recorded on a pool entry (a failed TCP connect or TLS handshake),
    no later request of the history is ever handed that entry. -/
theorem errored_never_routed (p : Pool) (seen evs : List Ev) (hinv : Inv p seen) (ha : AllAdm p evs)
    (i : Nat) (c : Conn) (h : p.conns[i]? = some c) (herr : c.error = true) :
    ∀ x ∈ trace p evs, ∀ (rid : Nat) (s : Spec), Out.routed rid s i ∉ x.2 :=
  never_routed (Q := fun c => c.error = true) (fun s c he hg => by rw [hg.2.1] at he; cases he) p seen evs hinv ha
    (fun _ _ _ _ _ hu => hu.stable.1) i c h herr

-- non-vacuity of the hypotheses, and necessity of admissibility
private def p0 : Pool :=
  { clientH2 := true,
    ctx := { addr := none, tls := false, via := none, udp := false, tunnel := false, canRead := false,
             canWrite := false, error := false, alpnH2 := false, waiting := none } }
private def sA : Spec := { host := 0, port := 0, tls := false, via := some (2, 1), udp := false }

example : Init p0 := by unfold Init; decide +kernel
-- an admissible history with a join of a pending connection, the HTTP/2->HTTP/1 re-dispatch and a guarded poke
example : AllAdm p0 [.get 1 sA, .get 2 sA, .result 0 (.ok false), .poke (.conn 0) (.addr (some (1, 1))), .get 3 sA] := by
  decide +kernel
example : (trace p0 [.get 1 sA, .get 2 sA, .result 0 (.ok false)]).map (·.2) =
    [[.opened 0, .waitOn 1 0], [.waitOn 2 0], [.routed 1 sA 0, .opened 2, .waitOn 2 2]] := by decide +kernel
-- the model does refuse: a recorded error fails later requests for the same destination
example : (trace p0 [.get 1 sA, .result 0 (.fail true), .get 2 sA]).map (·.2) =
    [[.opened 0, .waitOn 1 0], [.failed 1], [.failed 2]] := by decide +kernel

/-- **pending_poke_misroutes**: without admissibility the statement fails — re-addressing a connection while its
    attempt is pending (what a server_connect hook can do) sends the waiting request elsewhere. -/
theorem pending_poke_misroutes :
    ∃ x ∈ trace p0 [.get 1 sA, .poke (.conn 0) (.addr (some (1, 0))), .result 0 (.ok false)],
      Out.routed 1 sA 0 ∈ x.2 ∧ ∃ c, x.1.conns[0]? = some c ∧ specMatches sA c = false := by
  decide +kernel

/-- **open_interval_immutable.** Over a whole history: as long as a pool entry stays open, its address, upstream proxy,
    TLS flag and transport are what they were — whatever requests, results, closes of other connections, error marks and
    addon assignments happen in between. -/
theorem open_interval_immutable (p : Pool) (evs : List Ev) (i : Nat) (c : Conn) (h : p.conns[i]? = some c)
    (hopen : c.connected = true) (hstay : StaysOpen p evs i) :
    ∃ c', (run p evs).conns[i]? = some c' ∧ c'.addr = c.addr ∧ c'.via = c.via ∧ c'.tls = c.tls ∧ c'.udp = c.udp := by
  induction evs generalizing p c with
  | nil => exact ⟨c, h, rfl, rfl, rfl, rfl⟩
  | cons e es ih =>
    obtain ⟨⟨c1, hc1, ho1⟩, hrest⟩ := hstay
    obtain ⟨c', hc', e1, e2, e3, e4⟩ := open_conn_immutable p e i c h hopen
    cases hc1.symm.trans hc'
    obtain ⟨c2, hc2, f1, f2, f3, f4⟩ := ih (step p e).1 c1 hc1 ho1 hrest
    exact ⟨c2, hc2, f1.trans e1, f2.trans e2, f3.trans e3, f4.trans e4⟩

/-- **dead_entry_never_routed.** A pool entry that is neither being established nor connected (its attempt failed —
    with or without an error recorded —, the peer closed it, or mitmproxy closed it after the exchange) is never handed
    to a request again, in any admissible history whose raw state changes do not re-open sockets. -/
theorem dead_entry_never_routed (p : Pool) (seen evs : List Ev) (hinv : Inv p seen) (ha : AllAdm p evs)
    (hno : NoReopen evs) (i : Nat) (c : Conn) (h : p.conns[i]? = some c) (hd : Dead c) :
    ∀ x ∈ trace p evs, ∀ (rid : Nat) (s : Spec), Out.routed rid s i ∉ x.2 :=
  never_routed (Q := Dead) (fun s c hd hg => by have h := hg.2.2.1; rw [hd.2.1] at h; cases h) p seen evs hinv ha
    (fun e he _ _ _ hu => hu.dead (hno e he)) i c h hd

/-- **failed_attempt_never_routed.** After a connection attempt has failed — TCP refused, TLS handshake failed, or the
    upstream proxy refused CONNECT (no error is recorded on the connection in that case) — no later request is handed
    that connection. -/
theorem failed_attempt_never_routed (p : Pool) (seen evs : List Ev) (hinv : Inv p seen) (cid : Nat) (c : Conn)
    (ws : List (Nat × Spec)) (setsErr : Bool) (h : p.conns[cid]? = some c) (hw : c.waiting = some ws)
    (hclosed : c.connected = false) (ha : AllAdm p (.result cid (.fail setsErr) :: evs))
    (hno : NoReopen evs) :
    ∀ x ∈ trace (step p (.result cid (.fail setsErr))).1 evs, ∀ (rid : Nat) (s : Spec), Out.routed rid s cid ∉ x.2 := by
  have hlt : cid < p.conns.length := (List.getElem?_eq_some_iff.mp h).1
  have hpost : (step p (.result cid (.fail setsErr))).1.conns[cid]? =
      some { c with waiting := none, error := c.error || setsErr } := by
    simp only [step, register, h, hw]
    exact List.getElem?_set_self hlt
  exact dead_entry_never_routed _ _ evs (step_inv p seen _ hinv ha.1) ha.2 hno cid _ hpost
    ⟨rfl, hclosed, (hinv.wait_clean c (List.mem_of_getElem? h) ws hw).2⟩

-- non-vacuity: a CONNECT refused by the proxy (no error recorded), then the same destination again: a new attempt
example : (trace p0 [.get 1 sA, .result 0 (.fail false), .get 2 sA]).map (·.2) =
    [[.opened 0, .waitOn 1 0], [.failed 1], [.opened 2, .waitOn 2 2]] := by decide +kernel
-- the modelled closes: an HTTP/2 client's exchange over HTTP/1 closes the upstream connection; the next request opens anew
example : (trace p0 [.get 1 sA, .result 0 (.ok false), .responseDone (.conn 0) false, .get 2 sA]).map (·.2) =
    [[.opened 0, .waitOn 1 0], [.routed 1 sA 0], [], [.opened 2, .waitOn 2 2]] := by decide +kernel
example : NoReopen [.get 1 sA, .setState (.conn 0) true false, .peerClose (.conn 0)] := by
  intro e he t r w heq
  simp at he
  rcases he with rfl | rfl | rfl <;> simp_all

/-- **pending_not_connected.** In every history from an empty pool whose raw state changes never re-open a socket, a
    connection whose attempt is still pending is closed (it becomes OPEN only through its own connection result). This
    discharges the hypothesis `hclosed` of `failed_attempt_never_routed`. -/
theorem pending_not_connected (p : Pool) (evs : List Ev) (hi : Init p) (hno : NoReopen evs) : PendingClosed (run p evs) := by
  have base : PendingClosed p := by intro c hc; rw [hi.1] at hc; cases hc
  clear hi
  induction evs generalizing p with
  | nil => exact base
  | cons e es ih =>
    refine ih (step p e).1 (fun e' he' => hno e' (List.mem_cons_of_mem _ he')) fun c' hc' => ?_
    rcases (step_effect p e).all c' hc' with ⟨c, hc, hu⟩ | ⟨w, _, hf⟩
    · exact hu.pendingClosed (hno e List.mem_cons_self) (base c hc)
    · exact hf.pendingClosed

/-- **failed_attempt_never_routed_reachable.** From an empty pool, for every admissible history `pre` (no socket re-opened)
    after which the attempt of connection `cid` is pending: once that attempt fails — with or without an error recorded —
    no request of any continuation `post` is ever handed `cid`. -/
theorem failed_attempt_never_routed_reachable (p : Pool) (pre post : List Ev) (hi : Init p) (cid : Nat) (c : Conn)
    (ws : List (Nat × Spec)) (setsErr : Bool)
    (ha : AllAdm p (pre ++ Ev.result cid (.fail setsErr) :: post))
    (hno : NoReopen (pre ++ Ev.result cid (.fail setsErr) :: post))
    (h : (run p pre).conns[cid]? = some c) (hw : c.waiting = some ws) :
    ∀ x ∈ trace (step (run p pre) (.result cid (.fail setsErr))).1 post, ∀ (rid : Nat) (s : Spec), Out.routed rid s cid ∉ x.2 := by
  obtain ⟨ha1, ha2⟩ := allAdm_append p pre _ ha
  have hinv := inv_run p [] pre (inv_init p hi) ha1
  have hpc := pending_not_connected p pre hi (fun e he => hno e (List.mem_append.mpr (Or.inl he)))
  have hclosed : c.connected = false := hpc c (List.mem_of_getElem? h) (by simp [hw])
  exact failed_attempt_never_routed (run p pre) _ post hinv cid c ws setsErr h hw hclosed ha2
    (fun e he => hno e (List.mem_append.mpr (Or.inr (by simp [he]))))

/-- **errored_never_routed_reachable**: whole-history form from `Init` — once an entry carries an error after `pre`, no
    request of `post` gets it. -/
theorem errored_never_routed_reachable (p : Pool) (pre post : List Ev) (hi : Init p) (ha : AllAdm p (pre ++ post))
    (i : Nat) (c : Conn) (h : (run p pre).conns[i]? = some c) (herr : c.error = true) :
    ∀ x ∈ trace (run p pre) post, ∀ (rid : Nat) (s : Spec), Out.routed rid s i ∉ x.2 := by
  obtain ⟨ha1, ha2⟩ := allAdm_append p pre post ha
  exact errored_never_routed (run p pre) _ post (inv_run p [] pre (inv_init p hi) ha1) ha2 i c h herr

/-- **dead_entry_never_routed_reachable**: whole-history form from `Init`. -/
theorem dead_entry_never_routed_reachable (p : Pool) (pre post : List Ev) (hi : Init p) (ha : AllAdm p (pre ++ post))
    (hno : NoReopen post) (i : Nat) (c : Conn) (h : (run p pre).conns[i]? = some c) (hd : Dead c) :
    ∀ x ∈ trace (run p pre) post, ∀ (rid : Nat) (s : Spec), Out.routed rid s i ∉ x.2 := by
  obtain ⟨ha1, ha2⟩ := allAdm_append p pre post ha
  exact dead_entry_never_routed (run p pre) _ post (inv_run p [] pre (inv_init p hi) ha1) ha2 hno i c h hd

-- witnesses that the hypotheses of the theorems above can be met, theorem by theorem
private def a6p : Pool :=
  { clientH2 := false,
    ctx := { addr := none, tls := false, via := none, udp := false, tunnel := false, canRead := false,
             canWrite := false, error := false, alpnH2 := false, waiting := none } }
private def a6s : Spec := { host := 7, port := 443, tls := true, via := none, udp := false }
private def a6t : Spec := { host := 8, port := 80, tls := false, via := some (2, 3128), udp := false }

example : Init a6p := by unfold Init; decide +kernel
-- routed_to_matching / failed_not_reused on a history with two destinations, a reuse and a guarded assignment: the
-- hypotheses hold and requests ARE routed (the conclusion is not empty)
example : AllAdm a6p [.get 1 a6s, .result 0 (.ok false), .get 2 a6s, .get 3 a6t, .result 1 (.ok false),
    .poke (.conn 0) (.addr (some (9, 9))), .get 4 a6s] := by decide +kernel
example : (trace a6p [.get 1 a6s, .result 0 (.ok false), .get 2 a6s, .get 3 a6t, .result 1 (.ok false),
    .poke (.conn 0) (.addr (some (9, 9))), .get 4 a6s]).map (·.2) =
    [[.opened 0, .waitOn 1 0], [.routed 1 a6s 0], [.routed 2 a6s 0], [.opened 1, .waitOn 3 1], [.routed 3 a6t 1], [],
     [.routed 4 a6s 0]] := by decide +kernel
-- waiting_matches: two requests do wait on one pending connection
example : ((run a6p [.get 1 a6s, .get 2 a6s]).conns.map (·.waiting)) = [some [(1, a6s), (2, a6s)]] := by decide +kernel
-- errored_never_routed_reachable: `h`, `herr` after a failed TLS handshake, `ha` for a continuation that asks again
example : ((run a6p [.get 1 a6s, .result 0 (.fail true)]).conns[0]?).map (·.error) = some true := by decide +kernel
example : AllAdm a6p ([.get 1 a6s, .result 0 (.fail true)] ++ [.get 2 a6s, .setError (.conn 0), .get 3 a6s]) := by decide +kernel
-- dead_entry_never_routed_reachable: `hd` after a CONNECT refused by the proxy (no error recorded)
example : ∃ c, (run a6p [.get 1 a6t, .result 0 (.fail false)]).conns[0]? = some c ∧ Dead c :=
  ⟨_, rfl, rfl, rfl, rfl⟩
-- ... and after the peer closed an established connection
example : ∃ c, (run a6p [.get 1 a6s, .result 0 (.ok false), .peerClose (.conn 0)]).conns[0]? = some c ∧ Dead c :=
  ⟨_, rfl, rfl, rfl, rfl⟩
-- failed_attempt_never_routed_reachable: `h`, `hw`, `ha`, `hno`
example : ∃ c, (run a6p [.get 1 a6s, .get 2 a6s]).conns[0]? = some c ∧ c.waiting = some [(1, a6s), (2, a6s)] :=
  ⟨_, rfl, rfl⟩
example : AllAdm a6p ([.get 1 a6s, .get 2 a6s] ++ Ev.result 0 (.fail true) :: [.get 3 a6s]) := by decide +kernel
example : NoReopen ([.get 1 a6s, .get 2 a6s] ++ Ev.result 0 (.fail true) :: [.get 3 a6s]) := by
  intro e he t r w heq
  simp at he
  rcases he with rfl | rfl | rfl | rfl <;> simp_all
-- open_conn_immutable / open_interval_immutable: entry 0 is open and stays open through a reuse, a guarded assignment
-- (which raises) and another destination's attempt
example : ((run a6p [.get 1 a6s, .result 0 (.ok false)]).conns[0]?).map (·.connected) = some true := by decide +kernel
example : StaysOpen (run a6p [.get 1 a6s, .result 0 (.ok false)])
    [.get 2 a6s, .poke (.conn 0) (.addr (some (9, 9))), .get 3 a6t] 0 :=
  ⟨⟨_, rfl, rfl⟩, ⟨_, rfl, rfl⟩, ⟨_, rfl, rfl⟩, trivial⟩
example : (step (run a6p [.get 1 a6s, .result 0 (.ok false)]) (.poke (.conn 0) (.addr (some (9, 9))))).2.2 = .raised := by decide +kernel
-- setAttr_guard: an open connection
example : (newConn a6s).connected = false ∧ ({ newConn a6s with canRead := true, canWrite := true } : Conn).connected = true := by decide +kernel

end MitmVerif.Props.C08
