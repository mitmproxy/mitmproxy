/-
  C09 — connection lifecycle events pair up and per-destination concurrency is bounded.
  Theorems about the task-system model `MitmVerif.C09` (Model/C09.lean) for EVERY schedule:
  `Reach n s` = `s` is reached from the initial state by some list of labels, i.e. by any interleaving
  of task actions and done-callbacks (any choice of the next runnable), any await outcome (normal /
  failure / cancellation) and any commands from the layer.  asyncio.wait and the done-callbacks are an
  explicit part of the model (per-task callback lists, wait counter); see also `wait_counts_callbacks`.
  The hook counters are ghost state counting the `hook` labels of the schedule, so an inequality that
  holds in every reachable state is a statement about every prefix of every trace (hence about order).
  The theorems about reachable states are read off three invariants, some off two of them: `Reach.inv` (lifecycle,
  callbacks and wait counter: Lemmas/C09), `Reach.sem` (semaphore accounts: Lemmas/C09Sem), `Reach.late` (what may
  remain at return: Lemmas/C09Late).
-/
import MitmVerif.Lemmas.C09
import MitmVerif.Lemmas.C09Sem
import MitmVerif.Lemmas.C09Late
import MitmVerif.Gen.C09
namespace MitmVerif.Props.C09
open MitmVerif.C09

/-- client_connected fires at most once, client_disconnected never before it and at most once;
    when handle_client has returned both have fired exactly once. -/
theorem client_hooks_paired {n : Nat} {s : St} (h : Reach n s) :
    s.nCC ≤ 1 ∧ s.nCD ≤ s.nCC ∧ (s.hpc = .returned → s.nCC = 1 ∧ s.nCD = 1) := by
  have hh := (Reach.inv h).1.h
  unfold HInv at hh
  obtain ⟨_, h2⟩ := hh
  split at h2 <;> simp_all

/-- every connection attempt fires server_connect at most once; server_connected/server_connect_error
    only after it and together at most once; once the attempt's task is done — or its transports entry
    is gone — a fired server_connect has exactly one outcome. -/
theorem connect_outcome_exactly_one {n : Nat} {s : St} (h : Reach n s) :
    ∀ c ∈ s.conns, c.nSC ≤ 1 ∧ c.nSD + c.nSE ≤ c.nSC ∧
      ((c.pc = .done ∨ c.entry = false) → c.nSD + c.nSE = c.nSC) := by
  intro c hc
  have hi := (Reach.inv h).1.conn c hc
  refine ⟨hi.bounds.1, hi.bounds.2.1, ?_⟩
  rintro (hd | he)
  · exact (hi.settled_of_done hd).2.1
  · exact (hi.settled_of_noentry he).2.1

/-- server_disconnected fires only after server_connected and at most once; once the attempt's task is
    done — or its transports entry is gone — every server_connected has its server_disconnected. -/
theorem connected_then_disconnected_once {n : Nat} {s : St} (h : Reach n s) :
    ∀ c ∈ s.conns, c.nSD ≤ 1 ∧ c.nSX ≤ c.nSD ∧ ((c.pc = .done ∨ c.entry = false) → c.nSX = c.nSD) := by
  intro c hc
  have hi := (Reach.inv h).1.conn c hc
  have hb := hi.bounds
  refine ⟨by omega, hb.2.2, ?_⟩
  rintro (hd | he)
  · exact (hi.settled_of_done hd).2.2
  · exact (hi.settled_of_noentry he).2.2

/-- the semaphore (asyncio.Semaphore transcribed: counter, FIFO of waiters, hand-off on release, cancellation of
    queued waiters) keeps its accounts for every schedule: free slots + tasks inside `async with` + waiters that
    have been handed a slot but have not resumed yet = N, for every address, in every reachable state. -/
theorem semaphore_accounts_balanced {n : Nat} {s : St} (h : Reach n s) (a : Nat) :
    s.semv a + s.conns.countP (holdsAt a) + s.conns.countP (wokenAt a) = n := by
  have := (Reach.sem h).cnt a
  rw [(Reach.inv h).2] at this; exact this

/-- hence, for any configured limit N: at most N upstream sockets to one address are open at any time, in every
    reachable state of every schedule, cancellations of queued and of already-woken waiters included. -/
theorem at_most_n_per_address {n : Nat} {s : St} (h : Reach n s) (a : Nat) :
    s.conns.countP (openAt a) ≤ n := by
  have h1 : s.conns.countP (openAt a) ≤ s.conns.countP (holdsAt a) := by
    apply List.countP_mono_left
    intro c _ hc
    simp only [openAt, Bool.and_eq_true] at hc
    simp only [holdsAt, Bool.and_eq_true]
    exact ⟨wopen_holding _ hc.1, hc.2⟩
  have := semaphore_accounts_balanced h a
  omega

/-- with the semaphore size read from the source (Gen/C09.lean: 5), at most five upstream sockets to one
    address exist at any time, in every reachable state of every schedule. -/
theorem at_most_five_per_address {s : St} (h : Reach MitmVerif.Gen.C09.semSize s) (a : Nat) :
    s.conns.countP (openAt a) ≤ 5 :=
  at_most_n_per_address h a

/-- every queued waiter is an open_connection task for that address (the queue never holds foreign tasks) -/
theorem waiters_are_tasks_of_the_address {n : Nat} {s : St} (h : Reach n s) (a : Nat) :
    ∀ j ∈ s.waiters a, ∃ d, s.conns[j]? = some d ∧ d.addr = some a :=
  (Reach.sem h).wl a

/-- the slot is taken for the address that is DIALLED: the key of `max_conns[...]` is fixed when the server_connect
    hook returns — the address an addon wrote there if it wrote one, otherwise the address the layer asked for —
    and all the per-address theorems above count by this address -/
theorem slot_keyed_on_dialled_address {c c' : Conn} {ok : Bool} {cmds : List Cmd}
    (hpc : c.pc = .inSC) (h0 : c.addr = none) (h : stepS c (.hookret .ok false) ok = some (c', cmds)) :
    c'.addr = (match c.want with | some a => some a | none => c.req) ∧ c'.pc = .preSem := by
  unfold stepS at h
  simp only [hpc, Option.some.injEq, Prod.mk.injEq] at h
  obtain ⟨rfl, _⟩ := h
  refine ⟨?_, rfl⟩
  simp only [h0, Option.isNone_none, if_true]
  cases c.want <;> rfl

/-- a task that is cancelled while it is still queued for a slot leaves the queue without touching the counter
    of any address (it never held a slot, so it must not release one) -/
theorem cancelled_waiter_keeps_count {s s' : St} {i : Nat} {c : Conn}
    (hc : s.conns[i]? = some c) (hpc : c.pc = .semCancelled)
    (h : step s (.act (.S i) .semcancel) = some s') : s'.semv = s.semv := by
  unfold step at h
  simp only [hc] at h
  unfold stepS at h
  simp only [hpc, applyCmds, Option.some.injEq] at h
  subst h
  unfold semEffect
  split
  · rfl
  · simp [hpc]

/-- the explicit scheduler state is consistent in every reachable state: asyncio.wait's counter equals the number
    of pending completion callbacks, a task's callbacks are release_transport first and the completion callback
    behind it, and an entry is in transports only while its task's release_transport has not run -/
theorem wait_counts_callbacks {n : Nat} {s : St} (h : Reach n s) :
    s.hcount = s.conns.countP hasWait + cwait s ∧
    ∀ c ∈ s.conns, (c.cbs = [.release] ∨ c.cbs = [.release, .waitH] ∨ c.cbs = [.waitH] ∨ c.cbs = []) ∧
      (c.entry = true → c.cbs = [.release] ∨ c.cbs = [.release, .waitH]) :=
  ⟨(Reach.inv h).1.wait, (Reach.inv h).1.cb⟩

/-- NO hypothesis about the layer: when handle_client has returned, the client's entry and socket are gone, and every
    upstream entry still in transports belongs to a connection the layer asked for AFTER handle_client had collected
    the transports to wait for (`late`); everything opened before that is gone, for every schedule.  (This is what the
    oracle asks of the real code: only what a late OpenConnection created may remain.) -/
theorem only_late_opens_remain {n : Nat} {s : St} (h : Reach n s) (hr : s.hpc = .returned) :
    s.centry = false ∧ s.cwopen = false ∧ ∀ c ∈ s.conns, c.entry = true → c.late = true := by
  obtain ⟨hi, _⟩ := Reach.inv h
  have hh := hi.h
  unfold HInv at hh
  rw [hr] at hh
  exact ⟨hh.2.2.2, hh.1 hh.2.2.2, (Reach.late h).ret2 hr⟩

/-- the ghost flag of `no_transports_after_return` is the disjunction of the marks: if no late open happened
    (`lateOpen = false`) no connection is marked late — so that theorem is the special case of
    `only_late_opens_remain` in which nothing may remain -/
theorem late_marks_imply_lateOpen {n : Nat} {s : St} (h : Reach n s) :
    ∀ c ∈ s.conns, c.late = true → s.lateOpen = true :=
  (Reach.late h).flag

/-- and every connection that was opened in time is settled at return: no entry, socket closed, one outcome per
    server_connect, one server_disconnected per server_connected — again without any hypothesis -/
theorem early_connections_settled_at_return {n : Nat} {s : St} (h : Reach n s) (hr : s.hpc = .returned) :
    ∀ c ∈ s.conns, c.late = false →
      c.entry = false ∧ wopen c.pc = false ∧ c.nSD + c.nSE = c.nSC ∧ c.nSX = c.nSD := by
  intro c hc hl
  have hci := (Reach.inv h).1.conn c hc
  have he : c.entry = false := Bool.eq_false_iff.mpr fun he =>
    Bool.eq_false_iff.mp hl ((Reach.late h).ret2 hr c hc he)
  exact ⟨he, hci.noopen_of_noentry he, (hci.settled_of_noentry he).2.1, (hci.settled_of_noentry he).2.2⟩

/-- while handle_client waits, every entry of a connection opened in time belongs to a task it waits for -/
theorem final_wait_covers_early_transports {n : Nat} {s : St} (h : Reach n s) (hf : s.hpc = .final) :
    ∀ c ∈ s.conns, c.entry = true → c.late = false → hasWait c = true ∧ 0 < s.hcount := by
  intro c hc he hl
  have hw := (Reach.late h).fin2 hf c hc he hl
  exact ⟨hw, (Reach.inv h).1.hcount_pos hc hw⟩

private theorem not_late {n : Nat} {s : St} (h : Reach n s) (hq : s.lateOpen = false) {c : Conn} (hc : c ∈ s.conns) :
    c.late = false :=
  Bool.eq_false_iff.mpr fun hl => Bool.eq_false_iff.mp hq (late_marks_imply_lateOpen h c hc hl)

/-- when handle_client has returned (and the layer did not open a connection after handle_client had
    collected the transports to wait for), nothing is left: no transports entry, no open upstream or
    client socket, and every attempt has its outcome and its server_disconnected. -/
theorem no_transports_after_return {n : Nat} {s : St} (h : Reach n s)
    (hr : s.hpc = .returned) (hq : s.lateOpen = false) :
    s.centry = false ∧ s.cwopen = false ∧
    ∀ c ∈ s.conns, c.entry = false ∧ wopen c.pc = false ∧ c.nSD + c.nSE = c.nSC ∧ c.nSX = c.nSD := by
  obtain ⟨h1, h2, _⟩ := only_late_opens_remain h hr
  exact ⟨h1, h2, fun c hc => early_connections_settled_at_return h hr c hc (not_late h hq hc)⟩

/-- while handle_client is in its final `asyncio.wait` and no connection has been opened late, every entry still in
    transports belongs to a task it waits for, so the counter is positive.  That the wait is passed only at
    `hcount = 0` is the guard of `stepH`; that `hcount` counts the pending completion callbacks is
    `wait_counts_callbacks`. -/
theorem final_wait_covers_transports {n : Nat} {s : St} (h : Reach n s) (hf : s.hpc = .final)
    (hq : s.lateOpen = false) : ∀ c ∈ s.conns, c.entry = true → hasWait c = true ∧ 0 < s.hcount :=
  fun c hc he => final_wait_covers_early_transports h hf c hc he (not_late h hq hc)

/-- A schedule and a decidable fact about the state it ends in: `decide +kernel` on the hypothesis has the kernel run the
    schedule once (the elaborator's unifier, asked for the end state by `rfl`, would evaluate it far more slowly). -/
private theorem run_witness {s0 : St} {ls : List Label} {P : St → Prop} [DecidablePred P]
    (h : (run s0 ls).any (fun s => P s) = true) : ∃ s, run s0 ls = some s ∧ P s :=
  match run s0 ls, h with
  | some s, h => ⟨s, rfl, of_decide_eq_true h⟩

private theorem reach_witness {n : Nat} (ls : List Label) {P : St → Prop} [DecidablePred P]
    (h : (run (init n) ls).any (fun s => P s) = true) : ∃ s, Reach n s ∧ P s :=
  let ⟨s, hr, hp⟩ := run_witness h
  ⟨s, ⟨ls, hr⟩, hp⟩

/-- a complete run: connect, serve, peer closes, client closes, handle_client returns -/
def happy : List Label :=
  [.act .H (.hook .cc), .act .H (.hookret .ok false), .act .H (.ev .start []), .act .C .start,
   .act .C (.readret .data), .act .C (.ev .data [.opn 0 (some 0)]),
   .act (.S 0) .start, .act (.S 0) (.hook .sc), .act (.S 0) (.hookret .ok false), .act (.S 0) .semacq,
   .act (.S 0) (.connret .ok), .act (.S 0) (.hook .sd), .act (.S 0) (.hookret .ok false),
   .act (.S 0) (.ev .cok []), .act (.S 0) (.readret .eof), .act (.S 0) (.ev .closed []),
   .act (.S 0) .wclose, .act (.S 0) (.hook .sx), .act (.S 0) (.hookret .ok false), .act (.S 0) .semrel,
   .act (.S 0) .fin,
   .act .C (.readret .eof), .act .C (.ev .closed []), .act .C .wclose, .act .C .fin, .cb .C, .cb .C,
   .act .H (.hook .cd), .act .H (.hookret .ok false), .act .H .fin]

example : ∃ s, Reach 5 s ∧ s.hpc = .returned ∧ s.lateOpen = false ∧ s.nCC = 1 ∧ s.nCD = 1 ∧
    (s.conns.map (fun c => (c.nSC, c.nSD, c.nSE, c.nSX))) = [(1, 1, 0, 1)] :=
  reach_witness happy (by decide +kernel)

/-- cancellation during the server_connect hook (client gone): the error hook is the outcome -/
example : ∃ s, Reach 5 s ∧ s.hpc = .returned ∧ (s.conns.map (fun c => (c.nSC, c.nSD, c.nSE, c.nSX))) = [(1, 0, 1, 0)] :=
  reach_witness [.act .H (.hook .cc), .act .H (.hookret .ok false), .act .H (.ev .start [.opn 0 (some 0)]),
        .act .C .start, .act (.S 0) .start, .act (.S 0) (.hook .sc),
        .act .C (.readret .eof), .act .C (.ev .closed []), .act .C .wclose, .act .C .fin, .cb .C, .cb .C,
        .act .H (.hook .cd), .act .H (.hookret .ok false),
        .act (.S 0) (.hookret .cancel false), .act (.S 0) (.hook .se), .act (.S 0) (.hookret .ok false),
        .act (.S 0) (.ev .cerr []), .act (.S 0) .fin, .cb (.S 0), .cb (.S 0), .act .H .fin] (by decide +kernel)

/-- the model is not constant: a semaphore of size one refuses a second holder, a second OpenConnection for a live
    entry is refused, and the kill path runs through to the return -/
example : (run (init 1) [.act .H (.hook .cc), .act .H (.hookret .ok false),
    .act .H (.ev .start [.opn 0 (some 0), .opn 1 (some 0)]),
    .act (.S 0) .start, .act (.S 0) (.hook .sc), .act (.S 0) (.hookret .ok false), .act (.S 0) .semacq,
    .act (.S 1) .start, .act (.S 1) (.hook .sc), .act (.S 1) (.hookret .ok false), .act (.S 1) .semacq]).isNone = true := by
  decide +kernel

example : (run (init 5) [.act .H (.hook .cc), .act .H (.hookret .ok false),
    .act .H (.ev .start [.opn 0 (some 0), .opn 0 (some 0)])]).isNone = true := by decide +kernel

example : (run (init 5) [.act .H (.hook .cc), .act .H (.hookret .ok true), .act .H .wclose,
    .act .H (.hook .cd), .act .H (.hookret .ok false), .act .H .fin]).isSome = true := by decide +kernel

/-- the scheduler rules are not vacuous: handle_client cannot pass `asyncio.wait([handler])` before the client
    handler's callbacks have run, a callback cannot run before its task has finished, and the completion callback
    cannot overtake release_transport (the second `cb` is the one that counts the wait down) -/
example : (run (init 5) [.act .H (.hook .cc), .act .H (.hookret .ok false), .act .H (.ev .start []), .act .C .start,
    .act .C (.readret .eof), .act .C (.ev .closed []), .act .C .wclose, .act .C .fin, .cb .C,
    .act .H (.hook .cd)]).isNone = true := by decide +kernel

example : (run (init 5) [.act .H (.hook .cc), .act .H (.hookret .ok false), .act .H (.ev .start []), .act .C .start,
    .cb .C]).isNone = true := by decide +kernel

/-- handle_client's final wait cannot end while an awaited task's callbacks are pending -/
example : (run (init 5) [.act .H (.hook .cc), .act .H (.hookret .ok false), .act .H (.ev .start [.opn 0 (some 0)]),
    .act .C .start, .act .C (.readret .eof), .act .C (.ev .closed []), .act .C .wclose, .act .C .fin, .cb .C, .cb .C,
    .act .H (.hook .cd), .act .H (.hookret .ok false), .act (.S 0) .fin, .cb (.S 0), .act .H .fin]).isNone = true := by decide +kernel

/-- the semaphore with one slot and three openers: the second and third queue; the queued second one is cancelled —
    the counter stays 0, the third is NOT woken, and a `release` by the cancelled task is not a behaviour of the code -/
def queued3 : List Label :=
  [.act .H (.hook .cc), .act .H (.hookret .ok false),
   .act .H (.ev .start [.opn 0 (some 0), .opn 1 (some 0), .opn 2 (some 0)]),
   .act (.S 0) .start, .act (.S 0) (.hook .sc), .act (.S 0) (.hookret .ok false), .act (.S 0) .semacq,
   .act (.S 1) .start, .act (.S 1) (.hook .sc), .act (.S 1) (.hookret .ok false), .act (.S 1) .semwait,
   .act (.S 2) .start, .act (.S 2) (.hook .sc), .act (.S 2) (.hookret .ok false), .act (.S 2) .semwait]

example : ∃ s, run (init 1) (queued3 ++ [.act (.S 1) .creq, .act (.S 1) .semcancel]) = some s ∧
    s.semv 0 = 0 ∧ s.waiters 0 = [2] ∧ (s.conns.map (·.pc)) = [.inConn, .preSE .canc, .inSem] :=
  run_witness (by decide +kernel)

example : (run (init 1) (queued3 ++ [.act (.S 1) .creq, .act (.S 1) .semcancel, .act (.S 1) .semrel])).isNone = true := by
  decide +kernel

/-- hand-off: the holder's connect fails, its release hands the slot to the first waiter; that waiter is cancelled
    after the hand-off and passes the slot on to the next one — the counter never exceeds what is free -/
example : ∃ s, run (init 1) (queued3 ++ [.act (.S 0) (.connret .err), .act (.S 0) (.hook .se),
      .act (.S 0) (.hookret .ok false), .act (.S 0) (.ev .cerr []), .act (.S 0) .semrel,
      .act (.S 1) .creq, .act (.S 1) .semcancel]) = some s ∧
    s.semv 0 = 0 ∧ s.waiters 0 = [2] ∧ (s.conns.map (·.pc)) = [.finishing, .preSE .canc, .semWoken] :=
  run_witness (by decide +kernel)

/-- two connections the layer asked for at DIFFERENT addresses, both redirected to address 0 by the server_connect hook,
    one slot: the second one cannot take a slot at once (it would, if the semaphore were keyed on the requested
    address) — it has to queue -/
def redirected : List Label :=
  [.act .H (.hook .cc), .act .H (.hookret .ok false),
   .act .H (.ev .start [.opn 0 (some 1), .opn 1 (some 2)]),
   .act (.S 0) .start, .act (.S 0) (.hook .sc), .act (.S 0) (.dial 0), .act (.S 0) (.hookret .ok false), .act (.S 0) .semacq,
   .act (.S 1) .start, .act (.S 1) (.hook .sc), .act (.S 1) (.dial 0), .act (.S 1) (.hookret .ok false)]

example : (run (init 1) (redirected ++ [.act (.S 1) .semacq])).isNone = true := by decide +kernel
example : ∃ s, run (init 1) (redirected ++ [.act (.S 1) .semwait]) = some s ∧ s.waiters 0 = [1] ∧ s.semv 0 = 0 ∧
    s.semv 1 = 1 ∧ s.semv 2 = 1 := run_witness (by decide +kernel)

/-- a queued task cannot take a slot it has not been handed, and the fast path is closed while somebody queues -/
example : (run (init 1) (queued3 ++ [.act (.S 1) .semacq])).isNone = true := by decide +kernel

/-- the hypothesis of `no_transports_after_return` is needed in this model: a layer that opens a connection
    while handle_client waits leaves an entry behind -/
example : ∃ s, Reach 5 s ∧ s.hpc = .returned ∧ s.lateOpen = true ∧ (s.conns.map (·.entry)) = [true] ∧
    (s.conns.map (·.late)) = [true] :=
  reach_witness [.act .H (.hook .cc), .act .H (.hookret .ok false), .act .H (.ev .start [.spawn]),
        .act .C .start, .act (.K 0) .start, .act (.K 0) (.hook .hk),
        .act .C (.readret .eof), .act .C (.ev .closed []), .act .C .wclose, .act .C .fin, .cb .C, .cb .C,
        .act .H (.hook .cd), .act .H (.hookret .ok false),
        .act (.K 0) (.hookret .ok false), .act (.K 0) (.ev .hookdone [.opn 0 (some 0)]),
        .act .H .fin] (by decide +kernel)

/-- the bound of `at_most_five_per_address` / `at_most_n_per_address` is attained with the size read from the source:
    five upstream sockets to address 0 are open, a sixth attempt for the same address has passed server_connect -/
def fiveOpen : List Label :=
  [.act .H (.hook .cc),
   .act .H (.hookret .ok false),
   .act .H (.ev .start [.opn 0 (some 0), .opn 1 (some 0), .opn 2 (some 0), .opn 3 (some 0), .opn 4 (some 0), .opn 5 (some 0)]),
   .act (.S 0) .start,
   .act (.S 0) (.hook .sc),
   .act (.S 0) (.hookret .ok false),
   .act (.S 0) .semacq,
   .act (.S 0) (.connret .ok),
   .act (.S 1) .start,
   .act (.S 1) (.hook .sc),
   .act (.S 1) (.hookret .ok false),
   .act (.S 1) .semacq,
   .act (.S 1) (.connret .ok),
   .act (.S 2) .start,
   .act (.S 2) (.hook .sc),
   .act (.S 2) (.hookret .ok false),
   .act (.S 2) .semacq,
   .act (.S 2) (.connret .ok),
   .act (.S 3) .start,
   .act (.S 3) (.hook .sc),
   .act (.S 3) (.hookret .ok false),
   .act (.S 3) .semacq,
   .act (.S 3) (.connret .ok),
   .act (.S 4) .start,
   .act (.S 4) (.hook .sc),
   .act (.S 4) (.hookret .ok false),
   .act (.S 4) .semacq,
   .act (.S 4) (.connret .ok),
   .act (.S 5) .start,
   .act (.S 5) (.hook .sc),
   .act (.S 5) (.hookret .ok false)]

example : ∃ s, Reach MitmVerif.Gen.C09.semSize s ∧ s.conns.countP (openAt 0) = 5 ∧ s.semv 0 = 0 ∧
    s.conns.countP (holdsAt 0) = 5 ∧ s.conns.countP (wokenAt 0) = 0 :=
  reach_witness fiveOpen (by decide +kernel)

/-- ... and the sixth cannot take a slot: it has to queue (`waiters_are_tasks_of_the_address` on a non-empty queue) -/
example : (run (init MitmVerif.Gen.C09.semSize) (fiveOpen ++ [.act (.S 5) .semacq])).isNone = true := by decide +kernel
example : ∃ s, run (init MitmVerif.Gen.C09.semSize) (fiveOpen ++ [.act (.S 5) .semwait]) = some s ∧ s.waiters 0 = [5] ∧
    s.conns.countP (openAt 0) = 5 := run_witness (by decide +kernel)

/-- `final_wait_covers_transports` / `final_wait_covers_early_transports`: their hypotheses hold in a reachable state with
    an entry still in transports — handle_client is in its final wait, the open_connection task has not finished yet -/
example : ∃ s, Reach 5 s ∧ s.hpc = .final ∧ s.lateOpen = false ∧ (s.conns.map (·.entry)) = [true] ∧
    (s.conns.map (·.late)) = [false] ∧ s.hcount = 1 :=
  reach_witness [.act .H (.hook .cc), .act .H (.hookret .ok false), .act .H (.ev .start [.opn 0 (some 0)]),
        .act .C .start, .act (.S 0) .start, .act (.S 0) (.hook .sc),
        .act .C (.readret .eof), .act .C (.ev .closed []), .act .C .wclose, .act .C .fin, .cb .C, .cb .C,
        .act .H (.hook .cd), .act .H (.hookret .ok false)] (by decide +kernel)

/-- `connect_outcome_exactly_one` / `connected_then_disconnected_once` with the premise `entry = false` while the task is
    NOT yet done (entry popped when server_disconnected fires, semaphore still held): the counters are already settled -/
example : ∃ s, Reach 5 s ∧ (s.conns.map (fun c => (decide (c.pc = .done), c.entry, c.nSC, c.nSD, c.nSE, c.nSX))) =
    [(false, false, 1, 1, 0, 1)] :=
  -- not `reach_witness`: the `DecidablePred` instance for this tuple is too large for instance search
  ⟨_, ⟨happy.take 18, rfl⟩, by decide +kernel⟩

/-- `client_hooks_paired` on the kill path (client_connected sets client.error): both hooks exactly once at return -/
example : ∃ s, Reach 5 s ∧ s.hpc = .returned ∧ s.nCC = 1 ∧ s.nCD = 1 ∧ s.centry = false ∧ s.cwopen = false :=
  reach_witness [.act .H (.hook .cc), .act .H (.hookret .ok true), .act .H .wclose,
        .act .H (.hook .cd), .act .H (.hookret .ok false), .act .H .fin] (by decide +kernel)

end MitmVerif.Props.C09
