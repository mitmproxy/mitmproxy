/-
  C19 — ignored hosts are passed through untouched, allow/ignore rules are honoured (model: Model/C19.lean; lemmas:
  Lemmas/C19.lean for what is computed from the bytes, Lemmas/C19Conn.lean for the connection).

  Four strands.
  VERDICT: `_ignore_connection` is the documented rule over the candidate names (`verdict_rule`, its two readings, and
  `candidates_cover_destinations`).
  HOST HEADER: the two regexes of `_get_host_header`, transcribed as scanners, against the RFC 9112 field syntax
  (`Field`, `specHost`, `renderHead*` in the model are the specification side): `host_header_agrees_mixed` is the general
  statement, the CRLF / uniform / bare-LF ones are instances. For an arbitrary token method the statement
  `HostHeaderAgreesAnyMethod` is FALSE of the code (F-C19c): `_partial` + `_counterexample`.
  SEGMENTATION: an answer on a prefix is final (`*_prefix_stable`; the ClientHello part is C13's `prefix_stable`), and a
  final answer at the deciding prefix makes asking segment by segment (`askSegs`) equal to asking once
  (`askSegs_of_stable`). The guard `reqLinePending p = false` cannot be dropped: `DecisionSegIndependent` is FALSE of the
  code (F-C19b). Datagrams are not re-segmented; what is left of the clause for them is `datagram_decision_local` and
  the two `dtls_*` theorems.
  CONNECTION: the invariant `Inv` of the model of NextLayer buffering + relay layer holds along every event history
  (`relay_sends_only_what_was_received`, `ignored_is_passthrough`); `Inv2` needs an admissible environment `AdmRun`
  (`ignored_is_passthrough_to_the_end`). `session_asks` ties `askSegs` to the connection model, which gives the
  `*_flight_any_segmentation` theorems.
  Two theorems hold by the shape of the model and have their content in the differential tie: part (a) of
  `ignored_is_passthrough` (read off `nextLayer`) and `verdict_uses_options_in_force` / `verdict_history_independent`
  (`Addon` holds nothing but the two option lists).
-/
import MitmVerif.Lemmas.C19Conn
namespace MitmVerif.Props.C19
open MitmVerif MitmVerif.C19

/-- **verdict_rule** — whenever `_ignore_connection` answers, the answer is the documented rule over the candidate
    host names: excluded iff there are candidates, the wireguard DNS exemption does not apply, and (allow_hosts is set
    and none matches, or ignore_hosts is set and one matches). -/
theorem verdict_rule {Pat : Type} (E : Env Pat) (c : Cfg Pat) (dc ds : Bytes) (hs : List Bytes)
    (hc : candidates E c dc ds = .ok hs) :
    ignoreConnection E c dc ds = .ok true ↔
      (exempt c = false ∧ hs ≠ [] ∧
        ((c.allowPats ≠ [] ∧ ¬ ∃ h ∈ hs, ∃ r ∈ c.allowPats, E.rx r h = true) ∨
         (c.ignorePats ≠ [] ∧ ∃ h ∈ hs, ∃ r ∈ c.ignorePats, E.rx r h = true))) := by
  rw [ignoreConnection_eq_true E c dc ds hs hc, verdict_eq_true, ← anyMatch_eq_true, ← anyMatch_eq_true,
    Bool.not_eq_true]

/-- **allow_semantics** — with `allow_hosts` set (and no `ignore_hosts`), a connection with a known destination is passed
    through exactly when NO candidate host name matches any allow pattern. -/
theorem allow_semantics {Pat : Type} (E : Env Pat) (c : Cfg Pat) (dc ds : Bytes) (hs : List Bytes)
    (hc : candidates E c dc ds = .ok hs) (hne : hs ≠ []) (hal : c.allowPats ≠ []) (hig : c.ignorePats = [])
    (hex : exempt c = false) :
    ignoreConnection E c dc ds = .ok true ↔ ¬ ∃ h ∈ hs, ∃ r ∈ c.allowPats, E.rx r h = true := by
  rw [verdict_rule E c dc ds hs hc]
  simp [hex, hne, hal, hig]

/-- **ignore_semantics** — with only `ignore_hosts` set, a connection is passed through exactly when SOME candidate host
    name matches some ignore pattern. -/
theorem ignore_semantics {Pat : Type} (E : Env Pat) (c : Cfg Pat) (dc ds : Bytes) (hs : List Bytes)
    (hc : candidates E c dc ds = .ok hs) (hal : c.allowPats = []) (hig : c.ignorePats ≠ [])
    (hex : exempt c = false) :
    ignoreConnection E c dc ds = .ok true ↔ ∃ h ∈ hs, ∃ r ∈ c.ignorePats, E.rx r h = true := by
  rw [verdict_rule E c dc ds hs hc]
  simp only [hex, hal, hig, ne_eq, not_true_eq_false, false_and, false_or, not_false_eq_true, true_and]
  constructor
  · exact fun h => h.2
  · intro h
    refine ⟨?_, h⟩
    obtain ⟨x, hx, _⟩ := h
    intro e; rw [e] at hx; cases hx

/-- **candidates_cover_destinations** — every destination form the property names is among the candidates: the server
    address, the Host header value (with the connection's port unless it carries one) and the ClientHello's SNI. -/
theorem candidates_cover_destinations {Pat : Type} (E : Env Pat) (c : Cfg Pat) (dc ds : Bytes) (hs : List Bytes)
    (h : Bytes) (p : Nat) (ha : c.address = some (h, p)) (hc : candidates E c dc ds = .ok hs) :
    hostPort h p ∈ hs ∧
    (∀ v, hostHeader c.tcp dc ds = .ok (some v) → withPort v p ∈ hs) ∧
    (∀ s, clientHello E c.tcp (some p) dc = .ok (some s) → hostPort s p ∈ hs) ∧
    (∀ a, c.peername = some a → hostPort a.1 a.2 ∈ hs) := by
  unfold candidates at hc
  simp only [ha] at hc
  cases hh : hostHeader c.tcp dc ds with
  | needMore => simp [hh] at hc
  | ok hv =>
    cases hch : clientHello E c.tcp (some p) dc with
    | needMore => simp [hh, hch] at hc
    | ok sni =>
      simp only [hh, hch, Res.ok.injEq] at hc
      subst hc
      refine ⟨by simp, ?_, ?_, ?_⟩
      · intro v hv'; cases hv'; simp [optList]
      · intro s hs'; cases hs'; simp [optList]
      · intro a hp; simp [hp, optList]

/-! ## the Host header: implementation scanner = specification -/

/-- **host_header_agrees_mixed** — the general statement.  For EVERY request head in RFC 9112 field syntax — a request
    line the first regex recognises, any number of field lines `name ":" OWS value OWS` with token names, SP/HTAB in any
    amount on both sides of the value, the Host field at any position, in any letter case, possibly empty or repeated —
    where EACH line (request line, every field line, the blank line) is ended by CRLF or by a bare LF in any mixture
    (RFC 9112 §2.2), followed by ANY bytes, `_get_host_header` returns the value of the FIRST Host field (none if absent or
    empty). -/
theorem host_header_agrees_mixed (reqLine : Bytes) (rlLf : Bool) (fs : List (Field × Bool)) (endLf : Bool)
    (rest : Bytes) (hrl : expected reqLine = true) (hlf : LF ∉ reqLine) (hw : ∀ p ∈ fs, p.1.WF) :
    hostHeader true (renderHeadMixed reqLine rlLf fs endLf ++ rest) [] = .ok (specHost (fs.map (·.1))) := by
  have he : expected (renderHeadMixed reqLine rlLf fs endLf ++ rest) = true := by
    have := expected_append_true reqLine
      (eol rlLf ++ (fs.flatMap (fun p => p.1.body ++ eol p.2) ++ eol endLf) ++ rest) hrl
    simpa [renderHeadMixed, List.append_assoc] using this
  unfold hostHeader
  simp only [Bool.not_true, List.isEmpty_nil, Bool.or_self, Bool.false_eq_true, if_false, he, if_true]
  have hform : renderHeadMixed reqLine rlLf fs endLf ++ rest
      = reqLine ++ (eol rlLf ++ (fs.flatMap (fun p => p.1.body ++ eol p.2) ++ (eol endLf ++ rest))) := by
    simp [renderHeadMixed, List.append_assoc]
  rw [hform, scan_skip_eol rlLf reqLine _ hlf]
  exact atLine_fields fs hw endLf rest

/-- **host_header_eol_partial** — the statement for heads
    whose lines all end the same way, CRLF (`lf = false`) or bare LF (`lf = true`). -/
theorem host_header_eol_partial (lf : Bool) (reqLine : Bytes) (fs : List Field) (rest : Bytes)
    (hrl : expected reqLine = true) (hlf : LF ∉ reqLine) (hw : ∀ f ∈ fs, f.WF) :
    hostHeader true (renderHeadEol lf reqLine fs ++ rest) [] = .ok (specHost fs) := by
  have h := host_header_agrees_mixed reqLine lf (fs.map (fun f => (f, lf))) lf rest hrl hlf
    (by intro p hp; obtain ⟨f, hf, rfl⟩ := List.mem_map.mp hp; exact hw f hf)
  simp only [List.map_map, Function.comp_def, List.map_id'] at h
  have : renderHeadMixed reqLine lf (fs.map (fun f => (f, lf))) lf = renderHeadEol lf reqLine fs := by
    simp [renderHeadMixed, renderHeadEol, List.flatMap_map, List.append_assoc]
  rw [this] at h
  exact h

/-- **host_header_agrees_with_spec** — the CRLF instance: for EVERY well-formed head with CRLF line ends followed by ANY
    bytes, `_get_host_header` returns the value of the first Host field (none if absent or empty). -/
theorem host_header_agrees_with_spec (reqLine : Bytes) (fs : List Field) (rest : Bytes)
    (hrl : expected reqLine = true) (hlf : LF ∉ reqLine) (hw : ∀ f ∈ fs, f.WF) :
    hostHeader true (renderHead reqLine fs ++ rest) [] = .ok (specHost fs) := by
  have : renderHead reqLine fs = renderHeadEol false reqLine fs := by
    have hr : (fun f : Field => f.body ++ [CR, LF]) = Field.render := rfl
    simp [renderHeadEol, renderHead, eol, hr]
  rw [this]
  exact host_header_eol_partial false reqLine fs rest hrl hlf hw

example : expected [0x47, 0x45, 0x54, 0x20, 0x2f, 0x20, 0x48, 0x54, 0x54, 0x50, 0x2f, 0x31, 0x2e, 0x31] = true := by decide
/-- `hOsT:` TAB `a.b` SP after another field: the hypotheses are satisfiable and the result is the value -/
example : hostHeader true (renderHead [0x47, 0x45, 0x54, 0x20, 0x2f, 0x20, 0x48, 0x54, 0x54, 0x50, 0x2f, 0x31]
      [⟨[0x58], [0x20], [0x79], []⟩, ⟨[0x68, 0x4f, 0x73, 0x54], [0x09], [0x61, 0x2e, 0x62], [0x20]⟩]) []
    = .ok (some [0x61, 0x2e, 0x62]) := by decide
/-- the scanner is not constant: no Host field, no value -/
example : hostHeader true (renderHead [0x47, 0x45, 0x54, 0x20, 0x2f, 0x20, 0x48, 0x54, 0x54, 0x50, 0x2f, 0x31]
      [⟨[0x58], [0x20], [0x79], []⟩]) [] = .ok none := by decide

/-! ### the wider readings of "as HTTP defines it": any token method, bare-LF line ends -/

/-- `Host: a` -/
private theorem hostFieldWF : (⟨[0x48, 0x6f, 0x73, 0x74], [0x20], [0x61], []⟩ : Field).WF := by
  refine ⟨by decide, by decide, by decide, by decide, by decide, ?_, ?_⟩
  · intro b hb; simp at hb; subst hb; decide
  · intro b hb; simp at hb; subst hb; decide

/-- The statement for ANY method token (RFC 9110 §9.1: `method = token`).  FALSE for the current code (F-C19c): the first
    regex wants three letters at the start, see `_counterexample`. -/
def HostHeaderAgreesAnyMethod : Prop :=
  ∀ (method target : Bytes) (fs : List Field) (rest : Bytes),
    method ≠ [] → (∀ x ∈ method, isTchar x = true) → target ≠ [] → (∀ x ∈ target, x ≠ CR ∧ x ≠ LF ∧ x ≠ 0x20) →
    (∀ f ∈ fs, f.WF) →
    hostHeader true (renderHead (requestLine method target) fs ++ rest) [] = .ok (specHost fs)

/-- **host_header_any_method (partial)** — the statement for every token method whose first three characters are letters
    (all IANA-registered methods, e.g. GET, BASELINE-CONTROL), any request target, any field lines. -/
theorem host_header_any_method_partial (a b c : UInt8) (m target : Bytes) (fs : List Field) (rest : Bytes)
    (ha : isAlpha a = true) (hb : isAlpha b = true) (hc : isAlpha c = true)
    (hm : ∀ x ∈ m, isTchar x = true) (ht : ∀ x ∈ target, x ≠ CR ∧ x ≠ LF ∧ x ≠ 0x20) (hw : ∀ f ∈ fs, f.WF) :
    hostHeader true (renderHead (requestLine (a :: b :: c :: m) target) fs ++ rest) [] = .ok (specHost fs) := by
  have ht' : ∀ x ∈ target, x ≠ CR ∧ x ≠ LF := fun x hx => ⟨(ht x hx).1, (ht x hx).2.1⟩
  have hal : ∀ y : UInt8, isAlpha y = true → isTchar y = true := fun y hy => by simp [isTchar, hy]
  apply host_header_agrees_with_spec _ fs rest
  · simpa using expected_of_request_line a b c m target [] ha hb hc hm ht'
  · apply requestLine_no_lf _ _ _ ht'
    intro x hx
    simp only [List.mem_cons] at hx
    rcases hx with e | e | e | e
    · rw [e]; exact hal a ha
    · rw [e]; exact hal b hb
    · rw [e]; exact hal c hc
    · exact hm x e
  · exact hw

/-- **host_header_any_method (counterexample)** — F-C19c: `M-SEARCH * HTTP/1.1 CRLF Host: a CRLF CRLF` (method token
    `M-SEARCH`): HTTP defines Host = `a`, `_get_host_header` reports no Host header. -/
theorem host_header_any_method_counterexample : ¬ HostHeaderAgreesAnyMethod := by
  intro h
  have := h [0x4d, 0x2d, 0x53, 0x45, 0x41, 0x52, 0x43, 0x48] [0x2a] [⟨[0x48, 0x6f, 0x73, 0x74], [0x20], [0x61], []⟩] []
    (by decide) (by decide) (by decide) (by decide)
    (by intro f hf; simp only [List.mem_cons, List.mem_nil_iff, or_false] at hf; subst hf; exact hostFieldWF)
  revert this
  decide

/-- The statement for heads whose lines end in a bare LF (RFC 9112 §2.2 "MAY recognize a single LF as a line terminator";
    mitmproxy's own HTTP/1 reader does).  /repo's fix 801640255 made it true (F-C19d: the scan only knew CRLF and asked
    for more data for ever). -/
def HostHeaderAgreesBareLf : Prop :=
  ∀ (reqLine : Bytes) (fs : List Field) (rest : Bytes),
    expected reqLine = true → CR ∉ reqLine → LF ∉ reqLine → (∀ f ∈ fs, f.WF) →
    hostHeader true (renderHeadEol true reqLine fs ++ rest) [] = .ok (specHost fs)

/-- **host_header_bare_lf** — the bare-LF statement holds -/
theorem host_header_bare_lf : HostHeaderAgreesBareLf :=
  fun reqLine fs rest hrl _ hlf hw => host_header_eol_partial true reqLine fs rest hrl hlf hw

/-- mixed line ends read the FIRST Host field: `GET / HTTP/1.1 LF Host: a LF X: b CRLF Host: c CRLF CRLF` gives `a` -/
example : hostHeader true (renderHeadMixed [0x47, 0x45, 0x54, 0x20, 0x2f, 0x20, 0x48, 0x54, 0x54, 0x50, 0x2f, 0x31] true
      [(⟨[0x48, 0x6f, 0x73, 0x74], [0x20], [0x61], []⟩, true), (⟨[0x58], [0x20], [0x62], []⟩, false),
       (⟨[0x48, 0x6f, 0x73, 0x74], [0x20], [0x63], []⟩, false)] false) [] = .ok (some [0x61]) := by decide

/-- **host_header_prefix_stable** — an answer of `_get_host_header` on a prefix that does not end inside the request
    line is its answer on every extension. -/
theorem host_header_prefix_stable (tcp : Bool) (p q ds : Bytes) (r : Option Bytes) (hp : reqLinePending p = false)
    (h : hostHeader tcp p ds = .ok r) : hostHeader tcp (p ++ q) ds = .ok r := by
  unfold hostHeader at h ⊢
  by_cases h1 : (!tcp || !ds.isEmpty) = true
  · simpa [h1] using h
  · simp only [h1] at h ⊢
    by_cases he : expected p = true
    · simp only [he, if_true] at h
      simp only [expected_append_true p q he, if_true]
      exact scan_append p q r h
    · have he0 : expected p = false := by simpa using he
      simp only [he0] at h
      simp only [expected_append_false p q he0 hp]
      exact h

/-- **decision_prefix_stable** — TCP: once `_ignore_connection` answers on at least three bytes that do not end inside
    the request line, more bytes never change the verdict (Host header and ClientHello/SNI included). -/
theorem decision_prefix_stable {Pat : Type} (E : Env Pat) (c : Cfg Pat) (p q ds : Bytes) (b : Bool)
    (htcp : c.tcp = true) (h3 : 3 ≤ p.length) (hp : reqLinePending p = false)
    (h : ignoreConnection E c p ds = .ok b) : ignoreConnection E c (p ++ q) ds = .ok b :=
  ignoreConnection_final E c p (p ++ q) ds (fun r => host_header_prefix_stable c.tcp p q ds r hp)
    (fun port r => by rw [htcp]; exact clientHello_append_tcp E port p q r h3) b h

/-- The full statement: for every segmentation of the first flight, the verdict taken at the first segment at which
    `_ignore_connection` answers equals the verdict on the whole flight — the only exemption being the documented minimum
    of three bytes needed to recognise TLS.  FALSE for the current code (F-C19b), see `_counterexample`. -/
def DecisionSegIndependent : Prop :=
  ∀ (E : Env Bytes) (c : Cfg Bytes) (ds : Bytes) (segs : List Bytes) (p : Bytes),
    c.tcp = true → decidingPrefix (fun d => ignoreConnection E c d ds) [] segs = some p → 3 ≤ p.length →
    askSegs (fun d => ignoreConnection E c d ds) [] segs = ignoreConnection E c segs.flatten ds

/-- **decision_seg_independent (partial)** — the statement above for every pattern type, under the decidable guard that
    the deciding prefix does not end inside the request line (`reqLinePending`): EVERY segmentation of the first flight
    gives the verdict of the whole flight. -/
theorem decision_seg_independent_partial {Pat : Type} (E : Env Pat) (c : Cfg Pat) (ds : Bytes) (segs : List Bytes)
    (p : Bytes) (htcp : c.tcp = true)
    (hd : decidingPrefix (fun d => ignoreConnection E c d ds) [] segs = some p)
    (h3 : 3 ≤ p.length) (hguard : reqLinePending p = false) :
    askSegs (fun d => ignoreConnection E c d ds) [] segs = ignoreConnection E c segs.flatten ds :=
  askSegs_of_stable _ segs p hd (fun q b => decision_prefix_stable E c p q ds b htcp h3 hguard)

/-- **decision_seg_independent_total** — the same without the hypothesis that a verdict is reached: for EVERY non-empty
    segmentation (TCP) such that, IF some accumulated prefix gets a verdict, that prefix has three bytes and does not end
    inside the request line, asking segment by segment gives exactly what asking on the whole flight gives — the verdict,
    or "need more data" when the flight is still incomplete. -/
theorem decision_seg_independent_total {Pat : Type} (E : Env Pat) (c : Cfg Pat) (ds : Bytes) (segs : List Bytes)
    (htcp : c.tcp = true) (hne : segs ≠ [])
    (hguard : ∀ p, decidingPrefix (fun d => ignoreConnection E c d ds) [] segs = some p →
        3 ≤ p.length ∧ reqLinePending p = false) :
    askSegs (fun d => ignoreConnection E c d ds) [] segs = ignoreConnection E c segs.flatten ds := by
  cases hd : decidingPrefix (fun d => ignoreConnection E c d ds) [] segs with
  | some p => exact decision_seg_independent_partial E c ds segs p htcp hd (hguard p hd).1 (hguard p hd).2
  | none =>
    have h := decidingPrefix_none _ [] segs hd
    rw [h]
    have := askSegs_needMore (fun d => ignoreConnection E c d ds) [] segs hne h
    simpa using this.symm

private def cxEnv : Env Bytes := { rx := fun r h => r.isPrefixOf h, validHost := fun _ => false, quic := fun _ => .invalid }
private def cxCfg : Cfg Bytes :=
  { tcp := true, ignorePats := [[0x61]], allowPats := [], wireguard := false, peername := none,
    address := some ([0x31], 80), clientSni := none }
/-- `GET / HT` -/
private def cxSeg1 : Bytes := [0x47, 0x45, 0x54, 0x20, 0x2f, 0x20, 0x48, 0x54]
/-- `TP/1.1 CRLF Host:a CRLF CRLF` -/
private def cxSeg2 : Bytes := [0x54, 0x50, 0x2f, 0x31, 0x2e, 0x31, 0x0d, 0x0a, 0x48, 0x6f, 0x73, 0x74, 0x3a, 0x61, 0x0d, 0x0a, 0x0d, 0x0a]

/-- **decision_seg_independent (counterexample)** — F-C19b: `ignore_hosts = a`, destination `1:80`, first flight
    `GET / HTTP/1.1 CRLF Host:a CRLF CRLF` cut after `GET / HT` (8 bytes ≥ 3): the first segment already gives the verdict
    "not excluded" (no Host header seen), the whole flight is excluded. -/
theorem decision_seg_independent_counterexample : ¬ DecisionSegIndependent := by
  intro h
  have := h cxEnv cxCfg [] [cxSeg1, cxSeg2] cxSeg1 rfl (by decide) (by decide)
  revert this
  decide

/-! ## datagram transports (UDP: DTLS, QUIC)

  The property's segmentation clause speaks about how the network cuts a byte stream.  A datagram transport does not
  re-segment: datagram boundaries are chosen by the sender and preserved, so two different datagram sequences are two
  different inputs (and `_starts_like_quic` is documented to look at the size of what has arrived: at least 18 bytes).
  What the clause leaves for datagrams is proved below: the verdict is a function of the datagrams up to the deciding one
  (`datagram_decision_local`), and for a DTLS ClientHello spread over several datagrams/records the verdict taken when
  the hello is complete is the verdict of everything sent (`dtls_decision_prefix_stable`,
  `dtls_decision_seg_independent`).  The `example` after them shows that the TCP statement itself is false for
  non-DTLS datagrams — by design: 10 bytes are "not QUIC", the same bytes followed by 10 more are. -/

/-- **datagram_decision_local** — for any transport: once a verdict is given on the first k datagrams (segments), whatever
    arrives later is never consulted; the verdict is a function of the deciding prefix alone. -/
theorem datagram_decision_local {Pat : Type} (E : Env Pat) (c : Cfg Pat) (ds : Bytes) (dgs more : List Bytes) (p : Bytes)
    (hd : decidingPrefix (fun d => ignoreConnection E c d ds) [] dgs = some p) :
    askSegs (fun d => ignoreConnection E c d ds) [] (dgs ++ more) = ignoreConnection E c p ds := by
  obtain ⟨b, _, h1, h2, _⟩ := askSegs_deciding _ [] dgs more p hd
  rw [h1, h2]

/-- **dtls_decision_prefix_stable** — UDP: a verdict given on data that starts like a DTLS record (ClientHello complete,
    or recognisably invalid) is unchanged by any further datagrams; QUIC detection cannot interfere. -/
theorem dtls_decision_prefix_stable {Pat : Type} (E : Env Pat) (c : Cfg Pat) (p q ds : Bytes) (b : Bool)
    (hudp : c.tcp = false) (hd : C13.startsLike true p = true)
    (h : ignoreConnection E c p ds = .ok b) : ignoreConnection E c (p ++ q) ds = .ok b :=
  -- over UDP no Host header is looked for: `hostHeader false` answers `ok none` on any data
  ignoreConnection_final E c p (p ++ q) ds (fun r => by rw [hudp]; exact id)
    (fun port r => by rw [hudp]; exact clientHello_append_dtls E port p q r hd) b h

/-- **dtls_decision_seg_independent** — UDP/DTLS: however the client spreads its DTLS first flight over datagrams, the
    verdict taken at the first datagram at which `_ignore_connection` answers is the verdict on everything it sent. -/
theorem dtls_decision_seg_independent {Pat : Type} (E : Env Pat) (c : Cfg Pat) (ds : Bytes) (dgs : List Bytes)
    (p : Bytes) (hudp : c.tcp = false)
    (hd : decidingPrefix (fun d => ignoreConnection E c d ds) [] dgs = some p)
    (hdtls : C13.startsLike true p = true) :
    askSegs (fun d => ignoreConnection E c d ds) [] dgs = ignoreConnection E c dgs.flatten ds :=
  askSegs_of_stable _ dgs p hd (fun q b => dtls_decision_prefix_stable E c p q ds b hudp hdtls)

private def udpEnv : Env Bytes := { rx := fun r h => r.isPrefixOf h, validHost := fun _ => false, quic := fun _ => .ok (some [0x61]) }
private def udpCfg : Cfg Bytes :=
  { tcp := false, ignorePats := [[0x61]], allowPats := [], wireguard := false, peername := none,
    address := some ([0x31], 443), clientSni := none }
/-- why the TCP statement is not claimed for datagrams: ten bytes to port 443 are not QUIC (fewer than 18 bytes), the same
    ten bytes followed by ten more are handed to the QUIC parser, whose SNI then matches — datagram sizes are input -/
example : ignoreConnection udpEnv udpCfg (List.replicate 10 0) [] = .ok false
    ∧ ignoreConnection udpEnv udpCfg (List.replicate 10 0 ++ List.replicate 10 0) [] = .ok true := by decide

/-- **ignored_is_passthrough** — (a) whenever the verdict is "ignore" the instantiated stack is the single relay layer
    (`TCPLayer`/`UDPLayer` with `ignore = not show_ignored_hosts`): no layer that terminates TLS/QUIC or parses HTTP/DNS
    (immediate from `nextLayer`: what it is worth comes from the tie's comparison of stacks);
    (b) for EVERY event history (any segmentation of the first flight, data and closes from both sides at any time, the
    server connection already open or opened after the decision, connect success or failure): while the relay is active
    the bytes sent to each peer are exactly the concatenation of all bytes received from the other — including those
    buffered before the decision and while connecting; before that nothing is sent and everything received is still
    queued in order; the stack is the relay layer alone and, if it was created with `ignore = True` (`flow = false`), no
    hook ever runs.  (b) does not ask for the verdict: it holds of every relay layer the model starts, also one chosen by
    `tcp_hosts` / `udp_hosts` / `rawtcp`. -/
theorem ignored_is_passthrough {Pat : Type} (E : Env Pat) (c : NCfg Pat) (connected : Bool) (evs : List Ev) :
    (∀ dc ds, ignoreConnection E c.toCfg dc ds = .ok true →
        nextLayer E c dc ds = .ok [relayLayer c.tcp (!c.showIgnored)] ∧
        (relayLayer c.tcp (!c.showIgnored)).terminates = false) ∧
    (let s := run E c (Sess.init c.tcp connected) evs
     (s.phase = .relay → ∀ b, sentTo b s.out = recvFrom b evs) ∧
     ((s.phase = .undecided ∨ s.phase = .connecting) →
        ∀ b, sentTo b s.out = [] ∧ recvFrom b s.queue = recvFrom b evs) ∧
     ((s.phase = .connecting ∨ s.phase = .relay ∨ s.phase = .done ∨ s.phase = .failed) →
        (∃ ig, (s.stack = [LK.tcp ig] ∨ s.stack = [LK.udp ig]) ∧ s.flow = !ig) ∧
        (s.flow = false → hooks s.out = []))) := by
  refine ⟨?_, ?_⟩
  · intro dc ds h
    refine ⟨by simp [nextLayer, h], ?_⟩
    cases c.tcp <;> rfl
  · have hI := run_inv E c (Sess.init c.tcp connected) [] evs (init_inv c.tcp connected)
    simp only [List.nil_append] at hI
    unfold MitmVerif.C19.Inv at hI
    refine ⟨?_, ?_, ?_⟩
    · intro hp
      rw [hp] at hI
      exact hI.2
    · intro hp
      rcases hp with hp | hp <;> rw [hp] at hI
      · exact fun b => ⟨by rw [hI.1]; rfl, hI.2.2.1 b⟩
      · exact hI.2
    · intro hp
      rcases hp with hp | hp | hp | hp <;> rw [hp] at hI <;> exact hI.1

/-- **ignored_is_passthrough_to_the_end** — the stream equality through the closing events.  For EVERY admissible history
    (`AdmRun`: the environment delivers data and EOF only from a connection that is still readable and a connect result
    only while one is awaited; for UDP the association does not end before the relay is active) that ends with the relay
    finished (`done`): every byte received from either side — before the verdict, while connecting, after the other side's
    half-close — was delivered to the other side, in order, exactly once, and both connections are unreadable, so nothing
    can arrive that would be swallowed.  Together with `ignored_is_passthrough` this covers every phase a passed-through
    connection can end in (undecided/connecting: queued; relay/done: delivered; failed/aborted: no server to relay to). -/
theorem ignored_is_passthrough_to_the_end {Pat : Type} (E : Env Pat) (c : NCfg Pat) (connected : Bool) (evs : List Ev)
    (hadm : AdmRun E c (Sess.init c.tcp connected) evs) :
    let s := run E c (Sess.init c.tcp connected) evs
    (s.phase = .done → (∀ b, sentTo b s.out = recvFrom b evs) ∧ s.client.canRead = false ∧ s.server.canRead = false) ∧
    ((s.phase = .relay ∨ s.phase = .done) → ∀ b, sentTo b s.out = recvFrom b evs) := by
  obtain ⟨hI, h2⟩ := run_inv2 E c (Sess.init c.tcp connected) [] evs (init_inv c.tcp connected)
    (init_inv2 c.tcp connected) hadm
  simp only [List.nil_append] at hI h2
  have hdone : (run E c (Sess.init c.tcp connected) evs).phase = .done →
      (∀ b, sentTo b (run E c (Sess.init c.tcp connected) evs).out = recvFrom b evs) ∧
      (run E c (Sess.init c.tcp connected) evs).client.canRead = false ∧
      (run E c (Sess.init c.tcp connected) evs).server.canRead = false := by
    intro hp
    unfold Inv2 at h2; rw [hp] at h2
    exact ⟨h2.2.2, h2.1, h2.2.1⟩
  refine ⟨hdone, ?_⟩
  intro hp
  rcases hp with hp | hp
  · unfold MitmVerif.C19.Inv at hI; rw [hp] at hI
    exact hI.2
  · exact (hdone hp).1

/-- **relay_sends_only_what_was_received** — for EVERY event history, with NO assumption on the environment (admissible or
    not, any phase the connection ends in: undecided, aborted, intercepted, connecting, relaying, finished, failed): the
    bytes the model has sent to either peer are a prefix of the bytes received from the other — nothing is invented,
    altered, reordered or duplicated.  (`ignored_is_passthrough` / `_to_the_end` add that the prefix is everything.) -/
theorem relay_sends_only_what_was_received {Pat : Type} (E : Env Pat) (c : NCfg Pat) (connected : Bool) (evs : List Ev) :
    ∀ b, ∃ t, sentTo b (run E c (Sess.init c.tcp connected) evs).out ++ t = recvFrom b evs := by
  have h := (run_inv E c (Sess.init c.tcp connected) [] evs (init_inv c.tcp connected)).sentPrefix
  simp only [List.nil_append] at h
  exact h

/-- **half_close_propagation** — TCPLayer.relay_messages on EOF: while the other side can still be read the EOF is passed on
    as a half-close of the other side (once: only if that side is still writable) and the relay goes on, so the other
    direction keeps flowing; when neither side can be read any more both connections that are not yet closed are closed
    and the relay is finished. -/
theorem half_close_propagation {Pat : Type} (E : Env Pat) (c : NCfg Pat) (s : Sess)
    (hp : s.phase = .relay) (ht : s.tcp = true) (hf : s.flow = false) :
    (s.server.canRead = true →
      (step E c s .closeC).phase = .relay ∧
      (step E c s .closeC).out = s.out ++ (if s.server.canWrite then [Out.close true true] else []) ∧
      (step E c s .closeC).server = ⟨true, false⟩) ∧
    (s.client.canRead = true →
      (step E c s .closeS).phase = .relay ∧
      (step E c s .closeS).out = s.out ++ (if s.client.canWrite then [Out.close false true] else []) ∧
      (step E c s .closeS).client = ⟨true, false⟩) ∧
    (s.server.canRead = false →
      (step E c s .closeC).phase = .done ∧
      (step E c s .closeC).out = s.out ++ (if s.server.closed then [] else [Out.close true false])
          ++ (if s.client.canWrite then [Out.close false false] else [])) := by
  refine ⟨?_, ?_, ?_⟩
  · intro hs
    simp [step, noteEv, hp, ht, relayEv, hs, Sess.emit, applyClose]
  · intro hc
    simp [step, noteEv, hp, ht, relayEv, hc, Sess.emit, applyClose]
  · intro hs
    simp [step, noteEv, hp, ht, hf, relayEv, hs, Sess.emit, Conn.closed]
    cases s.client.canWrite <;> simp

/-- **not_excluded_is_intercepted** — a verdict "not excluded" never yields a passthrough layer: the instantiated stack is
    non-empty and every layer in it makes the connection visible to addons (TLS/QUIC/HTTP/DNS layers, or a TCP/UDP layer
    created with a flow). -/
theorem not_excluded_is_intercepted {Pat : Type} (E : Env Pat) (c : NCfg Pat) (dc ds : Bytes)
    (h : ignoreConnection E c.toCfg dc ds = .ok false) :
    ∃ st, nextLayer E c dc ds = .ok st ∧ st ≠ [] ∧ ∀ l ∈ st, l.intercepts = true :=
  ⟨intercept E c dc ds, by simp [nextLayer, h], intercept_visible E c dc ds⟩

/-- and `nextLayer` builds an ignore-layer only if the verdict was "ignore" -/
theorem passthrough_only_if_excluded {Pat : Type} (E : Env Pat) (c : NCfg Pat) (dc ds : Bytes) (st : List LK)
    (h : nextLayer E c dc ds = .ok st) (hig : LK.tcp true ∈ st ∨ LK.udp true ∈ st) :
    ignoreConnection E c.toCfg dc ds = .ok true := by
  cases hv : ignoreConnection E c.toCfg dc ds with
  | needMore => simp [nextLayer, hv] at h
  | ok b =>
    cases b with
    | true => rfl
    | false =>
      obtain ⟨st', h1, _, h3⟩ := not_excluded_is_intercepted E c dc ds hv
      rw [h] at h1; cases h1
      rcases hig with hig | hig
      · have := h3 _ hig; simp [LK.intercepts] at this
      · have := h3 _ hig; simp [LK.intercepts] at this

/-- **session_decides_where_next_layer_answers** — the connection model, fed the first flight segment by segment, stays
    undecided exactly as long as `_next_layer` says NeedsMoreData on the accumulated bytes and then instantiates exactly the
    stack `_next_layer` returns at that point (`askSegs` is therefore what the NextLayer really does). -/
theorem session_decides_where_next_layer_answers {Pat : Type} (E : Env Pat) (c : NCfg Pat) (connected : Bool)
    (segs : List Bytes) :
    match askSegs (fun d => nextLayer E c d []) [] segs with
    | .needMore => (run E c (Sess.init c.tcp connected) (segs.map Ev.dataC)).phase = .undecided
    | .ok st => (run E c (Sess.init c.tcp connected) (segs.map Ev.dataC)).stack = st ∧
        ((run E c (Sess.init c.tcp connected) (segs.map Ev.dataC)).phase = .relay ∨
         (run E c (Sess.init c.tcp connected) (segs.map Ev.dataC)).phase = .connecting ∨
         (run E c (Sess.init c.tcp connected) (segs.map Ev.dataC)).phase = .intercepted) := by
  have := session_asks E c (Sess.init c.tcp connected) segs rfl rfl ⟨nofun, nofun⟩
  simp only [Sess.init] at this ⊢
  cases h : askSegs (fun d => nextLayer E c d []) [] segs with
  | needMore => rw [h] at this; exact this.1
  | ok st => rw [h] at this; exact this

/-- what both flight theorems start from: under their guards the connection has instantiated the stack `_next_layer`
    builds for the verdict `b` of the whole flight -/
private theorem flight_stack {Pat : Type} (E : Env Pat) (c : NCfg Pat) (connected : Bool)
    (segs : List Bytes) (p : Bytes) (htcp : c.tcp = true)
    (hd : decidingPrefix (fun d => ignoreConnection E c.toCfg d []) [] segs = some p)
    (h3 : 3 ≤ p.length) (hguard : reqLinePending p = false) (b : Bool)
    (hv : ignoreConnection E c.toCfg segs.flatten [] = .ok b) :
    ∃ q, (run E c (Sess.init c.tcp connected) (segs.map Ev.dataC)).stack
        = (if b then [relayLayer c.tcp (!c.showIgnored)] else intercept E c q []) ∧
      Decided (run E c (Sess.init c.tcp connected) (segs.map Ev.dataC)) := by
  have hask : askSegs (fun d => ignoreConnection E c.toCfg d []) [] segs = .ok b := by
    rw [decision_seg_independent_partial E c.toCfg [] segs p htcp hd h3 hguard]; exact hv
  obtain ⟨q, hq⟩ := askSegs_nextLayer E c [] segs b hask
  have hs := session_decides_where_next_layer_answers E c connected segs
  rw [hq] at hs
  exact ⟨q, hs⟩

/-- **ignored_flight_any_segmentation** — verdict, segmentation and relay in one statement (TCP).  If the whole first flight
    is excluded by the rules, then for EVERY segmentation of it whose deciding prefix has at least three bytes and does not
    end inside the request line (F-C19b), the connection ends up with the single pass-through layer as its stack — never a
    TLS or HTTP layer — and every byte of the flight, including the segments buffered before the verdict, has been sent to
    the server in order (server already connected) or is queued in order behind the pending connect. -/
theorem ignored_flight_any_segmentation {Pat : Type} (E : Env Pat) (c : NCfg Pat) (connected : Bool)
    (segs : List Bytes) (p : Bytes) (htcp : c.tcp = true)
    (hd : decidingPrefix (fun d => ignoreConnection E c.toCfg d []) [] segs = some p)
    (h3 : 3 ≤ p.length) (hguard : reqLinePending p = false)
    (hv : ignoreConnection E c.toCfg segs.flatten [] = .ok true) :
    let s := run E c (Sess.init c.tcp connected) (segs.map Ev.dataC)
    s.stack = [relayLayer c.tcp (!c.showIgnored)] ∧ (s.phase = .relay ∨ s.phase = .connecting) ∧
    (s.phase = .relay → sentTo true s.out = segs.flatten) ∧
    (s.phase = .connecting → sentTo true s.out = [] ∧ recvFrom true s.queue = segs.flatten) := by
  obtain ⟨_, hstack, hphase⟩ := flight_stack E c connected segs p htcp hd h3 hguard true hv
  rw [if_pos rfl] at hstack
  obtain ⟨_, h1, h2, h3'⟩ := ignored_is_passthrough E c connected (segs.map Ev.dataC)
  have hnotint : (run E c (Sess.init c.tcp connected) (segs.map Ev.dataC)).phase ≠ .intercepted := by
    intro hp
    have hI := run_inv E c (Sess.init c.tcp connected) [] (segs.map Ev.dataC) (init_inv c.tcp connected)
    unfold MitmVerif.C19.Inv at hI; rw [hp] at hI
    have := hI.1 (!c.showIgnored)
    rw [hstack] at this
    cases c.tcp <;> simp [relayLayer] at this
  refine ⟨hstack, ?_, ?_, ?_⟩
  · rcases hphase with h | h | h
    · exact Or.inl h
    · exact Or.inr h
    · exact absurd h hnotint
  · intro hp; rw [h1 hp true, recvFrom_dataC]
  · intro hp
    have := h2 (Or.inr hp) true
    exact ⟨this.1, by rw [this.2, recvFrom_dataC]⟩

/-- **not_excluded_flight_any_segmentation** — the counterpart (TCP): if the whole first flight is NOT excluded by the rules,
    then for every segmentation whose deciding prefix has three bytes and does not end inside the request line the
    connection is never handed to a pass-through layer: a stack is instantiated, it is non-empty, and every layer in it
    makes the connection visible to addons. -/
theorem not_excluded_flight_any_segmentation {Pat : Type} (E : Env Pat) (c : NCfg Pat) (connected : Bool)
    (segs : List Bytes) (p : Bytes) (htcp : c.tcp = true)
    (hd : decidingPrefix (fun d => ignoreConnection E c.toCfg d []) [] segs = some p)
    (h3 : 3 ≤ p.length) (hguard : reqLinePending p = false)
    (hv : ignoreConnection E c.toCfg segs.flatten [] = .ok false) :
    let s := run E c (Sess.init c.tcp connected) (segs.map Ev.dataC)
    s.phase ≠ .undecided ∧ s.stack ≠ [] ∧ ∀ l ∈ s.stack, l.intercepts = true := by
  obtain ⟨q, hstack, hphase⟩ := flight_stack E c connected segs p htcp hd h3 hguard false hv
  rw [if_neg Bool.false_ne_true] at hstack
  refine ⟨?_, ?_, ?_⟩
  · rcases hphase with h | h | h <;> simp [h]
  · rw [hstack]; exact (intercept_visible E c q []).1
  · rw [hstack]; exact (intercept_visible E c q []).2

private theorem hrun_state {Pat : Type} (E : Env Pat) (a : Addon Pat) (pre : List (HStep Pat)) :
    (hrun E a pre).1 = optionsAfter a pre := by
  induction pre generalizing a with
  | nil => rfl
  | cons st rest ih => cases st <;> simp [hrun, hstep, optionsAfter, ih]

private theorem hrun_append {Pat : Type} (E : Env Pat) (a : Addon Pat) (pre post : List (HStep Pat)) :
    (hrun E a (pre ++ post)).2 = (hrun E a pre).2 ++ (hrun E (optionsAfter a pre) post).2 := by
  induction pre generalizing a with
  | nil => rfl
  | cons st rest ih => cases st <;> simp [hrun, hstep, optionsAfter, ih]

/-- **verdict_uses_options_in_force** — on ONE addon instance, after ANY history of option updates (ignore_hosts and/or
    allow_hosts set, changed, unset, in any order) and earlier connections (to the same or to other destinations), the
    decision for a connection is the decision under the options in force at that moment.  True by the shape of `Addon` (it
    holds the two option lists and nothing else); that the real addon carries nothing else is what the tie's history cases
    check. -/
theorem verdict_uses_options_in_force {Pat : Type} (E : Env Pat) (a : Addon Pat) (pre : List (HStep Pat))
    (c : NCfg Pat) (dc ds : Bytes) :
    (hrun E a (pre ++ [.conn c dc ds])).2 = (hrun E a pre).2 ++
      [(ignoreConnection E ((optionsAfter a pre).cfg c).toCfg dc ds, nextLayer E ((optionsAfter a pre).cfg c) dc ds)] := by
  rw [hrun_append]
  simp [hrun, hstep]

/-- hence two histories that end with the same options give the same decision for the same connection -/
theorem verdict_history_independent {Pat : Type} (E : Env Pat) (a b : Addon Pat) (h1 h2 : List (HStep Pat))
    (c : NCfg Pat) (dc ds : Bytes)
    (hi : (optionsAfter a h1).ignorePats = (optionsAfter b h2).ignorePats)
    (ha : (optionsAfter a h1).allowPats = (optionsAfter b h2).allowPats) :
    (hrun E a (h1 ++ [.conn c dc ds])).2.getLast? = (hrun E b (h2 ++ [.conn c dc ds])).2.getLast? := by
  rw [verdict_uses_options_in_force, verdict_uses_options_in_force]
  simp [Addon.cfg, hi, ha]

/-! ## ClientTLSLayer, `tls_clienthello` answering `ignore_connection` -/

private theorem tls_inv (dtls : Bool) (segs : List Bytes) (s : TlsSess) (fed : Bytes)
    (hI : s.failed = false → (s.parsed = true → s.toServer.flatten = fed) ∧
                              (s.parsed = false → s.buf = fed ∧ s.toServer = [])) :
    let t := segs.foldl (tlsStep dtls) s
    t.failed = false → (t.parsed = true → t.toServer.flatten = fed ++ segs.flatten) ∧
                       (t.parsed = false → t.buf = fed ++ segs.flatten ∧ t.toServer = []) := by
  induction segs generalizing s fed with
  | nil => simpa using hI
  | cons d ds ih =>
    simp only [List.foldl_cons, List.flatten_cons]
    rw [← List.append_assoc]
    apply ih
    unfold tlsStep
    cases hf : s.failed with
    | true => simp [hf]
    | false =>
      obtain ⟨h1, h2⟩ := hI hf
      cases hp : s.parsed with
      | true => simp [h1 hp]
      | false =>
        obtain ⟨hb, ht⟩ := h2 hp
        simp only [Bool.false_eq_true, if_false]
        cases C13.parse dtls (s.buf ++ d) <;> simp [hb, ht]

/-- **tls_ignore_passthrough** — ClientTLSLayer whose `tls_clienthello` hook sets `ignore_connection`: for EVERY
    segmentation, once the ClientHello is complete everything received so far — the buffered handshake bytes first — has
    been handed to the relay in order; until then everything is still in `recv_buffer`. -/
theorem tls_ignore_passthrough (dtls : Bool) (segs : List Bytes) :
    let t := segs.foldl (tlsStep dtls) TlsSess.init
    t.failed = false → (t.parsed = true → t.toServer.flatten = segs.flatten) ∧
                       (t.parsed = false → t.buf = segs.flatten ∧ t.toServer = []) := by
  have := tls_inv dtls segs TlsSess.init [] (by simp [TlsSess.init])
  simpa using this

private def cxN (showI : Bool) : NCfg Bytes :=
  { cxCfg with top := .other, showIgnored := showI, rawtcp := true, tcpHosts := [], udpHosts := [],
               alpnSet := false, alpnHttp := false, quicV1 := false }
/-- `GET / HTTP/1.1 CRLF Host:` -/
private def exSeg1 : Bytes := [0x47, 0x45, 0x54, 0x20, 0x2f, 0x20, 0x48, 0x54, 0x54, 0x50, 0x2f, 0x31, 0x2e, 0x31, 0x0d, 0x0a, 0x48, 0x6f, 0x73, 0x74, 0x3a]
/-- `a CRLF CRLF` -/
private def exSeg2 : Bytes := [0x61, 0x0d, 0x0a, 0x0d, 0x0a]

/-- a guarded segmentation: first segment needs more data, the second decides "ignore" = verdict of the whole flight -/
example : decidingPrefix (fun d => ignoreConnection cxEnv cxCfg d []) [] [exSeg1, exSeg2] = some (exSeg1 ++ exSeg2)
    ∧ reqLinePending (exSeg1 ++ exSeg2) = false
    ∧ askSegs (fun d => ignoreConnection cxEnv cxCfg d []) [] [exSeg1, exSeg2] = .ok true := by decide
/-- the verdict is not constant: the same flight to the same address without the Host header is not excluded -/
example : ignoreConnection cxEnv cxCfg exSeg1 [] = .needMore ∧ ignoreConnection cxEnv cxCfg cxSeg1 [] = .ok false := by decide
/-- a history that reaches the relay: two buffered segments, connect after the decision, data both ways, half-close -/
example :
    let s := run cxEnv (cxN false) (Sess.init true false)
      [.dataC exSeg1, .dataC exSeg2, .connOk, .dataS [0x68, 0x69], .closeC, .dataS [0x21]]
    s.phase = .relay ∧ s.stack = [LK.tcp true] ∧ sentTo true s.out = exSeg1 ++ exSeg2
      ∧ sentTo false s.out = [0x68, 0x69, 0x21] ∧ hooks s.out = [] := by decide
/-- with show_ignored_hosts the same history runs the tcp hooks -/
example :
    hooks (run cxEnv (cxN true) (Sess.init true true) [.dataC exSeg1, .dataC exSeg2]).out = [0, 1, 1] := by decide
/-- not excluded: the same flight with another Host value is handed to the HTTP layer -/
example : nextLayer cxEnv (cxN false) (exSeg1 ++ [0x62, 0x0d, 0x0a, 0x0d, 0x0a]) [] = .ok [LK.http .transparent] := by decide
/-- the TLS branch keeps waiting on an incomplete record and fails on garbage -/
example : (([[0x16, 0x03], [0x01]] : List Bytes).foldl (tlsStep false) TlsSess.init).buf = [0x16, 0x03, 0x01]
    ∧ (([[0x47, 0x45, 0x54, 0x20, 0x2f]] : List Bytes).foldl (tlsStep false) TlsSess.init).failed = true := by decide

/-- an admissible history through both EOFs: data before the verdict, connect afterwards, client EOF, server data after
    the half-close, server EOF — everything delivered, relay finished -/
example :
    let evs : List Ev := [.dataC exSeg1, .dataC exSeg2, .connOk, .dataS [0x68, 0x69], .closeC, .dataS [0x21], .closeS]
    AdmRun cxEnv (cxN false) (Sess.init true false) evs ∧
    (run cxEnv (cxN false) (Sess.init true false) evs).phase = .done ∧
    sentTo false (run cxEnv (cxN false) (Sess.init true false) evs).out = [0x68, 0x69, 0x21] := by
  refine ⟨?_, by decide, by decide⟩
  simp only [AdmRun, Adm]
  decide

private def auAllow : Cfg Bytes := { cxCfg with ignorePats := [], allowPats := [[0x62]] }
/-- `allow_semantics`: candidates exist, allow_hosts = `b`, no candidate matches → passed through; with Host `b` it is not -/
example : candidates cxEnv auAllow (exSeg1 ++ exSeg2) [] = .ok [[0x31, 0x3a, 0x38, 0x30], [0x61, 0x3a, 0x38, 0x30]]
    ∧ ignoreConnection cxEnv auAllow (exSeg1 ++ exSeg2) [] = .ok true
    ∧ ignoreConnection cxEnv auAllow (exSeg1 ++ [0x62, 0x0d, 0x0a, 0x0d, 0x0a]) [] = .ok false := by decide
example := allow_semantics cxEnv auAllow (exSeg1 ++ exSeg2) [] [[0x31, 0x3a, 0x38, 0x30], [0x61, 0x3a, 0x38, 0x30]] (by decide)
  (by decide) (by decide) rfl rfl
/-- `candidates_cover_destinations` / `ignore_semantics` / `verdict_rule` on the same flight: address and Host header are candidates -/
example := candidates_cover_destinations cxEnv cxCfg (exSeg1 ++ exSeg2) [] _ [0x31] 80 rfl
  (by decide : candidates cxEnv cxCfg (exSeg1 ++ exSeg2) [] = .ok [[0x31, 0x3a, 0x38, 0x30], [0x61, 0x3a, 0x38, 0x30]])
example : hostHeader cxCfg.tcp (exSeg1 ++ exSeg2) [] = .ok (some [0x61]) := by decide
/-- `decision_seg_independent_total`: its guard holds for the two-segment flight -/
example := decision_seg_independent_total cxEnv cxCfg [] [exSeg1, exSeg2] rfl (by simp)
  (by intro p hp
      have : decidingPrefix (fun d => ignoreConnection cxEnv cxCfg d []) [] [exSeg1, exSeg2] = some (exSeg1 ++ exSeg2) := by decide
      rw [this] at hp; cases hp; decide)
/-- `ignored_flight_any_segmentation` and `not_excluded_flight_any_segmentation` instantiated (all hypotheses by evaluation) -/
example := ignored_flight_any_segmentation cxEnv (cxN false) false [exSeg1, exSeg2] (exSeg1 ++ exSeg2) rfl
  (by decide) (by decide) (by decide) (by decide)
private def exSeg2b : Bytes := [0x62, 0x0d, 0x0a, 0x0d, 0x0a]
example := not_excluded_flight_any_segmentation cxEnv (cxN false) true [exSeg1, exSeg2b] (exSeg1 ++ exSeg2b) rfl
  (by decide) (by decide) (by decide) (by decide)
/-- `passthrough_only_if_excluded` / `not_excluded_is_intercepted`: both verdicts occur with a stack -/
example : nextLayer cxEnv (cxN false) (exSeg1 ++ exSeg2) [] = .ok [LK.tcp true]
    ∧ ignoreConnection cxEnv (cxN false).toCfg (exSeg1 ++ exSeg2b) [] = .ok false := by decide
/-- `dtls_decision_prefix_stable` / `dtls_decision_seg_independent`: a DTLS-looking record (here recognisably invalid: size 0)
    gets a verdict on UDP, spread over two datagrams, and a later datagram does not change it -/
private def auUdp : Cfg Bytes := { udpCfg with ignorePats := [[0x31]] }
private def auRec : Bytes := [0x16, 0xfe, 0xfd, 0, 0, 0, 0, 0, 0, 0, 0, 0, 0]
example : C13.startsLike true auRec = true ∧ ignoreConnection cxEnv auUdp auRec [] = .ok true
    ∧ ignoreConnection cxEnv auUdp (auRec.take 5) [] = .needMore
    ∧ decidingPrefix (fun d => ignoreConnection cxEnv auUdp d []) [] [auRec.take 5, auRec.drop 5, [1, 2]] = some auRec := by decide
example := dtls_decision_seg_independent cxEnv auUdp [] [auRec.take 5, auRec.drop 5, [1, 2]] auRec rfl (by decide) (by decide)
/-- `verdict_history_independent`: two different option histories ending in the same options -/
example := verdict_history_independent cxEnv (⟨[], []⟩ : Addon Bytes) ⟨[[0x7a]], []⟩
  [.setOpts (some [[0x61]]) none] [.setOpts none (some [[0x62]]), .setOpts (some [[0x61]]) (some [])]
  (cxN false) (exSeg1 ++ exSeg2) [] (by decide) (by decide)

end MitmVerif.Props.C19
