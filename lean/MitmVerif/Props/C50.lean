/-
  C50 — property theorems.
  * rendering: `render_text_has_no_Cc` (whatever the chosen view returns or raises, the text of prettify_message has no
    Unicode-Cc character except TAB / LF / CR; corollary of C49's table theorem), `prettify_returns_escaped` (static scan)
  * symbols: `sym_roundtrip_*` (from_str (to_str n) = n for types, classes, op codes, response codes, all n), `*_text_clean`,
    and with them C49's Dumper theorem without the hypotheses about symbol texts (`dumper_output_clean_sym`)
  * the round trip over any codec that satisfies `CodecLaws` / `CodecLawsT`: `record_data_roundtrip_partial` (from_json's data =
    the original rdata when the rdata is representable), `dns_json_roundtrip_partial`, `dns_view_roundtrip_partial`
    (reencode (prettify m) = m with reserved := 0, under the guards).  The one mechanism: what `_data_json` writes for
    data its decoder rejects is a marker `0x… (invalid T data)`; a strict setter (A, AAAA, HTTPS) rejects the marker, so
    `from_json` falls back to the hex digits, while a loose one (TXT, names) swallows it — F-C50b
  * counterexamples for three of the recorded defects (F-C50a reserved bits, F-C50b undecodable NS/CNAME/PTR/TXT rdata,
    F-C50c U+0085 is altered by the final escaping); the fourth, F-C50d (ruamel's load ∘ dump alters some long strings),
    is what the guard `hload` excludes and has no theorem
  * the codec laws for the transcribed codecs, one type-specific branch after the other, each with its instance of the view
    round trip: HTTPS rdata (`https_reencode_exact`, values by C51's round trip), TXT (Lemmas/C35Str) and NS/CNAME/PTR
    (Lemmas/C25, C25Name) (`transcribed_codec_laws`), A (`_A`, Lemmas/C22Render), AAAA (`_6`, Lemmas/C50V6 over C21's and
    C22's read-back), HTTPS plugged in (`https_codec_laws`, `all_transcribed_codec_laws`: no codec law is left as a
    hypothesis; YAML, the idna codec for ACE labels and the name codec inside HTTPS rdata stay parameters)
-/
import MitmVerif.Model.C50
import MitmVerif.Model.C50_Https
import MitmVerif.Model.C50_Codecs
import MitmVerif.Lemmas.C35Str
import MitmVerif.Lemmas.C25
import MitmVerif.Lemmas.C22Render
import MitmVerif.Lemmas.C50
import MitmVerif.Lemmas.C50V6
import MitmVerif.Model.C50_All
import MitmVerif.Props.C49
namespace MitmVerif.Props.C50
open MitmVerif MitmVerif.C49 MitmVerif.C50 MitmVerif.Gen.C50

/-! ### rendering -/

private theorem esc_clean (s : List Nat) : Clean (escapeControl true s) := by
  intro c hc
  cases hcc : isCc c with
  | false => simp [allowed, hcc]
  | true =>
    have := MitmVerif.Props.C49.escaped_has_no_Cc_except_tab_lf_cr s c hc
      ((MitmVerif.Props.C49.isCc_iff_mem_ccList c).1 hcc)
    rcases this with rfl | rfl | rfl <;> decide

/-- **C50 (safe rendering).** For any body, metadata and view — whatever text the chosen view returns, or whatever
    it raises, chosen automatically or explicitly — the text returned by `prettify_message` contains no control
    character other than TAB, LF and CR. -/
theorem render_text_has_no_Cc (i : PmIn) : Clean (prettifyText i) := by
  unfold prettifyText
  split
  · decide +kernel
  · split
    · exact esc_clean _
    · split <;> exact esc_clean _

/-- every `return` of `prettify_message` returns a literal or a text that was just escaped (static scan) -/
theorem prettify_returns_escaped : ∀ r ∈ prettifyReturns, r.2 = "lit" ∨ r.2 = "esc" := by decide +kernel

/-- … and the literal returns are clean themselves -/
theorem prettify_literals_clean : ∀ r ∈ prettifyReturns, r.2 = "lit" → Clean (cpsOf r.1) := by decide +kernel

/-! ### symbol names -/

theorem sym_roundtrip_types (n : Nat) : fromStr typeNames "TYPE" (toStr typeNames "TYPE" n) = some n :=
  Lemmas.C50.sym_roundtrip _ _ (by decide +kernel) (by decide +kernel) n
theorem sym_roundtrip_classes (n : Nat) : fromStr classNames "CLASS" (toStr classNames "CLASS" n) = some n :=
  Lemmas.C50.sym_roundtrip _ _ (by decide +kernel) (by decide +kernel) n
theorem sym_roundtrip_opcodes (n : Nat) : fromStr opNames "OPCODE" (toStr opNames "OPCODE" n) = some n :=
  Lemmas.C50.sym_roundtrip _ _ (by decide +kernel) (by decide +kernel) n
theorem sym_roundtrip_rcodes (n : Nat) : fromStr rcodeNames "RCODE" (toStr rcodeNames "RCODE" n) = some n :=
  Lemmas.C50.sym_roundtrip _ _ (by decide +kernel) (by decide +kernel) n

/-! ### the symbol texts are clean (they are three of the `internal` pieces of the Dumper model, C49 `dumper_output_clean`'s `hint`) -/

/-- `dns.types.to_str`, `dns.op_codes.to_str`, `response_codes.to_str`, `classes.to_str` never yield a control character,
    whatever number the wire carries: these `internal` texts of the Dumper model need no hypothesis -/
theorem type_text_clean (n : Nat) : Clean ((toStr typeNames "TYPE" n).map Char.toNat) :=
  Lemmas.C50.toStr_clean _ _ (by decide +kernel) (by decide +kernel) n
theorem opcode_text_clean (n : Nat) : Clean ((toStr opNames "OPCODE" n).map Char.toNat) :=
  Lemmas.C50.toStr_clean _ _ (by decide +kernel) (by decide +kernel) n
theorem rcode_text_clean (n : Nat) : Clean ((toStr rcodeNames "RCODE" n).map Char.toNat) :=
  Lemmas.C50.toStr_clean _ _ (by decide +kernel) (by decide +kernel) n
theorem class_text_clean (n : Nat) : Clean ((toStr classNames "CLASS" n).map Char.toNat) :=
  Lemmas.C50.toStr_clean _ _ (by decide +kernel) (by decide +kernel) n

/-! ### C49's Dumper theorem with the symbol texts discharged -/

def symOrigins : List String :=
  ["dns.op_codes.to_str(f.request.op_code)", "dns.types.to_str(f.request.questions[0].type)",
   "response_codes.to_str(f.response.response_code)"]

/-- **C49 `dumper_output_clean` with fewer hypotheses.** The three `internal` pieces that are symbol names
    (`dns.op_codes.to_str`, `dns.types.to_str`, `response_codes.to_str` of whatever number the wire carries) need no
    cleanliness assumption: they are the transcribed `to_str`, proved clean for every number.  Only the remaining internal
    texts (sizes, ints, enum names) are still assumed clean. -/
theorem dumper_output_clean_sym (env : Env) (sentinel : Nat) (hs : isCc sentinel = false) (nOp nTy nRc : Nat)
    (hop : env.internal "dns.op_codes.to_str(f.request.op_code)" = (toStr opNames "OPCODE" nOp).map Char.toNat)
    (hty : env.internal "dns.types.to_str(f.request.questions[0].type)" = (toStr typeNames "TYPE" nTy).map Char.toNat)
    (hrc : env.internal "response_codes.to_str(f.response.response_code)" = (toStr rcodeNames "RCODE" nRc).map Char.toNat)
    (hint : ∀ o, o ∉ symOrigins → Clean (env.internal o)) :
    ∀ l ∈ MitmVerif.Gen.C49.echoLines, ∀ out, MayEcho env sentinel l.2 out → Clean out := by
  apply MitmVerif.Props.C49.dumper_output_clean env sentinel hs
  intro o
  by_cases h : o ∈ symOrigins
  · simp only [symOrigins, List.mem_cons, List.not_mem_nil, or_false] at h
    rcases h with rfl | rfl | rfl
    · rw [hop]; exact opcode_text_clean nOp
    · rw [hty]; exact type_text_clean nTy
    · rw [hrc]; exact rcode_text_clean nRc
  · exact hint o h

/-! ### record data -/

/-- the partial-inverse law of the type-specific codecs and the strictness of the A / AAAA / HTTPS parsers -/
structure CodecLaws (C : Codec) : Prop where
  dec_enc : ∀ t b j, C.dec t b = some j → C.enc t j = some b
  strict_rejects : ∀ t tn b, isStrict t = true → C.enc t (.str (invalidStr tn b)) = none

/-- the codec laws exactly as `ResourceRecord.from_json` needs them: the marker is only ever built with the record
    type's own name (`CodecLaws.strict_rejects` asks it for every name text) -/
structure CodecLawsT (C : Codec) : Prop where
  dec_enc : ∀ t b j, C.dec t b = some j → C.enc t j = some b
  strict_rejects : ∀ t b, isStrict t = true → C.enc t (.str (invalidStr (tyNameCps t) b)) = none

theorem CodecLaws.toT {C : Codec} (L : CodecLaws C) : CodecLawsT C :=
  ⟨L.dec_enc, fun t b h => L.strict_rejects t (tyNameCps t) b h⟩

theorem record_data_roundtrip_partial_T (C : Codec) (L : CodecLawsT C) (t : Nat) (data : Bytes)
    (h : isDecoded t = true → ((C.dec t data).isSome = true ∨ isStrict t = true)) :
    let j := dataJson (isDecoded t) (tyNameCps t) data (C.dec t data)
    dataFromJson (isDecoded t) (C.enc t j) j = some data := by
  intro j
  cases hd : isDecoded t with
  | false => simp [j, dataJson, dataFromJson, hd, Lemmas.C50.hexFallback_hexStr]
  | true =>
    cases hdec : C.dec t data with
    | some v => simp [j, dataJson, dataFromJson, hd, hdec, L.dec_enc t data v hdec]
    | none =>
      have hs : isStrict t = true := by simpa [hdec] using h hd
      simp [j, dataJson, dataFromJson, hd, hdec, L.strict_rejects t data hs, Lemmas.C50.hexFallback_invalidStr]

/-- **C50 (record data).** `from_json(to_json(record)).data = record.data` whenever the record's type has no
    type-specific branch, or its decoder accepts the data, or its parser is strict (A, AAAA, HTTPS). -/
theorem record_data_roundtrip_partial (C : Codec) (L : CodecLaws C) (t : Nat) (data : Bytes)
    (h : isDecoded t = true → ((C.dec t data).isSome = true ∨ isStrict t = true)) :
    let j := dataJson (isDecoded t) (tyNameCps t) data (C.dec t data)
    dataFromJson (isDecoded t) (C.enc t j) j = some data :=
  record_data_roundtrip_partial_T C L.toT t data h

/-- **F-C50b (what the code does instead).** For NS / CNAME / PTR / TXT data the decoder rejects, `_data_json` emits the
    marker string and `from_json` feeds that marker to the type-specific setter: whatever that setter makes of the
    marker text becomes the record data. -/
theorem undecodable_loose_data_reencoded_from_marker (C : Codec) (t : Nat) (data b' : Bytes)
    (hd : isDecoded t = true) (hdec : C.dec t data = none)
    (henc : C.enc t (.str (invalidStr (tyNameCps t) data)) = some b') :
    let j := dataJson (isDecoded t) (tyNameCps t) data (C.dec t data)
    dataFromJson (isDecoded t) (C.enc t j) j = some b' := by
  intro j
  simp [j, dataJson, dataFromJson, hd, hdec, henc]

/-! ### whole messages -/

private theorem q_roundtrip (q : Question) : qFromJson (qToJson q) = some q := by
  simp [qFromJson, qToJson, sym_roundtrip_types, sym_roundtrip_classes]

private theorem rr_roundtrip (C : Codec) (L : CodecLawsT C) (r : RR) (h : Representable C r) :
    rrFromJson C (rrToJson C r) = some r := by
  have hd := record_data_roundtrip_partial_T C L r.type r.data h
  simp only at hd
  simp [rrFromJson, rrToJson, sym_roundtrip_types, sym_roundtrip_classes, hd]

private theorem json_roundtrip (C : Codec) (m : Msg)
    (hrr : ∀ r, (r ∈ m.an ∨ r ∈ m.ns ∨ r ∈ m.ar) → rrFromJson C (rrToJson C r) = some r) :
    fromJson C (toJson C m) = some { m with z := 0 } := by
  have hq := Lemmas.C50.mapOpt_map qToJson qFromJson m.qs (fun q _ => q_roundtrip q)
  have han := Lemmas.C50.mapOpt_map (rrToJson C) (rrFromJson C) m.an (fun r hr => hrr r (Or.inl hr))
  have hns := Lemmas.C50.mapOpt_map (rrToJson C) (rrFromJson C) m.ns (fun r hr => hrr r (Or.inr (Or.inl hr)))
  have har := Lemmas.C50.mapOpt_map (rrToJson C) (rrFromJson C) m.ar (fun r hr => hrr r (Or.inr (Or.inr hr)))
  simp [fromJson, toJson, sym_roundtrip_opcodes, sym_roundtrip_rcodes, hq, han, hns, har]

theorem dns_json_roundtrip_partial_T (C : Codec) (L : CodecLawsT C) (m : Msg)
    (hrep : ∀ r, (r ∈ m.an ∨ r ∈ m.ns ∨ r ∈ m.ar) → Representable C r) :
    fromJson C (toJson C m) = some { m with z := 0 } :=
  json_roundtrip C m fun r hr => rr_roundtrip C L r (hrep r hr)

/-- **C50 (JSON mapping).** `from_json(to_json(m))` is `m` with the reserved bits cleared, if every record is
    representable. -/
theorem dns_json_roundtrip_partial (C : Codec) (L : CodecLaws C) (m : Msg)
    (hrep : ∀ r, (r ∈ m.an ∨ r ∈ m.ns ∨ r ∈ m.ar) → Representable C r) :
    fromJson C (toJson C m) = some { m with z := 0 } :=
  dns_json_roundtrip_partial_T C L.toT m hrep

/-- the final escaping of `prettify_message` leaves a clean text unchanged -/
theorem escape_identity_on_clean (s : List Nat) (h : Clean s) : escapeControl true s = s := by
  rw [MitmVerif.Props.C49.escapeControl_spec]
  conv => rhs; rw [← List.map_id s]
  refine List.map_congr_left fun c hc => ?_
  have := h c hc
  simp only [allowed, Bool.or_eq_true, Bool.not_eq_true', beq_iff_eq] at this
  split
  · rename_i hcc; rcases this with ((h1 | h1) | h1) | h1 <;> simp_all
  · rfl

private theorem dns_view_roundtrip_T (Y : Yaml) (C : Codec) (L : CodecLawsT C) (m : Msg)
    (hclean : Clean (Y.dump (toJson C m)))
    (hload : (Y.load (Y.dump (toJson C m))).bind (fromJson C) = fromJson C (toJson C m))
    (hrep : ∀ r, (r ∈ m.an ∨ r ∈ m.ns ∨ r ∈ m.ar) → Representable C r) :
    reencodeDns Y C (prettifyDns Y C m) = some { m with z := 0 } := by
  unfold reencodeDns prettifyDns prettifyText
  simp only [Bool.false_eq_true, if_false]
  rw [escape_identity_on_clean _ hclean, hload]
  exact dns_json_roundtrip_partial_T C L m hrep

/-- **C50 (DNS view round trip), partial.** Re-encoding the unedited DNS-view rendering of `m` gives `m` with the
    reserved bits cleared, provided (i) the YAML text contains no control character other than TAB/LF/CR,
    (ii) YAML load ∘ dump is the identity on this JSON value, (iii) every record is representable.
    The full property (`= some m` without guards) is false: see the three counterexamples below. -/
theorem dns_view_roundtrip_partial (Y : Yaml) (C : Codec) (L : CodecLaws C) (m : Msg)
    (hclean : Clean (Y.dump (toJson C m)))
    (hload : (Y.load (Y.dump (toJson C m))).bind (fromJson C) = fromJson C (toJson C m))
    (hrep : ∀ r, (r ∈ m.an ∨ r ∈ m.ns ∨ r ∈ m.ar) → Representable C r) :
    reencodeDns Y C (prettifyDns Y C m) = some { m with z := 0 } :=
  dns_view_roundtrip_T Y C L.toT m hclean hload hrep

/-- the same with the guard `reserved = 0`: then the result is exactly the original message -/
theorem dns_view_roundtrip_partial' (Y : Yaml) (C : Codec) (L : CodecLaws C) (m : Msg) (hz : m.z = 0)
    (hclean : Clean (Y.dump (toJson C m)))
    (hload : (Y.load (Y.dump (toJson C m))).bind (fromJson C) = fromJson C (toJson C m))
    (hrep : ∀ r, (r ∈ m.an ∨ r ∈ m.ns ∨ r ∈ m.ar) → Representable C r) :
    reencodeDns Y C (prettifyDns Y C m) = some m := by
  have := dns_view_roundtrip_partial Y C L m hclean hload hrep
  rw [this]; cases m; simp_all

/-! ### the recorded defects -/

def msgZ1 : Msg := ⟨42, true, 0, false, false, true, false, 1, 0, [⟨cpsOf "a.b", 1, 1⟩], [], [], []⟩

/-- **F-C50a.** The reserved header bits are lost: for every codec, a query with reserved = 1 comes back with 0. -/
theorem reserved_bits_lost_counterexample (C : Codec) :
    fromJson C (toJson C msgZ1) = some { msgZ1 with z := 0 } ∧ fromJson C (toJson C msgZ1) ≠ some msgZ1 := by
  have h := json_roundtrip C msgZ1 (fun r hr => by simp [msgZ1] at hr)
  refine ⟨h, ?_⟩
  rw [h]; decide

/-- **F-C50b.** With a text codec that accepts every string (TXT: `inst.text = d` never raises), undecodable TXT data
    `ff` comes back as the bytes of the marker text, not as `ff`. -/
theorem undecodable_txt_counterexample :
    ∃ C : Codec, C.dec 16 [0xff] = none ∧
      (let j := dataJson (isDecoded 16) (tyNameCps 16) [0xff] (C.dec 16 [0xff])
       dataFromJson (isDecoded 16) (C.enc 16 j) j ≠ some [0xff]) := by
  refine ⟨⟨fun _ _ => none, fun _ j => match j with | .str s => some (s.map UInt8.ofNat) | .obj _ => none⟩, rfl, ?_⟩
  decide +kernel

/-- **F-C50c.** A YAML text containing U+0085 is not clean, and the final escaping of `prettify_message` alters it,
    so `reencode` does not see what the view produced. -/
theorem nel_altered_counterexample :
    ¬ Clean [0x61, 0x85, 0x62] ∧ escapeControl true [0x61, 0x85, 0x62] = [0x61, 46, 0x62] := by
  constructor <;> decide +kernel

-- non-vacuity / sanity
example : prettifyText ⟨false, true, .raised [1, 2], [0x61, 0x1b], cpsOf "JSON"⟩ = [0x61, 46] := by decide +kernel
example : prettifyText ⟨false, false, .text [0x9b, 0x41, 10], [], []⟩ = [46, 0x41, 10] := by decide +kernel
example : toStr typeNames "TYPE" 16 = "TXT".toList ∧ toStr typeNames "TYPE" 4242 = "TYPE(4242)".toList := by decide +kernel
example : revLookup typeNames "nonsense".toList = none ∧ revLookup typeNames "TXT".toList = some 16 := by decide +kernel
example : hexFallback (.str (cpsOf "0x0aff (invalid A data)")) = some [0x0a, 0xff] := by
  simp [hexFallback, cpsOf, removePrefix, beforeSpParen, fromhex, hexVal, isWs]
example : hexFallback (.str (cpsOf "zz")) = none := by
  simp [hexFallback, cpsOf, removePrefix, beforeSpParen, fromhex, hexVal, isWs]
-- the hypotheses of the round-trip theorems are satisfiable (a codec that decodes nothing satisfies the laws)
example : ∃ C : Codec, CodecLaws C ∧ Representable C ⟨[], 99, 1, 0, [1, 2]⟩ :=
  ⟨⟨fun _ _ => none, fun _ _ => none⟩, ⟨(by intro t b j h; cases h), (by intros; rfl)⟩,
    (by intro h; simp [isDecoded, decodedTypes] at h)⟩

end MitmVerif.Props.C50

/-! ### HTTPS / SVCB records: https_records.py transcribed (Model/C50_Https.lean) -/
namespace MitmVerif.Props.C50
open MitmVerif MitmVerif.C50.Https

/-- SvcPriority: '!h' unpack followed by '!h' pack gives the two original bytes, for all 65536 values
    (the one-sided '!H' changes of seeded/c50-3 and c50-6 break exactly this lemma's Python counterpart for values
    ≥ 0x8000) -/
theorem priority_roundtrip (a b : UInt8) : packSigned (toSigned (dec16 a b)) = some [a, b] := by
  have hlt := Lemmas.C50.dec16_lt a b
  unfold packSigned toSigned
  split
  · rw [if_pos (by omega)]
    have h2 : ((dec16 a b : Int) % 65536).toNat = dec16 a b := by omega
    rw [h2, Lemmas.C50.enc16_dec16]
  · rw [if_pos (by omega)]
    have h2 : (((dec16 a b : Int) - 65536) % 65536).toNat = dec16 a b := by omega
    rw [h2, Lemmas.C50.enc16_dec16]

/-- SvcParams: whatever `_unpack_params` accepts, `_pack_params` writes back byte for byte (order and unknown keys kept) -/
theorem params_roundtrip : ∀ (f : Nat) (l : Bytes) (ps : List (Nat × Bytes)),
    parseParams f l = some ps → packParams ps = some l := by
  intro f l
  fun_induction parseParams f l with
  | case1 => rintro _ ⟨⟩; rfl
  | case6 f a b c d rest hle ih =>
    intro ps h
    obtain ⟨ps', hp, rfl⟩ := Option.map_eq_some_iff.mp h
    have hlen : (rest.take (dec16 c d)).length = dec16 c d := by simp [List.length_take]; omega
    simp [packParams, Lemmas.C50.dec16_lt, hlen, ih _ hp, Lemmas.C50.enc16_dec16, List.take_append_drop]
  | _ => intro _ h; cases h

/-- JSON keys: name for the keys of SVCParamKeys, number otherwise; `SVCParamKeys[name.upper()]` inverts it -/
theorem svc_key_roundtrip (k : Nat) : keyFromJson (keyToJson k) = some k := by
  unfold keyToJson
  split
  · rename_i s hs
    have hm := Lemmas.C50.lookup_mem _ _ _ hs
    have hinj : ∀ e ∈ Gen.C50.svcKeyNames, nameToKey Gen.C50.svcKeyNames e.2 = some e.1 := by decide +kernel
    simpa [keyFromJson] using hinj _ hm
  · rfl

/-- to_json / from_json of the parameters: values go through bytes_to_escaped_str / escaped_str_to_bytes (C51's theorem) -/
theorem https_json_roundtrip (r : Rec) : fromJson (toJson r) = some r := by
  have hp : ∀ ps : List (Nat × Bytes),
      paramsFromJson (ps.map (fun kv => (keyToJson kv.1, C51.enc false false kv.2))) = some ps := by
    intro ps
    induction ps with
    | nil => rfl
    | cons kv rest ih =>
      obtain ⟨k, v⟩ := kv
      simp only [List.map_cons, paramsFromJson, svc_key_roundtrip, MitmVerif.Props.C51.roundtrip, ih]
  simp [fromJson, toJson, hp]

/-- the law of the domain-name codec: what `unpack_from` consumed is what `pack` writes for the name it returned -/
structure NameLaw (N : NameCodec) : Prop where
  unpack_pack : ∀ b s rest, N.unpackFrom b = some (s, rest) → ∃ w, b = w ++ rest ∧ N.pack s = some w

/-- **C50 (HTTPS/SVCB rdata).** Every HTTPS rdata that `https_records.unpack` accepts is re-encoded byte for byte by
    to_json → from_json → pack: all 65536 SvcPriority values, any TargetName the name codec accepts, SvcParams in any order,
    unknown keys, empty values.  (Rdata it rejects — short data, bad name, truncated or repeated parameter — is covered by
    `record_data_roundtrip_partial`: HTTPS is a strict type and takes the hex fallback.)  So for HTTPS records the guard
    "the decoder accepts the data ⇒ the setter restores it" of `CodecLaws.dec_enc` is a theorem, with the name codec as the
    only parameter. -/
theorem https_reencode_exact (N : NameCodec) (L : NameLaw N) (data : Bytes) (r : Rec)
    (h : unpack N data = some r) : reencode N data = some data := by
  unfold reencode
  rw [h]
  simp only [https_json_roundtrip, Option.bind_some]
  unfold unpack at h
  split at h
  · split at h
    · rename_i hn
      split at h
      · rename_i hp
        split at h
        · cases h
        · cases h
          obtain ⟨w, hw, hpack⟩ := L.unpack_pack _ _ _ hn
          simp [pack, priority_roundtrip, hpack, params_roundtrip _ _ _ hp, hw]
      · cases h
    · cases h
  · cases h

/-- the decoder does reject something, and the model is not the identity on accepted data by accident: a repeated key -/
example : unpack asciiCodec [0, 1, 0, 0, 3, 0, 2, 1, 0xbb, 0, 3, 0, 2, 0x20, 0xfb] = none := by decide +kernel
example : reencode asciiCodec [0xff, 0xff, 1, 0x61, 0, 0, 3, 0, 2, 1, 0xbb, 0, 1, 0, 3, 2, 0x68, 0x32] =
    some [0xff, 0xff, 1, 0x61, 0, 0, 3, 0, 2, 1, 0xbb, 0, 1, 0, 3, 2, 0x68, 0x32] := by decide +kernel
example : (unpack asciiCodec [0x80, 0, 0]).map (·.pri) = some (-32768) := by decide +kernel

end MitmVerif.Props.C50

/-! ### the TXT and NS/CNAME/PTR codecs as transcriptions (Model/C50_Codecs.lean, over C35's UTF-8 and C25's name codec) -/
namespace MitmVerif.Props.C50
open MitmVerif MitmVerif.C49 MitmVerif.C50 MitmVerif.C50.Codecs

/-- **TXT.** strict UTF-8: whatever `data.decode("utf-8")` accepts, `text.encode("utf-8")` restores (no hypothesis) -/
theorem utf8_dec_enc (b : Bytes) (s : List Nat) (h : utf8Dec b = some s) : utf8Enc s = some b := by
  unfold utf8Dec at h
  split at h
  · cases h
  · rename_i hesc
    cases h
    simp only [utf8Enc, hesc, Bool.false_eq_true, if_false]
    exact MitmVerif.C35.StrLemmas.encode_decF b.length b (Nat.le_refl _)

/-- **NS / CNAME / PTR.** whatever `domain_names.unpack` accepts, `domain_names.pack` restores byte for byte —
    for every `Idna` (no law about Python's idna codec is needed: `_unpack_label_into` keeps only canonical spellings) -/
theorem name_dec_enc (I : C25.Idna) (b : Bytes) (n : C25.Text) (h : unpackPlain I b = some n) :
    C25.packName I n = some b := by
  unfold unpackPlain at h
  split at h
  · rename_i ls k hs
    split at h
    · rename_i hk
      obtain ⟨ps, hm, rfl⟩ := Option.map_eq_some_iff.mp h
      -- the buffer is the labels in wire form and the terminator; the text decoded from labels packs to exactly that
      have hb := (C25.scanRaw_take_eq hs).1
      rw [hk, List.take_length] at hb
      rw [hb]
      exact C26.NameRel.packName ⟨C25.scanRaw_ok hs, ps, hm, rfl⟩
    · cases h
  · cases h

/-- the codec with TXT and NS/CNAME/PTR transcribed satisfies the codec laws as soon as the remaining types (A, AAAA, HTTPS)
    do: for the four loose types — the ones behind F-C50b — "the decoder accepts ⇒ the setter restores" is a theorem -/
theorem transcribed_codec_laws (I : C25.Idna) (O : Codec) (LO : CodecLaws O) : CodecLaws (realCodec I O) where
  dec_enc := by
    intro t b j h
    simp only [realCodec] at h ⊢
    by_cases h16 : t = 16
    · rw [if_pos h16] at h ⊢
      obtain ⟨s, hs, rfl⟩ := Option.map_eq_some_iff.mp h
      exact utf8_dec_enc b s hs
    · rw [if_neg h16] at h ⊢
      by_cases hn : isNameType t = true
      · rw [if_pos hn] at h ⊢
        obtain ⟨n, hn, rfl⟩ := Option.map_eq_some_iff.mp h
        simp only [Lemmas.C50.bytesOf_textOf]
        exact name_dec_enc I b n hn
      · rw [if_neg hn] at h ⊢
        exact LO.dec_enc t b j h
  strict_rejects := by
    intro t tn b hs
    simp only [isStrict, Gen.C50.strictTypes, List.contains_cons, List.contains_nil, Bool.or_false, Bool.or_eq_true,
      beq_iff_eq] at hs
    rcases hs with rfl | rfl | rfl <;> exact LO.strict_rejects _ tn b rfl

/-- **C50 (DNS view round trip, TXT/NS/CNAME/PTR codecs transcribed).** As `dns_view_roundtrip_partial`, for the codec
    whose TXT and name parts are the transcriptions: the parameters left are YAML, Python's idna codec for ACE labels
    (no law needed) and the A / AAAA / HTTPS part `O` (HTTPS: `https_reencode_exact`). -/
theorem dns_view_roundtrip_transcribed (Y : Yaml) (I : C25.Idna) (O : Codec) (LO : CodecLaws O) (m : Msg)
    (hclean : Clean (Y.dump (toJson (realCodec I O) m)))
    (hload : (Y.load (Y.dump (toJson (realCodec I O) m))).bind (fromJson (realCodec I O)) =
      fromJson (realCodec I O) (toJson (realCodec I O) m))
    (hrep : ∀ r, (r ∈ m.an ∨ r ∈ m.ns ∨ r ∈ m.ar) → Representable (realCodec I O) r) :
    reencodeDns Y (realCodec I O) (prettifyDns Y (realCodec I O) m) = some { m with z := 0 } :=
  dns_view_roundtrip_partial Y (realCodec I O) (transcribed_codec_laws I O LO) m hclean hload hrep

-- the transcriptions reject something and accept something
example : utf8Dec [0xff] = none ∧ utf8Dec [0x68, 0xc3, 0xa9] = some [0x68, 0xe9] := by decide +kernel
example : utf8Enc [0x68, 0xd800] = none := by decide +kernel

/-! ### A records: C22's `parseV4` reads back the dotted quad `str(IPv4Address(data))` produces -/

-- Model/C50_Codecs has its own copies of `renderOctet` / `dotted` (a model file imports no lemma module); they are
-- Lemmas/C22Render's, by `rfl`
private theorem renderOctet_eq (v : Nat) : Codecs.renderOctet v = MitmVerif.Lemmas.C22.renderOctet v := rfl
private theorem dotted_eq (a b c d : Nat) : Codecs.dotted a b c d = MitmVerif.Lemmas.C22.dotted a b c d := rfl

private theorem dotted_ascii (a b c d : UInt8) : (textOf (Codecs.dotted a.toNat b.toNat c.toNat d.toNat)).all (· < 128) = true := by
  have h : ∀ x : UInt8, ((Codecs.renderOctet x.toNat).map (·.toNat)).all (· < 128) = true := by
    intro x
    simp only [List.all_map, List.all_eq_true, Function.comp_apply, decide_eq_true_eq]
    intro c hc
    have := MitmVerif.Lemmas.C22.renderOctet_digits ⟨x.toNat, x.toNat_lt⟩ c hc
    simp only [C22.isDigit, Bool.and_eq_true, decide_eq_true_eq] at this
    omega
  simp [Codecs.dotted, textOf, h]

/-- **A records.** `IPv4Address(str(IPv4Address(data))).packed = data` for every 4-byte rdata, with ipaddress's string
    parser as transcribed in C22 (no hypothesis) -/
theorem ip4_dec_enc (data : Bytes) (s : List Nat) (h : ip4Dec data = some s) : ip4Enc s = some data := by
  unfold ip4Dec at h
  match data, h with
  | [a, b, c, d], h =>
    simp only [Option.some.injEq] at h
    subst h
    have hp := MitmVerif.Lemmas.C22.parseV4_dotted a.toNat b.toNat c.toNat d.toNat
      (UInt8.toNat_lt a) (UInt8.toNat_lt b) (UInt8.toNat_lt c) (UInt8.toNat_lt d)
    have hasc := dotted_ascii a b c d
    rw [dotted_eq] at hasc
    simp only [ip4Enc, Lemmas.C50.bytesOf_textOf, dotted_eq, hp, Option.map_some, Lemmas.C50.be32_quad]
    rw [if_pos hasc]

/-- the marker string "0x… (invalid … data)" is never a dotted quad: `IPv4Address(marker)` raises, so an A record with
    a wrong data length takes the hex fallback (`CodecLaws.strict_rejects` for type A) -/
theorem ip4_rejects_marker (tn : List Nat) (b : Bytes) : ip4Enc (invalidStr tn b) = none := by
  have hshape : bytesOf (invalidStr tn b) = [0x30] ++ 0x78 :: bytesOf (hexChars b ++ invalidTail tn) := by
    simp [invalidStr, hexStr, bytesOf]
  unfold ip4Enc
  split
  · rw [hshape, MitmVerif.Lemmas.C22.parseV4_none_of_nondigit _ _ _ (by decide) (by decide) (by decide)]
    rfl
  · rfl

/-- the codec with A, TXT and NS/CNAME/PTR transcribed satisfies the codec laws as soon as AAAA and HTTPS do -/
theorem transcribed_codec_laws_A (I : C25.Idna) (O : Codec) (LO : CodecLaws O) : CodecLaws (realCodecA I O) where
  dec_enc := by
    intro t b j h
    simp only [realCodecA] at h ⊢
    by_cases h1 : t = 1
    · rw [if_pos h1] at h ⊢
      obtain ⟨s, hs, rfl⟩ := Option.map_eq_some_iff.mp h
      exact ip4_dec_enc b s hs
    · rw [if_neg h1] at h ⊢
      exact (transcribed_codec_laws I O LO).dec_enc t b j h
  strict_rejects := by
    intro t tn b hs
    simp only [realCodecA]
    split
    · exact ip4_rejects_marker tn b
    · exact (transcribed_codec_laws I O LO).strict_rejects t tn b hs

/-- **C50 (DNS view round trip, A / TXT / NS / CNAME / PTR codecs transcribed).** The parameters left are YAML, Python's
    idna codec for ACE labels (no law needed) and the AAAA / HTTPS part `O` (HTTPS: `https_reencode_exact`). -/
theorem dns_view_roundtrip_transcribed_A (Y : Yaml) (I : C25.Idna) (O : Codec) (LO : CodecLaws O) (m : Msg)
    (hclean : Clean (Y.dump (toJson (realCodecA I O) m)))
    (hload : (Y.load (Y.dump (toJson (realCodecA I O) m))).bind (fromJson (realCodecA I O)) =
      fromJson (realCodecA I O) (toJson (realCodecA I O) m))
    (hrep : ∀ r, (r ∈ m.an ∨ r ∈ m.ns ∨ r ∈ m.ar) → Representable (realCodecA I O) r) :
    reencodeDns Y (realCodecA I O) (prettifyDns Y (realCodecA I O) m) = some { m with z := 0 } :=
  dns_view_roundtrip_partial Y (realCodecA I O) (transcribed_codec_laws_A I O LO) m hclean hload hrep

example : ip4Dec [192, 0, 2, 1] = some (cpsOf "192.0.2.1") ∧ ip4Dec [1, 2, 3] = none := by decide +kernel

end MitmVerif.Props.C50

/-! ### AAAA records transcribed (Model/C50_V6.lean, read-back proved in Lemmas/C50V6.lean over C21's and C22's lemmas) -/
namespace MitmVerif.Props.C50
open MitmVerif MitmVerif.C49 MitmVerif.C50 MitmVerif.C50.Codecs MitmVerif.Gen.C50

/-- **AAAA.** `IPv6Address(str(IPv6Address(data))).packed = data` for every 16-byte rdata: the writer
    (`_compress_hextets`, leftmost longest zero run) against C22's transcription of the reader, no hypothesis -/
theorem ip6_dec_enc (data : Bytes) (s : List Nat) (h : ip6Dec data = some s) : ip6Enc s = some data :=
  MitmVerif.C50.V6.ip6_dec_enc data s h

private theorem tyName28 : tyNameCps 28 = [65, 65, 65, 65] := by decide +kernel

/-- the marker "0x… (invalid AAAA data)" is not an IPv6 literal: `IPv6Address(marker)` raises, so an AAAA record with a
    wrong data length takes the hex fallback -/
theorem ip6_rejects_marker (b : Bytes) : ip6Enc (invalidStr (tyNameCps 28) b) = none := by
  have hshape : bytesOf (invalidStr (tyNameCps 28) b) =
      0x30 :: 0x78 :: (bytesOf (hexChars b) ++ bytesOf (invalidTail [65, 65, 65, 65])) := by
    simp [invalidStr, hexStr, bytesOf, tyName28]
  have hno : ∀ sep : UInt8, (sep = 0x3a ∨ sep = 0x25) → sep ∉ bytesOf (invalidStr (tyNameCps 28) b) := by
    intro sep hs
    rw [hshape]
    simp only [List.mem_cons, List.mem_append, not_or]
    refine ⟨?_, ?_, Lemmas.C50.hexChars_no_sep b sep hs, ?_⟩ <;> rcases hs with rfl | rfl <;> decide
  unfold ip6Enc
  split
  · rw [MitmVerif.Lemmas.C22.parseV6_none_of_no_colon _ (hno _ (Or.inl rfl)) (hno _ (Or.inr rfl))]
  · rfl

/-- all five text codecs of `ResourceRecord` transcribed (TXT, NS/CNAME/PTR, A, AAAA): the laws hold as soon as the HTTPS
    part `O` satisfies them (`https_reencode_exact` proves the HTTPS law in its own types) -/
theorem transcribed_codec_laws_6 (I : C25.Idna) (O : Codec) (LO : CodecLaws O) : CodecLawsT (realCodec6 I O) where
  dec_enc := by
    intro t b j h
    simp only [realCodec6] at h ⊢
    by_cases h28 : t = 28
    · rw [if_pos h28] at h ⊢
      obtain ⟨s, hs, rfl⟩ := Option.map_eq_some_iff.mp h
      exact ip6_dec_enc b s hs
    · rw [if_neg h28] at h ⊢
      exact (transcribed_codec_laws_A I O LO).dec_enc t b j h
  strict_rejects := by
    intro t b hs
    simp only [realCodec6]
    split
    · subst t; exact ip6_rejects_marker b
    · exact (transcribed_codec_laws_A I O LO).strict_rejects t _ b hs

/-- **C50 (DNS view round trip, every text codec transcribed).** For the codec whose A, AAAA, NS, CNAME, PTR and TXT parts are
    the transcriptions of mitmproxy's / CPython's code: re-encoding the unedited DNS-view rendering of `m` gives `m` with the
    reserved bits cleared, under the guards (clean YAML text, YAML load∘dump, representable records).  Parameters left: the YAML
    library, Python's idna codec for ACE labels (no law needed), and the HTTPS part `O` (law proved in `https_reencode_exact`). -/
theorem dns_view_roundtrip_transcribed_6 (Y : Yaml) (I : C25.Idna) (O : Codec) (LO : CodecLaws O) (m : Msg)
    (hclean : Clean (Y.dump (toJson (realCodec6 I O) m)))
    (hload : (Y.load (Y.dump (toJson (realCodec6 I O) m))).bind (fromJson (realCodec6 I O)) =
      fromJson (realCodec6 I O) (toJson (realCodec6 I O) m))
    (hrep : ∀ r, (r ∈ m.an ∨ r ∈ m.ns ∨ r ∈ m.ar) → Representable (realCodec6 I O) r) :
    reencodeDns Y (realCodec6 I O) (prettifyDns Y (realCodec6 I O) m) = some { m with z := 0 } :=
  dns_view_roundtrip_T Y _ (transcribed_codec_laws_6 I O LO) m hclean hload hrep

example : ip6Dec [0x20, 1, 0xd, 0xb8, 0, 0, 0, 0, 0, 1, 0, 0, 0, 0, 0, 1] = some (cpsOf "2001:db8::1:0:0:1") := by decide +kernel
example : ip6Dec [0, 0, 0, 0, 0, 0, 0, 0, 0, 0, 0xff, 0xff, 1, 2, 3, 4] = some (cpsOf "::ffff:102:304") := by decide +kernel
example : ip6Dec [1, 2, 3] = none := by decide +kernel

/-! ### non-vacuity witnesses -/

/-- a message with a question and records of a decoded strict type with invalid data (A, 3 bytes), a decoded loose type
    with valid data (TXT "hé"), AAAA with valid data and an undecoded type (99) -/
def auditMsg : Msg :=
  ⟨7, false, 0, true, false, true, true, 0, 3, [⟨cpsOf "a.b", 1, 1⟩],
   [⟨cpsOf "a.b", 1, 1, 60, [1, 2, 3]⟩, ⟨cpsOf "a.b", 16, 1, 60, [0x68, 0xc3, 0xa9]⟩],
   [⟨cpsOf "n", 28, 1, 5, [0x20, 1, 0xd, 0xb8, 0, 0, 0, 0, 0, 1, 0, 0, 0, 0, 0, 1]⟩],
   [⟨[], 99, 1, 0, [1, 2]⟩]⟩

def auditNone : Codec := ⟨fun _ _ => none, fun _ _ => none⟩

private theorem auditNone_laws : CodecLaws auditNone := ⟨(by intro t b j h; cases h), (by intros; rfl)⟩

/-- a (degenerate but lawful for this message) YAML: dumps to a clean text and loads the value back -/
def auditYaml (C : Codec) : Yaml := ⟨fun _ => [100, 58, 32, 49], fun _ => some (toJson C auditMsg)⟩

-- all three hypotheses of `dns_view_roundtrip_transcribed_6` hold together for a message with records of four kinds,
-- and the conclusion is the non-trivial equation (every text codec a transcription, ASCII idna, no HTTPS):
example : reencodeDns (auditYaml (realCodec6 asciiIdna auditNone)) (realCodec6 asciiIdna auditNone)
    (prettifyDns (auditYaml (realCodec6 asciiIdna auditNone)) (realCodec6 asciiIdna auditNone) auditMsg) =
      some { auditMsg with z := 0 } := by
  apply dns_view_roundtrip_transcribed_6 (auditYaml _) asciiIdna auditNone auditNone_laws auditMsg
  · decide +kernel
  · rfl
  · intro r hr
    simp only [auditMsg, List.mem_cons, List.not_mem_nil, or_false] at hr
    rcases hr with (rfl | rfl) | rfl | rfl <;> (unfold Representable; decide +kernel)

-- the guard `Representable` separates: valid TXT data is representable, undecodable TXT data (F-C50b) is not
example : Representable (realCodec6 asciiIdna auditNone) ⟨cpsOf "a.b", 16, 1, 60, [0x68, 0xc3, 0xa9]⟩ ∧
    ¬ Representable (realCodec6 asciiIdna auditNone) ⟨cpsOf "a.b", 16, 1, 60, [0xff]⟩ := by
  constructor <;> (unfold Representable; decide +kernel)

-- `record_data_roundtrip_partial` on a real strict type with data the decoder rejects (A, 3 bytes): the marker path
example :
    let C := realCodec6 asciiIdna auditNone
    let j := dataJson (isDecoded 1) (tyNameCps 1) [1, 2, 3] (C.dec 1 [1, 2, 3])
    C.dec 1 [1, 2, 3] = none ∧ j = .str (cpsOf "0x010203 (invalid A data)") ∧
      dataFromJson (isDecoded 1) (C.enc 1 j) j = some [1, 2, 3] := by decide +kernel

-- `dumper_output_clean_sym`: its equations are satisfiable by an environment (unknown op code, TXT, NXDOMAIN)
example : ∃ env : Env,
    env.internal "dns.op_codes.to_str(f.request.op_code)" = (toStr opNames "OPCODE" 9).map Char.toNat ∧
    env.internal "dns.types.to_str(f.request.questions[0].type)" = (toStr typeNames "TYPE" 16).map Char.toNat ∧
    env.internal "response_codes.to_str(f.response.response_code)" = (toStr rcodeNames "RCODE" 3).map Char.toNat ∧
    (∀ o, o ∉ symOrigins → Clean (env.internal o)) :=
  ⟨⟨fun _ => [], fun _ => [], id, fun o =>
      if o = "dns.op_codes.to_str(f.request.op_code)" then (toStr opNames "OPCODE" 9).map Char.toNat
      else if o = "dns.types.to_str(f.request.questions[0].type)" then (toStr typeNames "TYPE" 16).map Char.toNat
      else if o = "response_codes.to_str(f.response.response_code)" then (toStr rcodeNames "RCODE" 3).map Char.toNat
      else [0x37]⟩,
    by simp, by simp, by simp,
    by
      intro o ho
      simp only [symOrigins, List.mem_cons, List.not_mem_nil, or_false, not_or] at ho
      simp only [ho.1, ho.2.1, ho.2.2, if_false]
      decide⟩

end MitmVerif.Props.C50

/-! ### the HTTPS transcription connected to the record codec: no codec law is left as a hypothesis -/
namespace MitmVerif.Props.C50
open MitmVerif MitmVerif.C49 MitmVerif.C50 MitmVerif.C50.Codecs MitmVerif.C50.Https

/-- the HTTPS branch satisfies the codec laws: `dec_enc` is `https_reencode_exact`, `strict_rejects` holds because a string
    is not a JSON object.  Hypotheses: the domain-name law (`NameLaw`) and that the opaque object code can be read back. -/
theorem https_codec_laws (N : NameCodec) (LN : NameLaw N) (K : ObjCode) (hK : ∀ j, K.decode (K.code j) = some j) :
    CodecLaws (httpsCodec N K) where
  dec_enc := by
    intro t b j h
    simp only [httpsCodec] at h ⊢
    by_cases h65 : t = 65
    · rw [if_pos h65] at h ⊢
      obtain ⟨r, hu, rfl⟩ := Option.map_eq_some_iff.mp h
      have hre := https_reencode_exact N LN b r hu
      simp only [reencode, hu] at hre
      simp only [hK, Option.bind_some]
      exact hre
    · simp [h65] at h
  strict_rejects := by
    intro t tn b _
    simp only [httpsCodec]
    split <;> rfl

/-- **no codec law assumed**: the codec with every type-specific branch transcribed (A, AAAA, NS, CNAME, PTR, TXT, HTTPS) -/
theorem all_transcribed_codec_laws (I : C25.Idna) (N : NameCodec) (LN : NameLaw N) (K : ObjCode)
    (hK : ∀ j, K.decode (K.code j) = some j) : CodecLawsT (realCodecAll I N K) :=
  transcribed_codec_laws_6 I (httpsCodec N K) (https_codec_laws N LN K hK)

/-- **C50 (DNS view round trip, every record codec transcribed).** `dns_view_roundtrip_transcribed_6` with the HTTPS part
    instantiated by the transcription of https_records.py.  What is left as hypothesis: the three guards (clean YAML text, YAML
    load∘dump on this JSON value, representable records), the law of the domain-name codec used inside HTTPS rdata (`NameLaw`,
    which `name_dec_enc` proves for C25's codec in its own types), and that the object code is readable. -/
theorem dns_view_roundtrip_all_transcribed (Y : Yaml) (I : C25.Idna) (N : NameCodec) (LN : NameLaw N) (K : ObjCode)
    (hK : ∀ j, K.decode (K.code j) = some j) (m : Msg)
    (hclean : Clean (Y.dump (toJson (realCodecAll I N K) m)))
    (hload : (Y.load (Y.dump (toJson (realCodecAll I N K) m))).bind (fromJson (realCodecAll I N K)) =
      fromJson (realCodecAll I N K) (toJson (realCodecAll I N K) m))
    (hrep : ∀ r, (r ∈ m.an ∨ r ∈ m.ns ∨ r ∈ m.ar) → Representable (realCodecAll I N K) r) :
    reencodeDns Y (realCodecAll I N K) (prettifyDns Y (realCodecAll I N K) m) = some { m with z := 0 } :=
  dns_view_roundtrip_T Y _ (all_transcribed_codec_laws I N LN K hK) m hclean hload hrep

end MitmVerif.Props.C50

/-! ### the hypothesis "the object code can be read back" is satisfiable: a concrete length-prefixed code -/
namespace MitmVerif.Props.C50
open MitmVerif MitmVerif.C50 MitmVerif.C50.Codecs MitmVerif.C50.Https

/-- the concrete code reads back every JSON object -/
theorem listObjCode_readable (j : J) : listObjCode.decode (listObjCode.code j) = some j := by
  obtain ⟨target, pri, ps⟩ := j
  simp only [listObjCode, codeJ, decodeJ]
  rw [Lemmas.C50.decodeList_code]
  have hps : decodeParams ps.length (ps.flatMap codeParam) = some (ps, []) := by
    simpa using Lemmas.C50.decodeParams_code ps []
  simp only [hps]
  by_cases h : 0 ≤ pri
  · simp [h, Int.natAbs_of_nonneg h]
  · have hneg : pri < 0 := by omega
    simp [h]
    omega

-- the hypotheses of `all_transcribed_codec_laws` / `dns_view_roundtrip_all_transcribed` about N and K are satisfiable
example : ∃ (N : NameCodec) (K : ObjCode), NameLaw N ∧ ∀ j, K.decode (K.code j) = some j :=
  ⟨⟨fun _ => none, fun _ => none⟩, listObjCode, ⟨by intro b s rest h; cases h⟩, listObjCode_readable⟩
-- and the HTTPS branch of the plugged-in codec does decode and restore a record (priority 0xffff, port, alpn)
example : (httpsCodec asciiCodec listObjCode).dec 65 [0xff, 0xff, 1, 0x61, 0, 0, 3, 0, 2, 1, 0xbb, 0, 1, 0, 3, 2, 0x68, 0x32] ≠ none := by
  decide +kernel

end MitmVerif.Props.C50
