/-
  C35 — `mitmproxy.http.Headers`, and the `_MultiDict` code it shares with `MultiDict` / `MultiDictView`, is a
  case-insensitive ordered multimap that keeps spelling and order.  In the order of the file:
  * byte level: `run_refines` — on every operation sequence over a store of objects the model of the methods (Model/C35)
    computes what the declarative multimap of Model/C35_Spec computes (the private `*_eq` lemmas equate one method each);
    the named laws about `set_all`, `del`, iteration, `len` and `insert` are the generic laws of Lemmas/C35Gen at
    `_kconv = lower` (`headers_is_multidict_instance`), those about `items`, `clear`, `__eq__` and `copy` are proved here;
  * HTTP/1: `parsed_headers_roundtrip` (Lemmas/C35Parse) and, as the special case of lines `name: value`, the round trip on
    valid fields;
  * str/bytes boundary: `native_roundtrip`, `nativeRange_eq_native` (Lemmas/C35Str) and the API layer (`api_*`): a call
    lowers to a byte-level operation, changes the store as that operation does, and what it returns encodes to that
    operation's result;
  * the laws for any `_kconv`, what carries over to a `MultiDictView` under the getter/setter law
    (`view_run_refines_inv`), and `request.cookies`, where that law is the cookie round trip of Lemmas/C35CookieCodec.
-/
import MitmVerif.Model.C35
import MitmVerif.Model.C35_Spec
import MitmVerif.Model.C35_Str
import MitmVerif.Lemmas.C35Str
import MitmVerif.Model.C35_Gen
import MitmVerif.Lemmas.C35Gen
import MitmVerif.Lemmas.C35Parse
import MitmVerif.Model.C35_View
import MitmVerif.Lemmas.C35CookieCodec
namespace MitmVerif.Props.C35
open MitmVerif MitmVerif.C35
open MitmVerif.C35.Spec (keq)

private theorem keq_refl (a : Bytes) : keq a a = true := by simp [keq]

private theorem keq_symm (a b : Bytes) : keq a b = keq b a := by
  simp only [keq]
  exact BEq.comm

/-- the comparison `_kconv(field[0]) == key_kconv` of the code is `keq` -/
private theorem kconv_beq (a b : Bytes) : (kconv a == kconv b) = keq a b := rfl

private theorem kconv_bne (a b : Bytes) : (kconv a != kconv b) = !keq b a := by
  rw [keq_symm]; rfl

private theorem setAllLoop_inst (c : Bytes) (fs : Fields) : ∀ vs, C35.setAllLoop c fs vs = Gen.setAllLoop asciiLower c fs vs := by
  induction fs with
  | nil => intro vs; rfl
  | cons f fs ih =>
    intro vs
    simp only [C35.setAllLoop, Gen.setAllLoop, kconv, ih]
    split <;> (try cases vs) <;> rfl

private theorem iterLoop_inst (fs : Fields) : ∀ seen, C35.iterLoop seen fs = Gen.iterLoop asciiLower seen fs := by
  induction fs with
  | nil => intro seen; rfl
  | cons f fs ih =>
    intro seen
    simp only [C35.iterLoop, Gen.iterLoop, kconv, ih]

private theorem setAll_gen (fs : Fields) (k : Bytes) (vs : List Bytes) : C35.setAll fs k vs = Gen.setAll asciiLower fs k vs := by
  simp only [C35.setAll, Gen.setAll, kconv, setAllLoop_inst]

private theorem iter_gen (fs : Fields) : C35.iter fs = Gen.iter asciiLower fs := by
  simp only [C35.iter, Gen.iter, iterLoop_inst]

/-- **`Headers` is the `_kconv = bytes.lower`, `_reduce_values = ", ".join` instance of the generic `_MultiDict`.**
    Every method of the tied byte-level model equals the generic method at that instance, so the model that is compared
    with the real `Headers` class is literally the shared `_MultiDict` code specialised. -/
theorem headers_is_multidict_instance (fs : Fields) (k v : Bytes) (vs : List Bytes) (i : Int) :
    C35.getAll fs k = Gen.getAll asciiLower fs k ∧
    C35.getItem fs k = Gen.getItem asciiLower reduceValues fs k ∧
    C35.contains fs k = Gen.contains asciiLower reduceValues fs k ∧
    C35.setAll fs k vs = Gen.setAll asciiLower fs k vs ∧
    C35.setItem fs k v = Gen.setItem asciiLower fs k v ∧
    C35.delItem fs k = Gen.delItem asciiLower reduceValues fs k ∧
    C35.insert fs i k v = Gen.insert fs i k v ∧
    C35.add fs k v = Gen.add fs k v ∧
    C35.iter fs = Gen.iter asciiLower fs ∧
    C35.len fs = Gen.len asciiLower fs :=
  ⟨rfl, rfl, rfl, setAll_gen fs k vs, setAll_gen fs k [v], rfl, rfl, rfl, iter_gen fs, rfl⟩

private theorem getAll_eq (fs : Fields) (k : Bytes) : C35.getAll fs k = Spec.getAll fs k :=
  MultiDictGen.getAll_filter asciiLower fs k

private theorem reduce_eq (vs : List Bytes) : reduceValues vs = Spec.fold vs := by
  cases vs with
  | nil => rfl
  | cons v vs => simp [reduceValues, Spec.fold, ParseLemmas.joinWith_eq, joinBy_cons_flatMap]

private theorem getItem_eq (fs : Fields) (k : Bytes) : C35.getItem fs k = Spec.lookup fs k := by
  simp only [C35.getItem, Spec.lookup, getAll_eq, reduce_eq]
  cases Spec.getAll fs k <;> simp

private theorem getAll_nil_iff (fs : Fields) (k : Bytes) : Spec.getAll fs k = [] ↔ Spec.count fs k = 0 := by
  simp [Spec.getAll, Spec.count]

private theorem contains_eq (fs : Fields) (k : Bytes) : C35.contains fs k = (Spec.count fs k != 0) := by
  simp only [C35.contains, getItem_eq, Spec.lookup]
  have := getAll_nil_iff fs k
  cases h : Spec.getAll fs k with
  | nil => simp [this.mp h]
  | cons v vs =>
    have : Spec.count fs k ≠ 0 := fun e => by simp [this.mpr e] at h
    simp [this]

private theorem setAllLoop_eq (k : Bytes) (all : List Bytes) (i : Nat) (fs : Fields) :
    setAllLoop (kconv k) fs (all.drop i) = (Spec.rewrite k all i fs, all.drop (i + Spec.count fs k)) := by
  fun_induction Spec.rewrite k all i fs with
  | case1 i => simp [setAllLoop, Spec.count]
  | case2 i e m he v hv ih =>
    have hd : all.drop i = v :: all.drop (i + 1) := by
      obtain ⟨hi, rfl⟩ := List.getElem?_eq_some_iff.mp hv
      exact List.drop_eq_getElem_cons hi
    simp [setAllLoop, kconv_beq, he, hd, ih, Spec.count, Nat.add_assoc, Nat.add_comm 1]
  | case3 i e m he hv ih =>
    have hd : all.drop i = [] := List.drop_eq_nil_of_le (List.getElem?_eq_none_iff.mp hv)
    have hd' : all.drop (i + 1) = [] := by rw [← List.drop_drop, hd]; rfl
    rw [hd'] at ih
    simp [setAllLoop, kconv_beq, he, hd, ih, Spec.count, Nat.add_assoc, Nat.add_comm 1]
  | case4 i e m he ih =>
    simp [setAllLoop, kconv_beq, he, ih, Spec.count]

private theorem setAll_eq (fs : Fields) (k : Bytes) (vs : List Bytes) : C35.setAll fs k vs = Spec.setAll fs k vs := by
  have := setAllLoop_eq k vs 0 fs
  simp only [List.drop_zero, Nat.zero_add] at this
  simp only [C35.setAll, Spec.setAll, this]

private theorem delItem_eq (fs : Fields) (k : Bytes) : C35.delItem fs k = Spec.del fs k := by
  simp only [C35.delItem, Spec.del, contains_eq, Spec.remove, kconv_bne]
  by_cases h : Spec.count fs k = 0 <;> simp [h]

private theorem pyIndex_eq (n : Nat) (i : Int) : pyIndex n i = Spec.pos n i := by
  simp only [pyIndex, Spec.pos]
  by_cases h : i < 0
  · have h0 : ¬ (0 ≤ i) := by omega
    simp only [h, h0, if_true, if_false]
    by_cases h2 : (n : Int) + i < 0 <;> simp only [h2, if_true, if_false] <;> omega
  · have h0 : 0 ≤ i := by omega
    simp only [h, h0, if_true, if_false]
    by_cases h2 : i.toNat ≤ n <;> simp only [h2, if_true, if_false] <;> omega

private theorem insertNth_eq (e : Field) (m : Fields) : ∀ p, p ≤ m.length →
    m.take p ++ e :: m.drop p = Spec.insertNth e p m := by
  induction m with
  | nil => intro p hp; cases p <;> simp [Spec.insertNth] at *
  | cons x m ih =>
    intro p hp
    cases p with
    | zero => simp [Spec.insertNth]
    | succ p => simp [Spec.insertNth, ih p (by simpa using hp)]

private theorem insert_eq (fs : Fields) (i : Int) (k v : Bytes) : C35.insert fs i k v = Spec.insertAt fs i (k, v) := by
  simp only [C35.insert, Spec.insertAt, pyIndex_eq]
  exact insertNth_eq _ _ _ (pyIndex_eq _ _ ▸ MultiDictGen.pyIndex_le _ _)

private theorem add_eq (fs : Fields) (k v : Bytes) : C35.add fs k v = fs ++ [(k, v)] := by
  have h1 : ¬ ((fs.length : Int) < 0) := by omega
  have h2 : ((fs.length : Int)).toNat ≤ fs.length := by omega
  have : pyIndex fs.length (fs.length : Int) = fs.length := by
    simp only [pyIndex, h1, h2, if_true, if_false]; omega
  simp [C35.add, C35.insert, this]

private theorem firsts_cons (e : Field) (m : Fields) :
    Spec.firsts (e :: m) = e.1 :: Spec.firsts (m.filter (fun x => !keq x.1 e.1)) := by
  rw [Spec.firsts]

private theorem iterLoop_eq (fs : Fields) : ∀ seen : List Bytes,
    iterLoop seen fs = Spec.firsts (fs.filter (fun f => !seen.contains (kconv f.1))) := by
  induction fs with
  | nil => intro seen; simp [iterLoop, Spec.firsts]
  | cons f fs ih =>
    intro seen
    by_cases h : seen.contains (kconv f.1) = true
    · rw [List.filter_cons]
      simp only [iterLoop, h, if_true, ih, Bool.not_true, Bool.false_eq_true, if_false]
    · have h' : seen.contains (kconv f.1) = false := by simpa using h
      rw [List.filter_cons]
      simp only [iterLoop, h', ih, Bool.false_eq_true, if_false, Bool.not_false, if_true, firsts_cons,
        List.filter_filter]
      congr 2
      apply List.filter_congr
      intro x _
      have : (kconv x.1 == kconv f.1) = keq x.1 f.1 := rfl
      simp only [List.contains_cons, this]
      cases keq x.1 f.1 <;> simp

private theorem iter_eq (fs : Fields) : C35.iter fs = Spec.firsts fs := by
  have : fs.filter (fun _ => true) = fs := List.filter_eq_self.mpr (by simp)
  simp [C35.iter, iterLoop_eq, this]

private theorem len_eq (fs : Fields) : C35.len fs = Spec.size fs := by
  rw [Spec.size, ← iter_eq, iter_gen]; exact (MultiDictGen.len_eq_distinct asciiLower fs).1

private theorem toBytes_eq (fs : Fields) : C35.toBytes fs = Spec.serialise fs := by
  rw [ParseLemmas.toBytes_ser]; simp [ParseLemmas.ser, Spec.serialise, fieldLine]

/-- a key that iteration yields is the name of a field, so it has a value -/
private theorem getAll_of_iter (fs : Fields) (k : Bytes) (h : k ∈ C35.iter fs) : Spec.getAll fs k ≠ [] := by
  rw [iter_gen] at h
  obtain ⟨v, hv⟩ := (MultiDictGen.len_eq_distinct asciiLower fs).2.2.2 k h
  exact List.ne_nil_of_mem (a := v) (List.mem_map.mpr ⟨(k, v), List.mem_filter.mpr ⟨hv, keq_refl k⟩, rfl⟩)

private theorem lookup_of_mem_firsts (m : Fields) (k : Bytes) (h : k ∈ Spec.firsts m) :
    Spec.lookup m k = some (Spec.fold (Spec.getAll m k)) := by
  have := getAll_of_iter m k (iter_eq m ▸ h)
  -- the second alternative of `lookup` applies since the first is excluded by `this`
  simp only [Spec.lookup]

private theorem filterMap_total {α β : Type} (f : α → Option β) (g : α → β) (l : List α)
    (h : ∀ a ∈ l, f a = some (g a)) : l.filterMap f = l.map g := by
  induction l with
  | nil => rfl
  | cons a l ih =>
    have ha := h a (by simp)
    have := ih (fun b hb => h b (by simp [hb]))
    simp [ha, this]

private theorem items_eq (fs : Fields) : C35.items fs = Spec.items fs := by
  simp only [C35.items, Spec.items, iter_eq]
  apply filterMap_total
  intro k hk
  simp [getItem_eq, lookup_of_mem_firsts fs k hk]

private theorem pop_eq (fs : Fields) (k : Bytes) :
    C35.pop fs k = (match Spec.lookup fs k with | some v => some (Spec.remove fs k, v) | none => none) := by
  simp only [C35.pop, getItem_eq, delItem_eq, Spec.del]
  cases h : Spec.lookup fs k with
  | none => rfl
  | some v =>
    have : Spec.count fs k ≠ 0 := by
      intro e
      have := (getAll_nil_iff fs k).mpr e
      simp [Spec.lookup, this] at h
    simp [this]

private theorem popitem_eq (fs : Fields) : C35.popitem fs = Spec.popFirst fs := by
  cases fs with
  | nil => simp [C35.popitem, iter_eq, Spec.firsts, Spec.popFirst]
  | cons e m =>
    have hl := lookup_of_mem_firsts (e :: m) e.1 (by rw [firsts_cons]; simp)
    have hc : Spec.count (e :: m) e.1 ≠ 0 := by simp [Spec.count, keq_refl]
    simp only [C35.popitem, iter_eq, firsts_cons, getItem_eq, hl, delItem_eq, Spec.del, hc, if_false, Spec.popFirst]

private theorem setdefault_eq (fs : Fields) (k d : Bytes) :
    C35.setdefault fs k d = (match Spec.lookup fs k with | some v => (fs, v) | none => (Spec.setAll fs k [d], d)) := by
  simp only [C35.setdefault, getItem_eq, C35.setItem, setAll_eq]
  cases Spec.lookup fs k <;> rfl

private theorem remove_length_lt (e : Field) (m : Fields) : (Spec.remove (e :: m) e.1).length < (e :: m).length := by
  simp only [Spec.remove, List.filter_cons, keq_refl, Bool.not_true, Bool.false_eq_true, if_false, List.length_cons]
  exact Nat.lt_succ_of_le (List.length_filter_le _ _)

private theorem clearF_nil : ∀ (n : Nat) (fs : Fields), fs.length < n → clearF n fs = [] := by
  intro n
  induction n with
  | zero => intro fs h; omega
  | succ n ih =>
    intro fs h
    cases fs with
    | nil => simp [clearF, popitem_eq, Spec.popFirst]
    | cons e m =>
      simp only [clearF, popitem_eq, Spec.popFirst]
      apply ih
      have := remove_length_lt e m
      omega

private theorem update_eq (ps : Fields) : ∀ fs : Fields,
    C35.update fs ps = ps.foldl (fun s p => Spec.setAll s p.1 [p.2]) fs := by
  induction ps with
  | nil => intro fs; rfl
  | cons p ps ih =>
    intro fs
    simp only [C35.update, List.foldl_cons, C35.setItem, setAll_eq] at *

private theorem copy_id (fs : Fields) : C35.copy fs = fs := by
  induction fs with
  | nil => rfl
  | cons f fs ih => simp [copy]

private theorem apply_eq (st : Store) (fs : Fields) (op : Op) : C35.apply st fs op = Spec.apply st fs op := by
  cases op <;>
    simp only [C35.apply, Spec.apply, getItem_eq, getAll_eq, contains_eq, C35.setItem, setAll_eq, delItem_eq, add_eq, insert_eq,
      iter_eq, len_eq, copy_id, itemsMulti, items_eq, pop_eq, popitem_eq, setdefault_eq, update_eq, toBytes_eq, C35.clear,
      clearF_nil _ _ (Nat.lt_succ_self _), C35.keys, C35.values, C35.eq]
  -- what is left differs in the shape of a `match` only
  case getItem | delItem | popitem => rfl
  case eq t u => cases st[u]? <;> simp [Bool.beq_eq_decide_eq]
  case keys t m => cases m <;> simp [Spec.items, Function.comp_def]
  case values t m => cases m <;> simp [Spec.items, Function.comp_def]
  case pop t k => cases Spec.lookup fs k <;> rfl
  case setdefault t k d => cases Spec.lookup fs k <;> rfl

private theorem step_eq (st : Store) (op : Op) : C35.step st op = Spec.step st op := by
  simp only [C35.step, Spec.step, apply_eq]; rfl

/-- **Refinement.** Every operation sequence, run on any store of header objects, produces the same return values
    and the same `fields` of every object after every step as the abstract case-insensitive ordered multimap. -/
theorem run_refines (ops : List Op) : ∀ st : Store, C35.run st ops = Spec.run st ops := by
  induction ops with
  | nil => intro st; rfl
  | cons op ops ih => intro st; simp only [C35.run, Spec.run, step_eq, ih]

example : keq [0x53, 0x65, 0x74] [0x73, 0x45, 0x54] = true := by decide
example : (C35.run [[([0x61], [0x31]), ([0x41], [0x32])]] [.getItem 0 [0x41], .delItem 0 [0x61], .len 0]).map (·.1)
    = [.val [0x31, 0x2c, 0x20, 0x32], .none, .nat 0] := by decide

/-- after `set_all(k, vs)`, `get_all` under any spelling of `k` returns exactly `vs` -/
theorem getAll_setAll (fs : Fields) (k k' : Bytes) (vs : List Bytes) (h : keq k' k = true) :
    C35.getAll (C35.setAll fs k vs) k' = vs := by
  rw [setAll_gen]; exact MultiDictGen.getAll_setAll asciiLower fs k k' vs h

example : C35.getAll (C35.setAll [([0x61], [0x31]), ([0x62], [0x32]), ([0x41], [0x33])] [0x41] [[0x37], [0x38], [0x39]]) [0x61]
    = [[0x37], [0x38], [0x39]] := by decide

/-- `set_all(k, vs)` (hence `h[k] = v`) leaves the fields of every other name untouched: same spelling, same value,
    same relative order -/
theorem untouched_order_and_spelling (fs : Fields) (k : Bytes) (vs : List Bytes) :
    (C35.setAll fs k vs).filter (fun f => !keq f.1 k) = fs.filter (fun f => !keq f.1 k) := by
  rw [setAll_gen]; exact MultiDictGen.untouched asciiLower fs k vs

/-- `set_all(k, …)` does not change what any other name maps to -/
theorem getAll_setAll_other (fs : Fields) (k k' : Bytes) (vs : List Bytes) (h : keq k' k = false) :
    C35.getAll (C35.setAll fs k vs) k' = C35.getAll fs k' := by
  rw [setAll_gen]; exact MultiDictGen.getAll_setAll_other asciiLower fs k k' vs h

example : keq [0x62] [0x41] = false := by decide

/-- `h[k] = v; h[k']` returns `v` for every spelling `k'` of `k` -/
theorem getItem_setItem (fs : Fields) (k k' v : Bytes) (h : keq k' k = true) :
    C35.getItem (C35.setItem fs k v) k' = some v := by
  rw [C35.setItem, setAll_gen]
  exact MultiDictGen.getItem_setItem asciiLower reduceValues (fun v => by simp [reduceValues, joinWith]) fs k k' v h

/-- `del h[k]`: KeyError exactly when no field is named `k`; otherwise the result is the old field list with all
    fields named `k` (and only those) removed -/
theorem del_removes_all_only (fs : Fields) (k : Bytes) :
    (C35.delItem fs k = none ↔ C35.getAll fs k = []) ∧
    (∀ fs', C35.delItem fs k = some fs' →
        fs' = fs.filter (fun f => !keq f.1 k) ∧ C35.getAll fs' k = [] ∧
        ∀ k', keq k' k = false → C35.getAll fs' k' = C35.getAll fs k') :=
  MultiDictGen.del_removes_all_only asciiLower reduceValues fs k

example : C35.delItem [([0x61], [0x31]), ([0x62], [0x32]), ([0x41], [0x33])] [0x41] = some [([0x62], [0x32])] := by decide
example : C35.delItem [([0x62], [0x32])] [0x41] = none := by decide

/-- `insert(i, k, v)` places exactly the new field at the position Python's slicing gives to `i`
    and keeps every other field in place -/
theorem insert_at (fs : Fields) (i : Int) (k v : Bytes) :
    pyIndex fs.length i ≤ fs.length ∧
    (C35.insert fs i k v)[pyIndex fs.length i]? = some (k, v) ∧
    (C35.insert fs i k v).eraseIdx (pyIndex fs.length i) = fs ∧
    (0 ≤ i → i ≤ fs.length → (pyIndex fs.length i : Int) = i) ∧
    (i < 0 → -(fs.length : Int) ≤ i → (pyIndex fs.length i : Int) = fs.length + i) := by
  refine ⟨MultiDictGen.pyIndex_le _ _, (MultiDictGen.insert_at fs i k v).1, (MultiDictGen.insert_at fs i k v).2, ?_, ?_⟩
  · intro h0 h1
    have hn : ¬ i < 0 := by omega
    have h2 : i.toNat ≤ fs.length := by omega
    simp only [pyIndex, hn, h2, if_true, if_false]; omega
  · intro h0 h1
    have h2 : ¬ ((fs.length : Int) + i < 0) := by omega
    simp only [pyIndex, h0, h2, if_true, if_false]; omega

/-- `add(k, v)` appends -/
theorem add_at_end (fs : Fields) (k v : Bytes) : C35.add fs k v = fs ++ [(k, v)] := add_eq fs k v

/-- `insert`/`add` of a field named `k` leaves all fields of other names untouched -/
theorem untouched_order_and_spelling_insert (fs : Fields) (i : Int) (k v : Bytes) :
    (C35.insert fs i k v).filter (fun f => !keq f.1 k) = fs.filter (fun f => !keq f.1 k) := by
  simp only [C35.insert, List.filter_append, List.filter_cons, keq_refl, Bool.not_true, Bool.false_eq_true, if_false]
  rw [← List.filter_append, List.take_append_drop]

example : C35.insert [([0x61], [0x31]), ([0x62], [0x32])] (-1) [0x63] [0x33] = [([0x61], [0x31]), ([0x63], [0x33]), ([0x62], [0x32])] := by
  decide

/-- `len(h)` is the number of distinct names modulo case: it equals the number of keys yielded by iteration,
    those keys are pairwise different modulo case, every field's name is among them modulo case,
    and every yielded key is the name of some field -/
theorem len_eq_distinct (fs : Fields) :
    C35.len fs = (C35.iter fs).length ∧
    ((C35.iter fs).map asciiLower).Nodup ∧
    (∀ f ∈ fs, asciiLower f.1 ∈ (C35.iter fs).map asciiLower) ∧
    (∀ k ∈ C35.iter fs, ∃ v, (k, v) ∈ fs) := by
  rw [iter_gen]; exact MultiDictGen.len_eq_distinct asciiLower fs

example : C35.len [([0x61], [0x31]), ([0x62], [0x32]), ([0x41], [0x33])] = 2 := by decide

/-- iteration yields, for every distinct name, the spelling of its FIRST field, in field order -/
theorem iter_first_occurrence_spelling (fs : Fields) :
    (∀ k ∈ C35.iter fs, (fs.find? (fun f => keq f.1 k)).map (·.1) = some k) ∧
    List.Sublist (C35.iter fs) (fs.map (·.1)) := by
  rw [iter_gen]; exact MultiDictGen.iter_first_occurrence_spelling asciiLower fs

example : C35.iter [([0x61], [0x31]), ([0x62], [0x32]), ([0x41], [0x33])] = [[0x61], [0x62]] := by decide

/-- `items()` never hits the KeyError branch of `self[key]`: one pair per iterated key -/
theorem items_total (fs : Fields) : C35.items fs = (C35.iter fs).map (fun k => (k, reduceValues (C35.getAll fs k))) := by
  rw [items_eq, iter_eq]; simp [Spec.items, getAll_eq, reduce_eq]

/-- `clear()` terminates with an empty collection (the bound on `popitem` rounds in the model is never reached) -/
theorem clear_empties (fs : Fields) : C35.clear fs = [] := clearF_nil _ _ (Nat.lt_succ_self _)

/-- `__eq__` is equality of the field lists (spelling included) -/
theorem eq_iff (a b : Fields) : C35.eq a b = true ↔ a = b := by simp [C35.eq]

private theorem set_self {st : Store} {t : Nat} {fs : Fields} (h : st[t]? = some fs) : st.set t fs = st := by
  obtain ⟨hlt, rfl⟩ := List.getElem?_eq_some_iff.mp h
  exact List.set_getElem_self hlt

/-- `copy()` creates a new object with equal fields and leaves every existing object as it was -/
theorem copy_creates_equal_object (st : Store) (t : Nat) (fs : Fields) (h : st[t]? = some fs) :
    C35.step st (.copy t) = (st ++ [fs], .obj st.length) := by
  simp [C35.step, Op.target, h, C35.apply, copy_id, set_self h]

private theorem step_length (st : Store) (op : Op) : st.length ≤ (C35.step st op).1.length := by
  simp only [C35.step]
  cases st[op.target]? with
  | none => simp
  | some fs =>
    simp only
    cases (C35.apply st fs op).2.2 <;> simp

private theorem step_frame (st : Store) (op : Op) (j : Nat) (hlt : j < st.length)
    (h : op.target ≠ j ∨ ∀ fs, (C35.apply st fs op).1 = fs) : (C35.step st op).1[j]? = st[j]? := by
  simp only [C35.step]
  cases hfs : st[op.target]? with
  | none => rfl
  | some fs =>
    have hset : (st.set op.target (C35.apply st fs op).1)[j]? = st[j]? := by
      rcases h with h | h
      · exact List.getElem?_set_ne h
      · rw [h fs, set_self hfs]
    simp only
    cases (C35.apply st fs op).2.2 with
    | none => exact hset
    | some o =>
      simp only
      rw [List.getElem?_append_left (by simpa using hlt)]
      exact hset

private theorem run_frame (ops : List Op) : ∀ (st : Store) (j : Nat), j < st.length →
    (∀ op ∈ ops, op.target ≠ j ∨ ∀ st fs, (C35.apply st fs op).1 = fs) → ∀ r ∈ C35.run st ops, r.2[j]? = st[j]? := by
  induction ops with
  | nil => intro st j _ _ r hr; simp [C35.run] at hr
  | cons op ops ih =>
    intro st j hlt hall r hr
    have hf := step_frame st op j hlt ((hall op (by simp)).imp_right (fun h => h st))
    simp only [C35.run, List.mem_cons] at hr
    rcases hr with h | h
    · subst h; exact hf
    · rw [← hf]
      exact ih (C35.step st op).1 j (Nat.lt_of_lt_of_le hlt (step_length st op)) (fun o ho => hall o (by simp [ho])) r h

/-- operations on other objects never change object `j`, and neither does copying `j` itself (copying reads `j`): if only
    operations that address another object, or `copy j`, occur, then `j` has the same fields in every store of the trace -/
theorem copy_independent_strong (ops : List Op) : ∀ (st : Store) (j : Nat), j < st.length →
    (∀ op ∈ ops, op.target ≠ j ∨ op = .copy j) → ∀ r ∈ C35.run st ops, r.2[j]? = st[j]? :=
  fun st j hlt hall => run_frame ops st j hlt (fun op hop => (hall op hop).imp_right (fun e _ _ => by subst e; rfl))

/-- operations on other objects (in particular on a copy, or on the original after copying) never change object `j`:
    its fields are the same in every store of the trace -/
theorem copy_independent (ops : List Op) : ∀ (st : Store) (j : Nat), j < st.length →
    (∀ op ∈ ops, op.target ≠ j) → ∀ r ∈ C35.run st ops, r.2[j]? = st[j]? :=
  fun st j hlt hall => copy_independent_strong ops st j hlt (fun op hop => Or.inl (hall op hop))

example : ((C35.run [[([0x61], [0x31])]] [.copy 0, .setItem 1 [0x41] [0x39], .delItem 0 [0x61]]).map (·.2))
    = [[[([0x61], [0x31])], [([0x61], [0x31])]], [[([0x61], [0x31])], [([0x61], [0x39])]], [[], [([0x61], [0x39])]]] := by decide
-- `copy_independent_strong`: object 0 is copied twice and the second copy cleared; it stays what it was
example : ((C35.run [[([0x61], [0x31])]] [.copy 0, .setItem 1 [0x41] [0x39], .copy 0, .clear 2]).map (fun r => r.2[0]?))
    = [some [([0x61], [0x31])], some [([0x61], [0x31])], some [([0x61], [0x31])], some [([0x61], [0x31])]] := by decide

open MitmVerif.C35.Spec (okName okValue RoundTrippable ValidFields validName validValue headOk lastOk spht tchar fieldByte)

/-- **Whatever `_read_headers` accepts round-trips** — no validity hypothesis: if LF-free lines (as the line splitter
    delivers them) parse to `fs`, including obs-fold continuation lines, empty values, odd bytes in names, then
    `bytes(Headers(fs))` splits and parses back to exactly `fs`. -/
theorem parsed_headers_roundtrip (ls : List Bytes) (fs : Fields)
    (hlf : ∀ l ∈ ls, ∀ c ∈ l, c ≠ 0x0a) (h : readHeaders ls = .ok fs) :
    readHeaders (splitLines (C35.toBytes fs)) = .ok fs :=
  ParseLemmas.reparse ls fs hlf h

/-- a header block that was parsed once is a fixed point: parse ∘ serialise ∘ parse = parse -/
theorem reparse_stable (block : Bytes) (fs : Fields) (h : readHeaders (splitLines block) = .ok fs) :
    readHeaders (splitLines (C35.toBytes fs)) = .ok fs :=
  parsed_headers_roundtrip (splitLines block) fs (ParseLemmas.splitLines_noLF block) h

-- an obs-folded, oddly spaced block: "a:  1 \r\n\t x \r\nB:\r\n"  parses to [(a, "1\r\n x"), (B, "")] and that re-parses to itself
example : readHeaders (splitLines [0x61, 0x3a, 0x20, 0x20, 0x31, 0x20, 0x0d, 0x0a, 0x09, 0x20, 0x78, 0x20, 0x0d, 0x0a, 0x42, 0x3a, 0x0d, 0x0a])
    = .ok [([0x61], [0x31, 0x0d, 0x0a, 0x20, 0x78]), ([0x42], [])] := by rfl

private theorem strip_value (v : Bytes) (h1 : headOk pyWs v = true) (h2 : lastOk pyWs v = true) :
    strip (0x20 :: v) = v :=
  (trim_cons_ws (by decide) v).trans
    (trim_fix (fun c hc => by simpa [headOk, hc] using h1) (fun c hc => by simpa [lastOk, hc] using h2))

private theorem okName_facts (n : Bytes) (h : okName n = true) :
    (∃ c n', n = c :: n' ∧ (c = 0x20 || c = 0x09) = false) ∧ (∀ c ∈ n, c ≠ 0x3a) ∧ (∀ c ∈ n, c ≠ 0x0a) := by
  simp only [okName, Bool.and_eq_true, List.all_eq_true] at h
  obtain ⟨⟨h1, h2⟩, h3⟩ := h
  refine ⟨?_, fun c hc => by have := h2 c hc; simp at this; exact this.1,
          fun c hc => by have := h2 c hc; simp at this; exact this.2⟩
  cases n with
  | nil => simp at h1
  | cons c n' =>
    refine ⟨c, n', rfl, ?_⟩
    simpa [headOk, spht] using h3

private theorem okValue_facts (v : Bytes) (h : okValue v = true) :
    (∀ c ∈ v, c ≠ 0x0a) ∧ headOk pyWs v = true ∧ lastOk pyWs v = true := by
  simp only [okValue, Bool.and_eq_true, List.all_eq_true] at h
  obtain ⟨⟨h1, h2⟩, h3⟩ := h
  exact ⟨fun c hc => by have := h1 c hc; simpa using this, h2, h3⟩

private theorem readLoop_fields (fs : Fields) (h : RoundTrippable fs) : ∀ acc : Fields,
    readLoop acc (fs.map fieldLine) = .ok (acc.reverse ++ fs) := by
  induction fs with
  | nil => intro acc; simp [readLoop]
  | cons f fs ih =>
    intro acc
    obtain ⟨hn, hv⟩ := h f (by simp)
    obtain ⟨⟨c, n', hnc, hc⟩, hcolon, _⟩ := okName_facts _ hn
    obtain ⟨_, hh, hl⟩ := okValue_facts _ hv
    rw [List.map_cons, fieldLine, hnc, ParseLemmas.readLoop_field acc c n' f.2 _ hc (fun m => hcolon _ (hnc ▸ m) rfl), strip_value _ hh hl,
      ih (fun g hg => h g (by simp [hg]))]
    simp [← hnc]

private theorem fieldLine_noLF (f : Field) (hn : okName f.1 = true) (hv : okValue f.2 = true) :
    ∀ c ∈ fieldLine f, c ≠ 0x0a := by
  obtain ⟨_, _, h1⟩ := okName_facts _ hn
  obtain ⟨h2, _, _⟩ := okValue_facts _ hv
  intro c hc
  simp only [fieldLine, colonSp, List.mem_append, List.mem_cons, List.not_mem_nil, or_false] at hc
  rcases hc with (hc | hc | hc) | hc
  · exact h1 c hc
  · subst hc; decide
  · subst hc; decide
  · exact h2 c hc

/-- **Round trip (general form).** For every field list whose names are non-empty, contain neither `:` nor LF and
    do not start with SP/HTAB, and whose values contain no LF and have no leading/trailing whitespace,
    `_read_headers(lines(bytes(Headers(fs))))` returns exactly `fs`. -/
theorem http1_roundtrip_general (fs : Fields) (h : RoundTrippable fs) :
    readHeaders (splitLines (C35.toBytes fs)) = .ok fs := by
  -- the lines `name: value` are LF-free and parse to `fs`, so `fs` is something the parser produced
  refine parsed_headers_roundtrip (fs.map fieldLine) fs ?_ (by simpa [readHeaders] using readLoop_fields fs h [])
  intro l hl
  obtain ⟨f, hf, rfl⟩ := List.mem_map.mp hl
  exact fieldLine_noLF f (h f hf).1 (h f hf).2

private theorem tchar_facts (c : UInt8) (h : tchar c = true) : ((c != 0x3a) = true ∧ (c != 0x0a) = true) ∧ spht c = false := by
  have hne : ∀ d : UInt8, tchar d = false → c ≠ d := fun d hd e => by rw [e, hd] at h; cases h
  have h1 := hne 0x3a (by decide)
  have h2 := hne 0x0a (by decide)
  have h3 := hne 0x20 (by decide)
  have h4 := hne 0x09 (by decide)
  simp [spht, h1, h2, h3, h4]

private theorem fieldByte_facts (c : UInt8) (h : fieldByte c = true) :
    (c != 0x0a) = true ∧ (spht c = false → pyWs c = false) := by
  have hne : ∀ d : UInt8, fieldByte d = false → c ≠ d := fun d hd e => by rw [e, hd] at h; cases h
  have h1 := hne 0x0a (by decide)
  have h2 := hne 0x0d (by decide)
  simp [spht, pyWs, h1, h2]

private theorem headOk_imp {p q : UInt8 → Bool} {v : Bytes} (h : ∀ c ∈ v, p c = false → q c = false)
    (hp : headOk p v = true) : headOk q v = true := by
  unfold headOk at *
  cases hh : v.head? with
  | none => rfl
  | some c => simpa using h c (List.mem_of_head? hh) (by simpa [hh] using hp)

private theorem lastOk_imp {p q : UInt8 → Bool} {v : Bytes} (h : ∀ c ∈ v, p c = false → q c = false)
    (hp : lastOk p v = true) : lastOk q v = true := by
  unfold lastOk at *
  cases hh : v.getLast? with
  | none => rfl
  | some c => simpa using h c (List.mem_of_getLast? hh) (by simpa [hh] using hp)

/-- RFC-valid fields (token names; VCHAR/obs-text/SP/HTAB values without leading/trailing SP/HTAB) satisfy the
    hypotheses of the general round-trip theorem -/
theorem validFields_roundTrippable (fs : Fields) (h : ValidFields fs) : RoundTrippable fs := by
  intro f hf
  obtain ⟨hn, hv⟩ := h f hf
  simp only [validName, validValue, Bool.and_eq_true, List.all_eq_true] at hn hv
  obtain ⟨hne, htc⟩ := hn
  obtain ⟨⟨hfb, hho⟩, hlo⟩ := hv
  have hws : ∀ c ∈ f.2, spht c = false → pyWs c = false := fun c hc => (fieldByte_facts c (hfb c hc)).2
  simp only [okName, okValue, Bool.and_eq_true, List.all_eq_true]
  exact ⟨⟨⟨hne, fun c hc => (tchar_facts c (htc c hc)).1⟩,
      headOk_imp (p := fun _ => false) (fun c hc _ => (tchar_facts c (htc c hc)).2) (by unfold headOk; split <;> rfl)⟩,
    ⟨fun c hc => (fieldByte_facts c (hfb c hc)).1, headOk_imp hws hho⟩, lastOk_imp hws hlo⟩

/-- **Round trip.** Serialising valid header fields as HTTP/1 and parsing them back yields the same fields. -/
theorem http1_roundtrip (fs : Fields) (h : ValidFields fs) :
    readHeaders (splitLines (C35.toBytes fs)) = .ok fs :=
  http1_roundtrip_general fs (validFields_roundTrippable fs h)

-- "Host: a b" / "x-1:" (empty value): valid, and the statement is not vacuous
example : ValidFields [([0x48, 0x6f, 0x73, 0x74], [0x61, 0x20, 0x62]), ([0x78, 0x2d, 0x31], [])] := by unfold ValidFields; decide
example : readHeaders (splitLines (C35.toBytes [([0x48], [0x61, 0x20, 0x62]), ([0x78], [])]))
    = .ok [([0x48], [0x61, 0x20, 0x62]), ([0x78], [])] := by rfl
-- the parser does reject / alter things outside the hypotheses
example : readHeaders [[0x61]] = .error .value := by rfl
example : readHeaders [[]] = .error .index := by rfl
example : readHeaders [[0x20, 0x61]] = .error .value := by rfl
example : readHeaders (splitLines (C35.toBytes [([0x61], [0x20, 0x31])])) = .ok [([0x61], [0x31])] := by rfl
example : readHeaders [[0x61, 0x3a, 0x31], [0x20, 0x32]] = .ok [([0x61], [0x31, 0x0d, 0x0a, 0x20, 0x32])] := by rfl

/-! ### spelling of the fields an assignment touches

The property statement fixes spelling and order of UNTOUCHED fields only.  What the code does with the fields it
touches is nevertheless determined, and proved here: reused positions keep the spelling they had, fields that
have to be created carry exactly the caller's spelling, and no other spelling ever appears. -/

/-- after `set_all(k, vs)` the names of the fields named `k` are, in order: the old spellings of the first
    `len(vs)` such fields, followed by the caller's spelling `k` once for every value beyond the old count -/
theorem touched_spelling (fs : Fields) (k : Bytes) (vs : List Bytes) :
    ((C35.setAll fs k vs).filter (fun f => keq f.1 k)).map (·.1)
      = ((fs.filter (fun f => keq f.1 k)).map (·.1)).take vs.length
        ++ List.replicate (vs.length - Spec.count fs k) k := by
  rw [setAll_gen]; exact MultiDictGen.touched asciiLower fs k vs

/-- a name that is not present yet is stored exactly as the caller spelled it, at the end -/
theorem fresh_spelling (fs : Fields) (k : Bytes) (vs : List Bytes) (h : C35.getAll fs k = []) :
    C35.setAll fs k vs = fs ++ vs.map (fun v => (k, v)) := by
  rw [setAll_gen]; exact MultiDictGen.setAll_fresh asciiLower fs k vs h

/-- assignment never makes a spelling up: every name in the result is the caller's or was stored before -/
theorem spelling_not_invented (fs : Fields) (k : Bytes) (vs : List Bytes) :
    ∀ f ∈ C35.setAll fs k vs, f.1 = k ∨ ∃ g ∈ fs, g.1 = f.1 := by
  rw [setAll_gen]; exact MultiDictGen.names_setAll asciiLower fs k vs

-- set_all(b"X-A", [n0, n1]) on [(x-a, v0)]: the reused field keeps "x-a", the created one is spelled "X-A"
example : C35.setAll [([0x78, 0x2d, 0x61], [0x30])] [0x58, 0x2d, 0x41] [[0x31], [0x32]]
    = [([0x78, 0x2d, 0x61], [0x31]), ([0x58, 0x2d, 0x41], [0x32])] := by decide

open MitmVerif.C35.Api (AOp ARet K1 KV)

/-- **`_always_bytes(_native(b)) = b` for every byte string** (utf-8 with surrogateescape): whatever name or value
    the API hands out as `str` denotes the stored bytes again when it is handed back -/
theorem native_roundtrip (b : Bytes) : encodeSE (native b) = some b :=
  StrLemmas.encode_decF b.length b (Nat.le_refl _)

/-- **CPython's error handling is the model's.** Decoding with CPython's control flow — error ranges of one to three
    bytes ("invalid start byte", "invalid continuation byte", "unexpected end of data"), every byte of the range escaped,
    decoding resumed after the range — yields, for every byte string, the same `str` as the byte-at-a-time decoder
    `native` that all other theorems are about. -/
theorem nativeRange_eq_native (b : Bytes) : nativeRange b = native b :=
  StrLemmas.decFR_eq_native b.length b (Nat.le_refl _)

/-- hence the round trip holds for the CPython-shaped decoder as well -/
theorem nativeRange_roundtrip (b : Bytes) : encodeSE (nativeRange b) = some b := by
  rw [nativeRange_eq_native]; exact native_roundtrip b

-- truncated 4-byte sequence F0 90 80 at the end: one range of three bytes; E0 80: two ranges of one byte
example : decStepR [0xf0, 0x90, 0x80] = ([0xdcf0, 0xdc90, 0xdc80], 3) := by decide
example : decStepR [0xe0, 0x80] = ([0xdce0], 1) := by decide
example : decStepR [0xe1, 0x80, 0x41] = ([0xdce1, 0xdc80], 2) := by decide

theorem alwaysBytes_native (b : Bytes) : alwaysBytes (.s (native b)) = some b := native_roundtrip b

-- non-ASCII / malformed input: "é" decodes to U+E9, a stray 0xC3 and 0xFF are escaped; lone U+D800 cannot be encoded
example : native [0xc3, 0xa9, 0xc3, 0xff] = [0xe9, 0xdcc3, 0xdcff] := by decide
example : encodeSE [0xd800] = none := by decide
example : encodeSE [0xdcc3, 0xdca9] = some [0xc3, 0xa9] := by decide   -- so `_native ∘ _always_bytes` is NOT the identity

private theorem encode_append (a b : PyStr) :
    encodeSE (a ++ b) = (encodeSE a).bind (fun x => (encodeSE b).map (fun y => x ++ y)) := by
  induction a with
  | nil => simp [encodeSE]
  | cons c a ih =>
    simp only [List.cons_append, encodeSE, ih]
    cases enc1 c <;> cases encodeSE a <;> cases encodeSE b <;> simp

private theorem encode_commaSp : encodeSE commaSpS = some commaSp := by decide

/-- the folded `str` the API returns denotes the folded bytes of the byte-level model -/
theorem encode_fold (vs : List Bytes) : encodeSE (Api.fold vs) = some (reduceValues vs) := by
  simp only [Api.fold, reduceValues]
  induction vs with
  | nil => rfl
  | cons v vs ih =>
    cases vs with
    | nil => simp [strJoin, joinWith, native_roundtrip]
    | cons w ws =>
      simp only [List.map_cons, strJoin, joinWith] at *
      simp [encode_append, native_roundtrip, encode_commaSp, ih]

private theorem encList_map {α : Type} (f : α → PyStr) (g : α → Bytes) (hf : ∀ x, encodeSE (f x) = some (g x)) (l : List α) :
    Api.encList (l.map f) = some (l.map g) := by
  induction l with
  | nil => rfl
  | cons x l ih => simp [Api.encList, hf, ih]

private theorem encPairs_native (l : Fields) (g : Bytes → Bytes) (f : Bytes → PyStr)
    (hf : ∀ k, encodeSE (f k) = some (g k)) :
    Api.encPairs (l.map (fun e => (native e.1, f e.2))) = some (l.map (fun e => (e.1, g e.2))) := by
  induction l with
  | nil => rfl
  | cons e l ih => simp [Api.encPairs, native_roundtrip, hf, ih]

/-- `items()` at the API: one `(str, str)` pair per iterated key — the key survives its way back through
    `_always_bytes` and the lookup never misses -/
theorem api_items (fs : Fields) :
    Api.items fs = (C35.iter fs).map (fun k => (native k, Api.fold (C35.getAll fs k))) := by
  simp only [Api.items, List.filterMap_map]
  apply filterMap_total
  intro k hk
  have hne : (C35.getAll fs k).isEmpty = false := by rw [getAll_eq]; simpa using getAll_of_iter fs k hk
  simp [Function.comp, native_roundtrip, hne]

private theorem enc_api_items (fs : Fields) : Api.encPairs (Api.items fs) = some (C35.items fs) := by
  rw [api_items, items_total]
  have := encPairs_native ((C35.iter fs).map (fun k => (k, k))) (fun k => reduceValues (C35.getAll fs k))
    (fun k => Api.fold (C35.getAll fs k)) (fun k => encode_fold _)
  simpa [List.map_map, Function.comp_def] using this

/-- a call changes the store exactly as the byte-level operation it lowers to (any call, including a partly
    applied `update`) -/
theorem api_state (st : Store) (fs : Fields) (a : AOp) (op : Op)
    (hfs : st[a.target]? = some fs) (hl : Api.lower fs a = some op) :
    (Api.step st a).1 = (C35.step st op).1 := by
  simp only [Api.step, hfs, hl]
  cases a <;> rfl

/-- a call whose `str` arguments cannot be encoded raises before anything changes -/
theorem api_unicode_error_no_change (st : Store) (fs : Fields) (a : AOp)
    (hfs : st[a.target]? = some fs) (hl : Api.lower fs a = none) :
    Api.step st a = (st, .unicodeError) := by
  simp only [Api.step, hfs, hl]

private theorem step_ret (st : Store) (fs : Fields) (op : Op) (h : st[op.target]? = some fs) :
    (C35.step st op).2 = (C35.apply st fs op).2.1 := by
  simp only [C35.step, h]

/-- every call is well-formed by construction (calls without text arguments are their own type `POp`) -/
theorem aop_wf (a : AOp) : a.wf = true := by
  cases a with
  | plain p => cases p <;> rfl
  | _ => rfl

/-- **what the API returns.** For every call whose arguments can be encoded, the `str` results the caller
    sees (folded values, `get_all` lists, iterated keys, `items`/`keys`/`values`, `pop`/`popitem`/`setdefault` results)
    denote — taken back through `_always_bytes` — exactly the byte-level results of the operation the call lowers to.
    Together with `api_state` and `run_refines` the multimap laws therefore hold for what `Headers` hands out. -/
theorem api_returns_total (st : Store) (fs : Fields) (a : AOp) (op : Op)
    (hfs : st[a.target]? = some fs) (hl : Api.lower fs a = some op)
    (hup : ∀ t ps, a = .update t ps → (Api.convPairs ps).2 = true) :
    ARet.enc (Api.step st a).2 = some (C35.step st op).2 := by
  simp only [Api.step, hfs, hl]
  cases a with
  | k1 kind t k =>
    obtain ⟨kb, -, rfl⟩ := Option.map_eq_some_iff.mp hl
    simp only [AOp.target] at hfs
    cases kind <;> cases he : (C35.getAll fs kb).isEmpty <;>
      simp [C35.step, Op.target, hfs, Api.ret, C35.apply, C35.getItem, C35.delItem, C35.pop, C35.contains, he, ARet.enc, encode_fold,
        encList_map native id native_roundtrip]
  | kv kind t k v =>
    simp only [AOp.target] at hfs
    simp only [Api.lower] at hl
    cases hk : alwaysBytes k with
    | none => simp [hk] at hl
    | some kb =>
      cases kind with
      | setdefault =>
        cases he : (C35.getAll fs kb).isEmpty <;> simp [hk, C35.contains, C35.getItem, he] at hl
        · subst hl
          simp [C35.step, Op.target, hfs, Api.ret, C35.apply, C35.setdefault, C35.getItem, he, ARet.enc, encode_fold]
        · obtain ⟨vb, hvb, rfl⟩ := hl
          simp [C35.step, Op.target, hfs, Api.ret, C35.apply, C35.setdefault, C35.getItem, he, ARet.enc, hvb]
      | setItem | add =>
        simp only [hk, Option.map_eq_some_iff] at hl
        obtain ⟨vb, -, rfl⟩ := hl
        simp [C35.step, Op.target, hfs, Api.ret, C35.apply, ARet.enc]
  | setAll t k vs =>
    simp only [AOp.target] at hfs
    simp only [Api.lower] at hl
    split at hl <;> cases hl
    simp [C35.step, Op.target, hfs, Api.ret, C35.apply, ARet.enc]
  | insert t i k v =>
    simp only [AOp.target] at hfs
    simp only [Api.lower] at hl
    split at hl <;> cases hl
    simp [C35.step, Op.target, hfs, Api.ret, C35.apply, ARet.enc]
  | update t ps =>
    simp only [AOp.target] at hfs
    cases hl
    simp [hup t ps rfl, C35.step, Op.target, hfs, C35.apply, ARet.enc]
  | plain o =>
    cases hl
    rw [step_ret st fs o.toOp hfs]
    cases o with
    | popitem t =>
      cases fs with
      | nil => simp [Api.POp.toOp, Api.ret, C35.apply, api_items, C35.popitem, C35.iter, iterLoop, ARet.enc]
      | cons e m =>
        have hit : C35.iter (e :: m) = e.1 :: C35.iter (m.filter (fun x => !keq x.1 e.1)) := by
          rw [iter_eq, firsts_cons, iter_eq]
        have hp := popitem_eq (e :: m)
        simp only [Spec.popFirst] at hp
        simp only [Api.POp.toOp, Api.ret, C35.apply, api_items, hit, List.map_cons, hp]
        simp [ARet.enc, native_roundtrip, encode_fold, reduce_eq, getAll_eq]
    | eq t u => simp only [Api.POp.toOp, Api.ret, C35.apply]; cases st[u]? <;> simp [ARet.enc]
    | keys t m =>
      cases m <;> simp [Api.POp.toOp, Api.ret, C35.apply, ARet.enc, C35.keys, itemsMulti, api_items, items_total, Function.comp_def,
        encList_map native id native_roundtrip, encList_map _ _ (fun x : Field => native_roundtrip x.1)]
    | values t m =>
      cases m <;> simp [Api.POp.toOp, Api.ret, C35.apply, ARet.enc, C35.values, itemsMulti, api_items, items_total, Function.comp_def,
        encList_map _ _ (fun k => encode_fold (C35.getAll fs k)), encList_map _ _ (fun x : Field => native_roundtrip x.2)]
    | _ => simp [Api.POp.toOp, Api.ret, C35.apply, ARet.enc, encList_map native id native_roundtrip, enc_api_items, itemsMulti,
       encPairs_native fs id native native_roundtrip]

/-- `api_returns_total` with the well-formedness of the call as a hypothesis; it is not needed (`aop_wf`) -/
theorem api_returns (st : Store) (fs : Fields) (a : AOp) (op : Op)
    (hfs : st[a.target]? = some fs) (hl : Api.lower fs a = some op) (hwf : a.wf = true)
    (hup : ∀ t ps, a = .update t ps → (Api.convPairs ps).2 = true) :
    ARet.enc (Api.step st a).2 = some (C35.step st op).2 :=
  api_returns_total st fs a op hfs hl hup

-- h = Headers([(b"X-\xc3\xa9", b"caf\xc3\xa9"), (b"x-\xc3\xa9", b"\xff")]); h["X-é"] == "café, \udcff"
example : (Api.step [[([0x58, 0x2d, 0xc3, 0xa9], [0x63, 0x61, 0x66, 0xc3, 0xa9]), ([0x78, 0x2d, 0xc3, 0xa9], [0xff])]]
    (.k1 .getItem 0 (.s [0x58, 0x2d, 0xe9]))).2 = .str [0x63, 0x61, 0x66, 0xe9, 0x2c, 0x20, 0xdcff] := by decide
example : (Api.step [[]] (.k1 .getItem 0 (.s [0xd800]))).2 = .unicodeError := by decide

/-- an `update` that meets an unencodable pair has assigned exactly the pairs before it, then raises -/
theorem api_update_partial (st : Store) (fs : Fields) (t : Nat) (ps : List (Arg × Arg))
    (hfs : st[t]? = some fs) (hbad : (Api.convPairs ps).2 = false) :
    Api.step st (.update t ps) = ((C35.step st (.update t (Api.convPairs ps).1)).1, .unicodeError) := by
  have hfs' : st[(AOp.update t ps).target]? = some fs := hfs
  simp only [Api.step, hfs', Api.lower, hbad, Bool.false_eq_true, if_false]

/-- **Refinement at the API, for all call sequences.** Whenever a sequence of `Headers` calls (str or bytes
    arguments) raises no UnicodeEncodeError (`lowerAll` succeeds and no `update` stops half-way), its trace — every
    returned `str` taken back through `_always_bytes`, and the fields of every object after every call — is the trace of
    the abstract case-insensitive ordered multimap on the lowered operations. -/
theorem api_run_refines_total (as : List AOp) (st : Store) (ops : List Op)
    (h : Api.lowerAll st as = some ops)
    (hup : ∀ t ps, AOp.update t ps ∈ as → (Api.convPairs ps).2 = true) :
    Api.encTrace (Api.run st as) = some (Spec.run st ops) := by
  induction as generalizing st ops with
  | nil =>
    simp only [Api.lowerAll, Option.some.injEq] at h; subst h; rfl
  | cons a as ih =>
    simp only [Api.lowerAll] at h
    cases hfs : st[a.target]? with
    | none => simp [hfs] at h
    | some fs =>
      simp only [hfs] at h
      cases hl : Api.lower fs a with
      | none => simp [hl] at h
      | some op =>
        simp only [hl, Option.map_eq_some_iff] at h
        obtain ⟨ops', hops', rfl⟩ := h
        have hs := api_state st fs a op hfs hl
        have hr := api_returns_total st fs a op hfs hl (fun t ps e => hup t ps (by simp [e]))
        have hih := ih (C35.step st op).1 ops' hops' (fun t ps hm => hup t ps (by simp [hm]))
        rw [← run_refines] at hih ⊢
        simp only [Api.run, C35.run, Api.encTrace, hs, hr, hih]

/-- `api_run_refines_total` with its second hypothesis stated through `AOp.ok` (which also asks for well-formedness,
    true of every call) -/
theorem api_run_refines (as : List AOp) : ∀ (st : Store) (ops : List Op),
    Api.lowerAll st as = some ops → (∀ a ∈ as, a.ok = true) →
    Api.encTrace (Api.run st as) = some (Spec.run st ops) :=
  fun st ops h hok => api_run_refines_total as st ops h (fun _ _ hm => hok _ hm)

example : Api.lowerAll [[]] [.kv .setItem 0 (.s [0x41]) (.b [0x31]), .k1 .getItem 0 (.b [0x61])]
    = some [.setItem 0 [0x41] [0x31], .getItem 0 [0x61]] := by rfl

/-! ### `_MultiDict` as written (generic `_kconv`), `Headers` as its instance, and what carries over to `MultiDictView` -/

section Generic
open MitmVerif.MultiDictGen (keq)

variable {α β γ σ : Type} [BEq γ] [LawfulBEq γ]

/-- **the multimap laws hold for `_MultiDict` with ANY `_kconv`** (so for `MultiDict` and `MultiDictView`, where it is
    the identity, exactly as for `Headers`): assignment, other names, untouched fields, deletion -/
theorem multidict_laws (kc : α → γ) (red : List β → β) (fs : List (α × β)) (k : α) (vs : List β) :
    (∀ k', keq kc k' k = true → Gen.getAll kc (Gen.setAll kc fs k vs) k' = vs) ∧
    (∀ k', keq kc k' k = false → Gen.getAll kc (Gen.setAll kc fs k vs) k' = Gen.getAll kc fs k') ∧
    (Gen.setAll kc fs k vs).filter (fun f => !keq kc f.1 k) = fs.filter (fun f => !keq kc f.1 k) ∧
    (Gen.delItem kc red fs k = none ↔ Gen.getAll kc fs k = []) ∧
    (∀ fs', Gen.delItem kc red fs k = some fs' →
        fs' = fs.filter (fun f => !keq kc f.1 k) ∧ Gen.getAll kc fs' k = [] ∧
        ∀ k', keq kc k' k = false → Gen.getAll kc fs' k' = Gen.getAll kc fs k') :=
  ⟨fun k' h => MultiDictGen.getAll_setAll kc fs k k' vs h,
   fun k' h => MultiDictGen.getAll_setAll_other kc fs k k' vs h,
   MultiDictGen.untouched kc fs k vs,
   (MultiDictGen.del_removes_all_only kc red fs k).1,
   (MultiDictGen.del_removes_all_only kc red fs k).2⟩

/-- iteration, length and insertion of the generic `_MultiDict` -/
theorem multidict_iter_len_insert (kc : α → γ) (fs : List (α × β)) (i : Int) (k : α) (v : β) :
    Gen.len kc fs = (Gen.iter kc fs).length ∧ ((Gen.iter kc fs).map kc).Nodup ∧
    (∀ f ∈ fs, kc f.1 ∈ (Gen.iter kc fs).map kc) ∧
    (∀ k ∈ Gen.iter kc fs, (fs.find? (fun f => keq kc f.1 k)).map (·.1) = some k) ∧
    List.Sublist (Gen.iter kc fs) (fs.map (·.1)) ∧
    (Gen.insert fs i k v)[pyIndex fs.length i]? = some (k, v) ∧
    (Gen.insert fs i k v).eraseIdx (pyIndex fs.length i) = fs :=
  ⟨(MultiDictGen.len_eq_distinct kc fs).1, (MultiDictGen.len_eq_distinct kc fs).2.1,
   (MultiDictGen.len_eq_distinct kc fs).2.2.1,
   (MultiDictGen.iter_first_occurrence_spelling kc fs).1, (MultiDictGen.iter_first_occurrence_spelling kc fs).2,
   (MultiDictGen.insert_at fs i k v).1, (MultiDictGen.insert_at fs i k v).2⟩

/-- **what carries over to `MultiDictView`** (request.query, cookies, urlencoded_form, …).  The view runs the same
    `_MultiDict` methods on `getter()` and stores the result with `setter()`.  PROVIDED the parent gives back what was
    stored (`getter() after setter(fs)` is `fs` — for query strings and cookies that is a codec round trip, the
    subject of C34, and it does fail for some values), a view obeys the multimap laws on the parent's fields:
    assignment is read back, other keys and untouched fields are unaffected, deletion removes all and only the key. -/
theorem view_carries_over (kc : α → γ) (red : List β → β) (L : Gen.Lens σ α β)
    (hL : ∀ p fs, L.get (L.set p fs) = fs) (p : σ) (k : α) (vs : List β) :
    (∀ k', keq kc k' k = true → Gen.View.getAll kc L (Gen.View.setAll kc L p k vs) k' = vs) ∧
    (∀ k', keq kc k' k = false →
        Gen.View.getAll kc L (Gen.View.setAll kc L p k vs) k' = Gen.View.getAll kc L p k') ∧
    (L.get (Gen.View.setAll kc L p k vs)).filter (fun f => !keq kc f.1 k) = (L.get p).filter (fun f => !keq kc f.1 k) ∧
    (∀ p', Gen.View.delItem kc red L p k = some p' →
        L.get p' = (L.get p).filter (fun f => !keq kc f.1 k)) ∧
    Gen.View.len kc L p = (Gen.View.iter kc L p).length := by
  have laws := multidict_laws kc red (L.get p) k vs
  simp only [Gen.View.getAll, Gen.View.setAll, hL]
  refine ⟨laws.1, laws.2.1, laws.2.2.1, ?_, (MultiDictGen.len_eq_distinct kc _).1⟩
  intro p' h
  obtain ⟨fs', hfs', rfl⟩ := Option.map_eq_some_iff.mp h
  rw [hL]; exact (laws.2.2.2.2 fs' hfs').1

/-- whole histories carry over when the parent gives back only SOME field lists unchanged: it is enough that the
    getter/setter law holds on an invariant that the start fields satisfy and every permitted operation preserves -/
theorem view_run_refines_inv (kc : α → γ) (red : List β → β) (L : Gen.Lens σ α β)
    (Inv : List (α × β) → Prop) (OpOk : Gen.MOp α β → Prop)
    (hL : ∀ p fs, Inv fs → L.get (L.set p fs) = fs)
    (hstep : ∀ fs op fs', Inv fs → OpOk op → (Gen.stepOp kc red fs op).1 = some fs' → Inv fs')
    (ops : List (Gen.MOp α β)) : ∀ p : σ, Inv (L.get p) → (∀ op ∈ ops, OpOk op) →
    Gen.View.runOps kc red L p ops = Gen.runOps kc red (L.get p) ops := by
  induction ops with
  | nil => intro p _ _; rfl
  | cons op ops ih =>
    intro p hinv hok
    have hop := hok op (by simp)
    have hrest : ∀ o ∈ ops, OpOk o := fun o ho => hok o (by simp [ho])
    simp only [Gen.View.runOps, Gen.runOps, Gen.View.stepOp]
    cases h : (Gen.stepOp kc red (L.get p) op).1 with
    | none => simp [ih p hinv hrest]
    | some fs' =>
      have hinv' : Inv fs' := hstep _ op fs' hinv hop h
      have hget : L.get (L.set p fs') = fs' := hL p fs' hinv'
      simp only [Option.getD_some, hget]
      rw [ih (L.set p fs') (by rw [hget]; exact hinv') hrest, hget]

/-- **whole histories carry over.** Under the getter/setter law, ANY sequence of method calls on a `MultiDictView`
    returns what the same sequence returns on a free-standing `MultiDict` started with the parent's fields, and the
    getter shows that MultiDict's fields after every call. -/
theorem view_run_refines (kc : α → γ) (red : List β → β) (L : Gen.Lens σ α β)
    (hL : ∀ p fs, L.get (L.set p fs) = fs) (ops : List (Gen.MOp α β)) : ∀ p : σ,
    Gen.View.runOps kc red L p ops = Gen.runOps kc red (L.get p) ops :=
  fun p => view_run_refines_inv kc red L (fun _ => True) (fun _ => True) (fun p fs _ => hL p fs) (fun _ _ _ _ _ _ => trivial)
    ops p trivial (fun _ _ => trivial)

/-- `fresh_spelling` for any `_kconv` -/
theorem multidict_fresh_key (kc : α → γ) (fs : List (α × β)) (k : α) (vs : List β)
    (h : Gen.getAll kc fs k = []) : Gen.setAll kc fs k vs = fs ++ vs.map (fun v => (k, v)) :=
  MultiDictGen.setAll_fresh kc fs k vs h

end Generic

-- `MultiDictView` keys are case-SENSITIVE (`_kconv = id`): "a" and "A" are different keys there, one key in `Headers`
example : Gen.getAll (id : Bytes → Bytes) [([0x61], [0x31]), ([0x41], [0x32])] [0x61] = [[0x31]] := by decide
example : C35.getAll [([0x61], [0x31]), ([0x41], [0x32])] [0x61] = [[0x31], [0x32]] := by decide
-- without the getter/setter law nothing carries over: a parent that drops what is stored
example : Gen.View.getAll (id : Bytes → Bytes) (⟨fun _ => [], fun p _ => p⟩ : Gen.Lens Unit Bytes Bytes)
    (Gen.View.setAll id ⟨fun _ => [], fun p _ => p⟩ () [0x61] [[0x31]]) [0x61] = [] := by decide

/-- `Headers(fields, …)` raises TypeError exactly when some name or value in `fields` is not `bytes`, whatever the
    keyword arguments; otherwise it behaves as `construct` on the byte fields -/
theorem ctor_typeerror_iff (tf : List (Arg × Arg)) (kw : List (PyStr × Arg)) :
    (Api.constructFull tf kw = .error .typeError ↔ ∃ p ∈ tf, ∀ k v, p ≠ (Arg.b k, Arg.b v)) ∧
    (∀ fs, Api.typedFields tf = some fs → Api.constructFull tf kw =
        (match Api.construct fs kw with | some r => .ok r | none => .error .unicodeError)) := by
  constructor
  · have key : ∀ tf : List (Arg × Arg), Api.typedFields tf = none ↔ ∃ p ∈ tf, ∀ k v, p ≠ (Arg.b k, Arg.b v) := by
      intro tf
      fun_induction Api.typedFields tf with
      | case1 => simp
      | case2 k v r ih => simp [ih]
      | case3 tf h1 h2 =>
        cases tf with
        | nil => exact absurd rfl h1
        | cons p r => exact iff_of_true rfl ⟨p, by simp, fun k v e => h2 k v r (e ▸ rfl)⟩
    rw [← key]
    simp only [Api.constructFull]
    cases h : Api.typedFields tf with
    | none => simp
    | some fs => cases hc : Api.construct fs kw <;> simp [hc]
  · intro fs h
    simp only [Api.constructFull, h]
    cases Api.construct fs kw <;> rfl

example : Api.constructFull [(.b [0x61], .s [0x31])] [] = .error .typeError := by rfl
example : Api.constructFull [(.b [0x61], .b [0x31])] [([0x78, 0x5f, 0x79], .s [0x32])] = .ok [([0x61], [0x31]), ([0x78, 0x2d, 0x79], [0x32])] := by
  rfl

/-! ### `request.cookies`: the getter/setter law comes from C34's cookie codec theorems -/

/-- the class of pairs the Cookie header format carries.  The same conjunction as `C35CookieCodec.RepPair` and
    `Props.C34.RepPair`: stated a third time so that the hypotheses of `request_cookies_view_refines` mention neither, and
    definitionally equal to both, which is what lets the two closed forms pass their hypotheses across as they are -/
def CookiePairOk (e : PyStr × PyStr) : Prop :=
  (∀ x ∈ e.1, C34.isSemiEq x = false) ∧ C34.lstrip e.1 = e.1 ∧ (e.2 ≠ [] ∨ e.1 ≠ [])

/-- **`request.cookies` is a MultiDict over the parsed Cookie headers, for whole histories.**  For ANY Cookie header
    values and any sequence of view calls whose new keys are cookie names (values are arbitrary), every return value
    and the view's fields after every call are those of a free-standing `MultiDict` started with the parsed cookies.
    The two hypotheses are literally C34's theorems `request_cookies_view_roundtrip` (format then parse gives the pairs
    back) and `parse_yields_representable` (whatever the parser returns is in that class): `Lemmas/C35Cookie.lean`
    discharges them with the theorems of `Props/C34.lean`, `request_cookies_view_refines_closed` below with the lemmas
    both rest on.  What is proved here is that every call keeps the fields inside that class. -/
theorem request_cookies_view_refines
    (hround : ∀ ps : List (PyStr × PyStr), (∀ e ∈ ps, CookiePairOk e) → C34.getCookies (C34.setCookies ps) = ps)
    (hparse : ∀ (s : C34.Str), ∀ e ∈ C34.parseCookie s, CookiePairOk e)
    (hdrs : List C34.Str) (ops : List (Gen.MOp PyStr PyStr))
    (hops : ∀ op ∈ ops, ∀ k, MultiDictGen.MOp.key? op = some k → CookieKeyOk k) :
    Gen.View.runOps (id : PyStr → PyStr) (Gen.first []) cookieLens hdrs ops
      = Gen.runOps id (Gen.first []) (C34.getCookies hdrs) ops := by
  apply view_run_refines_inv id (Gen.first []) cookieLens (fun ps => ∀ e ∈ ps, CookiePairOk e)
    (fun op => ∀ k, MultiDictGen.MOp.key? op = some k → CookieKeyOk k)
  · intro p fs hfs
    exact hround fs hfs
  · intro fs op fs' hinv hop hs e he
    rcases MultiDictGen.mem_stepOp id (Gen.first []) fs fs' op hs e he with h1 | ⟨k, hk, hkeq⟩
    · exact hinv e h1
    · have hek : e.1 = k := by simpa [MultiDictGen.keq] using hkeq
      obtain ⟨c1, c2, c3⟩ := hop k hk
      refine ⟨by rw [hek]; exact c1, by rw [hek]; exact c2, Or.inr (by rw [hek]; exact c3)⟩
  · intro e he
    unfold cookieLens C34.getCookies at he
    rw [List.mem_flatMap] at he
    obtain ⟨h, _, hm⟩ := he
    exact hparse h e hm
  · exact hops

/-- **the function the driver runs.** `viewc` executes `cookieRun`, which additionally reports the Cookie header values
    after every call; dropping that extra column gives exactly `Gen.View.runOps … cookieLens`, the function the
    theorems above and below are about. -/
theorem cookieRun_is_view_run (init : List (PyStr × PyStr)) (ops : List (Gen.MOp PyStr PyStr)) : ∀ p : List C34.Str,
    (cookieRun init ops p).map (fun r => (r.1, r.2.1)) = Gen.View.runOps (id : PyStr → PyStr) (Gen.first []) cookieLens p ops := by
  induction ops with
  | nil => intro p; rfl
  | cons op ops ih => intro p; simp only [cookieRun, Gen.View.runOps, List.map_cons, ih]

/-- **`request_cookies_view_refines` with its hypotheses discharged** (the Cookie-header codec theorems of
    `Lemmas/C35CookieCodec.lean`, which C34 states as its own): for ANY Cookie header values and any history of view
    calls whose new keys are cookie names, `request.cookies` returns and shows what a free-standing `MultiDict`
    started with the parsed cookies returns and holds. -/
theorem request_cookies_view_refines_closed (hdrs : List C34.Str) (ops : List (Gen.MOp PyStr PyStr))
    (hops : ∀ op ∈ ops, ∀ k, MultiDictGen.MOp.key? op = some k → CookieKeyOk k) :
    Gen.View.runOps (id : PyStr → PyStr) (Gen.first []) cookieLens hdrs ops
      = Gen.runOps id (Gen.first []) (C34.getCookies hdrs) ops :=
  request_cookies_view_refines
    (fun ps h => C35CookieCodec.request_cookies_view_roundtrip ps h)
    (fun s e he => C35CookieCodec.parse_yields_representable s e he)
    hdrs ops hops

/-- what the `viewc` tie compares, end to end: `request.cookies = init` on a request without Cookie header, then the
    calls — return values and fields are those of a `MultiDict` started with `init`, provided `init` and the new keys
    are cookie names (any values) -/
theorem viewc_is_multidict (init : List (PyStr × PyStr)) (ops : List (Gen.MOp PyStr PyStr))
    (hinit : ∀ e ∈ init, CookieKeyOk e.1)
    (hops : ∀ op ∈ ops, ∀ k, MultiDictGen.MOp.key? op = some k → CookieKeyOk k) :
    (cookieRun init ops (C34.setCookies init)).map (fun r => (r.1, r.2.1)) = Gen.runOps id (Gen.first []) init ops := by
  rw [cookieRun_is_view_run, request_cookies_view_refines_closed _ ops hops]
  have : C34.getCookies (C34.setCookies init) = init :=
    C35CookieCodec.request_cookies_view_roundtrip init (fun e he => ⟨(hinit e he).1, (hinit e he).2.1, Or.inr (hinit e he).2.2⟩)
  rw [this]

example : CookieKeyOk [0x61] := ⟨by decide, by decide, by decide⟩
example : (cookieRun [([0x61], [0x31])] [.setItem [0x61] [0x78, 0x3b, 0x79], .add [0x62] [], .getItem [0x61]]
    (C34.setCookies [([0x61], [0x31])])).map (fun r => r.2.1)
    = (Gen.runOps id (Gen.first []) [([0x61], [0x31])] [.setItem [0x61] [0x78, 0x3b, 0x79], .add [0x62] [], .getItem [0x61]]).map (·.2) := by
  decide

-- "a=1; b=2" then `cookies["a"] = "x;y"` (value needs quoting), then lookup
example : (Gen.View.runOps (id : PyStr → PyStr) (Gen.first []) cookieLens [[0x61, 0x3d, 0x31, 0x3b, 0x20, 0x62, 0x3d, 0x32]]
    [.setItem [0x61] [0x78, 0x3b, 0x79], .getItem [0x61]]).map (·.2)
    = [[([0x61], [0x78, 0x3b, 0x79]), ([0x62], [0x32])], [([0x61], [0x78, 0x3b, 0x79]), ([0x62], [0x32])]] := by decide

end MitmVerif.Props.C35

-- the hypotheses of the history-level theorems hold together on concrete, non-empty inputs
namespace MitmVerif.Props.C35
open MitmVerif MitmVerif.C35
open MitmVerif.C35.Spec (ValidFields)

-- api_run_refines_total: a str-keyed assignment (other spelling of an existing name) and a bytes lookup on a non-empty object
example : Api.encTrace (Api.run [[([0x61], [0x30])]] [.kv .setItem 0 (.s [0x41]) (.b [0x31]), .k1 .getItem 0 (.b [0x61])])
    = some (Spec.run [[([0x61], [0x30])]] [.setItem 0 [0x41] [0x31], .getItem 0 [0x61]]) :=
  api_run_refines_total _ _ _ rfl (by intro t ps h; simp at h)

-- http1_roundtrip on the two-field list whose validity is shown above
example : readHeaders (splitLines (C35.toBytes [([0x48, 0x6f, 0x73, 0x74], [0x61, 0x20, 0x62]), ([0x78, 0x2d, 0x31], [])]))
    = .ok [([0x48, 0x6f, 0x73, 0x74], [0x61, 0x20, 0x62]), ([0x78, 0x2d, 0x31], [])] :=
  http1_roundtrip _ (by unfold ValidFields; decide)

-- copy_independent: two objects, every operation addresses object 1, object 0 is the same in every store of the trace
example : ∀ r ∈ C35.run [[([0x61], [0x31])], [([0x61], [0x31])]] [.setItem 1 [0x41] [0x39], .delItem 1 [0x61], .add 1 [0x62] [0x32]],
    r.2[0]? = some [([0x61], [0x31])] :=
  copy_independent _ _ 0 (by decide) (by
    intro op h
    simp only [List.mem_cons, List.not_mem_nil, or_false] at h
    rcases h with rfl | rfl | rfl <;> decide)

-- view_run_refines with a lawful lens (the parent stores the field list itself), on a history that changes the fields
example : Gen.View.runOps (id : Bytes → Bytes) (Gen.first []) (⟨id, fun _ fs => fs⟩ : Gen.Lens (List (Bytes × Bytes)) Bytes Bytes)
      [([0x61], [0x31])] [.setItem [0x41] [0x32], .getItem [0x61]]
    = Gen.runOps id (Gen.first []) [([0x61], [0x31])] [.setItem [0x41] [0x32], .getItem [0x61]] :=
  view_run_refines id (Gen.first []) ⟨id, fun _ fs => fs⟩ (fun _ _ => rfl) _ _

end MitmVerif.Props.C35
