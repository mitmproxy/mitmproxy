/-
  C26 — forwarded DNS messages keep their meaning. "Meaning" is what the specification decoder `DnsRef` (Model/C26, independent
  of the codec model) reads. Codec level: `repack_preserves` = (B) after (A) of Lemmas/C26Msg. One segment through the layer:
  `forwardUdp` / `forwardTcp` of Model/C26 (`forward_preserves*`, `forward_never_crashes*`; over TCP the layer raises exactly when
  a re-encoding exceeds 65535 bytes, `forward_tcp_crash_iff`, F-C26b). Whole connections: `history_preserves` is `run_sent` of
  Lemmas/C26Hist over the C27 layer model with an empty addon script. Delivery (`deliverable_is_forwarded*`) is Lemmas/C26Live;
  what a compressing sender may write is Lemmas/C26Comp. `spec_readable_reencode_stable`: C25's last clause, without the
  `rdataPlain` guard, for the messages `DnsRef` reads.
-/
import MitmVerif.Lemmas.C26Msg
import MitmVerif.Lemmas.C26Hist
import MitmVerif.Lemmas.C26Live
import MitmVerif.Lemmas.C26Comp
import MitmVerif.Props.C25
import MitmVerif.Props.C27
set_option linter.unusedVariables false
set_option linter.unusedSimpArgs false
namespace MitmVerif.Props.C26
open MitmVerif MitmVerif.C25 MitmVerif.C26

/-! ### concrete evaluations by the kernel (non-vacuity; kept first, they check much faster here) -/

/-- a server-style compressed response: question a.io MX; answers: MX with preference 0xC00C and a compressed
    exchange name, TXT "\\x02\\xc0\\x0c" (pointer look-alike), CNAME to a compressed name -/
def exampleResponse : Bytes :=
  [0x12,0x34,0x81,0x80,0x0,0x1,0x0,0x3,0x0,0x0,0x0,0x0, 0x1,0x61,0x2,0x69,0x6f,0x0, 0x0,0xf,0x0,0x1,
   0xc0,0xc, 0x0,0xf,0x0,0x1, 0x0,0x0,0x0,0x3c, 0x0,0x7, 0xc0,0xc, 0x2,0x6d,0x78,0xc0,0xc,
   0xc0,0xc, 0x0,0x10,0x0,0x1, 0x0,0x0,0x0,0x3c, 0x0,0x3, 0x2,0xc0,0xc,
   0xc0,0xc, 0x0,0x5,0x0,0x1, 0xc0,0xc,0xc0,0xc, 0x0,0x4, 0x1,0x57,0xc0,0x24]

/-- the specification reads it, the proxy forwards one (uncompressed, longer) datagram, and the specification reads
    that datagram identically -/
def exampleForwardOk : Bool :=
  match forwardUdp noIdna exampleResponse with
  | .done [b'] false => (DnsRef.decode exampleResponse).isSome && decide (b' ≠ exampleResponse) &&
      decide (DnsRef.decode b' = DnsRef.decode exampleResponse)
  | _ => false

private theorem exampleForward_ok : exampleForwardOk = true := by decide +kernel
example : exampleForwardOk = true := exampleForward_ok
private theorem exampleResponse_live : liveCheck exampleResponse = true := by decide +kernel
example : liveCheck exampleResponse = true := exampleResponse_live
-- www.a.io, then a.io (pointer to offset 4), then x.a.io (label + pointer)
example : cnames [] 0 [[[0x77,0x77,0x77],[0x61],[0x69,0x6f]], [[0x61],[0x69,0x6f]], [[0x78],[0x61],[0x69,0x6f]]] =
    [3,0x77,0x77,0x77,1,0x61,2,0x69,0x6f,0, 0xc0,4, 1,0x78,0xc0,4] := by decide +kernel
-- the specification rejects forward pointers and truncated records; the layer closes on a parse error
example : DnsRef.decode [0,1,1,0,0,1,0,0,0,0,0,0, 0xc0,0x0e, 0,1,0,1] = none := by decide +kernel
example : forwardUdp noIdna [0,1,1,0,0,1,0,0,0,0,0,0, 0xc0,0x0c, 0,1,0,1] = .done [] true := by decide +kernel
example : forwardTcp noIdna (frame [0,1,1,0,0,1,0,0,0,0,0,0, 1,0x61,0, 0,1,0,1]) =
    .done [frame [0,1,1,0,0,1,0,0,0,0,0,0, 1,0x61,0, 0,1,0,1]] false := by decide +kernel
-- a valid frame in front of a malformed one is forwarded, then the connection is closed
example : forwardTcp noIdna (frame [0,1,1,0,0,1,0,0,0,0,0,0, 1,0x61,0, 0,1,0,1] ++ frame [0xff]) =
    .done [frame [0,1,1,0,0,1,0,0,0,0,0,0, 1,0x61,0, 0,1,0,1]] true := by decide +kernel

def hq1 : Bytes := [0,1, 1,0, 0,1, 0,0, 0,0, 0,0, 1,0x61,0, 0,1, 0,1]
def hq2 : Bytes := [0,2, 1,0, 0,1, 0,0, 0,0, 0,0, 1,0x62,0, 0,16, 0,1]
def hr1 : Bytes := [0,1, 0x81,0x80, 0,1, 0,1, 0,0, 0,0, 1,0x61,0, 0,1, 0,1, 0xc0,0x0c, 0,1, 0,1, 0,0,0,60, 0,4, 192,0,2,1]
def hr2 : Bytes := [0,2, 0x81,0x80, 0,1, 0,1, 0,0, 0,0, 1,0x62,0, 0,16, 0,1, 0xc0,0x0c, 0,16, 0,1, 0,0,0,60, 0,3, 2,0xc0,0x0c]
/-- two queries (`hq1`, `hq2`), answered in the opposite order (`hr2`, `hr1`), all over TCP and cut into odd segments -/
def hEvents : List C27.Ev :=
  [.clientData (C27.frame hq1 ++ (C27.frame hq2).take 5), .clientData ((C27.frame hq2).drop 5),
   .serverData ((C27.frame hr2).take 1), .serverData ((C27.frame hr2).drop 1 ++ C27.frame hr1)]
def hCfg : C27.Cfg := ⟨noIdna, true, true⟩

/-- the frames this schedule delivers are the four messages, and the specification reads each forwarded frame as it
    reads the frame it was made from (replies come back in the server's order, compressed names expanded) -/
example : recvRun hCfg (C27.init [] []) hEvents = ([hq1, hq2], [hr2, hr1]) := by decide +kernel
example : ((C27.run hCfg (C27.init [] []) hEvents).2.filterMap
      (fun o => match o with | .toClient _ w => some (DnsRef.decode (w.drop 2)) | _ => none)) =
    [DnsRef.decode hr2, DnsRef.decode hr1] := by decide +kernel

-- the hypotheses of `deliverable_is_forwarded` hold for the example response (labels a, io, mx, W are plain; the deepest
-- pointer chain of the buffer has 2 hops)
example : (DnsRef.decode exampleResponse).map (fun d => d.questions.all (fun q => plainLabels q.labels) &&
    (d.answers ++ d.authorities ++ d.additionals).all (fun r => plainLabels r.labels && decide (r.rdata.length ≤ 65535))) = some true ∧
    (List.range exampleResponse.length).all (fun off => decide (hops exampleResponse off ≤ 2)) = true := by decide +kernel

/-- **C26 (codec level).** If the specification decoder reads `b` as `d` and the proxy's codec decodes `b` and
    re-encodes it as `b'`, then the specification decoder reads `b'` as the same `d`: same id and flag word, same
    questions, same records; every name label for label (case preserved); record data equal after expanding
    compressed names at the positions the RFC layout of the type defines. For every idna codec. -/
theorem repack_preserves (I : Idna) (b b' : Bytes) (d : DnsRef.RMsg) (m : Msg)
    (hd : DnsRef.decode b = some d) (hu : unpack I b = some m) (hp : pack I m = some b') :
    DnsRef.decode b' = some d :=
  decode_packed (decode_agree hd hu) hp

/-- **C26 (UDP).** A datagram that the specification decoder can read is, when `DNSLayer` forwards it unmodified,
    delivered as exactly one datagram that the specification decoder reads identically (or the layer closes on a
    parse error of its own and sends nothing). -/
theorem forward_preserves (I : Idna) (b : Bytes) (d : DnsRef.RMsg) (outs : List Bytes) (closed : Bool)
    (hd : DnsRef.decode b = some d) (hf : forwardUdp I b = .done outs closed) :
    (closed = true ∧ outs = []) ∨ (closed = false ∧ ∃ b', outs = [b'] ∧ DnsRef.decode b' = some d) := by
  unfold forwardUdp at hf
  cases hu : unpack I b with
  | none => simp [hu] at hf; exact Or.inl ⟨hf.2, hf.1⟩
  | some m =>
    simp only [hu] at hf
    cases hp : pack I m with
    | none => simp [hp] at hf
    | some b' =>
      simp [hp] at hf
      exact Or.inr ⟨hf.2, b', hf.1.symm, repack_preserves I b b' d m hd hu hp⟩

/-- a message the codec decoded always encodes again: `pack_message` cannot raise on an unmodified message -/
theorem decoded_message_encodes (I : Idna) (b : Bytes) (m : Msg) (hu : unpack I b = some m) : ∃ b', pack I m = some b' :=
  pack_ok (unpack_wellFormed0 hu)

/-- **C26 (no crash, UDP).** Forwarding an unmodified datagram either closes on a parse error or sends; the layer
    never raises. -/
theorem forward_never_crashes (I : Idna) (b : Bytes) : forwardUdp I b ≠ .crashed := by
  unfold forwardUdp
  cases hu : unpack I b with
  | none => simp
  | some m =>
    obtain ⟨b', hp⟩ := decoded_message_encodes I b m hu
    simp [hp]

/-- the messages in front of the first frame that does not parse all re-encode, and the specification reads each
    re-encoding as it reads the frame it was made from -/
private theorem unpackAll_pack (I : Idna) : ∀ bs : List Bytes, ∃ outs, mapM' (pack I) (unpackAll I bs).1 = some outs ∧
    ∀ ds, Rel2 (fun b d => DnsRef.decode b = some d) bs ds → ∃ ds1 ds2, ds = ds1 ++ ds2 ∧
      Rel2 (fun b' d => DnsRef.decode b' = some d) outs ds1 ∧ ((unpackAll I bs).2 = false → ds2 = []) := by
  intro bs
  induction bs with
  | nil => exact ⟨[], rfl, fun ds h => ⟨[], ds, rfl, Rel2.nil, fun _ => by cases h; rfl⟩⟩
  | cons b bs ih =>
    simp only [unpackAll]
    cases hu : unpack I b with
    | none => exact ⟨[], rfl, fun ds _ => ⟨[], ds, rfl, Rel2.nil, fun h => by cases h⟩⟩
    | some m =>
      obtain ⟨b', hp⟩ := decoded_message_encodes I b m hu
      obtain ⟨outs, ho, ih⟩ := ih
      refine ⟨b' :: outs, by simp [mapM', hp, ho], ?_⟩
      intro ds h
      cases h with
      | @cons _ d _ ds hd hds =>
        obtain ⟨ds1, ds2, rfl, hr, hc⟩ := ih ds hds
        exact ⟨d :: ds1, ds2, rfl, Rel2.cons (repack_preserves I b b' d m hd hu hp) hr, hc⟩

private theorem mapM'_frameC (outs : List Bytes) :
    mapM' frameC outs = if ∀ b ∈ outs, b.length < 65536 then some (outs.map frame) else none := by
  induction outs with
  | nil => simp [mapM']
  | cons b outs ih =>
    simp only [mapM', ih, frameC, List.forall_mem_cons, List.map_cons]
    by_cases h1 : b.length < 65536
    · by_cases h2 : ∀ b ∈ outs, b.length < 65536
      · simp only [h1, if_pos h2, true_and, if_true]
      · simp only [h1, if_neg h2, true_and, if_true]
    · simp only [h1, false_and, if_false]

/-- every message of a segment that the codec decodes re-encodes: `reencodings` is never an exception -/
theorem reencodings_defined (I : Idna) (data : Bytes) : ∃ outs, reencodings I data = some outs :=
  (unpackAll_pack I _).imp fun _ h => h.1

private theorem forwardTcp_eq (I : Idna) (data : Bytes) {outs : List Bytes} (ho : reencodings I data = some outs) :
    forwardTcp I data = if ∀ b' ∈ outs, b'.length < 65536
      then .done (outs.map frame) ((tcpFrames data.length data).2 || (unpackAll I (tcpFrames data.length data).1).2)
      else .crashed := by
  unfold reencodings at ho
  unfold forwardTcp
  simp only [ho, mapM'_frameC]
  by_cases h : ∀ b' ∈ outs, b'.length < 65536
  · rw [if_pos h, if_pos h]
  · rw [if_neg h, if_neg h]

/-- **C26 (when forwarding a TCP segment raises).** Exactly when one of the re-encoded messages is longer than 65535
    bytes: `struct.pack("!H", len(packed))` in `pack_message` raises and nothing in layers/dns.py catches it
    (finding F-C26b; the re-encoding expands every compression pointer, so a small compressed message can exceed
    the limit). -/
theorem forward_tcp_crash_iff (I : Idna) (data : Bytes) :
    forwardTcp I data = .crashed ↔ ∃ outs, reencodings I data = some outs ∧ ∃ b' ∈ outs, 65536 ≤ b'.length := by
  obtain ⟨outs, ho⟩ := reencodings_defined I data
  rw [forwardTcp_eq I data ho, ho]
  by_cases h : ∀ b' ∈ outs, b'.length < 65536
  · rw [if_pos h]
    refine ⟨nofun, ?_⟩
    rintro ⟨_, ⟨rfl⟩, b', hb', hlen⟩
    have := h b' hb'
    omega
  · rw [if_neg h]
    exact ⟨fun _ => ⟨outs, rfl, by simpa using h⟩, fun _ => rfl⟩

/-- **C26 (no crash, TCP).** If every re-encoded message of the segment fits the 16-bit length prefix, forwarding the
    segment does not raise. (Without the hypothesis the statement is false: `frame` alone would wrap the length
    silently, the real `pack_message` raises — see `forward_tcp_crash_iff`, `oversize_reencoding_counterexample` and
    finding F-C26b.) -/
theorem forward_never_crashes_tcp (I : Idna) (data : Bytes)
    (hfit : ∀ outs, reencodings I data = some outs → ∀ b' ∈ outs, b'.length < 65536) : forwardTcp I data ≠ .crashed := by
  intro h
  obtain ⟨outs, ho, b', hb', hlen⟩ := (forward_tcp_crash_iff I data).mp h
  have := hfit outs ho b' hb'
  omega

private theorem frame_toNat (b : Bytes) (h : b.length < 65536) :
    (UInt8.ofNat (b.length / 256)).toNat * 256 + (UInt8.ofNat (b.length % 256)).toNat = b.length := by
  rw [UInt8.toNat_ofNat_of_lt' (by omega : b.length / 256 < 256), UInt8.toNat_ofNat_of_lt' (by omega : b.length % 256 < 256)]; omega

private theorem tcpFrames_frames : ∀ (bs : List Bytes) (fuel : Nat), (∀ b ∈ bs, 0 < b.length ∧ b.length < 65536) →
    (bs.flatMap frame).length ≤ fuel → tcpFrames fuel (bs.flatMap frame) = (bs, false) := by
  intro bs
  induction bs with
  | nil => intro fuel _ _; cases fuel <;> simp [tcpFrames]
  | cons b bs ih =>
    intro fuel hb hfuel
    obtain ⟨hpos, hlt⟩ := hb b (by simp)
    cases fuel with
    | zero => simp [frame] at hfuel
    | succ fuel =>
      simp only [List.flatMap_cons, frame, List.cons_append, tcpFrames]
      rw [frame_toNat b hlt]
      have h0 : ¬ b.length = 0 := by omega
      have h1 : ¬ (b ++ bs.flatMap frame).length < b.length := by simp
      simp only [h0, h1, if_false, List.drop_left, List.take_left]
      rw [ih fuel (fun x hx => hb x (by simp [hx])) (by simp [frame] at hfuel ⊢; omega)]

/-- `forwardTcp_eq` for a stream of complete frames `bs` -/
private theorem forwardTcp_frames (I : Idna) (bs : List Bytes) (hb : ∀ b ∈ bs, 0 < b.length ∧ b.length < 65536)
    {outs : List Bytes} (ho : mapM' (pack I) (unpackAll I bs).1 = some outs) :
    reencodings I (bs.flatMap frame) = some outs ∧ forwardTcp I (bs.flatMap frame) =
      if ∀ b' ∈ outs, b'.length < 65536 then .done (outs.map frame) (unpackAll I bs).2 else .crashed := by
  have hfr := tcpFrames_frames bs _ hb (Nat.le_refl _)
  have hre : reencodings I (bs.flatMap frame) = some outs := by unfold reencodings; rw [hfr]; exact ho
  refine ⟨hre, ?_⟩
  rw [forwardTcp_eq I _ hre, hfr]
  rfl

/-- **C26 (TCP).** A segment made of complete frames, each holding a message the specification decoder can read:
    `DNSLayer` sends one frame for each of the leading messages it could parse itself, in order, and the
    specification decoder reads every forwarded message identically to the message at the same position; if the
    layer did not close the connection, that is every message of the segment. -/
theorem forward_preserves_tcp (I : Idna) (bs : List Bytes) (ds : List DnsRef.RMsg) (outs : List Bytes) (closed : Bool)
    (hb : ∀ b ∈ bs, 0 < b.length ∧ b.length < 65536) (hrel : Rel2 (fun b d => DnsRef.decode b = some d) bs ds)
    (hf : forwardTcp I (bs.flatMap frame) = .done outs closed) :
    ∃ bs' ds1 ds2, outs = bs'.map frame ∧ ds = ds1 ++ ds2 ∧ Rel2 (fun b' d => DnsRef.decode b' = some d) bs' ds1 ∧
      (closed = false → ds2 = []) := by
  obtain ⟨packed, ho, hP⟩ := unpackAll_pack I bs
  obtain ⟨ds1, ds2, hsplit, hr, hc⟩ := hP ds hrel
  rw [(forwardTcp_frames I bs hb ho).2] at hf
  split at hf
  · cases hf; exact ⟨packed, ds1, ds2, rfl, hsplit, hr, hc⟩
  · cases hf

/-- **C26 (opaque types byte for byte).** A record whose type has no name-bearing layout (TXT, A, AAAA, unknown
    types …) is decoded with exactly the bytes of its RDATA (decode side only; that the forwarded record carries the same
    bytes is `repack_preserves`: for such a type the specification's rdata is the raw RDATA, see
    `opaque_rdata_is_raw`). -/
theorem opaque_types_bytewise (buf : Bytes) (off len ty : Nat) (h : layoutOf ty = none) :
    rrData buf off len ty = some ((buf.drop off).take len) :=
  Props.C25.opaque_types_bytewise buf off len ty h

/-- the layout table generated from the code's `_RDATA_LAYOUT` is the specification's RFC table, for every type -/
theorem code_layout_is_rfc_layout (ty : Nat) : layoutOf ty = DnsRef.layout ty := layout_agrees ty

/-! ### whole connections (every interleaving of queries and replies, ids, TCP segmentation) -/

/-- **C26 (whole connection).** The layer model of C27 (`DNSLayer.state_query`/`state_done` with its flows by id, the
    pending-query check for replies, `req_buf`/`resp_buf` framing, OpenConnection results) run on *any* schedule of
    client segments, server segments and closes, with no addon touching a flow (`acts = []`) and any outcome of the
    connect attempts: every `SendData` to the server is the re-encoding `b'` of a frame `b` the client delivered, every
    `SendData` to the client is the re-encoding of a frame the server delivered — and whenever the specification decoder
    reads `b` it reads `b'` identically — or it is the SERVFAIL synthesised for a frame of the client. Nothing else is
    ever sent. (Which replies are forwarded at all — id and question section of a pending query — is C27.) -/
theorem history_preserves (c : C27.Cfg) (conns : List Bool) (evs : List C27.Ev) :
    ∀ o ∈ (C27.run c (C27.init [] conns) evs).2,
      SentOk c (recvRun c (C27.init [] conns) evs).1 (recvRun c (C27.init [] conns) evs).2 o :=
  run_sent c evs (C27.init [] conns) rfl

/-- **C26 (whole connection, any TCP segmentation).** Two schedules that interleave the same client and server byte
    streams in the same way but cut them into segments differently send the same bytes, so what one of them sends is
    justified by the frames the other delivers. -/
theorem history_preserves_any_segmentation (c : C27.Cfg) (htcp : c.tcp = true) (conns : List Bool) (evs evs' : List C27.Ev)
    (h : Props.C27.coalesce evs = Props.C27.coalesce evs') :
    ∀ o ∈ (C27.run c (C27.init [] conns) evs).2,
      SentOk c (recvRun c (C27.init [] conns) evs').1 (recvRun c (C27.init [] conns) evs').2 o := by
  rw [Props.C27.interleaved_seg_independent c htcp (C27.init [] conns) evs evs' h]
  exact history_preserves c conns evs'

/-- the frames a stream of complete, decodable frames delivers are exactly those frames, in order: for a segment of
    complete frames that arrives on an empty buffer, the frames `recvRun` counts in `history_preserves` are the messages the
    peer sent -/
theorem delivered_frames (I : Idna) : ∀ (bs : List Bytes), (∀ b ∈ bs, 0 < b.length ∧ b.length < 65536 ∧ (unpack I b).isSome = true) →
    parseB I (bs.flatMap C27.frame) = bs := by
  intro bs
  induction bs with
  | nil => intro _; exact parseB_nil I
  | cons b bs ih =>
    intro hb
    obtain ⟨hpos, hlt, hdec⟩ := hb b (by simp)
    simp only [List.flatMap_cons, C27.frame, List.cons_append]
    rw [parseB_cons2, frame_toNat b hlt]
    have h0 : ¬ b.length = 0 := by omega
    have h1 : ¬ (b ++ bs.flatMap C27.frame).length < b.length := by simp
    simp only [h0, h1, if_false, List.take_left, List.drop_left]
    cases hu : unpack I b with
    | none => simp [hu] at hdec
    | some m => simp only; rw [ih (fun x hx => hb x (by simp [hx]))]

/-! ### what a compressing encoder may write -/

/-- labels followed by a pointer to an offset below 16384 are scanned as exactly these labels and this target.
    (An encoder that writes a pointer to an offset >= 16384 — seed c26-2 — writes bytes that mean another target:
    `ptrBytes` wraps around, see the example below.) -/
theorem scanRaw_wire_ptr (ls : List Bytes) (t : Nat) (rest : Bytes) (hok : LabelsOk ls) (ht : t < 16384) :
    scanRaw (wire ls ++ ptrBytes t ++ rest) = some (ls, (wire ls).length + 2, some t) :=
  scanRaw_wire_ptrBytes ls t rest hok ht

/-- **C26 (reading a compressed name).** A name written as labels `ls1` followed by a pointer to an earlier offset `t`
    (below 16384 and below the start of this name) where the specification reads the name `ls2` is read by the
    specification as `ls1 ++ ls2` — and by the proxy's cache-based decoder as the text of exactly these labels
    (`unpackName_agrees`). This is the contract between any RFC 1035 compressing encoder and the decoder. -/
theorem compressed_name_read (buf : Bytes) (off t : Nat) (ls1 ls2 : List Bytes) (n2 : Nat) (rest : Bytes)
    (hb : buf.drop off = wire ls1 ++ ptrBytes t ++ rest) (hok : LabelsOk ls1) (ht : t < 16384) (hback : t < off)
    (h2 : DnsRef.name buf t = some (ls2, n2)) :
    DnsRef.name buf off = some (ls1 ++ ls2, (wire ls1).length + 2) ∧
    ∀ (I : Idna) (cache : Cache) (depth : Nat) (txt : Text) (n : Nat) (c' : Cache), CacheAgree I buf cache →
      unpackName I buf off cache depth = some ((txt, n), c') →
      n = (wire ls1).length + 2 ∧ NameRel I txt (ls1 ++ ls2) := by
  have hname : DnsRef.name buf off = some (ls1 ++ ls2, (wire ls1).length + 2) := by
    rw [name_unfold, hb, scanRaw_wire_ptr ls1 t rest hok ht]
    simp [hback, h2]
  refine ⟨hname, ?_⟩
  intro I cache depth txt n c' hca hu
  exact (unpackName_agrees hca.all hu).1 _ _ hname

-- 14 bits: a pointer "to 16384 + 12" is a pointer to 12
example : ptrBytes (16384 + 12) = ptrBytes 12 ∧ ptrBytes 16383 ≠ ptrBytes 0 := by decide

/-! ### delivery (the clause "is delivered to the other side"), and C25's re-encoding clause for every
    message the specification reads -/

/-- **C26 (a readable plain message is delivered, UDP).** If the specification decoder reads the datagram, its owner
    and question names consist of plain labels (ASCII, no dot, no `xn--`: exactly the labels for which the codec model
    does not consult the idna parameter), its canonical record data fits the 16-bit length field and no pointer chain
    of the buffer is deeper than the decoder's nesting limit (127), then `DNSLayer` does forward it — one datagram,
    connection left open — and the specification reads the forwarded datagram identically. For every idna codec. -/
theorem deliverable_is_forwarded (I : Idna) (b : Bytes) (d : DnsRef.RMsg) (hd : DnsRef.decode b = some d)
    (hp : Plain d) (hsh : Shallow b) :
    ∃ b', forwardUdp I b = .done [b'] false ∧ DnsRef.decode b' = some d := by
  obtain ⟨m, hu⟩ := unpack_live I b d hd hp hsh
  obtain ⟨b', hpk⟩ := decoded_message_encodes I b m hu
  exact ⟨b', by simp [forwardUdp, hu, hpk], repack_preserves I b b' d m hd hu hpk⟩

/-- the same with the precondition as a computation (`liveCheck`, tied to its Python twin): whatever passes the check is
    forwarded -/
theorem live_checked_is_forwarded (I : Idna) (b : Bytes) (h : liveCheck b = true) :
    ∃ b', forwardUdp I b = .done [b'] false ∧ DnsRef.decode b' = DnsRef.decode b := by
  unfold liveCheck at h
  cases hd : DnsRef.decode b with
  | none => simp [hd] at h
  | some d =>
    simp only [hd, Bool.and_eq_true] at h
    obtain ⟨b', h1, h2⟩ := deliverable_is_forwarded I b d hd (plain_of_check d h.1) (shallow_of_check b h.2)
    exact ⟨b', h1, h2⟩

private theorem unpackAll_live (I : Idna) : ∀ (bs : List Bytes) (ds : List DnsRef.RMsg),
    Rel2 (fun b d => DnsRef.decode b = some d ∧ Plain d ∧ Shallow b) bs ds → (unpackAll I bs).2 = false := by
  intro bs ds h
  induction h with
  | nil => rfl
  | @cons b d bs ds hbd _ ih =>
    obtain ⟨m, hu⟩ := unpack_live I b d hbd.1 hbd.2.1 hbd.2.2
    simp [unpackAll, hu, ih]

/-- **C26 (readable plain messages are delivered, TCP).** A segment of complete frames, each as in
    `deliverable_is_forwarded`, and each with a re-encoding that fits the 16-bit length prefix: one frame per message is
    sent, in order, each read identically by the specification, and the connection stays open. (Without
    the hypothesis `hfit` the layer raises: `forward_tcp_crash_iff`, finding F-C26b.) -/
theorem deliverable_is_forwarded_tcp (I : Idna) (bs : List Bytes) (ds : List DnsRef.RMsg)
    (hb : ∀ b ∈ bs, 0 < b.length ∧ b.length < 65536)
    (hrel : Rel2 (fun b d => DnsRef.decode b = some d ∧ Plain d ∧ Shallow b) bs ds)
    (hfit : ∀ outs, reencodings I (bs.flatMap frame) = some outs → ∀ b' ∈ outs, b'.length < 65536) :
    ∃ bs', forwardTcp I (bs.flatMap frame) = .done (bs'.map frame) false ∧
      Rel2 (fun b' d => DnsRef.decode b' = some d) bs' ds := by
  have hrel' : Rel2 (fun b d => DnsRef.decode b = some d) bs ds := by
    clear hb hfit
    induction hrel with
    | nil => exact Rel2.nil
    | cons h _ ih => exact Rel2.cons h.1 ih
  have hopen := unpackAll_live I bs ds hrel
  obtain ⟨packed, ho, hP⟩ := unpackAll_pack I bs
  obtain ⟨hre, hf⟩ := forwardTcp_frames I bs hb ho
  obtain ⟨ds1, ds2, hsplit, hr, hc⟩ := hP ds hrel'
  rw [hc hopen, List.append_nil] at hsplit
  subst hsplit
  exact ⟨packed, by rw [hf, if_pos (hfit packed hre), hopen], hr⟩

private theorem Rel2.flip {α β : Type} {R : α → β → Prop} {as : List α} {bs : List β} (h : Rel2 R as bs) :
    Rel2 (fun b a => R a b) bs as := by
  induction h with
  | nil => exact Rel2.nil
  | cons hab _ ih => exact Rel2.cons hab ih

/-- **C25's last clause for every message the specification reads.** If the specification decoder reads `b` and the
    codec decodes `b` as `m`, then `m` re-encodes and the re-encoding decodes to `m` again — no `rdataPlain` guard:
    the record data of such a message is the specification's canonical RDATA, which is plain (`rdata_plain`), so
    findings F-C25a/c concern only messages the specification does not read. -/
theorem spec_readable_reencode_stable (I : Idna) (b : Bytes) (d : DnsRef.RMsg) (m : Msg)
    (hd : DnsRef.decode b = some d) (hu : unpack I b = some m) :
    ∃ b', pack I m = some b' ∧ unpack I b' = some m := by
  have hrel := decode_agree hd hu
  have hplain : ∀ (rs : List RR) (rrs : List DnsRef.RRec), Rel2 (RRel I) rs rrs → ∀ r ∈ rs, rdataPlain r.type r.data = true := by
    intro rs rrs h r hr
    obtain ⟨rr, _, hrr⟩ := (Rel2.flip h).mem_right r hr
    have hc := hrr.canon rr.rdata 0 [] (by simp)
    rw [hrr.type, hrr.data]
    exact rdata_plain hc (by simp)
  apply Props.C25.reencode_stable_partial I b m hu
  exact List.forall_mem_append.mpr
    ⟨List.forall_mem_append.mpr ⟨hplain _ _ hrel.an, hplain _ _ hrel.ns⟩, hplain _ _ hrel.ar⟩

/-- **C26 (the reference compressing encoder is read back).** `cname` is an RFC 1035 §4.1.4 name encoder (the twin of
    the compressing encoder the harness builds its server-style messages with, tied by driver op `cnames`): it writes
    labels until it finds the remaining suffix in its table and then a pointer. If every table entry points below
    16384 and below the current position at a place where the specification reads exactly that suffix, the
    specification reads the encoded name as the name that was encoded. (Name level only: there is no theorem about a
    whole-message compressing encoder; `DNSMessage.packed` does not compress.) -/
theorem reference_compressor_read (buf : Bytes) (tbl : CTable) (pos : Nat) (ls : List Bytes) (rest : Bytes)
    (hb : buf.drop pos = (cname tbl pos ls).1 ++ rest) (hok : LabelsOk ls)
    (htbl : ∀ s t, tbl.lookup s = some t → t < 16384 ∧ t < pos ∧ ∃ n, DnsRef.name buf t = some (s, n)) :
    DnsRef.name buf pos = some (ls, (cname tbl pos ls).1.length) :=
  (cname_scan buf ls tbl pos pos rest hb hok (fun s t h _ => htbl s t h)).1.name (Nat.le_refl _)

/-- **C26 (everything the reference compressing encoder writes is read back).** For every list of names (labels of
    1..63 bytes): in the byte string `cnames [] 0 names` — the names written one after the other by the reference
    encoder, each suffix replaced by a pointer to its first registration below 0x4000 — the specification decoder reads
    at the offset of the i-th name exactly the i-th name. No hypothesis about tables: the table invariant is
    established by the encoder itself. -/
theorem reference_compressor_sequence_read (names : List (List Bytes)) (hok : ∀ n ∈ names, LabelsOk n) :
    Rel2 (fun off n => ∃ k, DnsRef.name (cnames [] 0 names) off = some (n, k)) (cnameOffsets [] 0 names) names :=
  cnames_read (cnames [] 0 names) names [] 0 [] (by simp) hok (by intro s t h; simp at h)

/-! ### further non-vacuity witnesses -/

-- `forward_preserves` / `repack_preserves`: all three hypotheses hold together for the compressed example response
example : ∃ d m b', DnsRef.decode exampleResponse = some d ∧ unpack noIdna exampleResponse = some m ∧
    pack noIdna m = some b' ∧ b' ≠ exampleResponse ∧ DnsRef.decode b' = some d := by
  -- read off `exampleForwardOk`, which the kernel has evaluated
  have h := exampleForward_ok
  unfold exampleForwardOk forwardUdp at h
  cases hu : unpack noIdna exampleResponse with
  | none => simp [hu] at h
  | some m =>
    cases hp : pack noIdna m with
    | none => simp [hu, hp] at h
    | some b' =>
      simp only [hu, hp, Bool.and_eq_true, decide_eq_true_eq] at h
      obtain ⟨d, hd⟩ := Option.isSome_iff_exists.mp h.1.1
      exact ⟨d, m, b', hd, rfl, hp, h.1.2, repack_preserves noIdna _ b' d m hd hu hp⟩
-- `forward_preserves_tcp`: a segment of two complete frames, both readable by the specification
example : (∀ b ∈ [hq1, hq2], 0 < b.length ∧ b.length < 65536) ∧
    (DnsRef.decode hq1).isSome = true ∧ (DnsRef.decode hq2).isSome = true ∧
    forwardTcp noIdna ([hq1, hq2].flatMap frame) = .done [frame hq1, frame hq2] false := by decide +kernel
-- `compressed_name_read` / `scanRaw_wire_ptr`: label "x" followed by a pointer to offset 12 inside the example response
example : LabelsOk [[0x78]] ∧ DnsRef.name exampleResponse 12 = some ([[0x61],[0x69,0x6f]], 6) ∧
    scanRaw (wire [[0x78]] ++ ptrBytes 12 ++ [0xff]) = some ([[0x78]], 4, some 12) := by
  refine ⟨by unfold LabelsOk; decide, by decide +kernel, scanRaw_wire_ptr [[0x78]] 12 [0xff] (by unfold LabelsOk; decide) (by decide)⟩
-- `reference_compressor_sequence_read`: its hypothesis holds for the three names of the `cnames` example above
example : ∀ n ∈ [[[0x77,0x77,0x77],[0x61],[0x69,0x6f]], [[0x61],[0x69,0x6f]], [[0x78],[0x61],[0x69,0x6f]]], LabelsOk n := by unfold LabelsOk; decide
-- `live_checked_is_forwarded` on the example: the conclusion obtained through the theorem
example : ∃ b', forwardUdp noIdna exampleResponse = .done [b'] false ∧ DnsRef.decode b' = DnsRef.decode exampleResponse :=
  live_checked_is_forwarded noIdna exampleResponse exampleResponse_live

/-! ### re-encodings that do not fit a TCP frame -/

private theorem packList_data_le {I : Idna} : ∀ (rs : List RR) (w : Bytes), packList (packRR I) rs = some w →
    ∀ r ∈ rs, r.data.length ≤ w.length := by
  intro rs
  induction rs with
  | nil => intro w _ r hr; cases hr
  | cons x rs ih =>
    intro w h r hr
    obtain ⟨a, b, hx, hrs, rfl⟩ := packList_cons_some h
    rcases List.mem_cons.mp hr with rfl | hr
    · obtain ⟨_, _, _, _, _, _, _, _, _, _, hl⟩ := packRR_layout hx (buf := a) (off := 0) (rest := []) (by simp)
      simp; omega
    · have := ih b hrs r hr
      simp; omega

private theorem pack_length_ge {I : Idna} {m : Msg} {b : Bytes} (h : pack I m = some b) :
    ∀ r ∈ m.answers, 12 + r.data.length ≤ b.length := by
  intro r hr
  obtain ⟨qsb, anb, nsb, arb, _, hanb, _, _, _, _, _, _, _, _, _, hlen⟩ := pack_some h
  have := packList_data_le _ anb hanb r hr
  omega

/-- 65535 zero bytes (never unfolded) -/
def bigData : Bytes := List.replicate 65535 0
theorem bigData_len : bigData.length = 65535 := List.length_replicate

/-- one TXT record with 65535 bytes of data under the root name -/
def oversizeMsg : Msg :=
  { id := 1, query := false, opCode := 0, aa := false, tc := false, rd := true, ra := true, reserved := 0, rcode := 0,
    questions := [], answers := [⟨[], 16, 1, 0, bigData⟩], authorities := [], additionals := [] }

/-- **C26 (a re-encoding can be too long for a TCP frame) — counter-example to the unconditional forms of
    `forward_never_crashes_tcp` / `deliverable_is_forwarded_tcp`.** There is a well-formed message whose encoding (which
    decodes back to it) is longer than 65535 bytes, so `pack_message(…, "tcp")` raises on it (`frameC = none`). That a
    SMALL compressed message can have such a re-encoding is shown on the real code and the compiled model by the corpus
    witness of finding F-C26b (corpus/C26/defect_witnesses.json: 4159 bytes in, 65638 bytes out); the kernel cannot evaluate
    the decoder on inputs of that size in reasonable time, so that instance is not a Lean `example`. -/
theorem oversize_reencoding_counterexample :
    ∃ m b', pack noIdna m = some b' ∧ unpack noIdna b' = some m ∧ frameC b' = none := by
  have hwf : WellFormed noIdna oversizeMsg := by
    refine ⟨by decide, by decide, by decide, by decide, by decide, by decide, by decide, by decide, ?_, ?_, ?_, ?_⟩
    · intro q hq; cases hq
    · intro r hr
      have hr' : r = ⟨[], 16, 1, 0, bigData⟩ := by simpa [oversizeMsg] using hr
      subst hr'
      refine ⟨Or.inl rfl, by decide, by decide, by decide, by show bigData.length < 65536; rw [bigData_len]; decide, ?_⟩
      show rdataPlain 16 bigData = true
      unfold rdataPlain
      rw [show layoutOf 16 = none by decide]
    · intro r hr; cases hr
    · intro r hr; cases hr
  obtain ⟨b', hp, hu⟩ := Props.C25.roundtrip noIdna oversizeMsg hwf
  refine ⟨oversizeMsg, b', hp, hu, ?_⟩
  have := pack_length_ge hp ⟨[], 16, 1, 0, bigData⟩ (by simp [oversizeMsg])
  have hlen : ¬ b'.length < 65536 := by
    have e : (⟨[], 16, 1, 0, bigData⟩ : RR).data.length = 65535 := bigData_len
    rw [e] at this; omega
  simp [frameC, hlen]

/-- for a record type without name-bearing layout the specification's rdata IS the raw RDATA: together with
    `repack_preserves` this is the clause "forwarded byte-for-byte" for TXT, A, AAAA and unknown types -/
theorem opaque_rdata_is_raw (buf : Bytes) (pos len ty : Nat) (h : DnsRef.layout ty = none) :
    DnsRef.rdata buf pos len ty = some ((buf.drop pos).take len) := by
  simp [DnsRef.rdata, h]

end MitmVerif.Props.C26
