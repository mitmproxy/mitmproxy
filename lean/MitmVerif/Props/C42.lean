/-
  C42 — filter expressions mean what the documented grammar says.

  `Renders t s` (Model/C42_Spec.lean): `s` is one of the documented ways of writing the tree `t` — any white space
  in front of any token, redundant parentheses anywhere, a conjunction by `&` or by juxtaposition, arguments
  unquoted or quoted with escapes, leading zeros.  `parse compiles s` (Model/C42.lean) is the model of
  `flowfilter.parse` (pyparsing grammar transcribed; `none` = ValueError); `eval sem t f` is the verdict of the
  tree on a flow, the leaves' verdicts `sem` and the regex compiler `compiles` being parameters.

  Reading: `parse_render_struct` is `atLevel` / `main` of Lemmas/C42.lean (induction over the concrete syntax: no bound
  on trees or layouts) taken at level 4 with only white space behind; the precedence theorems are its instances on
  renderings of two and three operands.  Printing: `print` (Model/C42_Print.lean) writes a `Renders` text for every
  `Printable` tree (`pr_ok`, Lemmas/C42Print.lean), so parse ∘ print = id is the reading theorem again, and
  `Printable` is exactly the range of the parser (`parseStruct_printable`, Lemmas/C42Fuel.lean, where the fuel
  theorems come from as well).  Evaluation: `eval` is the Boolean formula of the tree over the leaf verdicts
  (Lemmas/C42Eval.lean); the algebraic laws are facts about `List.all` / `List.any`.  Leaves: which part of a flow
  each operator reads, and with which flags, is the table of Model/C42_Leaf.lean and Model/C42_Body.lean, the regex
  engine `search` and the content decoder `dec` being parameters; the theorems about it are case analyses of that
  table — that the table is what the `__call__` methods do is the tie of the check (driver ops `lv`, `bd`), not a
  theorem.  `doc_eval`, `body_searched`, `eval_total` and the verdict conjunct of `parse_render` only spell
  definitions out; their docstrings say so.
-/
import MitmVerif.Lemmas.C42
import MitmVerif.Lemmas.C42Print
import MitmVerif.Lemmas.C42Eval
import MitmVerif.Model.C42_Body
import MitmVerif.Model.C42_Leaf
import MitmVerif.Lemmas.C42Fuel
namespace MitmVerif.Props.C42
open MitmVerif.C42

/-- Every documented way of writing a tree is read back as exactly that tree (class of every node, n-ary nesting,
arguments after unquoting, numbers), before regexes are compiled. -/
theorem parse_render_struct (t : Ast) (s : Str) (h : Renders t s) : parseStruct s = some t := by
  obtain ⟨e, w, he, hw, rfl, rfl⟩ := h
  have := atLevel e he (main e he) 4 (e.render ++ w).length w e.level_le_four (Nat.le_refl _)
    (by simp) (by simpa using cond_ws _ hw (r := []) trivial (Or.inl rfl))
  -- `parseAt 4 n` is `pBody (pExpr n)`, which is what `pExpr (n + 1)` unfolds to
  have h' : pExpr ((e.render ++ w).length + 1) (e.render ++ w) = some (e.ast, w) := this
  unfold parseStruct
  rw [h']
  simp [skipWs_allWs hw]

/-- `parse_render` at full strength: a documented rendering of a tree whose regexes compile is accepted and the
result IS that tree. -/
theorem parse_render_exact (compiles : Str → Str → Bool) (t : Ast) (s : Str)
    (h : Renders t s) (hc : argsOk compiles t = true) : parse compiles s = some t := by
  simp [parse, parse_render_struct t s h, hc]

/-- The property in ∃-form: every expression built from the documented operators is accepted, and on every
flow its verdict is the documented one (that of the tree that was written down), whatever the leaves answer.
The content is the first conjunct, which is `parse_render_exact` (`t' = t`); the verdict conjunct is then DEFINITIONAL
(`rfl`): it adds nothing of its own - what a tree's verdict is, is said by `eval_documented` / `eval_hom` and tied by the
`px` and `lv` ops. -/
theorem parse_render (compiles : Str → Str → Bool) (t : Ast) (s : Str)
    (h : Renders t s) (hc : argsOk compiles t = true) :
    ∃ t', parse compiles s = some t' ∧
      ∀ (Flow : Type) (sem : Sem Flow) (f : Flow), eval sem t' f = eval sem t f :=
  ⟨t, parse_render_exact compiles t s h hc, fun _ _ _ => rfl⟩

/-- The only renderings of documented expressions that are refused are those with a regex that does not compile
(`_Rex.__init__` raises ValueError). -/
theorem parse_render_uncompilable (compiles : Str → Str → Bool) (t : Ast) (s : Str)
    (h : Renders t s) (hc : argsOk compiles t = false) : parse compiles s = none := by
  simp [parse, parse_render_struct t s h, hc]

private def sp : Str := [' ']

/-- operands below every binary operator -/
private theorem low {a : C} (h : a.level ≤ 1) (kd : Kind) : a.level < kd.level :=
  Nat.lt_of_le_of_lt h (kind_level kd).1

private theorem chain2_wf (kd : Kind) (a b : C) (ha : a.WF) (hb : b.WF) (la : a.level < kd.level) (lb : b.level < kd.level) :
    (C.chain kd a (.cons sp b .nil)).WF := by
  simp only [C.WF, CL.WF, CL.isNil]
  exact ⟨la, ha, trivial, sp_allWs, fun _ => by simp [sp], lb, hb, trivial⟩

/-- a well-formed concrete tree, written out, is read back as its own syntax tree -/
private theorem parse_wf (compiles : Str → Str → Bool) (e : C) (s : Str) (he : e.WF) (hs : s = e.render)
    (hc : argsOk compiles e.ast = true) : parse compiles s = some e.ast :=
  parse_render_exact compiles _ _ ⟨e, [], he, trivial, rfl, by rw [hs, List.append_nil]⟩ hc

/-- `!` binds tighter than `&`:  `!x & y`  is  (not x) and y  — never  not (x and y). -/
theorem not_tighter_than_and (compiles : Str → Str → Bool) (x y : C) (hx : x.WF) (hy : y.WF)
    (lx : x.level ≤ 1) (ly : y.level ≤ 1)
    (cx : argsOk compiles x.ast = true) (cy : argsOk compiles y.ast = true) :
    ∃ t', parse compiles ('!' :: x.render ++ (sp ++ '&' :: y.render)) = some t' ∧
      ∀ (Flow : Type) (sem : Sem Flow) (f : Flow),
        eval sem t' f = (!eval sem x.ast f && eval sem y.ast f) := by
  have hn : (C.not [] x).WF := by simp only [C.WF]; exact ⟨trivial, lx, hx⟩
  have hwf := chain2_wf .and (.not [] x) y hn hy (by simp [C.level, Kind.level]) (low ly _)
  refine ⟨_, parse_wf compiles _ _ hwf (by simp [C.render, CL.render, Kind.opStr])
    (by simp [C.ast, CL.asts, Kind.mk, argsOk, argsOkL, cx, cy]), fun _ sem f => ?_⟩
  simp [C.ast, CL.asts, Kind.mk, eval, evalAll]

/-- `&` binds tighter than `|`:  `x & y | z`  is  (x and y) or z,  and  `x | y & z`  is  x or (y and z). -/
theorem and_tighter_than_or (compiles : Str → Str → Bool) (x y z : C) (hx : x.WF) (hy : y.WF) (hz : z.WF)
    (lx : x.level ≤ 1) (ly : y.level ≤ 1) (lz : z.level ≤ 1)
    (cx : argsOk compiles x.ast = true) (cy : argsOk compiles y.ast = true) (cz : argsOk compiles z.ast = true) :
    (∃ t', parse compiles (x.render ++ (sp ++ '&' :: y.render) ++ (sp ++ '|' :: z.render)) = some t' ∧
      ∀ (Flow : Type) (sem : Sem Flow) (f : Flow),
        eval sem t' f = ((eval sem x.ast f && eval sem y.ast f) || eval sem z.ast f)) ∧
    (∃ t', parse compiles (x.render ++ (sp ++ '|' :: (y.render ++ (sp ++ '&' :: z.render)))) = some t' ∧
      ∀ (Flow : Type) (sem : Sem Flow) (f : Flow),
        eval sem t' f = (eval sem x.ast f || (eval sem y.ast f && eval sem z.ast f))) := by
  have hxy := chain2_wf .and x y hx hy (low lx _) (low ly _)
  have hyz := chain2_wf .and y z hy hz (low ly _) (low lz _)
  have h1 := chain2_wf .or (.chain .and x (.cons sp y .nil)) z hxy hz (by simp [C.level, Kind.level]) (low lz _)
  have h2 := chain2_wf .or x (.chain .and y (.cons sp z .nil)) hx hyz (low lx _) (by simp [C.level, Kind.level])
  refine ⟨⟨_, parse_wf compiles _ _ h1 (by simp [C.render, CL.render, Kind.opStr])
      (by simp [C.ast, CL.asts, Kind.mk, argsOk, argsOkL, cx, cy, cz]), fun _ sem f => ?_⟩,
    ⟨_, parse_wf compiles _ _ h2 (by simp [C.render, CL.render, Kind.opStr])
      (by simp [C.ast, CL.asts, Kind.mk, argsOk, argsOkL, cx, cy, cz]), fun _ sem f => ?_⟩⟩
  · simp [C.ast, CL.asts, Kind.mk, eval, evalAll, evalAny]
  · simp [C.ast, CL.asts, Kind.mk, eval, evalAll, evalAny]

/-- Juxtaposition is the loosest conjunction ("the default binary operator is &", outermost):
`x y | z`  is  x and (y or z);  `x | y z`  is  (x or y) and z — also inside parentheses. -/
theorem juxtaposition_loosest (compiles : Str → Str → Bool) (x y z : C) (hx : x.WF) (hy : y.WF) (hz : z.WF)
    (lx : x.level ≤ 1) (ly : y.level ≤ 1) (lz : z.level ≤ 1)
    (cx : argsOk compiles x.ast = true) (cy : argsOk compiles y.ast = true) (cz : argsOk compiles z.ast = true) :
    (∃ t', parse compiles (x.render ++ (sp ++ (y.render ++ (sp ++ '|' :: z.render)))) = some t' ∧
      ∀ (Flow : Type) (sem : Sem Flow) (f : Flow),
        eval sem t' f = (eval sem x.ast f && (eval sem y.ast f || eval sem z.ast f))) ∧
    (∃ t', parse compiles ('(' :: (x.render ++ (sp ++ '|' :: y.render) ++ (sp ++ z.render)) ++ [')']) = some t' ∧
      ∀ (Flow : Type) (sem : Sem Flow) (f : Flow),
        eval sem t' f = ((eval sem x.ast f || eval sem y.ast f) && eval sem z.ast f)) := by
  have hyz := chain2_wf .or y z hy hz (low ly _) (low lz _)
  have hxy := chain2_wf .or x y hx hy (low lx _) (low ly _)
  have h1 := chain2_wf .juxt x (.chain .or y (.cons sp z .nil)) hx hyz (low lx _) (by simp [C.level, Kind.level])
  have h2 := chain2_wf .juxt (.chain .or x (.cons sp y .nil)) z hxy hz (by simp [C.level, Kind.level]) (low lz _)
  have h2g : (C.group [] (.chain .juxt (.chain .or x (.cons sp y .nil)) (.cons sp z .nil)) []).WF := by
    simp only [C.WF]; exact ⟨trivial, trivial, by simpa only [C.WF] using h2⟩
  refine ⟨⟨_, parse_wf compiles _ _ h1 (by simp [C.render, CL.render, Kind.opStr])
      (by simp [C.ast, CL.asts, Kind.mk, argsOk, argsOkL, cx, cy, cz]), fun _ sem f => ?_⟩,
    ⟨_, parse_wf compiles _ _ h2g (by simp [C.render, CL.render, Kind.opStr])
      (by simp [C.ast, CL.asts, Kind.mk, argsOk, argsOkL, cx, cy, cz]), fun _ sem f => ?_⟩⟩
  · simp [C.ast, CL.asts, Kind.mk, eval, evalAll, evalAny]
  · simp [C.ast, CL.asts, Kind.mk, eval, evalAll, evalAny]

/-- a concrete rendering with odd spacing, a redundant group, a quoted argument with escapes and a naked regex
containing `|`:   `!~q &( ~h "a\"b\tc"  a|b )` -/
private def ex1 : C :=
  .chain .and (.not [] (.atom [] (.unary ['q'])))
    (.cons [' '] (.group [] (.chain .juxt
        (.atom [' '] (.rex ['h'] [' '] (.quoted '"' [.raw 'a', .esc '"', .raw 'b', .esc 't', .raw 'c'])))
        (.cons [' ', ' '] (.atom [] (.bare (.word ['a', '|', 'b']))) .nil)) [' ']) .nil)

example : ex1.WF := by decide +kernel

example : String.ofList ex1.render = "!~q &( ~h \"a\\\"b\\tc\"  a|b )" := by decide +kernel

example : ex1.ast = .and [.not (.unary ['q']), .and [.rex ['h'] ['a', '"', 'b', '\t', 'c'], .rex ['u'] ['a', '|', 'b']]] := rfl

/-- the model parser does refuse things, and juxtaposition really differs from `|`-precedence -/
example : parseStruct "(~q".toList = none := by decide +kernel
example : parseStruct "~q)".toList = none := by decide +kernel
example : parseStruct "~u".toList = none := by decide +kernel
example : parseStruct "a|b".toList = some (.rex ['u'] ['a', '|', 'b']) := by rfl
example : parseStruct "a | b c".toList
    = some (.and [.or [.rex ['u'] ['a'], .rex ['u'] ['b']], .rex ['u'] ['c']]) := by rfl
/-- a regex that does not compile makes an otherwise fine expression invalid -/
example : parse (fun _ a => a != ['[']) "~q & [".toList = none := by decide +kernel

/-- The canonical text of an expressible tree is one of the documented ways of writing it. -/
theorem print_renders (t : Ast) (h : Printable t) : Renders t (print t) := by
  obtain ⟨a, _, c⟩ := pr_ok t h 3 [] (by decide) trivial
  exact ⟨pr 3 [] t, [], a, trivial, c, by simp [print]⟩

/-- parse ∘ print = id: for EVERY expressible tree (every operator code of the generated tables, every argument
string - empty, with quotes, backslashes, white space, parentheses, `~` - every number, any nesting of `!`, `&`, `|`)
the printed text is read back as exactly that tree. -/
theorem parse_print (t : Ast) (h : Printable t) : parseStruct (print t) = some t :=
  parse_render_struct t (print t) (print_renders t h)

/-- … and `flowfilter.parse` accepts it whenever its regexes compile. -/
theorem parse_print_compiles (compiles : Str → Str → Bool) (t : Ast) (h : Printable t)
    (hc : argsOk compiles t = true) : parse compiles (print t) = some t :=
  parse_render_exact compiles t (print t) (print_renders t h) hc

/-- `Printable` is exactly what the grammar can express: a tree is the parse of some text iff its codes come from the
tables and every conjunction/disjunction has at least two members. -/
theorem printable_iff_parsable (t : Ast) : Printable t ↔ ∃ s, parseStruct s = some t :=
  ⟨fun h => ⟨print t, parse_print t h⟩, fun ⟨s, h⟩ => parseStruct_printable s t h⟩

/-- The trees outside `Printable` (an unknown code, `FAnd`/`FOr` with fewer than two members, anywhere inside) are
never produced by the parser, whatever the text. -/
theorem not_printable_unparsable (t : Ast) (h : ¬ Printable t) (s : Str) : parseStruct s ≠ some t :=
  fun hs => h (parseStruct_printable s t hs)

/-- print ∘ parse is a normal form: whatever text was accepted, printing its tree and parsing again gives the same
tree (so `print (parse s)` is a canonical spelling of `s`). -/
theorem print_parse_normal (s : Str) (t : Ast) (h : parseStruct s = some t) : parseStruct (print t) = some t :=
  parse_print t (parseStruct_printable s t h)

theorem print_parse_normal_compiles (compiles : Str → Str → Bool) (s : Str) (t : Ast) (h : parse compiles s = some t) :
    parse compiles (print t) = some t := by
  unfold parse at h
  cases hp : parseStruct s with
  | none => simp [hp] at h
  | some t' =>
    simp only [hp] at h
    by_cases hc : argsOk compiles t' = true
    · simp [hc] at h
      subst h
      exact parse_print_compiles compiles t' (parseStruct_printable s t' hp) hc
    · simp [hc] at h

example : ¬ Printable (.and [.unary ['q']]) := by simp [Printable]
example : ¬ Printable (.or []) := by simp [Printable]
example : ¬ Printable (.not (.unary ['x', 'y'])) := by simp [Printable]; decide
example : String.ofList (print (.or [.and [.not (.rex ['u'] ['a', ' ', '"', '\\']), .int ['c'] 200], .rex ['b'] [],
    .not (.or [.unary ['q'], .rex ['h'] ['x', '|', 'y']])]))
    = "!~u \"a \\\"\\\\\" & ~c 200 | ~b \"\" | !(~q | ~h x|y)" := by decide +kernel

theorem eval_not {Flow : Type} (sem : Sem Flow) (f : Flow) (t : Ast) : eval sem (.not t) f = !eval sem t f := by
  simp [eval]

theorem eval_and_all {Flow : Type} (sem : Sem Flow) (f : Flow) (l : List Ast) :
    eval sem (.and l) f = l.all (fun t => eval sem t f) := by
  simp [eval, evalAll_eq]

theorem eval_or_any {Flow : Type} (sem : Sem Flow) (f : Flow) (l : List Ast) :
    eval sem (.or l) f = l.any (fun t => eval sem t f) := by
  simp [eval, evalAny_eq]

/-- The documented meaning of the composite nodes: `!` negates, a conjunction holds iff all members hold,
a disjunction iff some member holds. -/
theorem eval_documented {Flow : Type} (sem : Sem Flow) (f : Flow) :
    (∀ t, eval sem (.not t) f = !eval sem t f) ∧
    (∀ l, eval sem (.and l) f = l.all (fun t => eval sem t f)) ∧
    (∀ l, eval sem (.or l) f = l.any (fun t => eval sem t f)) :=
  ⟨eval_not sem f, eval_and_all sem f, eval_or_any sem f⟩

/-- `eval` is the homomorphic extension of the leaf valuation: the verdict of a tree is the value of the Boolean
formula it stands for under "leaf ↦ its own verdict". -/
theorem eval_hom {Flow : Type} (sem : Sem Flow) (f : Flow) (t : Ast) :
    eval sem t f = evalV (fun a => eval sem a f) t :=
  eval_evalV sem f t

/-- The verdict depends on the leaves only through their verdicts: two engines (and two flows) that agree on every
leaf of `t` agree on `t`. -/
theorem eval_congr {Flow Flow' : Type} (sem : Sem Flow) (sem' : Sem Flow') (f : Flow) (f' : Flow') (t : Ast)
    (h : ∀ a ∈ leaves t, eval sem a f = eval sem' a f') : eval sem t f = eval sem' t f' := by
  rw [eval_hom sem f t, eval_hom sem' f' t]
  exact evalV_congr _ _ t h

theorem eval_double_neg {Flow : Type} (sem : Sem Flow) (f : Flow) (t : Ast) :
    eval sem (.not (.not t)) f = eval sem t f := by
  simp [eval]

/-- De Morgan -/
theorem eval_de_morgan {Flow : Type} (sem : Sem Flow) (f : Flow) (l : List Ast) :
    eval sem (.not (.and l)) f = eval sem (.or (l.map .not)) f ∧
    eval sem (.not (.or l)) f = eval sem (.and (l.map .not)) f := by
  simp only [eval_not, eval_and_all, eval_or_any, List.any_map, List.all_map, List.not_all_eq_any_not,
    List.not_any_eq_all_not]
  exact ⟨rfl, rfl⟩

/-- Flattening: a conjunction directly inside a conjunction (a disjunction inside a disjunction) may be spliced in. -/
theorem eval_flatten {Flow : Type} (sem : Sem Flow) (f : Flow) (pre xs post : List Ast) :
    eval sem (.and (pre ++ .and xs :: post)) f = eval sem (.and (pre ++ xs ++ post)) f ∧
    eval sem (.or (pre ++ .or xs :: post)) f = eval sem (.or (pre ++ xs ++ post)) f := by
  simp [eval_and_all, eval_or_any, List.all_append, List.any_append]

/-- `And [And xs, y] ≡ And (xs ++ [y])` -/
theorem eval_and_nested {Flow : Type} (sem : Sem Flow) (f : Flow) (xs : List Ast) (y : Ast) :
    eval sem (.and [.and xs, y]) f = eval sem (.and (xs ++ [y])) f := by
  have := (eval_flatten sem f [] xs [y]).1
  simpa using this

/-- Commutativity: the verdict of a conjunction / disjunction does not depend on the order of its members. -/
theorem eval_perm {Flow : Type} (sem : Sem Flow) (f : Flow) (l l' : List Ast) (h : l.Perm l') :
    eval sem (.and l) f = eval sem (.and l') f ∧ eval sem (.or l) f = eval sem (.or l') f := by
  rw [eval_and_all, eval_and_all, eval_or_any, eval_or_any]
  exact ⟨h.all_eq, h.any_eq⟩

/-- The implicit-conjunction wrapper is absorbed: `FAnd` of one term is that term (the parser never builds it, and it
would not matter), the empty conjunction is true, the empty disjunction false, and members peel off. -/
theorem eval_wrapper {Flow : Type} (sem : Sem Flow) (f : Flow) (t : Ast) (l : List Ast) :
    eval sem (.and [t]) f = eval sem t f ∧ eval sem (.or [t]) f = eval sem t f ∧
    eval sem (.and []) f = true ∧ eval sem (.or []) f = false ∧
    eval sem (.and (t :: l)) f = (eval sem t f && eval sem (.and l) f) ∧
    eval sem (.or (t :: l)) f = (eval sem t f || eval sem (.or l) f) := by
  simp [eval_and_all, eval_or_any]

/-- wrapping the members of a conjunction in one more conjunction does not change the verdict -/
theorem eval_juxt_absorb {Flow : Type} (sem : Sem Flow) (f : Flow) (l : List Ast) :
    eval sem (.and [.and l]) f = eval sem (.and l) f := by
  simp [eval_and_all]

/-- non-vacuity of `eval_congr`: the leaves of a tree are what one expects -/
example : leaves (.or [.and [.not (.unary ['q']), .int ['c'] 7], .rex ['u'] ['x']])
    = [.unary ['q'], .int ['c'] 7, .rex ['u'] ['x']] := rfl

/-- What ~b/~bq/~bs search, case by case: nothing for a streamed body; the bytes as received without a
Content-Encoding; the decoded bytes when the decoder succeeds; the bytes AS RECEIVED when it fails.
CLAUSE MAP: the first three conjuncts are `rfl` restatements of `searched`, the last two unfold one `if`/`match`; that
`searched` is what `get_content(strict=False)` does is carried by the `bd` tie (every HTTP message of the pool).  The
statements with content are `body_searched_some` (a decoder failure never takes the body away) and `bodyLeaf_total`. -/
theorem body_searched (dec : Str → Bytes → Option Bytes) (raw : Bytes) (c : Str) (hc : c ≠ []) :
    searched dec ⟨none, some c⟩ = none ∧
    searched dec ⟨some raw, none⟩ = some raw ∧
    searched dec ⟨some raw, some []⟩ = some raw ∧
    (∀ d, dec c raw = some d → searched dec ⟨some raw, some c⟩ = some d) ∧
    (dec c raw = none → searched dec ⟨some raw, some c⟩ = some raw) := by
  refine ⟨rfl, rfl, rfl, fun d hd => ?_, fun hd => ?_⟩ <;> simp [searched, hc, hd]

/-- A message with a body always gives the operator something to search - a decoder failure never takes the body away. -/
theorem body_searched_some (dec : Str → Bytes → Option Bytes) (raw : Bytes) (ce : Option Str) :
    ∃ b, searched dec ⟨some raw, ce⟩ = some b ∧ (b = raw ∨ ∃ c, ce = some c ∧ dec c raw = some b) := by
  cases ce with
  | none => exact ⟨raw, rfl, Or.inl rfl⟩
  | some c =>
    by_cases hc : c = []
    · exact ⟨raw, by simp [searched, hc], Or.inl rfl⟩
    · cases hd : dec c raw with
      | none => exact ⟨raw, by simp [searched, hc, hd], Or.inl rfl⟩
      | some d => exact ⟨d, by simp [searched, hc, hd], Or.inr ⟨c, rfl, hd⟩⟩

/-- The leaf verdict is the search on the raw bytes when the coding cannot be applied, on the decoded bytes when it can,
and false for a streamed body.  (The last conjunct is true by typing, like `eval_total`.) -/
theorem bodyLeaf_total (search : Bytes → Bool) (dec : Str → Bytes → Option Bytes) (raw : Bytes) (c : Str) (hc : c ≠ []) :
    (dec c raw = none → bodyLeaf search dec [⟨some raw, some c⟩] = search raw) ∧
    (∀ d, dec c raw = some d → bodyLeaf search dec [⟨some raw, some c⟩] = search d) ∧
    bodyLeaf search dec [⟨none, some c⟩] = false ∧
    (∀ ms, bodyLeaf search dec ms = true ∨ bodyLeaf search dec ms = false) := by
  refine ⟨fun hd => ?_, fun d hd => ?_, by simp [bodyLeaf, searched], fun ms => ?_⟩
  · simp [bodyLeaf, searched, hc, hd]
  · simp [bodyLeaf, searched, hc, hd]
  · cases bodyLeaf search dec ms <;> simp

/-- Every tree has a verdict on every flow: evaluation never fails, whatever the leaves are.  (True by typing - `eval` is
a total Bool-valued function; stated only because the statement says "for every flow its verdict …".  That the REAL
filter call yields a Boolean on every flow is the oracle clause "raised".) -/
theorem eval_total {Flow : Type} (sem : Sem Flow) (t : Ast) (f : Flow) : eval sem t f = true ∨ eval sem t f = false := by
  cases eval sem t f <;> simp

/-- a decoder that refuses everything: the operators then search exactly what was received -/
example : bodyLeaf (fun b => b == [104, 105]) (fun _ _ => none) [⟨some [104, 105], some ['g', 'z', 'i', 'p']⟩] = true := by
  decide

/-- "regular expressions are case-insensitive Python regexes": every regex operator of the table hands its pattern to
the engine with IGNORECASE; MULTILINE exactly for ~h ~hq ~hs ~meta ~comment, DOTALL exactly for ~b ~bq ~bs; a bytes
pattern exactly for the operators that search bytes.  The literal lists are compared by evaluation with the tables
regenerated from flowfilter.py: a class whose `flags` or base class changes breaks this proof. -/
theorem rex_flags_pinned : ∀ c ∈ Gen.rexCodes, ∀ a,
    (specOf c a).pattern = a ∧ (specOf c a).ignorecase = true ∧
    (specOf c a).multiline = [['h'], ['h', 'q'], ['h', 's'], ['m', 'e', 't', 'a'], ['c', 'o', 'm', 'm', 'e', 'n', 't']].contains c ∧
    (specOf c a).dotall = [['b'], ['b', 'q'], ['b', 's']].contains c ∧
    (specOf c a).bin = ![['d'], ['d', 's', 't'], ['s', 'r', 'c'], ['u'], ['m', 'e', 't', 'a'], ['m', 'a', 'r', 'k', 'e', 'r'],
                          ['c', 'o', 'm', 'm', 'e', 'n', 't']].contains c := by
  have h : ∀ c ∈ Gen.rexCodes,
      Gen.ignoreCase = true ∧
      Gen.rexMultiline.contains c = [['h'], ['h', 'q'], ['h', 's'], ['m', 'e', 't', 'a'], ['c', 'o', 'm', 'm', 'e', 'n', 't']].contains c ∧
      Gen.rexDotall.contains c = [['b'], ['b', 'q'], ['b', 's']].contains c ∧
      Gen.rexBin.contains c = ![['d'], ['d', 's', 't'], ['s', 'r', 'c'], ['u'], ['m', 'e', 't', 'a'], ['m', 'a', 'r', 'k', 'e', 'r'],
                          ['c', 'o', 'm', 'm', 'e', 'n', 't']].contains c := by decide +kernel
  intro c hc a
  obtain ⟨h1, h2, h3, h4⟩ := h c hc
  exact ⟨rfl, h1, h2, h3, h4⟩

/-- the compiled regex depends on the operator only through its three flag tables -/
private theorem specOf_congr {c c' : Str} (a : Str) (hb : Gen.rexBin.contains c = Gen.rexBin.contains c')
    (hm : Gen.rexMultiline.contains c = Gen.rexMultiline.contains c')
    (hd : Gen.rexDotall.contains c = Gen.rexDotall.contains c') : specOf c a = specOf c' a := by
  simp only [specOf, hb, hm, hd]

private theorem spec_family (a : Str) :
    specOf ['b', 'q'] a = specOf ['b'] a ∧ specOf ['b', 's'] a = specOf ['b'] a ∧
    specOf ['h', 'q'] a = specOf ['h'] a ∧ specOf ['h', 's'] a = specOf ['h'] a ∧
    specOf ['t', 'q'] a = specOf ['t'] a ∧ specOf ['t', 's'] a = specOf ['t'] a :=
  ⟨specOf_congr a (by decide) (by decide) (by decide), specOf_congr a (by decide) (by decide) (by decide),
   specOf_congr a (by decide) (by decide) (by decide), specOf_congr a (by decide) (by decide) (by decide),
   specOf_congr a (by decide) (by decide) (by decide), specOf_congr a (by decide) (by decide) (by decide)⟩

/-- CLAUSE MAP, not an independent result: the first three conjuncts hold by `rfl` - they spell out what `docSem` is
(a regex leaf is "the regex, compiled with the operator's flags, matches one of the parts of the flow the operator
reads", `~c n` is the status test, a unary operator is `unaryV`); the last three are `eval_not` / `eval_and_all` /
`eval_or_any`.  That `leafReads` / `specOf` / `unaryV` / `intV` are what the CODE does is carried by the `lv` tie (every
operator on every pool flow, predicted vs real) - and what they imply is in `rex_flags_pinned`, `only_http`,
`only_gating`, `both_sides_split`, `body_ops_http`, `unary_table`. -/
theorem doc_eval (search : RxSpec → Bytes → Bool) (dec : Str → Bytes → Option Bytes) (f : FlowView) :
    (∀ c a, eval (docSem search dec) (.rex c a) f = (leafReads dec c f).any (search (specOf c a))) ∧
    (∀ c, eval (docSem search dec) (.unary c) f = unaryV search c f) ∧
    (∀ c n, eval (docSem search dec) (.int c n) f = intV c n f) ∧
    (∀ t, eval (docSem search dec) (.not t) f = !eval (docSem search dec) t f) ∧
    (∀ l, eval (docSem search dec) (.and l) f = l.all (fun t => eval (docSem search dec) t f)) ∧
    (∀ l, eval (docSem search dec) (.or l) f = l.any (fun t => eval (docSem search dec) t f)) :=
  ⟨fun _ _ => rfl, fun _ => rfl, fun _ _ => rfl, fun t => eval_not _ f t, fun l => eval_and_all _ f l, fun l => eval_or_any _ f l⟩

/-- The whole statement in one: a documented rendering of a tree is accepted and its verdict on every flow is the
table's reading of that tree - whatever the regex engine and the content decoder answer. -/
theorem parse_render_documented (compiles : Str → Str → Bool) (t : Ast) (s : Str)
    (h : Renders t s) (hc : argsOk compiles t = true) :
    ∃ t', parse compiles s = some t' ∧
      ∀ (search : RxSpec → Bytes → Bool) (dec : Str → Bytes → Option Bytes) (f : FlowView),
        eval (docSem search dec) t' f = eval (docSem search dec) t f := by
  obtain ⟨t', h1, h2⟩ := parse_render compiles t s h hc
  exact ⟨t', h1, fun search dec f => h2 FlowView (docSem search dec) f⟩

/-- `@only(http.HTTPFlow)`: on a flow that is not an HTTP flow the header, content-type, method, domain, status, asset
and websocket operators are false - no subject is read at all. -/
theorem only_http (search : RxSpec → Bytes → Bool) (dec : Str → Bytes → Option Bytes) (f : FlowView)
    (h : f.kind ≠ FKind.http) (a : Str) (n : Nat) :
    leafReads dec ['t'] f = [] ∧ leafReads dec ['t', 'q'] f = [] ∧ leafReads dec ['t', 's'] f = [] ∧
    leafReads dec ['h'] f = [] ∧ leafReads dec ['h', 'q'] f = [] ∧ leafReads dec ['h', 's'] f = [] ∧
    leafReads dec ['m'] f = [] ∧ leafReads dec ['d'] f = [] ∧
    rexV search dec ['h'] a f = false ∧ rexV search dec ['m'] a f = false ∧ rexV search dec ['d'] a f = false ∧
    rexV search dec ['t'] a f = false ∧
    intV ['c'] n f = false ∧ unaryV search ['a'] f = false ∧
    unaryV search ['w', 'e', 'b', 's', 'o', 'c', 'k', 'e', 't'] f = false ∧ unaryV search ['h', 't', 't', 'p'] f = false := by
  have hh : isHttp f = false := by simp [isHttp, h]
  simp [leafReads, rexV, intV, unaryV, hh]

/-- `@only(HTTPFlow, DNSFlow)` for ~u ~q ~s, `@only(HTTP, TCP, UDP, DNS)` for the body operators: false elsewhere. -/
theorem only_gating (search : RxSpec → Bytes → Bool) (dec : Str → Bytes → Option Bytes) (f : FlowView) (a : Str) :
    (f.kind ≠ FKind.http → f.kind ≠ FKind.dns →
      rexV search dec ['u'] a f = false ∧ unaryV search ['q'] f = false ∧ unaryV search ['s'] f = false) ∧
    (f.kind = FKind.other →
      rexV search dec ['b'] a f = false ∧ rexV search dec ['b', 'q'] a f = false ∧ rexV search dec ['b', 's'] a f = false) := by
  constructor
  · intro h1 h2
    have hh : isHttp f = false := by simp [isHttp, h1]
    have hd : isDns f = false := by simp [isDns, h2]
    simp [leafReads, rexV, unaryV, hh, hd]
  · intro h
    simp [leafReads, rexV, isHttp, isStream, isDns, h]

private theorem any_filter_split {α : Type} (l : List α) (p q : α → Bool) :
    l.any q = ((l.filter p).any q || (l.filter (fun x => !p x)).any q) := by
  induction l with
  | nil => rfl
  | cons x l ih =>
    cases hp : p x <;> simp [List.filter, hp, ih, Bool.or_assoc, Bool.or_left_comm]

private theorem wsPart_split (f : FlowView) (q : Bytes → Bool) :
    (wsPart f (fun _ => true)).any q = ((wsPart f (·.fromClient)).any q || (wsPart f (fun m => !m.fromClient)).any q) := by
  unfold wsPart
  cases f.ws with
  | none => rfl
  | some l =>
    have := any_filter_split l (·.fromClient) (fun m => q m.content)
    simpa [List.any_map, Function.comp_def] using this

private theorem msgPart_split (f : FlowView) (q : Bytes → Bool) :
    (msgPart f (fun _ => true)).any q = ((msgPart f (·.fromClient)).any q || (msgPart f (fun m => !m.fromClient)).any q) := by
  unfold msgPart
  have := any_filter_split f.msgs (·.fromClient) (fun m => q m.content)
  simpa [List.any_map, Function.comp_def] using this

/-- ~b = ~bq ∨ ~bs on every flow (HTTP bodies and websocket messages, TCP/UDP messages split by direction, DNS
request/response text), ~h = ~hq ∨ ~hs, ~t = ~tq ∨ ~ts. -/
theorem both_sides_split (search : RxSpec → Bytes → Bool) (dec : Str → Bytes → Option Bytes) (f : FlowView) (a : Str) :
    rexV search dec ['b'] a f = (rexV search dec ['b', 'q'] a f || rexV search dec ['b', 's'] a f) ∧
    rexV search dec ['h'] a f = (rexV search dec ['h', 'q'] a f || rexV search dec ['h', 's'] a f) ∧
    rexV search dec ['t'] a f = (rexV search dec ['t', 'q'] a f || rexV search dec ['t', 's'] a f) := by
  obtain ⟨s1, s2, s3, s4, s5, s6⟩ := spec_family a
  refine ⟨?_, ?_, ?_⟩
  · simp only [rexV, s1, s2]
    by_cases h1 : isHttp f = true
    · simp only [leafReads, h1, if_true, List.any_append]
      rw [wsPart_split f]
      simp [Bool.or_assoc, Bool.or_left_comm]
    · by_cases h2 : isStream f = true
      · simp only [leafReads, h1, h2, if_true]
        simpa using msgPart_split f (search (specOf ['b'] a))
      · by_cases h3 : isDns f = true
        · simp [leafReads, h1, h2, h3, List.any_append]
        · simp [leafReads, h1, h2, h3]
  · simp only [rexV, s3, s4]
    by_cases h1 : isHttp f = true <;> simp [leafReads, h1, List.any_append]
  · simp only [rexV, s5, s6]
    by_cases h1 : isHttp f = true <;> simp [leafReads, h1, List.any_append]

/-- ~q is "no response yet" and ~s "has a response": complementary on HTTP and DNS flows; ~replay is ~replayq or
~replays whenever `is_replay` is one of None / "request" / "response"; ~all holds of every flow; a flow that
satisfies ~tcp satisfies none of ~http ~udp ~dns. -/
theorem unary_table (search : RxSpec → Bytes → Bool) (f : FlowView) :
    ((f.kind = FKind.http ∨ f.kind = FKind.dns) → unaryV search ['q'] f = !unaryV search ['s'] f) ∧
    (f.replay ≠ Replay.other → unaryV search ['r', 'e', 'p', 'l', 'a', 'y'] f =
        (unaryV search ['r', 'e', 'p', 'l', 'a', 'y', 'q'] f || unaryV search ['r', 'e', 'p', 'l', 'a', 'y', 's'] f)) ∧
    unaryV search ['a', 'l', 'l'] f = true ∧
    (unaryV search ['t', 'c', 'p'] f = true → unaryV search ['h', 't', 't', 'p'] f = false ∧ unaryV search ['u', 'd', 'p'] f = false ∧
        unaryV search ['d', 'n', 's'] f = false) := by
  refine ⟨fun h => ?_, fun h => ?_, by simp [unaryV], fun h => ?_⟩
  · rcases h with h | h <;> simp [unaryV, isHttp, isDns, h]
  · cases hr : f.replay <;> simp_all [unaryV]
  · have : f.kind = FKind.tcp := by simpa [unaryV] using h
    simp [unaryV, isHttp, isDns, this]

/-- the flow kinds really are told apart: a DNS flow without response satisfies ~q and nothing HTTP-only -/
example : let f : FlowView := { kind := .dns, req := none, resp := none, method := [], host := [], prettyHost := [], prettyUrl := [],
                                status := 0, ws := none, msgs := [], dnsReq := some [1], dnsResp := none, dnsQName := some [100],
                                src := none, dst := none, metaText := [], marked := [], comment := [], error := false, replay := .none }
    unaryV (fun _ _ => true) ['q'] f = true ∧ leafReads (fun _ _ => none) ['u'] f = [[100]] ∧
    leafReads (fun _ _ => none) ['b'] f = [[1]] ∧ leafReads (fun _ _ => none) ['m'] f = [] := by
  decide

/-- The body operators on an HTTP flow with a response and without websocket data are the `bodyLeaf` over the request and/or
the response message: ~bq reads the request body, ~bs the response body, ~b both - each through `searched`
(decoded when the Content-Encoding can be applied, as received when it cannot, nothing when streamed). -/
theorem body_ops_http (search : RxSpec → Bytes → Bool) (dec : Str → Bytes → Option Bytes) (f : FlowView) (a : Str)
    (hk : f.kind = FKind.http) (hw : f.ws = none) (rq rs : HMsg) (hq : f.req = some rq) (hs : f.resp = some rs) :
    rexV search dec ['b', 'q'] a f = bodyLeaf (search (specOf ['b', 'q'] a)) dec [rq.body] ∧
    rexV search dec ['b', 's'] a f = bodyLeaf (search (specOf ['b', 's'] a)) dec [rs.body] ∧
    rexV search dec ['b'] a f = bodyLeaf (search (specOf ['b'] a)) dec [rq.body, rs.body] := by
  have hh : isHttp f = true := by simp [isHttp, hk]
  cases h1 : searched dec rq.body <;> cases h2 : searched dec rs.body <;>
    simp [rexV, leafReads, hh, wsPart, hw, hq, hs, bodySubj, bodyLeaf, h1, h2]

/-- Any fuel larger than the text gives the same parse: `pExpr` is one function, the fuel only makes the recursion
through parentheses structural. -/
theorem parse_fuel_independent (s : Str) (n m : Nat) (hn : s.length < n) (hm : s.length < m) :
    pExpr n s = pExpr m s :=
  (pExpr_fuel (s.length + 1) n m hn hm s (Nat.lt_succ_self _)).1

/-- `parseStruct` (which uses fuel length+1) is the parse with any larger fuel. -/
theorem parseStruct_any_fuel (s : Str) (n : Nat) (hn : s.length < n) :
    parseStruct s = (pExpr n s).bind (fun p => if skipWs p.2 = [] then some p.1 else none) := by
  unfold parseStruct
  rw [parse_fuel_independent s (s.length + 1) n (by omega) hn]
  cases pExpr n s with
  | none => rfl
  | some p => obtain ⟨t, r⟩ := p; rfl

/-- `pExpr` returns a suffix no longer than its input - as every parser of the model does (the `*_le` lemmas and the second
half of `Alike` in Lemmas/C42Fuel.lean).  That the loops' fuel `rest.length` never runs out before the text does needs
more, namely that an item consumes at least one character; that is not stated anywhere. -/
theorem parse_consumes (n : Nat) (s : Str) (t : Ast) (r : Str) (h : pExpr n s = some (t, r)) : r.length ≤ s.length :=
  (pExpr_sound n s t r h).2

-- the precedence theorems on concrete operands: their hypotheses (WF, level ≤ 1, compiling arguments) hold together,
-- and the parsed tree is the one the statement names
private def aQ : C := .atom [] (.unary ['q'])
private def aS : C := .atom [] (.unary ['s'])
private def aC : C := .atom [] (.int ['c'] [' '] ['2', '0', '0'])
private def aH : C := .atom [] (.rex ['h'] [' '] (.quoted '\'' [.raw 'x', .raw ' ', .raw 'y']))
private def okAll : Str → Str → Bool := fun _ _ => true

example : aQ.WF ∧ aS.WF ∧ aC.WF ∧ aH.WF := by decide +kernel
example : aQ.level ≤ 1 ∧ aC.level ≤ 1 ∧ aH.level ≤ 1 := by decide
example : argsOk okAll aQ.ast = true ∧ argsOk okAll aC.ast = true ∧ argsOk okAll aH.ast = true := by decide +kernel
-- `!~q &~c 200` : (not q) and c, never not (q and c)
example : parse okAll ('!' :: aQ.render ++ ([' '] ++ '&' :: aC.render))
    = some (.and [.not (.unary ['q']), .int ['c'] 200]) := by rfl
-- `~q &~s |~h 'x y'` : (q and s) or h;   `~q |~s &~h 'x y'` : q or (s and h)
example : parse okAll (aQ.render ++ ([' '] ++ '&' :: aS.render) ++ ([' '] ++ '|' :: aH.render))
    = some (.or [.and [.unary ['q'], .unary ['s']], .rex ['h'] ['x', ' ', 'y']]) := by rfl
example : parse okAll (aQ.render ++ ([' '] ++ '|' :: (aS.render ++ ([' '] ++ '&' :: aH.render))))
    = some (.or [.unary ['q'], .and [.unary ['s'], .rex ['h'] ['x', ' ', 'y']]]) := by rfl
-- juxtaposition is outermost: `~q ~s |~c 200` : q and (s or c)
example : parse okAll (aQ.render ++ ([' '] ++ (aS.render ++ ([' '] ++ '|' :: aC.render))))
    = some (.and [.unary ['q'], .or [.unary ['s'], .int ['c'] 200]]) := by rfl
-- the two readings of `!~q & ~c 200` differ on a valuation: with q true and c false, (!q & c) is false and !(q & c) true
example : eval (Flow := Unit) ⟨fun c _ => c == ['q'], fun _ _ _ => false, fun _ _ _ => false⟩
      (.and [.not (.unary ['q']), .int ['c'] 200]) ()
    ≠ eval (Flow := Unit) ⟨fun c _ => c == ['q'], fun _ _ _ => false, fun _ _ _ => false⟩
      (.not (.and [.unary ['q'], .int ['c'] 200])) () := by decide +kernel

end MitmVerif.Props.C42
