/-
  C33 — property theorems (model: Model/C33.lean): what `hostport` writes `parse_authority` reads back; host, port and url edits
  keep an existing Host header and a non-empty authority pointing to the destination; re-assigning `request.url`.

  PARTIAL RESULTS.  The full statement of the re-assignment clause is `UrlReassignIdempotent`; it is FALSE for the code
  (`url_get_set_idempotent_counterexample`, F-C33b).  Every positive result about it is a guarded (partial) one, whatever its suffix:
  `url_get_set_idempotent_partial` (hypothesis: url.parse reads the URL back), `…_ascii`, `…_ascii_rest`, `…_derived`, `…_final`
  and `url_read_back_equivalent` (guard: http/https, a lower-case ASCII host — DNS name, IPv4 or bracketed IPv6 literal; the excluded
  class is exactly F-C33b plus upper-case hosts, which read back equivalent but not identical).  From one to the next a hypothesis
  about the Python library is replaced by a transcription (`pySplit`, urllib's hostname/port reading, `normRestPy`) and a proof;
  what `…_final` still assumes is `IdnaAsciiLaw` and, for IPv6 literals, `_check_bracketed_host`.
  `parse_authority` is modelled for every Unicode decimal digit (`\d` on a str, `int()`): table `Gen.C33.pyDigitZeros`.
-/
import MitmVerif.Model.C33
import MitmVerif.Lemmas.C33Rest
import MitmVerif.Lemmas.C33Url
namespace MitmVerif.Props.C33
open MitmVerif MitmVerif.C33

/-- **decimal round trip**: `int("%d" % n) = n` -/
theorem parseDec_decDigits (n : Nat) : parseDec (decDigits n) = n := by
  rw [decDigits_eq, parseDec_map, ofDigits_zero_digits]

/-! ### ASCII digits among the Unicode decimal digits -/
private theorem digit_range (c : Nat) (h : isDigit c = true) : 48 ≤ c ∧ c ≤ 57 := by
  simpa [isDigit] using h

private theorem ascii_digit_decimalU (c : Nat) (h : isDigit c = true) : isDecimalU c = true ∧ digitValU c = c - 48 := by
  have hr := digit_range c h
  have : c = 48 ∨ c = 49 ∨ c = 50 ∨ c = 51 ∨ c = 52 ∨ c = 53 ∨ c = 54 ∨ c = 55 ∨ c = 56 ∨ c = 57 := by omega
  rcases this with rfl | rfl | rfl | rfl | rfl | rfl | rfl | rfl | rfl | rfl <;> decide +kernel

private theorem parseDecU_eq (s : Str) (h : ∀ c ∈ s, isDigit c = true) : parseDecU s = parseDec s := by
  -- the two folds read the values of the characters, `digitValU c` and `c - 48`; on ASCII digits these agree
  have e : s.map digitValU = s.map (· - 48) := List.map_congr_left fun c hc => (ascii_digit_decimalU c (h c hc)).2
  rw [parseDecU, parseDec, ← List.foldl_map (f := digitValU) (g := fun a d => a * 10 + d), e, List.foldl_map]

private theorem mem_dropWhile (p : Nat → Bool) (l : Str) (x : Nat) (hx : x ∈ l) (hp : p x = false) : x ∈ l.dropWhile p := by
  induction l with
  | nil => cases hx
  | cons y l ih =>
    by_cases h : p y = true
    · rw [List.dropWhile_cons_of_pos h]
      rcases List.mem_cons.mp hx with rfl | hx
      · rw [hp] at h; cases h
      · exact ih hx
    · rw [List.dropWhile_cons_of_neg h]; exact hx

/-! ### parse_authority ∘ hostport -/

/-- the shape of a destination host: non-empty, one line, no `]`, not starting with `[`.
    (Every name accepted by `is_valid_host` — DNS labels, IPv4 and IPv6 literals — has it.) -/
def HostShape (h : Str) : Prop := h ≠ [] ∧ 10 ∉ h ∧ 93 ∉ h ∧ h.head? ≠ some 91

/-- the port as an authority carries it -/
def portOpt (scheme : Str) (p : Nat) : Option Nat := if defaultPort scheme = some p then none else some p

/-- the port text of an authority -/
private def portStr (s : Str) (p : Nat) : Str := if defaultPort s = some p then [] else decDigits p

/-- the authority `hostport` writes: the host, bracketed if it is an IPv6 literal, then `:port` unless the port is the default one.
    What the readers below use of the port text is that it consists of ASCII digits. -/
private theorem hostport_eq (s h : Str) (p : Nat) : hostport s h p = bracket h ++ sfx 58 (portStr s p) := by
  unfold hostport portStr sfx
  split <;> simp [decDigits_ne]

private theorem portStr_digits (s : Str) (p : Nat) : ∀ c ∈ portStr s p, isDigit c = true := by
  unfold portStr
  split
  · simp
  · exact decDigits_digits p

private theorem port_notin (ds : Str) (hd : ∀ c ∈ ds, isDigit c = true) (c : Nat) (hc : c ≠ 58) (hr : ¬ (48 ≤ c ∧ c ≤ 57)) :
    c ∉ sfx 58 ds :=
  notin_sfx c 58 ds hc fun m => hr (digit_range c (hd c m))

/-- the two renderings of a host in front of a tail `t`: a bracketed IPv6 literal, or the bare name -/
private theorem bracket_cases (h t : Str) (h91 : h.head? ≠ some 91) :
    (58 ∈ h ∧ bracket h ++ t = 91 :: (h ++ 93 :: t)) ∨ (58 ∉ h ∧ bracket h ++ t = h ++ t) := by
  unfold bracket
  by_cases hc : 58 ∈ h
  · exact Or.inl ⟨hc, by simp [hc, h91]⟩
  · exact Or.inr ⟨hc, by simp [hc]⟩

private theorem tailPort_port (ds : Str) (hd : ∀ c ∈ ds, isDigit c = true) :
    tailPort (sfx 58 ds) = some (if ds = [] then none else some ds) := by
  unfold sfx
  by_cases h : ds = []
  · simp [h, tailPort]
  · simp only [h, if_false]
    unfold tailPort
    have h1 : ¬ ((58 :: ds) = [] ∨ (58 :: ds) = [10]) := by simp
    simp only [h1, if_false]
    have hdu : ∀ c ∈ ds, isDecimalU c = true := fun c hc => (ascii_digit_decimalU c (hd c hc)).1
    rw [(takeWhile_all _ _ hdu).1, (takeWhile_all _ _ hdu).2]
    simp [h]

private theorem scan_prefix (a : Str) : ∀ (pre rest : Str) (best : Option (Str × Option Str)), 93 ∉ a → 10 ∉ a →
    alt2Scan pre (a ++ rest) best = alt2Scan (pre ++ a) rest best := by
  induction a with
  | nil => intro pre rest best _ _; simp
  | cons x a ih =>
    intro pre rest best h93 h10
    have hx93 : x ≠ 93 := fun e => h93 (by simp [e])
    have hx10 : x ≠ 10 := fun e => h10 (by simp [e])
    simp only [List.cons_append, alt2Scan, hx93, hx10, false_and, if_false]
    rw [ih _ _ _ (fun m => h93 (List.mem_cons_of_mem _ m)) (fun m => h10 (List.mem_cons_of_mem _ m))]
    simp

/-- a `:port` tail with a `]` in it does not match -/
private theorem tailPort_none (r : Str) (h : 93 ∈ r) : tailPort (58 :: r) = none := by
  have hm := mem_dropWhile isDecimalU r 93 h (by decide +kernel)
  unfold tailPort
  rw [if_neg (by simp)]
  simp only
  rw [if_neg]
  rintro ⟨_, e | e⟩ <;> rw [e] at hm <;> simp at hm

private theorem authorityMatch_auth (h ds : Str) (hs : HostShape h) (hd : ∀ c ∈ ds, isDigit c = true) :
    authorityMatch (bracket h ++ sfx 58 ds) = some (h, if ds = [] then none else some ds) := by
  obtain ⟨hne, h10, h93, h91⟩ := hs
  have htail := tailPort_port ds hd
  rcases bracket_cases h (sfx 58 ds) h91 with ⟨hc, hb⟩ | ⟨hc, hb⟩
  · -- IPv6 literal: the first alternative stops at the first `:` inside the brackets and fails on the `]` after it
    obtain ⟨h1, h2, e, hn⟩ := List.eq_append_cons_of_mem hc
    have hform : 91 :: (h ++ 93 :: sfx 58 ds) = (91 :: h1) ++ 58 :: (h2 ++ 93 :: sfx 58 ds) := by rw [e]; simp
    have hrun := takeWhile_stop (fun c => c != 58) (91 :: h1) 58 (h2 ++ 93 :: sfx 58 ds)
      (all_ne 58 _ (by simp [hn])) (by decide)
    rw [hb]
    unfold authorityMatch
    simp only [hform, hrun.1, hrun.2, tailPort_none _ (List.mem_append_right h2 List.mem_cons_self), Option.map_none,
      List.cons_ne_nil, if_false]
    -- the second alternative: the scan passes over `h`, records the match at its `]`, and meets no later `]`
    rw [← hform]
    simp only
    rw [scan_prefix h [] (93 :: sfx 58 ds) none h93 h10]
    simp only [List.nil_append]
    unfold alt2Scan
    simp only [hne, ne_eq, not_false_eq_true, and_self, if_true, htail]
    have : (93 : Nat) ≠ 10 := by decide
    simp only [this, if_false]
    have := scan_prefix (sfx 58 ds) (h ++ [93]) [] (some (h, if ds = [] then none else some ds))
      (port_notin ds hd 93 (by decide) (by omega)) (port_notin ds hd 10 (by decide) (by omega))
    simp only [List.append_nil] at this
    rw [this]
    simp [alt2Scan]
  · -- no colon (DNS name or IPv4 literal): the first alternative reads `h` up to the tail
    have hrun := cut_sfx 58 h ds hc
    rw [hb]
    unfold authorityMatch
    simp only [hrun.1, hrun.2, hne, if_false, htail, Option.map_some]
    have : ¬ (h.head? = some 91 ∧ h.getLast? = some 93) := fun ⟨a, _⟩ => h91 a
    simp [this]

/-- **what hostport writes, parse_authority reads back**: same host, same port (None for the scheme's default port) -/
theorem parseAuthority_hostport (valid : Str → Bool) (s h : Str) (p : Nat)
    (hs : HostShape h) (hv : valid h = true) (hp : p ≤ 65535) :
    parseAuthority valid (hostport s h p) = some (h, portOpt s p) := by
  unfold parseAuthority portOpt
  rw [hostport_eq, authorityMatch_auth h _ hs (portStr_digits s p)]
  simp only [hv, Bool.not_true, Bool.false_eq_true, if_false]
  unfold portStr
  by_cases hd : defaultPort s = some p
  · simp [hd]
  · simp [hd, decDigits_ne, parseDecU_eq _ (decDigits_digits p), parseDec_decDigits, hp]

/-! ### host / port / url edits -/

/-- `v` (a Host header or authority value) names the request's destination -/
def PointsTo (valid : Str → Bool) (r : Req) (v : Str) : Prop :=
  parseAuthority valid v = some (r.host, portOpt r.scheme r.port)

/-- an existing Host header and a non-empty authority both name the request's destination -/
def Consistent (valid : Str → Bool) (r : Req) : Prop :=
  (∀ v, r.hostHeader = some v → PointsTo valid r v) ∧ (r.authority ≠ [] → PointsTo valid r r.authority)

/-- the destination is well formed and the authority idna round trip leaves its rendering alone (ASCII / normalised IDN) -/
def DestOk (P : UrlLib) (valid : Str → Bool) (r : Req) : Prop :=
  HostShape r.host ∧ valid r.host = true ∧ r.port ≤ 65535 ∧
    P.normAuth (hostport r.scheme r.host r.port) = hostport r.scheme r.host r.port

private theorem update_hostHeader (P : UrlLib) (r : Req) : (update P r).hostHeader.isSome = r.hostHeader.isSome := by
  unfold update; cases r.hostHeader <;> rfl

private theorem update_authority (P : UrlLib) (r : Req) (h : P.normAuth (hostport r.scheme r.host r.port) ≠ []) :
    (update P r).authority = [] ↔ r.authority = [] := by
  unfold update
  by_cases he : r.authority = [] <;> simp [he, h]

private theorem update_consistent (P : UrlLib) (valid : Str → Bool) (r : Req) (hd : DestOk P valid r) :
    Consistent valid (update P r) ∧ ((update P r).hostHeader.isSome = r.hostHeader.isSome) ∧
      ((update P r).authority = [] ↔ r.authority = []) := by
  obtain ⟨hs, hv, hp, hn⟩ := hd
  have key : PointsTo valid (update P r) (hostport r.scheme r.host r.port) :=
    parseAuthority_hostport valid r.scheme r.host r.port hs hv hp
  refine ⟨⟨?_, ?_⟩, update_hostHeader P r, update_authority P r (by rw [hn]; exact hostport_ne _ _ _ hs.1)⟩
  · intro v hv'
    obtain ⟨_, _, rfl⟩ := Option.map_eq_some_iff.mp hv'
    exact key
  · intro ha
    have he : r.authority ≠ [] := fun he => ha (by simp [update, he])
    have e : (update P r).authority = hostport r.scheme r.host r.port := by simp [update, he, hn]
    rw [e]; exact key

private theorem update_fields (P : UrlLib) (r : Req) :
    (update P r).scheme = r.scheme ∧ (update P r).host = r.host ∧ (update P r).port = r.port := ⟨rfl, rfl, rfl⟩

/-- **C33 (edits).** Take any request (HTTP/1 or HTTP/2, with or without Host header / authority) and apply a host edit, a port
    edit, or a url edit that is accepted.  If the resulting destination is well formed, then an existing Host header is still there
    and parses to the new host and port, and a non-empty authority stays non-empty and parses to the new host and port.
    (`hne`: the authority round trip never turns a non-empty value into the empty one.) -/
theorem host_port_edit_keeps_host_header_and_authority_pointing_to_destination
    (P : UrlLib) (valid : Str → Bool) (r : Req) (e : Edit)
    (hacc : ∀ u, e = .url u → (setUrl P r u).isSome)
    (hne : ∀ x, x ≠ [] → P.normAuth x ≠ [])
    (hd : DestOk P valid (applyEdit P r e)) :
    Consistent valid (applyEdit P r e) ∧
      ((applyEdit P r e).hostHeader.isSome = r.hostHeader.isSome) ∧
      ((applyEdit P r e).authority = [] ↔ r.authority = []) := by
  cases e with
  | host h => exact update_consistent P valid { r with host := h } hd
  | port p => exact update_consistent P valid { r with port := p } hd
  | url u =>
    obtain ⟨r', hr'⟩ := Option.isSome_iff_exists.mp (hacc u rfl)
    obtain ⟨s, h, p, path, _, rfl⟩ := setUrl_some P r u r' hr'
    simp only [applyEdit, hr', Option.getD_some] at hd ⊢
    -- the port edit is an `update` of r1, after the host edit's `update` of r0; the path assignment touches none of the observed fields
    let r0 : Req := { r with scheme := s, host := h }
    let r1 : Req := { update P r0 with port := p }
    obtain ⟨c, hh, ha⟩ := update_consistent P valid r1 hd
    exact ⟨c, hh.trans (update_hostHeader P r0),
      ha.trans (update_authority P r0 (hne _ (hostport_ne _ _ _ hd.1.1)))⟩

/-! ### url getter / setter -/

private theorem update_idem (P : UrlLib) (r : Req) : update P (update P r) = update P r := by
  unfold update
  cases hh : r.hostHeader <;> by_cases ha : r.authority = [] <;> simp [ha]
  all_goals
    by_cases hn : P.normAuth (hostport r.scheme r.host r.port) = [] <;> simp [hn]

/-- the full statement: assigning the URL read back changes nothing, whenever urlsplit reads the three parts of the canonical URL back -/
def UrlReassignIdempotent : Prop :=
  ∀ (P : UrlLib) (r : Req) (u : Str) (r' : Req), setUrl P r u = some r' →
    P.split (url r') = some (r'.scheme, hostport r'.scheme r'.host r'.port, r'.path) →
    setUrl P r' (url r') = some r'

private theorem update_path_fix (P : UrlLib) (r0 : Req) (π : Str) :
    update P { update P r0 with path := π } = { update P r0 with path := π } := by
  show ({ update P (update P r0) with path := π } : Req) = _
  rw [update_idem]

/-- **"scheme, host, port and path read back consistently with it"**: after an accepted assignment the four fields are exactly what
    `url.parse` made of the URL -/
theorem setUrl_fields (P : UrlLib) (r : Req) (u : Str) (r' : Req) (h : setUrl P r u = some r') :
    urlParse P u = some (r'.scheme, r'.host, r'.port, r'.path) := by
  obtain ⟨s, hh, p, path, hp, rfl⟩ := setUrl_some P r u r' h
  exact hp

/-- **C33 (url, partial).** If `url.parse` reads the URL that the getter returns back into the request's own fields — which it does
    for ASCII hosts — then assigning `request.url` again leaves the request exactly as it is (Host header and authority included). -/
theorem url_get_set_idempotent_partial (P : UrlLib) (r : Req) (u : Str) (r' : Req) (h1 : setUrl P r u = some r')
    (hcanon : urlParse P (url r') = some (r'.scheme, r'.host, r'.port, r'.path)) :
    setUrl P r' (url r') = some r' := by
  have hfix : update P r' = r' := by
    obtain ⟨s, h, p, path, _, rfl⟩ := setUrl_some P r u r' h1
    exact update_path_fix P _ path
  unfold setUrl
  rw [hcanon]
  -- both setters are `update`s of a request whose scheme, host and port are already those of `r'`
  show some ({ update P (update P r') with path := r'.path } : Req) = some r'
  rw [hfix, hfix]

/-! ### url.parse reads the getter's URL back (urlsplit's scheme/netloc reading and the netloc → host/port reading transcribed) -/

private theorem afterLast_notin (c : Nat) (s : Str) (h : c ∉ s) : afterLast c s = s := by
  unfold afterLast
  rw [(takeWhile_all _ _ (all_ne c _ (by simpa using h))).1, List.reverse_reverse]

/-- an ASCII destination host as the getter writes it: well shaped, lower case, and free of the characters that delimit a netloc -/
structure HostOk (h : Str) : Prop where
  shape : HostShape h
  lower : lower h = h
  ascii : ∀ c ∈ h, c < 128
  clean : ∀ c ∈ h, c ≠ 9 ∧ c ≠ 13 ∧ c ≠ 47 ∧ c ≠ 63 ∧ c ≠ 35 ∧ c ≠ 64 ∧ c ≠ 37 ∧ c ≠ 91

/-- a request whose URL the getter renders as `scheme://host[:port]/path…`; the last four fields are the named hypotheses about the
    Python library that are NOT proved here: `_check_bracketed_host` accepts the IPv6 literal, the IDNA round trip leaves the (ASCII)
    host alone, `is_valid_host` accepts it, and re-assembling the text after the netloc (`urlunparse` of `urlparse`'s path, params,
    query, fragment) gives back the request's path -/
structure GetterUrlOk (Q : PyLib) (r : Req) : Prop where
  notConnect : r.method.map upperC ≠ S "CONNECT"
  scheme : r.scheme = S "http" ∨ r.scheme = S "https"
  host : HostOk r.host
  port : 1 ≤ r.port ∧ r.port ≤ 65535
  pathSlash : r.path.head? = some 47
  pathAscii : ∀ c ∈ r.path, c < 128 ∧ c ≠ 9 ∧ c ≠ 10 ∧ c ≠ 13
  bracketedOk : 58 ∈ r.host → Q.validBracketed r.host = true
  idnaAscii : Q.idnaRt r.host = some r.host
  hostValid : Q.validHost r.host = true
  restStable : Q.normRest r.scheme r.path = r.path

/-- urllib's reading of a netloc `host[:digits]` -/
private theorem hostinfo_auth (h ds : Str) (hk : HostOk h) (hd : ∀ c ∈ ds, isDigit c = true) :
    hostinfo (bracket h ++ sfx 58 ds) = (h, ds) := by
  obtain ⟨⟨_, _, h93, h91⟩, _, _, hclean⟩ := hk
  have n64 : 64 ∉ h := fun m => (hclean 64 m).2.2.2.2.2.1 rfl
  have n91 : 91 ∉ h := fun m => (hclean 91 m).2.2.2.2.2.2.2 rfl
  have t_no := port_notin ds hd
  rcases bracket_cases h (sfx 58 ds) h91 with ⟨hc, e⟩ | ⟨hc, e⟩
  · have na : 64 ∉ 91 :: (h ++ 93 :: sfx 58 ds) := by simp [n64, t_no 64 (by decide) (by omega)]
    rw [e]
    simp only [hostinfo, afterLast_notin 64 _ na, partition, reduceIte, partition_stop 93 h _ h93]
    exact congrArg _ (partition_sfx 58 [] _ (by simp)).2
  · have na : 64 ∉ h ++ sfx 58 ds := by simp [n64, t_no 64 (by decide) (by omega)]
    have nb : 91 ∉ h ++ sfx 58 ds := by simp [n91, t_no 91 (by decide) (by omega)]
    rw [e]
    obtain ⟨a, b⟩ := partition_sfx 58 h ds hc
    simp only [hostinfo, afterLast_notin 64 _ na, partition_notin 91 _ nb, a, b]

/-- urllib's netloc reading inverts `hostport`: the host, and the port TEXT (`portStr`, private to this file); the port number
    read from it is `portOf_hostport` -/
theorem netloc_hostport (s h : Str) (p : Nat) (hk : HostOk h) :
    hostname (hostport s h p) = some h ∧ (hostinfo (hostport s h p)).2 = portStr s p := by
  have hinfo : hostinfo (hostport s h p) = (h, portStr s p) := by
    rw [hostport_eq]; exact hostinfo_auth h _ hk (portStr_digits s p)
  refine ⟨?_, by rw [hinfo]⟩
  have n37 : 37 ∉ h := fun m => (hk.clean 37 m).2.2.2.2.2.2.1 rfl
  unfold hostname
  rw [hinfo]
  simp only [hk.shape.1, if_false, partition_notin 37 h n37]
  simp [hk.lower]

private theorem portOf_hostport (s h : Str) (p : Nat) (hk : HostOk h) (hp : p ≤ 65535) :
    portOf (hostport s h p) = some (if defaultPort s = some p then none else some p) := by
  unfold portOf
  rw [(netloc_hostport s h p hk).2]
  unfold portStr
  by_cases hd : defaultPort s = some p
  · simp [hd]
  · simp only [hd, if_false, decDigits_ne, parseDec_decDigits, hp, if_true]
    have : (decDigits p).all isDigit = true := List.all_eq_true.mpr (decDigits_digits p)
    simp [this]

private theorem hostport_chars (s h : Str) (p : Nat) : ∀ c ∈ hostport s h p, c ∈ h ∨ c = 91 ∨ c = 93 ∨ c = 58 ∨ isDigit c = true := by
  intro c hc
  rw [hostport_eq, List.mem_append] at hc
  rcases hc with hc | hc
  · unfold bracket at hc
    split at hc
    · simp only [List.mem_cons, List.mem_append, List.not_mem_nil, or_false] at hc
      rcases hc with rfl | hc | rfl
      · exact Or.inr (Or.inl rfl)
      · exact Or.inl hc
      · exact Or.inr (Or.inr (Or.inl rfl))
    · exact Or.inl hc
  · rcases mem_sfx 58 _ c hc with e | e
    · exact Or.inr (Or.inr (Or.inr (Or.inl e)))
    · exact Or.inr (Or.inr (Or.inr (Or.inr (portStr_digits s p c e))))

/-- urlsplit's scheme/netloc reading on a URL rendered by the getter -/
private theorem pySplit_getter (vb : Str → Bool) (s h : Str) (p : Nat) (path : Str)
    (hs0 : s ≠ []) (hal : isAsciiAlpha (s.headD 0) = true) (hsc : s.all isSchemeChar = true) (hlow : lower s = s)
    (hk : HostOk h) (hslash : path.head? = some 47)
    (hpath : ∀ c ∈ path, c ≠ 9 ∧ c ≠ 10 ∧ c ≠ 13) (hvb : 58 ∈ h → vb h = true) :
    pySplit vb (s ++ S "://" ++ hostport s h p ++ path) = some (s, hostport s h p, path) := by
  obtain ⟨⟨hne, h10, h93, h91⟩, _, _, hclean⟩ := hk
  have hp_ok : ∀ c ∈ hostport s h p, isUnsafe c = false ∧ isNetlocEnd c = false := by
    intro c hc
    rcases hostport_chars s h p c hc with m | rfl | rfl | rfl | d
    · obtain ⟨a, b, c1, c2, c3, _⟩ := hclean c m
      have : c ≠ 10 := fun e => h10 (e ▸ m)
      simp [isUnsafe, isNetlocEnd, a, b, c1, c2, c3, this]
    · decide
    · decide
    · decide
    · have := digit_range c d
      simp [isUnsafe, isNetlocEnd]; omega
  obtain ⟨p0, rfl⟩ := List.head?_eq_some_iff.mp hslash
  have hnet := takeWhile_stop (fun c => !isNetlocEnd c) (hostport s h p) 47 p0
    (by intro c hc; simp [(hp_ok c hc).2]) (by decide)
  have hbr : ((hostport s h p).contains 91 != (hostport s h p).contains 93) = false ∧
      ((hostport s h p).contains 91 && !vb (partition 93 (partition 91 (hostport s h p)).2.2).1) = false := by
    have n91 : 91 ∉ h := fun m => (hclean 91 m).2.2.2.2.2.2.2 rfl
    have t_no := port_notin _ (portStr_digits s p)
    rw [hostport_eq]
    rcases bracket_cases h (sfx 58 (portStr s p)) h91 with ⟨hc, e⟩ | ⟨hc, e⟩
    · rw [e]
      simp [partition, partition_stop 93 h _ h93, hvb hc]
    · rw [e]
      simp [n91, h93, t_no 91 (by decide) (by omega), t_no 93 (by decide) (by omega)]
  have e : s ++ S "://" ++ hostport s h p ++ 47 :: p0 = s ++ 58 :: (47 :: 47 :: (hostport s h p ++ 47 :: p0)) := by
    have : S "://" = [58, 47, 47] := by decide
    simp [this]
  -- a scheme character, a character of the authority and one of the path is none of TAB, LF, CR: cleaning changes nothing
  have hu : ∀ c ∈ s ++ 58 :: (47 :: 47 :: (hostport s h p ++ 47 :: p0)), isUnsafe c = false := by
    simp only [List.mem_append, List.mem_cons]
    rintro c (m | rfl | rfl | rfl | m | m)
    · exact (schemeChar_plain c (List.all_eq_true.mp hsc c m)).2
    · decide
    · decide
    · decide
    · exact (hp_ok c m).1
    · obtain ⟨a, b, d⟩ := hpath c (List.mem_cons.mpr m)
      simp [isUnsafe, a, b, d]
  unfold pySplit
  rw [e, cleanUrl_clean _ (by rw [headD_append s _ hs0]; exact hal) hu, schemeSplit_scheme s _ hs0 hal hsc, hlow]
  simp only [List.take, List.drop, hnet.1, hnet.2, hbr.1, hbr.2]
  simp

/-- what is used of the two schemes the getter theorems are about -/
private theorem scheme_facts (s : Str) (hs : s = S "http" ∨ s = S "https") :
    s ≠ [] ∧ isAsciiAlpha (s.headD 0) = true ∧ s.all isSchemeChar = true ∧ lower s = s ∧ (∀ c ∈ s, c < 128) ∧
      defaultPort s = some (if s = S "https" then 443 else 80) := by
  rcases hs with rfl | rfl <;> decide

/-- **url.parse reads the getter's URL back.** With urlsplit's scheme/netloc reading (`pySplit`) and the netloc → hostname/port
    reading transcribed, `url.parse(request.url)` returns the request's own scheme, host, port and path — for http/https, hosts that
    are lower-case ASCII DNS names, IPv4 literals or (bracketed) IPv6 literals, every port 1…65535 (default ports elided), ASCII
    paths.  The library facts that remain hypotheses are the last four fields of `GetterUrlOk`. -/
theorem url_parse_reads_getter_url (Q : PyLib) (r : Req) (ok : GetterUrlOk Q r) :
    urlParse (pyLib Q) (url r) = some (r.scheme, r.host, r.port, r.path) := by
  obtain ⟨hm, hs, hk, ⟨hp1, hp2⟩, hslash, hpa, hvb, hidna, hvalid, hrest⟩ := ok
  have hurl : url r = r.scheme ++ S "://" ++ hostport r.scheme r.host r.port ++ r.path := url_eq_unparse r hm hslash
  obtain ⟨hs0, hal, hsc, hlow, hs128, hdp⟩ := scheme_facts r.scheme hs
  have hsplit := pySplit_getter Q.validBracketed r.scheme r.host r.port r.path hs0 hal hsc hlow hk hslash
    (fun c hc => (hpa c hc).2) hvb
  obtain ⟨hhost, _⟩ := netloc_hostport r.scheme r.host r.port hk
  have hport := portOf_hostport r.scheme r.host r.port hk hp2
  have hascii : ∀ c ∈ url r, c < 128 := by
    intro c hc
    rw [hurl] at hc
    simp only [List.mem_append] at hc
    rcases hc with ((hc | hc) | hc) | hc
    · exact hs128 c hc
    · revert c; decide
    · rcases hostport_chars _ _ _ c hc with m | rfl | rfl | rfl | d
      · exact hk.ascii c m
      · decide
      · decide
      · decide
      · have := digit_range c d; omega
    · exact (hpa c hc).1
  have hsp : (pyLib Q).split (url r) = some (r.scheme, hostport r.scheme r.host r.port, r.path) := by
    show (pySplit Q.validBracketed (url r)).map _ = _
    rw [hurl, hsplit]
    simp [hrest, hslash]
  refine (urlParse_some (pyLib Q) _ _ _ _ _).mpr ⟨_, _, _, hsp, hhost, hidna, hascii, hport, hvalid, ?_⟩
  -- the port read is the request's own: a default port was elided and is put back, any other is written and is not 0
  by_cases hd : defaultPort r.scheme = some r.port
  · simp only [hd, if_true]
    rw [hdp] at hd
    exact (Option.some.inj hd).symm
  · have : r.port ≠ 0 := by omega
    simp [hd, this]

/-- **C33 (url).** Assigning `request.url` again leaves the request exactly as it is — without the "url.parse reads it back"
    hypothesis: it is discharged by `url_parse_reads_getter_url` for every request the setter produces whose fields satisfy
    `GetterUrlOk` (http/https, ASCII host, ASCII path). -/
theorem url_get_set_idempotent_ascii (Q : PyLib) (r : Req) (u : Str) (r' : Req) (h1 : setUrl (pyLib Q) r u = some r')
    (ok : GetterUrlOk Q r') : setUrl (pyLib Q) r' (url r') = some r' :=
  url_get_set_idempotent_partial (pyLib Q) r u r' h1 (url_parse_reads_getter_url Q r' ok)

/-! ### the `restStable` hypothesis, derived: the re-assembly after the netloc is transcribed (`normRestPy`) and idempotent -/

/-- **`restStable` is a theorem** for the transcribed re-assembly: the path of any request produced by the URL setter is left alone
    by `urlunparse ∘ urlparse` -/
theorem restStable_of_setUrl (Q : PyLib) (r : Req) (u : Str) (r' : Req) (h : setUrl (pyLib (withRest Q)) r u = some r') :
    (withRest Q).normRest r'.scheme r'.path = r'.path := by
  obtain ⟨rest, hrest⟩ := urlParse_path_form (withRest Q) u _ _ _ _ (setUrl_fields _ r u r' h)
  rw [hrest, withRest_normRest]
  exact normRestPy_stored r'.scheme rest

/-- the hypotheses of `url_get_set_idempotent_ascii` WITHOUT `restStable` -/
structure GetterUrlOk2 (Q : PyLib) (r : Req) : Prop where
  notConnect : r.method.map upperC ≠ S "CONNECT"
  scheme : r.scheme = S "http" ∨ r.scheme = S "https"
  host : HostOk r.host
  port : 1 ≤ r.port ∧ r.port ≤ 65535
  pathSlash : r.path.head? = some 47
  pathAscii : ∀ c ∈ r.path, c < 128 ∧ c ≠ 9 ∧ c ≠ 10 ∧ c ≠ 13
  bracketedOk : 58 ∈ r.host → Q.validBracketed r.host = true
  idnaAscii : Q.idnaRt r.host = some r.host
  hostValid : Q.validHost r.host = true

/-- **C33 (url), with the rest re-assembly transcribed.** Re-assigning `request.url` changes nothing; of the library hypotheses only
    `_check_bracketed_host`, the IDNA round trip of an ASCII host and `is_valid_host` remain. -/
theorem url_get_set_idempotent_ascii_rest (Q : PyLib) (r : Req) (u : Str) (r' : Req)
    (h1 : setUrl (pyLib (withRest Q)) r u = some r') (ok : GetterUrlOk2 Q r') :
    setUrl (pyLib (withRest Q)) r' (url r') = some r' :=
  url_get_set_idempotent_ascii (withRest Q) r u r' h1
    { ok with restStable := restStable_of_setUrl Q r u r' h1 }

example : normRestPy (S "http") (S "/a;b/c;?q=1?x#") = S "/a;b/c?q=1?x" ∧ normRestPy (S "http") (S "?x#f") = S "?x#f" ∧
    normRestPy (S "http") (S "/p;k=v;w?") = S "/p;k=v;w" ∧ normRestPy (S "gopher") (S "/p;k") = S "/p;k" := by decide +kernel

/-! ### more of `GetterUrlOk` derived from the setter's own success: port range, leading `/`, `is_valid_host`, the IDNA round trip -/

/-- ASCII host names pass through the IDNA codec unchanged (ToASCII and ToUnicode are the identity on ASCII labels without the ACE
    prefix; a label WITH it decodes to non-ASCII text) -/
def IdnaAsciiLaw (Q : PyLib) : Prop :=
  ∀ a b, (∀ c ∈ a, c < 128) → Q.idnaRt a = some b → (∀ c ∈ b, c < 128) → b = a

/-- what remains to be assumed about a request produced by the URL setter -/
structure GetterUrlOk3 (Q : PyLib) (r : Req) : Prop where
  notConnect : r.method.map upperC ≠ S "CONNECT"
  scheme : r.scheme = S "http" ∨ r.scheme = S "https"
  host : HostOk r.host
  pathAscii : ∀ c ∈ r.path, c < 128 ∧ c ≠ 9 ∧ c ≠ 10 ∧ c ≠ 13
  bracketedOk : 58 ∈ r.host → Q.validBracketed r.host = true

/-- **C33 (url), the setter's own checks used.** For the library with urlsplit's scheme/netloc reading, urllib's hostname/port reading and the
    re-assembly of the rest all transcribed: if the URL setter accepted `u` and produced `r'` (http/https, lower-case ASCII host,
    ASCII path), assigning `r'.url` again gives exactly `r'`.  The port range, the leading `/` of the path, `is_valid_host`, the IDNA
    round trip of the host and the stability of the path are all DERIVED from the setter's success; assumed are the IDNA law for
    ASCII names and, for IPv6 literals, `_check_bracketed_host`. -/
theorem url_get_set_idempotent_derived (Q : PyLib) (law : IdnaAsciiLaw Q) (r : Req) (u : Str) (r' : Req)
    (h1 : setUrl (pyLib (withRest Q)) r u = some r') (ok : GetterUrlOk3 Q r') :
    setUrl (pyLib (withRest Q)) r' (url r') = some r' := by
  have hp := setUrl_fields _ r u r' h1
  obtain ⟨hn, hidn, hval, hnascii, hport⟩ := urlParse_facts (withRest Q) u _ _ _ _ hp
  obtain ⟨rest, hrest⟩ := urlParse_path_form (withRest Q) u _ _ _ _ hp
  have hhn : r'.host = hn := law hn r'.host hnascii hidn ok.host.ascii
  apply url_get_set_idempotent_ascii_rest Q r u r' h1
  refine { ok with port := hport, pathSlash := ?_, idnaAscii := ?_, hostValid := ?_ }
  · rw [hrest]; split <;> simp_all
  · rw [hhn]; rw [hhn] at hidn; exact hidn
  · rw [hhn]; exact hval

/-! ### `pathAscii` derived as well -/

/-- what remains to be assumed about a request produced by the URL setter: its shape, and `_check_bracketed_host` for IPv6 literals -/
structure GetterUrlOk4 (Q : PyLib) (r : Req) : Prop where
  notConnect : r.method.map upperC ≠ S "CONNECT"
  scheme : r.scheme = S "http" ∨ r.scheme = S "https"
  host : HostOk r.host
  bracketedOk : 58 ∈ r.host → Q.validBracketed r.host = true

/-- **C33 (url), fewest hypotheses.** As `url_get_set_idempotent_derived`, with the ASCII-ness of the path derived too: a request produced
    by the URL setter from ANY accepted `u`, with an http/https scheme and a lower-case ASCII host, is left exactly as it is by
    assigning its own `url` again. -/
theorem url_get_set_idempotent_final (Q : PyLib) (law : IdnaAsciiLaw Q) (r : Req) (u : Str) (r' : Req)
    (h1 : setUrl (pyLib (withRest Q)) r u = some r') (ok : GetterUrlOk4 Q r') :
    setUrl (pyLib (withRest Q)) r' (url r') = some r' :=
  url_get_set_idempotent_derived Q law r u r' h1
    { ok with pathAscii := urlParse_path_chars Q u _ _ _ _ (setUrl_fields _ r u r' h1) }

/-! ### the remaining clauses of the statement: the fields read back consistently, and the URL read back is equivalent -/

/-- **"reading the URL back yields an equivalent URL"**: the URL the getter returns parses to the same scheme, host, port and path as
    the URL that was assigned (under the hypotheses of `url_get_set_idempotent_final`) -/
theorem url_read_back_equivalent (Q : PyLib) (law : IdnaAsciiLaw Q) (r : Req) (u : Str) (r' : Req)
    (h1 : setUrl (pyLib (withRest Q)) r u = some r') (ok : GetterUrlOk4 Q r') :
    urlParse (pyLib (withRest Q)) (url r') = urlParse (pyLib (withRest Q)) u := by
  rw [setUrl_fields _ r u r' h1]
  exact setUrl_fields _ r' (url r') r' (url_get_set_idempotent_final Q law r u r' h1 ok)

/-! ### whole edit histories -/

/-- a history of host / port / url edits applied in order -/
def applyEdits (P : UrlLib) (r : Req) (es : List Edit) : Req := es.foldl (applyEdit P) r

/-- **C33 (edit histories).** After ANY non-empty sequence of host, port and url edits on any request, provided the last edit took
    effect and the destination it leaves is well formed, an existing Host header is still there and names the final host and port,
    and so does a non-empty authority — whatever the earlier edits did. -/
theorem edit_history_keeps_host_header_and_authority_pointing_to_destination
    (P : UrlLib) (valid : Str → Bool) (r : Req) (es : List Edit) (e : Edit)
    (hacc : ∀ u, e = .url u → (setUrl P (applyEdits P r es) u).isSome)
    (hne : ∀ x, x ≠ [] → P.normAuth x ≠ [])
    (hd : DestOk P valid (applyEdits P r (es ++ [e]))) :
    Consistent valid (applyEdits P r (es ++ [e])) ∧
      ((applyEdits P r (es ++ [e])).hostHeader.isSome = (applyEdits P r es).hostHeader.isSome) ∧
      ((applyEdits P r (es ++ [e])).authority = [] ↔ (applyEdits P r es).authority = []) := by
  have e1 : applyEdits P r (es ++ [e]) = applyEdit P (applyEdits P r es) e := by simp [applyEdits, List.foldl_append]
  rw [e1] at hd ⊢
  exact host_port_edit_keeps_host_header_and_authority_pointing_to_destination P valid (applyEdits P r es) e hacc hne hd

/-! ### F-C33b: IDN hosts -/
private def uA : Str := S "http://xn--bcher-kva.example/p"
private def hA : Str := S "xn--bcher-kva.example"
private def hU : Str := S "b" ++ [0xfc] ++ S "cher.example"
private def uU : Str := S "http://" ++ hU ++ S "/p"

/-- urlsplit on the two URLs involved, IDNA decoding of the A-label, everything valid, authority untouched -/
private def idnLib : UrlLib where
  split u := if u = uA then some (S "http", hA, S "/p") else if u = uU then some (S "http", hU, S "/p") else none
  idnaRt h := if h = hA then some hU else some h
  validHost _ := true
  normAuth x := x

private def req0 : Req :=
  { h2 := false, method := S "GET", scheme := S "http", host := S "start.example", port := 81, path := S "/orig",
    hostHeader := some (S "old:1"), authority := [] }

/-- what assigning `uA` makes of `req0`: the host is stored IDNA-decoded -/
private def reqU : Req := { req0 with host := hU, port := 80, path := S "/p", hostHeader := some hU }

/-- F-C33b: `http://xn--bcher-kva.example/p` is accepted and reads back as `http://bücher.example/p`, which is rejected -/
theorem url_get_set_idempotent_counterexample : ¬ UrlReassignIdempotent := by
  intro h
  have hset : setUrl idnLib req0 uA = some reqU := by decide +kernel
  have hsplit : idnLib.split (url reqU) = some (reqU.scheme, hostport reqU.scheme reqU.host reqU.port, reqU.path) := by
    decide +kernel
  have hrej : setUrl idnLib reqU (url reqU) ≠ some reqU := by decide +kernel
  exact hrej (h idnLib req0 uA reqU hset hsplit)

/-! ### non-vacuity -/
example : HostShape (S "::1") ∧ HostShape (S "example.com") := by
  refine ⟨⟨by decide, by decide, by decide, by decide⟩, ⟨by decide, by decide, by decide, by decide⟩⟩

example : hostport (S "http") (S "::1") 8080 = S "[::1]:8080" ∧ hostport (S "https") (S "::1") 443 = S "[::1]" ∧
    hostport (S "http") (S "example.com") 80 = S "example.com" := by decide +kernel

example : parseAuthority (fun _ => true) (S "[::1]:8080") = some (S "::1", some 8080) ∧
    parseAuthority (fun _ => true) (S "::1:8080") = none ∧
    parseAuthority (fun _ => true) (S "example.com:65536") = none ∧
    parseAuthority (fun _ => true) (S "[a]:1]:2") = some (S "a]:1", some 2) := by decide +kernel

/-- the hypothesis of the partial theorem is satisfiable: an ASCII URL is read back -/
private def asciiLib : UrlLib where
  split u := if u = S "http://[::1]:8080/a" then some (S "http", S "[::1]:8080", S "/a") else none
  idnaRt h := some h
  validHost _ := true
  normAuth x := x

example : setUrl asciiLib ((setUrl asciiLib req0 (S "http://[::1]:8080/a")).getD req0)
      (url ((setUrl asciiLib req0 (S "http://[::1]:8080/a")).getD req0)) =
    some ((setUrl asciiLib req0 (S "http://[::1]:8080/a")).getD req0) := by decide +kernel

/-- `GetterUrlOk` is satisfiable, e.g. by the request the setter makes of `http://[::1]:8080/a` (bracketed IPv6, explicit port),
    with a library whose unproved parts behave as Python's do on it -/
private def okLib : PyLib where
  validBracketed _ := true
  normRest _ r := r
  idnaRt h := some h
  validHost _ := true
  normAuth x := x

private def okReq : Req :=
  { h2 := false, method := S "GET", scheme := S "http", host := S "::1", port := 8080, path := S "/a?b=c",
    hostHeader := some (S "[::1]:8080"), authority := [] }

example : urlParse (pyLib okLib) (url okReq) = some (okReq.scheme, okReq.host, okReq.port, okReq.path) :=
  url_parse_reads_getter_url okLib okReq
    { notConnect := by decide +kernel, scheme := Or.inl rfl,
      host := ⟨⟨by decide, by decide, by decide, by decide⟩, by decide, by decide, by decide⟩,
      port := by decide, pathSlash := by decide, pathAscii := by decide,
      bracketedOk := fun _ => rfl, idnaAscii := rfl, hostValid := rfl, restStable := rfl }

/-- what assigning `http://[::1]:8080/a;x?b=c#` makes of `req0` (the empty fragment is dropped) -/
private def req1 : Req :=
  { req0 with host := S "::1", port := 8080, path := S "/a;x?b=c", hostHeader := some (S "[::1]:8080") }

private theorem setUrl_req0 : setUrl (pyLib (withRest okLib)) req0 (S "http://[::1]:8080/a;x?b=c#") = some req1 := by
  decide +kernel

private theorem okLib_idna : IdnaAsciiLaw okLib := fun a b _ h _ => by cases h; rfl

private theorem req1_host : HostOk req1.host :=
  ⟨⟨by decide, by decide, by decide, by decide⟩, by decide, by decide, by decide⟩

/-- the hypotheses of `url_get_set_idempotent_derived` are satisfiable: assign `http://[::1]:8080/a;x?b=c#` to a request -/
example : setUrl (pyLib (withRest okLib)) ((setUrl (pyLib (withRest okLib)) req0 (S "http://[::1]:8080/a;x?b=c#")).getD req0)
      (url ((setUrl (pyLib (withRest okLib)) req0 (S "http://[::1]:8080/a;x?b=c#")).getD req0)) =
    some ((setUrl (pyLib (withRest okLib)) req0 (S "http://[::1]:8080/a;x?b=c#")).getD req0) := by
  rw [setUrl_req0]
  exact url_get_set_idempotent_derived okLib okLib_idna req0 _ req1 setUrl_req0
    { notConnect := by decide, scheme := Or.inl rfl, host := req1_host, pathAscii := by decide, bracketedOk := fun _ => rfl }

example : pySplit (fun _ => true) (S "HTTP://User@[::1]:8080/a?b#c") = some (S "http", S "User@[::1]:8080", S "/a?b#c") ∧
    pySplit (fun _ => true) (S "http://[::1/") = none ∧
    pySplit (fun _ => true) (S " \thttp:/x") = some (S "http", [], S "/x") := by decide +kernel

/-! ### non-vacuity witnesses for the edit theorems and for the final url theorems -/

private def h2req : Req :=
  { h2 := true, method := S "GET", scheme := S "https", host := S "start.example", port := 443, path := S "/",
    hostHeader := some (S "start.example"), authority := S "start.example" }

/-- `host_port_edit_…`: an HTTP/2 request with Host header AND authority gets a new host; both now name `new.example` -/
example : Consistent (fun _ => true) (applyEdit asciiLib h2req (.host (S "new.example"))) ∧
    (applyEdit asciiLib h2req (.host (S "new.example"))).hostHeader = some (S "new.example") ∧
    (applyEdit asciiLib h2req (.host (S "new.example"))).authority = S "new.example" :=
  ⟨(host_port_edit_keeps_host_header_and_authority_pointing_to_destination asciiLib (fun _ => true) h2req
      (.host (S "new.example")) (by intro u h; cases h) (by intro x hx; exact hx)
      ⟨⟨by decide +kernel, by decide +kernel, by decide +kernel, by decide +kernel⟩, rfl, by decide +kernel, rfl⟩).1,
   by decide +kernel, by decide +kernel⟩

/-- a port edit to a non-default port on an IPv6 destination: the Host header becomes `[::1]:8443` and parses back -/
example : Consistent (fun _ => true) (applyEdit asciiLib { h2req with host := S "::1" } (.port 8443)) ∧
    (applyEdit asciiLib { h2req with host := S "::1" } (.port 8443)).hostHeader = some (S "[::1]:8443") :=
  ⟨(host_port_edit_keeps_host_header_and_authority_pointing_to_destination asciiLib (fun _ => true) _
      (.port 8443) (by intro u h; cases h) (by intro x hx; exact hx)
      ⟨⟨by decide +kernel, by decide +kernel, by decide +kernel, by decide +kernel⟩, rfl, by decide +kernel, rfl⟩).1,
   by decide +kernel⟩

/-- `edit_history_…` on a real history: an accepted url edit, a port edit, then a host edit -/
example : Consistent (fun _ => true)
    (applyEdits asciiLib req0 ([.url (S "http://[::1]:8080/a"), .port 9] ++ [.host (S "example.org")])) ∧
    (applyEdits asciiLib req0 ([.url (S "http://[::1]:8080/a"), .port 9] ++ [.host (S "example.org")])).hostHeader
      = some (S "example.org:9") :=
  ⟨(edit_history_keeps_host_header_and_authority_pointing_to_destination asciiLib (fun _ => true) req0
      [.url (S "http://[::1]:8080/a"), .port 9] (.host (S "example.org")) (by intro u h; cases h)
      (by intro x hx; exact hx)
      ⟨⟨by decide +kernel, by decide +kernel, by decide +kernel, by decide +kernel⟩, rfl, by decide +kernel, rfl⟩).1,
   by decide +kernel⟩

/-- `url_get_set_idempotent_final` and `url_read_back_equivalent`: hypotheses hold for `http://[::1]:8080/a;x?b=c#` -/
example : setUrl (pyLib (withRest okLib)) ((setUrl (pyLib (withRest okLib)) req0 (S "http://[::1]:8080/a;x?b=c#")).getD req0)
      (url ((setUrl (pyLib (withRest okLib)) req0 (S "http://[::1]:8080/a;x?b=c#")).getD req0)) =
    some ((setUrl (pyLib (withRest okLib)) req0 (S "http://[::1]:8080/a;x?b=c#")).getD req0) := by
  rw [setUrl_req0]
  exact url_get_set_idempotent_final okLib okLib_idna req0 _ req1 setUrl_req0
    { notConnect := by decide, scheme := Or.inl rfl, host := req1_host, bracketedOk := fun _ => rfl }

example : urlParse (pyLib (withRest okLib)) (url ((setUrl (pyLib (withRest okLib)) req0 (S "http://[::1]:8080/a;x?b=c#")).getD req0)) =
    urlParse (pyLib (withRest okLib)) (S "http://[::1]:8080/a;x?b=c#") := by
  rw [setUrl_req0]
  exact url_read_back_equivalent okLib okLib_idna req0 _ req1 setUrl_req0
    { notConnect := by decide, scheme := Or.inl rfl, host := req1_host, bracketedOk := fun _ => rfl }

/-- …and the URL read back is a different string from the one assigned (the theorem is about equivalence, not identity) -/
example : url ((setUrl (pyLib (withRest okLib)) req0 (S "http://[::1]:8080/a;x?b=c#")).getD req0) = S "http://[::1]:8080/a;x?b=c" := by
  rw [setUrl_req0]
  decide +kernel

end MitmVerif.Props.C33
