/-
  C15 — property theorems.  `matches` is the specification of name matching, `osslMatches` the transcription
  of OpenSSL's check under mitmproxy's host flags, `startServer`/`outcome` the model of `tls_start_server` and
  of the handshake verdict.  Chain validity is the Boolean `chainOk` (OpenSSL's; see level_note).

  Three further parts: the QUIC start path (`startServerQuic`; its verdict reuses `osslMatches` although the check there is
  aioquic's, see `insecure_off_requires_verify_any_transport`); the classification of the server name with
  `_ip_or_dns_name` transcribed for ASCII names (Model/C15_Classify.lean over `C22.parseIp`); and, in the tunnel model of C14
  (Model/C14.lean, with `etc_pass` / `foldl_etcCore_pass` of Lemmas/C14Hist.lean), what the server TLS layer does after a
  failed `do_handshake`.  The link "verification failed ⇒ `K.handshake = .error`" between the two models is assumed.
-/
import MitmVerif.Model.C15
import MitmVerif.Props.C14
import MitmVerif.Model.C15_Classify
import MitmVerif.Model.C14
import MitmVerif.Lemmas.C14
import MitmVerif.Lemmas.C14Hist
import MitmVerif.Gen.C15
namespace MitmVerif.Props.C15
open MitmVerif MitmVerif.C15

private theorem lower_star : asciiLowerB star = star := by decide
private theorem lower_dot : asciiLowerB dot = dot := by decide

private theorem lower_ne_dot_fin : ∀ n : Fin 256,
    (isAlnum (UInt8.ofNat n.val) || UInt8.ofNat n.val = hyphen) = true → asciiLowerB (UInt8.ofNat n.val) ≠ dot := by
  decide +kernel

private theorem lower_ne_dot (c : UInt8) (h : (isAlnum c || c = hyphen) = true) : asciiLowerB c ≠ dot := by
  have := lower_ne_dot_fin ⟨c.toNat, UInt8.toNat_lt c⟩
  simp only [UInt8.ofNat_toNat] at this
  exact this h

private theorem lower_length (b : Bytes) : (asciiLower b).length = b.length := by simp [asciiLower]
private theorem lower_drop (b : Bytes) (n : Nat) : (asciiLower b).drop n = asciiLower (b.drop n) := by
  simp [asciiLower, List.map_drop]
private theorem lower_take (b : Bytes) (n : Nat) : (asciiLower b).take n = asciiLower (b.take n) := by
  simp [asciiLower, List.map_take]

private theorem suffixScan_ne_nil {s : Bytes} {d n : Nat} (h : suffixScan s true false d = some n) : s ≠ [] := by
  intro hs; subst hs; simp [suffixScan] at h

/-! ### the wildcard rules of the specification -/

/-- The `*` stands for exactly one label: non-empty and without a dot; everything after it is equal. -/
theorem wildcard_one_label (p r : Bytes) (h : specMatchDns p r = true) (hne : asciiLower p ≠ asciiLower r) :
    ∃ w s, asciiLower p = star :: dot :: s ∧ asciiLower r = w ++ dot :: s ∧ w ≠ [] ∧ dot ∉ w ∧ s ≠ [] := by
  unfold specMatchDns at h
  have hw : specWild (asciiLower p) (asciiLower r) = true := by
    rcases Bool.or_eq_true _ _ |>.mp h with h1 | h1
    · exact absurd (by simpa using h1) hne
    · exact h1
  unfold specWild at hw
  split at hw
  · rename_i a b s heq
    simp only [Bool.and_eq_true, decide_eq_true_eq] at hw
    obtain ⟨⟨⟨⟨⟨ha, hb⟩, hs⟩, hlen⟩, hdrop⟩, htake⟩ := hw
    refine ⟨(asciiLower r).take ((asciiLower r).length - (s.length + 1)), s, by rw [heq, ha, hb], ?_, ?_, ?_, ?_⟩
    · have := List.take_append_drop ((asciiLower r).length - (s.length + 1)) (asciiLower r)
      have hd : (asciiLower r).drop ((asciiLower r).length - (s.length + 1)) = dot :: s := by simpa using hdrop
      rw [hd] at this; exact this.symm
    · intro h0
      have := congrArg List.length h0
      simp at this; omega
    · simpa using htake
    · intro h0; subst h0; simp at hs
  · simp at hw

/-- A name that matches without being equal does so through a pattern whose complete left-most label is `*`:
    `w*.example.com`, `*w.example.com`, `www.*.example.com` match nothing but themselves. -/
theorem no_partial_wildcard (p r : Bytes) (h : specMatchDns p r = true) (hne : asciiLower p ≠ asciiLower r) :
    ∃ s, asciiLower p = star :: dot :: s ∧ s ≠ [] :=
  let ⟨_, s, hp, _, _, _, hs⟩ := wildcard_one_label p r h hne
  ⟨s, hp, hs⟩

/-- non-vacuity: the rules do accept the ordinary wildcard and reject partial / multi-label / bare ones -/
example : specMatchDns (strBytes "*.example.com") (strBytes "WWW.Example.com") = true := by decide +kernel
example : specMatchDns (strBytes "w*.example.com") (strBytes "www.example.com") = false := by decide +kernel
example : specMatchDns (strBytes "*.example.com") (strBytes "a.b.example.com") = false := by decide +kernel
example : specMatchDns (strBytes "*.example.com") (strBytes "example.com") = false := by decide +kernel
example : specMatchDns (strBytes "*") (strBytes "example") = false := by decide +kernel

/-- The subject Common Name plays no part: only subjectAltName entries can name the server.  About the SPECIFICATION, and there by
    the shape of `accepts`, which never reads `cn`; that the code has no CN fallback rests on NEVER_CHECK_SUBJECT
    (`hostflags_are_both`) and the CN-only certificates of the differential run. -/
theorem cn_ignored (cn cn' : Option Bytes) (sans : List GName) (r : RefId) :
    accepts ⟨cn, sans⟩ r = accepts ⟨cn', sans⟩ r ∧ accepts ⟨cn, []⟩ r = false := by
  simp [accepts, «matches»]

example : accepts ⟨some (strBytes "example.com"), []⟩ (.host (strBytes "example.com")) = false := by decide +kernel

/-- An IP reference is named only by an equal iPAddress entry — never by a dNSName (wildcard or literal text of
    the address), and an iPAddress entry never names a host. -/
theorem ip_exact (sans : List GName) (a : Bytes) :
    («matches» sans (.addr a) = true ↔ GName.ip a ∈ sans)
    ∧ (∀ p, specMatchOne (.dns p) (.addr a) = false) ∧ (∀ b h, specMatchOne (.ip b) (.host h) = false) := by
  refine ⟨?_, fun _ => rfl, fun _ _ => rfl⟩
  unfold «matches»
  rw [List.any_eq_true]
  constructor
  · rintro ⟨g, hg, hm⟩
    cases g with
    | dns v => simp [specMatchOne] at hm
    | ip v => simp [specMatchOne] at hm; subst hm; exact hg
    | other k v => simp [specMatchOne] at hm
  · intro h; exact ⟨_, h, by simp [specMatchOne]⟩

example : «matches» [.dns (strBytes "192.0.2.1"), .dns (strBytes "*.0.2.1")] (.addr (strBytes "192.0.2.1")) = false := by decide +kernel
example : «matches» [.ip (strBytes "192.0.2.1")] (.addr (strBytes "192.0.2.1")) = true := by decide +kernel

/-! ### OpenSSL's check (as transcribed) is at most as permissive as the specification -/

private theorem ossl_dns_refines (p r : Bytes) (h : osslMatchDns p r = true) : specMatchDns p r = true := by
  unfold osslMatchDns at h
  split at h
  · rename_i hv
    unfold validStar at hv
    split at hv
    · rename_i a b s
      simp only [Bool.and_eq_true, decide_eq_true_eq] at hv
      obtain ⟨⟨ha, hb⟩, hscan⟩ := hv
      subst ha; subst hb
      have hsne : s ≠ [] := by
        split at hscan
        · rename_i dots hd; exact suffixScan_ne_nil hd
        · simp at hscan
      unfold osslWild at h
      simp only [List.drop_succ_cons, List.drop_zero, List.length_cons, Bool.and_eq_true, decide_eq_true_eq,
        Bool.or_eq_true, beq_iff_eq, Bool.not_eq_true'] at h
      obtain ⟨⟨⟨hle, hsuf⟩, hwne⟩, hw⟩ := h
      have hwlen : 0 < (r.take (r.length - (s.length + 1))).length := by
        cases hq : r.take (r.length - (s.length + 1)) with
        | nil => rw [hq] at hwne; simp at hwne
        | cons x xs => simp
      have hlt : s.length + 1 < r.length := by
        rw [List.length_take] at hwlen; omega
      unfold specMatchDns
      apply Bool.or_eq_true _ _ |>.mpr; right
      have hlp : asciiLower (star :: dot :: s) = star :: dot :: asciiLower s := by
        simp [asciiLower, lower_star, lower_dot]
      rw [hlp]
      unfold specWild
      simp only [Bool.and_eq_true, decide_eq_true_eq, Bool.not_eq_true', beq_iff_eq, lower_length, lower_drop, lower_take]
      refine ⟨⟨⟨⟨by simp, ?_⟩, hlt⟩, ?_⟩, ?_⟩
      · cases s with
        | nil => exact absurd rfl hsne
        | cons x xs => simp [asciiLower]
      · rw [hsuf]; simp [asciiLower, lower_dot]
      · rcases hw with hw | hw
        · rw [hw]; decide
        · rw [Bool.eq_false_iff]; intro hc
          rw [List.contains_iff_mem] at hc
          simp only [asciiLower, List.mem_map] at hc
          obtain ⟨c, hc1, hc2⟩ := hc
          have := List.all_eq_true.mp hw c hc1
          exact lower_ne_dot c (by simpa using this) hc2
    · simp at hv
  · simp only [Bool.and_eq_true, beq_iff_eq] at h
    unfold specMatchDns
    simp [h.2]

private theorem ossl_one_refines (g : GName) (r : RefId) (h : osslMatchOne g r = true) : specMatchOne g r = true := by
  cases g <;> cases r <;> simp_all [osslMatchOne, specMatchOne]
  exact ossl_dns_refines _ _ h

/-- Whatever OpenSSL's host check (as transcribed, under NO_PARTIAL_WILDCARDS | NEVER_CHECK_SUBJECT) accepts, the
    specification accepts. -/
theorem ossl_refines_spec (sans : List GName) (r : RefId) (h : osslMatches sans r = true) : «matches» sans r = true := by
  unfold osslMatches at h; unfold «matches»
  rw [List.any_eq_true] at *
  obtain ⟨g, hg, hm⟩ := h
  exact ⟨g, hg, ossl_one_refines g r hm⟩

/-- the transcription is not constant, and is strictly tighter than the specification on `*.tld` -/
example : osslMatchDns (strBytes "*.example.com") (strBytes "www.example.com") = true := by decide +kernel
example : osslMatchDns (strBytes "*.com") (strBytes "example.com") = false := by decide +kernel
example : specMatchDns (strBytes "*.com") (strBytes "example.com") = true := by decide +kernel
example : osslMatchDns (strBytes "*.example.com") (strBytes "foo_bar.example.com") = false := by decide +kernel

/-! ### the decision in `tls_start_server` -/

/-- when `tls_start_server` builds a connection object: either for an empty name with ssl_insecure on (no reference
    identifier, no verification), or for a name that classifies as the reference identifier `r` -/
private theorem startServer_plan {classify : Bytes → Option GName} {hf : Nat} {c : Cfg} {p : Plan}
    (h : startServer classify hf c = .plan p) :
    (effSni c = [] ∧ c.insecure = true ∧ p = ⟨false, none, none, 0⟩) ∨
    (effSni c ≠ [] ∧ ∃ r, classify (effSni c) = some (match r with | .host v => .dns v | .addr v => .ip v)
      ∧ p = ⟨!c.insecure, (match r with | .host v => some v | .addr _ => none), some r, hf⟩) := by
  unfold startServer at h
  simp only [] at h
  split at h
  · rename_i he
    split at h
    · exact Or.inl ⟨by simpa using he, ‹_›, by simpa using h.symm⟩
    · cases h
  · rename_i he
    have hne : effSni c ≠ [] := by simpa using he
    split at h
    · exact Or.inr ⟨hne, .addr _, ‹_›, by simpa using h.symm⟩
    · exact Or.inr ⟨hne, .host _, ‹_›, by simpa using h.symm⟩
    · cases h

/-- the flag word mitmproxy passes is exactly "no partial wildcards" + "never look at the subject" -/
theorem hostflags_are_both :
    Gen.C15.defaultHostflags = Gen.C15.noPartialWildcards + Gen.C15.neverCheckSubject
    ∧ Gen.C15.noPartialWildcards ≠ 0 ∧ Gen.C15.neverCheckSubject ≠ 0
    ∧ Gen.C15.noPartialWildcards &&& Gen.C15.neverCheckSubject = 0
    ∧ Gen.C15.insecureSelectsNone = true ∧ Gen.C15.hostflagsArgIsDefault = true
    ∧ Gen.C15.verifyPeer ≠ Gen.C15.verifyNone := by decide

/-- With ssl_insecure off a handshake is only ever established with peer verification on, a reference identifier
    (host or IP — there is no "verify the chain but no name" mode), a valid chain, and a certificate whose subjectAltName
    names that identifier according to the specification.  `p.hostflags = hf` only says that the plan records the flag word
    handed to `startServer`: the verdict `handshakeOk` does not read it, `osslMatches` IS the check under the two flags. -/
theorem insecure_off_requires_verify (classify : Bytes → Option GName) (hf : Nat) (c : Cfg) (chainOk : Bool)
    (sans : List GName) (hins : c.insecure = false)
    (h : outcome classify hf c chainOk sans = .established) :
    chainOk = true ∧ ∃ p r, startServer classify hf c = .plan p ∧ p.verifyPeer = true ∧ p.ref = some r
      ∧ p.hostflags = hf ∧ classify (effSni c) = some (match r with | .host v => .dns v | .addr v => .ip v)
      ∧ «matches» sans r = true := by
  unfold outcome at h
  split at h
  · rename_i p hp
    rcases startServer_plan hp with ⟨_, hi, _⟩ | ⟨_, r, hc, rfl⟩
    · rw [hins] at hi; cases hi
    · simp only [handshakeOk, hins, Bool.not_false, if_true] at h
      split at h
      · rename_i hok
        simp only [Bool.and_eq_true] at hok
        exact ⟨hok.1, _, r, hp, by simp [hins], rfl, rfl, hc, ossl_refines_spec _ _ hok.2⟩
      · simp at h
  · simp at h

/-- With ssl_insecure on, whatever the certificate, the handshake is established whenever the hook builds a
    connection object at all. -/
theorem insecure_on_succeeds (classify : Bytes → Option GName) (hf : Nat) (c : Cfg) (chainOk : Bool) (sans : List GName)
    (hins : c.insecure = true) (p : Plan) (hp : startServer classify hf c = .plan p) :
    outcome classify hf c chainOk sans = .established := by
  have hv : p.verifyPeer = false := by
    rcases startServer_plan hp with ⟨_, _, rfl⟩ | ⟨_, _, _, rfl⟩ <;> simp [hins]
  simp [outcome, hp, handshakeOk, hv]

/-- Which name is verified: a preset `server.sni` wins (even an empty one); otherwise the client's SNI if it is non-empty;
    otherwise the host of the server address. -/
theorem eff_sni_precedence (c : Cfg) :
    (∀ x, c.serverSni = some x → effSni c = x)
    ∧ (c.serverSni = none → ∀ y, c.clientSni = some y → y ≠ [] → effSni c = y)
    ∧ (c.serverSni = none → (c.clientSni = none ∨ c.clientSni = some []) → effSni c = c.address) := by
  refine ⟨fun x hx => by simp [effSni, hx], fun hs y hy hne => ?_, fun hs hc => ?_⟩
  · cases y with
    | nil => exact absurd rfl hne
    | cons a t => simp [effSni, hs, hy]
  · rcases hc with hc | hc <;> simp [effSni, hs, hc]

/-- Shape of what the hook builds: an IP literal is verified with `set1_ip` and sends NO server_name extension (RFC 6066); a
    host name is sent as SNI and is the very name that is verified; a connection object without reference identifier exists
    only with ssl_insecure on and an empty name; with ssl_insecure off and an empty name the hook refuses (`noSni`). -/
theorem plan_shape (classify : Bytes → Option GName) (hf : Nat) (c : Cfg) :
    (∀ p, startServer classify hf c = .plan p →
        (∀ a, p.ref = some (.addr a) → p.sniExt = none)
        ∧ (∀ h, p.ref = some (.host h) → p.sniExt = some h)
        ∧ (p.ref = none → c.insecure = true ∧ effSni c = [] ∧ p.verifyPeer = false)
        ∧ p.verifyPeer = !c.insecure)
    ∧ (c.insecure = false → effSni c = [] → startServer classify hf c = .noSni) := by
  constructor
  · intro p hp
    rcases startServer_plan hp with ⟨he, hi, rfl⟩ | ⟨_, r, _, rfl⟩
    · simp [hi, he]
    · cases r <;> simp
  · intro hi he
    simp [startServer, he, hi]

private theorem quic_plan (classify : Bytes → Option GName) (c : Cfg) :
    ∃ r, startServerQuic classify c = .plan ⟨!c.insecure, some (effSni c), some r, 0⟩ := by
  cases h : classify (effSni c) with
  | none => exact ⟨.host (effSni c), by simp [startServerQuic, h]⟩
  | some g =>
    cases g with
    | dns v => exact ⟨.host v, by simp [startServerQuic, h]⟩
    | ip v => exact ⟨.addr v, by simp [startServerQuic, h]⟩
    | other k v => exact ⟨.host (effSni c), by simp [startServerQuic, h]⟩

/-- **The verified identity does not depend on the transport.**  For a usable, non-empty server name the TCP/TLS path
    (`tls_start_server`) and the QUIC path (`quic_start_server` + `QuicLayer.start_tls`) verify the SAME reference identifier
    (host name as host name, IP literal as IP address) with the same verify mode; and on the QUIC path a plan with verification on
    ALWAYS has a reference identifier (there is no "chain only" mode for IP literals or anything else). -/
theorem verified_identity_transport_independent (classify : Bytes → Option GName) (hf : Nat) (c : Cfg)
    (hne : effSni c ≠ []) (g : GName) (hg : classify (effSni c) = some g) (hk : ∀ k v, g ≠ .other k v) :
    (∃ p q, startServerT .tcp classify hf c = .plan p ∧ startServerT .quic classify hf c = .plan q
        ∧ p.ref = q.ref ∧ p.verifyPeer = q.verifyPeer ∧ q.ref.isSome = true)
    ∧ (∀ q, startServerT .quic classify hf c = .plan q → q.ref.isSome = true ∧ q.verifyPeer = !c.insecure) := by
  have hne' : (effSni c).isEmpty = false := by
    cases h : effSni c with
    | nil => exact absurd h hne
    | cons a t => rfl
  constructor
  · cases g with
    | dns v =>
      exact ⟨⟨!c.insecure, some v, some (.host v), hf⟩, ⟨!c.insecure, some (effSni c), some (.host v), 0⟩,
        by simp [startServerT, startServer, hne', hg], by simp [startServerT, startServerQuic, hg], rfl, rfl, rfl⟩
    | ip v =>
      exact ⟨⟨!c.insecure, none, some (.addr v), hf⟩, ⟨!c.insecure, some (effSni c), some (.addr v), 0⟩,
        by simp [startServerT, startServer, hne', hg], by simp [startServerT, startServerQuic, hg], rfl, rfl, rfl⟩
    | other k v => exact absurd rfl (hk k v)
  · intro q hq
    obtain ⟨r, hr⟩ := quic_plan classify c
    simp only [startServerT, hr, StartRes.plan.injEq] at hq
    subst hq
    exact ⟨rfl, rfl⟩

/-- With ssl_insecure off, on EITHER transport, a handshake is established only if the chain is valid and the certificate's SANs
    name the identifier the plan carries per the specification.  On the QUIC path the name check is aioquic's
    (`service_identity`), not OpenSSL's: the model's verdict reuses `osslMatches` for it, which is tied on the handshake matrix
    only and is not what `service_identity` computes on every input (an underscore or an `xn--` label under `*`). -/
theorem insecure_off_requires_verify_any_transport (tr : Transport) (classify : Bytes → Option GName) (hf : Nat) (c : Cfg)
    (chainOk : Bool) (sans : List GName) (hins : c.insecure = false)
    (h : outcomeT tr classify hf c chainOk sans = .established) :
    chainOk = true ∧ ∃ p r, startServerT tr classify hf c = .plan p ∧ p.ref = some r ∧ «matches» sans r = true := by
  cases tr with
  | tcp =>
    have h' : outcome classify hf c chainOk sans = .established := by simpa [outcomeT, outcome, startServerT] using h
    obtain ⟨h1, p, r, hp, _, hr, _, _, hm⟩ := insecure_off_requires_verify classify hf c chainOk sans hins h'
    exact ⟨h1, p, r, by simpa [startServerT] using hp, hr, hm⟩
  | quic =>
    obtain ⟨r, hr⟩ := quic_plan classify c
    simp only [outcomeT, startServerT, hr, handshakeOk, hins, Bool.not_false, if_true] at h ⊢
    split at h
    · rename_i hok
      simp only [Bool.and_eq_true] at hok
      exact ⟨hok.1, _, r, rfl, rfl, ossl_refines_spec _ _ hok.2⟩
    · cases h

/-! ### `_ip_or_dns_name` transcribed (C22.parseIp + the idna codec's ASCII fast path) instead of assumed

  Trap: `classifyAscii` writes an IP address as version byte + packed address (what its own tie, the `cls` cases, compares);
  the handshake ties hand the model canonical texts (harness/c15.py `classify`, `token`), as the head of Model/C15.lean says.
  `matches` / `osslMatches` compare the payloads of `.ip` and `.addr` for equality, so a SAN list put next to `classifyAscii`
  has to carry packed addresses too.  The two are not interchangeable on a scoped IPv6 address: the text keeps the scope id
  (`fe80::1%eth0`), the packed form — what `set1_ip` and an iPAddress SAN get — drops it. -/

/-- What the transcribed classifier can answer: an iPAddress exactly when `ipaddress.ip_address` parses the text, otherwise the text
    ITSELF as dNSName (ASCII names are not rewritten, not even lower-cased) provided the codec's label rule holds — never any other
    kind of name. -/
theorem classify_ascii_kinds (s : Bytes) (g : GName) (h : classifyAscii s = some g) :
    (∃ v, g = .ip v ∧ (C22.parseIp s).isSome = true) ∨ (g = .dns s ∧ C22.parseIp s = none ∧ idnaAsciiOk s = true) := by
  unfold classifyAscii at h
  split at h
  · rename_i n hp; simp only [Option.some.injEq] at h; exact Or.inl ⟨_, h.symm, by simp [hp]⟩
  · rename_i n sc hp; simp only [Option.some.injEq] at h; exact Or.inl ⟨_, h.symm, by simp [hp]⟩
  · rename_i hp
    split at h
    · rename_i hok; simp only [Option.some.injEq] at h; exact Or.inr ⟨h.symm, hp, hok⟩
    · cases h

private theorem classifyT_ascii (slow : Bytes → Option GName) (s : Bytes) (ha : isAscii s = true) :
    classifyT slow s = classifyAscii s := by simp [classifyT, ha]

private theorem classifyServer_some {hostOk : Bytes → Bool} {slow : Bytes → Option GName} {s : Bytes} {g : GName}
    (h : classifyServer hostOk slow s = some g) : classifyT slow s = some g := by
  unfold classifyServer at h
  split at h
  · rename_i v hv
    split at h
    · rw [hv]; exact h
    · cases h
  · exact h

/-- `verified_identity_transport_independent` without its hypotheses about the classifier: for an ASCII, non-empty server name that
    the transcribed `_ip_or_dns_name` accepts, the TCP and the QUIC path verify the same reference identifier. -/
theorem verified_identity_transport_independent_ascii (slow : Bytes → Option GName) (hf : Nat) (c : Cfg)
    (hne : effSni c ≠ []) (ha : isAscii (effSni c) = true) (hok : (classifyAscii (effSni c)).isSome = true) :
    ∃ p q, startServerT .tcp (classifyT slow) hf c = .plan p ∧ startServerT .quic (classifyT slow) hf c = .plan q
      ∧ p.ref = q.ref ∧ p.verifyPeer = q.verifyPeer ∧ q.ref.isSome = true := by
  cases hg : classifyAscii (effSni c) with
  | none => rw [hg] at hok; cases hok
  | some g =>
    have hk : ∀ k v, g ≠ .other k v := by
      intro k v hkv
      rcases classify_ascii_kinds _ _ hg with h1 | h1
      · obtain ⟨v', hv, _⟩ := h1; rw [hkv] at hv; cases hv
      · obtain ⟨hv, _, _⟩ := h1; rw [hkv] at hv; cases hv
    exact (verified_identity_transport_independent (classifyT slow) hf c hne g
      (by rw [classifyT_ascii slow _ ha]; exact hg) hk).1

/-- For an ASCII server name, what `tls_start_server` sends as SNI and what it verifies are the configured name itself, byte for
    byte; an IP literal is never sent as SNI and is verified as an IP address (which one the statement leaves open: `∃ v`). -/
theorem server_name_not_rewritten (hostOk : Bytes → Bool) (slow : Bytes → Option GName) (hf : Nat) (c : Cfg) (p : Plan)
    (ha : isAscii (effSni c) = true) (hne : effSni c ≠ [])
    (hp : startServer (classifyServer hostOk slow) hf c = .plan p) :
    (C22.parseIp (effSni c) = none → p.ref = some (.host (effSni c)) ∧ p.sniExt = some (effSni c))
    ∧ ((C22.parseIp (effSni c)).isSome = true → p.sniExt = none ∧ ∃ v, p.ref = some (.addr v)) := by
  rcases startServer_plan hp with ⟨he, _, _⟩ | ⟨_, r, hc, rfl⟩
  · exact absurd he hne
  · have hca := classifyServer_some hc
    rw [classifyT_ascii slow _ ha] at hca
    rcases classify_ascii_kinds _ _ hca with ⟨v, hv, hip⟩ | ⟨hv, hnp, _⟩
    · cases r with
      | host w => cases hv
      | addr w => exact ⟨fun hn => (by rw [hn] at hip; cases hip), fun _ => ⟨rfl, w, rfl⟩⟩
    · cases r with
      | host w =>
        injection hv with hv
        subst hv
        exact ⟨fun _ => ⟨rfl, rfl⟩, fun hi => (by rw [hnp] at hi; cases hi)⟩
      | addr w => cases hv

example : classifyAscii (strBytes "192.0.2.1") = some (.ip [4, 192, 0, 2, 1]) := by decide +kernel
example : classifyAscii (strBytes "www.Example.com.") = some (.dns (strBytes "www.Example.com.")) := by decide +kernel
example : classifyAscii (strBytes "a..b") = none := by decide +kernel
example : classifyAscii (strBytes "1.2.3") = some (.dns (strBytes "1.2.3")) := by decide +kernel

/-- A SAN pattern that does not begin with `*` is compared literally (ASCII case-insensitively) by the OpenSSL transcription:
    no wildcard semantics can arise from `w*.x`, `www.*.x` or from names without `*`. -/
theorem ossl_literal_unless_leading_star (p r : Bytes) (h : p.head? ≠ some star) :
    osslMatchDns p r = (!p.isEmpty && asciiLower p == asciiLower r) := by
  have hv : validStar p = false := by
    unfold validStar
    split
    · rename_i a b s
      have : a ≠ star := by intro ha; subst ha; simp at h
      simp [this]
    · rfl
  simp [osslMatchDns, hv]

/-- non-vacuity: both outcomes occur with verification on -/
example : outcome (fun b => some (.dns b)) 36 ⟨false, none, some (strBytes "example.com"), strBytes "10.0.0.1"⟩ true
    [.dns (strBytes "example.com")] = .established := by decide +kernel
example : outcome (fun b => some (.dns b)) 36 ⟨false, none, some (strBytes "example.com"), strBytes "10.0.0.1"⟩ true
    [.dns (strBytes "example.org")] = .failed := by decide +kernel
example : outcome (fun b => some (.dns b)) 36 ⟨false, none, some (strBytes "example.com"), strBytes "10.0.0.1"⟩ false
    [.dns (strBytes "example.com")] = .failed := by decide +kernel
example : outcome (fun b => some (.dns b)) 36 ⟨true, none, some (strBytes "example.com"), strBytes "10.0.0.1"⟩ false
    [] = .established := by decide +kernel

/-! ### from the tunnel model (Model/C14.lean): a failed verification never turns into "connection open" -/

section tunnel
open MitmVerif.C14
variable {K : Codec}

/-- the tunnel right after a failed `do_handshake`: the engine state kept, the failure logged, the failure hook and
    CloseConnection emitted, CLOSED -/
private abbrev failedSt (s : St K) (c : K.σ) (d : Bytes) : St K :=
  setSt (emit { s with tls := some (K.handshake (feedIf c d)).2 } [.log 2, .hook 3, .close]) .closed

/-- a failed `do_handshake` on the server side: `on_handshake_error`, then `_handshake_finished(err)` -/
private theorem hsData_fail (env : Env K) (child : Child) (s : St K) (c : K.σ) (d : Bytes)
    (hside : s.side = .server) (htls : s.tls = some c) (hfail : (K.handshake (feedIf c d)).1 = .error) :
    hsData env child s d = handshakeFinished child
      (emit { s with tls := some (K.handshake (feedIf c d)).2 } [.log 2, .hook 3, .close]) true := by
  have hh : K.handshake (feedIf c d) = (.error, (K.handshake (feedIf c d)).2) := by
    rw [← hfail]
  unfold hsData recvHandshake hsTls
  simp only [hside, htls]
  rw [hh]
  simp [onHandshakeError, emit]

/-- When `do_handshake` fails (certificate verify failed → OpenSSL error) while the server TLS layer is answering a
    child's OpenConnection: the child is told the error — it is given `OpenConnectionCompleted(err)` and nothing else, in
    particular never a successful completion.  The rest is stated for a child that does not react to the error with
    commands (one that answers with OpenConnection puts the tunnel back into ESTABLISHING): the failure log, the failure
    hook and CloseConnection are all that was emitted, the tunnel is CLOSED, and nothing was handed to the TLS engine
    for sending (`sendall` is never called: the accepted plaintext is unchanged and the engine state is the one
    `do_handshake` left). -/
theorem fail_sends_no_appdata (env : Env K) (child : Child) (s : St K) (c : K.σ) (d : Bytes)
    (hside : s.side = .server) (htls : s.tls = some c) (hr : s.replyTo = true) (he : s.errored = false)
    (hfail : (K.handshake (feedIf c d)).1 = .error) :
    (hsData env child s d).toChild = s.toChild ++ [.opened true]
    ∧ CEv.opened false ∉ (hsData env child s d).toChild.drop s.toChild.length
    ∧ (child s.toChild (.opened true) = [] →
        (hsData env child s d).st = .closed
        ∧ (hsData env child s d).up = s.up ++ [.log 2, .hook 3, .close]
        ∧ (hsData env child s d).accepted = s.accepted
        ∧ (hsData env child s d).tls = some (K.handshake (feedIf c d)).2) := by
  have hq : queueing (failedSt s c d) = false := by simp [queueing, isEst]
  have hstep : hsData env child s d = clearReply (eventToChild child (failedSt s c d) (.opened true)) :=
    (hsData_fail env child s c d hside htls hfail).trans (Lemmas.handshakeFinished_reply child _ true hr)
  rw [hstep]
  have h1 : (clearReply (eventToChild child (failedSt s c d) (.opened true))).toChild = s.toChild ++ [.opened true] :=
    (Hist.etc_pass child (failedSt s c d) (.opened true) hq he).toChild
  refine ⟨h1, by rw [h1]; simp, fun hchild => ?_⟩
  rw [Lemmas.etc_deliver child (failedSt s c d) (.opened true) he hq hchild]
  exact ⟨rfl, rfl, rfl, rfl⟩

/-- The same failure when the server TLS layer was started on an ALREADY OPEN connection (no OpenConnection to answer — the
    "eager" start): the failure hook and CloseConnection are emitted right after the handshake error, the tunnel goes to CLOSED, and
    the events that were stored during the handshake (Start, …) are then handed to the child in order — a successful
    `OpenConnectionCompleted` is not among them unless it had been stored; with nothing stored, nothing else happens and nothing was given to
    `sendall`.  (Whether a child that reacts to a stored event with SendData gets bytes onto the wire after the failure depends on
    the engine refusing to write — OpenSSL's behaviour, not one of `Laws`; the differential oracle asks "no application data" of the real code.) -/
theorem fail_closes_tunnel_eager (env : Env K) (child : Child) (s : St K) (c : K.σ) (d : Bytes)
    (hside : s.side = .server) (htls : s.tls = some c) (hr : s.replyTo = false) (he : s.errored = false)
    (hfail : (K.handshake (feedIf c d)).1 = .error) :
    (hsData env child s d).toChild = s.toChild ++ s.queue
    ∧ (hsData env child s d).queue = []
    ∧ (CEv.opened false ∉ s.queue → CEv.opened false ∉ (hsData env child s d).toChild.drop s.toChild.length)
    ∧ (∃ more, (hsData env child s d).up = s.up ++ [.log 2, .hook 3, .close] ++ more)
    ∧ (s.queue = [] → (hsData env child s d).st = .closed ∧ (hsData env child s d).accepted = s.accepted
          ∧ (hsData env child s d).up = s.up ++ [.log 2, .hook 3, .close]) := by
  have hstep : hsData env child s d = clearQueue (s.queue.foldl (etcCore child) (failedSt s c d)) :=
    (hsData_fail env child s c d hside htls hfail).trans (Lemmas.handshakeFinished_flush child _ true hr)
  rw [hstep]
  have hq : queueing (failedSt s c d) = false := by simp [queueing, isEst]
  have f := Hist.foldl_etcCore_pass child s.queue (failedSt s c d) he hq
  obtain ⟨more, hmore⟩ := f.up
  have htc : (clearQueue (s.queue.foldl (etcCore child) (failedSt s c d))).toChild = s.toChild ++ s.queue := f.toChild
  refine ⟨htc, by simp, ?_, ⟨more, by simpa using hmore⟩, ?_⟩
  · intro hn
    rw [htc]; simpa using hn
  · intro hqn
    rw [hqn]
    simp

end tunnel

/-- W1 (`verified_identity_transport_independent_ascii`, `server_name_not_rewritten`): hypotheses hold for a host name … -/
example :
    let c : Cfg := ⟨false, none, some (strBytes "Example.com"), strBytes "10.0.0.1"⟩
    effSni c ≠ [] ∧ isAscii (effSni c) = true ∧ (classifyAscii (effSni c)).isSome = true ∧ C22.parseIp (effSni c) = none
      ∧ startServer (classifyServer (fun _ => true) (fun _ => none)) 36 c
          = .plan ⟨true, some (strBytes "Example.com"), some (.host (strBytes "Example.com")), 36⟩
      ∧ startServerT .quic (classifyT (fun _ => none)) 36 c
          = .plan ⟨true, some (strBytes "Example.com"), some (.host (strBytes "Example.com")), 0⟩ := by decide +kernel

/-- W2: … and for an IP literal taken from the address (no client SNI): verified as IP, no SNI extension on TCP -/
example :
    let c : Cfg := ⟨false, none, none, strBytes "192.0.2.7"⟩
    effSni c ≠ [] ∧ isAscii (effSni c) = true ∧ (C22.parseIp (effSni c)).isSome = true
      ∧ startServer (classifyServer (fun _ => true) (fun _ => none)) 36 c = .plan ⟨true, none, some (.addr [4, 192, 0, 2, 7]), 36⟩
      ∧ startServerT .quic (classifyT (fun _ => none)) 36 c
          = .plan ⟨true, some (strBytes "192.0.2.7"), some (.addr [4, 192, 0, 2, 7]), 0⟩ := by decide +kernel

/-- W3 (`insecure_off_requires_verify_any_transport`): established on the QUIC path with verification on; failed when the `*` would
    have to span two labels; on TCP a preset empty `server.sni` with verification on makes the hook refuse -/
example :
    outcomeT .quic classifyAscii 36 ⟨false, none, some (strBytes "a.example.com"), strBytes "10.0.0.1"⟩ true [.dns (strBytes "*.example.com")] = .established
    ∧ outcomeT .quic classifyAscii 36 ⟨false, none, some (strBytes "a.b.example.com"), strBytes "10.0.0.1"⟩ true [.dns (strBytes "*.example.com")] = .failed
    ∧ outcomeT .tcp classifyAscii 36 ⟨false, some [], some (strBytes "x"), strBytes "10.0.0.1"⟩ true [] = .hookRaised := by decide +kernel

/-- W4 (`fail_sends_no_appdata`): its hypotheses hold together on a REACHABLE state of the C14 tunnel model over the proved-lawful
    reference codec: ServerTLSLayer opened by the child's OpenConnection, handshake in progress, then a fatal handshake record -/
example :
    let child : C14.Child := fun _ e => match e with | .start => [.open_] | _ => []
    let env := Props.C14.refEnv true (fun _ => .complete) false
    let s := C14.run env child (Props.C14.init C14.RefL.refCodec .server) [.start false, .openReply false]
    let d : Bytes := [0x16, 0, 1, 2]
    s.side = .server ∧ s.replyTo = true ∧ s.errored = false ∧ s.crashed = false
      ∧ s.tls.map (fun c => decide ((C14.RefL.refCodec.handshake (C14.feedIf c d)).1 = .error)) = some true
      ∧ (C14.hsData env child s d).toChild = s.toChild ++ [.opened true]
      ∧ (C14.hsData env child s d).st = .closed ∧ (C14.hsData env child s d).accepted = [] := by decide +kernel

/-- W5 (`fail_closes_tunnel_eager`, `replyTo = false`): the same failure on a ServerTLSLayer started on an already open connection —
    the stored Start is flushed to the child after the failure, tunnel CLOSED -/
example :
    let env := Props.C14.refEnv true (fun _ => .complete) false
    let s := C14.run env (fun _ _ => []) (Props.C14.init C14.RefL.refCodec .server) [.start true, .data [0x16, 0, 1, 2]]
    s.replyTo = false ∧ s.st = .closed ∧ s.toChild = [.start] ∧ s.up.getLast? = some .close ∧ s.accepted = [] := by decide +kernel

end MitmVerif.Props.C15
