/-
  C17 — property theorems about the `CertStore` model (Model/C17.lean), for ALL operation histories and
  every capacity `cap` (the code's `STORE_CAP` is `Gen.C17.storeCap`, regenerated on every run;
  `generated_le_cap_storeCap` instantiates it).  The theorems about histories are read off four results of the lemma
  modules: `inv_run` (`Inv`), `hist_empty` (`Hist`), `getCert_stable`, `refines_trace`; `first_registered_name_wins`, about
  any store, is `getCert_of_firstHit`.  `Wild`, `Registered`, `GeneratedBy`, `Op.isGet` (Lemmas/C17.lean) and
  `Op.undisturbing`, `Abs`, `trace` (Lemmas/C17Refine.lean) in the statements are defined there.
-/
import MitmVerif.Lemmas.C17
import MitmVerif.Lemmas.C17Refine
namespace MitmVerif.Props.C17
open MitmVerif MitmVerif.C17

variable {org crl : Option Bytes}

/-- `n` is a key under which a custom certificate answers the request `(cn, sans)`: a wildcard form of the
    (non-empty) common name or of a DNS SAN, the literal value of a non-DNS SAN, or the catch-all `*`. -/
def MatchesRequest (n : Bytes) (cn : Option Bytes) (sans : List San) : Prop :=
  (∃ c, cn = some c ∧ c ≠ [] ∧ Wild n c) ∨
  (∃ s ∈ sans, (s.kind = 0 ∧ Wild n s.val) ∨ (s.kind ≠ 0 ∧ n = s.val)) ∨
  n = [star]

/-- `CertStore.asterisk_forms` of a DNS name = the wildcard rule. -/
theorem mem_asteriskForms_iff (n c : Bytes) :
    n ∈ formsStr c ↔ (n = c ∨ ∃ p suf, c = p ++ dot :: suf ∧ n = star :: dot :: suf) :=
  mem_formsStr_iff n c

example : [star, dot, 0x63] ∈ formsStr [0x61, dot, 0x62, dot, 0x63] := by decide +kernel
example : ¬ [star] ∈ formsStr [0x61, dot, 0x62] := by decide +kernel

private theorem mem_potentialNames {n : Bytes} {cn : Option Bytes} {sans : List San}
    (h : n ∈ potentialNames cn sans) : MatchesRequest n cn sans := by
  simp only [potentialNames, List.mem_append, List.mem_flatMap, List.mem_singleton] at h
  rcases h with (h | ⟨s, hs, h⟩) | h
  · -- `cnForms` is empty unless the common name is non-empty
    match cn, h with
    | some (x :: xs), h => exact .inl ⟨x :: xs, rfl, nofun, (mem_formsStr_iff _ _).mp h⟩
  · refine .inr (.inl ⟨s, hs, ?_⟩)
    unfold formsSan at h
    split at h
    · exact .inl ⟨‹_›, (mem_formsStr_iff _ _).mp h⟩
    · exact .inr ⟨‹_›, List.mem_singleton.mp h⟩
  · exact .inr (.inr h)

/-- **Bound.** After any history: `len(expire_queue) ≤ cap`, at most `cap` generated keys in `certs`, and every
    generated entry still in `certs` is one of the queued ones. -/
theorem generated_le_cap (cap : Nat) (ops : List Op) :
    (run cap Store.empty ops).queue.length ≤ cap ∧
    genKeyCount (run cap Store.empty ops) ≤ cap ∧
    ∀ k e, (k, e) ∈ (run cap Store.empty ops).certs → e.custom = false → e ∈ (run cap Store.empty ops).queue := by
  have h := inv_run (inv_empty cap) ops
  exact ⟨h.2, Nat.le_trans h.1.count h.2, fun _ _ => h.1.gen_mem_queue⟩

theorem generated_le_cap_storeCap (ops : List Op) :
    (run Gen.C17.storeCap Store.empty ops).queue.length ≤ Gen.C17.storeCap ∧
    genKeyCount (run Gen.C17.storeCap Store.empty ops) ≤ Gen.C17.storeCap :=
  ⟨(generated_le_cap _ ops).1, (generated_le_cap _ ops).2.1⟩

/-- **Names.** Whatever `get_cert(cn, sans)` returns after any history is either a custom certificate that an
    `add_cert` of that history registered under a name matching the request, or a generated certificate for
    exactly `(cn, sans)`. -/
theorem returned_is_custom_matching_or_generated_exact (cap : Nat) (ops : List Op) (ok : Bool)
    (cn : Option Bytes) (sans : List San) (e : Entry)
    (h : (getCert cap ok (run cap Store.empty ops) cn sans org crl).2.entry? = some e) :
    (e.custom = true ∧ ∃ n, MatchesRequest n cn sans ∧ Registered ops n e) ∨
    (e.custom = false ∧ e.cn = cn ∧ e.sans = sans) := by
  have hinv := inv_run (inv_empty cap) ops
  rw [getCert_snd] at h
  split at h
  · rename_i e' hf
    obtain rfl := Option.some.inj h
    obtain ⟨k, hk, hl⟩ := firstHit_some hf
    have hc := hinv.1.certs_ok k e' (lookup_mem hl)
    simp only [potentialKeys, List.mem_append, List.mem_map, List.mem_singleton] at hk
    rcases hk with ⟨n, hn, rfl⟩ | rfl
    · exact .inl ⟨hc, n, mem_potentialNames hn, (hist_empty cap ops).names n e' hl⟩
    · exact .inr ⟨hc.1, hc.2.1, hc.2.2.1⟩
  · cases ok <;> cases h
    exact .inr ⟨rfl, rfl, rfl⟩

/-- **Stability.** If `get_cert(cn, sans)` returned `e` and afterwards only further `get_cert` calls happened,
    then — as long as `e` is custom or still in the expire queue — the same request returns `e` again (and as a
    plain hit: nothing is generated) — whatever organization / crl_url the repeated request asks for: they are
    not part of the key. -/
theorem same_request_same_cert_while_cached (cap : Nat) (ops mid : List Op) (ok ok' : Bool)
    (cn : Option Bytes) (sans : List San) (org' crl' : Option Bytes) (e : Entry)
    (hmid : ∀ op ∈ mid, op.isGet = true)
    (h1 : (getCert cap ok (run cap Store.empty ops) cn sans org crl).2.entry? = some e)
    (hc : e.custom = true ∨
          e ∈ (run cap (getCert cap ok (run cap Store.empty ops) cn sans org crl).1 mid).queue) :
    (getCert cap ok' (run cap (getCert cap ok (run cap Store.empty ops) cn sans org crl).1 mid) cn sans org' crl').2 = .hit e :=
  getCert_stable (inv_run (inv_empty cap) ops) (fun op hop => Op.undisturbing_of_isGet (hmid op hop)) h1 hc

/-- **Stability under unrelated registrations.** The same with registrations in between: `mid` may contain, besides
    `get_cert` calls, any `add_cert` none of whose registered names (CN, SAN values, extra names) is a potential key of the
    request (its CN / SAN names, their wildcard forms, `*`).  Such registrations cannot take the request over, and they do
    not disturb a custom or still-cached answer.  (`same_request_same_cert_while_cached` is the special case without
    registrations; a registration under a MATCHING name may legitimately change the answer — `first_registered_name_wins`.) -/
theorem same_request_same_cert_unrelated_registrations (cap : Nat) (ops mid : List Op) (ok ok' : Bool)
    (cn : Option Bytes) (sans : List San) (org' crl' : Option Bytes) (e : Entry)
    (hmid : ∀ op ∈ mid, Op.undisturbing cn sans op)
    (h1 : (getCert cap ok (run cap Store.empty ops) cn sans org crl).2.entry? = some e)
    (hc : e.custom = true ∨
          e ∈ (run cap (getCert cap ok (run cap Store.empty ops) cn sans org crl).1 mid).queue) :
    (getCert cap ok' (run cap (getCert cap ok (run cap Store.empty ops) cn sans org crl).1 mid) cn sans org' crl').2 = .hit e :=
  getCert_stable (inv_run (inv_empty cap) ops) hmid h1 hc

/-- **FIFO.** After any history the expire queue is exactly the last `cap` generated entries, in creation
    order; generated ids count up from 0; and a generated entry that is no longer in the queue is not stored
    under any key any more (so the next request for its names generates a new certificate). -/
theorem fifo_eviction (cap : Nat) (ops : List Op) :
    (run cap Store.empty ops).queue =
      (gens cap Store.empty ops).drop ((gens cap Store.empty ops).length - cap) ∧
    (gens cap Store.empty ops).map (·.id) = List.range (gens cap Store.empty ops).length ∧
    ∀ e ∈ gens cap Store.empty ops, e ∉ (run cap Store.empty ops).queue →
      ∀ k, (k, e) ∉ (run cap Store.empty ops).certs := by
  have hf := hist_empty cap ops
  refine ⟨hf.queue, ?_, fun e he hnq k hm => hnq ((inv_run (inv_empty cap) ops).1.gen_mem_queue hm (hf.gen e he).1)⟩
  have := hf.ids
  rwa [← (by simpa using congrArg List.length this : (gens cap Store.empty ops).length = (run cap Store.empty ops).next)]
    at this

/-! ### organization and crl_url: in the certificate, not in the key -/

/-- **Organization / CRL.** What `get_cert(cn, sans, organization, crl_url)` returns after any history, if it is a
    generated certificate: one generated by THIS call carries exactly this call's organization and crl_url; a cached
    one carries the organization and crl_url of the `get_cert` of the history that generated it (same cn and sans —
    possibly a different organization: they are not part of the key). -/
theorem generated_carries_org_of_generating_request (cap : Nat) (ops : List Op) (ok : Bool)
    (cn : Option Bytes) (sans : List San) (org crl : Option Bytes) (e : Entry) :
    ((getCert cap ok (run cap Store.empty ops) cn sans org crl).2 = .fresh e → e.org = org ∧ e.crl = crl) ∧
    ((getCert cap ok (run cap Store.empty ops) cn sans org crl).2 = .hit e → e.custom = false →
      e.cn = cn ∧ e.sans = sans ∧ GeneratedBy ops e) := by
  have hinv := inv_run (inv_empty cap) ops
  rw [getCert_snd]
  split
  · rename_i e' hf
    refine ⟨nofun, fun h hc => ?_⟩
    obtain rfl := Res.hit.inj h
    obtain ⟨k, hk, hl⟩ := firstHit_some hf
    have hc' := hinv.1.certs_ok k e' (lookup_mem hl)
    simp only [potentialKeys, List.mem_append, List.mem_map, List.mem_singleton] at hk
    rcases hk with ⟨n, _, rfl⟩ | rfl
    · rw [hc'] at hc; cases hc
    · -- a cached entry is queued, and the queue is the end of the creation log
      have hl := hist_empty cap ops
      exact ⟨hc'.2.1, hc'.2.2.1, (hl.gen e' (List.mem_of_mem_drop (hl.queue ▸ hc'.2.2.2))).2⟩
  · refine ⟨fun h => ?_, fun h => ?_⟩ <;> cases ok <;> cases h
    exact ⟨rfl, rfl⟩

/-! ### refinement: the store IS a registration table plus a bounded FIFO cache keyed by (cn, sans) -/

/-- **Refinement.** For every capacity and every history, the real store (dict + expire queue, `expire` rebuilding
    the dict by value) and the abstract store (`Abs`: a function name ↦ registered certificate, and the list of
    generated certificates in creation order, cut to the last `cap`) produce the same result for every operation,
    and stay related: same registrations under every name, abstract cache = expire queue, same id counter. -/
theorem refines_abstract_fifo_cache (cap : Nat) (ops : List Op) :
    trace cap Store.empty ops = absTrace cap Abs.empty ops ∧
    Refines cap (run cap Store.empty ops) (absRun cap Abs.empty ops) :=
  refines_trace ops (refines_empty cap)

/-- corollary (through the abstract machine): the bound -/
theorem cache_bounded_via_refinement (cap : Nat) (ops : List Op) :
    (run cap Store.empty ops).queue.length ≤ cap := by
  rw [← (refines_abstract_fifo_cache cap ops).2.cache]
  exact abs_cache_le cap ops Abs.empty (by simp [Abs.empty])

/-- corollary: after any history, what the dict holds under a generated key is exactly what the abstract cache
    finds for that key, and what it holds under a name is exactly the abstract registration -/
theorem dict_is_cache_and_registrations (cap : Nat) (ops : List Op) (cn : Option Bytes) (sans : List San) (n : Bytes) :
    lookup (.gen cn sans) (run cap Store.empty ops).certs = cacheFind cn sans (absRun cap Abs.empty ops).cache ∧
    lookup (.name n) (run cap Store.empty ops).certs = (absRun cap Abs.empty ops).custom n := by
  have h := (refines_abstract_fifo_cache cap ops).2
  exact ⟨by rw [h.cache]; exact lookup_gen_eq_cacheFind h.inv cn sans, h.names n⟩

/-- **Lookup order.** In any store: if `n` is the first potential key of the request (CN forms, then each SAN's
    forms in order, then `*`) that is registered, its certificate is returned — exact names beat wildcards, names
    earlier in the request beat later ones, every registration beats the generated-certificate cache. -/
theorem first_registered_name_wins (cap : Nat) (ok : Bool) (s : Store) (cn : Option Bytes) (sans : List San)
    (pre post : List Bytes) (n : Bytes) (e : Entry)
    (hsplit : potentialNames cn sans = pre ++ n :: post)
    (hpre : ∀ m ∈ pre, lookup (.name m) s.certs = none)
    (hn : lookup (.name n) s.certs = some e) :
    getCert cap ok s cn sans org crl = (s, .hit e) := by
  apply getCert_of_firstHit
  simp only [potentialKeys, hsplit, List.map_append, List.map_cons, List.append_assoc, firstHit_append]
  have hp : firstHit s.certs (pre.map Key.name) = none :=
    firstHit_eq_none.mpr fun k hk => by
      obtain ⟨m, hm, rfl⟩ := List.mem_map.mp hk
      exact hpre m hm
  simp only [hp, firstHit, hn]

/-! ### non-vacuity: the hypotheses are satisfiable and the model is not constant -/

private def sanA : San := ⟨0, [0x61, dot, 0x62]⟩          -- DNS:a.b
private def reqA : Op := .get true none [sanA] (some [0x4f]) none     -- organization "O"
private def reqB : Op := .get true (some [0x63]) [] none none
private def reg : Op := .add 7 none [] [[star, dot, 0x62]]   -- custom cert 7 registered as "*.b"

-- capacity 1: the second generation evicts the first
example : (run 1 Store.empty [reqA, reqB]).queue.map (·.id) = [1] := by decide +kernel
example : (gens 1 Store.empty [reqA, reqB, reqA]).map (·.id) = [0, 1, 2] := by decide +kernel
-- a cached request is a hit, a custom registration under "*.b" takes over for a.b
example : (getCert 2 true (run 2 Store.empty [reqA, reqB]) none [sanA] none none).2 = .hit ⟨false, 0, none, [sanA], some [0x4f], none⟩ := by decide +kernel
example : (getCert 2 true (run 2 Store.empty [reqA, reg]) none [sanA] none none).2 = .hit ⟨true, 7, none, [], none, none⟩ := by decide +kernel
example : Registered [reqA, reg] [star, dot, 0x62] ⟨true, 7, none, [], none, none⟩ :=
  ⟨7, none, [], [[star, dot, 0x62]], by simp [reg], rfl, by simp [addKeys]⟩
example : MatchesRequest [star, dot, 0x62] none [sanA] :=
  Or.inr (Or.inl ⟨sanA, by simp, Or.inl ⟨rfl, Or.inr ⟨[0x61], [0x62], rfl, rfl⟩⟩⟩)
-- lookup order: exact name before its wildcard before "*" (potential names of SAN a.b: a.b, *.b, *)
example : potentialNames none [sanA] = [[0x61, dot, 0x62], [star, dot, 0x62], [star]] := by decide +kernel
example : (getCert 2 true (run 2 Store.empty [.add 1 none [] [[star]], .add 2 none [] [[star, dot, 0x62]], .add 3 none [] [[0x61, dot, 0x62]]])
    none [sanA] none none).2 = .hit ⟨true, 3, none, [], none, none⟩ := by decide +kernel
example : (getCert 2 true (run 2 Store.empty [.add 1 none [] [[star]], .add 2 none [] [[star, dot, 0x62]]]) none [sanA] none none).2
    = .hit ⟨true, 2, none, [], none, none⟩ := by decide +kernel
-- the abstract and the real machine agree on a concrete history (and it is not a constant trace)
example : trace 1 Store.empty [reqA, reqB, reqA, reg, reqA] =
    [some (.fresh ⟨false, 0, none, [sanA], some [0x4f], none⟩), some (.fresh ⟨false, 1, some [0x63], [], none, none⟩),
     some (.fresh ⟨false, 2, none, [sanA], some [0x4f], none⟩), none, some (.hit ⟨true, 7, none, [], none, none⟩)] := by decide +kernel
-- organization is not part of the key: asking again with another organization returns the cached "O" certificate
example : (getCert 2 true (run 2 Store.empty [reqA]) none [sanA] (some [0x58]) (some [0x75])).2
    = .hit ⟨false, 0, none, [sanA], some [0x4f], none⟩ := by decide +kernel
example : GeneratedBy [reqA] ⟨false, 0, none, [sanA], some [0x4f], none⟩ := ⟨true, by simp [reqA]⟩
-- `same_request_same_cert_unrelated_registrations`: a registration under the unrelated name "c" between the two requests
-- does not disturb the cached answer for a.b; a registration under "*.b" (a potential key of a.b) is NOT undisturbing
private def regC : Op := .add 9 none [] [[0x63]]
example : (getCert 2 true (run 2 (getCert 2 true (run 2 Store.empty []) none [sanA] (some [0x4f]) none).1 [regC, reqB])
      none [sanA] none none).2 = .hit ⟨false, 0, none, [sanA], some [0x4f], none⟩ :=
  same_request_same_cert_unrelated_registrations (org := some [0x4f]) (crl := none) 2 [] [regC, reqB] true true none [sanA] none none _
    (by intro op hop
        simp only [List.mem_cons, List.not_mem_nil, or_false] at hop
        rcases hop with rfl | rfl
        · simp only [regC, Op.undisturbing]; decide +kernel
        · simp [reqB, Op.undisturbing])
    (by decide +kernel) (Or.inr (by decide +kernel))
example : ¬ Op.undisturbing none [sanA] reg := by simp only [reg, Op.undisturbing]; decide +kernel
example : (getCert 2 true (run 2 (getCert 2 true Store.empty none [sanA] none none).1 [reg]) none [sanA] none none).2
    = .hit ⟨true, 7, none, [], none, none⟩ := by decide +kernel
-- dummy_cert failing: `get_cert` raises
example : (getCert 2 false Store.empty (some []) [] none none).2 = .err := by decide +kernel

-- `same_request_same_cert_while_cached` instantiated with a non-empty `mid`: a.b is generated, another name is
-- requested in between (capacity 2, so a.b is still queued), the repeat — with another organization — is a hit on it
example : (getCert 2 true (run 2 (getCert 2 true (run 2 Store.empty []) none [sanA] (some [0x4f]) none).1 [reqB])
      none [sanA] (some [0x58]) none).2 = .hit ⟨false, 0, none, [sanA], some [0x4f], none⟩ :=
  same_request_same_cert_while_cached (org := some [0x4f]) (crl := none) 2 [] [reqB] true true none [sanA] (some [0x58]) none _
    (by simp [reqB, Op.isGet]) (by decide +kernel) (Or.inr (by decide +kernel))
-- … and its premise `hc` matters: with capacity 1 the entry has been evicted by the request in between and the repeat
-- generates a new certificate
example : (getCert 1 true (run 1 (getCert 1 true (run 1 Store.empty []) none [sanA] (some [0x4f]) none).1 [reqB])
      none [sanA] none none).2 = .fresh ⟨false, 2, none, [sanA], none, none⟩ := by decide +kernel
-- the hypothesis of `returned_is_custom_matching_or_generated_exact` on a history with a registration, both disjuncts
example : (getCert 2 true (run 2 Store.empty [reqA, reg]) none [sanA] none none).2.entry? = some ⟨true, 7, none, [], none, none⟩ := by decide +kernel
example : (getCert 2 true (run 2 Store.empty [reqA, reg]) (some [0x63]) [] none none).2.entry? = some ⟨false, 1, some [0x63], [], none, none⟩ := by decide +kernel
-- `first_registered_name_wins` instantiated: a.b itself is not registered, "*.b" is, "*" comes later
example : getCert 2 true (run 2 Store.empty [.add 1 none [] [[star]], reg]) none [sanA] none none =
    (run 2 Store.empty [.add 1 none [] [[star]], reg], .hit ⟨true, 7, none, [], none, none⟩) :=
  first_registered_name_wins (org := none) (crl := none) 2 true _ none [sanA] [[0x61, dot, 0x62]] [[star]] [star, dot, 0x62] _
    (by decide +kernel) (by decide +kernel) (by decide +kernel)

end MitmVerif.Props.C17
