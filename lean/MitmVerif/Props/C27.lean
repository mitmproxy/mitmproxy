/-
  C27 — DNS replies correspond to client queries; TCP framing ignores segmentation.
  The theorems about histories speak of the trace `(run c (init acts conns) evs).2` of the layer model (Model/C27), cut at an
  output as `pre ++ o :: post`: for every idna codec, every sequence of events, every addon script (`acts`: what the addons do
  in each hook) and every script of connect outcomes (`conns`). What justifies an output is the flow invariant `Inv` and the
  temporally ordered `TraceOk` (Lemmas/C27Inv); what follows an output is `Follows` (Lemmas/C27Shape); who made a reply is read
  off `Handled` (Lemmas/C27Handled, C27Reply). Each is proved of one message and carried to runs by `Sequential`. Segmentation:
  `seg_law` (Lemmas/C27Step) makes the layer a `Lawful` `Incremental` consumer (Basic/Seg). Asynchronous hooks: Lemmas/C27Async
  over Model/C27_Async.
-/
import MitmVerif.Lemmas.C27Stray
import MitmVerif.Lemmas.C27Shape
import MitmVerif.Lemmas.C27Reply
import MitmVerif.Lemmas.C27Async
import MitmVerif.Props.C25
set_option linter.unusedVariables false
set_option linter.unusedSimpArgs false
namespace MitmVerif.Props.C27
open MitmVerif MitmVerif.C25 MitmVerif.C27

/-! ### concrete evaluations by the kernel (kept first: they check much faster here) -/

/-- query id 1, RD, `a. A IN` -/
def q1 : Bytes := [0,1, 1,0, 0,1, 0,0, 0,0, 0,0, 1,0x61,0, 0,1, 0,1]
/-- query id 2, opcode 2, `b. AAAA IN` -/
def q2 : Bytes := [0,2, 0x10,0, 0,1, 0,0, 0,0, 0,0, 1,0x62,0, 0,28, 0,1]
/-- reply id 1 for `a. A IN` with one compressed answer -/
def r1 : Bytes := [0,1, 0x81,0x80, 0,1, 0,1, 0,0, 0,0, 1,0x61,0, 0,1, 0,1, 0xc0,0x0c, 0,1, 0,1, 0,0,0,60, 0,4, 192,0,2,1]
/-- reply id 1 for another question (`b. A IN`) -/
def r1x : Bytes := [0,1, 0x81,0x80, 0,1, 0,0, 0,0, 0,0, 1,0x62,0, 0,1, 0,1]
/-- reply with an id nobody asked for -/
def r77 : Bytes := [0,77, 0x81,0x80, 0,1, 0,0, 0,0, 0,0, 1,0x61,0, 0,1, 0,1]

def udp : Cfg := ⟨noIdna, false, true⟩
def tcp : Cfg := ⟨noIdna, true, true⟩
def udpNoUpstream : Cfg := ⟨noIdna, false, false⟩

def outsOf (c : Cfg) (acts : List Act) (conns : List Bool) (evs : List Ev) : List String :=
  (run c (init acts conns) evs).2.map fun
    | .hook .request _ => "request" | .hook .response _ => "response" | .hook .error _ => "error"
    | .opened .ok => "open" | .opened .fail => "open-fail" | .opened .killed => "open-killed"
    | .toServer m _ => s!"server:{m.id}" | .toClient m _ => s!"client:{m.id}:{m.rcode}"
    | .closeClient => "close-client" | .closeServer => "close-server" | .crash => "crash"

-- a matching reply is forwarded; an unsolicited one (F-C27a) and one for another question are dropped
example : outsOf udp [] [] [.clientData q1, .serverData r77, .serverData r1x, .serverData r1] =
    ["request", "open", "server:1", "response", "client:1:0"] := by decide +kernel
-- no upstream / failed connect (and every later attempt): SERVFAIL with the query's id
example : outsOf udpNoUpstream [] [] [.clientData q2] = ["request", "error", "client:2:2"] := by decide +kernel
example : outsOf udp [] [false] [.clientData q1, .clientData q2] =
    ["request", "open-fail", "error", "client:1:2", "request", "open-killed", "error", "client:2:2"] := by decide +kernel
-- the id of an answered query is used again (F-C27c): the new query goes upstream
example : outsOf udp [] [] [.clientData q1, .serverData r1, .clientData q1] =
    ["request", "open", "server:1", "response", "client:1:0", "request", "server:1"] := by decide +kernel
-- TCP: `[len][q1][00 00]` whole and split before `00 00` (F-C27b): the query is handled, then the connection closed
example : outsOf tcp [] [] [.clientData (frame q1 ++ [0, 0])] = ["request", "open", "server:1", "close-client"] := by
  decide +kernel
example : outsOf tcp [] [] [.clientData (frame q1), .clientData [0, 0], .clientData (frame q2)] =
    ["request", "open", "server:1", "close-client"] := by decide +kernel
-- addon actions: a response set in dns_request is sent, one cleared in dns_response is not
example : outsOf udp [.err] [] [.clientData q1] = ["request", "error", "client:1:2"] := by decide +kernel
example : outsOf udp [.pass, .clear] [] [.clientData q1, .serverData r1] = ["request", "open", "server:1", "response"] := by
  decide +kernel

/-! ### SERVFAIL synthesis -/

/-- **C27 (SERVFAIL fields).** `DNSMessage.fail(SERVFAIL)` keeps id, question section, opcode and the
    recursion-desired flag of the query; it is a response (QR=1) with RCODE 2 and no records. -/
theorem servfail_fields (q : Msg) :
    (servfail q).id = q.id ∧ (servfail q).questions = q.questions ∧ (servfail q).opCode = q.opCode ∧
    (servfail q).rd = q.rd ∧ (servfail q).query = false ∧ (servfail q).rcode = 2 ∧
    (servfail q).answers = [] ∧ (servfail q).authorities = [] ∧ (servfail q).additionals = [] :=
  ⟨rfl, rfl, rfl, rfl, rfl, rfl, rfl, rfl, rfl⟩

/-- **C27 (SERVFAIL on the wire).** For every query the codec decoded from bytes, the synthesised SERVFAIL encodes, and
    what the client decodes from those bytes is that SERVFAIL (so `servfail_fields` holds for the bytes sent). -/
theorem servfail_bytes (I : Idna) (b : Bytes) (q : Msg) (h : unpack I b = some q) :
    ∃ w, pack I (servfail q) = some w ∧ unpack I w = some (servfail q) :=
  MitmVerif.Props.C25.roundtrip I (servfail q) (Decoded.servfail_wellFormed ⟨b, h⟩)

example : ∃ q, unpack noIdna q2 = some q ∧ (servfail q).opCode = 2 ∧ (servfail q).rd = false ∧ (servfail q).id = 2 := by
  decide +kernel

/-! ### flows and replies -/

private theorem run_trace (c : Cfg) (acts : List Act) (conns : List Bool) (evs : List Ev) :
    TraceOk (addonMsgs acts) [] (run c (init acts conns) evs).2 :=
  (run_goodT c (addonMsgs acts) evs (init acts conns) (Inv_init acts conns)).2.2

/-- **C27 (every reported flow carries its query).** Whatever the client, the upstream server and the addons do:
    a flow handed to `dns_request`, `dns_response` or `dns_error` has a request, and that request is a query the
    client sent on this connection (it was announced by a `dns_request` hook at or before this point of the trace).
    At `dns_response` the flow also has a response, which an addon put there or which has the id and the question
    section of that query. -/
theorem flow_has_query (c : Cfg) (acts : List Act) (conns : List Bool) (evs : List Ev)
    (pre post : List Out) (h : Hook) (f : Flow)
    (htr : (run c (init acts conns) evs).2 = pre ++ .hook h f :: post) :
    ∃ q, f.request = some q ∧ q ∈ queriesOf (pre ++ [.hook h f]) ∧
      (h = .response → ∃ r, f.response = some r ∧ (r ∈ addonMsgs acts ∨ (r.id = q.id ∧ r.questions = q.questions))) := by
  have ht := run_trace c acts conns evs
  rw [htr] at ht
  obtain ⟨q, h1, h2, h3⟩ := TraceOk_at pre [] (.hook h f) post ht
  exact ⟨q, h1, by simpa using h2, h3⟩

/-- **C27 (every reply answers a query of this client).** Every message sent to the client is one an addon put into
    a flow, or it has the id and the question section of a query the client sent *earlier* on this connection
    (announced by a `dns_request` hook before this point of the trace).  This covers forwarded upstream replies —
    unsolicited ids, replies for another question and replies for an id whose query was already answered and
    re-used are not forwarded — and the synthesised SERVFAIL. -/
theorem reply_answers_query (c : Cfg) (acts : List Act) (conns : List Bool) (evs : List Ev)
    (pre post : List Out) (m : Msg) (w : Bytes)
    (htr : (run c (init acts conns) evs).2 = pre ++ .toClient m w :: post) :
    m ∈ addonMsgs acts ∨ ∃ q ∈ queriesOf pre, q.id = m.id ∧ q.questions = m.questions := by
  have ht := run_trace c acts conns evs
  rw [htr] at ht
  rcases TraceOk_at pre [] (.toClient m w) post ht with h | ⟨q, h1, h2⟩
  · exact Or.inl h
  · refine Or.inr ⟨q, ?_, h2⟩
    simpa [queriesOf_append, queriesOf, reqOf] using h1

/-- … in particular when no addon sets a response: unconditionally id and question section of an earlier query -/
theorem reply_answers_query_unmodified (c : Cfg) (acts : List Act) (conns : List Bool) (evs : List Ev)
    (pre post : List Out) (m : Msg) (w : Bytes) (hno : addonMsgs acts = [])
    (htr : (run c (init acts conns) evs).2 = pre ++ .toClient m w :: post) :
    ∃ q ∈ queriesOf pre, q.id = m.id ∧ q.questions = m.questions := by
  rcases reply_answers_query c acts conns evs pre post m w htr with h | h
  · rw [hno] at h; cases h
  · exact h

/-- the bytes sent are the wire form of the message (`pack_message`: length-prefixed over TCP) -/
theorem reply_is_packed (c : Cfg) (acts : List Act) (conns : List Bool) (evs : List Ev) (m : Msg) (w : Bytes)
    (hmem : Out.toClient m w ∈ (run c (init acts conns) evs).2) :
    ∃ b, pack c.I m = some b ∧ w = wireOf c.tcp b := by
  obtain ⟨σ', x, fc, _, h⟩ := mem_run_toClient c (addonMsgs acts) m w evs _ (Inv_init acts conns) hmem
  exact ((handled c σ' fc x).toClient h).1

/-- **C27 (the announced queries are the client's messages).** The queries announced by one event are, in order, the
    first of the messages the framing extracts from the client's bytes of that event (none for any other event): a prefix,
    which is cut short when an exception ends the loop and is empty once the layer has left `state_query`.  Only "a prefix"
    is stated; that it is all of them unless an exception ends the loop is `handleMsgs_queries` (Lemmas/C27Inv), for the
    message loop. -/
theorem announced_queries_are_client_messages (c : Cfg) (acts : List Act) (conns : List Bool) (evs : List Ev) (ev : Ev) :
    let σ := (run c (init acts conns) evs).1
    queriesOf (step c σ ev).2 <+: (match ev with | .clientData d => (extract c.I c.tcp σ.reqBuf d).1 | _ => []) := by
  intro σ
  have hinv : Inv (addonMsgs acts) σ.core := (run_goodT c (addonMsgs acts) evs (init acts conns) (Inv_init acts conns)).1
  have closes : ∀ {τ : Core} {tail : List Out}, Closes τ ((step c σ ev).1.core, tail) → queriesOf tail = [] := fun hk =>
    queriesOf_noQuery fun o ho => by rcases hk.mem ho with rfl | rfl <;> rfl
  obtain hk | ⟨fc, d, tail, rfl, _, hk, ho⟩ := step_out c σ ev
  · rw [closes hk]
    exact List.nil_prefix
  · rw [ho, queriesOf_append, closes hk, List.append_nil]
    cases fc <;> exact (handleMsgs_queries c (addonMsgs acts) _ _ σ.core hinv).1

/-! ### no upstream answer possible: SERVFAIL -/

/-- **C27 (no upstream: SERVFAIL).** A query that no addon answers on a connection without upstream server is
    reported through `dns_error` and answered with the SERVFAIL of exactly this query. Stated for one UDP datagram and an
    exhausted addon script; for every history, script and transport: `no_upstream_request_then_response_or_error` with
    `error_hook_then_servfail`. -/
theorem no_upstream_servfail (c : Cfg) (σ : State) (d : Bytes) (q : Msg) (hudp : c.tcp = false)
    (hq : σ.core.phase = .query) (hu : unpack c.I d = some q) (hacts : σ.core.acts = []) (hup : c.upstream = false) :
    ∃ w f, pack c.I (servfail q) = some w ∧ f.request = some q ∧
      (step c σ (.clientData d)).2 =
        [.hook .request f, .hook .error { f with error := true }, .toClient (servfail q) (wireOf c.tcp w)] := by
  obtain ⟨w, hw, _⟩ := servfail_bytes c.I d q hu
  refine ⟨w, { flowFor σ.core q.id with request := some q }, hw, rfl, ?_⟩
  have hr := flowFor_response σ.core q.id
  have hne : σ.core.phase ≠ .crashed := by rw [hq]; simp
  simp [step, hq, stepClient, extract, hudp, hu, handleMsgs, hne, clientMsg, handleRequest, popAct, hacts, applyAct, hr,
    hup, handleError, setFlow, sendClient, hw, crashed, wireOf?]

/-- **C27 (upstream unreachable: SERVFAIL).** A query that no addon answers while the upstream server cannot be
    connected is reported through `dns_error` and answered with the SERVFAIL of exactly this query. Stated for one UDP
    datagram, an exhausted addon script and a first connect attempt that fails; for every history, script and transport:
    `failed_connect_then_error_hook` with `error_hook_then_servfail`. -/
theorem connect_failure_servfail (c : Cfg) (σ : State) (d : Bytes) (q : Msg) (conns : List Bool) (hudp : c.tcp = false)
    (hq : σ.core.phase = .query) (hu : unpack c.I d = some q) (hacts : σ.core.acts = []) (hup : c.upstream = true)
    (hopen : σ.core.serverOpen = false) (hfail : σ.core.serverFailed = false) (hconn : σ.core.conns = false :: conns) :
    ∃ w f, pack c.I (servfail q) = some w ∧ f.request = some q ∧
      (step c σ (.clientData d)).2 =
        [.hook .request f, .opened .fail, .hook .error { f with error := true }, .toClient (servfail q) (wireOf c.tcp w)] := by
  obtain ⟨w, hw, _⟩ := servfail_bytes c.I d q hu
  refine ⟨w, { flowFor σ.core q.id with request := some q }, hw, rfl, ?_⟩
  have hr := flowFor_response σ.core q.id
  have hne : σ.core.phase ≠ .crashed := by rw [hq]; simp
  have he := (flowFor_fresh σ.core q.id).2
  simp [step, hq, stepClient, extract, hudp, hu, handleMsgs, hne, clientMsg, handleRequest, popAct, hacts, applyAct, hr, he,
    hup, hopen, hfail, popConn, hconn, handleError, setFlow, sendClient, hw, crashed, wireOf?]

example : ∃ q, unpack udpNoUpstream.I q2 = some q ∧ (init [] []).core.acts = [] := by decide +kernel

/-! ### TCP framing does not depend on the segmentation -/

/-- what the framing hands to the layer: messages, and the error that ends the stream -/
inductive Item where
  | msg (m : Msg)
  | bad
  deriving DecidableEq, Repr

/-- `_unpack_messages` as a consumer of segments: `none` = the stream has ended with an error -/
def feedRaw (I : Idna) (s : Option Bytes) (seg : Bytes) : Option Bytes × List Item :=
  match s with
  | none => (none, [])
  | some buf =>
    (if (parse I (buf ++ seg)).2.2 then none else some (parse I (buf ++ seg)).2.1,
     (parse I (buf ++ seg)).1.map Item.msg ++ (if (parse I (buf ++ seg)).2.2 then [Item.bad] else []))

/-- a buffer between two `DataReceived` events holds no complete frame -/
def StableS (I : Idna) (s : Option Bytes) : Prop := ∀ x, s = some x → parse I x = ([], x, false)

private theorem feedRaw_stable (I : Idna) (s : Option Bytes) (seg : Bytes) : StableS I (feedRaw I s seg).1 := by
  intro x hx
  cases s with
  | none => simp [feedRaw] at hx
  | some buf =>
    simp only [feedRaw] at hx
    split at hx
    · cases hx
    · cases hx; exact parse_rest_stable I _

/-- the framing of one direction as an `Incremental` consumer (Basic/Seg) -/
def framer (I : Idna) : Incremental { s : Option Bytes // StableS I s } Item where
  feed s seg := (⟨(feedRaw I s.1 seg).1, feedRaw_stable I s.1 seg⟩, (feedRaw I s.1 seg).2)

theorem framer_lawful (I : Idna) : (framer I).Lawful := by
  constructor
  · intro ⟨s, hs⟩
    cases s with
    | none => simp [framer, feedRaw]
    | some buf =>
      have := hs buf rfl
      simp [framer, feedRaw, this]
  · intro ⟨s, hs⟩ a b
    cases s with
    | none => simp [framer, feedRaw]
    | some buf =>
      have happ := parse_append I (buf ++ a) b
      rw [List.append_assoc] at happ
      by_cases hbad : (parse I (buf ++ a)).2.2 = true
      · rw [if_pos hbad] at happ
        simp [framer, feedRaw, happ, hbad]
      · rw [if_neg hbad] at happ
        have hbad' : (parse I (buf ++ a)).2.2 = false := by simpa using hbad
        simp only [framer, feedRaw, happ, hbad', Bool.false_eq_true, if_false, List.append_nil, List.map_append,
          List.append_assoc]

/-- **C27 (TCP framing ignores segmentation).** The sequence of DNS messages (and the error, if the stream is
    malformed) extracted from a TCP byte stream is the same for any two segmentations of that stream; so is the
    buffer left over. -/
theorem frames_seg_independent (I : Idna) (s : { s : Option Bytes // StableS I s }) (a b : List Bytes)
    (h : a.flatten = b.flatten) : (framer I).feedAll s a = (framer I).feedAll s b :=
  Incremental.seg_independent' (framer I) (framer_lawful I) s a b h

/-- … and it equals what the framing extracts from the stream delivered in one piece -/
theorem frames_seg_independent_whole (I : Idna) (s : { s : Option Bytes // StableS I s }) (segs : List Bytes) :
    (framer I).feedAll s segs = (framer I).feed s segs.flatten :=
  Incremental.seg_independent (framer I) (framer_lawful I) s segs

/-- a fresh connection: empty buffer -/
def fresh (I : Idna) : { s : Option Bytes // StableS I s } := ⟨some [], by intro x hx; cases hx; exact parse_nil I⟩

-- `[len][q1][00 00]` in one piece, split before `00 00`, and byte by byte: the query, then the error
example : ((framer noIdna).feedAll (fresh noIdna) [frame q1 ++ [0, 0]]).2 =
    ((framer noIdna).feedAll (fresh noIdna) [frame q1, [0, 0]]).2 ∧
    ((framer noIdna).feedAll (fresh noIdna) [frame q1 ++ [0, 0]]).2.length = 2 := by decide +kernel

/-! ### the layer as a whole does not depend on the segmentation of the client's stream -/

private theorem stable_step (c : Cfg) (htcp : c.tcp = true) (σ : State) (h : StableC c σ) (d : Bytes) :
    StableC c (step c σ (.clientData d)).1 :=
  step_stable c true σ (.clientData d) h

/-- the layer fed with the client's segments, as an `Incremental` consumer (Basic/Seg) -/
def clientFeed (c : Cfg) (htcp : c.tcp = true) : Incremental { σ : State // StableC c σ } Out where
  feed σ seg := (⟨(step c σ.1 (.clientData seg)).1, stable_step c htcp σ.1 σ.2 seg⟩, (step c σ.1 (.clientData seg)).2)

theorem clientFeed_lawful (c : Cfg) (htcp : c.tcp = true) : (clientFeed c htcp).Lawful := by
  constructor
  · intro ⟨σ, hσ⟩
    simp [clientFeed, show step c σ (.clientData []) = _ from step_data_nil c htcp true σ hσ]
  · intro ⟨σ, hσ⟩ a b
    simp [clientFeed, dataEv, show step c σ (.clientData (a ++ b)) = _ from seg_law c htcp true σ a b]

/-- a run over the segments of one direction is the `feedAll` of a consumer whose `feed` is `step` on that direction -/
private theorem feedAll_run {S : State → Prop} (c : Cfg) (F : Incremental { σ : State // S σ } Out) (ev : Bytes → Ev)
    (hF : ∀ σ seg, ((F.feed σ seg).1.1, (F.feed σ seg).2) = step c σ.1 (ev seg)) :
    ∀ (segs : List Bytes) (σ : { σ : State // S σ }), run c σ.1 (segs.map ev) = ((F.feedAll σ segs).1.1, (F.feedAll σ segs).2)
  | [], σ => rfl
  | seg :: segs, σ => by
    simp only [List.map_cons, run, Incremental.feedAll, ← hF σ seg, feedAll_run c F ev hF segs]

/-- **C27 (the layer ignores segmentation).** Over TCP, for any state whose request buffer holds no complete frame
    (every reachable state, see `reachable_stable`), any two segmentations of the same client byte stream lead to
    the same hooks, the same bytes sent, the same closes — and the same state, whatever the addons do. -/
theorem layer_seg_independent (c : Cfg) (htcp : c.tcp = true) (σ : State) (hσ : StableC c σ) (a b : List Bytes)
    (h : a.flatten = b.flatten) : run c σ (a.map .clientData) = run c σ (b.map .clientData) := by
  rw [feedAll_run c (clientFeed c htcp) _ (fun _ _ => rfl) a ⟨σ, hσ⟩, feedAll_run c (clientFeed c htcp) _ (fun _ _ => rfl) b ⟨σ, hσ⟩,
    Incremental.seg_independent' (clientFeed c htcp) (clientFeed_lawful c htcp) ⟨σ, hσ⟩ a b h]

/-- every state reached from a fresh layer has a request buffer without complete frame -/
theorem reachable_stable (c : Cfg) (htcp : c.tcp = true) (acts : List Act) (conns : List Bool) (evs : List Ev) :
    StableC c (run c (init acts conns) evs).1 :=
  run_stable c true evs _ (parse_nil c.I)

example : run tcp (init [] []) ([frame q1 ++ [0, 0]].map .clientData) =
    run tcp (init [] []) ([frame q1, [0], [0]].map .clientData) :=
  layer_seg_independent tcp rfl _ (by simp [StableC, init, parse_nil]) _ _ (by simp)

/-! ### a malformed length prefix closes the connection -/

/-- **C27 (done is final).** Once the layer has closed a connection (or an exception left it) no event produces
    any output any more. -/
theorem done_is_final (c : Cfg) (σ : State) (h : σ.core.phase ≠ .query) (evs : List Ev) : run c σ evs = (σ, []) := by
  induction evs with
  | nil => rfl
  | cons ev evs ih => simp [run, step_not_query c σ ev h, ih]

/-- **C27 (a malformed length prefix closes the connection).** Over TCP, when the bytes received from the client
    (buffer plus new segment) consist of complete frames followed by a zero length prefix — whatever follows it and
    however the stream was segmented before — the messages in front of it are handled, then the layer closes the
    client connection and is done for good (unless an exception already left the layer while handling them). -/
theorem bad_length_closes (c : Cfg) (htcp : c.tcp = true) (σ : State) (hq : σ.core.phase = .query) (d x rest : Bytes)
    (ms : List Msg) (hx : σ.reqBuf ++ d = x ++ 0 :: 0 :: rest) (hms : parse c.I x = (ms, [], false)) :
    let r := step c σ (.clientData d)
    r.1.core.phase ≠ .query ∧
    (r.1.core.phase = .done → r.2 = (handleMsgs c true σ.core ms).2 ++ [.closeClient]) ∧
    (r.1.core.phase = .crashed → .crash ∈ r.2) := by
  obtain ⟨h1, h2, h3⟩ := bad_length c htcp true σ ⟨hq, nofun⟩ d x rest ms hx hms
  exact ⟨h1, fun hd => congrArg Prod.snd (h2 hd), h3⟩

example : (parse noIdna (frame q1)).2 = ([], false) ∧ (parse noIdna (frame q1)).1.length = 1 := by decide +kernel

/-! ### the upstream server's stream: the layer does not depend on its segmentation either -/

private theorem stable_step_server (c : Cfg) (htcp : c.tcp = true) (σ : State) (h : StableR c σ) (d : Bytes) :
    StableR c (step c σ (.serverData d)).1 :=
  step_stable c false σ (.serverData d) h

/-- the layer fed with the upstream server's segments, as an `Incremental` consumer (Basic/Seg) -/
def serverFeed (c : Cfg) (htcp : c.tcp = true) : Incremental { σ : State // StableR c σ } Out where
  feed σ seg := (⟨(step c σ.1 (.serverData seg)).1, stable_step_server c htcp σ.1 σ.2 seg⟩, (step c σ.1 (.serverData seg)).2)

theorem serverFeed_lawful (c : Cfg) (htcp : c.tcp = true) : (serverFeed c htcp).Lawful := by
  constructor
  · intro ⟨σ, hσ⟩
    simp [serverFeed, show step c σ (.serverData []) = _ from step_data_nil c htcp false σ hσ]
  · intro ⟨σ, hσ⟩ a b
    simp [serverFeed, dataEv, show step c σ (.serverData (a ++ b)) = _ from seg_law c htcp false σ a b]

/-- **C27 (the layer ignores the segmentation of the upstream's stream).** Over TCP, in any state whose response
    buffer holds no complete frame (every reachable state, see `reachable_stable_server`) — i.e. for any set of
    pending queries, any remaining addon script — any two segmentations of the same byte stream sent by the upstream
    server lead to the same `dns_response` hooks, the same messages sent to the client, the same closes and the same
    final state. -/
theorem layer_seg_independent_server (c : Cfg) (htcp : c.tcp = true) (σ : State) (hσ : StableR c σ) (a b : List Bytes)
    (h : a.flatten = b.flatten) : run c σ (a.map .serverData) = run c σ (b.map .serverData) := by
  rw [feedAll_run c (serverFeed c htcp) _ (fun _ _ => rfl) a ⟨σ, hσ⟩, feedAll_run c (serverFeed c htcp) _ (fun _ _ => rfl) b ⟨σ, hσ⟩,
    Incremental.seg_independent' (serverFeed c htcp) (serverFeed_lawful c htcp) ⟨σ, hσ⟩ a b h]

/-- … in particular the same as for delivery in one piece -/
theorem layer_seg_independent_server_whole (c : Cfg) (htcp : c.tcp = true) (σ : State) (hσ : StableR c σ) (segs : List Bytes) :
    run c σ (segs.map .serverData) = step c σ (.serverData segs.flatten) := by
  rw [feedAll_run c (serverFeed c htcp) _ (fun _ _ => rfl) segs ⟨σ, hσ⟩,
    Incremental.seg_independent (serverFeed c htcp) (serverFeed_lawful c htcp) ⟨σ, hσ⟩ segs]
  rfl

/-- every state reached from a fresh layer has a response buffer without complete frame -/
theorem reachable_stable_server (c : Cfg) (htcp : c.tcp = true) (acts : List Act) (conns : List Bool) (evs : List Ev) :
    StableR c (run c (init acts conns) evs).1 :=
  run_stable c false evs _ (parse_nil c.I)

-- two pending queries; `[r1][bad frame]` from the upstream whole, split after r1 and split inside the length prefix
example : run tcp (init [] []) (.clientData (frame q1 ++ frame q2) :: [frame r1 ++ [0, 0]].map .serverData) =
    run tcp (init [] []) (.clientData (frame q1 ++ frame q2) :: [frame r1, [0], [0]].map .serverData) := by
  simp only [run]
  congr 1
  · congr 1
    exact layer_seg_independent_server tcp rfl _
      (reachable_stable_server tcp rfl [] [] [.clientData (frame q1 ++ frame q2)]) _ _ (by simp)
  · congr 1
    exact congrArg Prod.snd (layer_seg_independent_server tcp rfl _
      (reachable_stable_server tcp rfl [] [] [.clientData (frame q1 ++ frame q2)]) _ _ (by simp))

/-- **C27 (a malformed length prefix from the upstream closes its connection).** Over TCP, when the bytes received
    from the open upstream connection consist of complete frames followed by a zero length prefix, the replies in
    front of it are handled, then the layer closes the server connection and is done for good (unless an exception
    already left the layer while handling them). -/
theorem bad_length_closes_server (c : Cfg) (htcp : c.tcp = true) (σ : State) (hq : σ.core.phase = .query)
    (ho : σ.core.serverOpen = true) (d x rest : Bytes) (ms : List Msg)
    (hx : σ.respBuf ++ d = x ++ 0 :: 0 :: rest) (hms : parse c.I x = (ms, [], false)) :
    let r := step c σ (.serverData d)
    r.1.core.phase ≠ .query ∧
    (r.1.core.phase = .done → r.2 = (handleMsgs c false σ.core ms).2 ++ [.closeServer] ∧ r.1.core.serverOpen = false) ∧
    (r.1.core.phase = .crashed → .crash ∈ r.2) := by
  obtain ⟨h1, h2, h3⟩ := bad_length c htcp false σ ⟨hq, fun _ => ho⟩ d x rest ms hx hms
  exact ⟨h1, fun hd => ⟨congrArg Prod.snd (h2 hd), congrArg (·.1.core.serverOpen) (h2 hd)⟩, h3⟩

/-! ### arbitrary interleavings: only the bytes between two changes of direction matter -/

/-- merge `cur` with the data events of the same direction that follow it directly -/
def coalesceInto : Ev → List Ev → List Ev
  | cur, [] => [cur]
  | cur, ev :: rest =>
    match cur, ev with
    | .clientData a, .clientData b => coalesceInto (.clientData (a ++ b)) rest
    | .serverData a, .serverData b => coalesceInto (.serverData (a ++ b)) rest
    | _, _ => cur :: coalesceInto ev rest

/-- the schedule with every maximal run of segments of one direction delivered in one piece; the order of everything
    else (which bytes of the client precede which bytes of the server, closes) is kept -/
def coalesce : List Ev → List Ev
  | [] => []
  | ev :: rest => coalesceInto ev rest

private theorem run_merge (c : Cfg) (htcp : c.tcp = true) (fc : Bool) (σ : State) (a b : Bytes) (rest : List Ev) :
    run c σ (dataEv fc (a ++ b) :: rest) = run c σ (dataEv fc a :: dataEv fc b :: rest) := by
  simp only [run, seg_law c htcp fc σ a b, List.append_assoc]

private theorem run_coalesceInto (c : Cfg) (htcp : c.tcp = true) : ∀ (rest : List Ev) (cur : Ev) (σ : State),
    run c σ (coalesceInto cur rest) = run c σ (cur :: rest) := by
  intro rest
  induction rest with
  | nil => intro cur σ; rfl
  | cons ev rest ih =>
    intro cur σ
    have other : run c σ (cur :: coalesceInto ev rest) = run c σ (cur :: ev :: rest) := by
      simp only [run]; rw [ih ev]; simp only [run]
    cases cur with
    | clientData a =>
      cases ev with
      | clientData b => simp only [coalesceInto]; rw [ih]; exact run_merge c htcp true σ a b rest
      | _ => simpa only [coalesceInto] using other
    | serverData a =>
      cases ev with
      | serverData b => simp only [coalesceInto]; rw [ih]; exact run_merge c htcp false σ a b rest
      | _ => simpa only [coalesceInto] using other
    | clientClose => cases ev <;> simpa only [coalesceInto] using other
    | serverClose => cases ev <;> simpa only [coalesceInto] using other

/-- **C27 (segmentation never matters, in any interleaving).** Over TCP, from any state and for any schedule of
    client segments, server segments and closes: delivering every maximal run of consecutive segments of one direction
    in one piece changes nothing — same hooks, same bytes sent, same closes, same final state. -/
theorem run_coalesce (c : Cfg) (htcp : c.tcp = true) (σ : State) (evs : List Ev) :
    run c σ (coalesce evs) = run c σ evs := by
  cases evs with
  | nil => rfl
  | cons ev rest => exact run_coalesceInto c htcp rest ev σ

/-- **C27 (interleaved schedules that differ only in segmentation are indistinguishable).** Two schedules in which
    client and server bytes are interleaved in the same way — the same bytes between any two changes of direction, the
    same closes at the same places, so every reply byte keeps its position relative to the query bytes — but which
    are cut into segments differently, lead to the same hooks, the same bytes sent to client and server, the same
    closes and the same final state, whatever the addons and the connect attempts do. -/
theorem interleaved_seg_independent (c : Cfg) (htcp : c.tcp = true) (σ : State) (evs evs' : List Ev)
    (h : coalesce evs = coalesce evs') : run c σ evs = run c σ evs' := by
  rw [← run_coalesce c htcp σ evs, ← run_coalesce c htcp σ evs', h]

-- query cut inside its length prefix, reply cut in three, trailing garbage byte by byte: same as whole delivery
example : coalesce [.clientData [0], .clientData (frame q1).tail, .serverData (frame r1 ++ [0]), .serverData [0], .clientClose] =
    coalesce [.clientData (frame q1), .serverData [0], .serverData (frame r1).tail, .serverData [0, 0], .clientClose] := by
  decide +kernel

/-- every segmentation of a stream coalesces to the stream in one piece (so `interleaved_seg_independent` relates
    every two segmentations of the same interleaved byte streams) -/
theorem coalesce_segments (a : Bytes) (segs : List Bytes) :
    coalesce ((a :: segs).map .clientData) = [.clientData (a :: segs).flatten] ∧
    coalesce ((a :: segs).map .serverData) = [.serverData (a :: segs).flatten] := by
  have one : ∀ (fc : Bool) (a : Bytes), coalesceInto (dataEv fc a) (segs.map (dataEv fc)) = [dataEv fc (a :: segs).flatten] := by
    intro fc
    induction segs with
    | nil => intro a; simp [coalesceInto]
    | cons b segs ih => intro a; cases fc <;> simp only [List.map_cons, coalesceInto, dataEv] <;> exact (ih (a ++ b)).trans (by simp [dataEv])
  exact ⟨one true a, one false a⟩

/-! ### what the layer does with upstream replies nobody is waiting for -/

private theorem reach (c : Cfg) (acts : List Act) (conns : List Bool) (evs : List Ev) :
    Inv (addonMsgs acts) (run c (init acts conns) evs).1.core ∧
    (run c (init acts conns) evs).1.core.seen = (queriesOf (run c (init acts conns) evs).2).reverse := by
  have h := run_goodT c (addonMsgs acts) evs (init acts conns) (Inv_init acts conns)
  exact ⟨h.1, by simpa [init] using h.2.1⟩

/-- **C27 (stray upstream replies, every history).** After any history, when the upstream sends data in which no
    message has both the id and the question section of a query the client has sent on this connection — unsolicited
    ids, replies for another question, replies for an id whose query was answered and re-used for another question —
    then no hook fires and nothing is sent to the client; the only possible output is closing the upstream after a
    malformed frame. The state is untouched except that the TCP de-framer advances exactly as for solicited data:
    complete stray frames are consumed, an incomplete one stays buffered (so a stray frame split over several segments,
    with anything in between, cannot shift the framing of later replies). -/
theorem stray_reply_ignored (c : Cfg) (acts : List Act) (conns : List Bool) (evs : List Ev) (d : Bytes) :
    let σ := (run c (init acts conns) evs).1
    let x := extract c.I c.tcp σ.respBuf d
    (∀ m ∈ x.1, ∀ q ∈ queriesOf (run c (init acts conns) evs).2, ¬ (q.id = m.id ∧ q.questions = m.questions)) →
    (step c σ (.serverData d)).2 =
        (if σ.core.phase = .query ∧ σ.core.serverOpen = true ∧ x.2.2 = true then [.closeServer] else []) ∧
    (x.2.2 = false → (step c σ (.serverData d)).1 =
        (if σ.core.phase = .query ∧ σ.core.serverOpen = true then { σ with respBuf := x.2.1 } else σ)) := by
  intro σ x hstray
  obtain ⟨hinv, hseen⟩ := reach c acts conns evs
  have huns : ∀ m ∈ x.1, ¬ Solicited σ.core m := by
    intro m hm hs
    obtain ⟨q, h1, h2, h3⟩ := Solicited_seen hinv hs
    exact hstray m hm q (by rw [hseen] at h1; simpa using h1) ⟨h2, h3⟩
  exact step_unsolicited c (addonMsgs acts) σ hinv d huns

/-- **C27 (which upstream replies are handled).** In every reachable state a message from the upstream is handled
    (`dns_response` hook, then sent to the client unless an addon clears it) exactly if the flow table holds, under the
    message's id, a flow whose request has the same question section — a first reply and a duplicate of it alike —
    and is ignored without any effect otherwise. -/
theorem upstream_reply_cases (c : Cfg) (acts : List Act) (conns : List Bool) (evs : List Ev) (m : Msg) :
    let σ := (run c (init acts conns) evs).1.core
    (∀ f q, σ.flows.lookup m.id = some f → f.request = some q → m.questions = q.questions →
        serverMsg c σ m = handleResponse c σ m.id f m) ∧
    (¬ Solicited σ m → serverMsg c σ m = (σ, [])) := by
  intro σ
  exact ⟨fun f q hl hr hq => serverMsg_solicited c σ m f q hl hr hq,
         fun h => serverMsg_unsolicited c (addonMsgs acts) σ m (reach c acts conns evs).1 h⟩

/-- **C27 (a buffered upstream segment commutes with client data).** Over TCP with the upstream open: an upstream
    segment that completes no frame (e.g. the first part of a stray or solicited reply) and a following client segment
    can be delivered in either order — same hooks, same bytes sent, same final state. -/
theorem buffered_server_segment_commutes (c : Cfg) (htcp : c.tcp = true) (σ : State) (s x : Bytes)
    (hq : σ.core.phase = .query) (ho : σ.core.serverOpen = true)
    (hnone : (parse c.I (σ.respBuf ++ s)).1 = []) (hok : (parse c.I (σ.respBuf ++ s)).2.2 = false) :
    run c σ [.serverData s, .clientData x] = run c σ [.clientData x, .serverData s] :=
  buffered_server_commutes c htcp σ s x hq ho hnone hok

/-- **C27 (a frame split around a client query is harmless).** … hence an upstream frame whose first part arrives
    before a client segment and whose rest (followed by anything) arrives after it is handled exactly as if all of it
    had arrived after the client segment in one piece. -/
theorem split_frame_around_query (c : Cfg) (htcp : c.tcp = true) (σ : State) (s1 s2 x : Bytes)
    (hq : σ.core.phase = .query) (ho : σ.core.serverOpen = true)
    (hnone : (parse c.I (σ.respBuf ++ s1)).1 = []) (hok : (parse c.I (σ.respBuf ++ s1)).2.2 = false) :
    run c σ [.serverData s1, .clientData x, .serverData s2] = run c σ [.clientData x, .serverData (s1 ++ s2)] := by
  have h1 : run c σ [.serverData s1, .clientData x, .serverData s2] =
      ((run c (run c σ [.serverData s1, .clientData x]).1 [.serverData s2]).1,
       (run c σ [.serverData s1, .clientData x]).2 ++ (run c (run c σ [.serverData s1, .clientData x]).1 [.serverData s2]).2) := by
    simp [run, List.append_assoc]
  rw [h1, buffered_server_commutes c htcp σ s1 x hq ho hnone hok]
  have h2 : ∀ τ : State, run c τ [.clientData x, .serverData (s1 ++ s2)] = run c τ [.clientData x, .serverData s1, .serverData s2] := by
    intro τ
    simp only [run, dataEv, show step c _ (.serverData (s1 ++ s2)) = _ from seg_law c htcp false _ s1 s2, List.append_nil, List.append_assoc]
  rw [h2]
  simp [run, List.append_assoc]

-- c27-3's scenario: q1 answered; a stray duplicate of r1 arrives in two pieces around the client's q2; then the reply to q2
example : outsOf tcp [] [] [.clientData (frame q1), .serverData (frame r1), .serverData ((frame r1).take 7),
      .clientData (frame q2), .serverData ((frame r1).drop 7 ++ frame r77)] =
    ["request", "open", "server:1", "response", "client:1:0", "request", "server:2", "response", "client:1:0"] := by
  decide +kernel

/-! ### the question SECTION is compared, not a single question -/

/-- **C27 (the whole question section decides).** A message from the upstream whose id has a flow but whose question
    section differs from that flow's query in any way — another number of questions (none, two, three …), another
    order, one question with another name, type or class — has no effect at all: no hook, nothing sent, state
    unchanged. (Seed c27-5 compared `DNSMessage.question`, which is `None` for every message that does not carry
    exactly one question.) -/
theorem reply_with_other_question_section_ignored (c : Cfg) (σ : Core) (m : Msg) (f : Flow) (q : Msg)
    (hl : σ.flows.lookup m.id = some f) (hr : f.request = some q) (hne : m.questions ≠ q.questions) :
    serverMsg c σ m = (σ, []) := by
  unfold serverMsg
  simp [hl, hr, hne]

/-- id 5, no question -/
def q0 : Bytes := [0,5, 1,0, 0,0, 0,0, 0,0, 0,0]
def r0 : Bytes := [0,5, 0x81,0x80, 0,0, 0,0, 0,0, 0,0]
/-- id 5, two questions `a. A IN`, `b. AAAA IN` — and the reply with the same / the exchanged questions -/
def q2q : Bytes := [0,5, 1,0, 0,2, 0,0, 0,0, 0,0, 1,0x61,0, 0,1, 0,1, 1,0x62,0, 0,28, 0,1]
def r2q : Bytes := [0,5, 0x81,0x80, 0,2, 0,0, 0,0, 0,0, 1,0x61,0, 0,1, 0,1, 1,0x62,0, 0,28, 0,1]
def r2p : Bytes := [0,5, 0x81,0x80, 0,2, 0,0, 0,0, 0,0, 1,0x62,0, 0,28, 0,1, 1,0x61,0, 0,1, 0,1]

-- pending query with two questions: exchanged questions and an empty section are dropped, the equal section is forwarded
example : outsOf udp [] [] [.clientData q2q, .serverData r2p, .serverData r0, .serverData r2q] =
    ["request", "open", "server:5", "response", "client:5:0"] := by decide +kernel
-- pending query without question: a reply with two questions is dropped, the one without question is forwarded
example : outsOf udp [] [] [.clientData q0, .serverData r2q, .serverData r0] =
    ["request", "open", "server:5", "response", "client:5:0"] := by decide +kernel

/-! ### whole histories: what follows `dns_error` and a failed connect; exceptions -/

/-- what directly follows an output of a history, exceptions allowed -/
private theorem follows (c : Cfg) (acts : List Act) (conns : List Bool) (evs : List Ev) {pre post : List Out} {o : Out}
    (htr : (run c (init acts conns) evs).2 = pre ++ o :: post) : Follows True c o post.head? :=
  run_follows True c (fun _ _ => ⟨Or.inl trivial, Or.inl trivial⟩) (fun _ _ => Or.inl trivial) evs _ (Inv_init acts conns) htr

/-- **C27 (SERVFAIL after every `dns_error`, every history).** Whatever the client, the upstream and the addons do:
    directly after every `dns_error` hook the layer sends to the client the SERVFAIL (`servfail_fields`: id, question
    section, opcode and RD kept, QR=1, RCODE=2; `servfail_bytes`: it decodes to itself) of the flow's request, which is
    something the codec decoded (that it is a query of this client is `flow_has_query`).  The SERVFAIL always encodes;
    the ONLY other outcome is the exception
    `pack_message` raises over TCP when that encoding is longer than 65535 bytes (the query's compressed question names
    expanded) — always sent over UDP (`error_hook_then_servfail_udp`).
    (`wireOf?` is `none` where `struct.pack("!H", …)` raises; `frame` alone wraps the length silently, and a model built on it
    would make the statement true without the second outcome.) -/
theorem error_hook_then_servfail (c : Cfg) (acts : List Act) (conns : List Bool) (evs : List Ev)
    (pre post : List Out) (f : Flow) (htr : (run c (init acts conns) evs).2 = pre ++ .hook .error f :: post) :
    ∃ q, f.request = some q ∧ (∃ w, unpack c.I w = some q) ∧
      ((∃ b w, pack c.I (servfail q) = some b ∧ wireOf? c.tcp b = some w ∧ post.head? = some (.toClient (servfail q) w)) ∨
       (¬ Fits c (servfail q) ∧ post.head? = some .crash)) := by
  obtain ⟨q, h1, h2, h3⟩ := follows c acts conns evs htr
  exact ⟨q, h1, h2, h3.imp_right And.right⟩

/-- over UDP there is no second outcome -/
theorem error_hook_then_servfail_udp (c : Cfg) (hudp : c.tcp = false) (acts : List Act) (conns : List Bool) (evs : List Ev)
    (pre post : List Out) (f : Flow) (htr : (run c (init acts conns) evs).2 = pre ++ .hook .error f :: post) :
    ∃ q b, f.request = some q ∧ (∃ w, unpack c.I w = some q) ∧ pack c.I (servfail q) = some b ∧
      post.head? = some (.toClient (servfail q) (wireOf c.tcp b)) := by
  obtain ⟨q, h1, h2, h3⟩ := error_hook_then_servfail c acts conns evs pre post f htr
  rcases h3 with ⟨b, w, hb, hw, hp⟩ | ⟨hn, _⟩
  · refine ⟨q, b, h1, h2, hb, ?_⟩
    rw [← wireOf?_some hw]; exact hp
  · exact absurd (Fits_udp hudp (Decoded.servfail_packable h2)) hn

/-- **C27 (no upstream answer possible ⇒ `dns_error`, every history).** Every failed attempt to connect to the upstream
    — refused, or killed because an earlier attempt on this connection had failed — is directly followed by the
    `dns_error` hook (and hence, by `error_hook_then_servfail`, by the SERVFAIL of the query). -/
theorem failed_connect_then_error_hook (c : Cfg) (acts : List Act) (conns : List Bool) (evs : List Ev)
    (pre post : List Out) (r : OpenRes) (hr : r = .fail ∨ r = .killed)
    (htr : (run c (init acts conns) evs).2 = pre ++ .opened r :: post) :
    ∃ f, post.head? = some (.hook .error f) := by
  have := follows c acts conns evs htr
  rcases hr with h | h <;> rw [h] at this <;> exact this

/-- **C27 (an exception leaves the layer only when a message cannot be put on the wire).** In every history: if the
    layer raises, then there is a message — a response somewhere in the addon script, something the codec decodes from
    some bytes, or the SERVFAIL of such a thing — that does not fit (`¬ Fits c m`): `DNSMessage.packed` raises on it (possible
    for addon-made messages only) or, over TCP, its encoding exceeds the 65535 bytes of the length prefix.  The statement does
    NOT say that the message was one this history had to send, nor that its bytes were received.  Over UDP the conclusion
    amounts to "a response of the script does not encode" (decoded messages and their SERVFAILs always do); over TCP it
    holds without the hypothesis, because a decodable message that does not fit exists (see `DFits` in Lemmas/C27Shape).
    What the proof does establish for both transports: no handler ever meets a flow without request. -/
theorem layer_raises_only_on_unencodable (c : Cfg) (acts : List Act) (conns : List Bool) (evs : List Ev)
    (hcr : Out.crash ∈ (run c (init acts conns) evs).2) :
    ∃ m, (m ∈ addonMsgs acts ∨ (∃ w, unpack c.I w = some m) ∨ (∃ q, (∃ w, unpack c.I w = some q) ∧ m = servfail q)) ∧
      ¬ Fits c m := by
  -- the shape of the trace with "an exception may leave the layer" read as the claim itself
  have hK : ∀ m, (m ∈ addonMsgs acts ∨ Decoded c.I m ∨ (∃ q, Decoded c.I q ∧ m = servfail q)) →
      (∃ m, (m ∈ addonMsgs acts ∨ Decoded c.I m ∨ (∃ q, Decoded c.I q ∧ m = servfail q)) ∧ ¬ Fits c m) ∨ Fits c m :=
    fun m hm => (Classical.em (Fits c m)).symm.imp_left fun hf => ⟨m, hm, hf⟩
  obtain ⟨pre, post, he⟩ := List.append_of_mem hcr
  exact run_follows _ c (fun m hm => ⟨hK m (Or.inr (Or.inl hm)), hK _ (Or.inr (Or.inr ⟨m, hm, rfl⟩))⟩)
    (fun m hm => hK m (Or.inl hm)) evs _ (Inv_init acts conns) he

/-- **C27 (the layer never raises).** If every response the addon script sets can be put on the wire, and every message the
    codec decodes from any bytes and its SERVFAIL re-encode within the limit of the transport (`DFits False c`), then in no
    history does an exception leave the layer.  Over UDP `DFits False c` holds and this is `layer_never_raises_udp`.  Over TCP
    `DFits False c` is false (it is not restricted to the messages of the history; see its definition in Lemmas/C27Shape), so
    there the theorem says nothing: the layer does raise over TCP (F-C27e), and no theorem here bounds when, other than per
    message `error_hook_then_servfail`.
    ("`pack` succeeds on the addons' responses" alone is not enough over TCP: `pack_message` raises struct.error on a
    length that does not fit the frame.) -/
theorem layer_never_raises (c : Cfg) (acts : List Act) (conns : List Bool) (evs : List Ev)
    (hadd : ∀ m ∈ addonMsgs acts, Fits c m) (hsmall : DFits False c) : Out.crash ∉ (run c (init acts conns) evs).2 := by
  intro hmem
  obtain ⟨pre, post, he⟩ := List.append_of_mem hmem
  exact run_follows False c hsmall (fun m hm => Or.inr (hadd m hm)) evs _ (Inv_init acts conns) he

/-- over UDP encodable addon responses suffice -/
theorem layer_never_raises_udp (c : Cfg) (hudp : c.tcp = false) (acts : List Act) (conns : List Bool) (evs : List Ev)
    (hadd : ∀ m ∈ addonMsgs acts, ∃ b, pack c.I m = some b) : Out.crash ∉ (run c (init acts conns) evs).2 :=
  layer_never_raises c acts conns evs (fun m hm => Fits_udp hudp (hadd m hm))
    (fun m hm => ⟨Or.inr (Fits_udp hudp hm.packable), Or.inr (Fits_udp hudp hm.servfail_packable)⟩)

example : Out.crash ∉ (run udp (init [.err, .clear] [false]) [.clientData q1, .serverData r1, .clientData q2]).2 :=
  layer_never_raises_udp udp rfl _ _ _ (by intro m hm; simp [addonMsgs] at hm)

/-- **C27 (no upstream ⇒ an addon's response or `dns_error`, every history).** On a connection without upstream
    server, every `dns_request` hook is directly followed by `dns_response` (an addon has set a response) or by
    `dns_error` (and hence by the SERVFAIL of the query, `error_hook_then_servfail`). -/
theorem no_upstream_request_then_response_or_error (c : Cfg) (hup : c.upstream = false) (acts : List Act) (conns : List Bool)
    (evs : List Ev) (pre post : List Out) (f : Flow)
    (htr : (run c (init acts conns) evs).2 = pre ++ .hook .request f :: post) :
    (∃ f', post.head? = some (.hook .response f')) ∨ (∃ f', post.head? = some (.hook .error f')) :=
  follows c acts conns evs htr hup

/-- under the hypotheses of `layer_never_raises` a step that leaves the phase `query` ends in `done` -/
private theorem done_of_never_raises (c : Cfg) (acts : List Act) (conns : List Bool) (evs : List Ev) (ev : Ev)
    (hadd : ∀ m ∈ addonMsgs acts, Fits c m) (hsmall : DFits False c)
    (h1 : (step c (run c (init acts conns) evs).1 ev).1.core.phase ≠ .query)
    (h3 : (step c (run c (init acts conns) evs).1 ev).1.core.phase = .crashed → .crash ∈ (step c (run c (init acts conns) evs).1 ev).2) :
    (step c (run c (init acts conns) evs).1 ev).1.core.phase = .done := by
  have hnc := layer_never_raises c acts conns (evs ++ [ev]) hadd hsmall
  simp only [run_append, run, List.append_nil] at hnc
  cases hp : (step c (run c (init acts conns) evs).1 ev).1.core.phase with
  | query => exact absurd hp h1
  | done => rfl
  | crashed => exact absurd (List.mem_append_right _ (h3 hp)) hnc

/-- **C27 (a malformed length prefix closes the connection, every history, no alternative).** After any history in which
    the layer is still serving, over TCP, if the addons' responses can be put on the wire and every decoded message
    re-encodes within 65535 bytes (`DFits False c`): when the client's bytes (buffer plus new segment) are complete frames
    followed by a zero length prefix, the messages in front of it are handled, then the client connection is closed and the
    layer is done — the `crashed` alternative of `bad_length_closes` cannot occur.
    CAUTION: `htcp` and `hsmall` contradict each other (`DFits False c` is false over TCP, see Lemmas/C27Shape), so as stated
    this theorem and `bad_length_closes_server_history` have no instance; the statement with content is `bad_length_closes`. -/
theorem bad_length_closes_history (c : Cfg) (htcp : c.tcp = true) (acts : List Act) (conns : List Bool) (evs : List Ev)
    (hadd : ∀ m ∈ addonMsgs acts, Fits c m) (hsmall : DFits False c) (d x rest : Bytes) (ms : List Msg)
    (hq : (run c (init acts conns) evs).1.core.phase = .query)
    (hx : (run c (init acts conns) evs).1.reqBuf ++ d = x ++ 0 :: 0 :: rest) (hms : parse c.I x = (ms, [], false)) :
    (step c (run c (init acts conns) evs).1 (.clientData d)).1.core.phase = .done ∧
    (step c (run c (init acts conns) evs).1 (.clientData d)).2 =
      (handleMsgs c true (run c (init acts conns) evs).1.core ms).2 ++ [.closeClient] := by
  obtain ⟨h1, h2, h3⟩ := bad_length_closes c htcp _ hq d x rest ms hx hms
  have hdone := done_of_never_raises c acts conns evs _ hadd hsmall h1 h3
  exact ⟨hdone, h2 hdone⟩

/-- … and the same for the upstream's stream -/
theorem bad_length_closes_server_history (c : Cfg) (htcp : c.tcp = true) (acts : List Act) (conns : List Bool) (evs : List Ev)
    (hadd : ∀ m ∈ addonMsgs acts, Fits c m) (hsmall : DFits False c) (d x rest : Bytes) (ms : List Msg)
    (hq : (run c (init acts conns) evs).1.core.phase = .query) (ho : (run c (init acts conns) evs).1.core.serverOpen = true)
    (hx : (run c (init acts conns) evs).1.respBuf ++ d = x ++ 0 :: 0 :: rest) (hms : parse c.I x = (ms, [], false)) :
    (step c (run c (init acts conns) evs).1 (.serverData d)).1.core.phase = .done ∧
    (step c (run c (init acts conns) evs).1 (.serverData d)).2 =
      (handleMsgs c false (run c (init acts conns) evs).1.core ms).2 ++ [.closeServer] := by
  obtain ⟨h1, h2, h3⟩ := bad_length_closes_server c htcp _ hq ho d x rest ms hx hms
  have hdone := done_of_never_raises c acts conns evs _ hadd hsmall h1 h3
  exact ⟨hdone, (h2 hdone).1⟩

/-! ### asynchronous hooks: `Layer.handle_event` pauses and queues, the outcome is the sequential one -/

/-- a layer between two events: nothing suspended, nothing queued -/
def idle (σ : State) : AState := { σ := σ }

/-- **C27 (pause-and-queue = one after the other).** For EVERY schedule of arriving connection events and completions of
    the hook the layer is paused on (`Layer.handle_event`, `__process`, `__continue` of `proxy/layer.py`): what the layer
    has emitted so far, followed by what it still owes (the rest of the suspended handler, then the queued events in
    order), is exactly what handling the arrived events one after the other (`run`) emits; and the state it settles in is
    the sequential one.  So every theorem above about `run` holds under asynchronous hook completion. -/
theorem async_equals_sequential (c : Cfg) (σ : State) (sch : List AEv) :
    (arun c (idle σ) sch).2 ++ owed c (arun c (idle σ) sch).1 = (run c σ (arrivals sch)).2 ∧
    settled c (arun c (idle σ) sch).1 = (run c σ (arrivals sch)).1 := by
  obtain ⟨h1, h2, _⟩ := arun_spec c sch (idle σ) (fun _ => rfl)
  simp only [owed, settled, idle, run, Option.getD_none, List.flatten_nil, List.nil_append] at h1 h2
  exact ⟨by simpa [owed, idle] using h1, by simpa [settled, idle] using h2⟩

/-- … in particular once the layer is idle again it has emitted exactly the sequential trace and is in the sequential
    state, with an empty queue. -/
theorem async_quiescent (c : Cfg) (σ : State) (sch : List AEv) (hidle : (arun c (idle σ) sch).1.paused = none) :
    (arun c (idle σ) sch).2 = (run c σ (arrivals sch)).2 ∧ (arun c (idle σ) sch).1.σ = (run c σ (arrivals sch)).1 ∧
    (arun c (idle σ) sch).1.queue = [] := by
  obtain ⟨h1, h2, h3⟩ := arun_spec c sch (idle σ) (fun _ => rfl)
  have hq := h3 hidle
  have e1 : owed c (arun c (idle σ) sch).1 = [] := by simp [owed, hidle, hq, run]
  have e2 : settled c (arun c (idle σ) sch).1 = (arun c (idle σ) sch).1.σ := by simp [settled, hq, run]
  have e3 : owed c (idle σ) = [] := by simp [owed, idle, run]
  have e4 : settled c (idle σ) = σ := by simp [settled, idle, run]
  rw [e1, e3, e4] at h1
  rw [e2, e4] at h2
  exact ⟨by simpa using h1, h2, hq⟩

/-- **C27 (replies answer queries, asynchronous hooks).** `reply_answers_query` for what the layer emits under any
    schedule of arrivals and hook completions, at any moment (also while a hook is pending and events are queued). -/
theorem async_reply_answers_query (c : Cfg) (acts : List Act) (conns : List Bool) (sch : List AEv)
    (pre post : List Out) (m : Msg) (w : Bytes)
    (htr : (arun c (idle (init acts conns)) sch).2 = pre ++ .toClient m w :: post) :
    m ∈ addonMsgs acts ∨ ∃ q ∈ queriesOf pre, q.id = m.id ∧ q.questions = m.questions := by
  have h := (async_equals_sequential c (init acts conns) sch).1
  rw [htr, List.append_assoc, List.cons_append] at h
  exact reply_answers_query c acts conns (arrivals sch) pre _ m w h.symm

/-- **C27 (flows carry their query, asynchronous hooks).** `flow_has_query` under any schedule of arrivals and hook
    completions. -/
theorem async_flow_has_query (c : Cfg) (acts : List Act) (conns : List Bool) (sch : List AEv)
    (pre post : List Out) (h : Hook) (f : Flow)
    (htr : (arun c (idle (init acts conns)) sch).2 = pre ++ .hook h f :: post) :
    ∃ q, f.request = some q ∧ q ∈ queriesOf (pre ++ [.hook h f]) ∧
      (h = .response → ∃ r, f.response = some r ∧ (r ∈ addonMsgs acts ∨ (r.id = q.id ∧ r.questions = q.questions))) := by
  have he := (async_equals_sequential c (init acts conns) sch).1
  rw [htr, List.append_assoc, List.cons_append] at he
  exact flow_has_query c acts conns (arrivals sch) pre _ h f he.symm

-- two queries arrive while the first request hook is pending; three completions later the layer has emitted the sequential trace
example : (arun udp (idle (init [] [])) [.arrive (.clientData q1), .arrive (.clientData q2), .complete, .complete]).2 =
    (run udp (init [] []) [.clientData q1, .clientData q2]).2 ∧
    (arun udp (idle (init [] [])) [.arrive (.clientData q1), .arrive (.clientData q2)]).2.length = 1 := by decide +kernel

/-! ### non-vacuity witnesses for hypotheses that have no concrete instance above -/

-- `connect_failure_servfail`: all seven hypotheses hold for a fresh UDP layer whose first connect attempt fails
example : ∃ q, unpack udp.I q1 = some q ∧ (init [] [false]).core.phase = .query ∧ (init [] [false]).core.acts = [] ∧
    udp.upstream = true ∧ udp.tcp = false ∧ (init [] [false]).core.serverOpen = false ∧
    (init [] [false]).core.serverFailed = false ∧ (init [] [false]).core.conns = false :: [] := by decide +kernel

-- `stray_reply_ignored`: after the history [query q1] the upstream data r77 (unknown id) and r1x (other question)
-- decode to one message each, and no announced query has their id and question section
example : (extract udp.I udp.tcp (run udp (init [] []) [.clientData q1]).1.respBuf r77).1.length = 1 ∧
    (∀ m ∈ (extract udp.I udp.tcp (run udp (init [] []) [.clientData q1]).1.respBuf r77).1,
      ∀ q ∈ queriesOf (run udp (init [] []) [.clientData q1]).2, ¬ (q.id = m.id ∧ q.questions = m.questions)) ∧
    (∀ m ∈ (extract udp.I udp.tcp (run udp (init [] []) [.clientData q1]).1.respBuf r1x).1,
      ∀ q ∈ queriesOf (run udp (init [] []) [.clientData q1]).2, ¬ (q.id = m.id ∧ q.questions = m.questions)) ∧
    (queriesOf (run udp (init [] []) [.clientData q1]).2).length = 1 := by decide +kernel

-- `buffered_server_segment_commutes` / `split_frame_around_query`: a reachable TCP state with the upstream open and an
-- upstream segment (the first 7 bytes of a reply frame) that completes no frame
example : (run tcp (init [] []) [.clientData (frame q1)]).1.core.phase = .query ∧
    (run tcp (init [] []) [.clientData (frame q1)]).1.core.serverOpen = true ∧
    (parse tcp.I ((run tcp (init [] []) [.clientData (frame q1)]).1.respBuf ++ (frame r1).take 7)).1 = [] ∧
    (parse tcp.I ((run tcp (init [] []) [.clientData (frame q1)]).1.respBuf ++ (frame r1).take 7)).2.2 = false := by
  decide +kernel

-- `reply_with_other_question_section_ignored`: in the state after query q1 the reply r1x has a flow under its id whose
-- request carries another question section
example : (match unpack noIdna r1x with
    | some m =>
      (match (run udp (init [] []) [.clientData q1]).1.core.flows.lookup m.id with
       | some f => (match f.request with | some q => decide (m.questions ≠ q.questions) | none => false)
       | none => false)
    | none => false) = true := by decide +kernel

-- `upstream_reply_cases`, first conjunct: … and the reply r1 finds a flow under its id with the same question section
example : (match unpack noIdna r1 with
    | some m =>
      (match (run udp (init [] []) [.clientData q1]).1.core.flows.lookup m.id with
       | some f => (match f.request with | some q => decide (m.questions = q.questions) | none => false)
       | none => false)
    | none => false) = true := by decide +kernel

-- `layer_never_raises` / `bad_length_closes_history`: the hypothesis about addon responses with a script that does set one
example : (match unpack noIdna r1 with
    | some m => (addonMsgs [.respond m, .pass]).all (fun x => (pack noIdna x).isSome) && decide ((addonMsgs [.respond m, .pass]).length = 1)
    | none => false) = true := by decide +kernel

-- `bad_length_closes_history`: after the non-empty history [frame q2] the layer still serves, its request buffer is empty,
-- and the next segment is a complete frame followed by a zero length prefix and more bytes
example : (run tcp (init [] []) [.clientData (frame q2)]).1.core.phase = .query ∧
    (run tcp (init [] []) [.clientData (frame q2)]).1.reqBuf ++ (frame q1 ++ [0, 0, 9]) = frame q1 ++ 0 :: 0 :: [9] ∧
    (parse tcp.I (frame q1)).2 = ([], false) ∧ (parse tcp.I (frame q1)).1.length = 1 := by decide +kernel

-- `bad_length_closes_server(_history)`: the same on the upstream side, with the upstream open
example : (run tcp (init [] []) [.clientData (frame q1)]).1.core.serverOpen = true ∧
    (run tcp (init [] []) [.clientData (frame q1)]).1.respBuf ++ (frame r1 ++ [0, 0]) = frame r1 ++ 0 :: 0 :: [] ∧
    (parse tcp.I (frame r1)).2 = ([], false) ∧ (parse tcp.I (frame r1)).1.length = 1 := by decide +kernel

/-! ### whose response is it?  (the addon disjunct of `reply_answers_query` restricted to THIS message's handling) -/

/-- the message sent is the response set by a `.respond` action that is consumed at a hook of the handling that starts in
    state `σ`: the first pending action (this message's first hook) or the second (its `dns_response` hook after a
    `dns_request` hook) -/
def SetHere (σ : Core) (m : Msg) : Prop :=
  (popAct σ).1 = .respond m ∨ (popAct (popAct σ).2).1 = .respond m

/-- **C27 (provenance of every reply, every history).** Every message sent to the client is sent while ONE message is
    being handled, in a state `σ` of the history (it satisfies the flow invariant), and it is
    (a) the SERVFAIL of the client query `q` being handled; or
    (b) the response set by a `.respond` action consumed at a hook of THIS handling (`SetHere σ m`) — not a response some
        addon set for another query earlier or later in the script; or
    (c) the upstream message being handled, unchanged, and that message has the id and the question section of the query
        stored under its id.
    This is the per-message form of `reply_answers_query`: the disjunct
    "`m ∈ addonMsgs acts`" (any response anywhere in the script — the shape of seed c27-4) is replaced by (b).
    `SetHere` does not say which of the two actions it was, nor that the handling had a second hook; `Handled.toClient`
    (Lemmas/C27Reply) does. -/
theorem reply_provenance (c : Cfg) (acts : List Act) (conns : List Bool) (evs : List Ev) (m : Msg) (w : Bytes)
    (hmem : Out.toClient m w ∈ (run c (init acts conns) evs).2) :
    ∃ σ : Core, Inv (addonMsgs acts) σ ∧
      ((∃ q, Out.toClient m w ∈ (clientMsg c σ q).2 ∧ m = servfail q) ∨
       SetHere σ m ∨
       (∃ f q, Out.toClient m w ∈ (serverMsg c σ m).2 ∧ σ.flows.lookup m.id = some f ∧ f.request = some q ∧
          q.id = m.id ∧ m.questions = q.questions ∧ q ∈ σ.seen)) := by
  obtain ⟨σ, x, fc, hinv, h⟩ := mem_run_toClient c (addonMsgs acts) m w evs (init acts conns) (Inv_init acts conns) hmem
  refine ⟨σ, hinv, ?_⟩
  cases fc with
  | true =>
    rcases ((handled c σ true x).toClient h).2 with h1 | ⟨m1, h1, h2⟩
    · exact Or.inl ⟨x, h, h1⟩
    · rcases resolve_some h2 with ha | rfl
      · exact Or.inr (Or.inl (Or.inr ha))
      · exact Or.inr (Or.inl (Or.inl h1))
  | false =>
    obtain ⟨f, q, hl, hr, hq, hres⟩ := ((handled c σ false x).toClient h).2
    rcases resolve_some hres with ha | rfl
    · exact Or.inr (Or.inl (Or.inl ha))
    · obtain ⟨q', h1, h2, h3, _⟩ := hinv.1 _ _ (mem_of_lookup hl)
      cases hr.symm.trans h1
      exact Or.inr (Or.inr ⟨f, q, h, hl, hr, h2, hq, h3⟩)

/-- **C27 (unmodified replies answer a query — per message).** Whatever the addons do to OTHER queries: a message sent to
    the client that was not set by an action consumed at a hook of its own handling has the id and the question section of
    a query the client sent (`q ∈ σ.seen`: announced by a `dns_request` hook before). -/
theorem unmodified_reply_answers_query (c : Cfg) (acts : List Act) (conns : List Bool) (evs : List Ev) (m : Msg) (w : Bytes)
    (hmem : Out.toClient m w ∈ (run c (init acts conns) evs).2) :
    ∃ σ : Core, Inv (addonMsgs acts) σ ∧
      (SetHere σ m ∨ ∃ q, q.id = m.id ∧ q.questions = m.questions ∧
        (q ∈ σ.seen ∨ Out.toClient m w ∈ (clientMsg c σ q).2)) := by
  obtain ⟨σ, hinv, h⟩ := reply_provenance c acts conns evs m w hmem
  refine ⟨σ, hinv, ?_⟩
  rcases h with ⟨q, h1, h2⟩ | h | ⟨f, q, _, _, _, h4, h5, h6⟩
  · exact Or.inr ⟨q, by rw [h2]; rfl, by rw [h2]; rfl, Or.inr h1⟩
  · exact Or.inl h
  · exact Or.inr ⟨q, h4, h5.symm, Or.inl h6⟩

/-- **C27 (what `dns_response` reports — per message).** While the upstream message `m0` is handled the flow reported to
    `dns_response` pairs `m0` with the query stored under its id (same id, same question section); while a client query is
    handled, the response it reports is the one the action consumed at this query's `dns_request` hook set. -/
theorem response_hook_provenance (c : Cfg) (σ : Core) (A : List Msg) (hinv : Inv A σ) :
    (∀ m0 f, Out.hook .response f ∈ (serverMsg c σ m0).2 →
      ∃ q, f.request = some q ∧ f.response = some m0 ∧ q.id = m0.id ∧ m0.questions = q.questions) ∧
    (∀ q f, Out.hook .response f ∈ (clientMsg c σ q).2 →
      f.request = some q ∧ ∃ m1, (popAct σ).1 = .respond m1 ∧ f.response = some m1) := by
  constructor
  · intro m0 g h
    obtain ⟨f, q, hl, hr, hq, rfl⟩ := (handled c σ false m0).response_hook h
    obtain ⟨q', h1, h2, _⟩ := hinv.1 _ _ (mem_of_lookup hl)
    cases hr.symm.trans h1
    exact ⟨q, hr, rfl, h2, hq⟩
  · exact fun q g h => (handled c σ true q).response_hook h

-- the stale-response shape of seed c27-4 cannot occur in the model: query id 1 answered by an addon (`.respond`), then a
-- second query with the same id: nothing of the first answer is sent for it, it goes upstream
example : outsOf udp [.respond (fail ⟨1, true, 0, false, false, true, false, 0, 0, [], [], [], []⟩ 0)] []
    [.clientData q1, .clientData q1] = ["request", "response", "client:1:0", "request", "open", "server:1"] := by decide +kernel

end MitmVerif.Props.C27
