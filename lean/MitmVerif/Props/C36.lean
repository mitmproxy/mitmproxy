/-
  C36 — flow files round-trip every flow type; reading never fails unexpectedly.  Property theorems.

  The codec: `dumps` is the recursive encoding `enc`, and `pop` / `load` give back `mirror v`, the saved value with every
  dict's items in reverse order (Lemmas/C36 `pop_enc_all`, `load_enc`).  The reader, with `from_state ∘ migrate_flow` and
  the HAR importer as parameters (`Env`): a file of good records (`Good`) reads back in order, whatever follows good
  records comes after their flows, a read ends cleanly or with FlowReadException as long as the parameter raises nothing
  outside `Exception` (`never_other`), and the model's fuel is never what stops `pop`, `load` or the loop.  `load` through
  `read` calls is independent of how the stream is cut (Lemmas/C36_Read).

  Which records become flows: the version check and type dispatch (`gated`), the shape `set_state` needs (`shaped`)
  and the converter chain of the formats 5 … 20 (`converted`) stand in front of the remaining parameter; each answers
  like the parameter or refuses with an `Exception` (`Stricter`), so `never_other` carries over; a refused record
  stops the reader after the flows before it (`*_record_stops_reader`), an accepted one meets the requirements
  (`accepted_record_is_wellshaped`, `converted_accept_needs_convertible`, and for every yielded flow `*yielded_flows*`).
-/
import MitmVerif.Lemmas.C36
import MitmVerif.Model.C36_Gate
import MitmVerif.Model.C36_Shape
import MitmVerif.Model.C36_Conv
import MitmVerif.Lemmas.C36_Read
namespace MitmVerif.Props.C36
open MitmVerif MitmVerif.C36

/-- **dumps.** `_rdumpq`'s last-chunk-first deque construction and running size computation produce the plain
    recursive encoding: every length prefix is the true payload length. -/
theorem dumps_eq_enc (v : Value) : dumps v = enc v := dumps_enc v

/-- **C36 (codec round trip, memoryview parser).** For every well-formed value `v` (see `WF`), any following bytes
    `r` and any recursion head-room `d ≥ depth v`: `pop(dumps(v) + r)` returns `(mirror v, r)` — the value with each
    dict's items in reverse order — and leaves `r` untouched. -/
theorem pop_dumps (v : Value) (r : Bytes) (d : Nat) (hwf : WF v) (hsz : (dumps v).length < sizeLimit)
    (hd : depth v ≤ d) : popTop d (dumps v ++ r) = .ok (mirror v, r) := by
  rw [dumps_eq_enc] at hsz ⊢
  exact pop_enc v r _ d hwf hsz (by simp; omega) hd

/-- **C36 (codec round trip, file reader).** `tnetstring.load` on a file whose unread content is `dumps v ++ r`
    returns `mirror v` and leaves exactly `r` unread, provided the record is shorter than 10^12 bytes (the
    12-digit length-prefix limit of `load`), fits the allocator and the recursion head-room. -/
theorem load_dumps (v : Value) (r : Bytes) (m d : Nat) (hwf : WF v) (h12 : (dumps v).length < 10 ^ 12)
    (hm : (dumps v).length ≤ m) (hd : depth v ≤ d) : load m d (dumps v ++ r) = .ok (mirror v, r) := by
  rw [dumps_eq_enc] at h12 hm ⊢
  exact load_enc v r m d hwf h12 hm hd

/-- **C36 (the loaded value is the saved value).** What comes back differs from what was saved only in the
    iteration order of dicts: `mirror v ≈ v` with dicts compared as finite maps. -/
theorem mirror_equiv : ∀ v : Value, Equiv (mirror v) v := mirror_equiv_all.1

/-- a second save/load cycle restores the original item order exactly -/
theorem mirror_involutive : ∀ v : Value, mirror (mirror v) = v := mirror_involutive_all.1

/-- **C36 (flow files round-trip, in order).** A file that consists of the dumped states `vs` — each a well-formed
    dict state within the reader's limits, which `from_state ∘ migrate_flow` maps (as loaded) to the flow at the same
    position of `fl` — reads back as exactly the flows `fl`, in the same order, and the reader ends cleanly. -/
theorem read_roundtrip {α : Type} (env : Env α) (vs : List Value) (fl : List α) (h : Good env 0 vs fl) :
    readAll env (encList vs) = (fl, .clean) := by
  obtain ⟨g, hg, hr⟩ := readAll_records env vs fl [] h (sniff_encList vs [] fun _ => sniff_nil)
  rw [List.append_nil] at hr
  rw [hr, streamLoop_nil env g _ hg]; simp

/-- the file written for the states `vs` is the concatenation of their dumps -/
theorem encList_eq_dumps (vs : List Value) : encList vs = (vs.map dumps).flatten := by
  induction vs with
  | nil => simp [encList]
  | cons v t ih => simp [encList, ih, dumps_eq_enc]

/-- **C36 (totality, memoryview parser).** `pop` on ANY byte string, with any recursion head-room, returns a value
    or raises one of its Python exceptions; the model's fuel is never the reason for failing. -/
theorem pop_total (d : Nat) (s : Bytes) : popTop d s ≠ .error .fuel :=
  (no_fuel (s.length + 1)).1 d s (Nat.le_refl _)

/-- **C36 (what load can raise).** On ANY file content and in ANY environment, an error of `tnetstring.load` is
    the end-of-file ValueError, ValueError, TypeError, IndexError, RecursionError or MemoryError — exactly the
    classes named by the `except` clause around it in `FlowReader.stream`. -/
theorem load_error_caught (m d : Nat) (s : Bytes) (e : Err) (h : load m d s = .error e) :
    e = .emptyFile ∨ e = .value ∨ e = .type ∨ e = .index ∨ e = .recursion ∨ e = .memory := by
  have := load_err_caught m d s e h
  cases e <;> simp [caughtOuter] at this ⊢

/-- `pop_total` for the file reader -/
theorem load_total (m d : Nat) (s : Bytes) : load m d s ≠ .error .fuel := by
  intro h
  have := load_err_caught m d s _ h
  simp [caughtOuter] at this

/-- **C36 (reading never fails unexpectedly).** For ANY file content, ANY environment (allocation limit, recursion
    head-room), ANY behaviour of the HAR importer and ANY behaviour of `from_state ∘ migrate_flow` that raises only
    subclasses of `Exception`: `FlowReader.stream` yields some flows and then ends cleanly or raises
    FlowReadException — no other exception escapes, and the model's fuel never runs out. -/
theorem never_other {α : Type} (env : Env α) (hfs : ∀ i v, env.fromState i v ≠ .error .nonException)
    (file : Bytes) : (readAll env file).2 = .clean ∨ (readAll env file).2 = .flowRead := by
  have key : (readAll env file).2 ≠ .escapes := by
    unfold readAll
    dsimp only
    split
    · split <;> simp
    · exact streamLoop_no_escape env hfs _ 0 _ (Nat.le_refl _)
  cases h : (readAll env file).2 with
  | clean => simp
  | flowRead => simp
  | escapes => exact absurd h key

/-- **C36 (totality, reader loop).** Stated for the loop itself: with ANY fuel that exceeds the input length the
    loop does not end by running out of it. -/
theorem stream_total {α : Type} (env : Env α) (hfs : ∀ i v, env.fromState i v ≠ .error .nonException)
    (f i : Nat) (s : Bytes) (hf : s.length + 1 ≤ f) : (streamLoop env f i s).2 ≠ .escapes :=
  streamLoop_no_escape env hfs f i s hf

/-- **C36 (a corrupted tail never loses the flows before it).** Take ANY byte string that starts with whole, good
    records `vs` (the flows `fl`) and continues with ARBITRARY bytes — garbage, a cut record, a record of an unknown
    version, anything. Reading it yields all of `fl` first, in order; whatever the tail does comes after them. -/
theorem corrupted_tail_keeps_flows {α : Type} (env : Env α) (vs : List Value) (fl : List α)
    (hgood : Good env 0 vs fl) (tail : Bytes) :
    fl <+: (readAll env (encList vs ++ tail)).1 := by
  cases vs with
  | nil =>
    cases fl with
    | nil => exact List.nil_prefix
    | cons _ _ => simp [Good] at hgood
  | cons v vt =>
    obtain ⟨g, -, hr⟩ := readAll_records env _ fl tail hgood (sniff_encList _ tail fun h => nomatch h)
    rw [hr]; exact List.prefix_append _ _

/-- … and the read still ends cleanly or with FlowReadException (combination with `never_other`) -/
theorem corrupted_tail_ends_in_flow_read_error {α : Type} (env : Env α)
    (hfs : ∀ i v, env.fromState i v ≠ .error .nonException) (vs : List Value) (fl : List α)
    (hgood : Good env 0 vs fl) (tail : Bytes) :
    fl <+: (readAll env (encList vs ++ tail)).1 ∧
      ((readAll env (encList vs ++ tail)).2 = .clean ∨ (readAll env (encList vs ++ tail)).2 = .flowRead) :=
  ⟨corrupted_tail_keeps_flows env vs fl hgood tail, never_other env hfs _⟩

private theorem gated_stricter {α : Type} (env : Env α) : Stricter (gated env) env := by
  intro i v
  simp only [gated]
  split <;> simp

/-- the transcribed dispatch keeps the reader inside `never_other`'s hypothesis -/
theorem gated_never_other {α : Type} (env : Env α) (hfs : ∀ i v, env.fromState i v ≠ .error .nonException)
    (file : Bytes) : (readAll (gated env) file).2 = .clean ∨ (readAll (gated env) file).2 = .flowRead :=
  never_other _ ((gated_stricter env).ne_nonException hfs) file

/-- **C36 (which records are accepted — rejected ones).** With the reader's version check and type dispatch
    transcribed (`gate`): a well-formed dict record whose loaded form the gate rejects — no / unknown / future
    version, malformed version value, missing / unregistered / unhashable type — ends the read with
    FlowReadException; exactly the flows of the good records before it are yielded, whatever follows it. -/
theorem rejected_record_stops_reader {α : Type} (env : Env α) (vs : List Value) (fl : List α)
    (hgood : Good (gated env) 0 vs fl) (v : Value) (tail : Bytes)
    (hwf : WF v) (hdict : isDict v = true) (h12 : (enc v).length < 10 ^ 12)
    (hm : (enc v).length ≤ env.memLimit) (hd : depth v ≤ env.depth)
    (hrej : gate (mirror v) = .rejectV ∨ gate (mirror v) = .rejectX) :
    readAll (gated env) (encList vs ++ (enc v ++ tail)) = (fl, .flowRead) := by
  apply refusing_record_stops (gated env) vs fl hgood v tail hwf hdict h12 hm hd
  intro i
  rcases hrej with h | h <;> simp [gated, h]

/-- **C36 (which records are accepted — accepted ones).** A record passes the transcribed dispatch only if its
    normalised version is the current flow format version and its `type` is a registered flow type. -/
theorem gate_pass_current_and_registered (v : Value) (ty : Bytes) (h : gate v = .pass ty) :
    ∃ kvs, v = .dict kvs ∧ versionClass (rawVersion kvs) = .ver Gen.C38.current ∧
      Gen.C36.flowTypes.contains ty = true := by
  cases v with
  | dict kvs =>
    refine ⟨kvs, rfl, ?_⟩
    simp only [gate] at h
    cases hv : versionClass (rawVersion kvs) with
    | typeError => rw [hv] at h; simp at h
    | floaty => rw [hv] at h; simp at h
    | notKey => rw [hv] at h; simp at h
    | ver ver =>
      rw [hv] at h
      simp only [] at h
      by_cases hcur : ver = Gen.C38.current
      · refine ⟨by rw [hcur], ?_⟩
        simp only [hcur, if_true, typeGate] at h
        split at h <;> first | (simp at h; done) | skip
        rename_i u _
        by_cases hu : u ∈ Gen.C36.flowTypes
        · have hc : Gen.C36.flowTypes.contains u = true := by simpa using hu
          rw [if_pos hc] at h; cases h; exact hc
        · have hc : ¬ (Gen.C36.flowTypes.contains u = true) := by simpa using hu
          first | (rw [if_neg hc] at h; cases h) | (rw [if_neg hu] at h; cases h)
      · simp only [hcur, if_false] at h
        split at h <;> simp at h
  | _ => simp [gate] at h

/-- a record of bad shape is refused with the parameter's own exception, or with an `Exception` where the parameter accepts -/
private theorem shaped_stricter {α : Type} (env : Env α) : Stricter (shaped env) env := by
  intro i v
  simp only [shaped]
  split
  · simp
  · simp
  · split
    · cases env.fromState i _ <;> simp
    · simp
  · simp

/-- the shape requirements keep the reader inside `never_other`'s hypothesis -/
theorem shaped_never_other {α : Type} (env : Env α) (hfs : ∀ i v, env.fromState i v ≠ .error .nonException)
    (file : Bytes) : (readAll (shaped env) file).2 = .clean ∨ (readAll (shaped env) file).2 = .flowRead :=
  never_other _ ((shaped_stricter env).ne_nonException hfs) file

/-- **C36 (which records become flows).** Whatever the remaining parameter (field types, certificates, mode specs …) says:
    a record is turned into a flow only if it is `Acceptable` — an older version that has a converter (or a version
    value with float components, which the gate leaves to the parameter: `deferShape`), or the current
    version with a registered `type` and the shape `set_state` of that flow class needs: all keys it pops, no key besides
    "backup", connection states with exactly their field names, `error` / `response` / `websocket` falsy or complete,
    `request` complete, `messages` iterable. -/
theorem accepted_record_is_wellshaped {α : Type} (env : Env α) (i : Nat) (v : Value) (x : α)
    (h : (shaped env).fromState i v = .ok x) : Acceptable v := by
  cases hg : gate v with
  | rejectV => simp [shaped, hg] at h
  | rejectX => simp [shaped, hg] at h
  | defer => exact Or.inl hg
  | deferShape => exact Or.inr (Or.inl hg)
  | pass ty =>
    cases v with
    | dict kvs =>
      by_cases hs : shape ty kvs = .bad
      · simp only [shaped, hg, hs, if_true] at h
        cases hf : env.fromState i (.dict kvs) with
        | ok _ => rw [hf] at h; cases h
        | error e => rw [hf] at h; cases h
      · exact Or.inr (Or.inr ⟨ty, kvs, rfl, hg, hs⟩)
    | _ => simp [gate] at hg

/-- the one-to-one correspondence between yielded flows and loaded records, for ANY reader environment and ANY property
    that its `from_state` guarantees of the records it accepts -/
private theorem yielded_all {α : Type} (env : Env α) (P : Value → Prop)
    (hP : ∀ i v x, env.fromState i v = .ok x → P v) :
    ∀ (f i : Nat) (s : Bytes),
      (yieldedFrom env f i s).length = (streamLoop env f i s).1.length ∧ ∀ v ∈ yieldedFrom env f i s, P v := by
  intro f
  induction f with
  | zero => intro i s; simp [yieldedFrom, streamLoop]
  | succ f ih =>
    intro i s
    simp only [yieldedFrom, streamLoop]
    cases hl : load env.memLimit env.depth s with
    | error e =>
      simp only []
      by_cases he : e = .emptyFile
      · simp [he]
      · by_cases hc : caughtOuter e = true <;> simp [he, hc]
    | ok p =>
      obtain ⟨v, rest⟩ := p
      simp only []
      by_cases hd : isDict v = true
      · simp only [hd, Bool.not_true, Bool.false_eq_true, if_false]
        cases hf : env.fromState i v with
        | error x => cases x <;> simp
        | ok fl =>
          simp only []
          obtain ⟨h1, h2⟩ := ih (i + 1) rest
          refine ⟨by simp [h1], ?_⟩
          intro w hw
          rcases List.mem_cons.mp hw with hw | hw
          · rw [hw]; exact hP i v fl hf
          · exact h2 w hw
      · simp [hd]

/-- **C36 (every flow of every file).** For ANY byte string: the flows the reader loop yields correspond one to one to
    loaded records (`yieldedFrom`), and every one of those records is `Acceptable`. -/
theorem yielded_flows_come_from_acceptable_records {α : Type} (env : Env α) :
    ∀ (f i : Nat) (s : Bytes),
      (yieldedFrom (shaped env) f i s).length = (streamLoop (shaped env) f i s).1.length ∧
      ∀ v ∈ yieldedFrom (shaped env) f i s, Acceptable v :=
  yielded_all (shaped env) Acceptable (accepted_record_is_wellshaped env)

/-- **C36 (which records are accepted — ill-shaped ones).** A well-formed dict record of the current version and a
    registered type whose shape `set_state` refuses (a popped key missing, a foreign key, a connection state with a field
    missing or unknown, a truthy but incomplete `error` / `response` / `websocket`, an incomplete `request`, non-iterable
    `messages`) ends the read with FlowReadException after exactly the flows before it — whatever the parameter says about it. -/
theorem illshaped_record_stops_reader {α : Type} (env : Env α) (hnx : ∀ i v, env.fromState i v ≠ .error .nonException)
    (vs : List Value) (fl : List α) (hgood : Good (shaped env) 0 vs fl) (v : Value) (tail : Bytes)
    (hwf : WF v) (hdict : isDict v = true) (h12 : (enc v).length < 10 ^ 12)
    (hm : (enc v).length ≤ env.memLimit) (hd : depth v ≤ env.depth)
    (ty : Bytes) (kvs : List (Value × Value)) (hv : mirror v = .dict kvs) (hg : gate (.dict kvs) = .pass ty)
    (hs : shape ty kvs = .bad) :
    readAll (shaped env) (encList vs ++ (enc v ++ tail)) = (fl, .flowRead) := by
  apply refusing_record_stops (shaped env) vs fl hgood v tail hwf hdict h12 hm hd
  intro i
  rw [hv]
  simp only [shaped, hg, hs, if_true]
  cases hf : env.fromState i (.dict kvs) with
  | ok _ => exact Or.inr rfl
  | error e =>
    cases e with
    | valueError => exact Or.inl rfl
    | exception => exact Or.inr rfl
    | nonException => exact absurd hf (hnx i _)

private theorem converted_stricter {α : Type} (env : Env α) : Stricter (converted env) env := by
  intro i v
  simp only [converted]
  split
  · split
    · simp
    · simp
    · split
      · cases env.fromState i _ <;> simp
      · simp
    · simp
  · exact shaped_stricter env i _

/-- with the converter chain for the integer formats 5 … 20 transcribed the reader still ends cleanly or with
    FlowReadException -/
theorem converted_never_other {α : Type} (env : Env α) (hfs : ∀ i v, env.fromState i v ≠ .error .nonException)
    (file : Bytes) : (readAll (converted env) file).2 = .clean ∨ (readAll (converted env) file).2 = .flowRead :=
  never_other _ ((converted_stricter env).ne_nonException hfs) file

/-- **C36 (older integer formats 5 … 20).** A well-formed dict record of one of these formats for which the transcribed chain
    (`convert_5_6` … `convert_20_21` of Model/C38_Conv inside `migrate_flow`'s loop, then the type dispatch) fails — a
    converter meets a missing / ill-typed connection state, the version sits under the stale bytes key, the type is missing
    or unregistered — ends the read with FlowReadException after exactly the flows before it. -/
theorem unconvertible_record_stops_reader {α : Type} (env : Env α)
    (vs : List Value) (fl : List α) (hgood : Good (converted env) 0 vs fl) (v : Value) (tail : Bytes)
    (hwf : WF v) (hdict : isDict v = true) (h12 : (enc v).length < 10 ^ 12)
    (hm : (enc v).length ≤ env.memLimit) (hd : depth v ≤ env.depth)
    (kvs : List (Value × Value)) (hv : mirror v = .dict kvs) (hg : gate (.dict kvs) = .defer)
    (hc : (match convert kvs with | .refusedV => true | .refusedX => true | _ => false) = true) :
    readAll (converted env) (encList vs ++ (enc v ++ tail)) = (fl, .flowRead) := by
  apply refusing_record_stops (converted env) vs fl hgood v tail hwf hdict h12 hm hd
  intro i
  rw [hv]
  simp only [converted, hg]
  cases hcv : convert kvs with
  | refusedV => exact Or.inl rfl
  | refusedX => exact Or.inr rfl
  | current ty d => rw [hcv] at hc; simp at hc
  | notModelled => rw [hcv] at hc; simp at hc

/-- **C36 (which older records become flows).** A record of format 5 … 20 is turned into a flow only if the chain converts it,
    its type is registered and the CONVERTED state has the shape `set_state` needs (or the case is outside the transcription). -/
theorem converted_accept_needs_convertible {α : Type} (env : Env α) (i : Nat) (kvs : List (Value × Value)) (x : α)
    (hg : gate (.dict kvs) = .defer) (h : (converted env).fromState i (.dict kvs) = .ok x) :
    (match convert kvs with
      | .refusedV => False
      | .refusedX => False
      | .current ty d => shape ty d ≠ .bad
      | .notModelled => True) := by
  simp only [converted, hg] at h
  cases hc : convert kvs with
  | refusedV => rw [hc] at h; cases h
  | refusedX => rw [hc] at h; cases h
  | notModelled => trivial
  | current ty d =>
    rw [hc] at h
    simp only [] at h ⊢
    intro hs
    simp only [hs, if_true] at h
    cases hf : env.fromState i (.dict kvs) with
    | ok _ => rw [hf] at h; cases h
    | error e => rw [hf] at h; cases h

/-- **C36 (every flow of every file, older formats included).** For ANY byte string, with the converter chain for the
    integer formats 5 … 20 in the reader: the yielded flows correspond one to one to loaded records, and each of these is
    of the current format with registered type and admissible shape, or of format 5 … 20 and convertible to such a
    state (or lies outside the transcription: format 4, tuple-era formats, the two branches left out). -/
theorem converted_yielded_flows_acceptable {α : Type} (env : Env α) (f i : Nat) (s : Bytes) :
    (yieldedFrom (converted env) f i s).length = (streamLoop (converted env) f i s).1.length ∧
    ∀ v ∈ yieldedFrom (converted env) f i s, AcceptableC v := by
  apply yielded_all (converted env) AcceptableC
  intro i v x h
  refine ⟨?_, ?_⟩
  · intro hnd
    apply accepted_record_is_wellshaped env i v x
    simp only [converted] at h
    cases hg : gate v with
    | defer => exact absurd hg hnd
    | rejectV => simpa [hg] using h
    | rejectX => simpa [hg] using h
    | deferShape => simpa [hg] using h
    | pass ty => simpa [hg] using h
  · intro hg kvs hv
    subst hv
    exact converted_accept_needs_convertible env i kvs x hg h

/-- **C36 (reads may be chunked any way).** `BufferedReader.read(k)` over a raw stream that delivers its content in
    ANY segments returns the same bytes, and leaves the same unread content, as reading the concatenated content. -/
theorem read_chunk_independent (segs : List Bytes) (k : Nat) :
    (readN segs k).1 = (flatRd segs.flatten k).1 ∧ (readN segs k).2.flatten = (flatRd segs.flatten k).2 :=
  readN_flatten segs k

/-- **C36 (`load` does not depend on how the file delivers its bytes).** `tnetstring.load`, written against the
    `read` environment exactly as the Python uses it (`read(1)` per prefix byte, `read(n)`, `read(1)`), run on a buffered
    reader over ANY segmentation of the stream — buffer refills, short raw reads, pipe chunks falling anywhere,
    also in the middle of a length prefix — returns what `load` returns on the whole content: same value or same
    error, same unread rest. -/
theorem load_chunk_independent (m d : Nat) (segs : List Bytes) :
    (loadVia readN m d (segs.flatten.length + 2) segs).map (fun p => (p.1, p.2.flatten)) = load m d segs.flatten :=
  loadVia_reads readN_flatten m d segs

/-- two deliveries of the same content give the same result -/
theorem load_same_for_all_segmentations (m d : Nat) (segs segs' : List Bytes) (h : segs.flatten = segs'.flatten) :
    (loadVia readN m d (segs.flatten.length + 2) segs).map (fun p => (p.1, p.2.flatten))
      = (loadVia readN m d (segs'.flatten.length + 2) segs').map (fun p => (p.1, p.2.flatten)) := by
  rw [load_chunk_independent, load_chunk_independent, h]

-- non-vacuity and sanity (computed by the kernel)
/-- {"a": [-12, True], b"bc": None} -/
private def sample : Value :=
  .dict [(.str [0x61], .list [.int (-12), .bool true]), (.bytes [0x62, 0x63], .null)]

-- dumps emits 29:2:bc,0:~1:a;13:3:-12#4:true!]}   (second item first)
example : dumps sample =
    [0x32,0x39,0x3a, 0x32,0x3a,0x62,0x63,0x2c, 0x30,0x3a,0x7e, 0x31,0x3a,0x61,0x3b,
     0x31,0x33,0x3a, 0x33,0x3a,0x2d,0x31,0x32,0x23, 0x34,0x3a,0x74,0x72,0x75,0x65,0x21, 0x5d, 0x7d] := by
  decide +kernel
-- the hypotheses of pop_dumps / load_dumps are satisfiable by it
example : WF sample := wfB_sound.1 _ (by decide +kernel)
example : depth sample ≤ 2 := by decide +kernel
-- and the parsers really return the mirrored value
example : popTop 5 (dumps sample ++ [0x78]) =
    .ok (.dict [(.bytes [0x62, 0x63], .null), (.str [0x61], .list [.int (-12), .bool true])], [0x78]) := by
  rfl
-- the parsers do reject things, each with its own class
example : popTop 5 [0x31, 0x3a, 0x61] = .error .value := by rfl            -- "1:a"  (no type tag)
example : load 100 5 [0x31, 0x3a, 0x61] = .error .index := by rfl          -- same bytes, file reader
example : load 100 5 [] = .error .emptyFile := by rfl
example : load 100 0 [0x33, 0x3a, 0x30, 0x3a, 0x7e, 0x5d] = .error .recursion := by rfl  -- "3:0:~]" without head-room
example : load 2 5 [0x33, 0x3a, 0x30, 0x3a, 0x7e, 0x5d] = .error .memory := by rfl
example : popTop 5 [0x36, 0x3a, 0x30, 0x3a, 0x5d, 0x30, 0x3a, 0x7e, 0x7d] = .error .type := by rfl -- {[]: None}
-- negative length prefix: Python slice semantics  ("-1:abc," -> b"abc", rest b"abc,")
example : popTop 5 [0x2d, 0x31, 0x3a, 0x61, 0x62, 0x63, 0x2c] = .ok (.bytes [0x61, 0x62, 0x63], [0x61, 0x62, 0x63, 0x2c]) := by
  rfl
-- a reader whose from_state raises a non-Exception is outside never_other's hypothesis, and does escape
example : (readAll (α := Nat) ⟨100, 5, fun _ _ => .error .nonException, fun _ => ([], true)⟩ [0x30, 0x3a, 0x7d]).2 = .escapes := by
  decide +kernel
example : (readAll (α := Nat) ⟨100, 5, fun _ _ => .error .exception, fun _ => ([], true)⟩ [0x30, 0x3a, 0x7d]).2 = .flowRead := by
  decide +kernel

-- the transcribed dispatch on concrete loaded records
private def kv (k : String) (v : Value) : Value × Value := (.str k.toUTF8.toList, v)
example : gate (.dict [kv "version" (.int 21), kv "type" (.str "http".toUTF8.toList)]) = .pass "http".toUTF8.toList := by decide +kernel
example : gate (.dict [kv "version" (.int 21)]) = .rejectX := by decide +kernel                         -- KeyError 'type'
example : gate (.dict [kv "version" (.int 21), kv "type" (.str "ftp".toUTF8.toList)]) = .rejectV := by decide +kernel
example : gate (.dict [kv "version" (.int 99)]) = .rejectV := by decide +kernel                         -- please update
example : gate (.dict [kv "version" (.int 20)]) = .defer := by decide +kernel
example : gate (.dict []) = .rejectX := by decide +kernel                                                -- tuple(None)
example : gate (.dict [(.bytes bVersion, .list [.int 3, .int 0]), kv "version" (.int 21)]) = .defer := by decide +kernel  -- b"version" wins
example : gate (.dict [kv "version" (.bytes [0, 11])]) = .defer := by decide +kernel                    -- tuple(b"\x00\x0b") == (0, 11)
example : gate (.dict [kv "version" (.list [.list [], .int 1])]) = .rejectX := by decide +kernel        -- unhashable component

-- `peek` is the primitive that is NOT independent of the segmentation: the same content "12:", delivered in one piece
-- or with the buffer running out after the first digit, peeks differently — a length prefix fetched with one peek()
-- breaks exactly there, while the read-based load above cannot.  `FlowReader.stream` does peek, for the BOM/HAR sniff:
-- `self.peek(4)` for the BOM, then `self.peek(1)` for the `{` (any non-empty peek answers that one).  `sniff` (Model/C36)
-- looks at the first bytes of the WHOLE content, so the three theorems above are about `load` only, not about `readAll`:
-- a BOM + HAR file whose first raw read delivers fewer than four bytes is read by the code as a tnetstring ("Invalid
-- data format"), by `readAll` as HAR.
example : peekSeg [[0x31, 0x32, 0x3a]] 13 = [0x31, 0x32, 0x3a] ∧ peekSeg [[0x31], [0x32, 0x3a]] 13 = [0x31] := by decide +kernel
example : (loadVia readN 100 5 20 [[0x33], [0x3a, 0x61], [0x62, 0x63, 0x2c, 0x78]]).map (fun p => (p.1, p.2.flatten))
    = .ok (.bytes [0x61, 0x62, 0x63], [0x78]) := by rfl

-- the shape requirements on concrete records (current version, type tcp)
private def tcpKeys : List (Value × Value) :=
  (Gen.C36.typeKeys.find? (·.1 == sb "tcp")).map (fun p => p.2.map (fun k => (Value.str k, Value.null))) |>.getD []
example : exactKeys tcpKeys ((Gen.C36.typeKeys.find? (·.1 == sb "tcp")).map (·.2) |>.getD []) [bBackup] = true := by decide +kernel
example : shape (sb "tcp") tcpKeys = .bad := by decide +kernel                       -- client_conn is None, not a connection state
example : shape (sb "tcp") (tcpKeys.drop 1) = .bad := by decide +kernel              -- a popped key missing
example : optSub (some (.dict [])) Gen.C36.responseKeys = .good ∧ optSub (some (.int 5)) Gen.C36.responseKeys = .bad
    ∧ optSub (some (.float [0x30, 0x2e, 0x30])) Gen.C36.responseKeys = .unknown := by decide +kernel

-- older formats on concrete records: a bare {"version": 20} dies inside convert_20_21 (KeyError 'client_conn');
-- the version under the stale bytes key is refused after one conversion ("conflicting version information")
private def conn : Value := .dict [kv "tls_version" (.str "QUIC".toUTF8.toList)]
example : (match convert [kv "version" (.int 20)] with | .refusedX => true | _ => false) = true := by decide +kernel
example : (match convert [(.bytes bVersion, .int 20), kv "client_conn" conn, kv "server_conn" conn] with
    | .refusedV => true | _ => false) = true := by decide +kernel
example : (match convert [kv "version" (.int 20), kv "type" (.str "tcp".toUTF8.toList), kv "client_conn" conn, kv "server_conn" conn] with
    | .current ty d => ty == sb "tcp" && (match C38Conv.dget d (sb "version") with | some (Value.int n) => n == 21 | _ => false)
    | _ => false) = true := by decide +kernel

-- the hypotheses of the reader theorems hold together on concrete files

private def envA : Env Nat := ⟨1000, 10, fun i _ => .ok i, fun _ => ([], true)⟩
private def recHttp : Value := .dict [kv "version" (.int 21), kv "type" (.str "http".toUTF8.toList)]
private def recFuture : Value := .dict [kv "version" (.int 99)]
private def recTcpBare : Value := .dict [kv "type" (.str "tcp".toUTF8.toList), kv "version" (.int 21)]
private def recOld : Value := .dict [kv "version" (.int 20)]

-- `Good` for a two-record file (a nested record and the empty dict); read_roundtrip and corrupted_tail_keeps_flows on it
example : readAll envA (encList [sample, .dict []]) = ([0, 1], .clean) ∧
    [0, 1] <+: (readAll envA (encList [sample, .dict []] ++ [0x39, 0x39, 0x3a, 0x78])).1 := by
  have hg : Good envA 0 [sample, .dict []] [0, 1] := goodB_sound _ _ _ _ (by decide +kernel)
  exact ⟨read_roundtrip envA _ _ hg, corrupted_tail_keeps_flows envA _ _ hg _⟩

-- rejected_record_stops_reader with a NON-EMPTY good prefix: a current-version http record passes the gate, a version-99 record stops the read
example : readAll (gated envA) (encList [recHttp] ++ (enc recFuture ++ [0x78])) = ([0], .flowRead) := by
  have hg : Good (gated envA) 0 [recHttp] [0] := goodB_sound _ _ _ _ (by decide +kernel)
  obtain ⟨hwf, hdict, h12, hm, hd⟩ := readableB_sound (m := envA.memLimit) (d := envA.depth) (v := recFuture) (by decide +kernel)
  exact rejected_record_stops_reader envA [recHttp] [0] hg recFuture [0x78] hwf hdict h12 hm hd (Or.inl (by decide +kernel))

-- illshaped_record_stops_reader / unconvertible_record_stops_reader (good prefix empty: a shape-good record needs a whole flow state)
example : readAll (shaped envA) (encList [] ++ (enc recTcpBare ++ [0x78])) = ([], .flowRead) := by
  obtain ⟨hwf, hdict, h12, hm, hd⟩ := readableB_sound (m := envA.memLimit) (d := envA.depth) (v := recTcpBare) (by decide +kernel)
  exact illshaped_record_stops_reader envA (by intro i v h; cases h) [] [] trivial recTcpBare [0x78] hwf hdict h12 hm hd (sb "tcp")
    [kv "version" (.int 21), kv "type" (.str "tcp".toUTF8.toList)] rfl (by decide +kernel) (by decide +kernel)

example : readAll (converted envA) (encList [] ++ (enc recOld ++ [0x78])) = ([], .flowRead) := by
  obtain ⟨hwf, hdict, h12, hm, hd⟩ := readableB_sound (m := envA.memLimit) (d := envA.depth) (v := recOld) (by decide +kernel)
  exact unconvertible_record_stops_reader envA [] [] trivial recOld [0x78] hwf hdict h12 hm hd
    [kv "version" (.int 20)] rfl (by decide +kernel) (by decide +kernel)

-- a COMPLETE current-version tcp record (every key `set_state` pops, connection states with exactly their field names,
-- no error, no messages): it passes the gate with a good shape, so `accepted_record_is_wellshaped` is met in its main
-- branch, and it serves as a NON-EMPTY good prefix for `illshaped_record_stops_reader`

private def nullDict (keys : List Bytes) : Value := .dict (keys.map (fun k => (Value.str k, Value.null)))
private def tcpFull : List (Value × Value) :=
  ((Gen.C36.typeKeys.find? (·.1 == sb "tcp")).map (·.2) |>.getD []).map (fun k =>
    (Value.str k,
      if k == sb "version" then Value.int 21
      else if k == sb "type" then Value.str (sb "tcp")
      else if k == sb "client_conn" then nullDict Gen.C36.clientKeys
      else if k == sb "server_conn" then nullDict Gen.C36.serverKeys
      else if k == sb "messages" then Value.list []
      else Value.null))

example : gate (.dict tcpFull) = .pass (sb "tcp") ∧ shape (sb "tcp") tcpFull = .good := by decide +kernel

example : Acceptable (.dict tcpFull) :=
  accepted_record_is_wellshaped envA 0 (.dict tcpFull) 0 (okIs_sound (by decide +kernel))

-- the converter chain on the complete record

/-- `tcpFull` written in flow format 20 -/
private def tcpFull20 : List (Value × Value) :=
  tcpFull.map (fun p => match p.1 with
    | .str u => if u == sb "version" then (p.1, Value.int 20) else p
    | _ => p)

-- `converted_accept_needs_convertible` in its `.current` branch: the format-20 record is converted (version 21 written),
-- dispatched to `tcp`, and the CONVERTED state has a good shape
example : gate (.dict tcpFull20) = .defer ∧
    (match convert tcpFull20 with
      | .current ty d => ty == sb "tcp" && decide (shape ty d = .good) &&
          (match C38Conv.dget d (sb "version") with | some (Value.int n) => n == 21 | _ => false)
      | _ => false) = true := by decide +kernel

example : (match convert tcpFull20 with
      | .refusedV => False
      | .refusedX => False
      | .current ty d => shape ty d ≠ .bad
      | .notModelled => True) :=
  converted_accept_needs_convertible envA 0 tcpFull20 0 (by decide +kernel) (okIs_sound (by decide +kernel))

-- `illshaped_record_stops_reader` with a NON-EMPTY good prefix: the complete tcp record becomes flow 0, the bare one ends the read
example : readAll (shaped envA) (encList [.dict tcpFull] ++ (enc recTcpBare ++ [0x78])) = ([0], .flowRead) := by
  have hg : Good (shaped envA) 0 [.dict tcpFull] [0] := goodB_sound _ _ _ _ (by decide +kernel)
  obtain ⟨hwf, hdict, h12, hm, hd⟩ := readableB_sound (m := envA.memLimit) (d := envA.depth) (v := recTcpBare) (by decide +kernel)
  exact illshaped_record_stops_reader envA (by intro i v h; cases h) [.dict tcpFull] [0] hg recTcpBare [0x78] hwf hdict h12 hm hd
    (sb "tcp") [kv "version" (.int 21), kv "type" (.str "tcp".toUTF8.toList)] rfl (by decide +kernel) (by decide +kernel)

end MitmVerif.Props.C36
