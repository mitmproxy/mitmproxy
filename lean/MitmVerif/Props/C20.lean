/-
  C20 — property theorems (all over ALL histories: any number of client connections, any interleaving of events).

  * `unauthenticated_never_forwarded` : with a validator configured, whenever an event of connection `cid` causes
      upstream traffic (request forwarded, CONNECT tunnel, SOCKS5 connect) that connection has — at that event or
      earlier — presented credentials the validator accepts, on its own path.
  * `auth_required_answer`            : a connection that has presented no accepted credentials gets 407 (regular /
      upstream), 401 (reverse / transparent), SOCKS `05 FF`+close (method not offered) or `01 01`+close (bad pair) —
      or 413 / 400 + close where the request is refused before authentication is looked at (`AuthRequiredAnswer`) —
      and never reaches a tunnel / relay phase.
  * `validator_accepts_implies_path_accepts` : a pair the validator accepts, presented as `Basic <token>` whose
      decoding is `user:password` (the password may contain ':'), is accepted on every HTTP path and on SOCKS5.
  * `credential_header_removed`       : the request on which authentication happens is forwarded without any field
      of the credential header's name, and otherwise unchanged; no hook ever adds or alters a field.

  Then: the transcribed library part (base64 and both UTF-8 decoders invert the encoders on scalar values, and yield
  scalar values whatever the input), by which the token path is closed (`…_closed`); the decision as a formula and the
  "authenticated once" memo; a validator that raises; the htpasswd parser; `ProxyAuth.configure`; the addon order.
  The step of the connection machine and the credential parser by equations: Lemmas/C20.
-/
import MitmVerif.Lemmas.C20
import MitmVerif.Lemmas.C20_B64
import MitmVerif.Model.C20_Ht
namespace MitmVerif.Props.C20
open MitmVerif MitmVerif.C20

/-- the authentication invariant: being in `authenticated`, or in a tunnel / SOCKS relay phase, implies `P`
    ("this connection has presented accepted credentials") -/
private def Inv (P : Nat → Prop) (σ : State) : Prop :=
  (∀ c, c ∈ σ.authd → P c) ∧
  (∀ c, (σ.phase c = .http true ∨ σ.phase c = .sConnect) → P c)

private theorem inv_init (modes : Nat → Mode) (P : Nat → Prop) : Inv P (State.init modes) := by
  constructor
  · intro c h; simp [State.init] at h
  · intro c h
    simp only [State.init, initPhase] at h
    split at h <;> simp at h

private theorem Inv.mono {P Q : Nat → Prop} {σ : State} (h : Inv P σ) (hPQ : ∀ c, P c → Q c) : Inv Q σ :=
  ⟨fun c hc => hPQ c (h.1 c hc), fun c hc => hPQ c (h.2 c hc)⟩

private theorem step_inv (L : Lib) (v : Validator) (m : Mode) (σ : State) (cid : Nat) (e : Ev)
    (P : Nat → Prop) (h : Inv P σ) :
    Inv (fun c => P c ∨ (c = cid ∧ presentsAccepted L v m e = true)) (step L (some v) m σ cid e).1 := by
  rw [step_eq]
  obtain ⟨hmemo, hsec, -⟩ := cstep_safe L v m (σ.authd.contains cid) (σ.phase cid) e
  refine ⟨fun c hc => ?_, fun c hc => ?_⟩
  · rcases State.mem_upd_authd.mp hc with hc | ⟨rfl, hd⟩
    · exact .inl (h.1 c hc)
    · exact .inr ⟨rfl, hmemo hd⟩
  · by_cases hcc : c = cid
    · subst hcc
      rw [State.upd_phase_self] at hc
      rcases hsec hc with h' | h'
      · exact .inl (h.2 c h')
      · exact .inr ⟨rfl, hmemo h'⟩
    · rw [State.upd_phase_ne _ _ hcc] at hc
      exact .inl (h.2 c hc)

private theorem step_forwards (L : Lib) (v : Validator) (m : Mode) (σ : State) (cid : Nat) (e : Ev)
    (P : Nat → Prop) (h : Inv P σ) (hf : (step L (some v) m σ cid e).2.forwards = true) :
    P cid ∨ presentsAccepted L v m e = true := by
  rw [step_eq] at hf
  rcases (cstep_safe L v m _ _ e).2.2 hf with h' | h' | h'
  · exact .inl (h.1 cid (List.contains_iff_mem.mp h'))
  · exact .inr h'
  · exact .inl (h.2 cid (.inr h'))

/-- reachable states: connection `cid` is authenticated / tunnelled / relayed only if it presented accepted
    credentials somewhere in the history `pre` -/
private theorem reach_inv (L : Lib) (v : Validator) (modes : Nat → Mode) :
    ∀ (pre : List (Nat × Ev)) (σ : State) (P : Nat → Prop), Inv P σ →
      Inv (fun c => P c ∨ ∃ e', (c, e') ∈ pre ∧ presentsAccepted L v (modes c) e' = true)
        (finalState L (some v) modes σ pre) := by
  intro pre σ P h
  refine finalState_induct L _ modes (Inv _) pre (fun σ x hx hI => ?_) σ (h.mono fun _ => .inl)
  refine (step_inv L v (modes x.1) σ x.1 x.2 _ hI).mono ?_
  rintro c (hc | ⟨rfl, hacc⟩)
  · exact hc
  · exact .inr ⟨x.2, hx, hacc⟩

/-- … from the start of the proxy -/
private theorem reach_init (L : Lib) (v : Validator) (modes : Nat → Mode) (pre : List (Nat × Ev)) :
    Inv (fun c => ∃ e', (c, e') ∈ pre ∧ presentsAccepted L v (modes c) e' = true)
      (finalState L (some v) modes (State.init modes) pre) :=
  (reach_inv L v modes pre _ _ (inv_init modes fun _ => False)).mono fun _ h => h.resolve_left id

/-- **C20 (no unauthenticated request is forwarded).**  With `proxyauth` configured, over every history on any
    number of connections (regular / upstream / reverse / transparent / SOCKS5, in any interleaving): if the `i`-th
    event — arriving on connection `cid` — makes the proxy forward a request, establish a CONNECT tunnel or connect a
    SOCKS5 destination, then `cid` itself has presented, at that event or before, credentials the validator accepts. -/
theorem unauthenticated_never_forwarded (L : Lib) (v : Validator) (modes : Nat → Mode)
    (es : List (Nat × Ev)) (i cid : Nat) (e : Ev) (o : Out)
    (he : es[i]? = some (cid, e))
    (ho : (run L (some v) modes (State.init modes) es)[i]? = some o)
    (hf : o.forwards = true) :
    ∃ j e', j ≤ i ∧ es[j]? = some (cid, e') ∧ presentsAccepted L v (modes cid) e' = true := by
  rw [run_getElem, he] at ho
  obtain rfl := Option.some.inj ho
  -- the state the event meets is reachable by the events before it
  rcases step_forwards L v _ _ cid e _ (reach_init L v modes (es.take i)) hf with ⟨e', hmem, hacc⟩ | hacc
  · obtain ⟨j, hj, hje⟩ := List.mem_take_iff_getElem.mp hmem
    exact ⟨j, e', by omega, by rw [List.getElem?_eq_getElem (by omega), hje], hacc⟩
  · exact ⟨i, e, Nat.le_refl _, he, hacc⟩

/-- what "an authentication-required answer instead" means, by phase and event -/
def AuthRequiredAnswer (m : Mode) (phase : Phase) (e : Ev) (phase' : Phase) (o : Out) : Prop :=
  match phase, e with
  | .http false, .req connect big _ =>
      if !connect && big then o = .tooLarge ∧ phase' = .closed                -- 413 + close before any authentication
      else if connect && !m.isHttpProxy then o = .invalid ∧ phase' = .closed      -- CONNECT where none is allowed: 400 + close
      else o = .deny (if m.isHttpProxy then 407 else 401) ∧ phase' = .http false
  | .sGreet, .sGreet ms =>
      if ms.contains 2 then o = .sMethod 2 ∧ phase' = .sAuth                 -- "use user/password"
      else o = .sNoMethod ∧ phase' = .closed                                  -- 05 FF + close
  | .sAuth, .sAuth _ _ => o = .sAuthFail ∧ phase' = .closed                  -- 01 01 + close
  | .http true, _ => False                                                    -- unreachable without credentials
  | .sConnect, _ => False
  | _, _ => o.forwards = false ∧ phase' = .closed                             -- closed already / malformed handshake

/-- without accepted credentials, now or earlier, `cstep` answers as `AuthRequiredAnswer` says and memoises nothing -/
private theorem cstep_unauth (L : Lib) (v : Validator) (m : Mode) {p : Phase} {e : Ev}
    (hp : ¬(p = .http true ∨ p = .sConnect)) (hacc : presentsAccepted L v m e = false) :
    AuthRequiredAnswer m p e (cstep L v m false p e).1 (cstep L v m false p e).2.2 ∧
      (cstep L v m false p e).2.1 = false := by
  fun_cases cstep L v m false p e <;> simp_all [AuthRequiredAnswer, presentsAccepted, authCode, Out.forwards]

/-- **C20 (authentication-required answer).**  A connection that has presented no accepted credentials — neither
    earlier (`pre`) nor with the current event — is never in a tunnel / relay phase, and its event is answered by
    407 (regular, upstream) / 401 (reverse, transparent) with the connection left usable for a retry, by SOCKS5
    `05 02` (asking for user/password) or `05 FF` + close, or by `01 01` + close; the `authenticated` map is unchanged.
    `AuthRequiredAnswer` has three more branches, all closing the connection with nothing forwarded: 413 for a declared
    body above `body_size_limit` (`HttpStream.check_body_size` runs before the hook), 400 for a CONNECT outside an explicit
    proxy, and an event that does not fit the connection's phase. -/
theorem auth_required_answer (L : Lib) (v : Validator) (modes : Nat → Mode)
    (pre : List (Nat × Ev)) (cid : Nat) (e : Ev)
    (hnone : ∀ e', (cid, e') ∈ pre ++ [(cid, e)] → presentsAccepted L v (modes cid) e' = false) :
    let σ := finalState L (some v) modes (State.init modes) pre
    let r := step L (some v) (modes cid) σ cid e
    AuthRequiredAnswer (modes cid) (σ.phase cid) e (r.1.phase cid) r.2 ∧ r.1.authd = σ.authd := by
  intro σ r
  have hinv := reach_init L v modes pre
  -- no accepted credentials so far: `cid` is neither memoised nor in a tunnel / relay phase
  have hnot : ¬∃ e', (cid, e') ∈ pre ∧ presentsAccepted L v (modes cid) e' = true := by
    rintro ⟨e', hmem, hacc⟩
    rw [hnone e' (List.mem_append_left _ hmem)] at hacc; cases hacc
  have hk : σ.authd.contains cid = false := by
    rw [Bool.eq_false_iff, Ne, List.contains_iff_mem]; exact fun hc => hnot (hinv.1 cid hc)
  obtain ⟨hans, hmemo⟩ := cstep_unauth L v (modes cid) (fun hc => hnot (hinv.2 cid hc)) (hnone e (by simp))
  simp only [r, step_eq, hk, State.upd_phase_self]
  exact ⟨hans, if_neg (by rw [hmemo]; nofun)⟩

/-- a well-formed Basic credential for the pair `(u, p)`: `<scheme> SP <token>` where the scheme lower-cases to
    "basic", the token is a non-empty run without whitespace or lone surrogates, and the library decodes the token to
    `u ++ ":" ++ p` (the law a standard base64 encoding of the UTF-8 text `u:p` satisfies) -/
def WellFormedCred (L : Lib) (value u p : Text) : Prop :=
  ∃ scheme token : Text,
    value = scheme ++ 32 :: token ∧
    L.isSpace 32 = true ∧
    scheme.map L.lower = basicWord ∧
    (∀ c ∈ scheme, L.isSpace c = false) ∧
    (∀ c ∈ token, L.isSpace c = false) ∧
    token ≠ [] ∧
    token.any isSurrogate = false ∧
    L.decodeCred token = some (u ++ 58 :: p) ∧
    (∀ c ∈ u, c ≠ 58)

private theorem parse_wellformed (L : Lib) (value u p : Text) (h : WellFormedCred L value u p) :
    parseBasic L value = some (u, p) := by
  obtain ⟨scheme, token, shape, space, sok, snows, tnows, tne, tenc, dec, unc⟩ := h
  have sne : scheme ≠ [] := by
    intro h0; subst h0; simp [basicWord] at sok
  subst shape
  exact parseBasic_of_split L (by rw [splitWs_word_sep _ snows sne space, splitWs_word _ tnows tne]) sok tenc dec unc

/-- **C20 (every accepted pair is accepted on each path, including passwords containing ':').**
    If the validator accepts `(u, p)` — `p` arbitrary, in particular with colons — then
    (1) a request whose credential header (by the path's name: `Proxy-Authorization` in regular/upstream mode,
        `Authorization` in reverse/transparent mode) is a well-formed Basic credential for `(u, p)` is forwarded on
        a plain request and establishes the tunnel on a CONNECT (regular/upstream), from any state of any live
        connection, and the connection is remembered as authenticated after a CONNECT;
    (2) a SOCKS5 user/password message decoding to `(u, p)` is answered `01 00` and the handshake continues. -/
theorem validator_accepts_implies_path_accepts (L : Lib) (v : Validator) (m : Mode) (σ : State) (cid : Nat)
    (u p : Text) (hacc : v.accepts L u p = true) :
    (∀ hs t big, WellFormedCred L (hdrGet hs (authName m)) u p → σ.phase cid = .http t →
        (∃ hs', (step L (some v) m σ cid (.req false false hs)).2 = .fwd hs') ∧
        (m.isHttpProxy = true → t = false →
          (step L (some v) m σ cid (.req true big hs)).2 = .tunnel ∧
          cid ∈ (step L (some v) m σ cid (.req true big hs)).1.authd ∧
          (step L (some v) m σ cid (.req true big hs)).1.phase cid = .http true)) ∧
    (∀ ub pb, L.sockDecode ub = u → L.sockDecode pb = p → σ.phase cid = .sAuth →
        (step L (some v) m σ cid (.sAuth ub pb)).2 = .sAuthOk ∧
        (step L (some v) m σ cid (.sAuth ub pb)).1.phase cid = .sConnect) := by
  constructor
  · intro hs t big hw hp
    have hc : credsOk L v m hs = true := by
      unfold credsOk; rw [parse_wellformed L _ u p hw]; exact hacc
    constructor
    · rw [step_eq, hp]
      cases σ.authd.contains cid <;> simp [cstep, hc]
    · intro hm ht
      subst ht
      simp [step_eq, hp, cstep, hm, hc, State.mem_upd_authd, State.upd_phase_self]
  · intro ub pb hu hpw hp
    simp [step_eq, hp, cstep, hu, hpw, hacc, State.upd_phase_self]

private theorem hdrGet_del (hs : List Hdr) (n : Bytes) : hdrGet (hdrDel hs n) n = [] := by
  have : (hdrDel hs n).filter (nameIs n) = [] := by
    rw [List.filter_eq_nil_iff]
    intro h hh; simp [hdrDel_none hs n h hh]
  simp [hdrGet, this, joinComma]

/-- **C20 (credential header removed).**  Over every history: when a request of connection `cid` is forwarded and
    `cid` had not presented accepted credentials before (so authentication happens on this very request), what is
    forwarded is exactly the received field list without every field named like the path's credential header — no
    such field remains, every other field is kept in order; and in *every* case a forwarded field list is the
    received one or that filtered one (the hooks never add or alter a field). -/
theorem credential_header_removed (L : Lib) (v : Validator) (modes : Nat → Mode)
    (pre : List (Nat × Ev)) (cid : Nat) (connect big : Bool) (hs hs' : List Hdr)
    (hout : (step L (some v) (modes cid) (finalState L (some v) modes (State.init modes) pre) cid
              (.req connect big hs)).2 = .fwd hs') :
    (hs' = hs ∨ hs' = hdrDel hs (authName (modes cid))) ∧
    ((∀ e', (cid, e') ∈ pre → presentsAccepted L v (modes cid) e' = false) →
      hs' = hdrDel hs (authName (modes cid)) ∧
      (∀ h ∈ hs', nameIs (authName (modes cid)) h = false) ∧
      hdrGet hs' (authName (modes cid)) = []) := by
  have hinv := reach_init L v modes pre
  rw [step_eq] at hout
  generalize finalState L (some v) modes (State.init modes) pre = σ at hout hinv
  obtain ⟨_, he, h⟩ := cstep_fwd hout
  cases he
  cases hk : σ.authd.contains cid <;> simp only [hk, if_true, Bool.false_eq_true, if_false] at h
  · obtain ⟨-, rfl⟩ := h
    exact ⟨.inr rfl, fun _ => ⟨rfl, hdrDel_none hs _, hdrGet_del hs _⟩⟩
  · subst h
    refine ⟨.inl rfl, fun hnone => ?_⟩
    obtain ⟨e', hmem, hacc⟩ := hinv.1 cid (List.contains_iff_mem.mp hk)
    rw [hnone e' hmem] at hacc; cases hacc

/-- **credential header removed — the CONNECT path (hook level).**  When `http_connect` accepts, the flow's request (what
    every later hook and the rest of the proxy core see) is the received field list without every field named like the
    path's credential header; when it refuses, a 407/401 is set and the fields are irrelevant.  `httpConnectHook` is the
    function the `hook` driver op runs. -/
theorem connect_hook_removes_credential_header (L : Lib) (v : Validator) (authd : List Nat) (cid : Nat) (m : Mode)
    (hs hs' : List Hdr) (h : (httpConnectHook L (some v) authd cid m hs).2 = .pass hs') :
    hs' = hdrDel hs (authName m) ∧ (∀ f ∈ hs', nameIs (authName m) f = false) ∧ hdrGet hs' (authName m) = [] ∧
    (httpConnectHook L (some v) authd cid m hs).1 = cid :: authd := by
  rw [httpConnectHook_some] at h ⊢
  by_cases hc : credsOk L v m hs = true
  · rw [if_pos hc] at h ⊢
    obtain rfl := HookOut.pass.inj h
    exact ⟨rfl, hdrDel_none hs _, hdrGet_del hs _, rfl⟩
  · rw [if_neg hc] at h; cases h

/-- **credential header removed — the CONNECT path (connection level).**  Whenever a client's CONNECT establishes a
    tunnel with `proxyauth` configured (regular or upstream mode, any state): the hook has removed the credential header
    from the flow's request, and the CONNECT head that mitmproxy writes to the upstream proxy in upstream mode carries no
    field of the client's at all (`upstreamConnectFields`; the end-to-end tie requires that head to consist of the
    request line and `Host` only, and the oracle scans it for the credential header). -/
theorem credential_header_removed_connect (L : Lib) (v : Validator) (m : Mode) (σ : State) (cid : Nat) (big : Bool)
    (hs : List Hdr) (h : (step L (some v) m σ cid (.req true big hs)).2 = .tunnel) :
    (httpConnectHook L (some v) σ.authd cid m hs).2 = .pass (hdrDel hs (authName m)) ∧
    (∀ f ∈ hdrDel hs (authName m), nameIs (authName m) f = false) ∧
    (∀ f ∈ upstreamConnectFields (hdrDel hs (authName m)), nameIs (authName m) f = false) := by
  refine ⟨?_, hdrDel_none hs _, by simp [upstreamConnectFields]⟩
  rw [step_eq] at h
  rw [httpConnectHook_some, if_pos (cstep_tunnel h _ _ _ rfl)]

/-- a concrete library: ASCII whitespace, ASCII lower-casing, a "decoder" that knows two tokens -/
private def L0 : Lib where
  isSpace := genIsSpace
  lower := genLower
  decodeCred := fun t =>
    if t = [100, 88, 78, 108] then some [117, 58, 112, 97, 58, 115, 115]     -- "dXNl" ↦ "u:pa:ss" (toy table)
    else if t = [65] then none else some [120]
  sockDecode := fun b => b.map (·.toNat)
  hashOk := fun h p => h == p

private def cred0 : Text := [66, 97, 115, 105, 99, 32, 100, 88, 78, 108]       -- "Basic dXNl"
private def pa : Bytes := strBytes "Proxy-Authorization"
private def single0 : Validator := .single [117] [112, 97, 58, 115, 115]          -- u / pa:ss

-- the repaired parser accepts a password with colons; the code before the repair (F-C20a) rejected it
example : parseBasic L0 cred0 = some ([117], [112, 97, 58, 115, 115]) := by decide +kernel
example : parseBasicOld L0 cred0 = none := by decide +kernel
-- the parser does reject: wrong scheme, one token, three tokens, binascii.Error
example : parseBasic L0 [66, 97, 115, 105, 32, 100, 88, 78, 108] = none := by decide +kernel
example : parseBasic L0 [66, 97, 115, 105, 99] = none := by decide +kernel
example : parseBasic L0 (cred0 ++ [32, 120]) = none := by decide +kernel
example : parseBasic L0 [66, 97, 115, 105, 99, 32, 65] = none := by decide +kernel
-- U+00A0 and U+3000 split like blanks (table regenerated from the interpreter)
example : splitWs genIsSpace [0xa0, 66, 0x3000, 67, 32] = [[66], [67]] := by decide +kernel

-- hypotheses of the theorems are satisfiable: a two-connection history in which connection 0 (regular) is refused,
-- then authenticates on a CONNECT, and connection 1 (reverse) stays unauthenticated
private def modes0 : Nat → Mode := fun c => if c = 0 then .regular else .reverse
private def hist0 : List (Nat × Ev) :=
  [(0, .req false false []), (1, .req false false [⟨pa, cred0⟩]), (0, .req true false [⟨pa, cred0⟩]), (0, .req false false []), (1, .req false false [])]

example : run L0 (some single0) modes0 (State.init modes0) hist0 =
    [.deny 407, .deny 401, .tunnel, .fwd [], .deny 401] := by decide +kernel
example : ∃ (i cid : Nat) (e : Ev) (o : Out), hist0[i]? = some (cid, e) ∧
    (run L0 (some single0) modes0 (State.init modes0) hist0)[i]? = some o ∧ o.forwards = true :=
  ⟨2, 0, .req true false [⟨pa, cred0⟩], Out.tunnel, rfl, by decide +kernel, rfl⟩
example : WellFormedCred L0 (hdrGet [⟨pa, cred0⟩] (authName .regular)) [117] [112, 97, 58, 115, 115] :=
  ⟨[66, 97, 115, 105, 99], [100, 88, 78, 108], by decide +kernel, by decide +kernel, by decide +kernel,
   by decide +kernel, by decide +kernel, by decide, by decide +kernel, by decide +kernel, by decide⟩
example : single0.accepts L0 [117] [112, 97, 58, 115, 115] = true := by decide +kernel
-- header removal on the authenticating request; other fields kept
example : (step L0 (some single0) .reverse (State.init modes0) 1
    (.req false false [⟨strBytes "X-A", [49]⟩, ⟨strBytes "AUTHORIZATION", cred0⟩, ⟨pa, [50]⟩])).2 =
    .fwd [⟨strBytes "X-A", [49]⟩, ⟨pa, [50]⟩] := by decide +kernel
-- SOCKS5: wrong pair -> 01 01, right pair -> 01 00
example : (step L0 (some single0) .socks5 ((State.init (fun _ => .socks5)).setPhase 0 .sAuth) 0
    (.sAuth [117] [112])).2 = .sAuthFail := by decide +kernel
example : (step L0 (some single0) .socks5 ((State.init (fun _ => .socks5)).setPhase 0 .sAuth) 0
    (.sAuth [117] (strBytes "pa:ss"))).2 = .sAuthOk := by decide +kernel

/-! ## The transcribed library part (base64, UTF-8, mkauth) and the 401/407 page; equations and loop invariants: Lemmas/C20_B64 -/

section B64
open MitmVerif.C20.B64

/-- **base64 round trip.**  The transcription of CPython's lenient `a2b_base64` inverts `b2a_base64` on every byte
    string (induction over 3-byte groups; the two padded tails end through the `quad_pos + pads ≥ 4` exit). -/
theorem b64_roundtrip (bs : NBytes) (h : ∀ b ∈ bs, b < 256) : a2b (b2a bs) = some bs := by
  have := a2b_b2a_gen bs [] h
  simpa [a2b] using this

/-- a Unicode scalar value (what a Python `str` that can be UTF-8-encoded consists of) -/
def Scalar (c : Nat) : Prop := c < 0x110000 ∧ ¬ (0xD800 ≤ c ∧ c ≤ 0xDFFF)

/-- a decoding step reads back exactly the encoding of a scalar value, whatever follows it -/
private theorem decStepE_enc (c : Nat) (hc : Scalar c) (rest : NBytes) :
    decStepE (utf8encChar c ++ rest) = (some c, (utf8encChar c).length) := by
  obtain ⟨hlt, hns⟩ := hc
  unfold utf8encChar
  split
  · exact decStepE_one rest ‹_›
  split
  · rw [List.cons_append, List.cons_append, List.nil_append, decStepE_two rest (by omega) (isCont_low c)]
    exact congrArg (fun x => (some x, 2)) (by omega)
  split
  · rw [List.cons_append, List.cons_append, List.cons_append, List.nil_append,
      decStepE_three rest (by omega) ?_ (isCont_low c)]
    · exact congrArg (fun x => (some x, 3)) (by omega)
    · -- E0 is followed by A0.. (no overlong form), ED by ..9F (no surrogate)
      have := isCont_low (c / 64)
      simp only [ok3, isCont, Bool.and_eq_true, Bool.or_eq_true, decide_eq_true_eq, bne_iff_ne, ne_eq] at this ⊢
      omega
  · rw [List.cons_append, List.cons_append, List.cons_append, List.cons_append, List.nil_append,
      decStepE_four rest (by omega) ?_ (isCont_low (c / 64)) (isCont_low c)]
    · exact congrArg (fun x => (some x, 4)) (by omega)
    · -- F0 is followed by 90.. (no overlong form), F4 by ..8F (nothing above U+10FFFF)
      have := isCont_low (c / 4096)
      simp only [ok4, isCont, Bool.and_eq_true, Bool.or_eq_true, decide_eq_true_eq, bne_iff_ne, ne_eq] at this ⊢
      omega

/-- both decoders read an encoded text back, given fuel for its length -/
private theorem dec_enc (t : Text) (ht : ∀ c ∈ t, Scalar c) :
    ∀ f, (utf8enc t).length ≤ f → decFB f (utf8enc t) = t ∧ decFR f (utf8enc t) = t := by
  induction t with
  | nil => intro f _; cases f <;> exact ⟨rfl, rfl⟩
  | cons c cs ih =>
    intro f hf
    have henc : utf8enc (c :: cs) = utf8encChar c ++ utf8enc cs := List.flatMap_cons
    have hne : utf8encChar c ++ utf8enc cs ≠ [] := fun h => utf8encChar_ne_nil c (List.append_eq_nil_iff.mp h).1
    have hpos := List.length_pos_iff.mpr (utf8encChar_ne_nil c)
    rw [henc, List.length_append] at hf
    rw [henc]
    cases f with
    | zero => omega
    | succ f =>
      have hstep := decStepE_enc c (ht c List.mem_cons_self) (utf8enc cs)
      obtain ⟨hB, hR⟩ := ih (fun x hx => ht x (List.mem_cons_of_mem _ hx)) f (by omega)
      rw [decFB_succ f _ hne, decFR_succ f _ hne, decStepR_eq _ hne, hstep]
      simp only [List.drop_left, hB, hR]
      exact ⟨rfl, rfl⟩

/-- **UTF-8 round trip** for the transcribed `bytes.decode("utf8", "replace")`: decoding inverts `str.encode` on every
    text of Unicode scalar values (no U+FFFD is ever produced for well-formed input). -/
theorem utf8_roundtrip (t : Text) (ht : ∀ c ∈ t, Scalar c) : utf8decR (utf8enc t) = t :=
  (dec_enc t ht _ (Nat.le_refl _)).2

/-- **UTF-8 round trip for `bytes.decode("utf-8", "backslashreplace")`** (SOCKS5 credentials): no escape is ever
    produced for well-formed input -/
theorem utf8_roundtrip_backslashreplace (t : Text) (ht : ∀ c ∈ t, Scalar c) : utf8decBS (utf8enc t) = t :=
  (dec_enc t ht _ (Nat.le_refl _)).1

/-! ### what the decoders hand to the validator is always encodable text -/

/-- a decoded code point is never a surrogate and never above U+10FFFF: the lead byte bounds it, and `ok3` / `ok4`
    exclude exactly ED A0.. and F4 90.. -/
private theorem decStepE_scalar (bs : NBytes) (hb : ∀ b ∈ bs, b < 256) (c : Nat)
    (h : (decStepE bs).1 = some c) : Scalar c := by
  revert h
  fun_cases decStepE bs <;> intro h <;> simp only [Option.some.injEq, reduceCtorEq] at h
  all_goals
    subst h
    simp_all [Scalar, isCont, ok3, ok4]
    omega

private theorem bsEscape_scalar (b : Nat) (hb : b < 256) : ∀ c ∈ bsEscape b, Scalar c := by
  intro c hc
  have h1 : b / 16 < 16 := by omega
  have h2 : b % 16 < 16 := by omega
  simp only [bsEscape, List.mem_cons, List.not_mem_nil, or_false] at hc
  have hd : ∀ n, n < 16 → hexDigitN n < 128 := by
    intro n hn; unfold hexDigitN; split <;> omega
  rcases hc with rfl | rfl | rfl | rfl
  · exact ⟨by omega, by omega⟩
  · exact ⟨by omega, by omega⟩
  · have := hd _ h1; exact ⟨by omega, by omega⟩
  · have := hd _ h2; exact ⟨by omega, by omega⟩

private theorem dec_scalar : ∀ (f : Nat) (bs : NBytes), (∀ b ∈ bs, b < 256) →
    (∀ c ∈ decFB f bs, Scalar c) ∧ (∀ c ∈ decFR f bs, Scalar c) := by
  intro f
  induction f with
  | zero => intro bs _; cases bs <;> simp [decFB, decFR]
  | succ f ih =>
    intro bs hb
    cases bs with
    | nil => simp [decFB, decFR]
    | cons b t =>
      have hne : b :: t ≠ [] := List.cons_ne_nil _ _
      obtain ⟨ihB, ihR⟩ := ih ((b :: t).drop (decStepE (b :: t)).2) (fun y hy => hb y (List.mem_of_mem_drop hy))
      rw [decFB_succ f _ hne, decFR_succ f _ hne, decStepR_eq _ hne]
      constructor
      · intro c hc
        rcases List.mem_append.mp hc with hc | hc
        · cases hs : (decStepE (b :: t)).1 with
          | some x =>
            rw [hs] at hc
            exact List.mem_singleton.mp hc ▸ decStepE_scalar _ hb x hs
          | none =>
            rw [hs] at hc
            obtain ⟨y, hy, hcy⟩ := List.mem_flatMap.mp hc
            exact bsEscape_scalar y (hb y (List.mem_of_mem_take hy)) c hcy
        · exact ihB c hc
      · intro c hc
        rcases List.mem_cons.mp hc with rfl | hc
        · cases hs : (decStepE (b :: t)).1 with
          | some x => exact decStepE_scalar _ hb x hs
          | none => exact (⟨by decide, by decide⟩ : Scalar 0xFFFD)
        · exact ihR c hc

/-- **the SOCKS5 user / password handed to the validator are texts of Unicode scalar values** for EVERY byte string the
    client sends (a decoded code point is never a surrogate or above U+10FFFF; a malformed range becomes ASCII
    `\xNN` escapes) — so the validator's own `password.encode("utf-8")` cannot fail on them. -/
theorem socks_decoded_text_is_scalar (b : Bytes) : ∀ c ∈ utf8decBS (b.map (·.toNat)), Scalar c := by
  apply (dec_scalar _ _ _).1
  intro x hx
  simp only [List.mem_map] at hx
  obtain ⟨y, _, rfl⟩ := hx
  exact UInt8.toNat_lt y

/-- `a2b_base64` yields bytes -/
theorem a2b_bytes (data r : NBytes) (h : a2b data = some r) : ∀ b ∈ r, b < 256 :=
  a2bLoop_bytes data {} StOk.init r h

/-- **whatever token a client presents, the user / password text that reaches the validator consists of Unicode
    scalar values** (`bytes.decode("utf8", "replace")` never yields a surrogate): together with
    `socks_decoded_text_is_scalar`, the validator's `password.encode("utf-8")` cannot raise on any path. -/
theorem basic_decoded_text_is_scalar (tok txt : Text) (h : decodeCredStd tok = some txt) : ∀ c ∈ txt, Scalar c := by
  unfold decodeCredStd at h
  cases hr : a2b (utf8enc tok) with
  | none => simp [hr] at h
  | some raw =>
    simp only [hr, Option.map_some, Option.some.injEq] at h
    subst h
    exact (dec_scalar _ raw (a2b_bytes _ raw hr)).2

/-- the standard library of the running interpreter: the regenerated `str.isspace` / `str.lower` tables, and
    `a2b_base64` / `str.encode` as transcribed; the UTF-8 "replace" decoder `dec` is the remaining parameter -/
structure StdLib (L : Lib) (dec : NBytes → Text) : Prop where
  space : L.isSpace = genIsSpace
  lower : L.lower = genLower
  decode : L.decodeCred = decodeCredWith dec

private theorem std_token (L : Lib) (dec : NBytes → Text) (hL : StdLib L dec) (u p : Text)
    (hrange : ∀ c ∈ u ++ 58 :: p, c < 0x110000) (hdec : dec (utf8enc (u ++ 58 :: p)) = u ++ 58 :: p) :
    let tok := b2a (utf8enc (u ++ 58 :: p))
    (∀ c ∈ tok, L.isSpace c = false) ∧ tok ≠ [] ∧ tok.any isSurrogate = false ∧
      L.decodeCred tok = some (u ++ 58 :: p) := by
  intro tok
  have hb : ∀ b ∈ utf8enc (u ++ 58 :: p), b < 256 := utf8enc_lt _ hrange
  have hchars := b2a_chars (utf8enc (u ++ 58 :: p))
  have hne : utf8enc (u ++ 58 :: p) ≠ [] := by
    have : (58 : Nat) ∈ utf8enc (u ++ 58 :: p) := by
      simp only [utf8enc, List.mem_flatMap]
      exact ⟨58, by simp, by simp [utf8encChar]⟩
    intro h0; rw [h0] at this; simp at this
  refine ⟨?_, b2a_ne_nil _ hne, ?_, ?_⟩
  · intro c hc; rw [hL.space]; exact isB64_nospace c (hchars c hc)
  · rw [List.any_eq_false]
    intro c hc
    have := isB64_lt c (hchars c hc)
    simp [isSurrogate]; omega
  · rw [hL.decode]
    unfold decodeCredWith
    rw [utf8enc_ascii tok (fun c hc => isB64_lt c (hchars c hc))]
    show (a2b (b2a (utf8enc (u ++ 58 :: p)))).map dec = _
    rw [b64_roundtrip _ hb]
    simp [hdec]

/-- **`mkauth` output parses back** (the transcribed `b2a_base64`, `str.encode`, `str.split`, `a2b_base64`, first-colon
    split compose to the identity): for every user without ':' and every password — colons allowed — provided UTF-8
    decoding inverts encoding on the text `u:p`. -/
theorem mkauth_parses (L : Lib) (dec : NBytes → Text) (hL : StdLib L dec) (u p : Text)
    (hrange : ∀ c ∈ u ++ 58 :: p, c < 0x110000) (hdec : dec (utf8enc (u ++ 58 :: p)) = u ++ 58 :: p)
    (hu : ∀ c ∈ u, c ≠ 58) :
    parseBasic L (mkauth u p) = some (u, p) := by
  obtain ⟨hnows, hne, hsur, hdc⟩ := std_token L dec hL u p hrange hdec
  have hshape : mkauth u p = basicWord ++ 32 :: (b2a (utf8enc (u ++ 58 :: p)) ++ [10]) := by
    simp [mkauth, basicWord]
  have hbw : ∀ c ∈ basicWord, L.isSpace c = false := by
    rw [hL.space]; decide +kernel
  have hsp : ∀ c ∈ [32, 10], L.isSpace c = true := by rw [hL.space]; decide +kernel
  have hsplit : splitWs L.isSpace (mkauth u p) = [basicWord, b2a (utf8enc (u ++ 58 :: p))] := by
    rw [hshape, splitWs_word_sep _ hbw (by decide) (hsp 32 (by simp)), splitWs_word_sep _ hnows hne (hsp 10 (by simp))]
    rfl
  exact parseBasic_of_split L hsplit (by rw [hL.lower]; decide +kernel) hsur hdc hu

/-- a standard `Basic <base64(utf8(u:p))>` credential (scheme in any of the usual spellings) is well-formed -/
theorem standard_credential_wellformed (L : Lib) (dec : NBytes → Text) (hL : StdLib L dec) (scheme u p : Text)
    (hscheme : scheme = strText "Basic" ∨ scheme = strText "basic" ∨ scheme = strText "BASIC")
    (hrange : ∀ c ∈ u ++ 58 :: p, c < 0x110000) (hdec : dec (utf8enc (u ++ 58 :: p)) = u ++ 58 :: p)
    (hu : ∀ c ∈ u, c ≠ 58) :
    WellFormedCred L (scheme ++ 32 :: b2a (utf8enc (u ++ 58 :: p))) u p := by
  obtain ⟨hnows, hne, hsur, hdc⟩ := std_token L dec hL u p hrange hdec
  refine ⟨scheme, _, rfl, by rw [hL.space]; decide +kernel, ?_, ?_, hnows, hne, hsur, hdc, hu⟩
  · rw [hL.lower]; rcases hscheme with rfl | rfl | rfl <;> decide +kernel
  · rw [hL.space]; rcases hscheme with rfl | rfl | rfl <;> decide +kernel

/-- **C20 (standard credentials are accepted on every HTTP path).**  If the validator accepts `(u, p)` and the path's
    credential header is `Basic base64(utf8(u:p))`, a plain request is forwarded and a CONNECT establishes the tunnel and
    memoises the connection — `p` may contain ':'.  That the token is well-formed is proved
    (`standard_credential_wellformed`), not assumed.  Of the library `hdec` is assumed, about the UTF-8 decoder `dec`,
    which `StdLib` takes as a parameter; `…_closed` discharges it. -/
theorem standard_credentials_accepted_on_every_path (L : Lib) (dec : NBytes → Text) (hL : StdLib L dec)
    (v : Validator) (m : Mode) (σ : State) (cid : Nat) (u p : Text) (hacc : v.accepts L u p = true)
    (hrange : ∀ c ∈ u ++ 58 :: p, c < 0x110000) (hdec : dec (utf8enc (u ++ 58 :: p)) = u ++ 58 :: p)
    (hu : ∀ c ∈ u, c ≠ 58) (hs : List Hdr) (t big : Bool)
    (hval : hdrGet hs (authName m) = strText "Basic" ++ 32 :: b2a (utf8enc (u ++ 58 :: p)))
    (hp : σ.phase cid = .http t) :
    (∃ hs', (step L (some v) m σ cid (.req false false hs)).2 = .fwd hs') ∧
    (m.isHttpProxy = true → t = false →
      (step L (some v) m σ cid (.req true big hs)).2 = .tunnel ∧
      cid ∈ (step L (some v) m σ cid (.req true big hs)).1.authd) := by
  have hw : WellFormedCred L (hdrGet hs (authName m)) u p := by
    rw [hval]; exact standard_credential_wellformed L dec hL _ u p (Or.inl rfl) hrange hdec hu
  have := (validator_accepts_implies_path_accepts L v m σ cid u p hacc).1 hs t big hw hp
  exact ⟨this.1, fun hm ht => ⟨(this.2 hm ht).1, (this.2 hm ht).2.1⟩⟩

/-! ### nothing left as a parameter on the token path -/

/-- the interpreter's library on the token path, every part transcribed: `str.isspace` / `str.lower` tables
    (regenerated), `str.encode`, `binascii.a2b_base64`, `bytes.decode("utf8", "replace")` -/
structure StdLibFull (L : Lib) : Prop where
  space : L.isSpace = genIsSpace
  lower : L.lower = genLower
  decode : L.decodeCred = decodeCredStd

theorem StdLibFull.toStd {L : Lib} (h : StdLibFull L) : StdLib L utf8decR :=
  ⟨h.space, h.lower, by rw [h.decode]; rfl⟩

private theorem scalar_facts (t : Text) (h : ∀ c ∈ t, Scalar c) :
    (∀ c ∈ t, c < 0x110000) ∧ utf8decR (utf8enc t) = t :=
  ⟨fun c hc => (h c hc).1, utf8_roundtrip t h⟩

/-- **`mkauth` output parses back — no hypothesis about any library function**: for every user without ':' and every
    password (colons allowed) made of Unicode scalar values. -/
theorem mkauth_parses_closed (L : Lib) (hL : StdLibFull L) (u p : Text)
    (hsc : ∀ c ∈ u ++ 58 :: p, Scalar c) (hu : ∀ c ∈ u, c ≠ 58) :
    parseBasic L (mkauth u p) = some (u, p) :=
  mkauth_parses L utf8decR hL.toStd u p (scalar_facts _ hsc).1 (scalar_facts _ hsc).2 hu

/-- **C20 (every accepted pair is accepted on each HTTP path), closed form**: the validator accepts `(u, p)`, the
    path's credential header is `Basic base64(utf8(u:p))` — then a plain request is forwarded and a CONNECT establishes
    the tunnel and memoises the connection.  Hypotheses: `u` has no ':' and `u`, `p` are texts of Unicode scalar values;
    nothing about base64, UTF-8, whitespace or case folding is assumed (`StdLibFull` fixes every library field of the token
    path to its transcription or regenerated table). -/
theorem standard_credentials_accepted_on_every_path_closed (L : Lib) (hL : StdLibFull L)
    (v : Validator) (m : Mode) (σ : State) (cid : Nat) (u p : Text) (hacc : v.accepts L u p = true)
    (hsc : ∀ c ∈ u ++ 58 :: p, Scalar c) (hu : ∀ c ∈ u, c ≠ 58) (hs : List Hdr) (t big : Bool)
    (hval : hdrGet hs (authName m) = strText "Basic" ++ 32 :: b2a (utf8enc (u ++ 58 :: p)))
    (hp : σ.phase cid = .http t) :
    (∃ hs', (step L (some v) m σ cid (.req false false hs)).2 = .fwd hs') ∧
    (m.isHttpProxy = true → t = false →
      (step L (some v) m σ cid (.req true big hs)).2 = .tunnel ∧
      cid ∈ (step L (some v) m σ cid (.req true big hs)).1.authd) :=
  standard_credentials_accepted_on_every_path L utf8decR hL.toStd v m σ cid u p hacc
    (scalar_facts _ hsc).1 (scalar_facts _ hsc).2 hu hs t big hval hp

private theorem map_ofNat_toNat (l : NBytes) (h : ∀ b ∈ l, b < 256) :
    (l.map UInt8.ofNat).map (·.toNat) = l := by
  induction l with
  | nil => rfl
  | cons b bs ih =>
    have hb : b < 256 := h b (by simp)
    have : (UInt8.ofNat b).toNat = b := by
      simp [UInt8.toNat_ofNat']; omega
    simp [this, ih (fun x hx => h x (by simp [hx]))]

/-- **C20 (accepted pairs are accepted on SOCKS5), closed form**: the RFC 1929 message carries the UTF-8 bytes of a
    user and a password the validator accepts (any Unicode scalar values, colons and all) — the answer is `01 00` and
    the handshake continues; `bytes.decode("utf-8", "backslashreplace")` is the transcription, not a parameter. -/
theorem socks_standard_credentials_accepted (L : Lib)
    (hsd : L.sockDecode = fun b => utf8decBS (b.map (·.toNat)))
    (v : Validator) (m : Mode) (σ : State) (cid : Nat) (u p : Text) (hacc : v.accepts L u p = true)
    (hu : ∀ c ∈ u, Scalar c) (hpw : ∀ c ∈ p, Scalar c) (hp : σ.phase cid = .sAuth) :
    (step L (some v) m σ cid (.sAuth ((utf8enc u).map UInt8.ofNat) ((utf8enc p).map UInt8.ofNat))).2 = .sAuthOk ∧
    (step L (some v) m σ cid (.sAuth ((utf8enc u).map UInt8.ofNat) ((utf8enc p).map UInt8.ofNat))).1.phase cid = .sConnect := by
  have hdec : ∀ t : Text, (∀ c ∈ t, Scalar c) → L.sockDecode ((utf8enc t).map UInt8.ofNat) = t := by
    intro t ht
    rw [hsd]
    simp only
    rw [map_ofNat_toNat _ (utf8enc_lt t (fun c hc => (ht c hc).1))]
    exact utf8_roundtrip_backslashreplace t ht
  exact (validator_accepts_implies_path_accepts L v m σ cid u p hacc).2 _ _ (hdec u hu) (hdec p hpw) hp

-- backslashreplace writes one `\\xNN` per byte of a malformed range
example : utf8decBS [0xE2, 0x82, 0x41] = [92, 120, 101, 50, 92, 120, 56, 50, 0x41] := by decide +kernel

/-- the fully transcribed token decoder inverts "base64 of the UTF-8 bytes" on every text of scalar values -/
theorem decodeCredStd_b2a (t : Text) (ht : ∀ c ∈ t, Scalar c) : decodeCredStd (b2a (utf8enc t)) = some t := by
  have hb : ∀ b ∈ utf8enc t, b < 256 := utf8enc_lt t (fun c hc => (ht c hc).1)
  have hchars := b2a_chars (utf8enc t)
  unfold decodeCredStd
  rw [utf8enc_ascii _ (fun c hc => isB64_lt c (hchars c hc)), b64_roundtrip _ hb]
  simp [utf8_roundtrip t ht]

-- the decoder does replace: a truncated 3-byte sequence is ONE U+FFFD, a stray continuation byte another one
example : utf8decR [0xE2, 0x82, 0x41, 0x80] = [0xFFFD, 0x41, 0xFFFD] ∧ utf8decR (utf8enc [0x20AC, 0x1D11E]) = [0x20AC, 0x1D11E] := by
  decide +kernel

/-- **the authentication-required answer is a constant of the path**: status 407 + `Proxy-Authenticate` for explicit
    proxies, 401 + `WWW-Authenticate` otherwise, challenge `Basic realm="mitmproxy"`, and a page that contains nothing
    but the status text (no request data can appear in it: it is a function of `isProxy` alone). -/
theorem auth_response_shape :
    authRequiredResponse true = ⟨407, "Proxy-Authenticate", "Basic realm=\"mitmproxy\"",
      "<html><head><title>407 Proxy Authentication Required</title></head><body><h1>407 Proxy Authentication Required</h1></body></html>"⟩ ∧
    authRequiredResponse false = ⟨401, "WWW-Authenticate", "Basic realm=\"mitmproxy\"",
      "<html><head><title>401 Unauthorized</title></head><body><h1>401 Unauthorized</h1></body></html>"⟩ := by
  constructor <;> decide +kernel

/-- the status the connection machine answers with is the status of that page -/
theorem deny_code_is_response_status (m : Mode) : authCode m = (authRequiredResponse m.isHttpProxy).status := by
  cases m <;> rfl

end B64

/-- `s.split(":", 1)` unpacked into two parts is exactly "cut at the first colon" -/
theorem splitColon1_spec (s u p : Text) :
    splitColon1 s = some (u, p) ↔ (s = u ++ 58 :: p ∧ ∀ c ∈ u, c ≠ 58) :=
  ⟨splitColon1_some, fun ⟨hs, hu⟩ => hs ▸ splitColon1_first u p hu⟩

/-- **the decision, for every header list and every mode** (regular, upstream, reverse, transparent, socks5 relay):
    a request of a connection that is not memoised is forwarded — without the credential fields — exactly when the
    joined value of the path's credential header parses and the validator accepts the pair; otherwise 407 / 401. -/
theorem decision_for_every_header_list (L : Lib) (v : Validator) (m : Mode) (σ : State) (cid : Nat)
    (hs : List Hdr) (t : Bool) (hp : σ.phase cid = .http t) (hna : cid ∉ σ.authd) :
    step L (some v) m σ cid (.req false false hs) =
      (σ, if credsOk L v m hs then .fwd (hdrDel hs (authName m))
          else .deny (if m.isHttpProxy then 407 else 401)) := by
  rw [step_eq, hp, Bool.eq_false_iff.mpr (mt List.contains_iff_mem.mp hna)]
  by_cases hc : credsOk L v m hs = true <;> simp [cstep, hc, State.upd_keep hp, authCode]

/-- CONNECT at an explicit proxy: tunnel + memo exactly when the credentials are accepted, else 407 and no change -/
theorem connect_decision (L : Lib) (v : Validator) (m : Mode) (σ : State) (cid : Nat) (hs : List Hdr) (big : Bool)
    (hp : σ.phase cid = .http false) (hm : m.isHttpProxy = true) :
    step L (some v) m σ cid (.req true big hs) =
      if credsOk L v m hs
      then (({ σ with authd := cid :: σ.authd } : State).setPhase cid (.http true), .tunnel)
      else (σ, .deny 407) := by
  rw [step_eq, hp]
  by_cases hc : credsOk L v m hs = true
  · simp [cstep, hc, hm, State.upd]
  · simp [cstep, hc, hm, State.upd_keep hp, authCode]

/-- what `credsOk` means, spelled out: the joined header value is `<scheme> <token>` (split at Unicode whitespace),
    the scheme lower-cases to "basic", the token is encodable, decodes, contains a colon, and the validator accepts
    (user = text before the FIRST colon, password = everything after it) -/
theorem credsOk_iff (L : Lib) (v : Validator) (m : Mode) (hs : List Hdr) :
    credsOk L v m hs = true ↔
      ∃ scheme tok txt u p, splitWs L.isSpace (hdrGet hs (authName m)) = [scheme, tok] ∧
        scheme.map L.lower = basicWord ∧ tok.any isSurrogate = false ∧ L.decodeCred tok = some txt ∧
        txt = u ++ 58 :: p ∧ (∀ c ∈ u, c ≠ 58) ∧ v.accepts L u p = true := by
  constructor
  · intro h
    unfold credsOk parseBasic parseBasicWith at h
    cases hsw : splitWs L.isSpace (hdrGet hs (authName m)) with
    | nil => simp [hsw] at h
    | cons scheme l1 =>
      cases l1 with
      | nil => simp [hsw] at h
      | cons tok l2 =>
        cases l2 with
        | cons x l3 => simp [hsw] at h
        | nil =>
          simp only [hsw] at h
          by_cases h1 : scheme.map L.lower = basicWord
          · by_cases h2 : tok.any isSurrogate = true
            · simp [h1, h2] at h
            · cases hd : L.decodeCred tok with
              | none => simp [h1, h2, hd] at h
              | some txt =>
                cases hcol : splitColon1 txt with
                | none => simp [h1, h2, hd, hcol] at h
                | some up =>
                  obtain ⟨u, p⟩ := up
                  simp [h1, h2, hd, hcol] at h
                  obtain ⟨rfl, hnc⟩ := splitColon1_some hcol
                  exact ⟨scheme, tok, _, u, p, rfl, h1, by simpa using h2, hd, rfl, hnc, h⟩
          · simp [h1] at h
  · rintro ⟨scheme, tok, txt, u, p, hsplit, h1, h2, hd, rfl, hnc, hacc⟩
    rw [credsOk, parseBasic_of_split L hsplit h1 h2 hd hnc]
    exact hacc

/-- a memoised connection ("authenticated once"): every later plain request passes verbatim, whatever it carries -/
theorem authenticated_connection_passes (L : Lib) (v : Validator) (m : Mode) (σ : State) (cid : Nat)
    (hs : List Hdr) (t : Bool) (hp : σ.phase cid = .http t) (ha : cid ∈ σ.authd) :
    step L (some v) m σ cid (.req false false hs) = (σ, .fwd hs) := by
  simp [step_eq, hp, cstep, ha, State.upd_keep hp]

/-- without `proxyauth` nothing is checked and nothing is removed -/
theorem no_validator_forwards_everything (L : Lib) (m : Mode) (σ : State) (cid : Nat) (hs : List Hdr) (t : Bool)
    (hp : σ.phase cid = .http t) :
    step L none m σ cid (.req false false hs) = (σ, .fwd hs) := by
  unfold step; simp [hp, requestheadersHook]

/-- the memo only grows, over every history -/
theorem authenticated_memo_persists (L : Lib) (v : Validator) (modes : Nat → Mode) (cid : Nat) :
    ∀ (es : List (Nat × Ev)) (σ : State), cid ∈ σ.authd → cid ∈ (finalState L (some v) modes σ es).authd := by
  refine fun es => finalState_induct L _ modes (cid ∈ ·.authd) es fun σ x _ h => ?_
  rw [step_eq]
  exact State.mem_upd_authd.mpr (.inl h)

/-- **no cross-connection effect**: a history without events of `cid` changes neither `cid`'s phase nor whether it
    is memoised — authentication of one client never authenticates another -/
theorem other_connections_unaffected (L : Lib) (v : Validator) (modes : Nat → Mode) (cid : Nat) :
    ∀ (es : List (Nat × Ev)) (σ : State), (∀ x ∈ es, x.1 ≠ cid) →
      (finalState L (some v) modes σ es).phase cid = σ.phase cid ∧
      (cid ∈ (finalState L (some v) modes σ es).authd ↔ cid ∈ σ.authd) := by
  intro es σ h
  refine finalState_induct L _ modes (fun τ => τ.phase cid = σ.phase cid ∧ (cid ∈ τ.authd ↔ cid ∈ σ.authd)) es
    (fun τ x hx hI => ?_) σ ⟨rfl, Iff.rfl⟩
  rw [step_eq, State.upd_phase_ne _ _ (h x hx).symm, State.mem_upd_authd]
  simpa [(h x hx).symm] using hI

/-- tunnel / relay phases are reached only by memoised connections (reachable-state invariant) -/
private theorem tunnel_implies_memo (L : Lib) (v : Validator) (modes : Nat → Mode) :
    ∀ (es : List (Nat × Ev)) (σ : State),
      (∀ c, (σ.phase c = .http true ∨ σ.phase c = .sConnect) → c ∈ σ.authd) →
      ∀ c, ((finalState L (some v) modes σ es).phase c = .http true ∨
            (finalState L (some v) modes σ es).phase c = .sConnect) →
        c ∈ (finalState L (some v) modes σ es).authd := by
  refine fun es => finalState_induct L _ modes
    (fun σ => ∀ c, (σ.phase c = .http true ∨ σ.phase c = .sConnect) → c ∈ σ.authd) es fun σ x _ h c hc => ?_
  rw [step_eq] at hc ⊢
  rw [State.mem_upd_authd]
  by_cases hcc : c = x.1
  · subst hcc
    rw [State.upd_phase_self] at hc
    exact ((cstep_safe L v _ _ _ x.2).2.1 hc).imp (h _) fun hd => ⟨rfl, hd⟩
  · rw [State.upd_phase_ne _ _ hcc] at hc
    exact .inl (h c hc)

/-- **"authenticated once" over whole histories**: in every reachable state, a request arriving inside a CONNECT
    tunnel or SOCKS5 relay is forwarded verbatim and leaves the state unchanged — the connection was authenticated
    when the tunnel was requested, and is not asked again. -/
theorem tunnel_requests_forwarded_verbatim (L : Lib) (v : Validator) (modes : Nat → Mode)
    (pre : List (Nat × Ev)) (cid : Nat) (hs : List Hdr)
    (hp : (finalState L (some v) modes (State.init modes) pre).phase cid = .http true) :
    step L (some v) (modes cid) (finalState L (some v) modes (State.init modes) pre) cid (.req false false hs) =
      (finalState L (some v) modes (State.init modes) pre, .fwd hs) := by
  have ha := tunnel_implies_memo L v modes pre (State.init modes)
    (fun c hc => ((inv_init modes fun _ => False).2 c hc).elim) cid (.inl hp)
  exact authenticated_connection_passes L v (modes cid) _ cid hs true hp ha

/-- the hooks accept a pair exactly when the validator *returns* True -/
theorem accepts_iff_check_ok (L : Lib) (v : Validator) (u p : Text) :
    v.accepts L u p = true ↔ v.check L u p = .ok true := by
  unfold Validator.accepts
  cases h : v.check L u p with
  | error e => simp
  | ok b => cases b <;> simp

/-- **fail closed under a raising validator** (bcrypt.checkpw on a password longer than 72 bytes, an LDAP error, any
    validator object whose `__call__` raises): the pair is not accepted — a plain request and a CONNECT get 407 / 401
    and nothing changes; the trace theorems above (`unauthenticated_never_forwarded`, …) therefore cover such
    validators, since `presentsAccepted` is stated with `accepts`. -/
theorem raising_validator_fails_closed (L : Lib) (v : Validator) (m : Mode) (σ : State) (cid : Nat)
    (hs : List Hdr) (t : Bool) (u p : Text)
    (hparse : parseBasic L (hdrGet hs (authName m)) = some (u, p)) (hraise : v.check L u p = .error ())
    (hp : σ.phase cid = .http t) (hna : cid ∉ σ.authd) :
    step L (some v) m σ cid (.req false false hs) = (σ, .deny (if m.isHttpProxy then 407 else 401)) ∧
    (m.isHttpProxy = true → t = false → ∀ big, step L (some v) m σ cid (.req true big hs) = (σ, .deny 407)) := by
  have hc : credsOk L v m hs = false := by
    unfold credsOk; rw [hparse]; simp [Validator.accepts, hraise]
  constructor
  · rw [decision_for_every_header_list L v m σ cid hs t hp hna]; simp [hc]
  · intro hm ht big
    subst ht
    rw [connect_decision L v m σ cid hs big hp hm]; simp [hc]

/-- … and on SOCKS5: `01 01` + close -/
theorem raising_validator_fails_closed_socks (L : Lib) (v : Validator) (m : Mode) (σ : State) (cid : Nat)
    (ub pb : Bytes) (hraise : v.check L (L.sockDecode ub) (L.sockDecode pb) = .error ())
    (hp : σ.phase cid = .sAuth) :
    step L (some v) m σ cid (.sAuth ub pb) = (σ.setPhase cid .closed, .sAuthFail) := by
  simp [step_eq, hp, cstep, Validator.accepts, hraise, State.upd, State.setPhase]

-- a validator that raises on (u, pa:ss) and accepts everything else: the raising pair is refused, another one passes
example : (step L0 (some (.raising [([117], [112, 97, 58, 115, 115])] .any)) .regular (State.init modes0) 0
    (.req false false [⟨pa, cred0⟩])).2 = .deny 407 := by decide +kernel
example : (Validator.raising [([117], [112])] .any).check L0 [117] [112] = .error () ∧
    (Validator.raising [([117], [112])] .any).check L0 [117] [113] = .ok true := ⟨rfl, rfl⟩

-- non-vacuity: the tunnel phase is reachable (hist0 above), and the decision takes both branches
example : (finalState L0 (some single0) modes0 (State.init modes0) hist0).phase 0 = .http true := by decide +kernel
example : credsOk L0 single0 .regular [⟨pa, cred0⟩] = true ∧ credsOk L0 single0 .reverse [⟨pa, cred0⟩] = false := by
  decide +kernel
-- the transcribed base64: lenient decoding as CPython does it ("QQ=x=" ↦ b"A\x0c", "Q" is an error), mkauth("u","pa:ss")
example : B64.a2b [81, 81, 61, 120, 61] = some [65, 12] ∧ B64.a2b [81] = none ∧ B64.a2b [33, 81, 33, 81, 61, 33, 61] = some [65] := by
  decide +kernel
example : B64.mkauth [117] [112, 97, 58, 115, 115] = B64.strText "basic dTpwYTpzcw==\n" := by decide +kernel

/-! ## The htpasswd file parser (`HtpasswdFile.__init__`) -/

section Htpasswd
open MitmVerif.C20.Ht

/-- hash formats the parser lets through -/
def KnownHash (h : Text) : Prop :=
  startsWith shaPrefix h = true ∨ bcryptPrefixes.any (fun p => startsWith p h) = true

private theorem parseLine_entry (raw u h : Text) (hl : parseLine raw = .entry u h) :
    strip raw = u ++ 58 :: h ∧ u ≠ [] ∧ (∀ c ∈ u, c ≠ 58) ∧ KnownHash h := by
  unfold parseLine at hl
  simp only at hl
  split at hl
  · cases hl
  · cases hsc : splitColon1 (strip raw) with
    | none => simp [hsc] at hl
    | some up =>
      obtain ⟨u', h'⟩ := up
      simp only [hsc] at hl
      split at hl
      · cases hl
      · rename_i hne
        split at hl
        · rename_i hk
          simp only [LineRes.entry.injEq] at hl
          obtain ⟨rfl, rfl⟩ := hl
          obtain ⟨heq, hnc⟩ := splitColon1_some hsc
          refine ⟨heq, ?_, hnc, ?_⟩
          · intro h0; subst h0; simp at hne
          · simpa [KnownHash, Bool.or_eq_true] using hk
        · cases hl

/-- **every entry the parser produces is well-formed**: it comes from a stripped line `user:hash` whose user is
    non-empty and free of ':' (split at the FIRST colon) and whose hash has one of the supported prefixes — for every
    file content. -/
theorem htparse_entries_wellformed :
    ∀ (ls : List Text) (es : List (Text × Text)), parseLines ls = some es →
      ∀ x ∈ es, x.1 ≠ [] ∧ (∀ c ∈ x.1, c ≠ 58) ∧ KnownHash x.2 ∧ ∃ raw ∈ ls, strip raw = x.1 ++ 58 :: x.2 := by
  intro ls
  induction ls with
  | nil => intro es h x hx; simp [parseLines] at h; subst h; simp at hx
  | cons l ls ih =>
    intro es h x hx
    simp only [parseLines] at h
    cases hl : parseLine l with
    | bad => simp [hl] at h
    | skip =>
      simp only [hl] at h
      obtain ⟨a, b, c, raw, hr, hs⟩ := ih es h x hx
      exact ⟨a, b, c, raw, by simp [hr], hs⟩
    | entry u hh =>
      simp only [hl, Option.map_eq_some_iff] at h
      obtain ⟨es', hes', rfl⟩ := h
      simp only [List.mem_cons] at hx
      rcases hx with rfl | hx
      · obtain ⟨h1, h2, h3, h4⟩ := parseLine_entry l u hh hl
        exact ⟨h2, h3, h4, l, by simp, h1⟩
      · obtain ⟨a, b, c, raw, hr, hs⟩ := ih es' hes' x hx
        exact ⟨a, b, c, raw, by simp [hr], hs⟩

/-- a malformed line anywhere makes the whole file unusable (ValueError → OptionsError at configuration time): the
    validator is never built from a partially read file -/
theorem htparse_bad_line_rejects (pre post : List Text) (l : Text) (hl : parseLine l = .bad)
    (hpre : ∀ x ∈ pre, parseLine x ≠ .bad) : parseLines (pre ++ l :: post) = none := by
  induction pre with
  | nil => simp [parseLines, hl]
  | cons a as ih =>
    have ha := hpre a (by simp)
    have ih' := ih (fun x hx => hpre x (by simp [hx]))
    simp only [List.cons_append, parseLines]
    cases hpa : parseLine a with
    | bad => exact absurd hpa ha
    | skip => simpa using ih'
    | entry u h => simp [ih']

-- "user:{SHA}x", a comment, an indented bcrypt line with CRLF, a later line for the same user wins; a plain-text hash is refused
example : (Ht.parse (B64.strText "user:{SHA}x\n# c\n  v:$2b$y  \r\nuser:{SHA}z\n")).map Ht.users =
    some [(B64.strText "user", B64.strText "{SHA}z"), (B64.strText "v", B64.strText "$2b$y")] := by decide +kernel
example : Ht.parse (B64.strText "user:plain\n") = none ∧ Ht.parse (B64.strText ":{SHA}x") = none ∧
    Ht.parse (B64.strText "nocolon") = none := by decide +kernel

end Htpasswd

/-! ### `ProxyAuth.configure` -/

/-- **which `proxyauth` values select the single-user validator**: exactly one ':' in the whole value — user and
    password are the two sides, neither contains a ':' (a password with ':' cannot be configured this way; such pairs
    are served by the htpasswd validator, for which `standard_credentials_accepted_on_every_path_closed` applies). -/
theorem configure_single_spec (a u p : Text) (h : configureSpec (some a) = .single u p) :
    a = u ++ 58 :: p ∧ (∀ c ∈ u, c ≠ 58) ∧ (∀ c ∈ p, c ≠ 58) := by
  unfold configureSpec at h
  simp only at h
  split at h
  · cases h
  · split at h
    · cases h
    · split at h
      · cases h
      · split at h
        · cases h
        · split at h
          · cases hs : splitColonAll a with
            | none => simp [hs] at h
            | some up =>
              simp only [hs, Conf.single.injEq] at h
              obtain ⟨rfl, rfl⟩ := h
              exact splitColonAll_some hs
          · cases h

example : configureSpec (some (B64.strText "user:pa:ss")) = .invalid ∧
    configureSpec (some (B64.strText "user:pass")) = .single (B64.strText "user") (B64.strText "pass") ∧
    configureSpec (some (B64.strText "any")) = .any ∧ configureSpec (some []) = .off ∧
    configureSpec (some (B64.strText "@/etc/ht")) = .htpasswd (B64.strText "/etc/ht") ∧
    configureSpec (some (B64.strText "nocolon")) = .invalid := by decide +kernel

/-- position of an addon in `mitmproxy.addons.default_addons()` (regenerated from the source on every run) -/
def addonIdx (name : String) : Option Nat :=
  let l := MitmVerif.Gen.C20.addonOrder
  if l.contains name then some (l.idxOf name) else none

/-- both addons are in the chain and the first runs before the second -/
def addonBefore (a b : String) : Bool :=
  match addonIdx a, addonIdx b with
  | some i, some j => decide (i < j)
  | _, _ => false

/-- **the order the models assume is the order in the source**: hooks run in list order, and the models compose the
    addons as ProxyAuth → (ScriptLoader, MapRemote, ModifyHeaders: user rewrites) → UpstreamAuth. ProxyAuth must see the
    CLIENT's credential header before UpstreamAuth writes mitmproxy's own into the same field; UpstreamAuth's `request`
    hook must run after every rewrite it is meant to react to. -/
theorem addon_order_as_assumed :
    addonBefore "ProxyAuth" "UpstreamAuth" = true ∧ addonBefore "ScriptLoader" "UpstreamAuth" = true ∧
    addonBefore "MapRemote" "UpstreamAuth" = true ∧ addonBefore "ModifyHeaders" "UpstreamAuth" = true ∧
    addonBefore "ProxyAuth" "NextLayer" = true := by
  decide +kernel

-- `auth_required_answer`: its hypothesis `hnone` holds after a NON-empty history (connection 1 of `hist0`, reverse mode,
-- presented a Proxy-Authorization field — the wrong field for its path — and then nothing)
example : ∀ e', (1, e') ∈ hist0.take 4 ++ [(1, Ev.req false false [])] →
    presentsAccepted L0 single0 (modes0 1) e' = false := by
  intro e' h
  simp [hist0] at h
  rcases h with h | h <;> subst h <;> decide +kernel

-- `credential_header_removed`, branch `hs' = hs`: after a non-empty history in which connection 0 authenticated on its
-- CONNECT, a later request is forwarded verbatim (the theorem's first conjunct; its second does not apply: `pre`
-- contains an accepted presentation)
example : (step L0 (some single0) (modes0 0) (finalState L0 (some single0) modes0 (State.init modes0) (hist0.take 3)) 0
    (.req false false [⟨pa, [50]⟩])).2 = .fwd [⟨pa, [50]⟩] := by decide +kernel
-- … and branch `hs' = hdrDel …` after a non-empty history without accepted credentials of that connection
example : (step L0 (some single0) (modes0 1) (finalState L0 (some single0) modes0 (State.init modes0) (hist0.take 2)) 1
    (.req false false [⟨strBytes "X-A", [49]⟩, ⟨strBytes "Authorization", cred0⟩])).2 = .fwd [⟨strBytes "X-A", [49]⟩] := by
  decide +kernel

-- the closed-form theorems (`mkauth_parses_closed`, `standard_credentials_accepted_on_every_path_closed`,
-- `socks_standard_credentials_accepted`) quantify over libraries with `StdLibFull L` / a fixed `sockDecode`: such a
-- library exists, and on it the conclusions are what the kernel computes
private def Lfull : Lib where
  isSpace := genIsSpace
  lower := genLower
  decodeCred := B64.decodeCredStd
  sockDecode := fun b => B64.utf8decBS (b.map (·.toNat))
  hashOk := fun h p => h == p

example : StdLibFull Lfull := ⟨rfl, rfl, rfl⟩
example : Lfull.sockDecode = fun b => B64.utf8decBS (b.map (·.toNat)) := rfl
example : parseBasic Lfull (B64.mkauth [117] [112, 97, 58, 115, 115]) = some ([117], [112, 97, 58, 115, 115]) := by
  decide +kernel
-- a non-ASCII password (U+20AC) with a colon, presented as `Basic base64(utf8(u:p))` on the reverse path
example : (step Lfull (some (.single [117] [0x20AC, 58, 120])) .reverse (State.init modes0) 1
    (.req false false [⟨strBytes "authorization",
      B64.strText "Basic" ++ 32 :: B64.b2a (B64.utf8enc ([117] ++ 58 :: [0x20AC, 58, 120]))⟩])).2 = .fwd [] := by
  decide +kernel
example : (step Lfull (some (.single [117] [0x20AC, 58, 120])) .socks5 ((State.init (fun _ => .socks5)).setPhase 0 .sAuth) 0
    (.sAuth ((B64.utf8enc [117]).map UInt8.ofNat) ((B64.utf8enc [0x20AC, 58, 120]).map UInt8.ofNat))).2 = .sAuthOk := by
  decide +kernel

-- a CONNECT carrying the credential between two other fields: it is gone from the flow's request, the others stay
example : (httpConnectHook L0 (some single0) [] 0 .upstream
    [⟨strBytes "X-A", [49]⟩, ⟨pa, cred0⟩, ⟨strBytes "Host", [50]⟩]).2 =
    .pass [⟨strBytes "X-A", [49]⟩, ⟨strBytes "Host", [50]⟩] := by decide +kernel

end MitmVerif.Props.C20
