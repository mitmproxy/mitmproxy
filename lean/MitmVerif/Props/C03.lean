/-
  C03 — every HTTP flow has an ordered hook lifecycle and exactly one outcome.

  The theorems quantify over EVERY input history of one `HttpStream` (`run limit thresh evs`: any body-size
  options, any sequence of HttpEvents, hook completions with any addon action, connection results — including
  histories in which exceptions escape and leave the event queue behind).  The only hypothesis is that the
  history stays inside the event grammar of `Http1Server`/`Http1Client`/`HttpLayer` (`bad = false`, see
  `grammarOk`), which the correspondence run checks on every real trace.  `grammar_holds` (proved in
  Lemmas/C03Gram.lean) discharges it: every history the emitter model can deliver (`Admissible`, Model/C03_Emit.lean)
  stays inside the grammar, so the `_http1` / `_http2` / `_http3` forms need no hypothesis on `bad`; that real streams
  receive admissible histories only is again checked by the correspondence run, not proved.

  The proofs read everything off `good_run` (Lemmas/C03Run.lean): the core satisfies `InvB`, whose first clause says
  that the monitor `Mon` never rejected, and the monitor state is the scan of the trace (Lemmas/C03Mon.lean turns its
  flags into membership in the trace).

  `trace` is the list of commands the stream emitted, oldest first; hooks appear in it as `.hook h`.
-/
import MitmVerif.Lemmas.C03Run
import MitmVerif.Lemmas.C03Gram
namespace MitmVerif.Props.C03
open MitmVerif.C03

private theorem inv_core (l t : Nat) (evs : List Ev) (hb : (run l t evs).core.bad = false) :
    InvB (run l t evs).core = true ∧ (run l t evs).core.m = scan (run l t evs).trace := by
  obtain ⟨hI, hL⟩ := good_run l t evs
  refine ⟨hI, ?_⟩
  rcases hL with h | h
  · rw [hb] at h; cases h
  · exact h

private theorem inv_mon (c : Core) (h : InvB c = true) (hb : c.bad = false) :
    (c.m.v1 = false ∧ c.m.v2 = false ∧ c.m.v3 = false ∧ c.m.v4 = false ∧ c.m.v5 = false) ∧
    ¬(c.m.fResp = true ∧ c.m.fErr = true) := by
  simp [InvB, hb, imp] at h
  grind

private theorem inv_closure (c : Core) (h : InvB c = true) (hb : c.bad = false) (hp : c.paused = none)
    (hs : c.procReqErr = true ∨ c.dropped = true) (hH : c.m.fRH = true) (hW : c.websocket = false) :
    (c.m.fResp = true ∨ c.m.fErr = true) ∧ c.live = false := by
  simp [InvB, hb, imp, hp, hH, hW, isRespHookK, isErrHookK, isRespSideK] at h
  grind

/-- at no point of the trace has the monitor rejected -/
private theorem mid_v (l t : Nat) (evs : List Ev) (hb : (run l t evs).core.bad = false) (pre post : List Out) (x : Out)
    (hsplit : (run l t evs).trace = pre ++ x :: post) :
    (mon (scan pre) x).v1 = false ∧ (mon (scan pre) x).v2 = false ∧ (mon (scan pre) x).v3 = false ∧
    (mon (scan pre) x).v4 = false ∧ (mon (scan pre) x).v5 = false := by
  obtain ⟨hI, hm⟩ := inv_core l t evs hb
  -- the monitor state when the scan reaches `x` is below the final one
  have hle := scan_mid_le pre post x
  rw [← hsplit, ← hm] at hle
  have hv := (inv_mon _ hI hb).1
  simp only [Mon.le] at hle
  grind

theorem requestheaders_first (l t : Nat) (evs : List Ev) (hb : (run l t evs).core.bad = false)
    (pre post : List Out) (h : Hook) (hsplit : (run l t evs).trace = pre ++ .hook h :: post) :
    (h = .request ∨ h = .responseheaders ∨ h = .response ∨ h = .error → Out.hook .requestheaders ∈ pre) ∧
    (h = .requestheaders → Out.hook .requestheaders ∉ pre) := by
  have hmid := (mid_v l t evs hb pre post _ hsplit).1
  constructor
  · intro hh
    rw [← scan_fRH]
    rcases hh with rfl | rfl | rfl | rfl <;> simp [mon] at hmid <;> exact hmid.2
  · intro hh; subst hh
    rw [← scan_fRH]
    simp [mon] at hmid
    simp [hmid]

theorem request_at_most_once (l t : Nat) (evs : List Ev) (hb : (run l t evs).core.bad = false)
    (pre post : List Out) (hsplit : (run l t evs).trace = pre ++ .hook .request :: post) :
    Out.hook .request ∉ pre := by
  have hmid := (mid_v l t evs hb pre post _ hsplit).2.1
  rw [← scan_fReq]
  simp [mon] at hmid
  simp [hmid]

theorem responseheaders_before_response (l t : Nat) (evs : List Ev) (hb : (run l t evs).core.bad = false)
    (pre post : List Out) (h : Hook) (hsplit : (run l t evs).trace = pre ++ .hook h :: post) :
    (h = .responseheaders → Out.hook .responseheaders ∉ pre ∧ Out.hook .response ∉ pre) ∧
    (h = .response → Out.hook .responseheaders ∈ pre ∧ Out.hook .response ∉ pre) := by
  have hmid := (mid_v l t evs hb pre post _ hsplit).2.2.1
  rw [← scan_fRespH, ← scan_fResp]
  constructor
  · intro hh; subst hh
    simp [mon] at hmid
    simp [hmid]
  · intro hh; subst hh
    simp [mon] at hmid
    simp [hmid]

theorem never_response_and_error (l t : Nat) (evs : List Ev) (hb : (run l t evs).core.bad = false) :
    ¬(Out.hook .response ∈ (run l t evs).trace ∧ Out.hook .error ∈ (run l t evs).trace) := by
  obtain ⟨hI, hm⟩ := inv_core l t evs hb
  have := (inv_mon _ hI hb).2
  rw [hm, scan_fResp, scan_fErr] at this
  exact this

/-- "The request body is not streamed" is read as: `start_request_stream` never sent the request headers upstream (no
    ghost command `streamStart` in the trace) — whatever `request.stream` says: an addon that sets a response in
    requestheaders makes the stream consume the body although it asked for streaming. -/
theorem unstreamed_request_before_responseheaders (l t : Nat) (evs : List Ev) (hb : (run l t evs).core.bad = false)
    (hns : Out.streamStart ∉ (run l t evs).trace)
    (pre post : List Out) (hsplit : (run l t evs).trace = pre ++ .hook .responseheaders :: post) :
    Out.hook .request ∈ pre := by
  have hmid := (mid_v l t evs hb pre post _ hsplit).2.2.2.2
  have hns' : (scan pre).streamed = false := eq_false_of_ne_true fun hx =>
    hns (by rw [hsplit]; simp [(scan_streamed pre).1 hx])
  rw [← scan_fReq]
  simp [mon, hns'] at hmid
  exact hmid.2

/-- "Once the client connection and all server connections are closed" is `settled`: the client side of the stream is
    closed (a RequestProtocolError has been handled, or the stream was dropped) and no command is pending.  `hC`/`hpt`
    spell out the property's exclusions (CONNECT tunnels; protocol upgrades: the stream became a pipe) and the proof
    does not use them: the clauses of `InvB` that give the conclusion read neither (a CONNECT flow never fires
    requestheaders, so `hrh` excludes it already).  `hW` is needed, for `live = false` only: `flow_done` clears `live`
    only `if not self.flow.websocket`, so a flow marked as websocket stays live when its stream is dropped — also when an
    addon replaced the 101 in the `response` hook and no upgrade took place. -/
theorem closed_implies_outcome (l t : Nat) (evs : List Ev) (hb : (run l t evs).core.bad = false)
    (hset : (run l t evs).settled = true)
    (hrh : Out.hook .requestheaders ∈ (run l t evs).trace)
    (hC : (run l t evs).core.isConnect = false) (hpt : (run l t evs).core.pt = false)
    (hW : (run l t evs).core.websocket = false) :
    (Out.hook .response ∈ (run l t evs).trace ↔ Out.hook .error ∉ (run l t evs).trace) ∧
    (run l t evs).core.live = false := by
  obtain ⟨hI, hm⟩ := inv_core l t evs hb
  have hH : (run l t evs).core.m.fRH = true := by rw [hm, scan_fRH]; exact hrh
  simp only [St.settled, Bool.and_eq_true, Bool.or_eq_true, Option.isNone_iff_eq_none] at hset
  obtain ⟨hone, hlive⟩ := inv_closure _ hI hb hset.1 hset.2 hH hW
  have hboth := (inv_mon _ hI hb).2
  rw [hm, scan_fResp, scan_fErr] at hone hboth
  exact ⟨⟨fun hr he => hboth ⟨hr, he⟩, hone.resolve_right⟩, hlive⟩

/-- Every history the emitter model delivers to one stream (`Admissible`: request headers once, then data* /
    trailers / end-of-message, protocol errors only after the headers and nothing but protocol errors after one;
    response events only once the request went upstream; completions only for the command the stream is blocked on)
    stays inside the event grammar, whatever is queued, replayed or left behind by escaping exceptions. -/
theorem grammar_holds (l t : Nat) (evs : List Ev) (h : Admissible l t evs) : (run l t evs).core.bad = false :=
  grammar_holds_run l t evs h

theorem requestheaders_first_http1 (l t : Nat) (evs : List Ev) (ha : Admissible l t evs)
    (pre post : List Out) (h : Hook) (hsplit : (run l t evs).trace = pre ++ .hook h :: post) :
    (h = .request ∨ h = .responseheaders ∨ h = .response ∨ h = .error → Out.hook .requestheaders ∈ pre) ∧
    (h = .requestheaders → Out.hook .requestheaders ∉ pre) :=
  requestheaders_first l t evs (grammar_holds l t evs ha) pre post h hsplit

theorem request_at_most_once_http1 (l t : Nat) (evs : List Ev) (ha : Admissible l t evs)
    (pre post : List Out) (hsplit : (run l t evs).trace = pre ++ .hook .request :: post) : Out.hook .request ∉ pre :=
  request_at_most_once l t evs (grammar_holds l t evs ha) pre post hsplit

theorem responseheaders_before_response_http1 (l t : Nat) (evs : List Ev) (ha : Admissible l t evs)
    (pre post : List Out) (h : Hook) (hsplit : (run l t evs).trace = pre ++ .hook h :: post) :
    (h = .responseheaders → Out.hook .responseheaders ∉ pre ∧ Out.hook .response ∉ pre) ∧
    (h = .response → Out.hook .responseheaders ∈ pre ∧ Out.hook .response ∉ pre) :=
  responseheaders_before_response l t evs (grammar_holds l t evs ha) pre post h hsplit

theorem never_response_and_error_http1 (l t : Nat) (evs : List Ev) (ha : Admissible l t evs) :
    ¬(Out.hook .response ∈ (run l t evs).trace ∧ Out.hook .error ∈ (run l t evs).trace) :=
  never_response_and_error l t evs (grammar_holds l t evs ha)

theorem unstreamed_request_before_responseheaders_http1 (l t : Nat) (evs : List Ev) (ha : Admissible l t evs)
    (hns : Out.streamStart ∉ (run l t evs).trace)
    (pre post : List Out) (hsplit : (run l t evs).trace = pre ++ .hook .responseheaders :: post) :
    Out.hook .request ∈ pre :=
  unstreamed_request_before_responseheaders l t evs (grammar_holds l t evs ha) hns pre post hsplit

theorem closed_implies_outcome_http1 (l t : Nat) (evs : List Ev) (ha : Admissible l t evs)
    (hset : (run l t evs).settled = true)
    (hrh : Out.hook .requestheaders ∈ (run l t evs).trace)
    (hC : (run l t evs).core.isConnect = false) (hpt : (run l t evs).core.pt = false)
    (hW : (run l t evs).core.websocket = false) :
    (Out.hook .response ∈ (run l t evs).trace ↔ Out.hook .error ∉ (run l t evs).trace) ∧
    (run l t evs).core.live = false :=
  closed_implies_outcome l t evs (grammar_holds l t evs ha) hset hrh hC hpt hW

-- HTTP/2 and HTTP/3: one emitter model serves the three protocols (`RequestTrailers` / `ResponseTrailers` are part of
-- it: trailers only while the body is being read; the stream sends them on after the request / response hook).  The
-- `_http2` / `_http3` theorems are the `_http1` statements verbatim under the protocol's name; what is specific to a
-- protocol is the tie: every real HTTP/2 and HTTP/3 stream (Http3Server / Http3Client driven offline over QUIC stream
-- events) must have received an admissible history (`adm=1` in the correspondence run).

theorem requestheaders_first_http2 (l t : Nat) (evs : List Ev) (ha : Admissible l t evs)
    (pre post : List Out) (h : Hook) (hsplit : (run l t evs).trace = pre ++ .hook h :: post) :
    (h = .request ∨ h = .responseheaders ∨ h = .response ∨ h = .error → Out.hook .requestheaders ∈ pre) ∧
    (h = .requestheaders → Out.hook .requestheaders ∉ pre) :=
  requestheaders_first_http1 l t evs ha pre post h hsplit

theorem request_at_most_once_http2 (l t : Nat) (evs : List Ev) (ha : Admissible l t evs)
    (pre post : List Out) (hsplit : (run l t evs).trace = pre ++ .hook .request :: post) : Out.hook .request ∉ pre :=
  request_at_most_once_http1 l t evs ha pre post hsplit

theorem responseheaders_before_response_http2 (l t : Nat) (evs : List Ev) (ha : Admissible l t evs)
    (pre post : List Out) (h : Hook) (hsplit : (run l t evs).trace = pre ++ .hook h :: post) :
    (h = .responseheaders → Out.hook .responseheaders ∉ pre ∧ Out.hook .response ∉ pre) ∧
    (h = .response → Out.hook .responseheaders ∈ pre ∧ Out.hook .response ∉ pre) :=
  responseheaders_before_response_http1 l t evs ha pre post h hsplit

theorem never_response_and_error_http2 (l t : Nat) (evs : List Ev) (ha : Admissible l t evs) :
    ¬(Out.hook .response ∈ (run l t evs).trace ∧ Out.hook .error ∈ (run l t evs).trace) :=
  never_response_and_error_http1 l t evs ha

theorem unstreamed_request_before_responseheaders_http2 (l t : Nat) (evs : List Ev) (ha : Admissible l t evs)
    (hns : Out.streamStart ∉ (run l t evs).trace)
    (pre post : List Out) (hsplit : (run l t evs).trace = pre ++ .hook .responseheaders :: post) :
    Out.hook .request ∈ pre :=
  unstreamed_request_before_responseheaders_http1 l t evs ha hns pre post hsplit

theorem closed_implies_outcome_http2 (l t : Nat) (evs : List Ev) (ha : Admissible l t evs)
    (hset : (run l t evs).settled = true)
    (hrh : Out.hook .requestheaders ∈ (run l t evs).trace)
    (hC : (run l t evs).core.isConnect = false) (hpt : (run l t evs).core.pt = false)
    (hW : (run l t evs).core.websocket = false) :
    (Out.hook .response ∈ (run l t evs).trace ↔ Out.hook .error ∉ (run l t evs).trace) ∧
    (run l t evs).core.live = false :=
  closed_implies_outcome_http1 l t evs ha hset hrh hC hpt hW

theorem requestheaders_first_http3 (l t : Nat) (evs : List Ev) (ha : Admissible l t evs)
    (pre post : List Out) (h : Hook) (hsplit : (run l t evs).trace = pre ++ .hook h :: post) :
    (h = .request ∨ h = .responseheaders ∨ h = .response ∨ h = .error → Out.hook .requestheaders ∈ pre) ∧
    (h = .requestheaders → Out.hook .requestheaders ∉ pre) :=
  requestheaders_first_http1 l t evs ha pre post h hsplit

theorem request_at_most_once_http3 (l t : Nat) (evs : List Ev) (ha : Admissible l t evs)
    (pre post : List Out) (hsplit : (run l t evs).trace = pre ++ .hook .request :: post) : Out.hook .request ∉ pre :=
  request_at_most_once_http1 l t evs ha pre post hsplit

theorem responseheaders_before_response_http3 (l t : Nat) (evs : List Ev) (ha : Admissible l t evs)
    (pre post : List Out) (h : Hook) (hsplit : (run l t evs).trace = pre ++ .hook h :: post) :
    (h = .responseheaders → Out.hook .responseheaders ∉ pre ∧ Out.hook .response ∉ pre) ∧
    (h = .response → Out.hook .responseheaders ∈ pre ∧ Out.hook .response ∉ pre) :=
  responseheaders_before_response_http1 l t evs ha pre post h hsplit

theorem never_response_and_error_http3 (l t : Nat) (evs : List Ev) (ha : Admissible l t evs) :
    ¬(Out.hook .response ∈ (run l t evs).trace ∧ Out.hook .error ∈ (run l t evs).trace) :=
  never_response_and_error_http1 l t evs ha

theorem unstreamed_request_before_responseheaders_http3 (l t : Nat) (evs : List Ev) (ha : Admissible l t evs)
    (hns : Out.streamStart ∉ (run l t evs).trace)
    (pre post : List Out) (hsplit : (run l t evs).trace = pre ++ .hook .responseheaders :: post) :
    Out.hook .request ∈ pre :=
  unstreamed_request_before_responseheaders_http1 l t evs ha hns pre post hsplit

theorem closed_implies_outcome_http3 (l t : Nat) (evs : List Ev) (ha : Admissible l t evs)
    (hset : (run l t evs).settled = true)
    (hrh : Out.hook .requestheaders ∈ (run l t evs).trace)
    (hC : (run l t evs).core.isConnect = false) (hpt : (run l t evs).core.pt = false)
    (hW : (run l t evs).core.websocket = false) :
    (Out.hook .response ∈ (run l t evs).trace ↔ Out.hook .error ∉ (run l t evs).trace) ∧
    (run l t evs).core.live = false :=
  closed_implies_outcome_http1 l t evs ha hset hrh hC hpt hW

/-- an HTTP/2 exchange with trailers in both directions: admissible, ordered, and the trailers are forwarded after
    the hooks -/
private def exH2 : List Ev :=
  [.reqHeaders false 0 .norm false, .reqData 3, .hookDone .requestheaders .pass, .reqTrailers, .reqEOM,
   .hookDone .request .pass, .connDone true, .respHeaders false 0 .norm, .respData 2, .hookDone .responseheaders .pass,
   .respTrailers, .respEOM, .hookDone .response .pass]

example : admissible (init 0 0) .none exH2 = true ∧ (run 0 0 exH2).core.bad = false ∧
    (run 0 0 exH2).trace = [.hook .requestheaders, .hook .request, .getConn, .send false .rh, .send false .rd,
      .send false .rt, .send false .re, .hook .responseheaders, .hook .response, .send true .sh, .send true .sd,
      .send true .st, .drop, .send true .se] := by decide

/-- trailers outside the body phase are not something the emitter delivers -/
example : admissible (init 0 0) .none [.reqHeaders true 0 .norm false, .reqEOM, .reqTrailers] = false := by decide

/-- GET, unstreamed, 4-byte response, then the exchange is complete (stream dropped) -/
private def exOK : List Ev :=
  [.reqHeaders true 0 .norm false, .reqEOM, .hookDone .requestheaders .pass, .hookDone .request .pass, .connDone true,
   .respHeaders false 4 .norm, .hookDone .responseheaders .pass, .respData 4, .respEOM, .hookDone .response .pass]

example : (run 0 0 exOK).core.bad = false ∧ (run 0 0 exOK).settled = true ∧ (run 0 0 exOK).core.isConnect = false ∧
    (run 0 0 exOK).core.pt = false ∧ (run 0 0 exOK).core.websocket = false ∧ Out.streamStart ∉ (run 0 0 exOK).trace ∧
    (run 0 0 exOK).trace.filterMap (fun o => match o with | .hook h => some h | _ => none)
      = [.requestheaders, .request, .responseheaders, .response] := by decide

/-- the flow is killed in the requestheaders hook, the client then disconnects: outcome `error` -/
private def exKill : List Ev :=
  [.reqHeaders true 0 .norm false, .reqEOM, .hookDone .requestheaders .kill, .hookDone .error .pass, .reqErr]

example : (run 0 0 exKill).core.bad = false ∧ (run 0 0 exKill).settled = true ∧ (run 0 0 exKill).core.live = false ∧
    (run 0 0 exKill).trace.filterMap (fun o => match o with | .hook h => some h | _ => none)
      = [.requestheaders, .error] := by decide

/-- a streamed upload (stream_large_bodies = 10, Content-Length 30) with an early response: `request` fires last -/
private def exStream : List Ev :=
  [.reqHeaders false 30 .norm false, .hookDone .requestheaders .pass, .connDone true, .reqData 30,
   .respHeaders true 0 .norm, .respEOM, .hookDone .responseheaders .pass, .hookDone .response .pass,
   .reqEOM, .hookDone .request .pass]

example : (run 0 10 exStream).core.bad = false ∧ Out.streamStart ∈ (run 0 10 exStream).trace ∧
    (run 0 10 exStream).trace.filterMap (fun o => match o with | .hook h => some h | _ => none)
      = [.requestheaders, .responseheaders, .response, .request] := by decide

/-- the grammar monitor does reject something: a response event for a stream that never went upstream -/
example : (run 0 0 [.reqHeaders true 0 .norm false, .hookDone .requestheaders .pass, .respEOM]).core.bad = true := by decide

/-- the three example histories are ones the emitter delivers; the rejected one is not -/
example : Admissible 0 0 exOK ∧ Admissible 0 0 exKill ∧ Admissible 0 10 exStream := by
  simp only [Admissible]; decide
example : ¬Admissible 0 0 [.reqHeaders true 0 .norm false, .hookDone .requestheaders .pass, .respEOM] := by
  simp only [Admissible]; decide

/-- server-side fault after responseheaders: every hypothesis of `closed_implies_outcome_http1` holds (admissible,
    settled, requestheaders fired, not CONNECT / pipe / websocket) and the outcome is `error`, not `response` -/
private def exSrvErr : List Ev :=
  [.reqHeaders true 0 .norm false, .reqEOM, .hookDone .requestheaders .pass, .hookDone .request .pass, .connDone true,
   .respHeaders false 4 .norm, .hookDone .responseheaders .pass, .respErr, .hookDone .error .pass]

example : admissible (init 0 0) .none exSrvErr = true ∧ (run 0 0 exSrvErr).settled = true ∧
    (run 0 0 exSrvErr).core.isConnect = false ∧ (run 0 0 exSrvErr).core.pt = false ∧
    (run 0 0 exSrvErr).core.websocket = false ∧ (run 0 0 exSrvErr).core.live = false ∧
    (run 0 0 exSrvErr).trace.filterMap (fun o => match o with | .hook h => some h | _ => none)
      = [.requestheaders, .request, .responseheaders, .error] := by decide

/-- the server connection cannot be established: outcome `error` before any response hook -/
private def exConnFail : List Ev :=
  [.reqHeaders true 0 .norm false, .reqEOM, .hookDone .requestheaders .pass, .hookDone .request .pass, .connDone false,
   .hookDone .error .pass]

example : admissible (init 0 0) .none exConnFail = true ∧ (run 0 0 exConnFail).settled = true ∧
    (run 0 0 exConnFail).core.isConnect = false ∧ (run 0 0 exConnFail).core.pt = false ∧
    (run 0 0 exConnFail).core.websocket = false ∧ (run 0 0 exConnFail).core.live = false ∧
    (run 0 0 exConnFail).trace.filterMap (fun o => match o with | .hook h => some h | _ => none)
      = [.requestheaders, .request, .error] := by decide

/-- body_size_limit = 5, Content-Length 30: the flow errors straight after requestheaders; the client then goes away -/
private def exTooLarge : List Ev :=
  [.reqHeaders false 30 .norm false, .hookDone .requestheaders .pass, .hookDone .error .pass, .reqErr]

example : admissible (init 5 0) .none exTooLarge = true ∧ (run 5 0 exTooLarge).settled = true ∧
    (run 5 0 exTooLarge).core.live = false ∧
    (run 5 0 exTooLarge).trace.filterMap (fun o => match o with | .hook h => some h | _ => none)
      = [.requestheaders, .error] := by decide

/-- a websocket upgrade is an admissible history that fired requestheaders and `response`, became a pipe with a live
    flow, and is not `settled` by the client going away afterwards: `closed_implies_outcome` does not speak of it -/
private def exWs : List Ev :=
  [.reqHeaders true 0 .norm true, .reqEOM, .hookDone .requestheaders .pass, .hookDone .request .pass, .connDone true,
   .respHeaders true 0 .ws101, .hookDone .responseheaders .pass, .respEOM, .hookDone .response .pass, .reqErr]

example : admissible (init 0 0) .none exWs = true ∧ (run 0 0 exWs).core.pt = true ∧ (run 0 0 exWs).core.websocket = true ∧
    (run 0 0 exWs).core.live = true ∧ (run 0 0 exWs).settled = false := by decide

/-- CONNECT never fires requestheaders (so `hrh` already excludes tunnels; `isConnect = false` is belt and braces) -/
example : admissible (init 0 0) .none [.reqHeaders true 0 .connect false, .reqEOM, .hookDone .connect .pass, .openDone false,
      .hookDone .connectError .pass] = true ∧
    Out.hook .requestheaders ∉ (run 0 0 [.reqHeaders true 0 .connect false, .reqEOM, .hookDone .connect .pass, .openDone false,
      .hookDone .connectError .pass]).trace := by decide

end MitmVerif.Props.C03
