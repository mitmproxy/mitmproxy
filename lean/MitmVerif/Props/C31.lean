/-
  C31 — property theorems.  The history theorems quantify over ALL call histories `ops` (any interleaving of
  encoding.decode/encode on arbitrary bodies and of Message ops / header mutations on two messages) run from
  any state `s0` with an empty cache — or, in the `_inv` forms, from any state whose cache satisfies `Inv` (the
  entry is a true statement about the uncached decoder); the codec libraries are the law-carrying parameter
  `C : Codecs`.  The history forms are the `_inv` forms at `run_inv_of_empty` (`_inv` in a name means "from any state
  satisfying `Inv`", not "is an invariant"); the lemmas are in `Lemmas/C31Codec` (codec calls, `Inv`), `C31Message`
  (message operations), `C31State` (states and histories).  `toy` (Model/C31) satisfies every law of `Codecs` and carries
  the counterexamples and the `example`s; `ofLib L P` further down is `Codecs` over mitmproxy's own transcribed decoders.
-/
import MitmVerif.Lemmas.C31State
namespace MitmVerif.Props.C31
open MitmVerif MitmVerif.C31 MitmVerif.Gen.C31

private theorem lower_identityB : asciiLower identityB = identityB := by decide
private theorem kind_identityB : kindOf identityB = .identity := by decide

private theorem stepWith_cache (s : State) (op : Op) (fresh : Res) :
    (stepWith s op fresh).1.cache = s.cache ∨
    (∃ n e x d, need s op = .dec n e x ∧ fresh = .ok d ∧ cachedDec.contains n = true ∧
      (stepWith s op fresh).1.cache = some ⟨x, n, e, d⟩) ∨
    (∃ n e d x, need s op = .enc n e d ∧ fresh = .ok x ∧ cachedDec.contains n = true ∧
      (stepWith s op fresh).1.cache = some ⟨x, n, e, d⟩) :=
  stepWith_cacheStep s op fresh

theorem inv_of_empty (C : Codecs) (c : Cache) (h : c = none) : Inv C c :=
  h ▸ Inv.empty C

theorem inv_preserved (C : Codecs) (s : State) (ops : List Op) (hi : Inv C s.cache) : Inv C (run C s ops).1.cache :=
  run_inv C ops s hi

/-- `decode_transparent` from any state satisfying the invariant -/
theorem decode_transparent_inv (C : Codecs) (s : State) (hi : Inv C s.cache) (x coding errors : Bytes) :
    (step C s (.dec x coding errors)).2 = uncachedDec C coding errors x :=
  decodeStep_res hi x coding errors _ (freshFor_freshOf C s (.dec x coding errors))

/-- **C31 (the cache is transparent for decoding).** In every state reachable by any call history from an
    empty cache, `encoding.decode(x, coding, errors)` returns exactly what the uncached codec returns —
    bytes, `str`, ValueError or TypeError alike, for every coding name in any case. -/
theorem decode_transparent (C : Codecs) (s0 : State) (h0 : s0.cache = none) (ops : List Op)
    (x coding errors : Bytes) :
    (step C (run C s0 ops).1 (.dec x coding errors)).2 = uncachedDec C coding errors x :=
  decode_transparent_inv C _ (run_inv_of_empty C s0 h0 ops) x coding errors

/-- `encode_semantically_transparent` from any state satisfying the invariant -/
theorem encode_semantically_transparent_inv (C : Codecs) (s : State) (hi : Inv C s.cache) (d coding errors : Bytes) :
    (kindOf (asciiLower coding) = .cached → ∃ x, (step C s (.enc d coding errors)).2 = .ok x) ∧
    (kindOf (asciiLower coding) = .identity ∨ kindOf (asciiLower coding) = .cached →
      ∀ x, (step C s (.enc d coding errors)).2 = .ok x → uncachedDec C coding errors x = .ok d) := by
  have hres : (step C s (.enc d coding errors)).2 =
      (encodeStep s.cache d coding errors (freshOf C s (.enc d coding errors))).1 := rfl
  have hcached : kindOf (asciiLower coding) = .cached →
      ∃ x, (step C s (.enc d coding errors)).2 = .ok x ∧ C.dec (asciiLower coding) errors x = .ok d := by
    intro hk
    obtain ⟨x, c', he, hdec, _⟩ := encodeStep_cachedKind hi d coding errors _ hk (freshFor_freshOf C s (.enc d coding errors))
    exact ⟨x, by rw [hres, he], hdec⟩
  refine ⟨fun hk => ?_, ?_⟩
  · obtain ⟨x, hx, _⟩ := hcached hk
    exact ⟨x, hx⟩
  · rintro (hk | hk) x hx
    · rw [hres, encodeStep_identity hi d coding errors _ hk] at hx
      cases hx
      exact uncachedDec_identity C errors d hk
    · obtain ⟨x', hx', hdec⟩ := hcached hk
      rw [hx'] at hx
      cases hx
      rw [uncachedDec_of C errors x (by rw [hk]; decide)]
      exact hdec

/-- **C31 (the cache is semantically transparent for encoding).** In every reachable state, a compressed
    coding always encodes, and whatever `encoding.encode(d, coding, errors)` returns for an identity or
    compressed coding decodes (uncached) back to `d`. -/
theorem encode_semantically_transparent (C : Codecs) (s0 : State) (h0 : s0.cache = none) (ops : List Op)
    (d coding errors : Bytes) :
    (kindOf (asciiLower coding) = .cached →
      ∃ x, (step C (run C s0 ops).1 (.enc d coding errors)).2 = .ok x) ∧
    (kindOf (asciiLower coding) = .identity ∨ kindOf (asciiLower coding) = .cached →
      ∀ x, (step C (run C s0 ops).1 (.enc d coding errors)).2 = .ok x → uncachedDec C coding errors x = .ok d) :=
  encode_semantically_transparent_inv C _ (run_inv_of_empty C s0 h0 ops) d coding errors

/-- `get_content_transparent` from any state satisfying the invariant -/
theorem get_content_transparent_inv (C : Codecs) (s : State) (hi : Inv C s.cache) (i st : Bool) :
    (step C s (.getContent i st)).2 = contentOf C (s.msg i) st :=
  getContent_res hi (s.msg i) st _ (freshFor_freshOf C s (.getContent i st))

/-- **C31 (the cache is transparent for `get_content`).** In every state reachable by any history, `get_content`
    (strict or not, any header, any body incl. missing) returns exactly `contentOf` — what a process with no cache
    computes from the message alone: bytes, `None`, ValueError or TypeError alike. -/
theorem get_content_transparent (C : Codecs) (s0 : State) (h0 : s0.cache = none) (ops : List Op) (i st : Bool) :
    (step C (run C s0 ops).1 (.getContent i st)).2 = contentOf C ((run C s0 ops).1.msg i) st :=
  get_content_transparent_inv C _ (run_inv_of_empty C s0 h0 ops) i st

private theorem fixLen_te (m : Msg) : (fixLen m).te = m.te := by unfold fixLen; split <;> rfl

/-- `set_get_content` from any state satisfying the invariant -/
theorem set_get_content_inv (C : Codecs) (s : State) (hi : Inv C s.cache) (i : Bool) (v : Bytes)
    (hok : OkName (effName (s.msg i).ce)) :
    (step C s (.setContent i (some v))).2 = .done ∧
    (step C (step C s (.setContent i (some v))).1 (.getContent i true)).2 = .ok v := by
  obtain ⟨h1, h2⟩ := read_after_set hi (s.msg i) v _ hok (freshFor_freshOf C s (.setContent i (some v)))
  refine ⟨h1, ?_⟩
  rw [get_content_transparent_inv C _ (step_inv C s _ hi) i true, step_set, setMsg_msg]
  exact h2 true

/-- **C31 (assign, then read back).** In every state reachable by any history, for a message whose
    Content-Encoding (any letter case; absent or empty = identity) is an identity name, a compressed coding
    or an unknown name: `set_content(v)` succeeds and the next `get_content()` returns exactly `v`. -/
theorem set_get_content (C : Codecs) (s0 : State) (h0 : s0.cache = none) (ops : List Op) (i : Bool) (v : Bytes)
    (hok : OkName (effName (((run C s0 ops).1.msg i).ce))) :
    (step C (run C s0 ops).1 (.setContent i (some v))).2 = .done ∧
    (step C (step C (run C s0 ops).1 (.setContent i (some v))).1 (.getContent i true)).2 = .ok v :=
  set_get_content_inv C _ (run_inv_of_empty C s0 h0 ops) i v hok

/-- an unknown coding is removed from the message by `set_content` (the body is stored as is) -/
theorem unknown_coding_removed (C : Codecs) (s0 : State) (h0 : s0.cache = none) (ops : List Op) (i : Bool) (v : Bytes)
    (hk : kindOf (effName (((run C s0 ops).1.msg i).ce)) = .unknown) :
    ((step C (run C s0 ops).1 (.setContent i (some v))).1.msg i).ce = none ∧
    ((step C (run C s0 ops).1 (.setContent i (some v))).1.msg i).raw = some v := by
  rw [step_set, setMsg_msg, setContent_unknown (run_inv_of_empty C s0 h0 ops) _ v _ hk
    (freshFor_freshOf C _ (.setContent i (some v)))]
  exact ⟨fixLen_ce _, fixLen_raw _⟩

/-- **C31 (Content-Length).** After any history, whenever `set_content(v)` completes: without a
    Transfer-Encoding header the Content-Length header equals the length of the stored raw body; with one,
    the Content-Length header is left untouched.  Holds for every coding, whatever the codec returns, and — the
    message state carries them — WHATEVER the message's trailers (absent / empty / non-empty) and HTTP version
    are: the rule looks at the Transfer-Encoding header only, and the assignment leaves trailers and version alone. -/
theorem content_length_eq_raw_len_without_TE (C : Codecs) (s0 : State) (ops : List Op) (i : Bool) (v : Bytes)
    (h : (step C (run C s0 ops).1 (.setContent i (some v))).2 = .done) :
    (((run C s0 ops).1.msg i).te = false →
      ∃ raw, ((step C (run C s0 ops).1 (.setContent i (some v))).1.msg i).raw = some raw ∧
        ((step C (run C s0 ops).1 (.setContent i (some v))).1.msg i).cl = some raw.length) ∧
    (((run C s0 ops).1.msg i).te = true →
      ((step C (run C s0 ops).1 (.setContent i (some v))).1.msg i).cl = ((run C s0 ops).1.msg i).cl) ∧
    ((step C (run C s0 ops).1 (.setContent i (some v))).1.msg i).te = ((run C s0 ops).1.msg i).te ∧
    ((step C (run C s0 ops).1 (.setContent i (some v))).1.msg i).tr = ((run C s0 ops).1.msg i).tr ∧
    ((step C (run C s0 ops).1 (.setContent i (some v))).1.msg i).ver = ((run C s0 ops).1.msg i).ver :=
  assign_len C _ i (.setContent i (some v)) ⟨rfl, h⟩

/-! ### the raw body after an assignment (sentence 2 of the property) -/

/-- `raw_decodes_to_content_lenient` from any state satisfying the invariant -/
theorem raw_decodes_to_content_lenient_inv (C : Codecs) (s : State) (hi : Inv C s.cache) (i : Bool) (v : Bytes)
    (hk : kindOf (effName (s.msg i).ce) = .cached) :
    ∃ raw, ((step C s (.setContent i (some v))).1.msg i).raw = some raw ∧
      C.dec (effName (s.msg i).ce) strictB raw = .ok v := by
  obtain ⟨x, h1, h2, _⟩ := raw_after_set hi i v hk
  exact ⟨x, h1, h2⟩

/-- **C31 (raw body, lenient form — holds for ALL histories).** After `set_content(v)` under a compressed
    coding the stored raw body decodes to `v` under mitmproxy's own uncached decoder. -/
theorem raw_decodes_to_content_lenient (C : Codecs) (s0 : State) (h0 : s0.cache = none) (ops : List Op)
    (i : Bool) (v : Bytes) (hk : kindOf (effName (((run C s0 ops).1.msg i).ce)) = .cached) :
    ∃ raw, ((step C (run C s0 ops).1 (.setContent i (some v))).1.msg i).raw = some raw ∧
      C.dec (effName (((run C s0 ops).1.msg i).ce)) strictB raw = .ok v :=
  raw_decodes_to_content_lenient_inv C _ (run_inv_of_empty C s0 h0 ops) i v hk

/-- **C31 (raw body, strict reference decoder) — partial: exactly the F-C31a class excluded at the moment of
    the assignment.**  For ALL histories: unless the assignment is a cache hit on an entry that the strict
    reference decoder does not map to `v` (`lenientHit`), the stored raw body is accepted by the strict
    reference decoder and decodes to `v`. -/
theorem raw_decodes_to_content_partial_hit (C : Codecs) (s0 : State) (h0 : s0.cache = none) (ops : List Op)
    (i : Bool) (v : Bytes) (hk : kindOf (effName (((run C s0 ops).1.msg i).ce)) = .cached)
    (hg : lenientHit C (run C s0 ops).1.cache v (effName (((run C s0 ops).1.msg i).ce)) = false) :
    ∃ raw, ((step C (run C s0 ops).1 (.setContent i (some v))).1.msg i).raw = some raw ∧
      C.ref (effName (((run C s0 ops).1.msg i).ce)) raw = some v := by
  obtain ⟨x, h1, _, h3⟩ := raw_after_set (run_inv_of_empty C s0 h0 ops) i v hk
  refine ⟨x, h1, ?_⟩
  rcases h3 with hhit | ⟨_, henc⟩
  · simpa [lenientHit, hhit] using hg
  · exact C.ref_enc _ _ _ _ hk henc

/-- **C31 (raw body, strict reference decoder) — partial: histories without a lenient-only decode.**  For every
    history in which each successful decode of a compressed coding was of a body the strict reference decoder
    accepts with the same result (`strictHist`, decidable), the raw body stored by `set_content(v)` is accepted
    by the strict reference decoder and decodes to `v`. -/
theorem raw_decodes_to_content_partial (C : Codecs) (s0 : State) (h0 : s0.cache = none) (ops : List Op)
    (i : Bool) (v : Bytes) (hk : kindOf (effName (((run C s0 ops).1.msg i).ce)) = .cached)
    (hg : strictHist C s0 ops = true) :
    ∃ raw, ((step C (run C s0 ops).1 (.setContent i (some v))).1.msg i).raw = some raw ∧
      C.ref (effName (((run C s0 ops).1.msg i).ce)) raw = some v :=
  raw_decodes_to_content_partial_hit C s0 h0 ops i v hk
    ((run_invRef C ops s0 (by intro e he; rw [h0] at he; cases he) hg).lenientHit v _)

/-- the F-C31a history on the toy codecs: message 0 has an empty raw body under "br"; read it, assign `b""` -/
private def cexState : State := ⟨none, ⟨some [], some [0x62, 0x72], false, none, .absent, .h11⟩, emptyMsg⟩

/-- **C31 (raw body) — the full statement is FALSE (F-C31a).**  With the toy codecs (which satisfy every law):
    after reading the empty body, assigning the same (empty) content is a cache hit and leaves the empty raw
    body, which the strict reference decoder rejects. -/
theorem raw_decodes_to_content_counterexample : ¬ RawDecodesToContent toy := by
  intro h
  have := h cexState [.getContent false true] false [] rfl (by decide +kernel)
  revert this
  decide +kernel

/-- `decode_encode_preserves` from any state satisfying the invariant -/
theorem decode_encode_preserves_inv (C : Codecs) (s : State) (hi : Inv C s.cache) (i st : Bool) (v cd : Bytes)
    (hhdr : OkName (effName (s.msg i).ce)) (hcd : OkName (effName (some cd)))
    (hget : (step C s (.getContent i true)).2 = .ok v) :
    (step C s (.mdecode i st)).2 = .done ∧
    (step C (step C (step C s (.mdecode i st)).1 (.mencode i cd)).1 (.getContent i true)).2 = .ok v := by
  obtain ⟨hd, hraw⟩ := mdecode_spec hi i st v hhdr hget
  have hia := step_inv C s (.mdecode i st) hi
  obtain ⟨_, _, hg⟩ := mencode_spec hia i cd v hraw hcd
  exact ⟨hd, (get_content_transparent_inv C _ (step_inv C _ _ hia) i true).trans (hg true)⟩

/-- **C31 (decode, then re-encode).** In every state reachable by any history: if a message (header coding an
    identity name, a compressed coding or unknown, any case) reads as content `v`, then after `Message.decode()`
    followed by `Message.encode(cd)` — `cd` an identity name, a compressed coding or an unknown name — it still
    reads as `v`.  `decode` succeeds; `encode` reports ValueError exactly when `cd` is unknown (the body is
    then kept unencoded). -/
theorem decode_encode_preserves (C : Codecs) (s0 : State) (h0 : s0.cache = none) (ops : List Op)
    (i st : Bool) (v cd : Bytes)
    (hhdr : OkName (effName (((run C s0 ops).1.msg i).ce))) (hcd : OkName (effName (some cd)))
    (hget : (step C (run C s0 ops).1 (.getContent i true)).2 = .ok v) :
    (step C (run C s0 ops).1 (.mdecode i st)).2 = .done ∧
    (kindOf (effName (some cd)) = .unknown →
      (step C (step C (run C s0 ops).1 (.mdecode i st)).1 (.mencode i cd)).2 = .verr) ∧
    (kindOf (effName (some cd)) ≠ .unknown →
      (step C (step C (run C s0 ops).1 (.mdecode i st)).1 (.mencode i cd)).2 = .done) ∧
    (step C (step C (step C (run C s0 ops).1 (.mdecode i st)).1 (.mencode i cd)).1 (.getContent i true)).2 = .ok v := by
  have hi := run_inv_of_empty C s0 h0 ops
  obtain ⟨hd, hraw⟩ := mdecode_spec hi i st v hhdr hget
  have hia := step_inv C _ (.mdecode i st) hi
  obtain ⟨hu, hdn, hg⟩ := mencode_spec hia i cd v hraw hcd
  exact ⟨hd, hu, hdn, (get_content_transparent_inv C _ (step_inv C _ _ hia) i true).trans (hg true)⟩

/-! ### non-vacuity: the hypotheses are satisfiable, the model is not constant (kernel-evaluated on `toy`) -/

private def brN : Bytes := [0x62, 0x72]                -- "br"
private def brU : Bytes := [0x42, 0x52]                -- "BR"
private def gzipN : Bytes := [0x67, 0x7a, 0x69, 0x70]  -- "gzip"
private def fooN : Bytes := [0x66, 0x6f, 0x6f]         -- "foo"
private def utf8N : Bytes := [0x75, 0x74, 0x66, 0x38]  -- "utf8"
/-- message 0: peer body `1 :: [7, 8]` (toy-compressed `[7, 8]`) under Content-Encoding "BR" -/
private def okState : State := ⟨none, ⟨some [1, 7, 8], some brU, false, none, .absent, .h11⟩, emptyMsg⟩

-- kinds really occur, and `OkName` covers absent / empty / mixed-case / unknown headers
example : kindOf gzipN = .cached ∧ kindOf brN = .cached ∧ kindOf identityB = .identity ∧ kindOf fooN = .unknown ∧
    kindOf utf8N = .pytext := by decide +kernel
example : OkName (effName none) ∧ OkName (effName (some [])) ∧ OkName (effName (some brU)) ∧ OkName (effName (some fooN)) := by
  refine ⟨Or.inl ?_, Or.inl ?_, Or.inr (Or.inl ?_), Or.inr (Or.inr ?_)⟩ <;> decide +kernel
-- the cache is really used: reading fills it, and the following assignment is a hit that keeps the peer's bytes
example : (run toy okState [.getContent false true]).1.cache = some ⟨[1, 7, 8], brN, strictB, [7, 8]⟩ := by decide +kernel
example : (run toy okState [.getContent false true]).2 = [.ok [7, 8]] := by decide +kernel
example : (run toy ⟨none, ⟨some [2, 7], some brN, false, none, .absent, .h11⟩, emptyMsg⟩
    [.getContent false true, .setContent false (some [7]), .getContent false true]).1.m0.raw = some [2, 7] := by decide +kernel
-- … while an interleaved call on another body evicts the entry and the canonical stream is stored
example : (run toy ⟨none, ⟨some [2, 7], some brN, false, none, .absent, .h11⟩, emptyMsg⟩
    [.getContent false true, .enc [9] gzipN strictB, .setContent false (some [7]), .getContent false true]).1.m0.raw
    = some [1, 7] := by decide +kernel
-- the decoder does reject something; text codecs let TypeError through and leave the message alone
example : (step toy okState (.dec [3, 3] brN strictB)).2 = .verr := by decide +kernel
example : (step toy ⟨none, ⟨some [5], some utf8N, false, some 1, .absent, .h11⟩, emptyMsg⟩ (.setContent false (some [6]))) =
    (⟨none, ⟨some [5], some utf8N, false, some 1, .absent, .h11⟩, emptyMsg⟩, .terr) := by decide +kernel
-- hypotheses of `decode_encode_preserves` hold on a non-trivial state, and the pipeline does what it says
example : (step toy okState (.getContent false true)).2 = .ok [7, 8] := by decide +kernel
example : (run toy okState [.mdecode false true, .mencode false gzipN, .getContent false true]).2 =
    [.done, .done, .ok [7, 8]] := by decide +kernel
example : (run toy okState [.mdecode false true, .mencode false fooN, .getContent false true]) =
    (⟨some ⟨[1, 7, 8], brN, strictB, [7, 8]⟩, ⟨some [7, 8], none, false, some 2, .absent, .h11⟩, emptyMsg⟩, [.done, .verr, .ok [7, 8]]) := by decide +kernel
-- the guards are satisfiable and discriminate: strict history vs. the F-C31a history
example : strictHist toy okState [.getContent false true, .setContent false (some [7, 8])] = true := by decide +kernel
example : strictHist toy cexState [.getContent false true] = false := by decide +kernel
example : lenientHit toy (run toy cexState [.getContent false true]).1.cache [] brN = true := by decide +kernel
example : lenientHit toy (run toy okState [.getContent false true]).1.cache [7, 8] brN = false := by decide +kernel
-- Content-Length: written without Transfer-Encoding, untouched with it
example : ((step toy okState (.setContent false (some [4, 4, 4]))).1.m0.cl,
    (step toy ⟨none, ⟨none, some brN, true, some 99, .absent, .h11⟩, emptyMsg⟩ (.setContent false (some [4]))).1.m0.cl) =
    (some 4, some 99) := by decide +kernel

private theorem run_snoc (C : Codecs) (ops : List Op) (op : Op) :
    ∀ s, (run C s (ops ++ [op])).1 = (step C (run C s ops).1 op).1 :=
  fun s => run_append C ops [op] s

/-- **C31 (isolation).** An op that is not a setter / decode / encode / mutator of message `j` — i.e. any op on the
    other message, any `get_content`, any module-level `encoding.decode/encode` — leaves message `j` (raw body,
    Content-Encoding, Transfer-Encoding, Content-Length) exactly as it was, in every state and whatever the codecs
    return.  Messages are coupled only through the shared cache. -/
theorem message_ops_isolated (C : Codecs) (s : State) (op : Op) (j : Bool) (h : op.writes j = false) :
    (step C s op).1.msg j = s.msg j :=
  step_msg_of_not_writes C s op j h

/-- **C31 (get_content never writes).** `get_content` changes no message at all (only, possibly, the cache).
    NOTE: this holds by the SHAPE of the model (`stepWith` of `.getContent` returns `{ s with cache := c' }`, proof `rfl`);
    it says something about mitmproxy only through the tie: both message states are compared with the real objects
    after every op, `get` ops included. -/
theorem get_content_pure_on_message (C : Codecs) (s : State) (i st : Bool) :
    (step C s (.getContent i st)).1.m0 = s.m0 ∧ (step C s (.getContent i st)).1.m1 = s.m1 := ⟨rfl, rfl⟩

/-- **C31 (get_content is idempotent).** After any history, two consecutive `get_content` calls return the same
    result, and neither changes any message (the cache may change). -/
theorem get_content_idempotent (C : Codecs) (s0 : State) (h0 : s0.cache = none) (ops : List Op) (i st : Bool) :
    (step C (step C (run C s0 ops).1 (.getContent i st)).1 (.getContent i st)).2 =
      (step C (run C s0 ops).1 (.getContent i st)).2 ∧
    (step C (step C (run C s0 ops).1 (.getContent i st)).1 (.getContent i st)).1.m0 = (run C s0 ops).1.m0 ∧
    (step C (step C (run C s0 ops).1 (.getContent i st)).1 (.getContent i st)).1.m1 = (run C s0 ops).1.m1 := by
  have hi := run_inv_of_empty C s0 h0 ops
  generalize (run C s0 ops).1 = s at hi
  refine ⟨?_, rfl, rfl⟩
  rw [get_content_transparent_inv C _ (step_inv C s _ hi) i st, get_content_transparent_inv C s hi i st]
  rfl

/-- **C31 (no result depends on earlier calls — `get_content`).** Two arbitrary histories (different ops, different
    bodies, different other message) that leave message `i` resp. `i'` in the same state read the same content:
    the coupling through the cache is not observable. -/
theorem get_content_history_independent (C : Codecs) (s0 s0' : State) (h0 : s0.cache = none) (h0' : s0'.cache = none)
    (ops ops' : List Op) (i i' st : Bool) (hm : (run C s0 ops).1.msg i = (run C s0' ops').1.msg i') :
    (step C (run C s0 ops).1 (.getContent i st)).2 = (step C (run C s0' ops').1 (.getContent i' st)).2 := by
  rw [get_content_transparent C s0 h0, get_content_transparent C s0' h0', hm]

/-- **C31 (set_content is idempotent — for EVERY Content-Encoding value).** From any state satisfying the invariant:
    repeating `set_content(v)` reproduces the first call's outcome (completion, or the escaping TypeError) and leaves
    both messages and the cache exactly as the first call left them — identity, compressed, unknown, Python bytes-
    codecs and text codecs alike.  (`set_content_idempotent` without its `OkName` hypothesis.) -/
theorem set_content_idempotent_any_coding (C : Codecs) (s : State) (hi : Inv C s.cache) (i : Bool) (v : Bytes) :
    step C (step C s (.setContent i (some v))).1 (.setContent i (some v)) =
      ((step C s (.setContent i (some v))).1, (step C s (.setContent i (some v))).2) := by
  have hf := freshFor_freshOf C s (.setContent i (some v))
  have hf2 : FreshFor C (needEnc (ceOrIdentity ((step C s (.setContent i (some v))).1.msg i).ce) strictB v) _ :=
    freshFor_freshOf C (step C s (.setContent i (some v))).1 (.setContent i (some v))
  rw [step_set C s] at hf2 ⊢
  rw [setMsg_msg] at hf2
  rw [step_set]
  simp only [setMsg_cache, setMsg_msg]
  rw [setContent_again hi (s.msg i) v _ _ hf hf2, setMsg_setMsg]

/-- `set_content_idempotent` from any state satisfying the invariant -/
theorem set_content_idempotent_inv (C : Codecs) (s : State) (hi : Inv C s.cache) (i : Bool) (v : Bytes)
    (hok : OkName (effName (s.msg i).ce)) :
    step C (step C s (.setContent i (some v))).1 (.setContent i (some v)) = ((step C s (.setContent i (some v))).1, .done) := by
  rw [set_content_idempotent_any_coding C s hi i v, (set_get_content_inv C s hi i v hok).1]

/-- **C31 (set_content is idempotent).** After any history, under an identity / compressed / unknown coding,
    `set_content(v)` twice is exactly `set_content(v)` once: the second call completes and leaves BOTH messages and
    the cache precisely as the first left them (same raw bytes — for a compressed coding the second call is served
    from the entry the first one left; same headers, same Content-Length). -/
theorem set_content_idempotent (C : Codecs) (s0 : State) (h0 : s0.cache = none) (ops : List Op) (i : Bool) (v : Bytes)
    (hok : OkName (effName (((run C s0 ops).1.msg i).ce))) :
    step C (step C (run C s0 ops).1 (.setContent i (some v))).1 (.setContent i (some v)) =
      ((step C (run C s0 ops).1 (.setContent i (some v))).1, .done) :=
  set_content_idempotent_inv C _ (run_inv_of_empty C s0 h0 ops) i v hok

/-- **C31 (the last assignment wins).** After any history, `set_content(v1)` followed by `set_content(v2)`
    completes and the message then reads `v2` — nothing of `v1` survives, whatever the cache held. -/
theorem set_set_last_wins (C : Codecs) (s0 : State) (h0 : s0.cache = none) (ops : List Op) (i : Bool) (v1 v2 : Bytes)
    (hok : OkName (effName (((run C s0 ops).1.msg i).ce))) :
    (step C (step C (run C s0 ops).1 (.setContent i (some v1))).1 (.setContent i (some v2))).2 = .done ∧
    (step C (step C (step C (run C s0 ops).1 (.setContent i (some v1))).1 (.setContent i (some v2))).1
      (.getContent i true)).2 = .ok v2 :=
  set_get_content_inv C _ (step_inv C _ _ (run_inv_of_empty C s0 h0 ops)) i v2 (okName_after_set C _ i v1 hok)

/-- **C31 (Message.decode is idempotent — for EVERY Content-Encoding value).** From any state satisfying the
    invariant, strict or not, whatever header the message carries and whatever the codec returns (bytes, a str, an
    error, TypeError): a second `Message.decode()` returns the same outcome as the first and leaves both messages
    and the cache exactly as the first left them.  (`decode_idempotent` without its `OkName` hypothesis.) -/
theorem decode_idempotent_any_coding (C : Codecs) (s : State) (hi : Inv C s.cache) (i st : Bool) :
    step C (step C s (.mdecode i st)).1 (.mdecode i st) = step C s (.mdecode i st) := by
  rcases msgDecode_again (s.msg i) st (freshOf C s (.mdecode i st)) (fun raw hr he =>
    getContent_inv hi _ st _ (freshFor_mdecode C s i st hr he)) with key | key
  · rw [step_mdecode C s, step_mdecode]
    simp only [setMsg_cache, setMsg_msg]
    rw [key, setMsg_setMsg]
  · have hs : (step C s (.mdecode i st)).1 = s := by
      rw [step_mdecode, congrArg Prod.fst key, congrArg Prod.snd key]
      exact setMsg_self s i
    rw [hs]

/-- `decode_idempotent` from any state satisfying the invariant -/
theorem decode_idempotent_inv (C : Codecs) (s : State) (hi : Inv C s.cache) (i st : Bool)
    (hok : OkName (effName (s.msg i).ce)) :
    step C (step C s (.mdecode i st)).1 (.mdecode i st) = step C s (.mdecode i st) :=
  decode_idempotent_any_coding C s hi i st

/-- **C31 (Message.decode is idempotent).** After any history, for a message whose coding is an identity name, a
    compressed coding or unknown: a second `Message.decode()` right after the first returns the same outcome and
    leaves both messages and the cache exactly as the first one left them (after a successful decode there is no
    Content-Encoding left, so the second call is a plain re-assignment of the same bytes; after a failed strict
    decode nothing was changed, so the second call fails identically).  The restriction on the coding is not used:
    `decode_idempotent_any_coding` holds for every header value. -/
theorem decode_idempotent (C : Codecs) (s0 : State) (h0 : s0.cache = none) (ops : List Op) (i st : Bool)
    (hok : OkName (effName (((run C s0 ops).1.msg i).ce))) :
    step C (step C (run C s0 ops).1 (.mdecode i st)).1 (.mdecode i st) = step C (run C s0 ops).1 (.mdecode i st) :=
  decode_idempotent_any_coding C _ (run_inv_of_empty C s0 h0 ops) i st

/-- **C31 (decode … encode, history form).** After any history: if a message (coding an identity name / compressed /
    unknown) reads as `v`, then `Message.decode()`, ANY sub-history `tail1` of ops that are not writes to this message
    (reads of it, every op on the other message, module-level encode/decode of arbitrary bodies — all of which may
    replace the cache entry), `Message.encode(cd)`, ANY such `tail2`, and the message still reads as `v`. -/
theorem decode_encode_preserves_interleaved (C : Codecs) (s0 : State) (h0 : s0.cache = none) (ops tail1 tail2 : List Op)
    (i st : Bool) (v cd : Bytes)
    (hhdr : OkName (effName (((run C s0 ops).1.msg i).ce))) (hcd : OkName (effName (some cd)))
    (hget : (step C (run C s0 ops).1 (.getContent i true)).2 = .ok v)
    (ht1 : ∀ o ∈ tail1, o.writes i = false) (ht2 : ∀ o ∈ tail2, o.writes i = false) :
    (step C (run C s0 (ops ++ (.mdecode i st :: tail1) ++ (.mencode i cd :: tail2))).1 (.getContent i true)).2 = .ok v := by
  have hi := run_inv_of_empty C s0 h0 ops
  have hib := run_inv C tail1 _ (step_inv C _ (.mdecode i st) hi)
  have hic := step_inv C _ (.mencode i cd) hib
  obtain ⟨_, hraw⟩ := mdecode_spec hi i st v hhdr hget
  obtain ⟨_, _, hg⟩ := mencode_spec hib i cd v ((congrArg Msg.raw (run_frame C i tail1 _ ht1)).trans hraw) hcd
  rw [run_append, run_append, run_cons_fst, run_cons_fst,
    get_content_transparent_inv C _ (run_inv C tail2 _ hic) i true, run_frame C i tail2 _ ht2]
  exact hg true

/-- **C31 (encode after encode — "the content is not decoded beforehand").** After any history, on a message with raw
    body `v`: `Message.encode(c1)` then `Message.encode(c2)` (compressed codings, any case) both complete; the body
    after the first is some `x1` that decodes (uncached) to `v` under `c1`; the second WRAPS it: the final body `x2`
    decodes under `c2` to `x1` — so `dec_c1 (dec_c2 raw) = v` — the header names only `c2`, and `get_content` now
    returns the `c1`-encoded bytes `x1`, not `v`. -/
theorem encode_after_encode (C : Codecs) (s0 : State) (h0 : s0.cache = none) (ops : List Op) (i : Bool) (v c1 c2 : Bytes)
    (hr : ((run C s0 ops).1.msg i).raw = some v)
    (hk1 : kindOf (effName (some c1)) = .cached) (hk2 : kindOf (effName (some c2)) = .cached) :
    ∃ x1 x2,
      (step C (run C s0 ops).1 (.mencode i c1)).2 = .done ∧
      ((step C (run C s0 ops).1 (.mencode i c1)).1.msg i).raw = some x1 ∧
      C.dec (effName (some c1)) strictB x1 = .ok v ∧
      (step C (step C (run C s0 ops).1 (.mencode i c1)).1 (.mencode i c2)).2 = .done ∧
      ((step C (step C (run C s0 ops).1 (.mencode i c1)).1 (.mencode i c2)).1.msg i).raw = some x2 ∧
      ((step C (step C (run C s0 ops).1 (.mencode i c1)).1 (.mencode i c2)).1.msg i).ce = some c2 ∧
      C.dec (effName (some c2)) strictB x2 = .ok x1 ∧
      (step C (step C (step C (run C s0 ops).1 (.mencode i c1)).1 (.mencode i c2)).1 (.getContent i true)).2 = .ok x1 := by
  have hi := run_inv_of_empty C s0 h0 ops
  generalize (run C s0 ops).1 = s at hi hr
  obtain ⟨_, hd1, _⟩ := mencode_spec hi i c1 v hr (Or.inr (Or.inl hk1))
  obtain ⟨x1, hr1, _, hdec1⟩ := mencode_cached hi i c1 v hr hk1
  have hia := step_inv C s (.mencode i c1) hi
  obtain ⟨_, hd2, hg⟩ := mencode_spec hia i c2 x1 hr1 (Or.inr (Or.inl hk2))
  obtain ⟨x2, hr2, hce2, hdec2⟩ := mencode_cached hia i c2 x1 hr1 hk2
  exact ⟨x1, x2, hd1 (by rw [hk1]; decide), hr1, hdec1, hd2 (by rw [hk2]; decide), hr2, hce2, hdec2,
    (get_content_transparent_inv C _ (step_inv C _ _ hia) i true).trans (hg true)⟩

/-- **C31 (Content-Length, carried along the history — for every value of trailers and version).** After any
    history `ops` from any state (any trailers, any HTTP version on either message): if `op` is a content assignment
    on message `i` that ran to completion (`set_content(bytes)`, `Message.decode` of a non-empty body,
    `Message.encode` of a present body) and the message has no Transfer-Encoding header, then after ANY further
    sub-history `tail` whose ops either do not write message `i` (reads, ops on the other message, module-level codec
    calls) or only (re)set ITS TRAILERS OR VERSION, Content-Length still equals the length of the raw body.  Holds for
    every coding and whatever the codecs return. -/
theorem content_length_invariant (C : Codecs) (s0 : State) (ops tail : List Op) (i : Bool) (op : Op)
    (hop : completesAssign C (run C s0 ops).1 i op)
    (hte : ((step C (run C s0 ops).1 op).1.msg i).te = false)
    (htail : ∀ o ∈ tail, o.writes i = false ∨ o.setsMeta i = true) :
    ∃ raw, ((run C s0 (ops ++ op :: tail)).1.msg i).raw = some raw ∧
      ((run C s0 (ops ++ op :: tail)).1.msg i).cl = some raw.length := by
  rw [run_append, run_cons_fst]
  have hf := run_body_frame C i tail (step C (run C s0 ops).1 op).1 htail
  obtain ⟨hlen, _, hte', _⟩ := assign_len C _ i op hop
  obtain ⟨raw, h1, h2⟩ := hlen (hte'.symm.trans hte)
  exact ⟨raw, (congrArg Msg.raw hf).trans h1, (congrArg Msg.cl hf).trans h2⟩

/-- **C31 (trailers and HTTP version are irrelevant).** For every op, in every state: running it on the state with all
    trailers / versions blanked gives the same result, the same cache and — up to those two fields — the same
    messages.  Nothing in set_content / get_content / Message.decode / Message.encode (in particular not the
    Content-Length rule) reads a message's trailers or version.
    NOTE: true because no MODEL function reads `tr` / `ver` — a fact about the model's shape.  Its meaning for mitmproxy
    comes from the tie: the rendered message state includes trailers and version, and results + states are compared
    after every op on messages with every trailers / version value (the trial patch `seeded/c31-5`, which makes
    set_content read the trailers, breaks that comparison and the Content-Length oracle clause). -/
theorem trailers_irrelevant (C : Codecs) (s : State) (op : Op) :
    (step C s.core op).2 = (step C s op).2 ∧ (step C s.core op).1.core = (step C s op).1.core := by
  have hf : freshOf C s.core op = freshOf C s op := by simp only [freshOf, need_core]
  cases op with
  | dec x c e => unfold step; rw [hf]; exact ⟨rfl, rfl⟩
  | enc d c e => unfold step; rw [hf]; exact ⟨rfl, rfl⟩
  | getContent i st =>
    have h : getContent s.core.cache (s.core.msg i) st (freshOf C s.core (.getContent i st)) =
        getContent s.cache (s.msg i) st (freshOf C s (.getContent i st)) := by rw [hf, core_msg]; rfl
    exact ⟨congrArg Prod.fst h, congrArg (fun p => ({ s.core with cache := p.2 } : State).core) h⟩
  | setContent i v =>
    rw [step_set, step_set, hf, core_msg, setContent_core]
    exact ⟨rfl, core_put s i _ _⟩
  | mdecode i st =>
    rw [step_mdecode, step_mdecode, hf, core_msg, msgDecode_core]
    exact ⟨rfl, core_put s i _ _⟩
  | mencode i cd =>
    rw [step_mencode, step_mencode, hf, core_msg, msgEncode_core]
    exact ⟨rfl, core_put s i _ _⟩
  | _ => exact ⟨rfl, core_setMsg_congr s _ _ _ (by rw [core_msg]; rfl)⟩

/-- … lifted to whole histories: results never depend on trailers / version, of either message, at any point
    (same caveat: a statement about the model's shape, given meaning by the tie) -/
theorem trailers_irrelevant_history (C : Codecs) (ops : List Op) :
    ∀ s t : State, s.core = t.core → (run C s ops).2 = (run C t ops).2 ∧ (run C s ops).1.core = (run C t ops).1.core := by
  induction ops with
  | nil => intro s t h; exact ⟨rfl, h⟩
  | cons op ops ih =>
    intro s t h
    have hs := trailers_irrelevant C s op
    have ht := trailers_irrelevant C t op
    rw [h] at hs
    obtain ⟨ih2, ih1⟩ := ih _ _ (hs.2.symm.trans ht.2)
    simp only [run]
    exact ⟨by rw [hs.1.symm.trans ht.1, ih2], ih1⟩

/-! ### non-vacuity for the history theorems (kernel-evaluated on `toy`) -/

-- `contentOf` is not constant: bytes / strict error / non-strict fallback / missing body / text codec
example : contentOf toy okState.m0 true = .ok [7, 8] ∧
    contentOf toy ⟨some [3, 3], some brN, false, none, .absent, .h11⟩ true = .verr ∧
    contentOf toy ⟨some [3, 3], some brN, false, none, .absent, .h11⟩ false = .ok [3, 3] ∧
    contentOf toy ⟨none, some brN, false, none, .absent, .h11⟩ true = .nil ∧
    contentOf toy ⟨some [5], some utf8N, false, none, .absent, .h11⟩ true = .verr := by decide +kernel
-- the hypotheses of the tail theorems are satisfiable by tails that really disturb the cache
example : ∀ o ∈ [Op.getContent false true, .setContent true (some [9]), .enc [9, 9] gzipN strictB, .mencode true brN],
    o.writes false = false := by decide +kernel
example : completesAssign toy okState false (.setContent false (some [4])) := ⟨rfl, by decide +kernel⟩
example : completesAssign toy okState false (.mdecode false true) := ⟨rfl, ⟨[1, 7, 8], rfl, rfl⟩, by decide +kernel⟩
example : completesAssign toy okState false (.mencode false fooN) := ⟨rfl, ⟨[1, 7, 8], rfl⟩, by decide +kernel⟩
-- decode; (ops elsewhere that replace the cache entry); encode; (more such ops); read: still [7, 8]
example : (run toy okState [.mdecode false true, .enc [9, 9] gzipN strictB, .setContent true (some [9]),
    .mencode false brN, .setCe true (some gzipN), .setContent true (some [5]), .getContent true true,
    .getContent false true]).2.getLast? = some (.ok [7, 8]) := by decide +kernel
-- the same history: Content-Length of message 0 follows its raw body (3 bytes: 1 :: [7, 8])
example : (run toy okState [.mdecode false true, .enc [9, 9] gzipN strictB, .mencode false brN,
    .setContent true (some [5]), .getContent false true]).1.m0 = ⟨some [1, 7, 8], some brN, false, some 3, .absent, .h11⟩ := by decide +kernel
-- encode after encode wraps: raw [7] -> br [1,7] -> gzip [1,1,7]; the content is then the br stream, not [7]
example : (run toy ⟨none, ⟨some [7], none, false, none, .absent, .h11⟩, emptyMsg⟩
    [.mencode false brN, .mencode false gzipN, .getContent false true]) =
    (⟨some ⟨[1, 1, 7], gzipN, strictB, [1, 7]⟩, ⟨some [1, 1, 7], some gzipN, false, some 3, .absent, .h11⟩, emptyMsg⟩,
     [.done, .done, .ok [1, 7]]) := by decide +kernel
-- set twice = set once (whole state), decode twice = decode once, also when the strict decode fails
example : (run toy okState [.setContent false (some [4]), .setContent false (some [4])]).1 =
    (run toy okState [.setContent false (some [4])]).1 := by decide +kernel
example : (run toy okState [.mdecode false true, .mdecode false true]) =
    (⟨some ⟨[1, 7, 8], brN, strictB, [7, 8]⟩, ⟨some [7, 8], none, false, some 2, .absent, .h11⟩, emptyMsg⟩, [.done, .done]) := by decide +kernel
example : (run toy ⟨none, ⟨some [3, 3], some brN, false, none, .absent, .h11⟩, emptyMsg⟩ [.mdecode false true, .mdecode false true]) =
    (⟨none, ⟨some [3, 3], some brN, false, none, .absent, .h11⟩, emptyMsg⟩, [.verr, .verr]) := by decide +kernel

/-! ### non-vacuity: messages WITH trailers (where the trial patch `seeded/c31-5` acts) -/

-- response with non-empty trailers, HTTP/2, no Transfer-Encoding, stale Content-Length 12: assigning refreshes it
example : (step toy ⟨none, ⟨some [9, 9, 9], none, false, some 12, .nonEmpty, .h2⟩, emptyMsg⟩
    (.setContent false (some [4, 4]))).1.m0 = ⟨some [4, 4], none, false, some 2, .nonEmpty, .h2⟩ := by decide +kernel
-- the decode and encode variants, trailers / version being changed along the way
example : (run toy okState [.setTr false .nonEmpty, .setCl false (some 99), .mdecode false true, .setTr false .empty,
    .setVer false .h3, .getContent false true]).1.m0 = ⟨some [7, 8], none, false, some 2, .empty, .h3⟩ := by decide +kernel
example : (run toy okState [.setTr false .nonEmpty, .setVer false .h2, .setCl false (some 99), .mdecode false true,
    .mencode false gzipN]).1.m0 = ⟨some [1, 7, 8], some gzipN, false, some 3, .nonEmpty, .h2⟩ := by decide +kernel
-- with Transfer-Encoding the (stale) Content-Length is left alone — trailers or not
example : (step toy ⟨none, ⟨some [9], none, true, some 12, .nonEmpty, .h11⟩, emptyMsg⟩
    (.setContent false (some [4, 4]))).1.m0.cl = some 12 := by decide +kernel
-- the tail hypothesis of `content_length_invariant` is satisfiable by a tail that sets trailers and version
example : ∀ o ∈ [Op.setTr false .nonEmpty, .setVer false .h3, .getContent false true, .setContent true (some [1])],
    o.writes false = false ∨ o.setsMeta false = true := by decide +kernel
-- `core` really forgets something, and only trailers / version
example : (⟨some [1], some brN, true, some 5, .nonEmpty, .h3⟩ : Msg).core = ⟨some [1], some brN, true, some 5, .absent, .h11⟩ ∧
    (⟨some [1], some brN, true, some 5, .nonEmpty, .h3⟩ : Msg).core ≠ ⟨some [1], some brN, true, some 5, .nonEmpty, .h3⟩ := by decide +kernel

/-- a cache entry that is NOT a true statement about the decoder (here: toy bytes `[5]` claimed to decode to `[9]`
    under "br") breaks transparency: the hypothesis `Inv` cannot be dropped -/
theorem inv_needed_counterexample :
    ∃ s : State, ¬ Inv toy s.cache ∧
      (step toy s (.dec [5] brN strictB)).2 ≠ uncachedDec toy brN strictB [5] := by
  refine ⟨⟨some ⟨[5], brN, strictB, [9]⟩, emptyMsg, emptyMsg⟩, ?_, by decide +kernel⟩
  intro h
  have := (h _ rfl).2
  revert this
  decide +kernel

/-! ## mitmproxy's own decoder lenience transcribed, over the libraries as `Lib`

  `ownDecodeWith` transcribes `identity` / `decode_gzip` / `decode_deflate` / `decode_brotli` / `decode_zstd` (the
  `if not content: return b""` shortcut and the raw-deflate fallback) and is tied to the real functions by the
  driver op `own`.  `ofLib` builds a `Codecs` from a library `Lib` (two laws: round trip, empty-in ⇒ empty-out)
  and the `codecs` registry `PyReg`; for it the law FIELDS `dec_empty`, `dec_shape`, `roundtrip`, `ref_enc`,
  `ref_dec` ("lenient extends strict") are THEOREMS about the transcription.  Every theorem of this file
  holds for `ofLib L P` by instantiation. -/

private theorem tbl_decfn : ∀ n ∈ cachedDec, (decFnOf n).isSome = true ∧ decFnOf n ≠ some .identity := by decide +kernel

private theorem decFn_of_cached {n : Bytes} (hk : kindOf n = .cached) : ∃ fn, decFnOf n = some fn ∧ fn ≠ .identity := by
  obtain ⟨h1, h2⟩ := tbl_decfn n (List.contains_iff_mem.mp ((kind_cached_iff n).mp hk))
  cases h : decFnOf n with
  | none => rw [h] at h1; cases h1
  | some fn => exact ⟨fn, rfl, fun e => h2 (by rw [h, e])⟩

private theorem own_empty (fn : DecFn) (l1 l2 : Option Bytes) : ownDecodeWith fn [] l1 l2 = .ok [] := by
  cases fn <;> rfl

private theorem own_of_lib1 (fn : DecFn) (hfn : fn ≠ .identity) (x d : Bytes) (l2 : Option Bytes)
    (hx : x = [] → d = []) : ownDecodeWith fn x (some d) l2 = .ok d := by
  cases x with
  | nil => rw [own_empty, hx rfl]
  | cons b t => cases fn <;> first | rfl | exact absurd rfl hfn

private theorem own_shape (fn : DecFn) (x : Bytes) (l1 l2 : Option Bytes) :
    (∃ d, ownDecodeWith fn x l1 l2 = .ok d) ∨ ownDecodeWith fn x l1 l2 = .verr := by
  cases x with
  | nil => exact Or.inl ⟨[], own_empty fn l1 l2⟩
  | cons b t =>
    cases l1 with
    | some d => cases fn <;> exact Or.inl ⟨_, rfl⟩
    | none => cases l2 <;> cases fn <;> first | exact Or.inl ⟨_, rfl⟩ | exact Or.inr rfl

/-- `Codecs` built from mitmproxy's own (transcribed) decoder functions over a compression library -/
def ofLib (L : Lib) (P : PyReg) : Codecs where
  enc n e d := if kindOf n = .cached then .ok (L.compress n d) else P.enc n e d
  dec n e x := if kindOf n = .cached then ownDecode L n x else P.dec n e x
  ref n x := if kindOf n = .cached then L.decompress n x else none
  enc_total := by intro n e d hk; exact ⟨L.compress n d, by simp [hk]⟩
  roundtrip := by
    intro n e d x hk h
    simp only [hk, if_true] at h ⊢
    cases h
    obtain ⟨fn, hfn, hne⟩ := decFn_of_cached hk
    simp only [ownDecode, hfn, L.roundtrip]
    exact own_of_lib1 fn hne _ d _ (fun he => L.decompress_empty n d (by rw [← he]; exact L.roundtrip n d))
  dec_empty := by
    intro n e hk
    obtain ⟨fn, hfn, _⟩ := decFn_of_cached hk
    simp only [hk, if_true, ownDecode, hfn]
    exact own_empty fn _ _
  dec_shape := by
    intro n e x hk
    obtain ⟨fn, hfn, _⟩ := decFn_of_cached hk
    simp only [hk, if_true, ownDecode, hfn]
    exact own_shape fn x _ _
  unknown_enc := by
    intro n e d hk
    have : kindOf n ≠ .cached := by rw [hk]; decide
    simp only [this, if_false]
    exact P.unknown_enc n e d hk
  unknown_dec := by
    intro n e x hk
    have : kindOf n ≠ .cached := by rw [hk]; decide
    simp only [this, if_false]
    exact P.unknown_dec n e x hk
  ref_enc := by
    intro n e d x hk h
    simp only [hk, if_true] at h ⊢
    cases h
    exact L.roundtrip n d
  ref_dec := by
    intro n e x d hk h
    simp only [hk, if_true] at h ⊢
    obtain ⟨fn, hfn, hne⟩ := decFn_of_cached hk
    simp only [ownDecode, hfn, h]
    exact own_of_lib1 fn hne x d _ (fun he => L.decompress_empty n d (by rw [← he]; exact h))

/-- **the empty-body rule is a theorem about the transcribed decoders** (for a general `Codecs` this is the law field `dec_empty`):
    for every compressed coding, in any letter case, decoding the empty body yields the empty content — whatever
    the library would say about an empty input. -/
theorem own_decoders_accept_empty (L : Lib) (P : PyReg) (coding errors : Bytes)
    (hk : kindOf (asciiLower coding) = .cached) : uncachedDec (ofLib L P) coding errors [] = .ok [] := by
  rw [uncachedDec_of (ofLib L P) errors [] (by rw [hk]; decide)]
  exact (ofLib L P).dec_empty _ _ hk

/-- **"lenient extends strict" is a theorem about the transcribed decoders** (for a general `Codecs` this is the law field `ref_dec`): whatever
    the library's own decoder call accepts, mitmproxy's wrapper returns unchanged — its additions (empty shortcut,
    raw-deflate fallback) only ever ADD accepted inputs. -/
theorem own_decoders_extend_library (L : Lib) (P : PyReg) (n e x d : Bytes) (hk : kindOf n = .cached)
    (h : L.decompress n x = some d) : (ofLib L P).dec n e x = .ok d :=
  (ofLib L P).ref_dec n e x d hk (by simp [ofLib, hk, h])

/-- the raw-deflate fallback of `decode_deflate`, as transcribed: if `zlib.decompress` rejects the body but raw
    inflation accepts it, the wrapper returns the raw-inflated bytes; the three other wrappers have no fallback -/
theorem own_deflate_fallback (x d : Bytes) (hx : x ≠ []) :
    ownDecodeWith .deflate x none (some d) = .ok d ∧ ownDecodeWith .gzip x none (some d) = .verr ∧
    ownDecodeWith .brotli x none (some d) = .verr ∧ ownDecodeWith .zstd x none (some d) = .verr := by
  cases x with
  | nil => exact absurd rfl hx
  | cons b t => exact ⟨rfl, rfl, rfl, rfl⟩

/-- **F-C31a needs no lenient LIBRARY**: with a perfectly strict toy library, mitmproxy's own empty-body shortcut
    alone makes the full strict raw-body statement false (read the empty "br" body, assign `b""`). -/
theorem raw_decodes_to_content_counterexample_own_shortcut : ¬ RawDecodesToContent (ofLib toyLib toyPy) := by
  intro h
  have := h cexState [.getContent false true] false [] rfl (by decide +kernel)
  revert this
  decide +kernel

-- non-vacuity: the transcribed wrappers on the toy library (strict accepts 1 :: d, raw inflation accepts 2 :: d)
example : (ofLib toyLib toyPy).dec gzipN strictB [1, 7] = .ok [7] ∧ (ofLib toyLib toyPy).dec gzipN strictB [2, 7] = .verr ∧
    (ofLib toyLib toyPy).dec [0x64, 0x65, 0x66, 0x6c, 0x61, 0x74, 0x65] strictB [2, 7] = .ok [7] ∧
    (ofLib toyLib toyPy).dec brN strictB [] = .ok [] ∧ (ofLib toyLib toyPy).ref brN [] = none ∧
    (ofLib toyLib toyPy).dec utf8N strictB [5] = .str ∧ (ofLib toyLib toyPy).dec fooN strictB [5] = .verr := by decide +kernel
example : (run (ofLib toyLib toyPy) okState [.mdecode false true, .mencode false gzipN, .getContent false true]).2 =
    [.done, .done, .ok [7, 8]] := by decide +kernel

-- non-vacuity: a text codec (TypeError both times, nothing changes) and a bytes codec (same raw both times)
example : (run toy ⟨none, ⟨some [5], some utf8N, false, some 1, .absent, .h11⟩, emptyMsg⟩
    [.setContent false (some [6]), .setContent false (some [6])]) =
    (⟨none, ⟨some [5], some utf8N, false, some 1, .absent, .h11⟩, emptyMsg⟩, [.terr, .terr]) := by decide +kernel
example : (run toy ⟨none, ⟨some [5], some utf8N, false, some 1, .absent, .h11⟩, emptyMsg⟩
    [.mdecode false true, .mdecode false true]).2 = [.verr, .verr] := by decide +kernel

/-- the driver-runnable form of `contentOf` (tied to the real code's cache-neutral read-back after every op) -/
theorem contentOf_eq_with (C : Codecs) (m : Msg) (st : Bool) :
    contentOf C m st = contentOfWith m st
      (match m.raw, m.ce with
       | some raw, some ce => C.dec (asciiLower ce) strictB raw
       | _, _ => .verr) := by
  unfold contentOf contentOfWith uncachedDec
  cases m.raw with
  | none => rfl
  | some raw => cases m.ce <;> rfl

/-! ### further non-vacuity witnesses (kernel-evaluated on `toy`) -/

-- the `_inv` family: `Inv` holds on a NON-EMPTY cache reached by a history (not only on `none`), and fails on a false entry
example : (run toy okState [.getContent false true]).1.cache ≠ none ∧
    Inv toy (run toy okState [.getContent false true]).1.cache ∧ ¬ Inv toy (some ⟨[5], brN, strictB, [9]⟩) := by
  refine ⟨by decide +kernel, inv_preserved toy okState _ (inv_of_empty toy _ rfl), ?_⟩
  intro h
  have := (h _ rfl).2
  revert this
  decide +kernel
-- get_content_history_independent: two DIFFERENT histories (different cache entries) leave message 0 in the same state
example : (run toy okState [.enc [9] gzipN strictB, .setContent true (some [3])]).1.msg false =
      (run toy okState [.getContent false true]).1.msg false ∧
    (run toy okState [.enc [9] gzipN strictB, .setContent true (some [3])]).1.cache ≠
      (run toy okState [.getContent false true]).1.cache := by decide +kernel
-- encode_after_encode / unknown_coding_removed / set_set_last_wins: their kind hypotheses on a reachable state
example : ((run toy okState [.mdecode false true]).1.msg false).raw = some [7, 8] ∧
    kindOf (effName (some brU)) = .cached ∧ kindOf (effName (some gzipN)) = .cached ∧
    kindOf (effName (((run toy okState [.setCe false (some fooN)]).1.msg false).ce)) = .unknown ∧
    OkName (effName (((run toy okState [.getContent false true]).1.msg false).ce)) := by
  refine ⟨by decide +kernel, by decide +kernel, by decide +kernel, by decide +kernel, Or.inr (Or.inl (by decide +kernel))⟩
-- content_length_invariant: no Transfer-Encoding after the assignment, and a tail that disturbs the cache and the trailers
example : ((step toy okState (.setContent false (some [4]))).1.msg false).te = false ∧
    (∀ o ∈ [Op.setTr false .nonEmpty, .enc [9, 9] gzipN strictB, .setVer false .h2, .getContent false true,
            .setContent true (some [9])], o.writes false = false ∨ o.setsMeta false = true) ∧
    (Op.setCl false (some 1)).writes false = true := by decide +kernel
-- NOT a theorem (the clause "no result ever depends on … earlier" is proved for encode results and stored raw bodies
-- only up to MEANING): after a decode, `encoding.encode` of the same content returns the earlier input bytes, byte-wise
-- different from what a process without history returns
example : (step toy (run toy init [.dec [2, 7] brN strictB]).1 (.enc [7] brN strictB)).2 = .ok [2, 7] ∧
    uncachedEnc toy brN strictB [7] = .ok [1, 7] ∧
    (step toy (run toy init [.dec [2, 7] brN strictB, .dec [3] gzipN strictB, .dec [1, 9] gzipN strictB]).1
      (.enc [7] brN strictB)).2 = .ok [1, 7] := by decide +kernel
-- own_deflate_fallback / Lib: a body for which only raw inflation succeeds exists in the toy library
example : toyLib.decompress [0x64] [2, 7] = none ∧ toyLib.inflateRaw [2, 7] = some [7] ∧ ([2, 7] : Bytes) ≠ [] := by decide +kernel

/-! ## sentence 5 at byte level for encode results and stored raw bodies

  "No result ever depends on which bodies were encoded or decoded earlier" is proved at full strength for
  `encoding.decode` (`decode_transparent`) and `get_content` (`get_content_transparent`).  For `encoding.encode` results
  and for the raw body an assignment stores, the byte-level reading (`EncodeHistoryIndependent`,
  `StoredRawHistoryIndependent`) is FALSE — by design of the cache, which returns the peer's original bytes when the
  content is re-encoded unchanged — and is proved only UP TO MEANING (what the bytes decode to), plus byte-wise
  outside cache hits on non-canonical entries. -/

/-- **proved part of `EncodeHistoryIndependent`: equal up to what the bytes decode to.**  (This is
    `encode_semantically_transparent`, restated under the name of the clause it proves: a compressed coding always
    encodes, and whatever `encoding.encode(d, coding, errors)` returns under an identity / compressed coding decodes
    (uncached) back to `d` — in every reachable state, i.e. independently of the history.) -/
theorem encode_history_independent_partial (C : Codecs) (s0 : State) (h0 : s0.cache = none) (ops : List Op)
    (d coding errors : Bytes) :
    (kindOf (asciiLower coding) = .cached →
      ∃ x, (step C (run C s0 ops).1 (.enc d coding errors)).2 = .ok x) ∧
    (kindOf (asciiLower coding) = .identity ∨ kindOf (asciiLower coding) = .cached →
      ∀ x, (step C (run C s0 ops).1 (.enc d coding errors)).2 = .ok x → uncachedDec C coding errors x = .ok d) :=
  encode_semantically_transparent C s0 h0 ops d coding errors

/-- **byte-level, state guard: outside a cache hit on a non-canonical entry `encoding.encode` is history independent.**
    In every reachable state: unless the call is a cache hit whose entry does not hold the uncached encoder's bytes
    (`nonCanonicalHit`, decidable — such entries are only made by decoding a differently compressed / lenient body),
    the result is byte-for-byte what a process without history returns. -/
theorem encode_bytes_history_independent_partial_hit (C : Codecs) (s0 : State) (h0 : s0.cache = none) (ops : List Op)
    (d coding errors : Bytes)
    (hg : nonCanonicalHit C (run C s0 ops).1.cache d (asciiLower coding) errors = false) :
    (step C (run C s0 ops).1 (.enc d coding errors)).2 = uncachedEnc C coding errors d :=
  encodeStep_canon (run_inv_of_empty C s0 h0 ops) d coding errors _ (freshFor_freshOf C _ (.enc d coding errors)) hg

/-- **byte-level, history guard: histories that only ever decoded canonical bodies.**  If every successful decode of a
    compressed coding in the history was of exactly the bytes the encoder emits for that content (`canonHist`,
    decidable), `encoding.encode` returns byte-for-byte the uncached result. -/
theorem encode_bytes_history_independent_partial (C : Codecs) (s0 : State) (h0 : s0.cache = none) (ops : List Op)
    (d coding errors : Bytes) (hg : canonHist C s0 ops = true) :
    (step C (run C s0 ops).1 (.enc d coding errors)).2 = uncachedEnc C coding errors d :=
  encode_bytes_history_independent_partial_hit C s0 h0 ops d coding errors
    ((run_invCanon C ops s0 (by intro e he; rw [h0] at he; cases he) hg).nonCanonicalHit d _ errors)

/-- **`EncodeHistoryIndependent` is FALSE (by design of the cache).**  Toy codecs: after `decode([2,7], "br")` (a
    non-canonical stream of `[7]`), `encode([7], "br")` returns `[2,7]`; a process without history returns `[1,7]`. -/
theorem encode_history_independent_counterexample : ¬ EncodeHistoryIndependent toy := by
  intro h
  have := h init [.dec [2, 7] brN strictB] [7] brN strictB rfl
  revert this
  decide +kernel

/-- **byte-level, state guard, for the raw body stored by `set_content`**: unless the assignment is a cache hit on a
    non-canonical entry, the stored raw body is byte-for-byte the one the same assignment stores on the same message
    state with an EMPTY cache. -/
theorem stored_raw_history_independent_partial_hit (C : Codecs) (s0 : State) (h0 : s0.cache = none) (ops : List Op)
    (i : Bool) (v : Bytes)
    (hg : nonCanonicalHit C (run C s0 ops).1.cache v (effName (((run C s0 ops).1.msg i).ce)) strictB = false) :
    ((step C (run C s0 ops).1 (.setContent i (some v))).1.msg i).raw =
    ((step C { (run C s0 ops).1 with cache := none } (.setContent i (some v))).1.msg i).raw := by
  have hi := run_inv_of_empty C s0 h0 ops
  generalize (run C s0 ops).1 = s at hi hg
  have hf := freshFor_freshOf C s (.setContent i (some v))
  have hfresh : freshOf C ({ s with cache := none } : State) (.setContent i (some v)) =
      freshOf C s (.setContent i (some v)) := by
    simp only [freshOf, need, withCache_msg]
  rw [step_set, step_set, setMsg_msg, setMsg_msg, hfresh, withCache_msg]
  apply setContent_raw_of_res
  rw [encodeStep_canon hi v _ strictB _ hf hg,
    encodeStep_canon (c := none) (Inv.empty C) v _ strictB _ hf (by simp [nonCanonicalHit, encHit])]

/-- **`StoredRawHistoryIndependent` is FALSE (by design of the cache; F-C31a is the subclass where the kept bytes are
    also rejected by strict decoders).**  Toy codecs: message with raw `[2,7]` under "br"; read it, assign the same
    content `[7]`: the raw body stays `[2,7]`, with an empty cache it would be `[1,7]`. -/
theorem stored_raw_history_independent_counterexample : ¬ StoredRawHistoryIndependent toy := by
  intro h
  have := (h ⟨none, ⟨some [2, 7], some brN, false, none, .absent, .h11⟩, emptyMsg⟩ [.getContent false true] false rfl).1 [7]
  revert this
  decide +kernel

-- the guards are satisfiable and discriminate
example : canonHist toy okState [.getContent false true, .enc [9] gzipN strictB] = true ∧
    canonHist toy init [.dec [2, 7] brN strictB] = false ∧
    nonCanonicalHit toy (run toy init [.dec [2, 7] brN strictB]).1.cache [7] brN strictB = true ∧
    nonCanonicalHit toy (run toy init [.dec [1, 7] brN strictB]).1.cache [7] brN strictB = false := by decide +kernel
-- a second library with `decompress [] = some []`: `Lib.decompress_empty` is not vacuous, and `ofLib` works over it
example : idLib.decompress brN [] = some [] ∧ (ofLib idLib toyPy).dec brN strictB [] = .ok [] ∧
    (ofLib idLib toyPy).dec brN strictB [4, 2] = .ok [4, 2] ∧ (ofLib idLib toyPy).ref brN [] = some [] := by decide +kernel

/-- the driver-runnable forms of the guards (tied: evaluated by the driver op `guard` in the pre-state of every
    assignment / `encoding.encode` with errors "strict" and compared with the Python classifier's facts) -/
theorem lenientHit_eq_with (C : Codecs) (c : Cache) (v n : Bytes) :
    lenientHit C c v n = lenientHitWith c v n (match encHit c v n strictB with | some x => C.ref n x | none => none) := by
  unfold lenientHit lenientHitWith
  cases encHit c v n strictB <;> rfl

theorem nonCanonicalHit_eq_with (C : Codecs) (c : Cache) (d n e : Bytes) :
    nonCanonicalHit C c d n e = nonCanonicalHitWith c d n e (C.enc n e d) := rfl

end MitmVerif.Props.C31
