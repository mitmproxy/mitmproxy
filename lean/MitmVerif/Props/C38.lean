/-
  C38 — `compat.migrate_flow`, at three levels.  The converter graph regenerated from /repo (Gen/C38.lean): which version
  key leads to which, termination from every version value, rejection.  The converters one by one, table by table (`conv`
  10 … 20, `convOld` 5 … 9, the two with process-global tables 11→12 and 4→5, `convTuple` 0.17 … 3.0, `convBytes`
  0.11 … 0.16): the version each writes, the top-level keys it may assign (`touched`, `touchedOld`), what it does under
  them.  The loop composed of them (`migrateFlowF`), and success on records of the shape old releases wrote (12 → 21).
  Most converter theorems are conditional ("if the converter returns"); that one does return is said by the `format_*` /
  `checked_shape_loads` theorems and, as equations for the result, by `plain_is_stateless`, `handshake_stored`, `sni_true_*`.
  Behind `conv_body` / `convOld_body` are the `Off` lemmas `body_N` / `body_oN` (Lemmas/C38_Conv, C38_Old), behind the
  table theorems `conv_11_12_st_cases` / `conv_4_5_st_cases` (Lemmas/C38_State), behind 18→19 Lemmas/C38_Host,
  C38_HostValid and, for success, C38_Succ.
-/
import MitmVerif.Model.C38
import MitmVerif.Gen.C38
import MitmVerif.Lemmas.C38_Conv
import MitmVerif.Lemmas.C38_Host
import MitmVerif.Lemmas.C38_HostValid
import MitmVerif.Lemmas.C38_Succ
import MitmVerif.Lemmas.C38_Old
import MitmVerif.Lemmas.C38_State
import MitmVerif.Model.C38_Tuple
import MitmVerif.Lemmas.C38_Bytes
import MitmVerif.Model.C38_Migrate
namespace MitmVerif.Props.C38
open MitmVerif.C38 MitmVerif.Gen.C38

/-- more fuel never changes a verdict that was reached (so the fuel bound is not an artefact) -/
theorem migrate_mono (g : Graph) (cur : Ver) (f : Nat) (v : Ver) (k : Nat)
    (h : migrate g cur f v ≠ .diverged) : migrate g cur (f + k) v = migrate g cur f v := by
  fun_induction migrate g cur f v with
  | case1 => exact absurd rfl h
  | case3 f v hne v' hl ih => rw [Nat.succ_add, migrate]; simp only [hne, hl, if_false]; exact ih h
  -- a turn that ends the loop does not look at the fuel
  | _ => simp [Nat.succ_add, migrate, *]

/-- From every historical version key the migration loop reaches the current
    format (within |graph|+1 iterations — and hence with any larger number, by `migrate_mono`). -/
theorem chain_terminates : ∀ e ∈ graph, migrate graph current (graph.length + 1) e.1 = .ok := by
  decide +kernel

/-- every converter writes a strictly later version than the one it reads -/
theorem versions_increase : ∀ e ∈ graph, rank e.1 < rank e.2 := by decide +kernel

/-- each version has at most one converter (dictionary keys), and the current version has none -/
theorem keys_unique : (graph.map (·.1)).Nodup := by decide +kernel
theorem current_not_a_key : lookup graph current = none := by decide +kernel

/-- A current-format state is returned without any conversion. -/
theorem current_fixed_point (f : Nat) : migrate graph current (f + 1) current = .ok := by
  simp [migrate]

/-- A version that is neither current nor a converter key is rejected at once,
    with the "please update" hint exactly when it is an integer greater than the current version
    (`reject`). -/
theorem unknown_rejected (v : Ver) (f : Nat) (hk : lookup graph v = none) (hc : v ≠ current) :
    migrate graph current (f + 1) v = reject v current := by
  simp only [migrate, if_neg hc, hk]

theorem reject_update_iff (v cur : Ver) :
    reject v cur = .errUpdate ↔ ∃ n c, v = .int n ∧ cur = .int c ∧ n > c := by
  cases v <;> cases cur <;> simp [reject]

theorem reject_is_error (v cur : Ver) : reject v cur = .errUpdate ∨ reject v cur = .errUnknown := by
  cases v <;> cases cur <;> simp [reject]
  omega

private theorem lookup_mem (g : Graph) (v v' : Ver) (h : lookup g v = some v') : ∃ e ∈ g, e.1 = v := by
  simp only [lookup, Option.map_eq_some_iff] at h
  obtain ⟨e, he, _⟩ := h
  have hm := List.mem_of_find?_eq_some he
  have hp := List.find?_some he
  exact ⟨e, hm, by simpa using hp⟩

/-- For EVERY version value whatsoever the loop terminates: it never runs out
    of the |graph|+1 iterations. -/
theorem migration_total (v : Ver) : migrate graph current (graph.length + 1) v ≠ .diverged := by
  by_cases hc : v = current
  · subst hc; simp [migrate]
  · cases hl : lookup graph v with
    | none =>
      rw [unknown_rejected v _ hl hc]
      rcases reject_is_error v current with h | h <;> rw [h] <;> simp
    | some v' =>
      obtain ⟨e, he, hev⟩ := lookup_mem graph v v' hl
      have := chain_terminates e he
      rw [hev] at this
      rw [this]; simp

/-- the chain length from every key is defined (used by the correspondence: converters applied) -/
theorem steps_defined : ∀ e ∈ graph, (steps graph current (graph.length + 1) e.1).isSome = true := by
  decide +kernel

/-! ### the converters' field surgery: integer formats 10 … 20 (`conv`), then 5 … 9 (`convOld`), both `Model/C38_Conv.lean` -/
section Converters
open MitmVerif MitmVerif.C36 MitmVerif.C38Conv

/-- the keys besides `version` a modelled converter may assign, remove or rewrite at top level -/
def touched : Nat → List Bytes
  | 10 => [s "client_conn", s "server_conn"]
  | 11 => [s "websocket"]
  | 12 => [s "marked"]
  | 13 => [s "comment", s "response"]
  | 14 => [s "websocket"]
  | 15 => [s "timestamp_created"]
  | 16 => [s "mode"]
  | 17 => [s "client_conn"]
  | 18 => [s "client_conn", s "server_conn"]
  | 19 => [s "client_conn", s "server_conn"]
  | 20 => [s "client_conn", s "server_conn"]
  | _ => []

/-- A converter leaves every key it does not assign as the version stamp left it. -/
theorem conv_body (v : Nat) (f : Dict → Option Dict) (d d' : Dict) (m : Bytes)
    (hf : conv v = some f) (h : f d = some d') (hm : ∀ t ∈ touched v, (t == m) = false) :
    dget d' m = dget (setVersion d (v + 1)) m := by
  have hm' : ∀ t ∈ touched v, t ≠ m := fun t ht => ne_of_beq_false (hm t ht)
  unfold conv at hf
  split at hf <;> cases hf
  · exact body_10 h m hm'
  · exact body_11 h m hm'
  · exact body_12 h m hm'
  · exact body_13F _ h m hm'
  · exact body_14 h m hm'
  · exact body_15 h m hm'
  · exact body_16 h m hm'
  · exact body_17 h m hm'
  · exact body_18 h m hm'
  · exact body_19 h m hm'
  · exact body_20 h m hm'

/-- the names in `touched`: a key with another name is assigned by no converter -/
private theorem touched_ne (v : Nat) (k : String)
    (hk : k ∉ ["client_conn", "server_conn", "websocket", "marked", "comment", "response", "timestamp_created", "mode"]) :
    ∀ t ∈ touched v, (t == s k) = false := by
  simp only [List.mem_cons, List.not_mem_nil, or_false, not_or] at hk
  refine fun t ht => beq_eq_false_iff_ne.mpr ?_
  rintro rfl
  unfold touched at ht
  split at ht <;> simp [hk] at ht

theorem conv_writes_next_version (v : Nat) (f : Dict → Option Dict) (d d' : Dict)
    (hf : conv v = some f) (h : f d = some d') : dget d' (s "version") = some (.int (v + 1)) := by
  rw [conv_body v f d d' _ hf h (touched_ne v "version" (by simp))]
  exact dget_dset_same _ _ _

theorem conv_frame (v : Nat) (f : Dict → Option Dict) (d d' : Dict) (m : Bytes)
    (hf : conv v = some f) (h : f d = some d') (hv : (s "version" == m) = false)
    (hm : ∀ t ∈ touched v, (t == m) = false) : dget d' m = dget d m := by
  rw [conv_body v f d d' m hf h hm]; exact dget_dset_ne _ _ _ _ (ne_of_beq_false hv)

/-- a key that is neither `version` nor named in `touched` passes through every converter -/
private theorem conv_keeps (k : String) (hv : "version" ≠ k)
    (hk : k ∉ ["client_conn", "server_conn", "websocket", "marked", "comment", "response", "timestamp_created", "mode"])
    {v : Nat} {f : Dict → Option Dict} {d d' : Dict} (hf : conv v = some f) (h : f d = some d') :
    dget d' (s k) = dget d (s k) :=
  conv_frame v f d d' _ hf h (by simpa using hv) (touched_ne v k hk)

/-- None of the modelled converters changes anything under `request`
    (method, host, port, path, headers, body, timestamps …) — nor under `id`, `type`, `error`, `intercepted`. -/
theorem request_preserved (v : Nat) (f : Dict → Option Dict) (d d' : Dict)
    (hf : conv v = some f) (h : f d = some d') :
    dget d' (s "request") = dget d (s "request") ∧ dget d' (s "id") = dget d (s "id") ∧
    dget d' (s "type") = dget d (s "type") ∧ dget d' (s "error") = dget d (s "error") ∧
    dget d' (s "intercepted") = dget d (s "intercepted") :=
  ⟨conv_keeps "request" (by simp) (by simp) hf h, conv_keeps "id" (by simp) (by simp) hf h,
    conv_keeps "type" (by simp) (by simp) hf h, conv_keeps "error" (by simp) (by simp) hf h,
    conv_keeps "intercepted" (by simp) (by simp) hf h⟩

/-- Only 13→14 may touch `response`. -/
theorem response_preserved_except_13 (v : Nat) (f : Dict → Option Dict) (d d' : Dict) (hv : v ≠ 13)
    (hf : conv v = some f) (h : f d = some d') : dget d' (s "response") = dget d (s "response") := by
  refine conv_frame v f d d' _ hf h (by simp) fun t ht => beq_eq_false_iff_ne.mpr ?_
  rintro rfl
  unfold touched at ht
  split at ht <;> first | exact absurd rfl hv | simp at ht

/-- 12→13: the boolean `marked` becomes the marker string: `":default:"` iff it was truthy. -/
theorem marked_migration (d d' : Dict) (m : Value) (hm : dget d (s "marked") = some m)
    (h : conv_12_13 d = some d') :
    dget d' (s "marked") = some (.str (if truthy m then s ":default:" else [])) ∧
    dget d' (s "version") = some (.int 13) := by
  rw [conv_12_13_eq d m hm] at h
  cases h
  simp [setVersion]

/-- 16→17: the top-level `mode` goes; 17→18 gives the client record a `proxy_mode` in its stead (`proxy_mode_added`). -/
theorem mode_dropped (d d' : Dict) (h : conv_16_17 d = some d') : dget d' (s "mode") = none := by
  cases h; exact dget_dpop_same _ _

theorem version_written_16_17 (d d' : Dict) (h : conv_16_17 d = some d') :
    dget d' (s "version") = some (.int 17) := by
  cases h; simp [setVersion]

/-- 17→18: the client connection gains `proxy_mode = "regular"`; its other fields stay. -/
theorem proxy_mode_added (d d' : Dict) (h : conv_17_18 d = some d') :
    ∃ c c', dget d (s "client_conn") = some (.dict c) ∧ dget d' (s "client_conn") = some (.dict c') ∧
      dget c' (s "proxy_mode") = some (.str (s "regular")) ∧
      ∀ m, (s "proxy_mode" == m) = false → dget c' m = dget c m := by
  obtain ⟨c, c', h1, h2, h3⟩ := dupd_spec _ _ _ _ h
  cases h2
  exact ⟨c, _, by simpa [setVersion] using h1, h3, dget_dset_same _ _ _,
    fun m hm => dget_dset_ne _ _ _ _ (ne_of_beq_false hm)⟩

/-- 19→20: both connections lose `state`, and nothing else. -/
theorem state_dropped (d d' : Dict) (h : conv_19_20 d = some d') :
    ∃ c c' sc sc', dget d (s "client_conn") = some (.dict c) ∧ dget d' (s "client_conn") = some (.dict c') ∧
      dget d (s "server_conn") = some (.dict sc) ∧ dget d' (s "server_conn") = some (.dict sc') ∧
      dget c' (s "state") = none ∧ dget sc' (s "state") = none ∧
      (∀ m, (s "state" == m) = false → dget c' m = dget c m ∧ dget sc' m = dget sc m) := by
  unfold conv_19_20 at h
  simp only [Option.bind_eq_bind, Option.bind_eq_some_iff] at h
  obtain ⟨d1, hd1, h⟩ := h
  obtain ⟨c, c', h1, h2, h3⟩ := dupd_spec _ _ _ _ hd1
  obtain ⟨sc, sc', g1, g2, g3⟩ := dupd_spec _ _ _ _ h
  cases h2
  cases g2
  rw [dget_dupd_ne _ _ _ _ _ (by simp) hd1] at g1
  refine ⟨c, _, sc, _, by simpa [setVersion] using h1, ?_, by simpa [setVersion] using g1, g3, dget_dpop_same _ _,
    dget_dpop_same _ _, fun m hm => ⟨dget_dpop_ne _ _ _ (ne_of_beq_false hm), dget_dpop_ne _ _ _ (ne_of_beq_false hm)⟩⟩
  rw [dget_dupd_ne _ _ _ _ _ (by simp) h]; exact h3

/-- 15→16: `timestamp_created` is the request's `timestamp_start` when there is a request. -/
theorem timestamp_created_from_request (d d' : Dict) (r : Dict) (hr : dget d (s "request") = some (.dict r))
    (h : conv_15_16 d = some d') : dget d' (s "timestamp_created") = dget r (s "timestamp_start") := by
  cases hts : dget r (s "timestamp_start") with
  | none => simp [conv_15_16, setVersion, hr, asDict, hts] at h
  | some ts => rw [conv_15_16_eq d r ts hr hts] at h; cases h; exact dget_dset_same _ _ _

/-- 18→19 rewrites exactly the two connection records, each by its own function. -/
theorem conv_18_19_spec (d d' : Dict) (h : conv_18_19 d = some d') :
    ∃ cc sc cc' sc', dget d (s "client_conn") = some (.dict cc) ∧ dget d (s "server_conn") = some (.dict sc) ∧
      client18 cc = some cc' ∧ server18 sc = some sc' ∧
      dget d' (s "client_conn") = some (.dict cc') ∧ dget d' (s "server_conn") = some (.dict sc') := by
  unfold conv_18_19 at h
  simp only [Option.bind_eq_bind, Option.bind_eq_some_iff, Option.pure_def, Option.some.injEq] at h
  obtain ⟨cc, ⟨vc, hvc, hcc⟩, sc, ⟨vs, hvs, hsc⟩, cc', hcc', sc', hsc', rfl⟩ := h
  cases vc <;> cases hcc
  cases vs <;> cases hsc
  exact ⟨_, _, cc', sc', by simpa [setVersion] using hvc, by simpa [setVersion] using hvs, hcc', hsc', by simp, by simp⟩

/-- In the client record only the named fields move; `sni`, `alpn`, `id`, `proxy_mode`,
    `timestamp_end`, `certificate_list`, `tls_version` … are what they were. -/
theorem client_frame_18_19 (cc cc' : Dict) (m : Bytes) (h : client18 cc = some cc')
    (h0 : (s "tls_extensions" == m) = false) (h00 : (s "timestamp_start" == m) = false)
    (h1 : (s "tls_established" == m) = false) (h2 : (s "cipher_name" == m) = false)
    (h3 : (s "cipher" == m) = false) (h4 : (s "transport_protocol" == m) = false)
    (h5 : (s "peername" == m) = false) (h6 : (s "sockname" == m) = false) (h7 : (s "address" == m) = false) :
    dget cc' m = dget cc m := by
  simp only [beq_eq_false_iff_ne] at h0 h00 h1 h2 h3 h4 h5 h6 h7
  rw [conn18_frame _ _ m (client18_conn cc cc' h).2 h1 h2 h3 h4 h5 h6 h7, dget_dpop_ne _ _ _ h0, client18pre,
    dget_tsDefault_ne _ _ h00, dget_rename_ne _ _ _ _ h7 h5]

/-- The client record loses `tls_extensions`, `tls_established`, `cipher_name`; `cipher` is
    the old `cipher_name`; there is a transport protocol. -/
theorem client_renames_18_19 (cc cc' : Dict) (h : client18 cc = some cc') :
    dget cc' (s "tls_extensions") = none ∧ dget cc' (s "tls_established") = none ∧ dget cc' (s "cipher_name") = none ∧
    dget cc' (s "cipher") = some ((dget cc (s "cipher_name")).getD .null) ∧
    (dget cc' (s "transport_protocol")).isSome = true := by
  obtain ⟨_, hc⟩ := client18_conn cc cc' h
  obtain ⟨a, b, c, e⟩ := conn18_renames _ _ hc
  exact ⟨by simp [conn18_frame _ _ _ hc], a, b, by simp [c, client18pre], e⟩

/-- In the server record only the named fields move. -/
theorem server_frame_18_19 (sc sc' : Dict) (m : Bytes) (h : server18 sc = some sc')
    (g1 : (s "ip_address" == m) = false) (g2 : (s "source_address" == m) = false) (g3 : (s "via2" == m) = false)
    (g4 : (s "via" == m) = false) (g5 : (s "sni" == m) = false)
    (h1 : (s "tls_established" == m) = false) (h2 : (s "cipher_name" == m) = false)
    (h3 : (s "cipher" == m) = false) (h4 : (s "transport_protocol" == m) = false)
    (h5 : (s "peername" == m) = false) (h6 : (s "sockname" == m) = false) (h7 : (s "address" == m) = false) :
    dget sc' m = dget sc m := by
  simp only [beq_eq_false_iff_ne] at g1 g2 g3 g4 g5 h1 h2 h3 h4 h5 h6 h7
  rw [server18_frame_pre sc sc' m h g5 h1 h2 h3 h4 h5 h6 h7, server18pre, dget_rename_ne _ _ _ _ g3 g4,
    dget_rename_ne _ _ _ _ g2 h6, dget_rename_ne _ _ _ _ g1 h5]

/-- `via` is the old `via2` (it is not a host pair, so no decode touches it). -/
theorem server_renames_18_19 (sc sc' : Dict) (h : server18 sc = some sc') :
    dget sc' (s "via") = some ((dget sc (s "via2")).getD .null) ∧ dget sc' (s "via2") = none ∧
    dget sc' (s "ip_address") = none ∧ dget sc' (s "source_address") = none ∧
    dget sc' (s "tls_established") = none := by
  obtain ⟨c1, hc1, h'⟩ := server18_conn sc sc' h
  refine ⟨?_, ?_, ?_, ?_, by rw [sniFix_frame _ _ _ h' (by simp)]; exact (conn18_renames _ _ hc1).1⟩ <;>
    simp [server18_frame_pre sc sc' _ h, server18pre, rename]

/-- `sni = True` ("use the server address") on a connection whose address is unset or
    empty becomes "no server name" — the step does not fail (/repo 9d000c6e4, recorded in known/C38.json: before it
    `address[0]` raised on such a record). -/
theorem sni_true_without_destination (sc : Dict) (a : Value) (h1 : dget sc (s "sni") = some (.bool true))
    (h2 : dget sc (s "address") = some a) (h3 : truthy a = false) :
    sniFix sc = some (dset sc (s "sni") .null) := by
  unfold sniFix
  simp [h1, h2, h3]

/-- … and with an address pair it becomes that pair's host. -/
theorem sni_true_with_destination (sc : Dict) (h : Value) (rest : List Value) (h1 : dget sc (s "sni") = some (.bool true))
    (h2 : dget sc (s "address") = some (.list (h :: rest))) : sniFix sc = some (dset sc (s "sni") h) := by
  unfold sniFix
  simp [h1, h2, truthy, firstOf]

/-- (also for `host_decode_ascii` below) A host name recorded as valid UTF-8 bytes (in particular ASCII)
    is the same text after the decode; an undecodable byte becomes the four characters `\xNN` (`bsrCp_escape`). -/
theorem host_decode_valid_utf8 (b : Bytes) (h : ∀ cp ∈ MitmVerif.C35.native b, ¬ (0xDC80 ≤ cp ∧ cp ≤ 0xDCFF)) :
    bsrUtf8 b = b := bsrUtf8_valid b h

theorem host_decode_ascii (b : Bytes) (h : ∀ c ∈ b, c.toNat < 0x80) : bsrUtf8 b = b := bsrUtf8_ascii b h

/-- Whatever bytes an old file holds as a host name, what 18→19 puts in their place is a str:
    valid UTF-8 (so the migrated flow can be saved again and read back by `tnetstring`, whose str payloads are strict). -/
theorem host_decode_is_str (b : Bytes) : utf8Valid (bsrUtf8 b) = true := bsrUtf8_output_valid b

theorem host_decode_escape (n : Nat) (h : 0x80 ≤ n ∧ n ≤ 0xFF) :
    bsrCp (0xDC00 + n) = [0x5c, 0x78, hexd (n / 16), hexd (n % 16)] := bsrCp_escape n h

def touchedOld : Nat → List Bytes
  | 5 => [s "client_conn", s "server_conn"]
  | 6 => [s "client_conn"]
  | 7 => [s "request", s "response"]
  | 8 => [s "request", s "response", s "is_replay"]
  | 9 => [s "client_conn", s "server_conn"]
  | _ => []

/-- An older converter leaves every key it does not assign as the version stamp left it. -/
theorem convOld_body (v : Nat) (f : Dict → Option Dict) (d d' : Dict) (m : Bytes)
    (hf : convOld v = some f) (h : f d = some d') (hm : ∀ t ∈ touchedOld v, (t == m) = false) :
    dget d' m = dget (setVersion d (v + 1)) m := by
  have hm' : ∀ t ∈ touchedOld v, t ≠ m := fun t ht => ne_of_beq_false (hm t ht)
  unfold convOld at hf
  split at hf <;> cases hf
  · exact body_o5 h m hm'
  · exact body_o6 h m hm'
  · exact body_o7 h m hm'
  · exact body_o8 h m hm'
  · exact body_o9 h m hm'

private theorem touchedOld_ne (v : Nat) (k : String)
    (hk : k ∉ ["client_conn", "server_conn", "request", "response", "is_replay"]) :
    ∀ t ∈ touchedOld v, (t == s k) = false := by
  simp only [List.mem_cons, List.not_mem_nil, or_false, not_or] at hk
  refine fun t ht => beq_eq_false_iff_ne.mpr ?_
  rintro rfl
  unfold touchedOld at ht
  split at ht <;> simp [hk] at ht

theorem convOld_writes_next_version (v : Nat) (f : Dict → Option Dict) (d d' : Dict)
    (hf : convOld v = some f) (h : f d = some d') : dget d' (s "version") = some (.int (v + 1)) := by
  rw [convOld_body v f d d' _ hf h (touchedOld_ne v "version" (by simp))]
  exact dget_dset_same _ _ _

theorem convOld_frame (v : Nat) (f : Dict → Option Dict) (d d' : Dict) (m : Bytes)
    (hf : convOld v = some f) (h : f d = some d') (hv : (s "version" == m) = false)
    (hm : ∀ t ∈ touchedOld v, (t == m) = false) : dget d' m = dget d m := by
  rw [convOld_body v f d d' m hf h hm]; exact dget_dset_ne _ _ _ _ (ne_of_beq_false hv)

/-- a key that is neither `version` nor named in `touchedOld` passes through every older converter -/
private theorem convOld_keeps (k : String) (hv : "version" ≠ k)
    (hk : k ∉ ["client_conn", "server_conn", "request", "response", "is_replay"])
    {v : Nat} {f : Dict → Option Dict} {d d' : Dict} (hf : convOld v = some f) (h : f d = some d') :
    dget d' (s k) = dget d (s k) :=
  convOld_frame v f d d' _ hf h (by simpa using hv) (touchedOld_ne v k hk)

/-- `id`, `type`, `error`, `intercepted` pass through every older converter. -/
theorem old_identity_preserved (v : Nat) (f : Dict → Option Dict) (d d' : Dict)
    (hf : convOld v = some f) (h : f d = some d') :
    dget d' (s "id") = dget d (s "id") ∧ dget d' (s "type") = dget d (s "type") ∧
    dget d' (s "error") = dget d (s "error") ∧ dget d' (s "intercepted") = dget d (s "intercepted") :=
  ⟨convOld_keeps "id" (by simp) (by simp) hf h, convOld_keeps "type" (by simp) (by simp) hf h,
    convOld_keeps "error" (by simp) (by simp) hf h, convOld_keeps "intercepted" (by simp) (by simp) hf h⟩

/-- Only 7→8 and 8→9 touch the request. -/
theorem old_request_preserved (v : Nat) (f : Dict → Option Dict) (d d' : Dict) (h7 : v ≠ 7) (h8 : v ≠ 8)
    (hf : convOld v = some f) (h : f d = some d') : dget d' (s "request") = dget d (s "request") := by
  refine convOld_frame v f d d' _ hf h (by simp) fun t ht => beq_eq_false_iff_ne.mpr ?_
  rintro rfl
  unfold touchedOld at ht
  split at ht <;> first | exact absurd rfl h7 | exact absurd rfl h8 | simp at ht

/-- 8→9 removes `first_line_format` and `is_replay` from the request and gives it an empty
    `authority`; method, scheme, host, port, path, headers, content, timestamps are what they were. -/
theorem request_fields_8_9 (d d' : Dict) (r : Dict) (hr : dget d (s "request") = some (.dict r))
    (h : conv_8_9 d = some d') :
    ∃ r', dget d' (s "request") = some (.dict r') ∧ dget r' (s "first_line_format") = none ∧
      dget r' (s "is_replay") = none ∧ dget r' (s "authority") = some (.bytes []) ∧
      ∀ m, (s "first_line_format" == m) = false → (s "is_replay" == m) = false → (s "authority" == m) = false →
        dget r' m = dget r m := by
  unfold conv_8_9 at h
  simp only [Option.bind_eq_bind, Option.bind_eq_some_iff, Option.pure_def, Option.some.injEq] at h
  obtain ⟨⟨d1, rq⟩, h1, ⟨d2, rs⟩, h2, rfl⟩ := h
  obtain ⟨r', e1, a, b, c, fr⟩ := req89_fields _ _ _ r h1 (by simpa [setVersion] using hr)
  refine ⟨r', ?_, a, b, c, fun m x y z => fr m (ne_of_beq_false x) (ne_of_beq_false y) (ne_of_beq_false z)⟩
  rw [dget_dset_ne _ _ _ _ (by simp), resp89_off (List.mem_singleton_self _) h2 _ (by simp)]
  exact e1

/-- 7→8 gives an existing request `trailers = None` and moves nothing else in it. -/
theorem trailers_added_7_8 (d d' : Dict) (r : Dict) (hr : dget d (s "request") = some (.dict r))
    (h : conv_7_8 d = some d') :
    ∃ r', dget d' (s "request") = some (.dict r') ∧ dget r' (s "trailers") = some .null ∧
      ∀ m, (s "trailers" == m) = false → dget r' m = dget r m := by
  have hr' : dget (setVersion d 8) (s "request") = some (.dict r) := by simpa [setVersion] using hr
  simp only [conv_7_8, Option.bind_eq_some_iff, trailersNull, hr', Option.some.injEq] at h
  obtain ⟨d1, rfl, h⟩ := h
  refine ⟨_, ?_, dget_dset_same _ _ _, fun m hm => dget_dset_ne _ _ _ _ (ne_of_beq_false hm)⟩
  rw [trailersNull_off (List.mem_singleton_self _) h _ (by simp)]; exact dget_dset_same _ _ _

/-- In the client record `ssl_established`/`timestamp_ssl_setup` become
    `tls_established`/`timestamp_tls_setup` with their values; every other field stays. -/
theorem tls_renamed_5_6 (c c' : Dict) (h : sslToTls c = some c') :
    dget c' (s "tls_established") = dget c (s "ssl_established") ∧
    dget c' (s "timestamp_tls_setup") = dget c (s "timestamp_ssl_setup") ∧
    dget c' (s "ssl_established") = none ∧ dget c' (s "timestamp_ssl_setup") = none ∧
    ∀ m, (s "ssl_established" == m) = false → (s "tls_established" == m) = false →
      (s "timestamp_ssl_setup" == m) = false → (s "timestamp_tls_setup" == m) = false → dget c' m = dget c m := by
  unfold sslToTls at h
  simp only [Option.bind_eq_some_iff] at h
  obtain ⟨c1, h1, h2⟩ := h
  obtain ⟨a1, a2⟩ := renameStrict_spec _ _ _ _ h1 (by simp)
  obtain ⟨b1, b2⟩ := renameStrict_spec _ _ _ _ h2 (by simp)
  refine ⟨?_, ?_, ?_, b2, ?_⟩
  · rw [renameStrict_frame _ _ _ _ _ h2 (by simp) (by simp)]; exact a1
  · rw [b1, renameStrict_frame _ _ _ _ _ h1 (by simp) (by simp)]
  · rw [renameStrict_frame _ _ _ _ _ h2 (by simp) (by simp)]; exact a2
  · intro m x1 x2 x3 x4
    rw [renameStrict_frame _ _ _ _ _ h2 (ne_of_beq_false x3) (ne_of_beq_false x4),
      renameStrict_frame _ _ _ _ _ h1 (ne_of_beq_false x1) (ne_of_beq_false x2)]

-- non-vacuity: a format-8 record with a request runs through 8→9 and 9→10
example :
    let req : Value := .dict [(.str (s "first_line_format"), .str (s "relative")), (.str (s "path"), .bytes (s "/x"))]
    let conn : Value := .dict [(.str (s "tls_established"), .bool true), (.str (s "alpn_proto_negotiated"), .bytes (s "h2")),
                               (.str (s "cipher_name"), .null), (.str (s "via"), .null)]
    let d : Dict := [(.str (s "version"), .int 8), (.str (s "request"), req), (.str (s "response"), .null),
                     (.str (s "client_conn"), conn), (.str (s "server_conn"), conn)]
    ((conv_8_9 d).bind conv_9_10).isSome = true := by decide +kernel

/-! #### the converters with process-global tables: 11→12 (`_websocket_handshakes`) and 4→5 (connection ids) -/

/-- the table keys a format-11 record may write or consume: its own id if it is a handshake flow, the id it names if it
    is an old websocket flow -/
def keysTouched (d : Dict) : List Bytes :=
  match (dget d (s "metadata")).bind asDict with
  | none => []
  | some md =>
    (if dhas md (s "websocket") then (match dget d (s "id") with | some id => [enc id] | none => []) else []) ++
    (match dget md (s "websocket_handshake") with | some hid => [enc hid] | none => [])

/-- Converting a record changes the handshake table at most under the keys that record names. -/
theorem table_frame_11_12 (g g' : Tbl Dict) (d d' : Dict) (m : Bytes) (h : conv_11_12_st g d = some (g', d'))
    (hm : ∀ k ∈ keysTouched d, (k == m) = false) : tget g' m = tget g m := by
  obtain ⟨md, g1, hmd, hst, hc⟩ := conv_11_12_st_cases g g' d d' h
  simp only [keysTouched, hmd] at hm
  -- the table changes where a handshake flow is stored under its id …
  have e1 : tget g1 m = tget g m := by
    split at hst
    · next hw =>
      obtain ⟨id, hid, rfl⟩ := hst
      exact tget_tset_ne _ _ _ _ (hm _ (by simp [hw, hid]))
    · rw [hst]
  -- … and where a named handshake is taken off it
  split at hc
  · rw [hc.1]; exact e1
  · next hid hhid =>
    obtain ⟨_, _, _, ⟨-, rfl⟩ | ⟨-, -, rfl⟩, -⟩ := hc
    · rw [tget_tdel_ne _ _ _ (hm _ (by simp [hhid]))]; exact e1
    · exact e1

/-- the table after a run of records all of which convert -/
def runTbl (g : Tbl Dict) : List Dict → Option (Tbl Dict)
  | [] => some g
  | d :: ds => (conv_11_12_st g d).bind (fun r => runTbl r.1 ds)

/-- Whatever is on record under a key stays there, unchanged, through any run of records that
    do not name that key — however many, of whatever kind. -/
theorem stored_until_consumed (ds : List Dict) (g g' : Tbl Dict) (m : Bytes) (h : runTbl g ds = some g')
    (hm : ∀ d ∈ ds, ∀ k ∈ keysTouched d, (k == m) = false) : tget g' m = tget g m := by
  induction ds generalizing g with
  | nil => simp only [runTbl, Option.some.injEq] at h; subst h; rfl
  | cons d ds ih =>
    simp only [runTbl, Option.bind_eq_some_iff] at h
    obtain ⟨⟨g1, d1⟩, h1, h2⟩ := h
    rw [ih g1 h2 (fun d' hd' => hm d' (List.mem_cons_of_mem _ hd')),
      table_frame_11_12 g g1 d d1 m h1 (hm d (List.mem_cons_self ..))]

/-- A record without websocket metadata neither reads nor writes the table, and the stateful
    converter is the stateless `conv_11_12` on it. -/
theorem plain_is_stateless (g : Tbl Dict) (d md : Dict) (hmd : (dget d (s "metadata")).bind asDict = some md)
    (h1 : dhas md (s "websocket") = false) (h2 : dhas md (s "websocket_handshake") = false) :
    conv_11_12_st g d = some (g, dset (setVersion d 12) (s "websocket") .null) ∧
    conv_11_12 d = some (dset (setVersion d 12) (s "websocket") .null) := by
  rw [← dget_setVersion_ne d 12 _ (by simp)] at hmd
  constructor
  · simp [conv_11_12_st, hmd, conv1112Store, h1, h2]
  · simp [conv_11_12, hmd, h1, h2]

/-- A handshake flow is put on record under its id as it is after the version stamp, and is
    itself converted like a plain record. -/
theorem handshake_stored (g : Tbl Dict) (d md : Dict) (id : Value)
    (hmd : (dget d (s "metadata")).bind asDict = some md)
    (h1 : dhas md (s "websocket") = true) (h2 : dhas md (s "websocket_handshake") = false)
    (hid : dget d (s "id") = some id) (hh : hashable id = true) :
    conv_11_12_st g d = some (tset g (enc id) (setVersion d 12), dset (setVersion d 12) (s "websocket") .null) := by
  rw [← dget_setVersion_ne d 12 _ (by simp)] at hmd hid
  simp [conv_11_12_st, hmd, conv1112Store, h1, h2, hid, hh]

/-- An old websocket flow naming a handshake that is on record comes out as THAT flow
    (id, request, response, connections … are the handshake's), gains the `duplicated` note and a `websocket` record
    with the old flow's messages; the handshake is consumed. -/
theorem ws_takes_stored_handshake (g g' : Tbl Dict) (d d' md hflow : Dict) (hid : Value)
    (hmd : (dget d (s "metadata")).bind asDict = some md) (h1 : dhas md (s "websocket") = false)
    (hh : dget md (s "websocket_handshake") = some hid) (hstored : tget g (enc hid) = some hflow)
    (h : conv_11_12_st g d = some (g', d')) :
    tget g' (enc hid) = none ∧
    (∀ m, (s "metadata" == m) = false → (s "websocket" == m) = false → dget d' m = dget hflow m) ∧
    ∃ rec_, dget d' (s "websocket") = some (.dict rec_) ∧ dget rec_ (s "messages") = dget d (s "messages") ∧
      dget rec_ (s "close_code") = dget d (s "close_code") := by
  obtain ⟨md', g1, hmd', hst, hc⟩ := conv_11_12_st_cases g g' d d' h
  rw [hmd] at hmd'
  cases hmd'
  rw [h1] at hst
  rw [hh] at hc
  obtain rfl : g1 = g := hst
  obtain ⟨data, dmd, rec_, hsel, hrec, rfl⟩ := hc
  rw [hstored] at hsel
  rcases hsel with ⟨hd, rfl⟩ | ⟨hn, _⟩
  · cases hd
    refine ⟨tget_tdel_same _ _, fun m a b => ?_, ?_⟩
    · rw [dget_dset_ne _ _ _ _ (ne_of_beq_false b), dget_dset_ne _ _ _ _ (ne_of_beq_false a)]
    · simp only [wsRecord, Option.bind_eq_bind, Option.bind_eq_some_iff, Option.pure_def, Option.some.injEq] at hrec
      obtain ⟨msgs, hmsgs, cs, _, cc, hcc, cr, _, te, _, rfl⟩ := hrec
      rw [dget_setVersion_ne d _ _ (by simp)] at hmsgs hcc
      exact ⟨_, dget_dset_same _ _ _, by simp [hmsgs], by simp [hcc]⟩
  · cases hn

/-- With no handshake on record the old websocket flow becomes the made-up flow: its own
    id and connections, the placeholder request for host `unknown`; the table is as it was. -/
theorem ws_without_handshake_dummy (g g' : Tbl Dict) (d d' md : Dict) (hid : Value)
    (hmd : (dget d (s "metadata")).bind asDict = some md) (h1 : dhas md (s "websocket") = false)
    (hh : dget md (s "websocket_handshake") = some hid) (hstored : tget g (enc hid) = none)
    (h : conv_11_12_st g d = some (g', d')) :
    g' = g ∧ dget d' (s "request") = some dummyRequest ∧ dget d' (s "id") = dget d (s "id") ∧
    dget d' (s "client_conn") = dget d (s "client_conn") ∧ dget d' (s "server_conn") = dget d (s "server_conn") ∧
    dget d' (s "version") = some (.int 12) := by
  obtain ⟨md', g1, hmd', hst, hc⟩ := conv_11_12_st_cases g g' d d' h
  rw [hmd] at hmd'
  cases hmd'
  rw [h1] at hst
  rw [hh] at hc
  obtain rfl : g1 = g := hst
  obtain ⟨data, dmd, rec_, hsel, -, rfl⟩ := hc
  rw [hstored] at hsel
  obtain ⟨hd, -⟩ | ⟨-, hdf, rfl⟩ := hsel
  · cases hd
  simp only [dummyFlow, Option.bind_eq_bind, Option.bind_eq_some_iff, Option.pure_def, Option.some.injEq] at hdf
  obtain ⟨cc, hcc, er, _, id, hid', ic, _, ir, _, mk, _, sc, hsc, rfl⟩ := hdf
  rw [dget_setVersion_ne d _ _ (by simp)] at hcc hid' hsc
  simp [hcc, hid', hsc]

/-- Whatever id a connection key has on record, it keeps through the conversion of any further
    record (setdefault never overwrites), and the id supply only moves forward. -/
theorem ids_stable_4_5 (fresh : Nat → Value) (g g' : Ids) (d d' : Dict) (h : conv_4_5_st fresh g d = some (g', d')) :
    (∀ k v, tget g.client k = some v → tget g'.client k = some v) ∧
    (∀ k v, tget g.server k = some v → tget g'.server k = some v) ∧ g.drawn < g'.drawn := by
  obtain ⟨_, _, _, -, -, hc, -, hs, hd⟩ := conv_4_5_st_cases fresh g g' d d' h
  refine ⟨fun k v hk => hc ▸ setdefault_mono _ _ _ _ _ hk, fun k v hk => ?_, hd⟩
  -- setdefault never overwrites
  obtain hs | ⟨_, hs⟩ := hs <;> rw [hs]
  · exact setdefault_mono _ _ _ _ _ hk
  · exact setdefault_mono _ _ _ _ _ (setdefault_mono _ _ _ _ _ hk)

/-- a run of format-4 records through 4→5 -/
def runIds (fresh : Nat → Value) (g : Ids) : List Dict → Option (Ids × List Dict)
  | [] => some (g, [])
  | d :: ds => (conv_4_5_st fresh g d).bind (fun r => (runIds fresh r.1 ds).map (fun q => (q.1, r.2 :: q.2)))

/-- … through any number of records. -/
theorem ids_stable_over_run (fresh : Nat → Value) (ds : List Dict) (g g' : Ids) (out : List Dict)
    (h : runIds fresh g ds = some (g', out)) :
    (∀ k v, tget g.client k = some v → tget g'.client k = some v) ∧
    (∀ k v, tget g.server k = some v → tget g'.server k = some v) ∧ g.drawn ≤ g'.drawn := by
  induction ds generalizing g out with
  | nil => simp only [runIds, Option.some.injEq, Prod.mk.injEq] at h; obtain ⟨rfl, _⟩ := h; exact ⟨fun _ _ h => h, fun _ _ h => h, Nat.le_refl _⟩
  | cons d ds ih =>
    simp only [runIds, Option.bind_eq_some_iff, Option.map_eq_some_iff, Prod.mk.injEq] at h
    obtain ⟨⟨g1, d1⟩, h1, ⟨g2, o2⟩, h2, rfl, _⟩ := h
    obtain ⟨a1, a2, a3⟩ := ids_stable_4_5 fresh g g1 d d1 h1
    obtain ⟨b1, b2, b3⟩ := ih g1 o2 h2
    exact ⟨fun k v hk => b1 k v (a1 k v hk), fun k v hk => b2 k v (a2 k v hk), by omega⟩

/-- The id written into the client connection is the one on record for its key after the
    step — the recorded one if the key was known, else the id just drawn. -/
theorem client_id_is_recorded_id (fresh : Nat → Value) (g g' : Ids) (d d' : Dict)
    (h : conv_4_5_st fresh g d = some (g', d')) :
    ∃ cc ck cc', dget d (s "client_conn") = some (.dict cc) ∧ connKey cc (s "address") = some ck ∧
      dget d' (s "client_conn") = some (.dict cc') ∧ dget cc' (s "id") = tget g'.client ck ∧
      (∀ old, tget g.client ck = some old → dget cc' (s "id") = some old) ∧
      (tget g.client ck = none → dget cc' (s "id") = some (fresh g.drawn)) := by
  obtain ⟨cc, ck, _, hcc, hck, hc, hd', -, -⟩ := conv_4_5_st_cases fresh g g' d d' h
  have hsp := setdefault_spec g.client ck (fresh g.drawn)
  refine ⟨cc, ck, _, hcc, hck, hd', ?_, ?_, ?_⟩
  · rw [dget_dset_same, hc]; exact (setdefault_result_recorded _ _ _).symm
  · intro old ho; rw [dget_dset_same, hsp.1 old ho]
  · intro hn; rw [dget_dset_same, (hsp.2 hn).1]

-- non-vacuity: handshake, then its websocket flow: the second comes out under the handshake's id; a third finds nothing
example :
    let conn : Value := .dict [(.str (s "timestamp_end"), .int 9)]
    let hs : Dict := [(.str (s "version"), .int 11), (.str (s "id"), .str (s "H")), (.str (s "metadata"), .dict [(.str (s "websocket"), .bool true)]),
                      (.str (s "server_conn"), conn)]
    let ws : Dict := [(.str (s "version"), .int 11), (.str (s "id"), .str (s "W")),
                      (.str (s "metadata"), .dict [(.str (s "websocket_handshake"), .str (s "H"))]),
                      (.str (s "messages"), .list []), (.str (s "close_sender"), .str (s "client")), (.str (s "close_code"), .int 1000),
                      (.str (s "close_reason"), .str []), (.str (s "client_conn"), conn), (.str (s "server_conn"), conn),
                      (.str (s "error"), .null), (.str (s "intercepted"), .bool false), (.str (s "is_replay"), .null), (.str (s "marked"), .bool false)]
    ((run1112 [] [hs, ws, ws]).2.map (fun o => (o.bind (fun d => dget d (s "id"))).map enc))
      = [some (enc (.str (s "H"))), some (enc (.str (s "H"))), some (enc (.str (s "W")))] ∧
    (run1112 [] [hs, ws, ws]).1.length = 0 := by decide +kernel

/-- the version value each of these converters writes (a tuple is stored as a list) -/
def tupleNext : Nat → Nat → Value
  | 0, 17 => .list [.int 0, .int 18] | 0, 18 => .list [.int 0, .int 19] | 0, 19 => .list [.int 1, .int 0, .int 0]
  | 1, 0 => .list [.int 2, .int 0, .int 0] | 2, 0 => .list [.int 3, .int 0, .int 0] | _, _ => .int 4

/-- Each modelled release-numbered converter stamps exactly its successor version. -/
theorem tuple_writes_next_version (a b : Nat) (f : Dict → Option Dict) (d d' : Dict)
    (hf : convTuple a b = some f) (h : f d = some d') : dget d' (s "version") = some (tupleNext a b) := by
  unfold convTuple at hf
  split at hf <;> cases hf
  case h_4 | h_5 => rw [off_conns h _ (by simp)]; exact dget_dset_same _ _ _
  -- the others are chains of steps that may fail, ending with the stamp
  all_goals
    simp only [conv_017_018, conv_018_019, conv_019_100, conv_300_4, Option.bind_eq_bind, Option.bind_eq_some_iff,
      Option.pure_def, Option.some.injEq] at h
    repeat obtain ⟨_, -, h⟩ := h
    subst_vars
    exact dget_dset_same _ _ _

/-- 1.0→2.0 (address records unwrapped), 2.0→3.0 (`mitmcert`, `tls_version` added) and 3.0→4 touch
    only the version and the two connection records: request, response, error, id, type, marked, metadata … stay. -/
theorem tuple_frame_1_2_3 (a : Nat) (f : Dict → Option Dict) (d d' : Dict) (m : Bytes) (ha : 1 ≤ a)
    (hf : convTuple a 0 = some f) (h : f d = some d') (hv : (s "version" == m) = false)
    (h2 : (s "client_conn" == m) = false) (h3 : (s "server_conn" == m) = false) : dget d' m = dget d m := by
  have hk : ∀ k ∈ [s "client_conn", s "server_conn"], k ≠ m := by simp [ne_of_beq_false h2, ne_of_beq_false h3]
  unfold convTuple at hf
  split at hf <;> cases hf
  · omega
  · omega
  · omega
  · rw [off_conns h m hk]; exact dget_dset_ne _ _ _ _ (ne_of_beq_false hv)
  · rw [off_conns h m hk]; exact dget_dset_ne _ _ _ _ (ne_of_beq_false hv)
  · cases h; exact dget_dset_ne _ _ _ _ (ne_of_beq_false hv)

-- non-vacuity: a 1.0 record (addresses wrapped in {"address": …, "use_ipv6": …}) through 1.0→2.0→3.0→4
example :
    let addr (h : String) (p : Int) : Value := .dict [(.str (s "address"), .list [.str (s h), .int p]), (.str (s "use_ipv6"), .bool false)]
    let cc : Value := .dict [(.str (s "address"), addr "127.0.0.1" 5)]
    let sc : Value := .dict [(.str (s "address"), addr "example.com" 443), (.str (s "source_address"), addr "10.0.0.1" 6),
                             (.str (s "ip_address"), .null), (.str (s "via"), .null)]
    let d : Dict := [(.str (s "version"), .list [.int 1, .int 0, .int 0]), (.str (s "client_conn"), cc), (.str (s "server_conn"), sc)]
    ((((conv_100_200 d).bind conv_200_300).bind conv_300_4).bind (fun d' => dget d' (s "version"))).map enc = some (enc (.int 4)) := by
  decide +kernel

/-- Each of the six oldest converters stamps `(0, minor + 1)` under the bytes key `version`. -/
theorem bytes_writes_next_version (minor : Nat) (f : Dict → Option Dict) (d d' : Dict)
    (hf : convBytes minor = some f) (h : f d = some d') :
    bget d' (s "version") = some (.list [.int 0, .int (minor + 1)]) := by
  unfold convBytes at hf
  split at hf <;> cases hf <;>
    simp only [conv_011_012, conv_012_013, conv_013_014, conv_014_015, conv_015_016, conv_016_017, Option.bind_eq_bind,
      Option.bind_eq_some_iff, Option.pure_def, Option.some.injEq] at h
  -- each of them is a chain of steps that may fail, ending with the stamp
  all_goals
    repeat obtain ⟨_, -, h⟩ := h
    subst_vars
    exact bget_bset_same _ _ _

/-- They touch nothing outside `version`, `request`, `response`, `server_conn`: the client connection,
    `error`, `id`, `type`, `intercepted` are what the file held. -/
theorem bytes_frame (minor : Nat) (f : Dict → Option Dict) (d d' : Dict) (m : Bytes)
    (hf : convBytes minor = some f) (h : f d = some d') (hv : (s "version" == m) = false)
    (h1 : (s "request" == m) = false) (h2 : (s "response" == m) = false) (h3 : (s "server_conn" == m) = false) :
    bget d' m = bget d m := by
  unfold convBytes at hf
  split at hf <;> cases hf
  · cases h; exact bget_bset_ne _ _ _ _ hv
  · cases h; exact bget_bset_ne _ _ _ _ hv
  · exact body_b13 d d' m h h1 h2 h3 hv
  · cases h; exact bget_bset_ne _ _ _ _ hv
  · exact body_b15 d d' m h h1 h2 hv
  · exact body_b16 d d' m h h3 hv

-- 0.13→0.14 writes the version pair `[1, 1]` as the bytes `HTTP/` + this text
example : dotJoinInts [.int 1, .int 1] = some (s "1.1") ∧ dotJoinInts [.int 2, .int 0] = some (s "2.0") := by decide +kernel

-- non-vacuity: a 0.13 record runs through 0.13→0.14→0.15→0.16→0.17
example :
    let b (x : String) : Value := .bytes (s x)
    let req : Value := .dict [(b "form_in", b "relative"), (b "httpversion", .list [.int 1, .int 1]), (b "form_out", b "relative")]
    let resp : Value := .dict [(b "httpversion", .list [.int 1, .int 1]), (b "code", .int 200), (b "content", b "x"), (b "msg", b "OK")]
    let d : Dict := [(b "version", .list [.int 0, .int 13]), (b "request", req), (b "response", resp),
                     (b "server_conn", .dict [(b "state", .list [])])]
    (((((conv_013_014 d).bind conv_014_015).bind conv_015_016).bind conv_016_017).bind
      (fun d' => (bget d' (s "response")).bind asDict)).bind (fun r => bget r (s "reason")) |>.map enc
      = some (enc (b "OK")) := by decide +kernel

/-- a key of the regenerated converter graph as `migrate_flow` computes it from the stored version -/
def keyOfVer : Ver → VKey
  | .tup a b => .tup a b
  | .int n => .int n

/-- whether the composed model has a transcription for a key (does not depend on the state or the record) -/
def hasConv (k : VKey) : Bool :=
  match k with
  | .tup a b => decide (0 ≤ a) && decide (0 ≤ b) &&
      ((convTuple a.toNat b.toNat).isSome || (decide (a = 0) && (convBytes b.toNat).isSome))
  | .int n => decide (n = 4) || decide (n = 11) || (decide (0 ≤ n) && ((conv n.toNat).isSome || (convOld n.toNat).isSome))
  | .other => false

theorem convAny_isSome_iff (fresh : Nat → Value) (fadd : Bytes → Option Bytes) (st : MigSt) (k : VKey) (d : Dict) :
    (convAny fresh fadd st k d).isSome = hasConv k := by
  cases k with
  | other => rfl
  | tup a b =>
    simp only [convAny, hasConv]
    by_cases ha : 0 ≤ a <;> by_cases hb : 0 ≤ b <;> simp [ha, hb, Int.not_lt.mpr, Int.not_le.mp]
    cases convTuple a.toNat b.toNat <;> by_cases h0 : a = 0 <;> simp [h0]
    cases convBytes b.toNat <;> rfl
  | int n =>
    simp only [convAny, hasConv]
    by_cases h4 : n = 4
    · simp [h4]
    by_cases h11 : n = 11
    · simp [h11]
    by_cases h13 : n = 13
    · simp [h13, conv]
    by_cases hn : 0 ≤ n <;> simp [h4, h11, h13, hn, Int.not_lt.mpr, Int.not_le.mp]
    cases conv n.toNat <;> simp
    cases convOld n.toNat <;> rfl

/-- Every key of the converter graph REGENERATED from compat.py on this run has a
    Lean transcription in the composed model — a converter added to `compat.converters` without one breaks this proof. -/
theorem every_registered_converter_is_modelled : ∀ e ∈ graph, hasConv (keyOfVer e.1) = true := by decide +kernel

/-- … and conversely the composed model dispatches on nothing the source does not register (keys up to 40 / tuples up to 5.30). -/
theorem no_extra_converter :
    (∀ n : Fin 41, hasConv (.int n.val) = (lookup graph (.int n.val)).isSome) ∧
    (∀ a : Fin 6, ∀ b : Fin 31, hasConv (.tup a.val b.val) = (lookup graph (.tup a.val b.val)).isSome) := by
  decide +kernel

/-- Whenever the composed `migrate_flow` returns, the record carries the current version. -/
theorem migrateF_ends_at_current (fresh : Nat → Value) (fadd : Bytes → Option Bytes) (cur : Int) (f : Nat) (st st' : MigSt)
    (prev : Option VKey) (d d' : Dict) (h : migrateFlowF fresh fadd cur f st prev d = some (some (st', d'))) :
    versionKey d' = some (.int cur) := by
  -- along the loop: the only exit that returns a record is the one taken because it carries the current version
  fun_induction migrateFlowF fresh fadd cur f st prev d with
  | case3 f st prev d hk => cases h; exact hk
  | case7 f st prev d k hk hcur hp st1 d1 hc ih => exact ih h
  | _ => cases h

theorem migrate_ends_at_current (fresh : Nat → Value) (fadd : Bytes → Option Bytes) (cur : Int) (f : Nat) (st st' : MigSt) (prev : Option VKey)
    (d d' : Dict) (h : migrateFlow fresh fadd cur f st prev d = some (st', d')) : versionKey d' = some (.int cur) :=
  migrateF_ends_at_current fresh fadd cur f st st' prev d d' (Option.join_eq_some_iff.mp h)

/-- Fuel only matters until the loop has ended: once the model gives an answer — returned or
    raised — with fuel `f`, it gives the same answer with any larger fuel.  So running out of fuel (outer `none`, which the
    driver prints as `diverged`) can never be mistaken for an exception, and an answer never depends on the constant chosen. -/
theorem migrate_fuel_irrelevant (fresh : Nat → Value) (fadd : Bytes → Option Bytes) (cur : Int) (f k : Nat) (st : MigSt)
    (prev : Option VKey) (d : Dict) (r : Option (MigSt × Dict)) (h : migrateFlowF fresh fadd cur f st prev d = some r) :
    migrateFlowF fresh fadd cur (f + k) st prev d = some r := by
  fun_induction migrateFlowF fresh fadd cur f st prev d with
  | case1 => cases h
  | case7 f st prev d kk hk hcur hp st1 d1 hc ih =>
    rw [Nat.succ_add, migrateFlowF]; simp only [hk, hcur, hp, hc, if_false]; exact ih h
  -- a turn that ends the loop does not look at the fuel
  | _ => cases h; simp [Nat.succ_add, migrateFlowF, *]

/-- A record already at the current version is returned as it is, tables untouched. -/
theorem migrate_current_unchanged (fresh : Nat → Value) (fadd : Bytes → Option Bytes) (cur : Int) (f : Nat) (st : MigSt) (prev : Option VKey) (d : Dict)
    (h : versionKey d = some (.int cur)) : migrateFlow fresh fadd cur (f + 1) st prev d = some (st, d) := by
  simp [migrateFlow, migrateFlowF, h]

/-- What the composed loop reports as an exception is one of: no usable version value, a version
    with no converter (the graph-level `reject` says which message: `unknown_rejected`, `reject_update_iff`), the stale-version
    refusal, or a converter that raised — never silence: every turn either ends the loop or applies exactly one converter and
    goes on with the converted record. -/
theorem migrate_turn_cases (fresh : Nat → Value) (fadd : Bytes → Option Bytes) (cur : Int) (f : Nat) (st : MigSt) (prev : Option VKey) (d : Dict) :
    migrateFlowF fresh fadd cur (f + 1) st prev d = some none ∨
    migrateFlowF fresh fadd cur (f + 1) st prev d = some (some (st, d)) ∨
    ∃ k st' d', versionKey d = some k ∧ convAny fresh fadd st k d = some (some (st', d')) ∧
      migrateFlowF fresh fadd cur (f + 1) st prev d = migrateFlowF fresh fadd cur f st' (some k) d' := by
  rw [migrateFlowF]
  split
  · exact .inl rfl
  · next k hk =>
    split
    · exact .inr (.inl rfl)
    split
    · exact .inl rfl
    split
    · exact .inl rfl
    · exact .inl rfl
    · next st' d' hc => exact .inr (.inr ⟨k, st', d', hk, hc, rfl⟩)

/-- One turn of the composed loop on a record of an integer format 12 … 20 (no stale
    bytes `version` key) leaves request, id and type as they are and moves the version on by one — the loop invariant of
    "a record of a recent format comes out of migrate_flow with the request that was recorded". (Stated per turn; the
    whole-loop form needs "no converter introduces a bytes key", true of all of them but not proved here.) -/
theorem migrate_turn_keeps_request (fresh : Nat → Value) (fadd : Bytes → Option Bytes) (st st' : MigSt) (d d' : Dict) (n : Nat)
    (hn : 12 ≤ n ∧ n ≤ 20) (h : convAny fresh fadd st (.int n) d = some (some (st', d'))) :
    st' = st ∧ dget d' (s "request") = dget d (s "request") ∧ dget d' (s "id") = dget d (s "id") ∧
    dget d' (s "type") = dget d (s "type") ∧ dget d' (s "version") = some (.int (n + 1)) := by
  have h4 : ¬ ((n : Int) = 4) := by omega
  have h11 : ¬ ((n : Int) = 11) := by omega
  have hneg : ¬ ((n : Int) < 0) := by omega
  by_cases h13 : n = 13
  · -- 13→14 runs with the caller's `fadd`, not through `conv`
    subst h13
    simp [convAny] at h
    obtain ⟨hx, rfl⟩ := h
    refine ⟨rfl, ?_, ?_, ?_, ?_⟩ <;> rw [body_13F fadd hx _ (by simp)] <;> simp [setVersion]
  · have h13' : ¬ ((n : Int) = 13) := by omega
    obtain ⟨f, hc⟩ := Option.isSome_iff_exists.mp
      ((by decide : ∀ n ≤ 20, 12 ≤ n → (conv n).isSome = true) n hn.2 hn.1)
    simp only [convAny, h4, h11, h13', hneg, if_false, Int.toNat_natCast, hc, Option.orElse_some, Option.some.injEq,
      Option.map_eq_some_iff, Prod.mk.injEq] at h
    obtain ⟨x, hx, rfl, rfl⟩ := h
    obtain ⟨r1, r2, r3, _, _⟩ := request_preserved n f d _ hc hx
    exact ⟨rfl, r1, r2, r3, conv_writes_next_version n f d _ hc hx⟩

/-- A format-19 record whose two connection records are dicts carrying `tls_version` — what every
    release writing formats 19 and 20 stored — is converted by 19→20 and then by 20→21: the converters do not raise on it, and the
    result carries version 21. (The existence half of "loads" for the two most recent old formats; for format 12 see
    `format_12_records_load`; no theorem takes a record of a format below 12 all the way, see `level_note`.) -/
theorem format_19_20_records_convert (d cc sc : Dict) (tvc tvs : Value)
    (h1 : dget d (s "client_conn") = some (.dict cc)) (h2 : dget d (s "server_conn") = some (.dict sc))
    (h3 : dget cc (s "tls_version") = some tvc) (h4 : dget sc (s "tls_version") = some tvs) :
    ∃ d', chain19 d = some d' ∧ dget d' (s "version") = some (.int 21) := by
  obtain ⟨d', hd'⟩ : ∃ d', chain19 d = some d' := by
    simp [chain19, conv_19_20, conv_20_21, dupd, setVersion, asDict, h1, h2, h3, h4]
  refine ⟨d', hd', ?_⟩
  simp only [chain19, Option.bind_eq_bind, Option.bind_eq_some_iff] at hd'
  obtain ⟨d20, -, h21⟩ := hd'
  exact conv_writes_next_version 20 _ d20 d' rfl h21

/-- what formats 12 … 17 always stored for a flow that is not a WebSocket flow and whose response (if any) has its timestamps:
    the hypotheses of `format_12_records_convert` -/
structure Shape12 (d : Dict) : Prop where
  marked : ∃ m, dget d (s "marked") = some m
  response : dget d (s "response") = some .null ∨
    ∃ r ts, dget d (s "response") = some (.dict r) ∧ dget r (s "timestamp_start") = some ts ∧ ts ≠ .null
  websocket : dget d (s "websocket") = some .null
  request : ∃ rq ts, dget d (s "request") = some (.dict rq) ∧ dget rq (s "timestamp_start") = some ts
  client : ∃ cc, dget d (s "client_conn") = some (.dict cc)

/-- … and what comes out: the client record gained `proxy_mode = "regular"`, and every top-level
    key other than `version`, `marked`, `comment`, `timestamp_created`, `mode`, `client_conn` — in particular `request`, `response`,
    `server_conn`, `id` — is what the file held. -/
theorem format_12_records_convert_spec (d cc : Dict) (h : Shape12 d) (hcc : dget d (s "client_conn") = some (.dict cc)) :
    ∃ d18, chain12_18 d = some d18 ∧
      dget d18 (s "client_conn") = some (.dict (dset cc (s "proxy_mode") (.str (s "regular")))) ∧
      ∀ key, (s "version" == key) = false → (s "marked" == key) = false → (s "comment" == key) = false →
        (s "timestamp_created" == key) = false → (s "mode" == key) = false → (s "client_conn" == key) = false →
        dget d18 key = dget d key := by
  obtain ⟨⟨m, hm⟩, hresp, hws, ⟨rq, ts, hrq, hts⟩, _⟩ := h
  refine ⟨?d18, ?run, ?client, ?frame⟩
  case run =>
    simp only [chain12_18, Option.bind_eq_bind]
    rw [conv_12_13_eq d m hm, Option.bind_some, conv_13_14_simple, Option.bind_some, conv_14_15_eq, Option.bind_some,
      conv_15_16_eq _ rq ts ?_ hts, Option.bind_some, conv_16_17_eq, Option.bind_some, conv_17_18_eq _ cc]
    · simpa [setVersion] using hcc
    · simpa [setVersion] using hrq
    · simpa [setVersion] using hws
    · simpa [setVersion] using hresp
  case client => simp
  case frame =>
    intro key a1 a2 a3 a4 a5 a6
    simp only [beq_eq_false_iff_ne] at a1 a2 a3 a4 a5 a6
    simp [setVersion, a1, a2, a3, a4, a5, a6]

/-- A format-12 record of that shape runs through 12→13→…→18 without any converter raising.
    With `format_18_records_convert` and `format_19_20_records_convert`: every modelled step from 12 to 21 has a success theorem. -/
theorem format_12_records_convert (d : Dict) (h : Shape12 d) : (chain12_18 d).isSome = true := by
  obtain ⟨cc, hcc⟩ := h.client
  obtain ⟨d18, h18, _⟩ := format_12_records_convert_spec d cc h hcc
  rw [h18]; rfl

-- non-vacuity: a format-12 record has that shape
example : Shape12 [(.str (s "version"), .int 12), (.str (s "marked"), .bool true),
    (.str (s "request"), .dict [(.str (s "path"), .bytes (s "/x")), (.str (s "timestamp_start"), .int 5)]),
    (.str (s "response"), .null), (.str (s "client_conn"), .dict [(.str (s "timestamp_start"), .int 5)]),
    (.str (s "websocket"), .null), (.str (s "mode"), .str (s "regular"))] := by
  refine ⟨⟨.bool true, ?_⟩, Or.inl ?_, ?_, ⟨[(.str (s "path"), .bytes (s "/x")), (.str (s "timestamp_start"), .int 5)], .int 5, ?_, ?_⟩,
    ⟨[(.str (s "timestamp_start"), .int 5)], ?_⟩⟩ <;> simp

/-- what formats 10 … 18 stored in the two connection records, as far as 18→19 looks: `tls_extensions` (client) and
    `tls_established` (both) present; every address-like field absent, None, or a pair / text; the server's `sni` a name, None,
    or `True` with the address None or a pair -/
structure Shape18 (d : Dict) : Prop where
  conns : ∃ cc sc, dget d (s "client_conn") = some (.dict cc) ∧ dget d (s "server_conn") = some (.dict sc) ∧
    (∃ tx, dget cc (s "tls_extensions") = some tx) ∧ (∃ te, dget cc (s "tls_established") = some te) ∧
    hostOkB (dget cc (s "address")) = true ∧ hostOkB (dget cc (s "sockname")) = true ∧
    (∃ te, dget sc (s "tls_established") = some te) ∧
    hostOkB (dget sc (s "ip_address")) = true ∧ hostOkB (dget sc (s "source_address")) = true ∧
    hostOkB (dget sc (s "address")) = true ∧
    ∃ sni, dget sc (s "sni") = some sni ∧
      (sni = .bool true → (dget sc (s "address") = some .null ∨ ∃ hh t, dget sc (s "address") = some (.list (hh :: t))))

/-- On a record of that shape 18→19 does not raise — whatever bytes the host names hold (the
    decode never fails: undecodable bytes are escaped), with or without a destination (`sni_true_without_destination`). With
    `format_12_records_convert` and `format_19_20_records_convert`: every modelled step from 12 to 21 has a success theorem. -/
theorem format_18_records_convert (d : Dict) (h : Shape18 d) :
    ∃ d', conv_18_19 d = some d' ∧ dget d' (s "version") = some (.int 19) := by
  obtain ⟨cc, sc, hcc, hsc, ⟨tx, h0⟩, ⟨te, h1⟩, h2, h3, ⟨te', g1⟩, g2, g3, g4, sni, g5, g6⟩ := h.conns
  obtain ⟨cc', hcc'⟩ := client18_succeeds cc tx te h0 h1 h2 h3
  obtain ⟨sc', hsc'⟩ := server18_succeeds sc te' sni g1 g2 g3 g4 g5 g6
  have hconv : conv_18_19 d = some (dset (dset (setVersion d 19) (s "client_conn") (.dict cc')) (s "server_conn") (.dict sc')) := by
    simp [conv_18_19, setVersion, hcc, hsc, asDict, hcc', hsc']
  exact ⟨_, hconv, conv_writes_next_version 18 _ d _ rfl hconv⟩

-- non-vacuity: a format-18 record (bytes hosts + sni=True) has that shape
example : Shape18 [(.str (s "version"), .int 18),
    (.str (s "client_conn"), .dict [(.str (s "address"), .null), (.str (s "tls_extensions"), .null), (.str (s "tls_established"), .bool false)]),
    (.str (s "server_conn"), .dict [(.str (s "address"), .null), (.str (s "sni"), .bool true), (.str (s "tls_established"), .bool false)])] := by
  refine ⟨_, _, by rw [dget_cons_ne _ _ _ _ (by simp), dget_cons_same],
    by rw [dget_cons_ne _ _ _ _ (by simp), dget_cons_ne _ _ _ _ (by simp), dget_cons_same],
    ⟨.null, by simp⟩, ⟨.bool false, by simp⟩, by simp [hostOkB, truthy], by simp [hostOkB],
    ⟨.bool false, by simp⟩, by simp [hostOkB], by simp [hostOkB], by simp [hostOkB, truthy],
    .bool true, by simp, fun _ => Or.inl (by simp)⟩

def chain12_21 (d : Dict) : Option Dict := chain12_18 d >>= conv_18_19 >>= chain19

/-- a sequence of modelled converter steps starting at version `v` -/
inductive Steps : Nat → Dict → Dict → Prop where
  | nil (v : Nat) (d : Dict) : Steps v d d
  | cons (v : Nat) (f : Dict → Option Dict) (d d1 d2 : Dict) :
      conv v = some f → f d = some d1 → Steps (v + 1) d1 d2 → Steps v d d2

/-- However many modelled converters run, one after the other, the recorded request —
    and `id`, `type`, `error`, `intercepted` — come out as they went in. -/
theorem steps_request_preserved (v : Nat) (d d' : Dict) (h : Steps v d d') :
    dget d' (s "request") = dget d (s "request") ∧ dget d' (s "id") = dget d (s "id") ∧
    dget d' (s "type") = dget d (s "type") ∧ dget d' (s "error") = dget d (s "error") ∧
    dget d' (s "intercepted") = dget d (s "intercepted") := by
  induction h with
  | nil => exact ⟨rfl, rfl, rfl, rfl, rfl⟩
  | cons v f d d1 d2 hf hd _ ih =>
    obtain ⟨a1, a2, a3, a4, a5⟩ := request_preserved v f d d1 hf hd
    obtain ⟨b1, b2, b3, b4, b5⟩ := ih
    exact ⟨b1.trans a1, b2.trans a2, b3.trans a3, b4.trans a4, b5.trans a5⟩

theorem chain12_21_steps (d d' : Dict) (h : chain12_21 d = some d') : Steps 12 d d' := by
  unfold chain12_21 chain12_18 chain19 at h
  simp only [Option.bind_eq_bind, Option.bind_eq_some_iff] at h
  obtain ⟨d19, ⟨d18, ⟨d17, ⟨d16, ⟨d15, ⟨d14, ⟨d13, h12, h13⟩, h14⟩, h15⟩, h16⟩, h17⟩, h18⟩, d20, h19, h20⟩ := h
  exact .cons 12 _ _ _ _ rfl h12 (.cons 13 _ _ _ _ rfl h13 (.cons 14 _ _ _ _ rfl h14 (.cons 15 _ _ _ _ rfl h15
    (.cons 16 _ _ _ _ rfl h16 (.cons 17 _ _ _ _ rfl h17 (.cons 18 _ _ _ _ rfl h18 (.cons 19 _ _ _ _ rfl h19
    (.cons 20 _ _ _ _ rfl h20 (.nil _ _)))))))))

/-- A format-12 record taken through all nine modelled converters keeps its request and
    arrives at version 21. -/
theorem chain_request_preserved (d d' : Dict) (h : chain12_21 d = some d') :
    dget d' (s "request") = dget d (s "request") ∧ dget d' (s "version") = some (.int 21) := by
  have hs := chain12_21_steps d d' h
  refine ⟨(steps_request_preserved 12 d d' hs).1, ?_⟩
  simp only [chain12_21, chain19, Option.bind_eq_bind, Option.bind_eq_some_iff] at h
  obtain ⟨d19, -, d20, -, h20⟩ := h
  exact conv_writes_next_version 20 _ d20 d' rfl h20

/-- the connection records as formats 12 … 18 stored them (what 18→19 and the last two steps look at) -/
structure ConnShape (cc sc : Dict) : Prop where
  c_ext : ∃ tx, dget cc (s "tls_extensions") = some tx
  c_est : ∃ te, dget cc (s "tls_established") = some te
  c_addr : hostOkB (dget cc (s "address")) = true
  c_sock : hostOkB (dget cc (s "sockname")) = true
  c_tv : ∃ tv, dget cc (s "tls_version") = some tv
  s_est : ∃ te, dget sc (s "tls_established") = some te
  s_ip : hostOkB (dget sc (s "ip_address")) = true
  s_src : hostOkB (dget sc (s "source_address")) = true
  s_addr : hostOkB (dget sc (s "address")) = true
  s_tv : ∃ tv, dget sc (s "tls_version") = some tv
  s_sni : ∃ sni, dget sc (s "sni") = some sni ∧
    (sni = .bool true → (dget sc (s "address") = some .null ∨ ∃ hh t, dget sc (s "address") = some (.list (hh :: t))))

/-- Existence AND correctness for one whole format: a non-WebSocket format-12 record of the shape
    mitmproxy 7 wrote (`Shape12`, `ConnShape`) is taken by the nine modelled converters 12→13→…→21 without any of them raising,
    arrives at version 21, and carries the request that was recorded. -/
theorem format_12_records_load (d cc sc : Dict) (h12 : Shape12 d) (hcc : dget d (s "client_conn") = some (.dict cc))
    (hsc : dget d (s "server_conn") = some (.dict sc)) (hc : ConnShape cc sc) :
    ∃ d', chain12_21 d = some d' ∧ dget d' (s "version") = some (.int 21) ∧ dget d' (s "request") = dget d (s "request") := by
  obtain ⟨d18, h18, hcc18, hk⟩ := format_12_records_convert_spec d cc h12 hcc
  have hsc18 : dget d18 (s "server_conn") = some (.dict sc) := by simpa [hk] using hsc
  obtain ⟨⟨tx, a1⟩, ⟨te, a2⟩, a3, a4, ⟨tvc, a5⟩, ⟨te', b1⟩, b2, b3, b4, ⟨tvs, b5⟩, ⟨sni, b6, b7⟩⟩ := hc
  -- the client record has gained `proxy_mode`, which none of the later steps looks at
  obtain ⟨d19, h19, _⟩ := format_18_records_convert d18 ⟨_, _, hcc18, hsc18, ⟨tx, by simpa using a1⟩,
    ⟨te, by simpa using a2⟩, by simpa using a3, by simpa using a4, ⟨te', b1⟩, b2, b3, b4, sni, b6, b7⟩
  obtain ⟨c18, s18, c19, s19, e1, e2, e3, e4, e5, e6⟩ := conv_18_19_spec d18 d19 h19
  rw [hcc18] at e1
  rw [hsc18] at e2
  cases e1
  cases e2
  obtain ⟨d21, h21, _⟩ := format_19_20_records_convert d19 c19 s19 tvc tvs e5 e6
    (by simpa [client_frame_18_19 _ _ _ e3] using a5) (by simpa [server_frame_18_19 _ _ _ e4] using b5)
  have hall : chain12_21 d = some d21 := by
    simp only [chain12_21, Option.bind_eq_bind, h18, Option.bind_some, h19, h21]
  obtain ⟨r1, r2⟩ := chain_request_preserved d d21 hall
  exact ⟨d21, hall, r2, r1⟩

/-- The executable shape test the driver prints for every generated format-12 record
    (`shape12` op) implies the hypotheses of `format_12_records_load`: a record for which the driver answers 1 loads. -/
theorem checked_shape_loads (d : Dict) (h : shape12B d = true) :
    ∃ d', chain12_21 d = some d' ∧ dget d' (s "version") = some (.int 21) ∧ dget d' (s "request") = dget d (s "request") := by
  simp only [shape12B, Bool.and_eq_true, Option.isSome_iff_exists] at h
  obtain ⟨⟨⟨⟨hm, hr⟩, hw⟩, hq⟩, hc⟩ := h
  split at hc
  · next cc sc hcc hsc =>
    simp only [connShapeB, Bool.and_eq_true, Option.isSome_iff_exists] at hc
    obtain ⟨⟨⟨⟨⟨⟨⟨⟨⟨⟨c1, c2⟩, c3⟩, c4⟩, c5⟩, s1⟩, s2⟩, s3⟩, s4⟩, s5⟩, s6⟩ := hc
    refine format_12_records_load d cc sc ⟨hm, ?_, ?_, ?_, ⟨cc, hcc⟩⟩ hcc hsc ⟨c1, c2, c3, c4, c5, s1, s2, s3, s4, s5, ?_⟩
    · unfold respOkB at hr
      split at hr
      · exact .inl ‹_›
      · next r hresp =>
        split at hr
        · cases hr
        · next ts hnn hts => exact .inr ⟨r, ts, hresp, hts, hnn⟩
        · cases hr
      · cases hr
    · unfold isNull at hw
      split at hw
      · assumption
      · cases hw
    · unfold reqOkB at hq
      split at hq
      · next rq hrq => exact ⟨rq, (Option.isSome_iff_exists.mp hq).elim fun ts hts => ⟨ts, hrq, hts⟩⟩
      · cases hq
    · unfold sniOkM at s6
      split at s6
      · cases s6
      · next hsni =>
        refine ⟨_, hsni, fun _ => ?_⟩
        split at s6
        · exact .inl ‹_›
        · exact .inr ⟨_, _, ‹_›⟩
        · cases s6
      · next sni hnt hsni => exact ⟨sni, hsni, fun e => (hnt e).elim⟩
  · cases hc

-- non-vacuity of `format_12_records_load` and `checked_shape_loads`: a plain-HTTP flow as mitmproxy 7 stored it (bytes host in the
-- client address, sni = True) passes the driver's shape test
private def ld_cc : Dict := [(.str (s "address"), .list [.bytes (s "127.0.0.1"), .int 50000]), (.str (s "sockname"), .list [.str (s "::1"), .int 8080]),
  (.str (s "tls_extensions"), .null), (.str (s "tls_established"), .bool false), (.str (s "tls_version"), .null),
  (.str (s "timestamp_start"), .int 5)]
private def ld_sc : Dict := [(.str (s "address"), .list [.str (s "example.com"), .int 80]), (.str (s "ip_address"), .list [.str (s "93.184.216.34"), .int 80]),
  (.str (s "source_address"), .null), (.str (s "sni"), .bool true), (.str (s "tls_established"), .bool false), (.str (s "tls_version"), .null),
  (.str (s "via2"), .null)]
private def ld_d : Dict := [(.str (s "version"), .int 12), (.str (s "marked"), .bool false),
  (.str (s "request"), .dict [(.str (s "path"), .bytes (s "/x")), (.str (s "timestamp_start"), .int 5)]),
  (.str (s "response"), .null), (.str (s "client_conn"), .dict ld_cc), (.str (s "server_conn"), .dict ld_sc),
  (.str (s "websocket"), .null), (.str (s "mode"), .str (s "regular"))]
example : ∃ d', chain12_21 ld_d = some d' ∧ dget d' (s "version") = some (.int 21) ∧ dget d' (s "request") = dget ld_d (s "request") :=
  checked_shape_loads ld_d (by decide +kernel)

-- non-vacuity: a concrete format-12 record runs through the modelled chain 12 → 18 and keeps its request
example :
    let req : Value := .dict [(.str (s "path"), .bytes (s "/x")), (.str (s "timestamp_start"), .int 5)]
    let d : Dict := [(.str (s "version"), .int 12), (.str (s "marked"), .bool true), (.str (s "request"), req),
                     (.str (s "client_conn"), .dict [(.str (s "timestamp_start"), .int 5)]),
                     (.str (s "websocket"), .null), (.str (s "mode"), .str (s "regular"))]
    (chain12_18 d).isSome = true := by decide +kernel

-- non-vacuity for 18→19: bytes host names are decoded (an invalid byte becomes `\\xff`), `sni = True` becomes the host
example :
    let cc : Value := .dict [(.str (s "address"), .list [.bytes [0x61, 0xff], .int 80]), (.str (s "tls_extensions"), .null),
                             (.str (s "tls_established"), .bool false), (.str (s "timestamp_start"), .null)]
    let sc : Value := .dict [(.str (s "address"), .list [.bytes (s "example.com"), .int 443]), (.str (s "sni"), .bool true),
                             (.str (s "tls_established"), .bool true), (.str (s "cipher_name"), .str (s "X"))]
    let d : Dict := [(.str (s "version"), .int 18), (.str (s "client_conn"), cc), (.str (s "server_conn"), sc)]
    (((conv_18_19 d).bind (fun d' => (dget d' (s "server_conn")).bind asDict)).bind (fun sc' => dget sc' (s "sni"))).map enc
      = some (enc (.str (s "example.com"))) ∧
    (((conv_18_19 d).bind (fun d' => (dget d' (s "client_conn")).bind asDict)).bind (fun cc' => dget cc' (s "peername"))).map enc
      = some (enc (.list [.str [0x61, 0x5c, 0x78, 0x66, 0x66], .int 80])) := by decide +kernel

-- non-vacuity: a format-18 record of a flow without a destination (address None, sni True) converts; sni becomes None
example :
    let cc : Value := .dict [(.str (s "address"), .null), (.str (s "tls_extensions"), .null), (.str (s "tls_established"), .bool false)]
    let sc : Value := .dict [(.str (s "address"), .null), (.str (s "sni"), .bool true), (.str (s "tls_established"), .bool false)]
    let d : Dict := [(.str (s "version"), .int 18), (.str (s "client_conn"), cc), (.str (s "server_conn"), sc)]
    (((conv_18_19 d).bind (fun d' => (dget d' (s "server_conn")).bind asDict)).bind (fun sc' => dget sc' (s "sni"))).map enc
      = some (enc .null) := by decide +kernel

end Converters

-- non-vacuity: the graph is non-empty, the oldest key migrates, an unknown future version is refused
example : graph ≠ [] := by decide
example : migrate graph current (graph.length + 1) (.tup 0 11) = .ok := by decide +kernel
example : migrate graph current (graph.length + 1) (.int 22) = .errUpdate := by decide +kernel
example : migrate graph current (graph.length + 1) (.tup 9 9) = .errUnknown := by decide +kernel

end MitmVerif.Props.C38

/-! ### non-vacuity witnesses for the stateful converters, the older formats and the composed loop -/
namespace MitmVerif.Props.C38
open MitmVerif MitmVerif.C36 MitmVerif.C38Conv MitmVerif.C38 MitmVerif.Gen.C38

-- W1: 4→5 — two records of the same client connection: both convert, the second gets the id recorded for the first
def w45 : Dict :=
  [(.str (s "version"), .list [.int 3, .int 0, .int 0]),
   (.str (s "client_conn"), .dict [(.str (s "timestamp_start"), .int 1), (.str (s "address"), .list [.str (s "h"), .int 80])]),
   (.str (s "server_conn"), .dict [(.str (s "timestamp_start"), .int 2), (.str (s "source_address"), .list [.str (s "x"), .int 1]),
                                   (.str (s "via"), .null)])]
def ids0 : Ids := { client := [], server := [], drawn := 0 }
example :
    (match runIds (fun n => .int n) ids0 [w45, w45] with
     | some (g, [a, b]) =>
       decide (g.drawn = 4) && decide (g.client.length = 1) &&
       (((dget a (s "client_conn")).bind asDict).bind (fun c => dget c (s "id"))).map enc ==
         (((dget b (s "client_conn")).bind asDict).bind (fun c => dget c (s "id"))).map enc &&
       ((((dget a (s "client_conn")).bind asDict).bind (fun c => dget c (s "id"))).map enc == some (enc (.int 0)))
     | _ => false) = true := by decide +kernel

-- W2: 5→6→7→8 on one record (tls renames incl. the strict pops, tls_extensions, trailers)
example :
    let conn : Value := .dict [(.str (s "ssl_established"), .bool true), (.str (s "timestamp_ssl_setup"), .int 3), (.str (s "via"), .null)]
    let d : Dict := [(.str (s "version"), .int 5), (.str (s "request"), .dict [(.str (s "path"), .bytes (s "/"))]),
                     (.str (s "response"), .null), (.str (s "client_conn"), conn), (.str (s "server_conn"), conn)]
    ((((conv_5_6 d).bind conv_6_7).bind conv_7_8).bind (fun d' => (dget d' (s "request")).bind asDict)).map (fun r => (dget r (s "trailers")).map enc == some (enc .null))
      = some true := by decide +kernel

-- W3: the whole modelled chain 12 → 21 succeeds on a record with both connections, keeps the request, arrives at 21
def w12 : Dict :=
  let cc : Value := .dict [(.str (s "address"), .list [.str (s "c"), .int 1]), (.str (s "timestamp_start"), .int 5),
    (.str (s "tls_extensions"), .null), (.str (s "tls_established"), .bool false), (.str (s "state"), .int 0), (.str (s "tls_version"), .null)]
  let sc : Value := .dict [(.str (s "address"), .list [.str (s "example.com"), .int 443]), (.str (s "sni"), .bool true),
    (.str (s "tls_established"), .bool true), (.str (s "cipher_name"), .str (s "X")), (.str (s "state"), .int 0), (.str (s "tls_version"), .str (s "QUIC"))]
  [(.str (s "version"), .int 12), (.str (s "marked"), .bool true),
   (.str (s "request"), .dict [(.str (s "path"), .bytes (s "/x")), (.str (s "timestamp_start"), .int 5)]),
   (.str (s "response"), .null), (.str (s "websocket"), .null), (.str (s "mode"), .str (s "regular")),
   (.str (s "client_conn"), cc), (.str (s "server_conn"), sc)]
example : ((chain12_21 w12).map (fun d' => ((dget d' (s "version")).map enc == some (enc (.int 21))) && ((dget d' (s "request")).map enc == (dget w12 (s "request")).map enc) &&
    ((dget d' (s "marked")).map enc == some (enc (.str (s ":default:")))) && ((dget d' (s "mode")).map enc == none))) = some true := by decide +kernel

-- W4: the composed migrate_flow takes that record from 12 to the current version in nine turns; one turn from 19
example : ((migrateFlow (fun n => .int n) (fun _ => none) 21 64 { ws := [], ids := ids0 } none w12).map (fun r => versionKey r.2)) =
    some (some (.int 21)) := by decide +kernel
example : (match convAny (fun n => .int n) (fun _ => none) { ws := [], ids := ids0 } (.int 12) w12 with
    | some (some (_, d')) => (dget d' (s "version")).map enc == some (enc (.int 13)) && ((dget d' (s "request")).map enc == (dget w12 (s "request")).map enc)
    | _ => false) = true := by decide +kernel
-- … and fuel 9 is one turn short of what this record needs: `none` here is fuel, not an exception
example : (migrateFlow (fun n => .int n) (fun _ => none) 21 9 { ws := [], ids := ids0 } none w12).isNone = true ∧
    (migrateFlow (fun n => .int n) (fun _ => none) 21 10 { ws := [], ids := ids0 } none w12).isSome = true := by decide +kernel

-- W5: `stored_until_consumed` / `table_frame_11_12`: a run of records through 11→12 (`runTbl`) that all convert — a handshake
-- flow H is stored, an unrelated plain record leaves it on record, the old websocket flow consumes it
example :
    let conn : Value := .dict [(.str (s "timestamp_end"), .int 9)]
    let hs : Dict := [(.str (s "version"), .int 11), (.str (s "id"), .str (s "H")), (.str (s "metadata"), .dict [(.str (s "websocket"), .bool true)]),
                      (.str (s "server_conn"), conn)]
    let plain : Dict := [(.str (s "version"), .int 11), (.str (s "id"), .str (s "P")), (.str (s "metadata"), .dict [])]
    let ws : Dict := [(.str (s "version"), .int 11), (.str (s "id"), .str (s "W")),
                      (.str (s "metadata"), .dict [(.str (s "websocket_handshake"), .str (s "H"))]),
                      (.str (s "messages"), .list []), (.str (s "close_sender"), .str (s "client")), (.str (s "close_code"), .int 1000),
                      (.str (s "close_reason"), .str []), (.str (s "client_conn"), conn), (.str (s "server_conn"), conn),
                      (.str (s "error"), .null), (.str (s "intercepted"), .bool false), (.str (s "is_replay"), .null), (.str (s "marked"), .bool false)]
    ((runTbl [] [hs, plain]).map (fun g => (tget g (enc (.str (s "H")))).isSome)) = some true ∧
    ((runTbl [] [hs, plain, ws]).map (fun g => (tget g (enc (.str (s "H")))).isSome)) = some false := by decide +kernel

-- W6: the composed loop answers an unknown future version, a missing version and a raising converter with the same `none`
example :
    (migrateFlow (fun n => .int n) (fun _ => none) 21 64 { ws := [], ids := ids0 } none [(.str (s "version"), .int 22)]).isNone = true ∧
    (migrateFlow (fun n => .int n) (fun _ => none) 21 64 { ws := [], ids := ids0 } none [(.str (s "version"), .int 12)]).isNone = true := by
  decide +kernel

end MitmVerif.Props.C38
