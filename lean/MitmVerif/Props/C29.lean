/-
  C29 — raw TCP and UDP relaying is exact and each flow ends once.

  The theorems about `run (init proto flow connected) ins` quantify over EVERY input schedule `ins : List Input`
  (data in both directions, injections, half and full closes in any order, hook completions with or without an addon
  edit, connect results, and also inputs server.py would never produce) of the `TCPLayer`/`UDPLayer` model in
  Model/C29.lean; they are read off the invariants of Lemmas/C29 (`Full2` through `reachX`, `Arr`), Lemmas/C29Edits
  (`Ed`) and Lemmas/C29NC (`NC`).  The theorems about one `step st i` hold of ANY state `st` with the pending command
  they name, reachable or not.  `st.trace` is the list of all commands the layer has yielded.

  `Input.hookKill` (`flow.kill()` inside any hook) is part of every schedule; the `_any_sockets` variants start from
  `initX`, where `write_eof` may raise OSError on either socket.
-/
import MitmVerif.Lemmas.C29
import MitmVerif.Lemmas.C29NC
import MitmVerif.Lemmas.C29Edits
namespace MitmVerif.Props.C29
open MitmVerif MitmVerif.C29 MitmVerif.C29.Lemmas

/-- contents whose message hook is still running: recorded in `flow.messages`, not yet sent -/
def inFlightTo (s : Side) (st : State) : List Bytes :=
  match st.pending with
  | .msgHook to m => if to = s then [m.content] else []
  | _ => []

private theorem reachX (p : Proto) (f c cd sd : Bool) (ins : List Input) : Full2 (run (initX p f c cd sd) ins) :=
  full2_run _ _ (full2_initX p f c cd sd)

private theorem cfgX (p : Proto) (f c cd sd : Bool) (ins : List Input) :
    config (run (initX p f c cd sd) ins) = config (initX p f c cd sd) :=
  run_cfg _ ins (full2_initX p f c cd sd)

private theorem reach (p : Proto) (f c : Bool) (ins : List Input) : Full (run (init p f c) ins) :=
  (reachX p f c false false ins).1

private theorem reach_flow (p : Proto) (f c : Bool) (ins : List Input) : (run (init p f c) ins).flow = f :=
  congrArg Config.flow (cfgX p f c false false ins)

private theorem reach_proto (p : Proto) (f c : Bool) (ins : List Input) : (run (init p f c) ins).proto = p :=
  congrArg Config.proto (cfgX p f c false false ins)

private theorem reach_eof (p : Proto) (f c : Bool) (ins : List Input) :
    (run (init p f c) ins).cEofFail = false ∧ (run (init p f c) ins).sEofFail = false :=
  ⟨congrArg Config.cEofFail (cfgX p f c false false ins), congrArg Config.sEofFail (cfgX p f c false false ins)⟩

/-! What `TrInv` says about the command log of any state it holds in; the theorems below instantiate it. -/

private theorem no_full_close {st : State} (hI : TrInv st) (s : Side) (hph : st.phase ≠ .done) :
    Output.close s false ∉ st.trace :=
  fun hmem => hph (hI.no_full (List.any_eq_true.2 ⟨_, hmem, rfl⟩))

private theorem at_most_one {st : State} (hI : TrInv st) : st.trace.countP isEndOrError ≤ 1 := by
  have := hI.cnt_eq
  unfold cnt at this
  rw [this]; split <;> omega

private theorem scan_quiet : ∀ l : List Output, scan true l = true → ∀ x ∈ l, isSend x = false ∧ isHook x = false
  | [], _, x, hx => by cases hx
  | y :: t, h, x, hx => by
    simp only [scan, Bool.true_or, Bool.and_eq_true, if_true] at h
    rcases List.mem_cons.1 hx with rfl | hx
    · simpa [quiet] using h.1
    · exact scan_quiet t h.2 x hx

private theorem quiet_after_end {st : State} (hI : TrInv st) (pre post : List Output) (o : Output)
    (htr : st.trace = pre ++ o :: post) (ho : isEndOrError o = true) :
    ∀ x ∈ post, isSend x = false ∧ isHook x = false := by
  have hs := hI.scan_eq
  rw [htr, scan_append] at hs
  simp only [scan, ho, Bool.or_true, Bool.and_eq_true] at hs
  exact scan_quiet post hs.2.2

private theorem exact_of_inv (st : State) (hI : TrInv st) (hf : st.flow = true) (s : Side) :
    sentTo s st.trace ++ inFlightTo s st = recorded s st.flowMessages := by
  have h1 := hI.1 hf s
  cases hp : st.pending with
  | msgHook to m =>
    have hm := (hI.2.1 to m hp).1
    clear hI
    simp only [inFlightTo, State.flowMessages, hp]
    rw [recorded_snoc, h1]
    cases to <;> cases s <;> simp_all
  | _ => simp [inFlightTo, State.flowMessages, hp, h1]

/-- **Exact relay.**  For every schedule and each direction: what has been sent to peer `s`, followed by the
    message (if any) whose hook is still pending, is exactly the recorded contents of `flow.messages` that travel
    towards `s` — same contents (addon edits included), same order, nothing extra, nothing missing. -/
theorem relay_exact_per_direction (p : Proto) (c : Bool) (ins : List Input) (s : Side) :
    sentTo s (run (init p true c) ins).trace ++ inFlightTo s (run (init p true c) ins)
      = recorded s (run (init p true c) ins).flowMessages :=
  exact_of_inv _ (reach p true c ins).1 (reach_flow p true c ins) s

/-- in particular, whenever no message hook is pending the two sequences coincide -/
theorem relay_exact_when_no_hook_pending (p : Proto) (c : Bool) (ins : List Input) (s : Side)
    (hp : ∀ to m, (run (init p true c) ins).pending ≠ .msgHook to m) :
    sentTo s (run (init p true c) ins).trace = recorded s (run (init p true c) ins).flowMessages := by
  have := relay_exact_per_direction p c ins s
  cases h : (run (init p true c) ins).pending with
  | msgHook to m => exact absurd h (hp to m)
  | _ => simpa [inFlightTo, h] using this

/-- **Addon modification.**  When the message hook returns, the content the addon left in `messages[-1]`
    (`e.getD` of the original) is appended to the recorded messages and is the very next `SendData`. -/
theorem addon_edit_is_what_is_sent (st : State) (to : Side) (m : Msg) (e : Option Bytes)
    (hph : st.phase ≠ .idle) (hp : st.pending = .msgHook to m) :
    (step st (.hookDone e)).msgs = st.msgs ++ [⟨m.fromClient, e.getD m.content⟩] ∧
    ∃ rest, (step st (.hookDone e)).trace = st.trace ++ .send to (e.getD m.content) :: rest := by
  have hed : editMsg m e = ⟨m.fromClient, e.getD m.content⟩ := by cases e <;> rfl
  unfold step
  split
  · rename_i h; exact absurd h hph
  · simp only [hp]
    have := drain_ext st.queue
      (emit { st with pending := .none, msgs := st.msgs ++ [editMsg m e] } (.send to (editMsg m e).content))
    obtain ⟨-, -, -, hm, ⟨r, ht⟩, -, -⟩ := this
    refine ⟨?_, r, ?_⟩
    · simpa [hed] using hm
    · simpa [hed] using ht

/-- **Injection.**  `Tcp/UdpMessageInjected` is processed exactly like `DataReceived` from the spoofed side. -/
theorem inject_is_spoofed_data (st : State) (fromClient : Bool) (d : Bytes) :
    step st (.inject fromClient d) = step st (.data (if fromClient then .client else .server) d) := by
  unfold step; split <;> rfl

private theorem step_half_close {st : State} {s : Side} (hph : st.phase = .relay) (hp : st.pending = .none)
    (ht : st.proto = .tcp) (hr : (st.conn s.other).canRead = true) :
    step st (.closed s false) = emit (st.setConn s { st.conn s with canRead := false }) (.close s.other true) := by
  unfold step
  split
  · rename_i h; rw [hph] at h; cases h
  · cases s <;> simp_all [deliver, handle, handleClosed, State.conn, Side.other]

/-- **Half-close.**  In every reachable TCP relay state that is not waiting for a hook: when peer `s` closes its
    sending direction while the other peer can still be read, the layer yields exactly one command, the half-close
    of the other connection; it keeps relaying, the other side stays readable and `s` stays writable, and the next
    data from the other side is still delivered to `s` (through the message hook when there is a flow). -/
theorem half_close_propagated_while_other_direction_flows (f c : Bool) (ins : List Input) (s : Side)
    (hph : (run (init .tcp f c) ins).phase = .relay) (hp : (run (init .tcp f c) ins).pending = .none)
    (hr : ((run (init .tcp f c) ins).conn s.other).canRead = true) :
    let st := run (init .tcp f c) ins
    let st1 := step st (.closed s false)
    st1.trace = st.trace ++ [.close s.other true] ∧ st1.phase = .relay ∧ st1.pending = .none ∧
    (st1.conn s.other).canRead = true ∧ (st1.conn s).canWrite = (st.conn s).canWrite ∧
    ∀ d e, (step (step st1 (.data s.other d)) (.hookDone e)).trace =
      st1.trace ++ (if f then [.hook (.message (s.other == .client) d), .send s (e.getD d)] else [.send s d]) := by
  have hq := (reach .tcp f c ins).2.2 hp
  have hf := reach_flow .tcp f c ins
  obtain ⟨hd1, hd2⟩ := reach_eof .tcp f c ins
  have e1 := step_half_close hph hp (reach_proto .tcp f c ins) hr
  generalize run (init .tcp f c) ins = st at *
  intro st0 st1
  rw [show st1 = _ from e1]
  refine ⟨by simp [st0], by simpa using hph, by simpa using hp, ?_, ?_, fun d e => ?_⟩
  · cases s <;> simp_all [State.conn, Side.other]
  · cases s <;> simp [State.conn, Side.other, st0]
  · cases s <;> cases f <;> cases e <;>
      simp [step.eq_def, deliver, handle, handleData, drain, editMsg, Side.other, hph, hp, hq, hf]

/-- **Half-close, also across the pause queue.**  Whenever the TCP relay is still running and is not waiting for a
    reply, every side that can no longer be read has had the half-close of the opposite connection yielded —
    no matter whether its `ConnectionClosed` was handled at once or had been buffered behind hooks. -/
theorem half_close_emitted_once_quiescent (f c : Bool) (ins : List Input) (s : Side)
    (hph : (run (init .tcp f c) ins).phase = .relay) (hp : (run (init .tcp f c) ins).pending = .none)
    (hr : ((run (init .tcp f c) ins).conn s).canRead = false) :
    Output.close s.other true ∈ (run (init .tcp f c) ins).trace := by
  obtain ⟨hF, hH⟩ := reachX .tcp f c false false ins
  have hq := hF.2.2 hp
  rcases hH (reach_eof .tcp f c ins).1 (reach_eof .tcp f c ins).2 (reach_proto .tcp f c ins) hph s hr with hm | hm
  · rw [hq] at hm; cases hm
  · exact hm

/-- **No full close while relaying.**  As long as the layer has not entered `done`, it has never yielded a
    full `CloseConnection` — the only close commands of a running relay are half-closes. -/
theorem full_close_only_when_ending (p : Proto) (f c : Bool) (ins : List Input) (s : Side)
    (hph : (run (init p f c) ins).phase ≠ .done) : Output.close s false ∉ (run (init p f c) ins).trace :=
  no_full_close (reach p f c ins).1 s hph

/-- a TCP relay only ends (enters `done`) after a failed connect or once neither side can be read any more -/
theorem tcp_ends_only_when_both_directions_closed (f c : Bool) (ins : List Input)
    (hph : (run (init .tcp f c) ins).phase = .done) :
    (run (init .tcp f c) ins).connected = false ∨
      ((run (init .tcp f c) ins).client.canRead = false ∧ (run (init .tcp f c) ins).server.canRead = false) :=
  (reach .tcp f c ins).1.tcp_done (reach_proto .tcp f c ins) hph

/-- **At most one** end-or-error hook, for every schedule. -/
theorem at_most_one_end_or_error (p : Proto) (f c : Bool) (ins : List Input) :
    (run (init p f c) ins).trace.countP isEndOrError ≤ 1 :=
  at_most_one (reach p f c ins).1

/-- the peers are finished: (TCP) neither side can be read any more / (UDP) one side has closed -/
def peersFinished (st : State) : Prop :=
  match st.proto with
  | .tcp => st.client.canRead = false ∧ st.server.canRead = false
  | .udp => st.client.canRead = false ∨ st.server.canRead = false

private theorem exactly_one_of_full (st : State) (h : Full st) (hf : st.flow = true)
    (hidle : st.phase ≠ .idle) (hp : st.pending = .none) (hclosed : peersFinished st)
    (hd1 : st.cEofFail = false) (hd2 : st.sEofFail = false) :
    st.trace.countP isEndOrError = 1 := by
  unfold peersFinished at hclosed
  obtain ⟨hI, ⟨-, -, -, k3, k4⟩, hQ⟩ := h
  have hq : st.queue = [] := hQ hp
  have hdone : st.phase = .done := by
    cases hph : st.phase with
    | idle => exact absurd hph hidle
    | start => exact absurd hph (hI.unpaused hp)
    | done => rfl
    | relay => cases hpr : st.proto <;> simp_all
  have hcnt := hI.cnt_eq
  rwa [if_pos ⟨hf, .inl hdone⟩] at hcnt

/-- **Exactly one** once the flow is over: the layer was started, is not waiting for a reply, and
    (TCP) neither side can be read any more / (UDP) one side has closed.  Holds for every schedule. -/
theorem exactly_one_end_or_error (p : Proto) (c : Bool) (ins : List Input)
    (hidle : (run (init p true c) ins).phase ≠ .idle) (hp : (run (init p true c) ins).pending = .none)
    (hclosed : peersFinished (run (init p true c) ins)) :
    (run (init p true c) ins).trace.countP isEndOrError = 1 :=
  exactly_one_of_full _ (reach p true c ins) (reach_flow p true c ins) hidle hp hclosed
    (reach_eof p true c ins).1 (reach_eof p true c ins).2

/-- a refused/failed `OpenConnection` makes the layer fire the error hook (and nothing else) at once -/
theorem connect_failure_fires_error (st : State) (hph : st.phase ≠ .idle) (hp : st.pending = .connect)
    (hf : st.flow = true) :
    (step st (.connectDone true)).trace = st.trace ++ [.hook .error] ∧
    (step st (.connectDone true)).pending = .errorHook := by
  unfold step
  split
  · rename_i h; exact absurd h hph
  · simp [hp, hf]

/-- once an end or error hook has fired, whatever the schedule does afterwards, no `SendData` and no hook follows it
    in the log -/
theorem nothing_relayed_after_end (p : Proto) (f c : Bool) (ins : List Input)
    (pre post : List Output) (o : Output) :
    (run (init p f c) ins).trace = pre ++ o :: post → isEndOrError o = true →
    ∀ x ∈ post, isSend x = false ∧ isHook x = false :=
  quiet_after_end (reach p f c ins).1 pre post o

/-- with `ignore=True` (no flow object) neither an end nor an error hook is ever fired -/
theorem ignore_mode_fires_no_end_or_error_hook (p : Proto) (c : Bool) (ins : List Input) :
    (run (init p false c) ins).trace.countP isEndOrError = 0 := by
  have := (reach p false c ins).1.cnt_eq
  unfold cnt at this
  rw [this, reach_flow]; simp

/-! ### dead sockets (`except OSError` branch of `close_connection`) and `flow.kill()` inside hooks

  `Input` has `hookKill` (a hook completes after the addon called `flow.kill()`), so every theorem above —
  stated for all `ins : List Input` — already covers kills at any point.  The theorems below additionally hold for
  `initX … cEofFail sEofFail`: either socket may raise OSError on `write_eof`, in which case the half-close
  command leaves the connection CLOSED instead of write-closed. -/

/-- exact relay per direction, with dead sockets and kills: every interleaving of the two directions, with hooks pending -/
theorem relay_exact_per_direction_any_sockets (p : Proto) (c cd sd : Bool) (ins : List Input) (s : Side) :
    sentTo s (run (initX p true c cd sd) ins).trace ++ inFlightTo s (run (initX p true c cd sd) ins)
      = recorded s (run (initX p true c cd sd) ins).flowMessages :=
  exact_of_inv _ (reachX p true c cd sd ins).1.1 (congrArg Config.flow (cfgX p true c cd sd ins)) s

theorem at_most_one_end_or_error_any_sockets (p : Proto) (f c cd sd : Bool) (ins : List Input) :
    (run (initX p f c cd sd) ins).trace.countP isEndOrError ≤ 1 :=
  at_most_one (reachX p f c cd sd ins).1.1

theorem nothing_relayed_after_end_any_sockets (p : Proto) (f c cd sd : Bool) (ins : List Input)
    (pre post : List Output) (o : Output) :
    (run (initX p f c cd sd) ins).trace = pre ++ o :: post → isEndOrError o = true →
    ∀ x ∈ post, isSend x = false ∧ isHook x = false :=
  quiet_after_end (reachX p f c cd sd ins).1.1 pre post o

/-- even when `write_eof` fails, the layer itself never yields a full close before the relay ends -/
theorem full_close_only_when_ending_any_sockets (p : Proto) (f c cd sd : Bool) (ins : List Input) (s : Side)
    (hph : (run (initX p f c cd sd) ins).phase ≠ .done) : Output.close s false ∉ (run (initX p f c cd sd) ins).trace :=
  no_full_close (reachX p f c cd sd ins).1.1 s hph

/-- the dead-socket branch itself: a half-close command on a socket whose `write_eof` raises leaves it CLOSED -/
theorem dead_socket_half_close_is_full (c : Conn) (hw : c.canWrite = true) : applyClose c true true = Conn.shut := by
  simp [applyClose, hw]

/-- sharper form of `kill_is_plain_completion` below: WHICH disjunct holds is decided by the state - the completion is
    ignored exactly when no hook is pending (layer not started, nothing pending, or an OpenConnection pending); with a
    hook pending the kill IS the plain completion of that hook on the flow marked killed -/
theorem kill_is_plain_completion_cases (st : State) :
    ((st.phase = .idle ∨ st.pending = .none ∨ st.pending = .connect) → step st .hookKill = st) ∧
    (st.phase ≠ .idle → st.pending ≠ .none → st.pending ≠ .connect →
      step st .hookKill = step (applyKill st) (.hookDone none)) := by
  obtain ⟨e, k, l, hk⟩ := applyKill_eq st
  cases hph : st.phase with
  | idle => exact ⟨fun _ => by unfold step; simp [hph], fun h => absurd rfl h⟩
  | _ =>
    cases hp : st.pending with
    | none => exact ⟨fun _ => by unfold step; simp [hph, hp], fun _ h => absurd rfl h⟩
    | connect => exact ⟨fun _ => by unfold step; simp [hph, hp], fun _ _ h => absurd rfl h⟩
    | _ => exact ⟨fun h => by simp at h, fun _ _ _ => by unfold step; simp [hph, hp, hk, editMsg]⟩

/-- a kill in any hook is, for the layer, the same as the plain completion of that hook on a flow marked killed -/
theorem kill_is_plain_completion (st : State) :
    step st .hookKill = st ∨ step st .hookKill = step (applyKill st) (.hookDone none) := by
  by_cases h : st.phase = .idle ∨ st.pending = .none ∨ st.pending = .connect
  · exact .inl ((kill_is_plain_completion_cases st).1 h)
  · exact .inr ((kill_is_plain_completion_cases st).2 (fun a => h (.inl a)) (fun a => h (.inr (.inl a)))
      (fun a => h (.inr (.inr a))))

/-- **Kill inside the message hook does not stop the relay**: the message is still recorded and is the very next
    `SendData` — exactly as if the addon had not killed the flow. -/
theorem kill_in_message_hook_still_relays (st : State) (to : Side) (m : Msg)
    (hph : st.phase ≠ .idle) (hp : st.pending = .msgHook to m) :
    (step st .hookKill).msgs = st.msgs ++ [m] ∧
    ∃ rest, (step st .hookKill).trace = st.trace ++ .send to m.content :: rest := by
  obtain ⟨e, k, l, hk⟩ := applyKill_eq st
  rw [(kill_is_plain_completion_cases st).2 hph (by simp [hp]) (by simp [hp]), hk]
  exact addon_edit_is_what_is_sent _ to m none hph hp

/-- a run with a kill inside the start hook and one inside a message hook: the relay goes on, and there is still exactly
    one end hook once both sides have closed (`exactly_one_end_or_error` holds for such schedules too; it needs live
    sockets: with a dead socket the missing `ConnectionClosed` is owed by the environment) -/
example : (run (init .tcp true true) [.start, .hookKill, .data .client [1], .hookKill, .closed .client false,
    .closed .server false, .hookDone none]).trace =
    [.hook .start, .hook (.message true [1]), .send .server [1], .close .server true, .close .client false, .hook .end_] := by
  decide

/-- dead server socket: the half-close towards the server leaves it CLOSED, so the end needs no second close of it -/
example : (run (initX .tcp true true false true) [.start, .hookDone none, .closed .client false, .closed .server true]).trace =
    [.hook .start, .close .server true, .close .client false, .hook .end_] := by decide

/-! ### arrival order (the replay of events buffered while a hook is pending keeps their order) -/

/-- **Messages are handled in arrival order.**  `accepted true/false ins` is the list of data and injected messages
    the schedule delivers after `Start`, in delivery order (both directions interleaved).  While the relay runs, the
    message hooks fired so far (with the content the peer sent), followed by the data events still waiting in the pause
    queue, are EXACTLY that list — for every interleaving of the two directions, hook completions, kills and closes. -/
theorem messages_handled_in_arrival_order (p : Proto) (c : Bool) (ins : List Input)
    (hrun : (run (init p true c) ins).phase = .start ∨ (run (init p true c) ins).phase = .relay) :
    hookMsgs (run (init p true c) ins).trace ++ dataOf (run (init p true c) ins).queue = accepted false ins := by
  have h := (arr_run (init p true c) ins [] (full2_init p true c) (arr_init p true c)).2.1 hrun
  rw [seen, reach_flow] at h
  exact h.symm

/-- once the relay has ended, what was handled is a prefix of what arrived (later arrivals are dropped, never reordered) -/
theorem handled_is_prefix_of_arrivals (p : Proto) (c : Bool) (ins : List Input) :
    ∃ rest, hookMsgs (run (init p true c) ins).trace ++ rest = accepted false ins := by
  have h := (arr_run (init p true c) ins [] (full2_init p true c) (arr_init p true c)).prefix
  rwa [seen, reach_flow] at h

/-- **Arrival order without a flow (`ignore=True`).**  The SendData commands yielded so far (direction, payload),
    followed by the data events still waiting in the pause queue, are exactly the data and injected messages delivered
    after `Start`, in delivery order; once the relay has ended they are a prefix of them. -/
theorem ignore_mode_relays_in_arrival_order (p : Proto) (c : Bool) (ins : List Input) :
    (((run (init p false c) ins).phase = .start ∨ (run (init p false c) ins).phase = .relay) →
      sentMsgs (run (init p false c) ins).trace ++ dataOf (run (init p false c) ins).queue = accepted false ins) ∧
    ∃ rest, sentMsgs (run (init p false c) ins).trace ++ rest = accepted false ins := by
  have h := arr_run (init p false c) ins [] (full2_init p false c) (arr_init p false c)
  have hp := h.prefix
  have h := h.2.1
  rw [seen, reach_flow] at h hp
  exact ⟨fun hrun => (h hrun).symm, hp⟩

example : sentMsgs (run (init .tcp false false) [.start, .data .client [1], .data .client [2], .closed .client false,
    .connectDone false, .data .server [3]]).trace = [⟨true, [1]⟩, ⟨true, [2]⟩, ⟨false, [3]⟩] := by decide

/-- three server replies and a client message buffered behind one pending hook are handled 1,2,3 - not 3,2,1 -/
example : hookMsgs (run (init .tcp true true) [.start, .hookDone none, .data .client [0], .data .server [1],
    .data .server [2], .data .server [3], .hookDone none, .hookDone none, .hookDone none, .hookDone none]).trace =
    [⟨true, [0]⟩, ⟨false, [1]⟩, ⟨false, [2]⟩, ⟨false, [3]⟩] := by decide

/-! ### the reply of `OpenConnection`: `None` / `""` / message -/

/-- **A failed connection attempt is always reported as one.**  Whatever the exception (also one whose `str()` is
    empty: a bare `TimeoutError()`, `OSError()`, `ConnectionError()`, or a cancellation), the reply `open_connection`
    completes the command with is truthy for the layers' `if err:`; a successful attempt yields `None`. -/
theorem open_connection_reply_truthy_iff_failed (o : ConnectOutcome) :
    truthy (openConnectionReply o) = (o != .ok) := by
  cases o with
  | ok => rfl
  | cancelled => rfl
  | oserror msg =>
    cases msg with
    | nil => rfl
    | cons b t => rfl

/-- the boundary this rests on: to the layers an EMPTY error string is the same input as `None` (success) — which is
    why `open_connection` must never produce it for a failure -/
theorem empty_reply_is_taken_as_success : replyInput (some []) = replyInput none := rfl

/-- end to end: a layer waiting for its `OpenConnection`, completed by `open_connection` after ANY failure, fires the
    error hook at once (and, by `at_most_one_end_or_error` / `nothing_relayed_after_end`, never ends normally or relays) -/
theorem failed_connect_ends_flow_with_error (st : State) (o : ConnectOutcome) (ho : o ≠ .ok)
    (hph : st.phase ≠ .idle) (hp : st.pending = .connect) (hf : st.flow = true) :
    (step st (replyInput (openConnectionReply o))).trace = st.trace ++ [.hook .error] ∧
    (step st (replyInput (openConnectionReply o))).pending = .errorHook := by
  have ht : truthy (openConnectionReply o) = true := by
    rw [open_connection_reply_truthy_iff_failed]; cases o <;> simp_all
  unfold replyInput
  rw [ht]
  exact connect_failure_fires_error st hph hp hf

/-! ### addon modifications over whole histories -/

/-- **Recorded = arrivals with the addon's edits, one for one, in order.**  `accepted false ins` are the data and injected
    messages the schedule delivers after `Start`, in delivery order; `edits _ ins` is what the addon did at the completion
    of each message hook, in order (`some b`: it left content `b` in `messages[-1]`; `none`: untouched, also for a kill).
    For every schedule the messages recorded in `flow.messages` whose hook has completed are exactly the arrivals with
    those edits applied position by position — and by `relay_exact_per_direction` they are, per direction, exactly what
    has been sent to the other peer. -/
theorem recorded_messages_are_arrivals_with_edits (p : Proto) (c : Bool) (ins : List Input) :
    (run (init p true c) ins).msgs =
      List.zipWith editMsg (accepted false ins) (edits (init p true c) ins) := by
  obtain ⟨h, hl, hm, hh⟩ := ed_run (init p true c) ins [] (full2_init p true c) (ed_init p true c)
  rw [List.nil_append] at hl hm
  obtain ⟨rest, hr⟩ := handled_is_prefix_of_arrivals p c ins
  rw [hm, ← hr, hh, List.append_assoc, zipWith_prefix _ _ _ _ hl]

/-- each completed message hook has exactly one recorded message -/
theorem one_recorded_message_per_completed_hook (p : Proto) (c : Bool) (ins : List Input) :
    (run (init p true c) ins).msgs.length = (edits (init p true c) ins).length := by
  obtain ⟨h, hl, hm, -⟩ := ed_run (init p true c) ins [] (full2_init p true c) (ed_init p true c)
  rw [List.nil_append] at hl hm
  rw [hm, List.length_zipWith, hl, Nat.min_self]

example : (run (init .tcp true true) [.start, .hookDone none, .data .client [1], .inject false [2], .hookDone (some [9]),
    .data .client [3], .hookKill, .hookDone none]).msgs = [⟨true, [9]⟩, ⟨false, [2]⟩, ⟨true, [3]⟩] ∧
    edits (init .tcp true true) [.start, .hookDone none, .data .client [1], .inject false [2], .hookDone (some [9]),
    .data .client [3], .hookKill, .hookDone none] = [some [9], none, none] := by decide

/-! ### hypotheses about the state replaced by hypotheses about the schedule -/

private theorem started_of_start_delivered (st : State) (ins : List Input) (hF : Full2 st)
    (hs : st.phase ≠ .idle ∨ Input.start ∈ ins) : (run st ins).phase ≠ .idle := by
  induction ins generalizing st with
  | nil => exact hs.elim id (fun h => by cases h)
  | cons i t ih =>
    refine ih _ (full2_step st i hF) ?_
    rcases hs with h | h
    · exact .inl (step_started st i hF.1 (.inl h))
    · exact (List.mem_cons.1 h).imp (fun e => step_started st i hF.1 (.inr e.symm)) id

/-- `exactly_one_end_or_error` with its state hypothesis "the layer was started" derived from the schedule:
    it suffices that `Start` occurs somewhere in the event sequence. -/
theorem exactly_one_end_or_error_of_schedule (p : Proto) (c : Bool) (ins : List Input)
    (hstart : Input.start ∈ ins) (hp : (run (init p true c) ins).pending = .none)
    (hclosed : peersFinished (run (init p true c) ins)) :
    (run (init p true c) ins).trace.countP isEndOrError = 1 :=
  exactly_one_end_or_error p c ins (started_of_start_delivered _ ins (full2_init p true c) (.inr hstart)) hp hclosed

/-! ### connection failures over whole histories -/

/-- **Without a server connection nothing is ever relayed.**  For every schedule: as long as no `OpenConnection` of the
    layer has succeeded — the attempt failed (with whatever message, see `open_connection_reply_truthy_iff_failed`), was
    refused, or is still pending — every command the layer has yielded is one of: start hook, `OpenConnection`, error
    hook, close of the client.  In particular no `SendData`, no message hook and no end hook, whatever the peers send,
    inject or close meanwhile and afterwards. -/
theorem never_connected_relays_nothing (p : Proto) (f : Bool) (ins : List Input)
    (hc : (run (init p f false) ins).connected = false) :
    ∀ o ∈ (run (init p f false) ins).trace,
      o = .hook .start ∨ o = .openServer ∨ o = .hook .error ∨ o = .close .client false := by
  have h := (nc_run (init p f false) ins (full2_init p f false) (nc_init p f false) hc).1
  intro o ho
  have := List.all_eq_true.1 h o ho
  cases o with
  | hook hk => cases hk <;> simp_all [setupOnly]
  | openServer => simp
  | send to d => simp [setupOnly] at this
  | close c half => cases c <;> cases half <;> simp_all [setupOnly]

/-- `never_connected_relays_nothing` on a run where the connect fails while client data and a close are buffered -/
example : let st := run (init .tcp true false) [.start, .data .client [1], .hookDone none, .closed .client false,
      .connectDone true, .hookDone none, .data .client [2], .inject false [3]]
    st.connected = false ∧ st.trace = [.hook .start, .openServer, .hook .error, .close .client false] := by decide

/-! ### the hypotheses are satisfiable and the model is not constant -/

/-- a relay with an addon edit, a half-close and a regular end: the edited bytes are what is sent -/
example : (run (init .tcp true false)
    [.start, .data .client [1], .hookDone none, .connectDone false, .hookDone (some [9, 9]),
     .closed .client false, .inject false [7], .hookDone none, .closed .server false]).trace =
    [.hook .start, .openServer, .hook (.message true [1]), .send .server [9, 9], .close .server true,
     .hook (.message false [7]), .send .client [7], .close .client false, .hook .end_] := by decide

/-- hypotheses of `half_close_propagated_while_other_direction_flows` hold in a reachable state -/
example : let st := run (init .tcp true true) [.start, .hookDone none]
    st.phase = .relay ∧ st.pending = .none ∧ (st.conn Side.client.other).canRead = true := by decide

/-- `half_close_emitted_once_quiescent` on a run where the client's close was buffered behind a message hook -/
example : let st := run (init .tcp true true) [.start, .hookDone none, .data .client [1], .closed .client false, .hookDone none]
    st.phase = .relay ∧ st.pending = .none ∧ (st.conn .client).canRead = false ∧
    st.trace = [.hook .start, .hook (.message true [1]), .send .server [1], .close .server true] := by decide

/-- hypotheses of `exactly_one_end_or_error` hold (TCP, both sides closed, end hook completed) -/
example : let st := run (init .tcp true true) [.start, .hookDone none, .closed .client false, .closed .server false, .hookDone none]
    st.phase ≠ .idle ∧ st.pending = .none ∧ peersFinished st ∧ st.trace.countP isEndOrError = 1 := by
  refine ⟨by decide, by decide, ?_, by decide⟩
  show (_ ∧ _)
  exact ⟨by decide, by decide⟩

/-- connect failure: error hook, then the client is closed; data buffered meanwhile is dropped -/
example : (run (init .udp true false) [.start, .hookDone none, .data .client [1], .connectDone true, .hookDone none]).trace =
    [.hook .start, .openServer, .hook .error, .close .client false] := by decide

/-- both closes buffered behind a pending message hook: the message is still sent, then one end hook -/
example : (run (init .tcp true true) [.start, .hookDone none, .data .client [1], .closed .client false,
    .closed .server false, .hookDone none, .hookDone none, .data .server [2]]).trace =
    [.hook .start, .hook (.message true [1]), .send .server [1], .close .server false, .close .client false, .hook .end_] := by
  decide

/-- `relay_exact_per_direction` with every term non-empty: one message sent on, one edited message whose hook is
    still pending (in flight), both towards the server; nothing towards the client -/
example : let st := run (init .tcp true true) [.start, .hookDone none, .data .client [1], .hookDone (some [7]), .data .client [2]]
    sentTo .server st.trace = [[7]] ∧ inFlightTo .server st = [[2]] ∧ recorded .server st.flowMessages = [[7], [2]] ∧
    sentTo .client st.trace = [] ∧ recorded .client st.flowMessages = [] := by decide

/-- hypotheses of `addon_edit_is_what_is_sent` / `kill_in_message_hook_still_relays` in a reachable state, with a
    close already waiting in the pause queue behind the hook -/
example : let st := run (init .udp true true) [.start, .hookDone none, .inject false [5], .closed .client true]
    st.phase ≠ .idle ∧ st.pending = .msgHook .client ⟨false, [5]⟩ ∧ st.queue = [.closed .client] ∧
    (step st (.hookDone (some [6]))).msgs = [⟨false, [6]⟩] := by decide

/-- hypotheses of `connect_failure_fires_error` / `failed_connect_ends_flow_with_error` in a reachable state, and
    `exactly_one_end_or_error` on the ERROR path (UDP, connect refused, error hook completed): exactly one, and it is
    the error hook -/
example : let st := run (init .udp true false) [.start, .hookDone none]
    st.phase ≠ .idle ∧ st.pending = .connect ∧ st.flow = true := by decide

example : let st := run (init .udp true false) [.start, .hookDone none, .data .client [1], .connectDone true, .hookDone none]
    st.phase ≠ .idle ∧ st.pending = .none ∧ peersFinished st ∧ st.trace.countP isEndOrError = 1 ∧
    Output.hook .error ∈ st.trace := by
  refine ⟨by decide, by decide, ?_, by decide, by decide⟩
  show (_ ∨ _)
  exact Or.inl (by decide)

/-- `exactly_one_end_or_error` for UDP on the normal path: one side closes, the end hook completes -/
example : let st := run (init .udp true true) [.start, .hookDone none, .data .server [3], .hookDone none, .closed .server true, .hookDone none]
    st.phase ≠ .idle ∧ st.pending = .none ∧ peersFinished st ∧ st.trace.countP isEndOrError = 1 ∧ st.live = false := by
  refine ⟨by decide, by decide, ?_, by decide, by decide⟩
  show (_ ∨ _)
  exact Or.inr (by decide)

/-- hypothesis and both disjuncts of `tcp_ends_only_when_both_directions_closed`: `done` after both directions closed
    (connected), and `done` after a failed connect (never connected, the server side was never readable) -/
example : let st := run (init .tcp true true) [.start, .hookDone none, .closed .server false, .closed .client false]
    st.phase = .done ∧ st.connected = true ∧ st.client.canRead = false ∧ st.server.canRead = false := by decide
example : let st := run (init .tcp false false) [.start, .connectDone true]
    st.phase = .done ∧ st.connected = false := by decide

/-- `nothing_relayed_after_end` with a non-empty tail: after the error hook only the close of the client follows,
    although client data, an injection and a close were delivered meanwhile and afterwards -/
example : (run (init .tcp true false) [.start, .hookDone none, .data .client [1], .connectDone true, .inject true [2],
      .hookDone none, .data .client [3], .closed .client false]).trace =
    [.hook .start, .openServer] ++ .hook .error :: [.close .client false] := by decide

/-- `messages_handled_in_arrival_order` with a non-empty pause queue: one hook fired, two data events and a close waiting -/
example : let ins : List Input := [.start, .hookDone none, .data .server [1], .data .client [2], .closed .server false, .inject false [3]]
    let st := run (init .tcp true true) ins
    st.phase = .relay ∧ hookMsgs st.trace = [⟨false, [1]⟩] ∧ dataOf st.queue = [⟨true, [2]⟩, ⟨false, [3]⟩] ∧
    accepted false ins = [⟨false, [1]⟩, ⟨true, [2]⟩, ⟨false, [3]⟩] := by decide

/-- `ignore_mode_relays_in_arrival_order` while the connect is still pending (phase `start`, everything queued) -/
example : let ins : List Input := [.start, .data .client [1], .inject true [2]]
    let st := run (init .udp false false) ins
    st.phase = .start ∧ sentMsgs st.trace = [] ∧ dataOf st.queue = accepted false ins := by decide

/-- `half_close_propagated_while_other_direction_flows`, conclusion on a concrete run without a flow (`ignore=True`):
    the server half-closes, the client's next data is still sent to the server -/
example : (run (init .tcp false true) [.start, .closed .server false, .data .client [4], .hookDone none]).trace =
    [.close .client true, .send .server [4]] := by decide

/-- the dead-socket theorems' hypotheses: a run from `initX` with a dead client socket; the half-close towards the
    client leaves it CLOSED, at most one end hook, nothing after it -/
example : let st := run (initX .tcp true true true false) [.start, .hookDone none, .closed .server false, .data .client [1], .hookDone none]
    st.client = Conn.shut ∧ st.trace = [.hook .start, .close .client true, .hook (.message true [1]), .send .server [1]] ∧
    st.trace.countP isEndOrError = 0 := by decide

/-- `open_connection_reply_truthy_iff_failed` on the boundary values: bare exception (empty `str(e)`), a message, success -/
example : openConnectionReply (.oserror []) = some cancelledMsg ∧ truthy (openConnectionReply (.oserror [])) = true ∧
    openConnectionReply (.oserror [0x78]) = some [0x78] ∧ truthy (openConnectionReply .ok) = false := by decide

end MitmVerif.Props.C29
