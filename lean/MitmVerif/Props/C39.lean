/-
  C39 — property theorems about the Save addon model (Model/C39.lean), for ALL environments `env`
  (filter matcher, WebSocket test, strftime, open failures), all filter/content types and all histories.

  A `_reachable` form states its theorem of the state after any history from the initial one (the invariant is derived),
  `lifecycle_written_exactly_once_flt` with the filter language transcribed (Model/C39_Flt).  Everything that holds of
  every step is read off `step_outcome` (Lemmas/C39); the theorems that need the condition under which a transition
  occurs use `saveFlow_cases` / `update_cases`.  The theorems about file contents (`append_mode_keeps_prefix`,
  `completion_record_goes_to_formatted_path`, `completion_file_reachable`) replay the emitted actions on `FS`; that the
  replayed handle is the addon's `current_path` is Lemmas/C39Coh.
-/
import MitmVerif.Lemmas.C39
import MitmVerif.Lemmas.C39Coh
import MitmVerif.Model.C39_Flt
namespace MitmVerif.Props.C39
open MitmVerif.C39 MitmVerif.Lemmas.C39

variable {F C : Type}

/-- hook h is a completion of flow f in state s, per the statement: response/error only for plain HTTP -/
def isCompletion (env : Env F C) (s : St F C) (h : Hook) (f : FlowId) : Bool :=
  !h.isStart && !(h.isHttpEnd && env.isWs (s.world f))

/-- events that may stop saving -/
def stops : Ev F C → Bool
  | .done => true
  | .update (some none) _ => true
  | _ => false

def completes (env : Env F C) (s : St F C) (e : Ev F C) (f : FlowId) : Bool :=
  match e with
  | .hook h g => g == f && isCompletion env s h g
  | _ => false

/-- a history during which flow f neither completes nor saving stops nor the process exits -/
def Quiet (env : Env F C) (f : FlowId) : St F C → List (Ev F C) → Prop
  | _, [] => True
  | s, e :: es => completes env s e f = false ∧ stops e = false ∧ (step env s e).1.exited = false ∧
                  Quiet env f (step env s e).1 es

/-- **invariant.** Every reachable state: stream open ⇔ path set, the writer's filter is the current filter,
    a stream is only open while save_stream_file is set, the filter is the parsed option, the open-flow set has
    no duplicates and is empty while not streaming. -/
theorem reachable_inv (env : Env F C) (w : FlowId → C) (evs : List (Ev F C)) :
    Inv (run env (init w) evs).1 :=
  run_inv env evs _ (init_inv w)

private theorem step_hook (env : Env F C) (s : St F C) (h : Hook) (f : FlowId) (hx : s.exited = false) :
    step env s (.hook h f) =
      if isCompletion env s h f then saveFlow env s f
      else (if h.isStart && s.stream.isSome then
              { s with active := if s.active.contains f then s.active else f :: s.active } else s, []) := by
  simp only [step, hx, hookOp_eq, isCompletion]
  rfl

/-- **C39 (completion).** While streaming, a completion hook of flow f (response/error of plain HTTP,
    websocket_end, tcp/udp end or error, dns response or error) writes exactly one record of f — its current
    content — if f passes the filter, nothing if it does not; f is no longer an open flow afterwards.
    (Side condition: the rotation target can be opened; otherwise the addon exits the process.) -/
theorem completion_appends_exactly_one_if_match (env : Env F C) (s : St F C) (h : Hook) (f : FlowId)
    (hi : Inv s) (hx : s.exited = false) (hs : s.stream.isSome = true) (hc : isCompletion env s h f = true)
    (hrot : ∀ spec, s.optFile = some spec → rotate env s spec ≠ none) :
    writes (step env s (.hook h f)).2 = (if passes env s.filt f (s.world f) then [⟨f, s.world f⟩] else []) ∧
    f ∉ (step env s (.hook h f)).1.active ∧ (step env s (.hook h f)).1.stream.isSome = true := by
  rw [step_hook env s h f hx, if_pos hc]
  rcases saveFlow_cases env s f hi with ⟨h0, _⟩ | ⟨spec, ho, _, ⟨hr, _⟩ | ⟨_, h'⟩⟩
  · simp [h0] at hs
  · exact absurd hr (hrot spec ho)
  · rw [h']
    exact ⟨by simp [writes_append, writes_rotIo, writes_add], fun hm => ((hi.nodup.mem_erase_iff).mp hm).1 rfl, rfl⟩

/-- without an open stream no hook does anything to the file system -/
theorem completion_while_inactive_writes_nothing (env : Env F C) (s : St F C) (h : Hook) (f : FlowId)
    (hi : Inv s) (hs : s.stream = none) : (step env s (.hook h f)).2 = [] ∧ (step env s (.hook h f)).1.active = [] := by
  have hsave : saveFlow env s f = (s, []) := by simp [saveFlow, hs]
  simp only [step, hookOp_eq, hsave, hs, Option.isSome_none, Bool.and_false, Bool.false_eq_true, if_false]
  split
  · exact ⟨rfl, hi.idle hs⟩
  · split <;> exact ⟨rfl, hi.idle hs⟩

/-- every record a step writes passed the filter in effect before it, carries the flow's content of that moment, and
    is written by a completion hook of its flow or by a stop -/
private theorem step_writes (env : Env F C) (s : St F C) (e : Ev F C) (hi : Inv s) (r : Rec C)
    (hr : r ∈ writes (step env s e).2) :
    (passes env s.filt r.flow (s.world r.flow) = true ∧ r.content = s.world r.flow) ∧
    ((∃ h, e = .hook h r.flow ∧ isCompletion env s h r.flow = true) ∨ e = .done ∨
      (∃ filt, e = .update (some none) filt)) := by
  have hdone : r ∈ writes (doneOp env s).2 →
      passes env s.filt r.flow (s.world r.flow) = true ∧ r.content = s.world r.flow := by
    intro h
    rw [doneOp_writes env s hi] at h
    obtain ⟨x, hx, rfl⟩ := List.mem_map.mp h
    exact ⟨(List.mem_filter.mp hx).2, rfl⟩
  have h := step_outcome env s e hi
  generalize step env s e = x at h hr
  cases h with
  | idle | start | edit | tick | exit => simp at hr
  | opened | reopened => simp [writes_rotIo] at hr
  | save h f spec hc =>
    simp only [writes_append, writes_rotIo, writes_add, List.nil_append] at hr
    split at hr
    · rename_i hp
      obtain rfl : r = ⟨f, s.world f⟩ := by simpa using hr
      exact ⟨⟨hp, rfl⟩, .inl ⟨h, rfl, hc⟩⟩
    · simp at hr
  | done => exact ⟨hdone hr, .inr (.inl rfl)⟩
  | unset file filt g _ ho =>
    refine ⟨hdone hr, .inr (.inr ⟨filt, ?_⟩)⟩
    cases file with
    | some v => rw [show v = none from ho]
    | none =>
      -- save_stream_file stays unset: no stream was open, so `done` writes nothing
      rcases doneOp_cases env s with ⟨_, hd⟩ | ⟨flt, hs, _⟩
      · simp [hd] at hr
      · have := hi.opt (by simp [hs]); simp [show s.optFile = none from ho] at this

/-- **C39 (filter), one step.** Whatever the event, every record it writes passes the filter in effect
    before the event and carries the flow's content of that moment. -/
theorem nonmatching_never_written_step (env : Env F C) (s : St F C) (e : Ev F C) (hi : Inv s) :
    ∀ r ∈ writes (step env s e).2,
      passes env s.filt r.flow (s.world r.flow) = true ∧ r.content = s.world r.flow :=
  fun r hr => (step_writes env s e hi r hr).1

private theorem mem_run_writes (env : Env F C) (evs : List (Ev F C)) :
    ∀ (s : St F C) (r : Rec C), r ∈ writes (run env s evs).2 →
      ∃ pre e post, evs = pre ++ e :: post ∧ r ∈ writes (step env (run env s pre).1 e).2 := by
  induction evs with
  | nil => intro s r h; simp [run] at h
  | cons e es ih =>
    intro s r h
    simp only [run, writes_append] at h
    rcases List.mem_append.mp h with h1 | h1
    · exact ⟨[], e, es, rfl, h1⟩
    · obtain ⟨pre, e', post, he, hm⟩ := ih _ r h1
      exact ⟨e :: pre, e', post, by simp [he], hm⟩

/-- **C39 (filter), whole histories.** In any history from the initial state, every record that is ever
    written was written by some event of the history at a moment when the flow passed the filter then in
    effect, and the record is the flow's content at that moment: flows that do not match are never written. -/
theorem nonmatching_never_written (env : Env F C) (w : FlowId → C) (evs : List (Ev F C)) :
    ∀ r ∈ writes (run env (init w) evs).2,
      ∃ pre e post, evs = pre ++ e :: post ∧
        passes env (run env (init w) pre).1.filt r.flow ((run env (init w) pre).1.world r.flow) = true ∧
        r.content = (run env (init w) pre).1.world r.flow := by
  intro r hr
  obtain ⟨pre, e, post, he, hm⟩ := mem_run_writes env evs _ r hr
  exact ⟨pre, e, post, he, nonmatching_never_written_step env _ e (reachable_inv env w pre) r hm⟩

/-- **C39 (no early records).** A step writes a record of flow g only if it is a completion hook of g, or the
    `done` hook, or an options update that sets save_stream_file to None (saving stops). -/
theorem no_record_before_completion_except_stop (env : Env F C) (s : St F C) (e : Ev F C) (hi : Inv s) :
    ∀ r ∈ writes (step env s e).2,
      (∃ h, e = .hook h r.flow ∧ isCompletion env s h r.flow = true) ∨ e = .done ∨
      (∃ filt, e = .update (some none) filt) :=
  fun r hr => (step_writes env s e hi r hr).2

private theorem step_keep (env : Env F C) (s : St F C) (e : Ev F C) (f : FlowId) (hi : Inv s)
    (hm : f ∈ s.active) (hs : s.stream.isSome = true) (hc : completes env s e f = false) (hst : stops e = false)
    (hx : (step env s e).1.exited = false) :
    f ∈ (step env s e).1.active ∧ (step env s e).1.stream.isSome = true := by
  have h := step_outcome env s e hi
  generalize step env s e = x at h hx ⊢
  cases h with
  | idle | edit | tick => exact ⟨hm, hs⟩
  | opened | reopened => exact ⟨hm, rfl⟩
  | start h g => exact ⟨List.mem_cons_of_mem _ hm, hs⟩
  | exit => simp at hx
  | save h g spec hcg =>
    have hcg : isCompletion env s h g = true := hcg
    have hne : g ≠ f := by rintro rfl; simp [completes, hcg] at hc
    exact ⟨(List.mem_erase_of_ne hne.symm).mpr hm, rfl⟩
  | done => simp [stops] at hst
  | unset file filt g _ ho =>
    exfalso
    cases file with
    | some v => obtain rfl : v = none := ho; simp [stops] at hst
    | none => have := hi.opt hs; simp [show s.optFile = none from ho] at this

/-- a quiet history keeps an open flow open and the stream streaming, and writes no record of the flow -/
private theorem quiet_run (env : Env F C) (f : FlowId) (evs : List (Ev F C)) :
    ∀ s : St F C, Inv s → f ∈ s.active → s.stream.isSome = true → s.exited = false → Quiet env f s evs →
      Inv (run env s evs).1 ∧ f ∈ (run env s evs).1.active ∧ (run env s evs).1.stream.isSome = true ∧
      (run env s evs).1.exited = false ∧ (writes (run env s evs).2).filter (fun r => r.flow == f) = [] := by
  induction evs with
  | nil => intro s hi hm hs hx _; exact ⟨hi, hm, hs, hx, rfl⟩
  | cons e es ih =>
    intro s hi hm hs hx ⟨q1, q2, q3, q4⟩
    obtain ⟨k1, k2⟩ := step_keep env s e f hi hm hs q1 q2 q3
    obtain ⟨a, b, c, d, w⟩ := ih _ (step_inv env s e hi) k1 k2 q3 q4
    refine ⟨a, b, c, d, ?_⟩
    simp only [run, writes_append, List.filter_append, w, List.append_nil, List.filter_eq_nil_iff]
    intro r hr hrf
    have hfl : r.flow = f := by simpa using hrf
    rcases no_record_before_completion_except_stop env s e hi r hr with ⟨h, rfl, hc⟩ | rfl | ⟨filt, rfl⟩
    · rw [hfl] at hc q1; simp [completes, hc] at q1
    · simp [stops] at q2
    · simp [stops] at q2

/-- a start hook while streaming makes f an open flow, and a quiet history after it leaves it one -/
private theorem started_quiet (env : Env F C) (s0 : St F C) (hs : Hook) (f : FlowId) (mid : List (Ev F C))
    (hi : Inv s0) (hx : s0.exited = false) (hopen : s0.stream.isSome = true) (hstart : hs.isStart = true)
    (hq : Quiet env f (step env s0 (.hook hs f)).1 mid) :
    Inv (run env s0 (.hook hs f :: mid)).1 ∧ f ∈ (run env s0 (.hook hs f :: mid)).1.active ∧
    (run env s0 (.hook hs f :: mid)).1.stream.isSome = true ∧ (run env s0 (.hook hs f :: mid)).1.exited = false ∧
    (writes (run env s0 (.hook hs f :: mid)).2).filter (fun r => r.flow == f) = [] := by
  have h1 : step env s0 (.hook hs f) =
      ({ s0 with active := if s0.active.contains f then s0.active else f :: s0.active }, []) := by
    simp [step_hook env s0 hs f hx, isCompletion, hstart, hopen]
  have hm1 : f ∈ (step env s0 (.hook hs f)).1.active := by
    rw [h1]
    simp only
    split
    · rename_i hc; simpa using hc
    · simp
  have hio : (step env s0 (.hook hs f)).2 = [] := by rw [h1]
  obtain ⟨a, b, c, d, w⟩ := quiet_run env f mid _ (step_inv env s0 _ hi) hm1 (by rw [h1]; exact hopen)
    (by rw [h1]; exact hx) hq
  refine ⟨a, b, c, d, ?_⟩
  show (writes ((step env s0 (.hook hs f)).2 ++ _)).filter _ = []
  rw [hio]
  exact w

/-- **C39 (open flows at stop).** Let flow f get a start hook (request, tcp_start, udp_start, dns_request) while
    streaming; then let ANY history follow in which f does not complete, saving is not stopped and the process
    does not exit (other flows' hooks, edits of f, filter changes, file changes and failed option updates, clock
    ticks).  When saving then stops — by the `done` hook or by setting save_stream_file to None — exactly one
    record of f (its content at that moment) is written if it passes the filter, none otherwise, and f is no
    longer an open flow (so it is not written again by a later stop). -/
theorem started_uncompleted_written_once_at_stop (env : Env F C) (s0 : St F C) (hs : Hook) (f : FlowId)
    (mid : List (Ev F C)) (hi : Inv s0) (hx : s0.exited = false) (hopen : s0.stream.isSome = true)
    (hstart : hs.isStart = true) (hq : Quiet env f (step env s0 (.hook hs f)).1 mid)
    (filt : Option (FiltOpt F)) (hnb : filt = some .bad → False) :
    let s := (run env s0 (.hook hs f :: mid)).1
    ((writes (step env s .done).2).filter (fun r => r.flow == f) =
        (if passes env s.filt f (s.world f) then [⟨f, s.world f⟩] else []) ∧ (step env s .done).1.active = []) ∧
    ((writes (step env s (.update (some none) filt)).2).filter (fun r => r.flow == f) =
        (if passes env s.filt f (s.world f) then [⟨f, s.world f⟩] else []) ∧
      (step env s (.update (some none) filt)).1.active = []) := by
  intro s
  obtain ⟨his, hms, _, hex, _⟩ := started_quiet env s0 hs f mid hi hx hopen hstart hq
  refine ⟨?_, ?_⟩
  · have : step env s .done = doneOp env s := by simp [step, hex, s]
    rw [this, doneOp_fst env s his.toW]
    exact ⟨doneOp_flush env s f his hms, rfl⟩
  · have : step env s (.update (some none) filt) =
        ((update env s (some none) filt).1, (update env s (some none) filt).2.1) := by simp [step, hex, s]
    rw [this]
    rcases update_cases env s (some none) filt his with
      ⟨hf, _⟩ | ⟨g, _, ⟨_, h'⟩ | ⟨spec, ho, _⟩⟩ | ⟨hbad | ⟨spec, ho, _⟩, _⟩
    · cases hf
    · rw [h']; exact ⟨doneOp_flush env s f his hms, rfl⟩
    · simp at ho
    · exfalso
      cases filt with
      | none => have h2 : filtOf s.optFilt = none := hbad; rw [his.sync] at h2; cases h2
      | some v => cases v <;> first | exact hnb rfl | cases hbad
    · simp at ho

/-- all file specs that occur in the history are append specs ("+path") -/
def AppendOnly (evs : List (Ev F C)) : Prop :=
  ∀ e ∈ evs, ∀ spec filt, e = .update (some (some spec)) filt → spec.append = true

private theorem fsStep_prefix (fs : FS C) (a : Act C) (ha : ∀ p b, a = .opn p b → b = true) (q : Path) :
    fs.files q <+: (fsStep fs a).files q := by
  cases a with
  | opn p b =>
    obtain rfl := ha p b rfl
    by_cases hq : q = p <;> simp [fsStep, hq]
  | wr r =>
    cases hc : fs.cur with
    | none => simp [fsStep, hc]
    | some p => by_cases hq : q = p <;> simp [fsStep, hc, hq]
  | cls => simp [fsStep]

private theorem fsRun_prefix (io : List (Act C)) :
    ∀ (fs : FS C), (∀ a ∈ io, ∀ p b, a = .opn p b → b = true) → ∀ q, fs.files q <+: (fsRun fs io).files q := by
  induction io with
  | nil => intro fs _ q; exact List.prefix_refl _
  | cons a l ih =>
    intro fs h q
    have h1 := fsStep_prefix fs a (h a (by simp)) q
    have h2 := ih (fsStep fs a) (fun a' ha' => h a' (by simp [ha'])) q
    exact h1.trans h2

/-- a step opens files only with the append flag of the configured spec or of the spec it sets, and leaves one of
    the two as the configured spec -/
private theorem step_append (env : Env F C) (s : St F C) (e : Ev F C) (hi : Inv s)
    (hs : ∀ spec, s.optFile = some spec → spec.append = true)
    (he : ∀ spec filt, e = .update (some (some spec)) filt → spec.append = true) :
    (∀ p b, Act.opn p b ∈ (step env s e).2 → b = true) ∧
    ∀ spec, (step env s e).1.optFile = some spec → spec.append = true := by
  have hset : ∀ file filt, e = .update file filt → ∀ sp, file.getD s.optFile = some sp → sp.append = true := by
    intro file filt hev sp hsp
    cases file with
    | none => exact hs sp hsp
    | some v => exact he sp filt (by rw [hev, show v = some sp from hsp])
  have h := step_outcome env s e hi
  generalize step env s e = x at h
  cases h with
  | idle | start | edit | tick | exit => exact ⟨by simp, hs⟩
  | save h f spec _ ho =>
    refine ⟨fun p b hm => ?_, hs⟩
    rcases List.mem_append.mp hm with hm | hm
    · rw [opn_mem_rotIo env s spec p b hm]; exact hs spec ho
    · exact absurd hm (opn_not_mem_add env _ _ f p b)
  | done => exact ⟨fun p b hm => absurd hm (opn_not_mem_doneOp env s p b), hs⟩
  | unset file filt => exact ⟨fun p b hm => absurd hm (opn_not_mem_doneOp env s p b), hset file filt rfl⟩
  | opened file filt g spec _ ho =>
    exact ⟨fun p b hm => by rw [opn_mem_rotIo env s spec p b hm]; exact hset file filt rfl spec ho, hset file filt rfl⟩
  | reopened file filt spec ho =>
    exact ⟨fun p b hm => by rw [opn_mem_rotIo env s spec p b hm]; exact hs spec ho, hs⟩

private theorem run_opn_append (env : Env F C) (evs : List (Ev F C)) :
    ∀ s : St F C, Inv s → (∀ spec, s.optFile = some spec → spec.append = true) → AppendOnly evs →
      ∀ a ∈ (run env s evs).2, ∀ p b, a = .opn p b → b = true := by
  induction evs with
  | nil => intro s _ _ _ a ha; simp [run] at ha
  | cons e es ih =>
    intro s hi hs hap a ha p b hab
    obtain ⟨k1, k2⟩ := step_append env s e hi hs (fun spec filt h => hap e (by simp) spec filt h)
    simp only [run] at ha
    rcases List.mem_append.mp ha with h1 | h1
    · exact k1 p b (hab ▸ h1)
    · exact ih _ (step_inv env s e hi) k2 (fun e' he' => hap e' (by simp [he'])) a h1 p b hab

/-- **C39 (append mode).** If the configured file spec and every file spec set during the history carry the
    "+" prefix, then for every path the content present before the history is a prefix of the content
    afterwards: nothing is ever truncated or overwritten, records are only appended. -/
theorem append_mode_keeps_prefix (env : Env F C) (s : St F C) (evs : List (Ev F C)) (fs : FS C) (hi : Inv s)
    (hs : ∀ spec, s.optFile = some spec → spec.append = true) (hap : AppendOnly evs) (q : Path) :
    fs.files q <+: (fsRun fs (run env s evs).2).files q :=
  fsRun_prefix _ fs (run_opn_append env evs s hi hs hap) q

/-- overwrite mode does truncate: opening an existing file without "+" empties it (the model is not constant) -/
theorem overwrite_open_truncates (fs : FS C) (p : Path) :
    (fsStep fs (.opn p false)).files p = [] := by
  simp [fsStep]

private theorem run_snoc (env : Env F C) (e : Ev F C) : ∀ (evs : List (Ev F C)) (s : St F C),
    run env s (evs ++ [e]) =
      ((step env (run env s evs).1 e).1, (run env s evs).2 ++ (step env (run env s evs).1 e).2)
  | [], s => by simp [run]
  | e' :: es, s => by simp [run, run_snoc env e es, List.append_assoc]

/-- **C39 (whole lifecycle, every interleaving).** Let flow f get a start hook while streaming, let ANY history
    follow in which f does not complete, saving is not stopped and the process does not exit — arbitrary hooks of
    other flows, edits of f, filter changes (also unparsable ones), file changes (also failing ones), clock ticks
    with rotations — and then let f's completion hook arrive.  Over the WHOLE history the records of f that were
    written are: exactly one, carrying f's content at completion, if f passes the filter in effect at completion;
    none otherwise.  (Side condition as in the one-step theorem: the rotation target at completion can be opened.) -/
theorem lifecycle_written_exactly_once (env : Env F C) (s0 : St F C) (hs hc : Hook) (f : FlowId)
    (mid : List (Ev F C)) (hi : Inv s0) (hx : s0.exited = false) (hopen : s0.stream.isSome = true)
    (hstart : hs.isStart = true) (hq : Quiet env f (step env s0 (.hook hs f)).1 mid)
    (hcomp : isCompletion env (run env s0 (.hook hs f :: mid)).1 hc f = true)
    (hrot : ∀ spec, (run env s0 (.hook hs f :: mid)).1.optFile = some spec →
              rotate env (run env s0 (.hook hs f :: mid)).1 spec ≠ none) :
    (writes (run env s0 (.hook hs f :: mid ++ [.hook hc f])).2).filter (fun r => r.flow == f) =
      (if passes env (run env s0 (.hook hs f :: mid)).1.filt f ((run env s0 (.hook hs f :: mid)).1.world f)
       then [⟨f, (run env s0 (.hook hs f :: mid)).1.world f⟩] else []) := by
  obtain ⟨his, _, hss, hex, hpre⟩ := started_quiet env s0 hs f mid hi hx hopen hstart hq
  obtain ⟨a, _, _⟩ := completion_appends_exactly_one_if_match env _ hc f his hex hss hcomp hrot
  have hlist : (Ev.hook hs f :: mid ++ [Ev.hook hc f]) = (Ev.hook hs f :: mid) ++ [Ev.hook hc f] := rfl
  rw [hlist, run_snoc, writes_append, List.filter_append, hpre, List.nil_append, a]
  split <;> simp

/-- **C39 (which file).** A completion hook of a matching flow puts the record at the end of the file whose name
    is the strftime-formatted pattern at the time of the hook: if that is the file already open nothing else
    changes, otherwise the file is opened first (keeping its content in append mode, emptying it in overwrite
    mode).  No other file changes.  `fs.cur = s.curPath` says the file system's open handle is the addon's. -/
theorem completion_record_goes_to_formatted_path (env : Env F C) (s : St F C) (h : Hook) (f : FlowId)
    (spec : Spec) (fs : FS C) (hi : Inv s) (hx : s.exited = false) (hs : s.stream.isSome = true)
    (hc : isCompletion env s h f = true) (ho : s.optFile = some spec) (hrot : rotate env s spec ≠ none)
    (hcoh : fs.cur = s.curPath) (hp : passes env s.filt f (s.world f) = true) :
    (step env s (.hook h f)).1.curPath = some (env.fmt spec.pat s.now) ∧
    (fsRun fs (step env s (.hook h f)).2).cur = some (env.fmt spec.pat s.now) ∧
    (fsRun fs (step env s (.hook h f)).2).files (env.fmt spec.pat s.now) =
      (if s.curPath = some (env.fmt spec.pat s.now) then fs.files (env.fmt spec.pat s.now)
       else if spec.append then fs.files (env.fmt spec.pat s.now) else []) ++ [⟨f, s.world f⟩] ∧
    (∀ q, q ≠ env.fmt spec.pat s.now → (fsRun fs (step env s (.hook h f)).2).files q = fs.files q) := by
  rw [step_hook env s h f hx, if_pos hc]
  rcases saveFlow_cases env s f hi with ⟨h0, _⟩ | ⟨sp, ho', _, ⟨hr, _⟩ | ⟨_, h'⟩⟩
  · simp [h0] at hs
  · rw [ho] at ho'; cases ho'; exact absurd hr hrot
  · rw [ho] at ho'
    cases ho'
    have hadd : add env s.filt s.world f = [.wr ⟨f, s.world f⟩] := by simp [add, hp]
    rw [h', hadd]
    unfold rotIo
    split
    · rename_i hcp
      have hcur : fs.cur = some (env.fmt spec.pat s.now) := hcoh.trans hcp
      refine ⟨rfl, ?_, ?_, ?_⟩
      · simp [fsRun, fsStep, hcur]
      · simp [fsRun, fsStep, hcur]
      · intro q hq; simp [fsRun, fsStep, hcur, hq]
    · refine ⟨rfl, ?_, ?_, ?_⟩
      · simp [fsRun, fsStep]
      · simp [fsRun, fsStep]
      · intro q hq; simp [fsRun, fsStep, hq]

/-- along every history from the initial state the file system's open stream handle is the addon's
    `current_path` (this discharges the hypothesis `fs.cur = s.curPath` of the previous theorem) -/
theorem stream_file_handle_is_current_path (env : Env F C) (w : FlowId → C) (evs : List (Ev F C)) (fs0 : FS C)
    (h0 : fs0.cur = none) :
    (fsRun fs0 (run env (init w) evs).2).cur = (run env (init w) evs).1.curPath :=
  run_cur env evs _ fs0 (init_inv w) h0

/-- **C39 (which file, every reachable state).** After ANY history from the initial state (all interleavings,
    filter and file changes, rotations), a completion hook of a matching flow appends its record to the file
    named by the pattern formatted with the clock at that moment, and changes no other file. -/
theorem completion_file_reachable (env : Env F C) (w : FlowId → C) (pre : List (Ev F C)) (h : Hook) (f : FlowId)
    (spec : Spec) (fs0 : FS C) (h0 : fs0.cur = none)
    (hx : (run env (init w) pre).1.exited = false) (hs : (run env (init w) pre).1.stream.isSome = true)
    (hc : isCompletion env (run env (init w) pre).1 h f = true)
    (ho : (run env (init w) pre).1.optFile = some spec) (hrot : rotate env (run env (init w) pre).1 spec ≠ none)
    (hp : passes env (run env (init w) pre).1.filt f ((run env (init w) pre).1.world f) = true) :
    (fsRun fs0 (run env (init w) (pre ++ [.hook h f])).2).files (env.fmt spec.pat (run env (init w) pre).1.now) =
      (if (run env (init w) pre).1.curPath = some (env.fmt spec.pat (run env (init w) pre).1.now)
       then (fsRun fs0 (run env (init w) pre).2).files (env.fmt spec.pat (run env (init w) pre).1.now)
       else if spec.append then (fsRun fs0 (run env (init w) pre).2).files (env.fmt spec.pat (run env (init w) pre).1.now)
       else []) ++ [⟨f, (run env (init w) pre).1.world f⟩] ∧
    (∀ q, q ≠ env.fmt spec.pat (run env (init w) pre).1.now →
      (fsRun fs0 (run env (init w) (pre ++ [.hook h f])).2).files q = (fsRun fs0 (run env (init w) pre).2).files q) := by
  have hcoh := stream_file_handle_is_current_path env w pre fs0 h0
  have key := completion_record_goes_to_formatted_path env _ h f spec (fsRun fs0 (run env (init w) pre).2)
    (reachable_inv env w pre) hx hs hc ho hrot hcoh hp
  rw [run_snoc]
  simp only [fsRun, List.foldl_append]
  exact ⟨key.2.2.1, key.2.2.2⟩

/-- `completion_appends_exactly_one_if_match` without the invariant hypothesis: for the state after ANY history
    from the initial state the invariant is derived (`reachable_inv`). -/
theorem completion_appends_exactly_one_reachable (env : Env F C) (w : FlowId → C) (pre : List (Ev F C)) (h : Hook)
    (f : FlowId) (hx : (run env (init w) pre).1.exited = false) (hs : (run env (init w) pre).1.stream.isSome = true)
    (hc : isCompletion env (run env (init w) pre).1 h f = true)
    (hrot : ∀ spec, (run env (init w) pre).1.optFile = some spec → rotate env (run env (init w) pre).1 spec ≠ none) :
    writes (step env (run env (init w) pre).1 (.hook h f)).2 =
      (if passes env (run env (init w) pre).1.filt f ((run env (init w) pre).1.world f)
       then [⟨f, (run env (init w) pre).1.world f⟩] else []) :=
  (completion_appends_exactly_one_if_match env _ h f (reachable_inv env w pre) hx hs hc hrot).1

/-- `no_record_before_completion_except_stop` for every event of every history from the initial state -/
theorem no_record_before_completion_reachable (env : Env F C) (w : FlowId → C) (evs : List (Ev F C)) :
    ∀ r ∈ writes (run env (init w) evs).2,
      ∃ pre e post, evs = pre ++ e :: post ∧
        ((∃ h, e = .hook h r.flow ∧ isCompletion env (run env (init w) pre).1 h r.flow = true) ∨ e = .done ∨
         (∃ filt, e = .update (some none) filt)) := by
  intro r hr
  obtain ⟨pre, e, post, he, hm⟩ := mem_run_writes env evs _ r hr
  exact ⟨pre, e, post, he, no_record_before_completion_except_stop env _ e (reachable_inv env w pre) r hm⟩

/-- `lifecycle_written_exactly_once` after ANY history from the initial state (invariant derived) -/
theorem lifecycle_written_exactly_once_reachable (env : Env F C) (w : FlowId → C) (pre : List (Ev F C))
    (hs hc : Hook) (f : FlowId) (mid : List (Ev F C))
    (hx : (run env (init w) pre).1.exited = false) (hopen : (run env (init w) pre).1.stream.isSome = true)
    (hstart : hs.isStart = true) (hq : Quiet env f (step env (run env (init w) pre).1 (.hook hs f)).1 mid)
    (hcomp : isCompletion env (run env (run env (init w) pre).1 (.hook hs f :: mid)).1 hc f = true)
    (hrot : ∀ spec, (run env (run env (init w) pre).1 (.hook hs f :: mid)).1.optFile = some spec →
              rotate env (run env (run env (init w) pre).1 (.hook hs f :: mid)).1 spec ≠ none) :
    (writes (run env (run env (init w) pre).1 (.hook hs f :: mid ++ [.hook hc f])).2).filter (fun r => r.flow == f) =
      (if passes env (run env (run env (init w) pre).1 (.hook hs f :: mid)).1.filt f
            ((run env (run env (init w) pre).1 (.hook hs f :: mid)).1.world f)
       then [⟨f, (run env (run env (init w) pre).1 (.hook hs f :: mid)).1.world f⟩] else []) :=
  lifecycle_written_exactly_once env _ hs hc f mid (reachable_inv env w pre) hx hopen hstart hq hcomp hrot

/-- `started_uncompleted_written_once_at_stop` (the `done` form) after ANY history from the initial state -/
theorem started_uncompleted_written_once_reachable (env : Env F C) (w : FlowId → C) (pre : List (Ev F C))
    (hs : Hook) (f : FlowId) (mid : List (Ev F C))
    (hx : (run env (init w) pre).1.exited = false) (hopen : (run env (init w) pre).1.stream.isSome = true)
    (hstart : hs.isStart = true) (hq : Quiet env f (step env (run env (init w) pre).1 (.hook hs f)).1 mid) :
    (writes (step env (run env (run env (init w) pre).1 (.hook hs f :: mid)).1 .done).2).filter (fun r => r.flow == f) =
      (if passes env (run env (run env (init w) pre).1 (.hook hs f :: mid)).1.filt f
            ((run env (run env (init w) pre).1 (.hook hs f :: mid)).1.world f)
       then [⟨f, (run env (run env (init w) pre).1 (.hook hs f :: mid)).1.world f⟩] else []) :=
  (started_uncompleted_written_once_at_stop env _ hs f mid (reachable_inv env w pre) hx hopen hstart hq none
    (fun h => by cases h)).1.1

/-- save._mode / save._path: a leading "+" selects append mode and is stripped exactly once -/
theorem spec_plus_prefix (p : Bytes) : specMode (0x2b :: p) = true ∧ specPath (0x2b :: p) = p := by
  simp [specMode, specPath]

/-- without a leading "+" the spec is an overwrite spec and the path is the spec itself -/
theorem spec_no_prefix (s : Bytes) (h : s.head? ≠ some 0x2b) : specMode s = false ∧ specPath s = s := by
  simp [specMode, specPath, h]

/-- the filter combinators mean negation, conjunction and disjunction of their arguments -/
theorem flt_combinators (a b : Flt) (c : Nat) :
    (Flt.not a).eval c = !(a.eval c) ∧ (Flt.and a b).eval c = (a.eval c && b.eval c) ∧
    (Flt.or a b).eval c = (a.eval c || b.eval c) := ⟨rfl, rfl, rfl⟩

/-- the class atoms are mutually exclusive and exhaustive; `~m`, `~c` (`@only(HTTPFlow)`) and `~q` are false outside
    their classes.  `~websocket` and `~s`, also `@only` in flowfilter, are NOT restricted by class in `Flt.eval`: it relies
    on content codes that set those bits only for a class that can carry them (as the check's flows do). -/
theorem flt_class_atoms (c : Nat) :
    (Flt.http.eval c || Flt.tcp.eval c || Flt.udp.eval c || Flt.dns.eval c) = true ∧
    (Flt.http.eval c = true → Flt.tcp.eval c = false ∧ Flt.udp.eval c = false ∧ Flt.dns.eval c = false) ∧
    (Flt.http.eval c = false → Flt.post.eval c = false ∧ Flt.c200.eval c = false ∧ Flt.c404.eval c = false) ∧
    (Flt.tcp.eval c = true ∨ Flt.udp.eval c = true → Flt.noresp.eval c = false) := by
  have h4 : c % 4 = 0 ∨ c % 4 = 1 ∨ c % 4 = 2 ∨ c % 4 = 3 := by omega
  rcases h4 with h | h | h | h <;> simp [Flt.eval, h]

/-- **C39 with flowfilter transcribed.** The whole-lifecycle theorem for the transcribed matcher `Flt.eval`
    (the `mt` parameter of the environment is `Flt.eval`; strftime and the set of unopenable paths stay
    parameters): over any interleaving a flow is written exactly once iff the configured filter expression evaluates
    to true on its content at completion. -/
theorem lifecycle_written_exactly_once_flt (fmt : Nat → Nat → Path) (openFails : Path → Bool) (w : FlowId → Nat)
    (pre : List (Ev Flt Nat)) (hs hc : Hook) (f : FlowId) (mid : List (Ev Flt Nat))
    (hx : (run (fltEnv fmt openFails) (init w) pre).1.exited = false)
    (hopen : (run (fltEnv fmt openFails) (init w) pre).1.stream.isSome = true) (hstart : hs.isStart = true)
    (hq : Quiet (fltEnv fmt openFails) f (step (fltEnv fmt openFails) (run (fltEnv fmt openFails) (init w) pre).1 (.hook hs f)).1 mid)
    (hcomp : isCompletion (fltEnv fmt openFails)
      (run (fltEnv fmt openFails) (run (fltEnv fmt openFails) (init w) pre).1 (.hook hs f :: mid)).1 hc f = true)
    (hrot : ∀ spec, (run (fltEnv fmt openFails) (run (fltEnv fmt openFails) (init w) pre).1 (.hook hs f :: mid)).1.optFile = some spec →
      rotate (fltEnv fmt openFails) (run (fltEnv fmt openFails) (run (fltEnv fmt openFails) (init w) pre).1 (.hook hs f :: mid)).1 spec ≠ none) :
    let s := (run (fltEnv fmt openFails) (run (fltEnv fmt openFails) (init w) pre).1 (.hook hs f :: mid)).1
    (writes (run (fltEnv fmt openFails) (run (fltEnv fmt openFails) (init w) pre).1
        (.hook hs f :: mid ++ [.hook hc f])).2).filter (fun r => r.flow == f) =
      (if (match s.filt with | some g => g.eval (s.world f) | none => true) then [⟨f, s.world f⟩] else []) := by
  intro s
  have := lifecycle_written_exactly_once_reachable (fltEnv fmt openFails) w pre hs hc f mid hx hopen hstart hq hcomp hrot
  rw [this]
  have hp : ∀ (flt : Option Flt) (c : Nat), passes (fltEnv fmt openFails) flt f c =
      (match flt with | some g => g.eval c | none => true) := by
    intro flt c; cases flt <;> rfl
  rw [hp]

section Examples
private def envx : Env Nat Nat :=
  { mt := fun g _ c => c % 2 == g, isWs := fun c => c ≥ 100, fmt := fun pat now => pat + now, openFails := fun p => p == 9 }
private def evs1 : List (Ev Nat Nat) :=
  [.update (some (some ⟨false, 0⟩)) (some (.ok 1)), .hook .request 1, .hook .tcpStart 2, .edit 1 3, .edit 2 5,
   .hook .response 1, .edit 2 7, .done]
-- flow 1 completes (content 3 matches filter "odd") and is written once; flow 2 is still open and written at `done`
example : writes (run envx (init (fun _ => 0)) evs1).2 = [⟨1, 3⟩, ⟨2, 7⟩] := by decide +kernel
-- a non-matching flow is never written; an unparsable filter raises and changes nothing
example : writes (run envx (init (fun _ => 0))
    [.update (some (some ⟨false, 0⟩)) (some (.ok 1)), .hook .request 1, .edit 1 4, .update none (some .bad),
     .hook .response 1, .done]).2 = [] := by decide +kernel
-- a failed file change (path 9 cannot be opened) keeps streaming to the old file
example : writes (run envx (init (fun _ => 0))
    [.update (some (some ⟨false, 0⟩)) none, .hook .request 1, .update (some (some ⟨false, 9⟩)) none,
     .hook .response 1]).2 = [⟨1, 0⟩] := by decide +kernel
-- WebSocket flows are not written at `response` but at `websocket_end`
example : writes (run envx (init (fun _ => 0))
    [.update (some (some ⟨true, 0⟩)) none, .hook .request 1, .edit 1 100, .hook .response 1]).2 = [] := by decide +kernel
example : writes (run envx (init (fun _ => 0))
    [.update (some (some ⟨true, 0⟩)) none, .hook .request 1, .edit 1 100, .hook .response 1, .edit 1 102,
     .hook .websocketEnd 1]).2 = [⟨1, 102⟩] := by decide +kernel
-- hypotheses of `started_uncompleted_written_once_at_stop` are satisfiable
example : Quiet envx 2 (run envx (init (fun _ => 0)) [.update (some (some ⟨false, 0⟩)) none, .hook .tcpStart 2]).1
    [.hook .request 1, .edit 2 5, .update none (some (.ok 1)), .hook .response 1, .tick 3] := by
  simp only [Quiet]; decide +kernel
-- the whole-lifecycle theorem on a concrete interleaving with a filter change and a rotation in between
example : (writes (run envx (init (fun _ => 0))
    [.update (some (some ⟨false, 0⟩)) none, .hook .tcpStart 2, .hook .request 1, .edit 2 5, .update none (some (.ok 1)),
     .tick 3, .hook .response 1, .hook .tcpEnd 2]).2).filter (fun r => r.flow == 2) = [⟨2, 5⟩] := by decide +kernel
-- the transcribed matcher is not constant
example : (Flt.and .resp (.not .c404)).eval (0 + 4) = true ∧ (Flt.and .resp (.not .c404)).eval (0 + 4 + 256) = false ∧
    Flt.noresp.eval 3 = true ∧ Flt.noresp.eval 1 = false ∧ Flt.post.eval (1 + 128) = false := by decide +kernel
example : specMode [0x2b, 0x2b, 0x78] = true ∧ specPath [0x2b, 0x2b, 0x78] = [0x2b, 0x78] ∧ specMode [] = false := by decide +kernel
end Examples

section Witnesses
/-- a file system in which path 5 already holds a record -/
private def fsA : FS Nat := { files := fun p => if p = 5 then [⟨9, 9⟩] else [], cur := none, trunc := fun _ => 0 }
private def hOver : List (Ev Nat Nat) :=
  [.update (some (some ⟨false, 0⟩)) none, .hook .request 1, .tick 5, .edit 1 3, .hook .response 1]
private def hApp : List (Ev Nat Nat) :=
  [.update (some (some ⟨true, 0⟩)) none, .hook .request 1, .tick 5, .edit 1 3, .hook .response 1]
-- `completion_record_goes_to_formatted_path` / `completion_file_reachable`, rotation case (clock moved, path 0 → 5):
-- overwrite spec empties the existing file 5 and appends the record; file 0 (opened earlier, empty) is unchanged
example : (fsRun fsA (run envx (init (fun _ => 0)) hOver).2).files 5 = [⟨1, 3⟩] ∧
    (fsRun fsA (run envx (init (fun _ => 0)) hOver).2).files 0 = [] ∧
    (fsRun fsA (run envx (init (fun _ => 0)) hOver).2).cur = some 5 ∧
    (run envx (init (fun _ => 0)) hOver).1.curPath = some 5 := by decide +kernel
-- the hypotheses of `completion_file_reachable` hold on that history's prefix (stream open, not exited, completion,
-- rotation target can be opened, flow passes the filter)
example : (let s := (run envx (init (fun _ => 0)) (hOver.take 4)).1
    (s.exited, s.stream.isSome, isCompletion envx s .response 1, s.optFile == some ⟨false, 0⟩,
     (rotate envx s ⟨false, 0⟩).isSome, passes envx s.filt 1 (s.world 1))) = (false, true, true, true, true, true) := by decide +kernel
-- `append_mode_keeps_prefix`: same history with a "+" spec keeps the old record of file 5 as a prefix
example : (fsRun fsA (run envx (init (fun _ => 0)) hApp).2).files 5 = [⟨9, 9⟩, ⟨1, 3⟩] := by decide +kernel
example : AppendOnly hApp := by
  intro e he spec filt h
  simp only [hApp, List.mem_cons, List.not_mem_nil, or_false] at he
  rcases he with rfl | rfl | rfl | rfl | rfl <;> first | (cases h; rfl) | cases h
-- `started_uncompleted_written_once_at_stop`, the `update(save_stream_file=None)` form: the open flow is flushed once
-- by the stop; a later restart + `done` does not write it again
example : writes (run envx (init (fun _ => 0))
    [.update (some (some ⟨false, 0⟩)) none, .hook .tcpStart 2, .edit 2 5, .update (some none) none,
     .update (some (some ⟨false, 0⟩)) none, .done]).2 = [⟨2, 5⟩] := by decide +kernel
-- the side condition `hrot` matters: when the rotation target (path 9) cannot be opened at completion the addon
-- exits and nothing is written
private def hExit : List (Ev Nat Nat) :=
  [.update (some (some ⟨false, 0⟩)) none, .hook .request 1, .tick 9, .hook .response 1]
example : (run envx (init (fun _ => 0)) hExit).1.exited = true ∧ writes (run envx (init (fun _ => 0)) hExit).2 = [] := by
  decide +kernel
-- `lifecycle_written_exactly_once_flt` on the driver's environment: filter "~s & !(~c 404)"; flow 1 (HTTP, response 200)
-- is written at its response, flow 2 (HTTP, response 404) is not
example : writes (run (fltEnv driverFmt driverOpenFails) (init (fun _ => 0))
    [.update (some (some ⟨false, 0⟩)) (some (.ok (.and .resp (.not .c404)))), .hook .request 1, .hook .request 2,
     .edit 1 4, .edit 2 (4 + 256), .hook .response 2, .hook .response 1]).2 = [⟨1, 4⟩] := by decide +kernel
-- a flow that completes twice (response, then error) is written at each completion: "each completion appends one record"
example : writes (run envx (init (fun _ => 0))
    [.update (some (some ⟨false, 0⟩)) none, .hook .request 1, .hook .response 1, .edit 1 2, .hook .error 1]).2
    = [⟨1, 0⟩, ⟨1, 2⟩] := by decide +kernel
end Witnesses

end MitmVerif.Props.C39
