/-
  C13 — ClientHello parsing is total, final once decided, and independent of record cutting and TCP segmentation
  (model: Model/C13*.lean; lemmas: Lemmas/C13.lean).

  (1) The parser. Everything rests on two lemmas: an answer other than "incomplete" survives appended bytes
  (`getHello_append`), and over valid records only the concatenated contents count (`getHello_records`). From them
  `prefix_stable*`, `seg_independent*`, `record_split_invariant`, the `payload_*` theorems (specification: `helloOf` /
  `helloOfMsg`, the result as a function of the handshake payload / message alone) and, against the RFC-side builder
  `Build`, `agrees_with_builder` / `built_any_split` / `*_of_built`. `parse_total` holds of any `Res`-valued function:
  "never fails in another way" is carried by the harness's totality oracle on the real code, not by it.
  `starts_table_is_function`: `Gen.C13` holds starts_like_*_record twice, as probed behaviour and as the source expression
  read off the AST; the two agree on every byte string. `record_any_size_accepted`: the code has no record-size bound
  below 65535.
  (2) `is_valid_host`, in four models, each the one before with a library parameter instantiated by a transcription:
  `validHost lib` (idna on `xn--` names and `ipaddress` supplied), `validHostT I` (`ipaddress` = `C22.parseIp`),
  `validHostN N` (idna codec in the model, nameprep supplied), `validHostFull` (nameprep on tables regenerated from the
  interpreter, nothing supplied). Per level the theorems say on which names the remaining parameter is not consulted
  (`sni_outright`, `*_lib_free`, `*_congr`, `*_closed_form`), so a result about an outer level holds of the inner ones.
  `sni_is_ascii`: the `decode("ascii")` that ends `ClientHello.sni` cannot raise.
  (3) DTLS handshake fragmentation (RFC 6347 §4.2.3): the full statement `DtlsFragmentInvariant` is FALSE of the code
  (finding F-C13a); `dtls_fragment_invariant_partial` (unfragmented flights) and `_counterexample`.
-/
import MitmVerif.Lemmas.C13
import MitmVerif.Model.C13_Nameprep
namespace MitmVerif.Props.C13
open MitmVerif MitmVerif.C13 MitmVerif.C13.Build MitmVerif.C13.Idna MitmVerif.C13.Np

instance (dtls : Bool) (ch : Bytes × Bytes) : Decidable (ValidChunk dtls ch) := by
  unfold ValidChunk; infer_instance

instance (e : BExt) : Decidable e.WF := by
  cases e <;> (unfold BExt.WF; infer_instance)

/-- **parse_total** — the three outcomes None / ClientHello / ValueError. True of every `Res`-valued function, so this is
    bookkeeping: that the code raises nothing else is what the harness's totality oracle checks on the real functions. -/
theorem parse_total (dtls : Bool) (d : Bytes) :
    parse dtls d = .incomplete ∨ (∃ h, parse dtls d = .ok h) ∨ parse dtls d = .invalid := by
  cases h : parse dtls d with
  | incomplete => exact Or.inl rfl
  | ok a => exact Or.inr (Or.inl ⟨a, rfl⟩)
  | invalid => exact Or.inr (Or.inr rfl)

/-- any outcome other than "incomplete" is final -/
theorem prefix_stable (dtls : Bool) (p q : Bytes) (hp : parse dtls p ≠ .incomplete) :
    parse dtls (p ++ q) = parse dtls p :=
  parse_append dtls p q hp

/-- **prefix_stable (hello)** — once a ClientHello is reported, more bytes never change it. -/
theorem prefix_stable_hello (dtls : Bool) (p q : Bytes) (h : Hello)
    (hp : parse dtls p = .ok h) : parse dtls (p ++ q) = .ok h := by
  rw [prefix_stable dtls p q (by rw [hp]; exact fun e => nomatch e), hp]

/-- **prefix_stable (invalid)** — once the input is rejected, more bytes never rescue it. -/
theorem prefix_stable_invalid (dtls : Bool) (p q : Bytes)
    (hp : parse dtls p = .invalid) : parse dtls (p ++ q) = .invalid := by
  rw [prefix_stable dtls p q (by rw [hp]; exact fun e => nomatch e), hp]

private theorem feedAll_eq (dtls : Bool) : ∀ (segs : List Bytes) (buf : Bytes),
    parse dtls buf = .incomplete → feedAll dtls buf segs = parse dtls (buf ++ segs.flatten) := by
  intro segs
  induction segs with
  | nil => intro buf h; simp [feedAll, h]
  | cons s ss ih =>
    intro buf h
    simp only [feedAll, List.flatten_cons]
    cases hs : parse dtls (buf ++ s) with
    | incomplete =>
      simp only
      rw [ih (buf ++ s) hs, List.append_assoc]
    | ok a =>
      simp only
      rw [← List.append_assoc, prefix_stable_hello dtls (buf ++ s) ss.flatten a hs]
    | invalid =>
      simp only
      rw [← List.append_assoc, prefix_stable_invalid dtls (buf ++ s) ss.flatten hs]

/-- **seg_independent** — what `ClientTLSLayer.receive_handshake_data` concludes after receiving the
    segments one by one (re-parsing its growing buffer) is what parsing the whole stream gives. -/
theorem seg_independent (dtls : Bool) (segs : List Bytes) :
    feedAll dtls [] segs = parse dtls segs.flatten := by
  simpa using feedAll_eq dtls segs [] (parse_nil dtls)

theorem seg_independent' (dtls : Bool) (a b : List Bytes) (h : a.flatten = b.flatten) :
    feedAll dtls [] a = feedAll dtls [] b := by
  rw [seg_independent, seg_independent, h]

/-- **record_split_invariant** — how the handshake bytes are cut into (valid, non-empty) records does not
    matter: two record sequences with the same concatenated contents parse alike. TLS and DTLS — for DTLS this is the
    code's own notion (record bodies concatenated as a byte stream, NO per-fragment handshake headers), which is not how DTLS
    splits a message; real DTLS fragmentation is `DtlsFragmentInvariant` / finding F-C13a below. -/
theorem record_split_invariant (dtls : Bool) (a b : List (Bytes × Bytes))
    (ha : ∀ ch ∈ a, ValidChunk dtls ch) (hb : ∀ ch ∈ b, ValidChunk dtls ch)
    (h : contents a = contents b) : parse dtls (records a) = parse dtls (records b) := by
  unfold parse
  rw [getHello_records dtls a [] ha (complete?_nil dtls), getHello_records dtls b [] hb (complete?_nil dtls), h]

/-- **agrees_with_builder** — for every well-formed structured ClientHello (TLS or DTLS; any version, random,
    session id, cookie, cipher list, compression list; no extension block or any list of server_name / ALPN /
    other extensions), carried by ANY sequence of valid records whose contents start with the handshake message
    (so: any record split, possibly followed by further handshake bytes `extra`), followed by ANY bytes `trail`,
    the parser returns exactly the hello's view. -/
theorem agrees_with_builder (dtls : Bool) (h : BHello) (seq extra trail : Bytes)
    (chunks : List (Bytes × Bytes)) (hw : h.WF dtls) (hseq : seq.length = 2)
    (hv : ∀ ch ∈ chunks, ValidChunk dtls ch)
    (hc : contents chunks = h.message dtls seq ++ extra) :
    parse dtls (records chunks ++ trail) = .ok h.view := by
  apply prefix_stable_hello
  unfold parse
  rw [getHello_records dtls chunks [] hv (complete?_nil dtls), List.nil_append, hc,
    complete?_message dtls seq extra h hw hseq]
  simp only
  rw [message_drop dtls seq h hseq, parseBody_enc dtls h hw]

/-- **built_any_split** — the property's last sentence in one statement: a well-formed hello under ANY record
    chunking, delivered in ANY TCP segmentation (`segs`), possibly followed by more bytes, makes the layer report
    exactly the hello's view. -/
theorem built_any_split (dtls : Bool) (h : BHello) (seq extra trail : Bytes)
    (chunks : List (Bytes × Bytes)) (segs : List Bytes) (hw : h.WF dtls) (hseq : seq.length = 2)
    (hv : ∀ ch ∈ chunks, ValidChunk dtls ch)
    (hc : contents chunks = h.message dtls seq ++ extra)
    (hsegs : segs.flatten = records chunks ++ trail) :
    feedAll dtls [] segs = .ok h.view := by
  rw [seg_independent, hsegs]
  exact agrees_with_builder dtls h seq extra trail chunks hw hseq hv hc

/-- the cipher list read back is the one built (by definition of the view) -/
theorem ciphers_of_built (h : BHello) : h.view.ciphers = h.ciphers := rfl

/-- `ClientHello.extensions` lists (type, raw bytes) of the built extensions in order -/
theorem extensions_of_built (h : BHello) (es : List BExt) (he : h.exts = some es) :
    h.view.extView = es.map (fun e => (e.typ, e.raw)) := by
  simp only [BHello.view, Hello.extView, he, viewExts, List.map_map]
  apply List.map_congr_left
  intro e _
  cases e <;> rfl

/-- `ClientHello.alpn_protocols` = the protocols of the first ALPN extension built -/
theorem alpn_of_built (h : BHello) (es : List BExt) (he : h.exts = some es) (hw : ∀ e ∈ es, e.WF) :
    h.view.alpn = builtAlpn es := by
  simp only [BHello.view, he, viewExts]
  exact alpn_view _ es hw

/-- `ClientHello.sni` (for any host validity predicate) = the reader of the structured hello; holds without `hw` (`sni_view`) -/
theorem sni_of_built (valid : Bytes → Bool) (h : BHello) (es : List BExt) (he : h.exts = some es)
    (hw : ∀ e ∈ es, e.WF) : h.view.sni valid = builtSni valid es := by
  simp only [BHello.view, he, viewExts]
  exact sni_view valid _ es

/-! ## starts_like_*_record: the probed table IS the transcribed source expression -/

private theorem starts_table_ok (dtls : Bool) :
    startsTab dtls = [((startsPred dtls).2.1, (startsPred dtls).2.2.1,
        (List.range 256).filter (fun c => decide ((startsPred dtls).2.2.2.1 ≤ c) && decide (c ≤ (startsPred dtls).2.2.2.2)))]
    ∧ (startsPred dtls).1 = 2 := by
  cases dtls <;> decide

theorem starts_table_is_function (dtls : Bool) (d : Bytes) : startsLike dtls d = startsP dtls d := by
  obtain ⟨htab, hlen⟩ := starts_table_ok dtls
  unfold startsLike startsP
  match d with
  | [] => simp [hlen]
  | [_] => simp [hlen]
  | [_, _] => simp [hlen]
  | a :: b :: c :: r =>
    rw [htab]
    simp only [List.any_cons, List.any_nil, Bool.or_false, hlen, List.length_cons, List.getD_cons_zero,
      List.getD_cons_succ, contains_filter_range _ 256 _ (UInt8.toNat_lt c)]
    have h1 : decide (2 < r.length + 1 + 1 + 1) = true := by simp
    rw [h1, Bool.true_and, BEq.comm (a := a.toNat), BEq.comm (a := b.toNat)]
    simp only [Bool.and_assoc]

theorem starts_three_bytes_suffice (dtls : Bool) (d : Bytes) : startsP dtls d = startsP dtls (d.take 3) := by
  have hlen := (starts_table_ok dtls).2
  unfold startsP
  match d with
  | [] => rfl
  | [_] => rfl
  | [_, _] => rfl
  | a :: b :: c :: r => simp [hlen]

/-! ## the result is a function of the concatenated handshake payload — and of nothing else -/

/-- **parse_records_payload** — for ANY sequence of valid records the parser's answer is the specification
    function `helloOf` of the concatenated record contents (incomplete payload → incomplete). -/
theorem parse_records_payload (dtls : Bool) (chunks : List (Bytes × Bytes))
    (hv : ∀ ch ∈ chunks, ValidChunk dtls ch) :
    parse dtls (records chunks) = helloOf dtls (contents chunks) := by
  unfold parse helloOf
  rw [getHello_records dtls chunks [] hv (complete?_nil dtls), List.nil_append]
  cases complete? dtls (contents chunks) <;> rfl

/-- **payload_prefix_only** — once the payload contains the whole hello, what follows in the payload is never read -/
theorem payload_prefix_only (dtls : Bool) (p x m : Bytes) (h : complete? dtls p = some m) :
    complete? dtls (p ++ x) = some m := complete?_append dtls p x m h

/-- **payload_only** — full strength: let the handshake payload of the records `chunks` contain a complete
    ClientHello message `m` (read off the payload's own length field). Then for EVERY way the payload was cut into
    (valid, non-empty) records, EVERY segmentation `segs` of the byte stream, and ANY bytes `trail` after those records
    (further records of any type, garbage, nothing), the layer reports `helloOfMsg m` — a function of `m` alone. -/
theorem payload_only (dtls : Bool) (chunks : List (Bytes × Bytes)) (trail m : Bytes) (segs : List Bytes)
    (hv : ∀ ch ∈ chunks, ValidChunk dtls ch) (hm : complete? dtls (contents chunks) = some m)
    (hsegs : segs.flatten = records chunks ++ trail) :
    feedAll dtls [] segs = helloOfMsg dtls m := by
  rw [seg_independent, hsegs]
  have hp : parse dtls (records chunks) = helloOfMsg dtls m := by
    rw [parse_records_payload dtls chunks hv]
    unfold helloOf helloOfMsg
    rw [hm]
  have hne : parse dtls (records chunks) ≠ .incomplete := by
    rw [hp]; unfold helloOfMsg; cases parseBody dtls (m.drop (msgHdrLen dtls)) <;> simp
  rw [prefix_stable dtls (records chunks) trail hne, hp]

/-- **hello_depends_only_on_payload** — two deliveries whose record payloads share a prefix `p` that contains the
    complete hello give the same result, whatever the two record cuttings, the two segmentations, the bytes after
    the hello inside the payload (`xa`, `xb`) and the bytes after the records (`trailA`, `trailB`). -/
theorem hello_depends_only_on_payload (dtls : Bool) (a b : List (Bytes × Bytes))
    (p xa xb m trailA trailB : Bytes) (segsA segsB : List Bytes)
    (ha : ∀ ch ∈ a, ValidChunk dtls ch) (hb : ∀ ch ∈ b, ValidChunk dtls ch)
    (hca : contents a = p ++ xa) (hcb : contents b = p ++ xb) (hm : complete? dtls p = some m)
    (hsa : segsA.flatten = records a ++ trailA) (hsb : segsB.flatten = records b ++ trailB) :
    feedAll dtls [] segsA = feedAll dtls [] segsB ∧ feedAll dtls [] segsA = helloOfMsg dtls m := by
  have h1 := payload_only dtls a trailA m segsA ha (by rw [hca]; exact complete?_append dtls p xa m hm) hsa
  have h2 := payload_only dtls b trailB m segsB hb (by rw [hcb]; exact complete?_append dtls p xb m hm) hsb
  exact ⟨h1.trans h2.symm, h1⟩

/-- **payload_incomplete** — and while the payload does not yet contain the whole hello, every cutting and every
    segmentation of the records says "incomplete" -/
theorem payload_incomplete (dtls : Bool) (chunks : List (Bytes × Bytes)) (segs : List Bytes)
    (hv : ∀ ch ∈ chunks, ValidChunk dtls ch) (hm : complete? dtls (contents chunks) = none)
    (hsegs : segs.flatten = records chunks) : feedAll dtls [] segs = .incomplete := by
  rw [seg_independent, hsegs, parse_records_payload dtls chunks hv]
  unfold helloOf
  rw [hm]

/-- non-vacuity of `payload_only`: a hello in two records, then an application-data record and garbage, in 3 segments -/
example : feedAll false []
    [ [0x16, 3, 1, 0, 2, 1, 0], [0x16, 3, 3, 0, 3, 0, 1, 0, 9, 9, 0x17, 3], [3, 0, 1, 0xff, 0xee] ]
    = helloOfMsg false [1, 0, 0, 1, 0] :=
  payload_only false [([0x16, 3, 1], [1, 0]), ([0x16, 3, 3], [0, 1, 0])] [9, 9, 0x17, 3, 3, 0, 1, 0xff, 0xee] [1, 0, 0, 1, 0] _
    (by decide)
    (by decide) (by decide)

/-! ## is_valid_host transcribed: SNI results that do not depend on any library answer -/

/-- **validHost_of_labels** — a name made of 1..63-character labels over `[A-Za-z0-9_-]`, at most 255 bytes long and
    without `xn--`, is a valid host whatever the library parameters answer (they are not consulted). -/
theorem validHost_of_labels (lib : HostLib) (labels : List Bytes) (hne : labels ≠ [])
    (hl : ∀ l ∈ labels, l ≠ [] ∧ l.length ≤ 63 ∧ ∀ b ∈ l, labelChar b = true)
    (hlen : (joinDot labels).length ≤ 255) (hace : isInfix acePrefix (joinDot labels) = false) :
    validHost lib (joinDot labels) = true := by
  have hnodot : ∀ l ∈ labels, (0x2e : UInt8) ∉ l := fun l hm hd => (labelChar_lt _ ((hl l hm).2.2 _ hd)).2 rfl
  have hascii : (joinDot labels).all (fun b => decide (b.toNat < 128)) = true := by
    rw [List.all_eq_true]
    intro b hb
    rw [joinDot_eq] at hb
    have := joinBy_forall (fun b => b.toNat < 128) (by decide) labels
      (fun l hm b hb => (labelChar_lt b ((hl l hm).2.2 b hb)).1) b hb
    simpa using this
  have hstrip : stripDot (joinDot labels) = joinDot labels := by
    unfold stripDot
    rw [if_neg (joinDot_last labels hne (fun l hm => ⟨(hl l hm).1, hnodot l hm⟩))]
  have hlabels : labels.all labelValid = true := by
    rw [List.all_eq_true]
    intro l hm
    exact labelValid_of_chars l (hl l hm).1 (hl l hm).2.1 (hl l hm).2.2
  rw [validHost_noAce lib _ hace, hascii, decide_eq_true hlen, hstrip, splitDot_eq, joinDot_eq,
    splitSep_joinBy labels hne hnodot, hlabels]
  rfl

/-- **validHost_too_long** — more than 255 bytes is never a valid host, whatever the library answers -/
theorem validHost_too_long (lib : HostLib) (nm : Bytes) (h : 255 < nm.length) : validHost lib nm = false := by
  unfold validHost
  split
  · rfl
  · simp

/-- **validHost_non_ascii** — a byte ≥ 0x80 (and no `xn--`) is never a valid host, whatever the library answers -/
theorem validHost_non_ascii (lib : HostLib) (nm : Bytes) (b : UInt8) (hb : b ∈ nm) (h128 : 128 ≤ b.toNat)
    (hace : isInfix acePrefix nm = false) : validHost lib nm = false := by
  rw [validHost_noAce lib nm hace, List.all_eq_false.mpr ⟨b, hb, by simpa using h128⟩]
  rfl

/-- **sni_outright** — a well-formed built hello whose first server_name extension holds the single
    host_name `joinDot labels` (labels as in `validHost_of_labels`) reports exactly that name as SNI, for every
    behaviour of the idna / ipaddress libraries. -/
theorem sni_outright (lib : HostLib) (h : BHello) (pre post : List BExt) (labels : List Bytes)
    (he : h.exts = some (pre ++ .sni [(0, joinDot labels)] :: post))
    (hw : ∀ e ∈ pre ++ .sni [(0, joinDot labels)] :: post, e.WF)
    (hpre : ∀ x ∈ pre, ∀ ns, x ≠ .sni ns) (hne : labels ≠ [])
    (hl : ∀ l ∈ labels, l ≠ [] ∧ l.length ≤ 63 ∧ ∀ b ∈ l, labelChar b = true)
    (hlen : (joinDot labels).length ≤ 255) (hace : isInfix acePrefix (joinDot labels) = false) :
    h.view.sni (validHost lib) = some (joinDot labels) := by
  rw [sni_of_built (validHost lib) h _ he hw, builtSni_skip (validHost lib) pre post _ hpre]
  simp [builtSni, validHost_of_labels lib labels hne hl hlen hace]

/-- non-vacuity: `example.com` -/
example (lib : HostLib) : validHost lib [0x65, 0x78, 0x61, 0x6d, 0x70, 0x6c, 0x65, 0x2e, 0x63, 0x6f, 0x6d] = true :=
  validHost_of_labels lib [[0x65, 0x78, 0x61, 0x6d, 0x70, 0x6c, 0x65], [0x63, 0x6f, 0x6d]] (by simp)
    (by intro l hm
        simp only [List.mem_cons, List.mem_nil_iff, or_false] at hm
        rcases hm with rfl | rfl <;> exact ⟨by simp, by decide, by decide⟩)
    (by decide) (by decide)
/-- the transcription is not constant, and the library is consulted exactly where the code consults it -/
example : validHost ⟨fun _ => true, fun _ => true⟩ [0x61, 0x20, 0x62] = true ∧
    validHost ⟨fun _ => true, fun _ => false⟩ [0x61, 0x20, 0x62] = false ∧
    validHost ⟨fun _ => false, fun _ => false⟩ [0x61, 0x0a] = true ∧
    validHost ⟨fun _ => false, fun _ => true⟩ [0x78, 0x6e, 0x2d, 0x2d, 0x61] = false := by decide

/-! ## ipaddress inside the model: names without `xn--` need no library at all -/

/-- **validHostT_closed_form** — for a name without `xn--` the right-hand side does not mention `I`: `ipaddress.ip_address`
    is the transcription `C22.parseIp`, and the idna codec only takes its ASCII fast path (also on the name without its
    trailing dot, which `ip_address` is given: `isInfix_stripDot`). -/
theorem validHostT_closed_form (I : IdnaLib) (nm : Bytes) (hace : isInfix acePrefix nm = false) :
    validHostT I nm =
      (nm.all (fun b => decide (b.toNat < 128)) && decide (nm.length ≤ 255) &&
        ((splitDot (stripDot nm)).all labelValid ||
          ((stripDot nm).all (fun b => decide (b.toNat < 128)) && (C22.parseIp (stripDot nm)).isSome))) := by
  rw [validHostT, validHost_noAce _ nm hace]
  simp only [hostLibOf, ipOk, idnaText, isInfix_stripDot _ nm hace, Bool.false_eq_true, if_false]
  cases (stripDot nm).all (fun b => decide (b.toNat < 128)) <;> rfl

/-- **validHostT_lib_free** — hence for names without `xn--` the remaining library parameter is irrelevant -/
theorem validHostT_lib_free (I J : IdnaLib) (nm : Bytes) (hace : isInfix acePrefix nm = false) :
    validHostT I nm = validHostT J nm := by
  rw [validHostT_closed_form I nm hace, validHostT_closed_form J nm hace]

/-- **sni_lib_free** — `ClientHello.sni` of ANY parsed hello none of whose host_name candidates contains `xn--` does not
    depend on any library answer: `is_valid_host` is computed entirely by the model (regex, lengths, idna fast path,
    `ipaddress`). -/
theorem sni_lib_free (I J : IdnaLib) (h : Hello)
    (hc : ∀ nm ∈ h.sniCandidates, isInfix acePrefix nm = false) :
    h.sni (validHostT I) = h.sni (validHostT J) := by
  unfold Hello.sni
  exact find?_congr_mem _ _ _ (fun nm hm => validHostT_lib_free I J nm (hc nm hm))

/-- IP literals are valid hosts via the transcribed `ipaddress`; junk is not; a trailing dot is stripped first -/
example : validHostT noIdna [0x3a, 0x3a, 0x31] = true ∧                                  -- "::1"
    validHostT noIdna [0x66, 0x65, 0x38, 0x30, 0x3a, 0x3a, 0x31, 0x25, 0x65] = true ∧       -- "fe80::1%e"
    validHostT noIdna [0x3a, 0x3a, 0x31, 0x2e] = true ∧                                    -- "::1."
    validHostT noIdna [0x3a, 0x3a, 0x67] = false ∧                                         -- "::g"
    validHostT noIdna [0x61, 0x20, 0x62] = false ∧                                         -- "a b"
    validHostT noIdna [0x31, 0x2e, 0x32, 0x2e, 0x33, 0x2e, 0x34] = true := by decide      -- "1.2.3.4" (labels)

/-! ## the idna codec inside the model: only `nameprep` is left, and it is asked only about decoded A-labels -/

/-- **toUnicode_congr** — `ToUnicode(label)` consults nameprep on at most one value: the punycode decoding of the label -/
theorem toUnicode_congr (N M : Nameprep) (label : List Nat)
    (h : ∀ r, aceCps.isPrefixOf label = true → punyDecode (label.drop 4) = some r → N.prep r = M.prep r) :
    toUnicode N label = toUnicode M label := by
  unfold toUnicode
  split
  · rfl
  · split
    · rfl
    · rename_i hace
      have hace' : aceCps.isPrefixOf label = true := by simpa using hace
      cases hp : punyDecode (label.drop 4) with
      | none => rfl
      | some r =>
        have hr := h r hace' hp
        simp only
        unfold toAscii
        rw [hr]

/-- **decodeIdna_congr** — two nameprep functions that agree on the asked values give the same decoded text -/
theorem decodeIdna_congr (N M : Nameprep) (raw : Bytes) (h : ∀ r, Asked raw r → N.prep r = M.prep r) :
    decodeIdna N raw = decodeIdna M raw := by
  have hl : ∀ l ∈ (splitDot raw).map (fun l => l.map UInt8.toNat), toUnicode N l = toUnicode M l := by
    intro l hm
    rw [List.mem_map] at hm
    obtain ⟨b, hb, rfl⟩ := hm
    exact toUnicode_congr N M _ (fun r ha hr => h r ⟨b, hb, ha, hr⟩)
  unfold decodeIdna
  simp only
  rw [mapAll_congr _ _ _ (fun a ha => hl a (mem_of_mem_trimLabels ha))]

/-- **validHostN_congr** — `is_valid_host` depends on nameprep only through the decoded A-labels of the name (and of the
    name without its trailing dot) -/
theorem validHostN_congr (N M : Nameprep) (nm : Bytes)
    (h1 : ∀ r, Asked nm r → N.prep r = M.prep r) (h2 : ∀ r, Asked (stripDot nm) r → N.prep r = M.prep r) :
    validHostN N nm = validHostN M nm := by
  unfold validHostN validHostT validHost idnaOk hostLibOf ipOk idnaText idnaOf
  simp only [decodeIdna_congr N M nm h1, decodeIdna_congr N M (stripDot nm) h2]

/-- **validHostN_lib_free** — and not at all for names without `xn--` -/
theorem validHostN_lib_free (N M : Nameprep) (nm : Bytes) (hace : isInfix acePrefix nm = false) :
    validHostN N nm = validHostN M nm := validHostT_lib_free _ _ nm hace

/-- **toUnicode_roundtrip** — a decoded A-label re-encodes (ToASCII) to the lower-cased label: what Python's step 7 checks -/
theorem toUnicode_roundtrip (N : Nameprep) (label : List Nat) (r : Cps) (hace : aceCps.isPrefixOf label = true)
    (h : toUnicode N label = some r) : toAscii N r = some (label.map lowerAscii) := by
  rcases toUnicode_eq_some h with ⟨h1, _⟩ | ⟨_, _, h3⟩
  · rw [hace] at h1; cases h1
  · exact h3

private def bucher : Cps := [0x62, 0xfc, 0x63, 0x68, 0x65, 0x72]                       -- "bücher"
private def nmBucher : Bytes :=                                                        -- b"xn--bcher-kva.example"
  [0x78, 0x6e, 0x2d, 0x2d, 0x62, 0x63, 0x68, 0x65, 0x72, 0x2d, 0x6b, 0x76, 0x61, 0x2e, 0x65, 0x78, 0x61, 0x6d, 0x70, 0x6c, 0x65]

/-- `Asked` as a list: the punycode decodings of the `xn--` labels -/
private def askedList (raw : Bytes) : List Cps :=
  (splitDot raw).filterMap (fun l =>
    if aceCps.isPrefixOf (l.map UInt8.toNat) then punyDecode ((l.map UInt8.toNat).drop 4) else none)

private theorem asked_mem (raw : Bytes) (r : Cps) (h : Asked raw r) : r ∈ askedList raw := by
  obtain ⟨l, hl, hace, hp⟩ := h
  exact List.mem_filterMap.mpr ⟨l, hl, by rw [if_pos hace, hp]⟩

/-- a name with one `xn--` label puts one question to nameprep -/
private theorem asked_single (N : Nameprep) (x : Cps) (v : Option Cps) (hx : N.prep x = v) (raw : Bytes)
    (h : askedList raw = [x]) (r : Cps) (hr : Asked raw r) : N.prep r = v := by
  have := asked_mem _ _ hr
  rw [h] at this
  rw [List.mem_singleton.mp this, hx]

/-- **validHost_alabel_example** — an IDN name, outright up to ONE fact about the Unicode tables:
    `b"xn--bcher-kva.example"` is a valid host for every nameprep that leaves `"bücher"` unchanged
    (punycode decoding, the ToASCII round trip, the label regex and the length rules are all computed by the model). -/
theorem validHost_alabel_example (N : Nameprep) (h : N.prep bucher = some bucher) : validHostN N nmBucher = true := by
  rw [validHostN_congr N ⟨fun _ => some bucher⟩ nmBucher (asked_single N _ _ h _ (by decide))
    (asked_single N _ _ h _ (by decide))]
  decide

/-- … and its decoded text is "bücher.example"; a broken A-label is invalid whatever nameprep says -/
example : decodeIdna ⟨fun _ => some bucher⟩ nmBucher
    = some [0x62, 0xfc, 0x63, 0x68, 0x65, 0x72, 0x2e, 0x65, 0x78, 0x61, 0x6d, 0x70, 0x6c, 0x65] := by decide
example (N : Nameprep) : validHostN N [0x78, 0x6e, 0x2d, 0x2d, 0x5f] = false := by                      -- b"xn--_"
  -- the label does not decode, so nameprep is never asked
  have no : ∀ raw, askedList raw = [] → ∀ r, Asked raw r → N.prep r = none := fun raw h r hr => by
    have := asked_mem _ _ hr
    rw [h] at this
    cases this
  rw [validHostN_congr N ⟨fun _ => none⟩ _ (no _ (by decide)) (no _ (by decide))]
  decide

/-! ## nameprep inside the model: `is_valid_host` with no parameter left -/

/-- the hypothesis of `validHost_alabel_example`, computed from the regenerated tables -/
theorem nameprep_bucher : theNameprep.prep bucher = some bucher := by
  decide +kernel

/-- **validHost_alabel_outright** — `b"xn--bcher-kva.example"` is a valid host: no hypothesis, no parameter
    (record of what is computed: split, ACE prefix, punycode decode, nameprep = map + NFKC + prohibit + bidi on the
    interpreter's tables, punycode re-encode, round-trip comparison, label regex, length rules) -/
theorem validHost_alabel_outright : validHostFull nmBucher = true := by
  unfold validHostFull
  exact validHost_alabel_example theNameprep nameprep_bucher

/-- **validHostFull_closed_form** — for names without `xn--` the complete model is the closed expression -/
theorem validHostFull_closed_form (nm : Bytes) (hace : isInfix acePrefix nm = false) :
    validHostFull nm =
      (nm.all (fun b => decide (b.toNat < 128)) && decide (nm.length ≤ 255) &&
        ((splitDot (stripDot nm)).all labelValid ||
          ((stripDot nm).all (fun b => decide (b.toNat < 128)) && (C22.parseIp (stripDot nm)).isSome))) :=
  validHostT_closed_form _ nm hace

/-- **sni_full** — `ClientHello.sni` of any parsed hello, computed with no library answer, agrees with the computation
    under ANY idna library as long as no host_name candidate contains `xn--` (and for those that do, the model computes
    the idna codec and nameprep itself: `validHostFull`) -/
theorem sni_full (I : IdnaLib) (h : Hello) (hc : ∀ nm ∈ h.sniCandidates, isInfix acePrefix nm = false) :
    h.sni validHostFull = h.sni (validHostT I) :=
  sni_lib_free _ I h hc

set_option maxRecDepth 100000 in
/-- NFKC as the interpreter computes it: Hangul jamo compose, A + ring composes, ß folds to ss, U+0080 is prohibited,
    a mixed RTL/LTR label violates the bidi rule -/
example : nfkc [0x1100, 0x1161, 0x11A8] = [0xAC01] ∧ nfkc [0x41, 0x30a] = [0xC5] ∧
    nameprep [0xdf] = some [0x73, 0x73] ∧ nameprep [0x80] = none ∧ nameprep [0x5d0, 0x61] = none ∧
    nameprep [0x5d0, 0x5d1] = some [0x5d0, 0x5d1] := by decide +kernel

set_option maxRecDepth 100000 in
/-- IDN names outright: "中国" (xn--fiqs8s) is valid; xn--a (decodes to U+0080, prohibited) is not -/
example : validHostFull [0x78, 0x6e, 0x2d, 0x2d, 0x66, 0x69, 0x71, 0x73, 0x38, 0x73] = true ∧
    validHostFull [0x78, 0x6e, 0x2d, 0x2d, 0x61] = false := by decide +kernel

/-! ## record sizes: the code has NO bound below the length field's own maximum -/

/-- **record_any_size_accepted** — `handshake_record_contents` accepts a record of EVERY length 1 … 65535 = 2^16-1
    (the code checks only `record_size == 0`); in particular there is no 2^14 limit and nothing changes at
    16383 / 16384 / 16385. A bound, if the code ever gets one, belongs here with its exact value. -/
theorem record_any_size_accepted (dtls : Bool) (pre c rest : Bytes)
    (hpre : pre.length + 2 = hdrLen dtls) (hstart : startsLike dtls pre = true)
    (hpos : 0 < c.length) (hmax : c.length ≤ 65535) :
    nextRecord dtls (mkRecord pre c ++ rest) = .ok (c, rest) :=
  nextRecord_mkRecord dtls (pre, c) rest ⟨hpre, hstart, hpos, Nat.lt_succ_of_le hmax⟩

/-- at the boundary: one record of exactly 2^14 = 16384 bytes, of 2^14 + 1, and of 65535 bytes -/
example (rest : Bytes) : nextRecord false (mkRecord [0x16, 3, 3] (List.replicate 16384 7) ++ rest)
    = .ok (List.replicate 16384 7, rest) :=
  record_any_size_accepted false _ _ rest (by decide) (by decide) (by rw [List.length_replicate]; omega) (by rw [List.length_replicate]; omega)
example (rest : Bytes) : nextRecord false (mkRecord [0x16, 3, 1] (List.replicate 16385 7) ++ rest)
    = .ok (List.replicate 16385 7, rest) :=
  record_any_size_accepted false _ _ rest (by decide) (by decide) (by rw [List.length_replicate]; omega) (by rw [List.length_replicate]; omega)
example (rest : Bytes) : nextRecord true (mkRecord [0x16, 0xfe, 0xfd, 0, 0, 0, 0, 0, 0, 0, 0] (List.replicate 65535 7) ++ rest)
    = .ok (List.replicate 65535 7, rest) :=
  record_any_size_accepted true _ _ rest (by decide) (by decide) (by rw [List.length_replicate]; omega) (by rw [List.length_replicate]; omega)

/-- **record_header_prefix_incomplete** — a complete, plausible header with a non-zero length followed by too few body bytes
    is "incomplete", never "invalid" — whatever the announced length (16384 included). (Fewer bytes than a header:
    `record_short_header_incomplete`.) -/
theorem record_header_prefix_incomplete (dtls : Bool) (pre c : Bytes) (k : Nat)
    (hpre : pre.length + 2 = hdrLen dtls) (hstart : startsLike dtls pre = true)
    (hpos : 0 < c.length) (hmax : c.length ≤ 65535) (hk : k < c.length) :
    nextRecord dtls (pre ++ w16 c.length ++ c.take k) = .incomplete := by
  rw [nextRecord_header dtls pre _ _ hpre hstart hpos (by omega), if_pos (by rw [List.length_take]; omega)]

example : nextRecord false ([0x16, 3, 3] ++ w16 (List.replicate 16384 (7 : UInt8)).length ++ (List.replicate 16384 7).take 0) = .incomplete :=
  record_header_prefix_incomplete false [0x16, 3, 3] (List.replicate 16384 7) 0 (by decide) (by decide) (by rw [List.length_replicate]; omega) (by rw [List.length_replicate]; omega) (by rw [List.length_replicate]; omega)

/-! ## the builder as the driver runs it, short headers, valid hosts are ASCII -/

/-- **dtlsFlight_eq_records** — the flight the DTLS theorems quantify over is `records` of the `fragsOf` fragments under one record
    prefix: exactly the two functions op `build` executes and compares byte for byte with the harness's fragmenter. -/
theorem dtlsFlight_eq_records (pre seq body : Bytes) (sizes : List Nat) :
    dtlsFlight pre seq body sizes = records ((fragsOf seq body.length 0 body sizes).map (fun f => (pre, f))) := by
  unfold dtlsFlight records
  rw [List.flatMap_map]

/-- **record_short_header_incomplete** — fewer bytes than a record header (5 for TLS, 13 for DTLS) never give a verdict -/
theorem record_short_header_incomplete (dtls : Bool) (d : Bytes) (h : d.length < hdrLen dtls) :
    nextRecord dtls d = .incomplete ∧ parse dtls d = .incomplete := by
  have h1 : nextRecord dtls d = .incomplete := by
    unfold nextRecord; simp only; rw [if_pos h]
  refine ⟨h1, ?_⟩
  unfold parse getHello
  rw [getHelloF, h1]

/-! ### a valid host name is ASCII (so `host_name.decode("ascii")` in `ClientHello.sni` cannot raise) -/

/-- **validHostN_ascii** — whatever nameprep does: a name `is_valid_host` accepts consists of ASCII bytes only (names without `xn--`
    by the codec's fast path, names with `xn--` because every label is either ASCII or `xn--` + ASCII punycode). -/
theorem validHostN_ascii (N : Nameprep) (nm : Bytes) (h : validHostN N nm = true) : ∀ b ∈ nm, b.toNat < 128 := by
  unfold validHostN validHostT validHost at h
  by_cases hi : idnaOk (hostLibOf (idnaOf N)) nm = false
  · simp [hi] at h
  · have hok : idnaOk (hostLibOf (idnaOf N)) nm = true := by simpa using hi
    unfold idnaOk at hok
    split at hok
    · -- slow path: the transcribed codec decoded the name
      simp only [hostLibOf, idnaOf, Option.isSome_map] at hok
      cases hd : decodeIdna N nm with
      | none => rw [hd] at hok; simp at hok
      | some t => exact decodeIdna_ascii N nm t hd
    · intro b hb
      have := (List.all_eq_true.mp hok) b hb
      simpa using this

/-- **sni_is_ascii** — the accessor cannot raise: whatever `ClientHello.sni` returns (complete model, any parsed hello) is pure ASCII,
    so the final `host_name.decode("ascii")` succeeds. -/
theorem sni_is_ascii (h : Hello) (nm : Bytes) (hs : h.sni validHostFull = some nm) : ∀ b ∈ nm, b.toNat < 128 := by
  unfold Hello.sni at hs
  have := List.find?_some hs
  exact validHostN_ascii theNameprep nm this

/-! ## DTLS handshake fragmentation (finding F-C13a) -/

/-- **dtls_fragment_invariant (partial)** — `DtlsFragmentInvariant` restricted by the guard
    `sizes.length = 1` (the flight is not fragmented): this is all the current code achieves. -/
theorem dtls_fragment_invariant_partial (h : BHello) (pre seq : Bytes) (sizes : List Nat)
    (hw : h.WF true) (hseq : seq.length = 2) (hpre : pre.length + 2 = hdrLen true)
    (hstart : startsLike true pre = true) (hs : ∀ s ∈ sizes, 0 < s ∧ s + 12 < 65536)
    (hsum : sizes.sum = (h.body true).length) (hone : sizes.length = 1) :
    parse true (dtlsFlight pre seq (h.body true) sizes) = .ok h.view := by
  match sizes, hone with
  | [n], _ =>
    have hn : n = (h.body true).length := by simpa using hsum
    have hb := hs n (by simp)
    subst hn
    have hflight : dtlsFlight pre seq (h.body true) [(h.body true).length] =
        records [(pre, h.message true seq)] ++ [] := by
      simp [dtlsFlight, fragsOf, records, BHello.message, msgHdr, List.append_assoc]
    rw [hflight]
    apply agrees_with_builder true h seq [] [] [(pre, h.message true seq)] hw hseq
    · intro ch hch
      simp only [List.mem_singleton] at hch
      subst hch
      refine ⟨hpre, hstart, ?_, ?_⟩
      · simp [BHello.message, msgHdr, w24]
      · simp [BHello.message, msgHdr, w24, hseq]; omega
    · simp [contents]

private def cxHello : BHello :=
  { ver := [0xfe, 0xfd], random := List.replicate 32 0, sid := [], cookie := [], ciphers := [0x1301],
    comp := [0], exts := none }

private def cxPre : Bytes := [0x16, 0xfe, 0xfd, 0, 0, 0, 0, 0, 0, 0, 0]

private theorem cxHello_wf : cxHello.WF true := by
  refine ⟨rfl, rfl, by decide, by decide, by decide, by decide, by decide, ?_, by decide⟩
  intro es he; cases he

/-- **dtls_fragment_invariant (counterexample)** — a 42-byte DTLS ClientHello sent as two fragments of 21 bytes
    is rejected as invalid (the first fragment alone is taken for the whole message), whereas the same hello
    in one fragment is read correctly: the full statement is false for the current code. -/
theorem dtls_fragment_invariant_counterexample : ¬ DtlsFragmentInvariant := by
  intro H
  have h1 := H cxHello cxPre [0, 0] [21, 21] cxHello_wf rfl rfl (by decide) (by decide) (by decide)
  have h2 : parse true (dtlsFlight cxPre [0, 0] (cxHello.body true) [21, 21]) = .invalid := by decide +kernel
  rw [h2] at h1
  cases h1

/-! ## non-vacuity: the hypotheses are satisfiable, the model is not constant -/

private def exHello : BHello :=
  { ver := [3, 3], random := List.replicate 32 7, sid := [1, 2, 3], cookie := [], ciphers := [0x1301, 0xc02f],
    comp := [0],
    exts := some [.other 0xff01 [0], .sni [(0, [0x61, 0x2e, 0x62])], .alpn [[0x68, 0x32], [0x78]], .other 43 [2, 3, 4]] }

private theorem exHello_wf (dtls : Bool) : exHello.WF dtls := by
  refine ⟨rfl, rfl, by decide, by decide, by decide, by decide, by decide, ?_, by cases dtls <;> decide⟩
  intro es he
  cases he
  decide

/-- `agrees_with_builder` instantiated: the hello above, cut into three TLS records (1 + 3 + rest bytes) with
    record versions 3.1 / 3.3, followed by a ChangeCipherSpec record -/
example : parse false
    (records [([0x16, 3, 1], (exHello.message false [0, 0]).take 1),
              ([0x16, 3, 3], ((exHello.message false [0, 0]).drop 1).take 3),
              ([0x16, 3, 3], (exHello.message false [0, 0]).drop 4)] ++ [0x14, 3, 3, 0, 1, 1])
    = .ok exHello.view := by
  apply agrees_with_builder false exHello [0, 0] [] _ _ (exHello_wf false) rfl
  · decide
  · decide +kernel

/-- what is read back: SNI a.b (for a validity predicate accepting everything), ALPN [h2, x], 4 extensions -/
example : exHello.view.sni (fun _ => true) = some [0x61, 0x2e, 0x62] ∧ exHello.view.alpn = [[0x68, 0x32], [0x78]] ∧
    exHello.view.extView.map (·.1) = [0xff01, 0, 16, 43] := by decide

/-- the same hello as a DTLS flight in one fragment (record version 0xFEFF as OpenSSL sends it) -/
example : parse true (dtlsFlight [0x16, 0xfe, 0xff, 0, 0, 0, 0, 0, 0, 0, 0] [0, 0] (exHello.body true) [(exHello.body true).length])
    = .ok exHello.view :=
  dtls_fragment_invariant_partial exHello _ [0, 0] _ (exHello_wf true) rfl rfl (by decide) (by decide) (by decide) rfl

/-- the model is not constant: incomplete, invalid (bad record header / empty record / short body) all occur -/
example : parse false [0x16, 3, 1, 0] = .incomplete := by decide
example : parse false [0x17, 3, 1, 0, 1, 0] = .invalid := by decide
example : parse false [0x16, 3, 1, 0, 0] = .invalid := by decide
example : parse false [0x16, 3, 4, 0, 1] = .invalid := by decide
example : parse false [0x16, 3, 1, 0, 5, 1, 0, 0, 1, 0] = .invalid := by decide
example : parse false [0x16, 3, 1, 0, 5, 1, 0, 0, 2, 0] = .incomplete := by decide
example : parse true [0x16, 0xfe, 0xfc, 0, 0, 0, 0, 0, 0, 0, 0, 0, 1] = .invalid := by decide
/-- incomplete is NOT stable (so the guard of `prefix_stable` is needed) -/
example : parse false [0x16, 3, 1, 0] = .incomplete ∧ parse false ([0x16, 3, 1, 0] ++ [0]) = .invalid := by decide

-- `prefix_stable_invalid`: a rejected input stays rejected
example : parse false ([0x17, 3, 1, 0, 1, 0] ++ [1, 2, 3]) = .invalid := prefix_stable_invalid false _ _ (by decide)

-- `record_split_invariant`: the real hello in three records (two record versions) vs. in one record
example : parse false (records [([0x16, 3, 1], (exHello.message false [0, 0]).take 1),
              ([0x16, 3, 3], ((exHello.message false [0, 0]).drop 1).take 3),
              ([0x16, 3, 3], (exHello.message false [0, 0]).drop 4)]) = parse false (records [([0x16, 3, 3], exHello.message false [0, 0])]) := by
  apply record_split_invariant
  · decide
  · decide
  · decide +kernel

-- `built_any_split`: that wire image followed by a ChangeCipherSpec record, delivered in two TCP segments cut inside a record header
example : feedAll false []
    [ (records [([0x16, 3, 1], (exHello.message false [0, 0]).take 1),
              ([0x16, 3, 3], ((exHello.message false [0, 0]).drop 1).take 3),
              ([0x16, 3, 3], (exHello.message false [0, 0]).drop 4)]).take 7,
      (records [([0x16, 3, 1], (exHello.message false [0, 0]).take 1),
              ([0x16, 3, 3], ((exHello.message false [0, 0]).drop 1).take 3),
              ([0x16, 3, 3], (exHello.message false [0, 0]).drop 4)]).drop 7 ++ [0x14, 3, 3, 0, 1, 1] ] = .ok exHello.view := by
  apply built_any_split false exHello [0, 0] [] [0x14, 3, 3, 0, 1, 1] [([0x16, 3, 1], (exHello.message false [0, 0]).take 1),
              ([0x16, 3, 3], ((exHello.message false [0, 0]).drop 1).take 3),
              ([0x16, 3, 3], (exHello.message false [0, 0]).drop 4)] _ (exHello_wf false) rfl
  · decide
  · decide +kernel
  · rw [List.flatten_cons, List.flatten_cons, List.flatten_nil, List.append_nil, ← List.append_assoc, List.take_append_drop]

-- `parse_records_payload` / `payload_only` with a result that is a hello (the example above ends in `.invalid`)
example : parse false (records [([0x16, 3, 3], exHello.message false [0, 0])]) = helloOf false (contents [([0x16, 3, 3], exHello.message false [0, 0])]) := by
  apply parse_records_payload
  decide
example : helloOfMsg false (exHello.message false [0, 0]) = .ok exHello.view := by decide +kernel

-- `payload_incomplete`: the payload announces 5 body bytes and carries 1
example : feedAll false [] [[0x16, 3, 1, 0, 5], [1, 0, 0, 5, 0]] = .incomplete :=
  payload_incomplete false [([0x16, 3, 1], [1, 0, 0, 5, 0])] _
    (by decide)
    (by decide) (by decide)

-- accessors: the theorems instantiated on the hello with SNI + ALPN + two other extensions
example : exHello.view.alpn = builtAlpn [.other 0xff01 [0], .sni [(0, [0x61, 0x2e, 0x62])], .alpn [[0x68, 0x32], [0x78]], .other 43 [2, 3, 4]] :=
  alpn_of_built exHello _ rfl ((exHello_wf false).2.2.2.2.2.2.2.1 _ rfl)
example (valid : Bytes → Bool) : exHello.view.sni valid =
    builtSni valid [.other 0xff01 [0], .sni [(0, [0x61, 0x2e, 0x62])], .alpn [[0x68, 0x32], [0x78]], .other 43 [2, 3, 4]] :=
  sni_of_built valid exHello _ rfl ((exHello_wf false).2.2.2.2.2.2.2.1 _ rfl)

-- `sni_outright`: SNI "a.b" reported whatever the idna / ipaddress libraries answer
example (lib : HostLib) : exHello.view.sni (validHost lib) = some [0x61, 0x2e, 0x62] :=
  sni_outright lib exHello [.other 0xff01 [0]] [.alpn [[0x68, 0x32], [0x78]], .other 43 [2, 3, 4]] [[0x61], [0x62]] rfl
    ((exHello_wf false).2.2.2.2.2.2.2.1 _ rfl)
    (by intro x hx ns h; simp only [List.mem_singleton] at hx; subst hx; cases h)
    (by simp) (by decide) (by decide) (by decide)

-- `sni_lib_free` / `sni_full`: no `xn--` candidate, so no library answer matters
example (I J : IdnaLib) : exHello.view.sni (validHostT I) = exHello.view.sni (validHostT J) :=
  sni_lib_free I J _ (by decide)

-- `validHost_too_long` / `validHost_non_ascii`
example (lib : HostLib) : validHost lib (List.replicate 256 0x61) = false := validHost_too_long lib _ (by rw [List.length_replicate]; decide)
example (lib : HostLib) : validHost lib [0x62, 0xfc] = false := validHost_non_ascii lib _ 0xfc (by simp) (by decide) (by decide)

end MitmVerif.Props.C13
