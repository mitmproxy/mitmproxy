/-
  C06 — translating between HTTP versions preserves message semantics: the property theorems.

  `h2_to_h1_single_message`  an HTTP/2 header block that hyper-h2's validator accepts (`h2ValidReq`), that
        `parse_h2_request_headers` and `validate_request` accept, with a buffered body obeying hyper-h2's
        content-length law, is written to an HTTP/1 server as bytes that the strict reference reader reads as
        EXACTLY ONE message with the same method, path and body and the fields written (`toH1Fields`), each value as
        the reader strips it (`readBack`);
  `h2_to_h1_host`, `h2_to_h1_cookie`, `h2_to_h1_other_fields`  what the field list of that message is: Host from
        :authority, Cookie fields joined with "; ", every other end-to-end field unchanged and in order;
  `h1_to_h2`  the HTTP/2 header block written for an HTTP/1 request decodes to the same request (Host moved to
        :authority, names lower-cased, names and values stripped of surrounding whitespace, connection-specific
        fields dropped, nothing else);
  `h2_to_h2`  parse followed by format is the identity on the message;
  `status_preserved`  the status code survives every conversion of a response;
  the same for responses (`h2_to_h1_response_single_message`, `h2_to_h2_response`, `h1_to_h2_response`), and where the
  content-length law comes from (`cl_law_from_h2_check`) and where it fails (`cl_law_trailers_counterexample`).
  The proofs rest on Lemmas/C06 (the reference reader), Lemmas/C06_H1 (validators and writer of the HTTP/1 side, the
  read-back theorems) and Lemmas/C06_H2 (validator, parser and formatter of the HTTP/2 side).
-/
import MitmVerif.Lemmas.C06_H1
import MitmVerif.Lemmas.C06_H2
namespace MitmVerif.Props.C06
open MitmVerif MitmVerif.C06

/-! ### HTTP/2 → HTTP/1: the bytes written are read as exactly one message -/

/-- hyper-h2's content-length law for a buffered body (`_track_content_length`): a content-length field that came
    with DATA frames equals the number of body bytes. -/
def ClLaw (r : Req) (body : Bytes) : Prop :=
  ∀ g, r.fields.filter (nameIs sCL) = [g] → Ref.parseDec g.2 = some body.length

theorem h2_to_h1_single_message (authOk : Bool) (b : Block) (body : Bytes) (r : Req)
    (hv : h2ValidReq b = true) (hp : parseH2Request authOk b = some r)
    (hval : validateRequest r false = true) (hcl : ClLaw r body) :
    h2ToH1 authOk b body = some (assembleRequestHead r.method r.path sHttp11 (toH1Fields r body) ++ body) ∧
    Ref.parse (assembleRequestHead r.method r.path sHttp11 (toH1Fields r body) ++ body)
      = some [⟨r.method, r.path, sHttp11, (toH1Fields r body).map readBack, body⟩] := by
  obtain ⟨hf, hpath, hauth⟩ := request_parts authOk b r hv hp
  exact ⟨by simp [h2ToH1, hp, hval],
    request_read_back r body hval (fun f h => (fieldOk_parts f (hf f h).1).2) hauth hpath hcl⟩

/-- The full statement for the STREAMED conversion: whatever the DATA frames, the HTTP/1 bytes are one message with
    the body that was sent.  It is FALSE for the code as it is (finding F-C06a) — see `_counterexample` — and holds
    exactly where the head carries a content-length or there is no body (`_partial`). -/
def h2_to_h1_streamed_single_message : Prop :=
  ∀ (authOk : Bool) (b : Block) (chunks : List Bytes) (r : Req),
    h2ValidReq b = true → parseH2Request authOk b = some r → validateRequest r false = true → ClLaw r chunks.flatten →
    Ref.parse (assembleRequestHead r.method r.path sHttp11 (toH1FieldsStreamed r) ++ chunks.flatten)
      = some [⟨r.method, r.path, sHttp11, (toH1FieldsStreamed r).map readBack, chunks.flatten⟩]

/-- the decidable guard that excludes exactly the defect class F-C06a: a streamed body without content-length -/
def streamedFramed (r : Req) (chunks : List Bytes) : Bool := hasName sCL r.fields || chunks.flatten.isEmpty

theorem h2_to_h1_streamed_single_message_partial (authOk : Bool) (b : Block) (chunks : List Bytes) (r : Req)
    (hv : h2ValidReq b = true) (hp : parseH2Request authOk b = some r)
    (hval : validateRequest r false = true) (hcl : ClLaw r chunks.flatten)
    (hg : streamedFramed r chunks = true) :
    h2ToH1Streamed authOk b chunks
      = some (assembleRequestHead r.method r.path sHttp11 (toH1FieldsStreamed r) ++ chunks.flatten) ∧
    Ref.parse (assembleRequestHead r.method r.path sHttp11 (toH1FieldsStreamed r) ++ chunks.flatten)
      = some [⟨r.method, r.path, sHttp11, (toH1FieldsStreamed r).map readBack, chunks.flatten⟩] := by
  -- under the guard no Content-Length is added for the buffered body either: the two conversions write the same head
  have e : toH1Fields r chunks.flatten = toH1FieldsStreamed r := by
    unfold toH1Fields toH1FieldsStreamed addFraming
    simp only [streamedFramed, Bool.or_eq_true] at hg
    rcases hg with h | h
    · have : hasName sCL (joinCookies (insertHost r)) = true := by
        rw [hasName_iff, filter_joined sCL (by decide) (by decide), ← hasName_iff, h]
      simp [this]
    · simp [h]
  have := h2_to_h1_single_message authOk b chunks.flatten r hv hp hval hcl
  rw [e] at this
  exact ⟨by simp [h2ToH1Streamed, hp, hval], this.2⟩

/-- the witness of finding F-C06a: POST / with `:authority: a`, no content-length, streamed body
    `GET /x HTTP/1.1 CRLF CRLF` — every hypothesis holds, yet the reference reader sees TWO requests -/
def exStreamBlock : Block := [(pMethod, [80, 79, 83, 84]), (pScheme, sHttp), (pPath, [47]), (pAuthority, [97])]
def exStreamBody : List Bytes := [[71, 69, 84, 32, 47, 120, 32], sHttp11 ++ crlf ++ crlf]

theorem h2_to_h1_streamed_single_message_counterexample : ¬ h2_to_h1_streamed_single_message := by
  intro h
  have := h true exStreamBlock exStreamBody ⟨[80, 79, 83, 84], sHttp, [97], [47], []⟩
    (by decide +kernel) (by decide +kernel) (by decide +kernel) (by intro g hg; simp at hg)
  revert this
  decide +kernel

/-- what the next hop reads instead: the POST without a body, and the smuggled GET -/
example : (h2ToH1Streamed true exStreamBlock exStreamBody).map Ref.parse =
    some (some [⟨[80, 79, 83, 84], [47], sHttp11, [(sHost, [97])], []⟩,
                ⟨[71, 69, 84], [47, 120], sHttp11, [], []⟩]) := by decide +kernel
example : streamedFramed ⟨[80, 79, 83, 84], sHttp, [97], [47], []⟩ exStreamBody = false := by decide +kernel

/-- Host: the client's own host field if it sent one, else the :authority, else none -/
theorem h2_to_h1_host (r : Req) (body : Bytes) :
    ((toH1Fields r body).filter (nameIs sHostL)).map (·.2) =
      (if hasName sHostL r.fields then (r.fields.filter (nameIs sHostL)).map (·.2)
       else if r.authority.isEmpty then [] else [r.authority]) := by
  have h1 : (toH1Fields r body).filter (nameIs sHostL) = (insertHost r).filter (nameIs sHostL) := by
    unfold toH1Fields
    rw [filter_addFraming _ _ _ (by rw [nameIs_mk]; decide), filter_joinCookies _ _ (cookie_ne sHostL (by decide))]
  rw [h1]
  unfold insertHost
  cases hh : hasName sHostL r.fields with
  | true => simp
  | false =>
    have hnil : r.fields.filter (nameIs sHostL) = [] := by
      simpa [hasName_iff] using hh
    cases ha : r.authority.isEmpty with
    | true => simp [hnil]
    | false =>
      have : nameIs sHostL (sHost, r.authority) = true := by rw [nameIs_mk]; decide
      simp [this, hnil]

/-- Cookie: several cookie fields are joined with "; " into one, a single one is kept -/
theorem h2_to_h1_cookie (r : Req) (body : Bytes) :
    cookieValues (toH1Fields r body) =
      (if (cookieValues r.fields).length > 1 then [joinWith sSemiSp (cookieValues r.fields)]
       else cookieValues r.fields) := by
  have hins : cookieValues (insertHost r) = cookieValues r.fields := by
    unfold cookieValues; rw [filter_insertHost _ _ (by rw [nameIs_mk]; decide)]
  have hadd : cookieValues (toH1Fields r body) = cookieValues (joinCookies (insertHost r)) := by
    unfold toH1Fields cookieValues
    rw [filter_addFraming _ _ _ (by rw [nameIs_mk]; decide)]
  rw [hadd, joinCookies_def, hins]
  split
  · have e : lower sCookieL = sCookieL := by decide
    have := setAll_values sCookieL (joinWith sSemiSp (cookieValues r.fields)) (insertHost r) false
    rw [e] at this
    simpa [cookieValues] using this
  · exact hins

/-- every other field reaches the HTTP/1 server unchanged and in order -/
theorem h2_to_h1_other_fields (r : Req) (body : Bytes) :
    (toH1Fields r body).filter (fun f => !nameIs sCookieL f && !nameIs sHostL f && !nameIs sCL f) =
      r.fields.filter (fun f => !nameIs sCookieL f && !nameIs sHostL f && !nameIs sCL f) := by
  let q : Field → Bool := fun f => !nameIs sCookieL f && !nameIs sHostL f && !nameIs sCL f
  have hq : ∀ f : Field, (lower f.1 == lower sCookieL) = true → ∀ v, q (f.1, v) = false := by
    intro f hf v
    have e : lower sCookieL = sCookieL := by decide
    rw [e] at hf
    simp [q, nameIs, hf]
  have hhost : q (sHost, r.authority) = false := by
    have : nameIs sHostL (sHost, r.authority) = true := by rw [nameIs_mk]; decide
    simp [q, this]
  have hcl : q (sCL, natDec body.length) = false := by
    have : nameIs sCL (sCL, natDec body.length) = true := by rw [nameIs_mk]; decide
    simp [q, this]
  show (toH1Fields r body).filter q = r.fields.filter q
  unfold toH1Fields
  rw [filter_addFraming q _ _ hcl, filter_joinCookies q _ hq, filter_insertHost q r hhost]

/-- The header block written for an HTTP/1 request (origin-form, so no authority of its own) decodes to the same
    method, scheme and path, the Host field(s) as :authority, and the other fields lower-cased, stripped and
    without the connection-specific ones — in the original order. -/
theorem h1_to_h2 (r : Req) (hauth : r.authority = []) (htok : ∀ f ∈ r.fields, isToken f.1 = true) :
    parseH2Request true (formatH2Request r false) =
      some (if hasName sHostL r.fields then
              ⟨r.method, r.scheme, joinWith sCommaSp ((r.fields.filter (nameIs sHostL)).map (·.2)), r.path,
                normalizeH1 (r.fields.filter (fun f => !nameIs sHostL f))⟩
            else ⟨r.method, r.scheme, [], r.path, normalizeH1 r.fields⟩) := by
  cases hh : hasName sHostL r.fields with
  | false =>
    have hfmt : formatH2Request r false = (pMethod, r.method) :: (pScheme, r.scheme) :: (pPath, r.path) ::
        ((none : Option Bytes).toList.map (pAuthority, ·) ++ normalizeH1 r.fields) := by
      simp [formatH2Request, hauth, hh]
    rw [hfmt, parse_format true _ _ _ none _ (normalizeH1_regular r.fields htok) (by simp)]
    rfl
  | true =>
    have htok' : ∀ f ∈ r.fields.filter (fun f => !nameIs sHostL f), isToken f.1 = true :=
      fun f hf => htok f (List.mem_filter.mp hf).1
    have hfmt : formatH2Request r false = (pMethod, r.method) :: (pScheme, r.scheme) :: (pPath, r.path) ::
        ((some (joinWith sCommaSp ((r.fields.filter (nameIs sHostL)).map (·.2)))).toList.map (pAuthority, ·)
          ++ normalizeH1 (r.fields.filter (fun f => !nameIs sHostL f))) := by
      simp [formatH2Request, hauth, hh]
    rw [hfmt, parse_format true _ _ _ (some _) _ (normalizeH1_regular _ htok') (by simp)]
    rfl

/-- names written over HTTP/2 for an HTTP/1 message carry no upper-case letter and no connection-specific field -/
theorem h1_to_h2_names (fs : List Field) :
    ∀ f ∈ normalizeH1 fs, (∀ c ∈ f.1, ¬(65 ≤ c.toNat ∧ c.toNat ≤ 90)) ∧ Gen.C06.connectionHeaders.contains f.1 = false := by
  intro f hf
  simp only [normalizeH1, List.mem_filter, List.mem_map] at hf
  obtain ⟨⟨g, _, rfl⟩, hc⟩ := hf
  refine ⟨?_, by simpa using hc⟩
  intro c hc
  have := mem_trim (p := isPyWs) (l := lower g.1) hc
  simp only [lower, asciiLower, List.mem_map] at this
  obtain ⟨d, _, rfl⟩ := this
  exact lower_not_upper d

/-- Forwarding an HTTP/2 request over HTTP/2: the block written is the pseudo-headers followed by the fields as
    received, and it decodes to the very same request.  (The differential run drives transparent mode, where the scheme
    comes from the transport: the driver prints `formatH2Request { r with scheme := sHttp } true`, so the instances
    exercised against the code are those with `r.scheme = http`; the theorem holds for every scheme.) -/
theorem h2_to_h2 (authOk : Bool) (b : Block) (r : Req)
    (hv : h2ValidReq b = true) (hp : parseH2Request authOk b = some r) :
    formatH2Request r true =
      [(pMethod, r.method), (pScheme, r.scheme), (pPath, r.path)]
        ++ (if r.authority.isEmpty then [] else [(pAuthority, r.authority)]) ++ r.fields
    ∧ parseH2Request authOk (formatH2Request r true) = some r := by
  obtain ⟨hf, _, _⟩ := request_parts authOk b r hv hp
  obtain ⟨_, _, _, _, hok⟩ := parseH2Request_some authOk b r hp
  have hnorm := normalizeH2_id r.fields fun f h => (hf f h).1
  obtain ⟨m, sc, a, p, fs⟩ := r
  simp only at hf hnorm hok ⊢
  have hfmt : formatH2Request ⟨m, sc, a, p, fs⟩ true = (pMethod, m) :: (pScheme, sc) :: (pPath, p) ::
      ((if a.isEmpty then none else some a).toList.map (pAuthority, ·) ++ fs) := by
    cases ha : a.isEmpty <;> simp [formatH2Request, hnorm, ha]
  rw [hfmt, parse_format authOk m sc p _ fs (fun f h => (hf f h).2) (by cases a <;> simp_all)]
  cases a <;> simp

/-! ### the content-length law, derived from what hyper-h2 checks -/

/-- The hypothesis `ClLaw` of `h2_to_h1_single_message` follows from the check hyper-h2 really makes (`h2ClOk`, the
    transcription of `_track_content_length` the differential run ties to the library on every case) — except for
    the one input class where hyper-h2 makes no check at all: no DATA frame (END_STREAM on the HEADERS frame) with a
    non-zero content-length, finding F-C06c, excluded by `hguard`.  `endOnTrailers := false`: the stream is ended by a DATA
    frame.  For a stream ended by a TRAILERS frame hyper-h2 only checks "not more than announced" and the law is false —
    findings F-C06d/e, see `cl_law_trailers_counterexample`. -/
theorem cl_law_from_h2_check (authOk : Bool) (b : Block) (body : Bytes) (r : Req)
    (hv : h2ValidReq b = true) (hp : parseH2Request authOk b = some r)
    (hck : h2ClOk false b body.length (endOnTrailers := false) = true)
    (hguard : body = [] → ∀ v ∈ valuesOf sCL b, Ref.parseDec v = some 0) : ClLaw r body := by
  obtain ⟨ps, hs, _⟩ := parseH2Request_some authOk b r hp
  exact cl_law_core b ps r.fields body hs (request_parts authOk b r hv hp).1 hck hguard

/-- hyper-h2's content-length law for a buffered response body -/
def RespClLaw (fs : List Field) (body : Bytes) : Prop :=
  ∀ g, fs.filter (nameIs sCL) = [g] → Ref.parseDec g.2 = some body.length

/-- … and `RespClLaw` of `h2_to_h1_response_single_message` likewise (the excluded classes are findings F-C06b — `hguard` —
    and F-C06d — `endOnTrailers := false`) -/
theorem resp_cl_law_from_h2_check (b : Block) (body : Bytes) (st : Nat) (fs : List Field)
    (hv : h2ValidResp b = true) (hp : parseH2Response b = some (st, fs))
    (hck : h2ClOk false b body.length (endOnTrailers := false) = true)
    (hguard : body = [] → ∀ v ∈ valuesOf sCL b, Ref.parseDec v = some 0) :
    ∀ g, fs.filter (nameIs sCL) = [g] → Ref.parseDec g.2 = some body.length := by
  obtain ⟨ps, hs, _⟩ := parseH2Response_some b st fs hp
  exact cl_law_core b ps fs body hs (response_parts b st fs hv hp).1 hck hguard

/-- `h2_to_h1_single_message` with the content-length law replaced by hyper-h2's own (transcribed, tied) check, for a
    stream ended by a DATA frame (`endOnTrailers := false`; not for F-C06c — `hguard` — nor F-C06e — ended by trailers) -/
theorem h2_to_h1_single_message_checked (authOk : Bool) (b : Block) (body : Bytes) (r : Req)
    (hv : h2ValidReq b = true) (hp : parseH2Request authOk b = some r)
    (hval : validateRequest r false = true) (hck : h2ClOk false b body.length (endOnTrailers := false) = true)
    (hguard : body = [] → ∀ v ∈ valuesOf sCL b, Ref.parseDec v = some 0) :
    h2ToH1 authOk b body = some (assembleRequestHead r.method r.path sHttp11 (toH1Fields r body) ++ body) ∧
    Ref.parse (assembleRequestHead r.method r.path sHttp11 (toH1Fields r body) ++ body)
      = some [⟨r.method, r.path, sHttp11, (toH1Fields r body).map readBack, body⟩] :=
  h2_to_h1_single_message authOk b body r hv hp hval (cl_law_from_h2_check authOk b body r hv hp hck hguard)

/-- Trailers (request or response) forwarded HTTP/2 → HTTP/2, the only pair of versions that can carry them in
    mitmproxy: `send_trailers([*event.trailers.fields])` — hyper-h2's outbound normalization leaves a block that passed
    the inbound validator exactly as it is (names, values, order), and the next hop's validator accepts it again. -/
theorem h2_to_h2_trailers (t : Block) (hv : h2ValidTrailers t = true) :
    normalizeH2 t = t ∧ h2ValidTrailers (normalizeH2 t) = true := by
  simp only [h2ValidTrailers, Bool.and_eq_true] at hv
  have hnorm : normalizeH2 t = t := normalizeH2_id t (List.all_eq_true.mp hv.1)
  exact ⟨hnorm, by rw [hnorm]; simpa [h2ValidTrailers] using hv⟩

/-! ### sending does not change the recorded message -/

/-- Converting / sending a recorded request to an HTTP/1 or HTTP/2 hop leaves the stored request unchanged, and — over
    any history of sends of the same flow (live exchange, then any number of replays to any hops) — every send emits
    exactly what the first send to that hop would have emitted: the conversion is a function of the message alone.
    RESTATEMENT OF A MODELLING DECISION, not a proof about the code: `sendRequest` returns its argument `r` literally (the
    model has no mutation that could change it) and `sendRequest` / `sendAll` / `Hop` are not run by the driver (only their
    components `h2ToH1`-style assembly and `formatH2Request` are).  That the CODE converts copies (`request.copy()`,
    `headers.copy()`) is carried by the oracle's stored-before/after clause and by the replay passes, which compare every
    later send of the real flow with the model's first send. -/
theorem conversion_keeps_message (r : Req) (fromH2 : Bool) (body : Bytes) (hops : List Hop) :
    (∀ h, (sendRequest r fromH2 body h).1 = r)
    ∧ (sendAll r fromH2 body hops).1 = r
    ∧ (sendAll r fromH2 body hops).2 = hops.map (fun h => (sendRequest r fromH2 body h).2) := by
  refine ⟨fun h => by cases h <;> rfl, ?_, ?_⟩
  · induction hops with
    | nil => rfl
    | cons h rest ih => cases h <;> simpa [sendAll, sendRequest] using ih
  · induction hops with
    | nil => rfl
    | cons h rest ih => cases h <;> simp [sendAll, sendRequest] at ih ⊢ <;> exact ih

/-- e.g. the recorded HTTP/1 request still has its Host field for the second translation: the replayed block carries
    the same :authority as the first one -/
example : (sendAll ⟨[71, 69, 84], sHttp, [], [47], [(sHost, [97, 46, 98])]⟩ false [] [.h2, .h2]).2 =
    [.inr [(pMethod, [71, 69, 84]), (pScheme, sHttp), (pPath, [47]), (pAuthority, [97, 46, 98])],
     .inr [(pMethod, [71, 69, 84]), (pScheme, sHttp), (pPath, [47]), (pAuthority, [97, 46, 98])]] := by decide +kernel

/-- A status accepted from an HTTP/2 server (`parse_h2_response_headers`) is written to an HTTP/1 client as the
    same three digits, and over HTTP/2 (whatever the source version) as a `:status` with the same three digits,
    first in the block. -/
theorem status_preserved (b : Block) (st : Nat) (fs : List Field) (hp : parseH2Response b = some (st, fs)) :
    (pStatus, natDec st) ∈ b
    ∧ Ref.parseStatusLine (sHttp11 ++ [32] ++ natDec st ++ [32] ++ reason st)
        = some (sHttp11, st, joinWith [32] (splitOn 32 (reason st)))
    ∧ (formatH2Response st fs true).head? = some (pStatus, natDec st)
    ∧ (formatH2Response st fs false).head? = some (pStatus, natDec st) := by
  obtain ⟨ps, hs, hm, hst⟩ := parseH2Response_some b st fs hp
  refine ⟨?_, statusLine_natDec st hst _, by rw [(formatH2Response_eq st fs).1]; rfl,
    by rw [(formatH2Response_eq st fs).2]; rfl⟩
  rw [(splitPseudo_nil b ps fs hs).1]
  exact List.mem_append_left _ hm

/-! ### responses written over HTTP/2 decode to the same status and fields -/

/-- Forwarding an HTTP/2 response over HTTP/2: the block written is `:status` with the same three
    digits followed by the fields exactly as received, and it decodes to the very same status and field list. -/
theorem h2_to_h2_response (b : Block) (st : Nat) (fs : List Field)
    (hv : h2ValidResp b = true) (hp : parseH2Response b = some (st, fs)) :
    formatH2Response st fs true = (pStatus, natDec st) :: fs ∧
    parseH2Response (formatH2Response st fs true) = some (st, fs) := by
  obtain ⟨hf, hst⟩ := response_parts b st fs hv hp
  have hfmt : formatH2Response st fs true = (pStatus, natDec st) :: fs := by
    rw [(formatH2Response_eq st fs).1, normalizeH2_id fs fun f h => (hf f h).1]
  exact ⟨hfmt, by rw [hfmt, parse_status_block st hst fs fun f h => (hf f h).2]⟩

/-- The header block written over HTTP/2 for an HTTP/1 response (any three-digit status, field
    names that are tokens) decodes to the same status and to the fields lower-cased, stripped and without the
    connection-specific ones — in the original order. -/
theorem h1_to_h2_response (st : Nat) (fs : List Field) (hst : 100 ≤ st ∧ st ≤ 999)
    (htok : ∀ f ∈ fs, isToken f.1 = true) :
    formatH2Response st fs false = (pStatus, natDec st) :: normalizeH1 fs ∧
    parseH2Response (formatH2Response st fs false) = some (st, normalizeH1 fs) := by
  have hfmt := (formatH2Response_eq st fs).2
  exact ⟨hfmt, by rw [hfmt, parse_status_block st hst _ (normalizeH1_regular fs htok)]⟩

/-! ### responses towards an HTTP/1 client: the response-stream side of the reference reader -/

/-- mitmproxy closes the client connection after a response whose end only the close can mark
    (`expected_http_body_size == -1`: a body is allowed and no content-length is given) -/
def closeAfter (method : Bytes) (st : Nat) (fs : List Field) : Bool := !bodiless method st && !hasName sCL fs

/-- A final response received over HTTP/2 that hyper-h2's validator, `parse_h2_response_headers` and
    `validate_headers` accept, with a buffered body obeying the content-length law, is written to an HTTP/1 client as
    bytes that the response-stream reference reader — told whether mitmproxy closes the connection afterwards — reads as
    EXACTLY ONE response with the same status, fields and body (no body for HEAD/204/304): framed by Content-Length, by
    the close of the connection, or not at all, never ambiguously. -/
theorem h2_to_h1_response_single_message (method : Bytes) (b : Block) (body : Bytes) (st : Nat) (fs : List Field)
    (hv : h2ValidResp b = true) (hp : parseH2Response b = some (st, fs))
    (hval : validateHeaders fs false false (decide (100 ≤ st ∧ st ≤ 199) || st = 204) = true)
    (hfinal : 200 ≤ st) (hconn : (asciiUpper method == sConnect) = false) (hcl : RespClLaw fs body) :
    h2RespToH1 method b body
      = some (assembleResponseHead sHttp11 st (reason st) fs ++ (if bodiless method st then [] else body)) ∧
    Ref.parseResp (closeAfter method st fs) [method]
        (assembleResponseHead sHttp11 st (reason st) fs ++ (if bodiless method st then [] else body))
      = some [⟨sHttp11, st, joinWith [32] (splitOn 32 (reason st)), fs.map readBack,
               if bodiless method st then [] else body⟩] := by
  refine ⟨by unfold h2RespToH1; rw [hp]; simp only []; rw [if_pos hval], ?_⟩
  obtain ⟨hf, hst⟩ := response_parts b st fs hv hp
  exact response_read_back method st fs body ⟨hfinal, hst.2⟩ hconn hval (fun f h => (fieldOk_parts f (hf f h).1).2) hcl

/-- `h2_to_h1_response_single_message` with the content-length law replaced by hyper-h2's own (transcribed, tied)
    check, for a stream ended by a DATA frame (`endOnTrailers := false`); the excluded input classes are findings F-C06b
    (`hguard`) and F-C06d (ended by trailers) -/
theorem h2_to_h1_response_single_message_checked (method : Bytes) (b : Block) (body : Bytes) (st : Nat) (fs : List Field)
    (hv : h2ValidResp b = true) (hp : parseH2Response b = some (st, fs))
    (hval : validateHeaders fs false false (decide (100 ≤ st ∧ st ≤ 199) || st = 204) = true)
    (hfinal : 200 ≤ st) (hconn : (asciiUpper method == sConnect) = false)
    (hck : h2ClOk false b body.length (endOnTrailers := false) = true)
    (hguard : body = [] → ∀ v ∈ valuesOf sCL b, Ref.parseDec v = some 0) :
    h2RespToH1 method b body
      = some (assembleResponseHead sHttp11 st (reason st) fs ++ (if bodiless method st then [] else body)) ∧
    Ref.parseResp (closeAfter method st fs) [method]
        (assembleResponseHead sHttp11 st (reason st) fs ++ (if bodiless method st then [] else body))
      = some [⟨sHttp11, st, joinWith [32] (splitOn 32 (reason st)), fs.map readBack,
               if bodiless method st then [] else body⟩] :=
  h2_to_h1_response_single_message method b body st fs hv hp hval hfinal hconn
    (resp_cl_law_from_h2_check b body st fs hv hp hck hguard)

/-- e.g. a 200 without content-length is delimited by the close; a 204 carries no body whatever the server sent -/
example : (h2RespToH1 [71, 69, 84] [(pStatus, [50, 48, 48]), ([120], [49])] [97, 98]).map (Ref.parseResp true [[71, 69, 84]]) =
    some (some [⟨sHttp11, 200, [79, 75], [([120], [49])], [97, 98]⟩]) := by decide +kernel
example : (h2RespToH1 [71, 69, 84] [(pStatus, [50, 48, 48]), ([120], [49])] [97, 98]).map (Ref.parseResp false [[71, 69, 84]]) =
    some none := by decide +kernel
example : (h2RespToH1 [71, 69, 84] [(pStatus, [50, 48, 52])] [97, 98]).map (Ref.parseResp false [[71, 69, 84]]) =
    some (some [⟨sHttp11, 204, [78, 111, 32, 67, 111, 110, 116, 101, 110, 116], [], []⟩]) := by decide +kernel

/-! ### the hypotheses are satisfiable and the model rejects what it must -/

def exBlock : Block :=
  [(pMethod, [80, 79, 83, 84]), (pScheme, sHttp), (pPath, [47]), (pAuthority, [97, 46, 98]),
   (sCookieL, [97, 61, 98]), ([120, 45, 97], [49]), (sCookieL, [99, 61, 100])]

example : h2ValidReq exBlock = true := by decide +kernel
example : (parseH2Request true exBlock).map (fun r => validateRequest r false) = some true := by decide +kernel
/-- a buffered body without content-length gets one (mitmproxy fix bf7795479 in known/C06.json: before it, this body went out
    unframed, as the streamed one still does — F-C06a), cookies are joined, Host is inserted -/
example : (h2ToH1 true exBlock [71, 69, 84]).map Ref.parse =
    some (some [⟨[80, 79, 83, 84], [47], sHttp11,
      [(sHost, [97, 46, 98]), (sCookieL, [97, 61, 98, 59, 32, 99, 61, 100]), ([120, 45, 97], [49]), (sCL, [51])],
      [71, 69, 84]⟩]) := by decide +kernel
/-- whitespace in :path is refused (the request line would be split differently) -/
example : (parseH2Request true [(pMethod, [71, 69, 84]), (pScheme, sHttp), (pPath, [47, 97, 32, 98]), (pAuthority, [97])]).map
    (fun r => validateRequest r false) = some false := by decide +kernel
/-- duplicate pseudo-header -/
example : parseH2Request true [(pMethod, [71]), (pMethod, [72]), (pScheme, sHttp), (pPath, [47])] = none := by decide +kernel
/-- the reference reader does refuse an unframed body: two messages / malformed -/
example : Ref.parse ([71, 69, 84, 32, 47, 32] ++ sHttp11 ++ crlf ++ crlf ++ [120]) = none := by decide +kernel
example : parseH2Response [(pStatus, [50, 48, 48])] = some (200, []) := by decide +kernel
example : parseH2Response [(pStatus, [45, 50, 48, 48])] = none := by decide +kernel
example : parseH2Response [(pStatus, [48, 50, 48, 48])] = none := by decide +kernel

/-! ### non-vacuity witnesses where the hypotheses are NOT trivially true

  `exBlock` above carries no content-length, so `ClLaw` / `hguard` hold there for the empty reason.  Below: a request
  and a response WITH a content-length field and a body, the streamed guard with a non-empty body, an HTTP/1-sourced
  request with Host + a connection-specific field, trailers, and the one place where a default argument matters. -/

def auBlockCL : Block :=
  [(pMethod, [80, 79, 83, 84]), (pScheme, sHttp), (pPath, [47]), (pAuthority, [97, 46, 98]), (sCL, [51])]
def auReqCL : Req := ⟨[80, 79, 83, 84], sHttp, [97, 46, 98], [47], [(sCL, [51])]⟩

example : h2ValidReq auBlockCL = true ∧ parseH2Request true auBlockCL = some auReqCL ∧
    validateRequest auReqCL false = true ∧ h2ClOk false auBlockCL 3 = true := by decide +kernel
-- the content-length law is derived, not vacuous: the filter is `[(content-length, "3")]` and the body has 3 bytes
example : ClLaw auReqCL [71, 69, 84] :=
  cl_law_from_h2_check true auBlockCL [71, 69, 84] auReqCL (by decide +kernel) (by decide +kernel) (by decide +kernel) (by intro h; cases h)
example : auReqCL.fields.filter (nameIs sCL) = [(sCL, [51])] := by decide +kernel
example : (h2ToH1 true auBlockCL [71, 69, 84]).map Ref.parse =
    some (some [⟨[80, 79, 83, 84], [47], sHttp11, [(sHost, [97, 46, 98]), (sCL, [51])], [71, 69, 84]⟩]) := by decide +kernel
-- … and the check does reject a wrong length (so `hck` is a real hypothesis)
example : h2ClOk false auBlockCL 2 = false := by decide +kernel
-- streamed conversion: the guard of the `_partial` theorem with a NON-empty body (content-length present)
example : streamedFramed auReqCL [[71], [69, 84]] = true ∧
    (h2ToH1Streamed true auBlockCL [[71], [69, 84]]).map Ref.parse =
      some (some [⟨[80, 79, 83, 84], [47], sHttp11, [(sHost, [97, 46, 98]), (sCL, [51])], [71, 69, 84]⟩]) := by decide +kernel

/-- DEFAULT ARGUMENT: `h2ClOk … (endOnTrailers := false)`.  The `_checked` theorems take `hck` with the default, i.e. for
    a stream ended by a DATA frame.  For a stream ended by trailers hyper-h2 only checks "not more than announced": the
    check passes with 2 of 3 announced bytes, and the content-length law is FALSE there (findings F-C06d/e) — this class
    is outside the `_checked` theorems although their guard `hguard` does not mention it. -/
example : h2ClOk false auBlockCL 2 true = true ∧ ¬ ClLaw auReqCL [71, 69] := by
  refine ⟨by decide, fun h => ?_⟩
  have := h (sCL, [51]) (by decide +kernel)
  revert this; decide +kernel

-- HTTP/1 -> HTTP/2: hypotheses of `h1_to_h2` on a request with Host, a connection-specific field and an upper-case name
def auH1 : Req := ⟨[71, 69, 84], sHttp, [], [47], [(sHost, [97, 46, 98]), ([67, 111, 110, 110, 101, 99, 116, 105, 111, 110], [120]), ([88, 45, 65], [32, 49, 32])]⟩
example : auH1.authority = [] ∧ (auH1.fields.all fun f => isToken f.1) = true := by decide +kernel
example : parseH2Request true (formatH2Request auH1 false) =
    some ⟨[71, 69, 84], sHttp, [97, 46, 98], [47], [([120, 45, 97], [49])]⟩ := by decide +kernel
-- HTTP/2 -> HTTP/2: the parse-back of `h2_to_h2` on the block with cookies
example : (parseH2Request true exBlock).map (fun r => parseH2Request true (formatH2Request r true) == some r) = some true := by decide +kernel
-- trailers: the hypothesis of `h2_to_h2_trailers`, and a block it rejects (pseudo-header / upper-case name)
example : h2ValidTrailers [([120, 45, 116], [49]), ([121], [])] = true := by decide +kernel
example : h2ValidTrailers [(pStatus, [50, 48, 48])] = false ∧ h2ValidTrailers [([88], [49])] = false := by decide +kernel

-- responses: every hypothesis of `h2_to_h1_response_single_message(_checked)` with a content-length and a body
def auResp : Block := [(pStatus, [50, 48, 48]), (sCL, [50]), ([120], [49])]
example : h2ValidResp auResp = true ∧ parseH2Response auResp = some (200, [(sCL, [50]), ([120], [49])]) ∧
    validateHeaders [(sCL, [50]), ([120], [49])] false false (decide (100 ≤ 200 ∧ 200 ≤ 199) || (200 : Nat) = 204) = true ∧
    h2ClOk false auResp 2 = true ∧ (asciiUpper [71, 69, 84] == sConnect) = false := by decide +kernel
example : RespClLaw [(sCL, [50]), ([120], [49])] [97, 98] :=
  resp_cl_law_from_h2_check auResp [97, 98] 200 _ (by decide +kernel) (by decide +kernel) (by decide +kernel) (by intro h; cases h)
-- kept-alive (closeAfter = false): framed by content-length, exactly one response
example : closeAfter [71, 69, 84] 200 [(sCL, [50]), ([120], [49])] = false ∧
    (h2RespToH1 [71, 69, 84] auResp [97, 98]).map (Ref.parseResp false [[71, 69, 84]]) =
      some (some [⟨sHttp11, 200, [79, 75], [(sCL, [50]), ([120], [49])], [97, 98]⟩]) := by decide +kernel

/-! ### the content-length law when trailers end the stream -/

/-- The full statement one would like — "whatever ends the stream, hyper-h2's content-length check implies the
    content-length law" — with `endOnTrailers` universally quantified. -/
def cl_law_from_h2_check_any_end : Prop :=
  ∀ (authOk : Bool) (b : Block) (body : Bytes) (r : Req) (endOnTrailers : Bool),
    h2ValidReq b = true → parseH2Request authOk b = some r → h2ClOk false b body.length endOnTrailers = true →
    (body = [] → ∀ v ∈ valuesOf sCL b, Ref.parseDec v = some 0) → ClLaw r body

/-- Findings F-C06d/e: `cl_law_from_h2_check_any_end` is FALSE.  A request that announces 3 bytes, sends 2 and
    ends the stream with a trailers frame passes hyper-h2's check (`_track_content_length` only compares at the DATA
    frame carrying END_STREAM) — `cl_law_from_h2_check` and the `_checked` theorems therefore need
    `endOnTrailers := false`. -/
theorem cl_law_trailers_counterexample : ¬ cl_law_from_h2_check_any_end := by
  intro h
  have hl := h true auBlockCL [71, 69] auReqCL true (by decide +kernel) (by decide +kernel) (by decide +kernel) (by intro e; cases e)
  have := hl (sCL, [51]) (by decide +kernel)
  revert this; decide +kernel

/-- … and the conversion theorem itself fails on that class: the HTTP/1 bytes written announce 3 body bytes and carry 2,
    the strict reader does not read them as the one message that was sent (it waits for the third byte). -/
theorem h2_to_h1_trailers_counterexample :
    h2ClOk false auBlockCL 2 true = true ∧
    (h2ToH1 true auBlockCL [71, 69]).map Ref.parse
      ≠ some (some [⟨auReqCL.method, auReqCL.path, sHttp11, (toH1Fields auReqCL [71, 69]).map readBack, [71, 69]⟩]) := by
  decide +kernel

end MitmVerif.Props.C06
