/-
  C45 — property theorems about the command-line model (Model/C45.lean), in two halves that meet in
  `cmdline_splits_at_unquoted_ws`. The lexer against the reference `refSplit`: it loses nothing, and its argument tokens,
  glued where they touch, are the pieces between unquoted whitespace; unglued they are not (F-C45c), hence `_partial`
  under `noAdjacent`. The quoting rule: `unquote (quote a)` is `quotedText a`, which is `a` unless `a` holds both quote
  characters (F-C45a), and a `str` parameter interprets the backslashes in what it is handed (F-C45b); hence
  `arg_unchanged_partial` under `argOk`, and under the exact guard `argOkX` (`deliver_iff`).

  The models form a chain, each the next one restricted: `execute` (one type for all arguments) — `executeSig` (signature
  shapes) — `executeT` (all convertible types) — `executeD` (parameter defaults). Only `executeD … harnessCmds` is run
  by the driver; `executeSig_varargs`, `typed_execute_extends_execute`, `execute_without_defaults` and
  `driver_executes_executeSig` carry the theorems along the chain. The theorems on single conversions (`bool_arg_exact`,
  `int_arg_is_python_int`, `str_seq_arg`, `cut_spec_arg`, `marker_arg_exact`, `choice_arg_exact`) hold by `rfl`: they
  restate a line of `parseArgT` in the terms of `mitmproxy.types`.
-/
import MitmVerif.Model.C45
import MitmVerif.Lemmas.Split
namespace MitmVerif.Props.C45
open MitmVerif.C45

/-! ### the lexer loses nothing -/

private theorem lexM_concat (s : Str) : ∀ m : Mode, (lexM m s).1 ++ (lexM m s).2.flatten = s := by
  intro m
  fun_induction lexM m s
  case case1 => rfl
  case case3 c r q _ ih =>
    -- the closing quote ends the token; in mode `none` nothing is pending
    have : (lexM .none r).1 = [] := by cases r <;> rfl
    rw [this] at ih
    exact congrArg (List.cons c) ih
  all_goals (rename_i ih; exact congrArg (List.cons _) ih)

/-- **lexer_loses_nothing.** For every line, concatenating the tokens gives back the line. -/
theorem lexer_loses_nothing (s : Str) : (lex s).flatten = s := by
  have := lexM_concat s .none
  cases s with
  | nil => simp [lex, lexM]
  | cons c r => simp only [lex, lexM] at this ⊢; simpa using this

/-! ### splitting at unquoted whitespace -/

private def ne (t : Str) : Bool := !t.isEmpty

/-- same current piece, same later pieces up to empty ones -/
private def E (x y : Str × List Str) : Prop := x.1 = y.1 ∧ x.2.filter ne = y.2.filter ne

private theorem E.cons (c : Nat) {x y : Str × List Str} (h : E x y) : E (c :: x.1, x.2) (c :: y.1, y.2) :=
  ⟨congrArg (List.cons c) h.1, h.2⟩

private theorem filter_ne_of_E {x y : Str × List Str} (h : E x y) :
    (x.1 :: x.2).filter ne = (y.1 :: y.2).filter ne := by
  obtain ⟨h1, h2⟩ := h
  simp only [List.filter_cons, h1, h2]

private theorem quote_not_ws (q : Nat) (h : isQuote q = true) : isWs q = false := by
  simp only [isQuote, Bool.or_eq_true, beq_iff_eq] at h
  rcases h with h | h <;> simp [h, isWs]

private theorem modeOf_cases (c : Nat) :
    (isWs c = true ∧ modeOf c = .ws) ∨ (isWs c = false ∧ isQuote c = true ∧ modeOf c = .quoted c) ∨
    (isWs c = false ∧ isQuote c = false ∧ modeOf c = .bare) := by
  unfold modeOf
  cases hq : isQuote c
  · cases hw : isWs c <;> simp
  · simp [quote_not_ws c hq]

private theorem not_special (c : Nat) (h : (!special c) = true) : isQuote c = false ∧ isWs c = false := by
  simpa [special] using h

private theorem lex_cons (c : Nat) (r : Str) :
    lex (c :: r) = (c :: (lexM (modeOf c) r).1) :: (lexM (modeOf c) r).2 := rfl

private theorem lexM_ws_all (s : Str) : (lexM .ws s).1.all isWs = true := by
  induction s with
  | nil => rfl
  | cons c r ih =>
    simp only [lexM]
    split
    · rename_i h; simp [h, ih]
    · rfl

private theorem spaceTok_cons_false (c : Nat) (t : Str) (h : isWs c = false) : isSpaceTok (c :: t) = false := by
  simp [isSpaceTok, h]

private theorem mergeAdjacent_space (t : Str) (ts : List Str) (h : isSpaceTok t = true) :
    mergeAdjacent (t :: ts) = mergeAdjacent ts := by
  simp only [mergeAdjacent, mergeGo, h, if_true]
  simp

/-- the pieces read off the tokens, the token under way in front of the first -/
private def pieces (m : Mode) (s : Str) : Str × List Str :=
  ((lexM m s).1 ++ (mergeGo (lexM m s).2).1, (mergeGo (lexM m s).2).2)

/-- reading on inside a bare word gives the pieces of reading afresh -/
private theorem pieces_bare (s : Str) : pieces .bare s = mergeGo (lex s) := by
  cases s with
  | nil => rfl
  | cons c r =>
    rw [lex_cons]
    simp only [pieces, lexM]
    cases hs : special c
    · simp only [special, Bool.or_eq_false_iff] at hs
      have hm : modeOf c = .bare := by simp [modeOf, hs.1, hs.2]
      simp only [hm, mergeGo, spaceTok_cons_false c _ hs.2, Bool.not_false, if_true, Bool.false_eq_true, if_false]
    · rfl

/-- so does reading on inside a whitespace run, which belongs to no piece -/
private theorem mergeAdjacent_ws (s : Str) : mergeAdjacent (lexM .ws s).2 = mergeAdjacent (lex s) := by
  cases s with
  | nil => rfl
  | cons c r =>
    rw [lex_cons]
    rcases modeOf_cases c with ⟨hw, hm⟩ | ⟨hw, _⟩ | ⟨hw, _⟩ <;> simp only [lexM, hw, if_true, Bool.false_eq_true, if_false]
    rw [hm, mergeAdjacent_space _ _ (by simp [isSpaceTok, hw, lexM_ws_all r])]

/-- The reference has two states, outside and inside a quote; the lexer's `bare` and `ws` modes are the first of them
    by the two lemmas above. -/
private theorem pieces_ref (s : Str) :
    E (mergeGo (lex s)) (refGo none s) ∧ ∀ q, E (pieces (.quoted q) s) (refGo (some q) s) := by
  induction s with
  | nil => exact ⟨⟨rfl, rfl⟩, fun _ => ⟨rfl, rfl⟩⟩
  | cons c r ih =>
    constructor
    · rw [lex_cons]
      rcases modeOf_cases c with ⟨hw, hm⟩ | ⟨hw, hq, hm⟩ | ⟨hw, hq, hm⟩ <;> rw [hm]
      · have hsp : isSpaceTok (c :: (lexM .ws r).1) = true := by simp [isSpaceTok, hw, lexM_ws_all r]
        simp only [mergeGo, hsp, if_true, refGo, hw]
        exact ⟨rfl, (mergeAdjacent_ws r).trans (filter_ne_of_E ih.1)⟩
      · simp only [mergeGo, spaceTok_cons_false c _ hw, refGo, hw, hq, if_true, Bool.false_eq_true, if_false]
        exact (ih.2 c).cons c
      · simp only [mergeGo, spaceTok_cons_false c _ hw, refGo, hw, hq, Bool.false_eq_true, if_false]
        have := ih.1
        rw [← pieces_bare] at this
        exact this.cons c
    · intro q
      simp only [pieces, lexM, refGo]
      split
      · exact ih.1.cons c
      · exact (ih.2 q).cons c

/-- **lexer_merge_splits_at_unquoted_ws.** For EVERY line: the lexer never splits inside quotes and never keeps
    unquoted whitespace inside an argument — gluing the argument tokens that touch each other gives exactly the
    pieces of the line that lie between unquoted whitespace. (The lexer additionally cuts where a quoted string
    starts or ends in the middle of such a piece; that is F-C45c.) -/
theorem lexer_merge_splits_at_unquoted_ws (s : Str) : mergeAdjacent (lex s) = refSplit s :=
  filter_ne_of_E (pieces_ref s).1

/-- an argument token that nothing is glued to is a piece of its own -/
private theorem mergeAdjacent_arg (t : Str) (ts : List Str) (ht : isSpaceTok t = false) (hts : (mergeGo ts).1 = []) :
    mergeAdjacent (t :: ts) = t :: mergeAdjacent ts := by
  cases t with
  | nil => cases ht   -- the empty token counts as whitespace
  | cons c w => simp [mergeAdjacent, mergeGo, ht, hts]

private theorem merge_of_noAdjacent (toks : List Str) (h : noAdjacent toks = true) :
    mergeAdjacent toks = toks.filter (fun t => !isSpaceTok t) := by
  induction toks with
  | nil => rfl
  | cons t ts ih =>
    have hts : noAdjacent ts = true := by
      cases ts with
      | nil => rfl
      | cons b r => simp only [noAdjacent, Bool.and_eq_true] at h; exact h.2
    cases hsp : isSpaceTok t
    · -- after an argument token comes nothing or whitespace
      have hm : (mergeGo ts).1 = [] := by
        cases ts with
        | nil => rfl
        | cons b r =>
          simp only [noAdjacent, hsp, Bool.false_or, Bool.and_eq_true] at h
          simp [mergeGo, h.1]
      rw [mergeAdjacent_arg t ts hsp hm, ih hts]
      simp [hsp]
    · rw [mergeAdjacent_space t ts hsp, ih hts]
      simp [hsp]

/-- full statement (FALSE for the code as it is): the arguments are exactly the pieces between unquoted whitespace -/
def SplitsExactlyAtUnquotedWs : Prop := ∀ s : Str, argTokens s = refSplit s

/-- **lexer_splits_at_unquoted_ws (partial).** For every line in which no two argument tokens touch, the arguments
    of the command line are split exactly at unquoted whitespace. -/
theorem lexer_splits_at_unquoted_ws_partial (s : Str) (h : noAdjacent (lex s) = true) : argTokens s = refSplit s := by
  rw [← lexer_merge_splits_at_unquoted_ws, merge_of_noAdjacent (lex s) h]
  rfl

/-- F-C45c: `x foo"bar baz"` is lexed into `x`, `foo`, `"bar baz"` although only one unquoted blank separates pieces -/
theorem lexer_splits_at_unquoted_ws_counterexample : ¬ SplitsExactlyAtUnquotedWs := by
  intro h
  have := h [120, 32, 102, 111, 111, 34, 98, 97, 114, 32, 98, 97, 122, 34]
  revert this
  decide +kernel

example : noAdjacent (lex [120, 32, 34, 98, 32, 99, 34, 32, 39, 100]) = true ∧
    argTokens [120, 32, 34, 98, 32, 99, 34, 32, 39, 100] = [[120], [34, 98, 32, 99, 34], [39, 100]] := by decide +kernel

/-! ### the quoting rule alone -/

/-- `"` ↦ `\x22`, what `quote` does to a string holding both quote characters -/
def escDq (a : Str) : Str := a.flatMap fun c => if c == 34 then [92, 120, 50, 50] else [c]

/-- the text a `str` parameter has to interpret for `quote a` -/
def quotedText (a : Str) : Str := if a.contains 34 && a.contains 39 then escDq a else a

private theorem not_contains_all (a : Str) (q : Nat) (h : a.contains q = false) : a.all (fun c => c != q) = true := by
  simp only [List.all_eq_true, bne_iff_ne]
  intro c hc e
  subst e
  simp [hc] at h

private theorem escDq_no_dq (a : Str) : (escDq a).all (fun c => c != 34) = true := by
  simp only [escDq, List.all_flatMap, List.all_eq_true]
  intro c _
  split <;> simp_all

private theorem unquote_bare (t : Str) (h : t.all (fun c => !special c) = true) : unquote t = t := by
  match t with
  | [] => rfl
  | [_] => rfl
  | a :: b :: r =>
    simp only [List.all_cons, Bool.and_eq_true] at h
    simp [unquote, (not_special a h.1).1]

private theorem unquote_quoted (q : Nat) (body : Str) (hq : isQuote q = true) : unquote (q :: (body ++ [q])) = body := by
  cases body with
  | nil => simp [unquote, hq]
  | cons b r =>
    simp only [List.cons_append, unquote, hq, Bool.true_and]
    have h1 : (b :: (r ++ [q])).getLast? = some q := by
      rw [← List.cons_append, List.getLast?_append]; simp
    have h2 : (b :: (r ++ [q])).dropLast = b :: r := by
      rw [← List.cons_append, List.dropLast_concat]
    simp [h1, h2]

/-- the two shapes `quote` produces: the text itself if it is a bare word, else the quoted text in quotes it does not hold -/
private theorem quote_shape (a : Str) :
    (quote a = a ∧ a ≠ [] ∧ a.all (fun c => !special c) = true ∧ quotedText a = a) ∨
    ∃ q, isQuote q = true ∧ quote a = q :: (quotedText a ++ [q]) ∧ (quotedText a).all (fun c => c != q) = true := by
  unfold quotedText
  fun_cases quote a
  · rename_i h
    simp only [Bool.and_eq_true, Bool.not_eq_true', List.isEmpty_eq_false_iff] at h
    refine Or.inl ⟨rfl, h.1, h.2, if_neg ?_⟩
    -- a bare word holds no quote character
    intro hb
    simp only [Bool.and_eq_true, List.contains_iff_mem] at hb
    have := List.all_eq_true.mp h.2 34 hb.1
    revert this; decide
  · rename_i h
    rw [Bool.not_eq_true'] at h
    rw [h]
    exact Or.inr ⟨34, rfl, rfl, not_contains_all a 34 h⟩
  · rename_i h
    rw [Bool.not_eq_true'] at h
    rw [h, Bool.and_false]
    exact Or.inr ⟨39, rfl, rfl, not_contains_all a 39 h⟩
  · rename_i h34 h39
    rw [Bool.not_eq_true', Bool.not_eq_false] at h34 h39
    rw [h34, h39]
    exact Or.inr ⟨34, rfl, rfl, escDq_no_dq a⟩

private theorem unquote_quote_text (a : Str) : unquote (quote a) = quotedText a := by
  rcases quote_shape a with ⟨h, _, hall, ht⟩ | ⟨q, hq, h, _⟩
  · rw [h, ht]; exact unquote_bare a hall
  · rw [h]; exact unquote_quoted q _ hq

/-- **unquote_quote.** For EVERY string that does not hold both quote characters (whitespace of any kind,
    backslashes, one kind of quote, empty, unicode): `unquote (quote a) = a`. -/
theorem unquote_quote (a : Str) (h : ¬ (a.contains 34 = true ∧ a.contains 39 = true)) : unquote (quote a) = a := by
  rw [unquote_quote_text, quotedText, if_neg (by rw [Bool.and_eq_true]; exact h)]

/-- with both quote characters (the guard of F-C45a) the double quotes come back as the text `\x22` -/
theorem unquote_quote_both (a : Str) (h34 : a.contains 34 = true) (h39 : a.contains 39 = true) :
    unquote (quote a) = escDq a := by
  rw [unquote_quote_text, quotedText, h34, h39]; rfl

/-! ### the `str` conversion: the fuel of `strParse` is adequate, `none` always means a refused escape, never exhausted fuel -/

private theorem takeDots_len : ∀ (n : Nat) (r ds rest : Str), takeDots n r = some (ds, rest) → rest.length ≤ r.length := by
  intro n r
  fun_induction takeDots n r <;> intro ds rest h
  · cases h; exact Nat.le_refl _
  · cases h
  · cases h
  · rename_i ih
    obtain ⟨x, ht, hx⟩ := Option.map_eq_some_iff.mp h
    cases hx
    exact Nat.le_succ_of_le (ih x.1 x.2 ht)

private theorem spanNot_len (stop : Nat) (r : Str) : ∀ a b, spanNot stop r = (a, b) → b.length ≤ r.length := by
  fun_induction spanNot stop r <;> intro a b h <;> cases h
  · exact Nat.le_refl _
  · exact Nat.le_refl _
  · rename_i ih; exact Nat.le_succ_of_le (ih _ _ rfl)

private theorem escape_rest_le (db : UniDb) (r : Str) (v : Nat) (rest : Str) (h : escape db r = .ok v rest) :
    rest.length ≤ r.length := by
  revert h
  -- one case per path through `escape`; what is left over is a tail of `r`, of the `takeDots` rest or of the `spanNot` rest
  fun_cases escape db r <;> intro h <;> cases h
  all_goals first
    | (simp only [List.length_cons, List.length_nil]; omega)
    | (have := takeDots_len _ _ _ _ (by assumption); simp only [List.length_cons] at *; omega)
    | (rename_i hsp
       have := spanNot_len _ _ _ _ hsp
       simp only [List.length_cons] at *; omega)

private theorem strParseF_succ (db : UniDb) (f : Nat) : ∀ s : Str, s.length ≤ f → strParseF db (f + 1) s = strParseF db f s := by
  induction f with
  | zero => intro s h; cases s with | nil => rfl | cons _ _ => simp at h
  | succ f ih =>
    intro s h
    cases s with
    | nil => rfl
    | cons c r =>
      have hr : r.length ≤ f := by simpa using h
      simp only [strParseF]
      split
      · rw [ih r hr]
      · cases he : escape db r with
        | ok v rest => simp only; rw [ih rest (Nat.le_trans (escape_rest_le db r v rest he) hr)]
        | noMatch => simp only; rw [ih r hr]
        | bad => rfl

/-- **str_parse_fuel_adequate.** `strParse` (fuel = the length of the text) never fails for lack of fuel: more fuel gives
    the same answer, so `none` always means that `unicode-escape` refused an escape sequence. -/
theorem str_parse_fuel_adequate (db : UniDb) (s : Str) (f : Nat) (h : s.length ≤ f) :
    strParseF db f s = strParse db s := by
  induction h with
  | refl => rfl
  | step h ih => rw [strParseF_succ db _ s h, ih]

/-- `strParse` by its recursion, without the fuel -/
private theorem strParse_cons (db : UniDb) (c : Nat) (r : Str) :
    strParse db (c :: r) =
      if c != 92 then (strParse db r).map (c :: ·)
      else match escape db r with
        | .noMatch => (strParse db r).map (92 :: ·)
        | .bad => none
        | .ok v rest => (strParse db rest).map (v :: ·) := by
  simp only [strParse, List.length_cons, strParseF]
  cases he : escape db r with
  | ok v rest => simp only [str_parse_fuel_adequate db rest r.length (escape_rest_le db r v rest he), strParse]
  | _ => rfl

private theorem strParse_plain (db : UniDb) (s : Str) (h : s.contains 92 = false) : strParse db s = some s := by
  induction s with
  | nil => rfl
  | cons c r ih =>
    simp only [List.contains_cons, Bool.or_eq_false_iff, beq_eq_false_iff_ne] at h
    rw [strParse_cons, if_pos (by simpa using Ne.symm h.1), ih h.2]
    rfl

private theorem escDq_cons (c : Nat) (r : Str) :
    escDq (c :: r) = (if c == 34 then [92, 120, 50, 50] else [c]) ++ escDq r := rfl

private theorem strParse_escDq (db : UniDb) (a : Str) (h : a.contains 92 = false) : strParse db (escDq a) = some a := by
  induction a with
  | nil => rfl
  | cons c r ih =>
    simp only [List.contains_cons, Bool.or_eq_false_iff, beq_eq_false_iff_ne] at h
    rw [escDq_cons]
    split
    · -- `\x22` is read as the double quote
      rename_i hc
      have he : escape db (120 :: 50 :: 50 :: escDq r) = .ok 34 (escDq r) := rfl
      simp only [List.cons_append, List.nil_append, strParse_cons, he, ih h.2, eq_of_beq hc]
      rfl
    · rw [List.cons_append, List.nil_append, strParse_cons, if_pos (by simpa using Ne.symm h.1), ih h.2]
      rfl

/-! ### arguments arrive unchanged -/

/-- a command name as it is typed: non-empty, no quote characters, no whitespace -/
def bareWord (w : Str) : Prop := w ≠ [] ∧ w.all (fun c => !special c) = true

/-- the guard of the partial theorem: what the quoting rule can carry for this kind of parameter -/
def argOk : ArgTy → Str → Bool
  | .verbatim, a => !(a.contains 34 && a.contains 39)     -- not both quote characters (F-C45a)
  | .str, a => !a.contains 92                              -- no backslash (F-C45b)

/-- the two shapes `quote` produces -/
private def IsTok (t : Str) : Prop :=
  bareWord t ∨
  (∃ q body, isQuote q = true ∧ t = q :: (body ++ [q]) ∧ body.all (fun c => c != q) = true)

private theorem lexM_bare_run (w rest : Str) (hw : w.all (fun c => !special c) = true) (hr : ∀ c ∈ rest.head?, c = 32) :
    lexM .bare (w ++ rest) = (w, lex rest) := by
  induction w with
  | nil =>
    cases rest with
    | nil => rfl
    | cons c r => obtain rfl := hr c rfl; rfl
  | cons c w ih =>
    simp only [List.all_cons, Bool.and_eq_true] at hw
    simp only [List.cons_append, lexM, hw.1, if_true, ih hw.2]

private theorem lexM_quoted_run (q : Nat) (body rest : Str) (hb : body.all (fun c => c != q) = true) :
    lexM (.quoted q) (body ++ q :: rest) = (body ++ [q], lex rest) := by
  induction body with
  | nil => simp [lexM, lex]
  | cons c b ih =>
    simp only [List.all_cons, Bool.and_eq_true] at hb
    have hc : (c == q) = false := by simpa using hb.1
    simp only [List.cons_append, lexM, hc, Bool.false_eq_true, if_false, ih hb.2]

private theorem lex_tok (t rest : Str) (ht : IsTok t) (hr : ∀ c ∈ rest.head?, c = 32) :
    lex (t ++ rest) = t :: lex rest := by
  rcases ht with ⟨hne, hall⟩ | ⟨q, body, hq, rfl, hb⟩
  · cases t with
    | nil => exact absurd rfl hne
    | cons c w =>
      simp only [List.all_cons, Bool.and_eq_true] at hall
      have hm : modeOf c = .bare := by simp [modeOf, not_special c hall.1]
      rw [List.cons_append, lex_cons, hm, lexM_bare_run w rest hall.2 hr]
  · have hm : modeOf q = .quoted q := by simp [modeOf, hq]
    rw [List.cons_append, List.append_assoc, List.singleton_append, lex_cons, hm, lexM_quoted_run q body rest hb]

private theorem tok_head (t : Str) (ht : IsTok t) : ∃ c r, t = c :: r ∧ isWs c = false := by
  rcases ht with ⟨hne, hall⟩ | ⟨q, body, hq, rfl, _⟩
  · cases t with
    | nil => exact absurd rfl hne
    | cons c w =>
      simp only [List.all_cons, Bool.and_eq_true] at hall
      exact ⟨c, w, rfl, (not_special c hall.1).2⟩
  · exact ⟨q, body ++ [q], rfl, quote_not_ws q hq⟩

private theorem lex_space (t rest : Str) (ht : IsTok t) : lex (32 :: (t ++ rest)) = [32] :: lex (t ++ rest) := by
  obtain ⟨c, r, rfl, hc⟩ := tok_head t ht
  rw [lex_cons, show modeOf 32 = .ws from rfl]
  simp [lexM, hc, lex]

private theorem tok_not_space (t : Str) (ht : IsTok t) : isSpaceTok t = false := by
  obtain ⟨c, r, rfl, hc⟩ := tok_head t ht
  exact spaceTok_cons_false c r hc

private theorem quote_isTok (a : Str) : IsTok (quote a) := by
  rcases quote_shape a with ⟨h, hne, hall, _⟩ | ⟨q, hq, h, hb⟩ <;> rw [h]
  · exact Or.inl ⟨hne, hall⟩
  · exact Or.inr ⟨q, _, hq, rfl, hb⟩

private theorem rest_shape (args : List Str) : ∀ c ∈ (args.flatMap (fun a => 32 :: quote a)).head?, c = 32 := by
  cases args <;> simp

private theorem lex_args (args : List Str) :
    lex (args.flatMap (fun a => 32 :: quote a)) = args.flatMap (fun a => [[32], quote a]) := by
  induction args with
  | nil => simp [lex, lexM]
  | cons a r ih =>
    simp only [List.flatMap_cons, List.cons_append]
    rw [lex_space _ _ (quote_isTok a), lex_tok _ _ (quote_isTok a) (rest_shape r), ih]
    simp

private theorem lex_cmdline (cmd : Str) (args : List Str) (hc : bareWord cmd) :
    lex (cmdline cmd args) = cmd :: args.flatMap (fun a => [[32], quote a]) := by
  unfold cmdline
  rw [lex_tok cmd _ (Or.inl hc) (rest_shape args), lex_args]

private theorem argTokens_cmdline (cmd : Str) (args : List Str) (hc : bareWord cmd) :
    argTokens (cmdline cmd args) = cmd :: args.map quote := by
  unfold argTokens
  rw [lex_cmdline cmd args hc]
  have h32 : isSpaceTok [32] = true := by decide +kernel
  simp [List.filter_flatMap, h32, tok_not_space cmd (Or.inl hc), fun a => tok_not_space _ (quote_isTok a),
    ← List.map_eq_flatMap]

/-- one argument: what the command receives for `quote a` is `a` -/
private theorem deliver_ok (db : UniDb) (ty : ArgTy) (a : Str) (h : argOk ty a = true) :
    parseArg db ty (unquote (quote a)) = some a := by
  rw [unquote_quote_text]
  cases ty with
  | verbatim =>
    have : (a.contains 34 && a.contains 39) = false := by simpa only [argOk, Bool.not_eq_true'] using h
    simp only [quotedText, this]
    rfl
  | str =>
    have hb : a.contains 92 = false := by simpa [argOk] using h
    unfold quotedText
    split
    · exact strParse_escDq db a hb
    · exact strParse_plain db a hb

/-- **str_unescape_unquote_quote.** For EVERY backslash-free string (both quote characters allowed) the `str`
    conversion of the unquoted token gives the string back, with any Unicode name database. -/
theorem str_unescape_unquote_quote (db : UniDb) (a : Str) (h : a.contains 92 = false) :
    strParse db (unquote (quote a)) = some a :=
  deliver_ok db .str a (by simp only [argOk, h]; rfl)

/-- `collect` and `collectT` are one function at two element types: all present, in order -/
private theorem collect_spec {α : Type} (f : List (Option α) → Option (List α)) (h0 : f [] = some [])
    (hn : ∀ r, f (none :: r) = none) (hs : ∀ a r, f (some a :: r) = (f r).map (a :: ·))
    (l : List (Option α)) (vs : List α) : f l = some vs ↔ l = vs.map some := by
  induction l generalizing vs with
  | nil => cases vs <;> simp [h0]
  | cons a r ih =>
    cases a with
    | none => cases vs <;> simp [hn]
    | some x =>
      cases vs with
      | nil => simp [hs]
      | cons v vs => simpa [hs, ih] using and_comm

private theorem collect_eq_some (l : List (Option Str)) (vs : List Str) : collect l = some vs ↔ l = vs.map some :=
  collect_spec collect rfl (fun _ => rfl) (fun _ _ => rfl) l vs

/-- arguments that each come back from their own token arrive as they are -/
private theorem execute_delivers (db : UniDb) (cmds : Str → Option ArgTy) (cmd : Str) (ty : ArgTy) (args : List Str)
    (hc : bareWord cmd) (hcmd : cmds cmd = some ty) (h : ∀ a ∈ args, parseArg db ty (unquote (quote a)) = some a) :
    execute db cmds (cmdline cmd args) = .call cmd args := by
  unfold execute
  rw [argTokens_cmdline cmd args hc]
  simp only [List.map_cons, unquote_bare cmd hc.2, hcmd, List.map_map]
  have : collect (args.map (parseArg db ty ∘ unquote ∘ quote)) = some args :=
    (collect_eq_some _ _).mpr (List.map_congr_left h)
  rw [this]

/-- full statement (FALSE for the code as it is): every string, quoted and placed in a command line, arrives unchanged -/
def ArgsUnchanged : Prop :=
  ∀ (db : UniDb) (cmds : Str → Option ArgTy) (cmd : Str) (ty : ArgTy) (args : List Str),
    bareWord cmd → cmds cmd = some ty → execute db cmds (cmdline cmd args) = .call cmd args

/-- **arg_unchanged (partial).** For every name database, every registered command `cmd` with parameters of kind
    `ty`, and ANY number of argument strings (whitespace of every kind, quotes, unicode, empty strings) that satisfy
    the guard — verbatim parameters: not both quote characters; `str` parameters: no backslash — the command line
    `cmd quote(a₁) … quote(aₙ)` makes `execute` call `cmd` with exactly `a₁ … aₙ`. -/
theorem arg_unchanged_partial (db : UniDb) (cmds : Str → Option ArgTy) (cmd : Str) (ty : ArgTy) (args : List Str)
    (hc : bareWord cmd) (hcmd : cmds cmd = some ty) (hg : ∀ a ∈ args, argOk ty a = true) :
    execute db cmds (cmdline cmd args) = .call cmd args :=
  execute_delivers db cmds cmd ty args hc hcmd (fun a ha => deliver_ok db ty a (hg a ha))

private def noDb : UniDb := ⟨fun _ => none⟩

/-- F-C45b: the `str` argument `C:\new` arrives as `C:` + LF + `ew` -/
theorem arg_unchanged_counterexample_backslash : ¬ ArgsUnchanged := by
  intro h
  have := h noDb (fun _ => some .str) [116] .str [[67, 58, 92, 110, 101, 119]] ⟨by decide, by decide⟩ rfl
  revert this
  decide +kernel

/-- F-C45a: a verbatim argument holding both quote characters (`'"`) arrives as `'\x22` -/
theorem arg_unchanged_counterexample_both_quotes :
    ¬ (∀ (db : UniDb) (cmds : Str → Option ArgTy) (cmd : Str) (args : List Str),
        bareWord cmd → cmds cmd = some .verbatim → execute db cmds (cmdline cmd args) = .call cmd args) := by
  intro h
  have := h noDb (fun _ => some .verbatim) [116] [[39, 34]] ⟨by decide, by decide⟩ rfl
  revert this
  decide +kernel

/-- the guards are satisfiable by non-trivial arguments, and `str` with both quotes does go through -/
example : execute noDb (fun _ => some .str) (cmdline [116] [[97, 32, 39, 34, 9], [], [160]]) =
    .call [116] [[97, 32, 39, 34, 9], [], [160]] :=
  arg_unchanged_partial _ _ _ _ _ ⟨by decide, by decide⟩ rfl (by decide)

/-! ### the exact guard for `str` parameters -/

/-- exact guard: verbatim — not both quote characters; `str` — the escape-by-escape reading of the quoted text is `a`
    (`\q`, a trailing `\`, `\x4` pass; `\n`, `\x41`, `\N{…}` do not) -/
def argOkX (db : UniDb) : ArgTy → Str → Bool
  | .verbatim, a => !(a.contains 34 && a.contains 39)
  | .str, a => strParse db (quotedText a) == some a

/-- **deliver_iff.** For every string and both kinds of parameter: the command receives `a` for `quote a` EXACTLY when
    the guard holds — the guard excludes the defect classes F-C45a / F-C45b and nothing else. -/
theorem deliver_iff (db : UniDb) (ty : ArgTy) (a : Str) :
    parseArg db ty (unquote (quote a)) = some a ↔ argOkX db ty a = true := by
  rw [unquote_quote_text]
  cases ty with
  | str => simp only [parseArg, argOkX, beq_iff_eq]
  | verbatim =>
    simp only [parseArg, argOkX, Option.some.injEq, quotedText]
    cases hb : (a.contains 34 && a.contains 39) with
    | true =>
      simp only [if_true, Bool.not_true, Bool.false_eq_true, iff_false]
      intro e
      -- `escDq a` holds no double quote, `a` does
      have := escDq_no_dq a
      rw [e] at this
      simp only [Bool.and_eq_true, List.contains_iff_mem] at hb
      have := List.all_eq_true.mp this 34 hb.1
      simp at this
    | false => simp

/-- the guard of `arg_unchanged_partial` implies the exact one (it is strictly narrower: it refuses `\q`) -/
theorem argOk_implies_argOkX (db : UniDb) (ty : ArgTy) (a : Str) (h : argOk ty a = true) : argOkX db ty a = true :=
  (deliver_iff db ty a).mp (deliver_ok db ty a h)

/-- **arg_unchanged_exact (partial).** `arg_unchanged_partial` under the exact guard. -/
theorem arg_unchanged_exact_partial (db : UniDb) (cmds : Str → Option ArgTy) (cmd : Str) (ty : ArgTy) (args : List Str)
    (hc : bareWord cmd) (hcmd : cmds cmd = some ty) (hg : ∀ a ∈ args, argOkX db ty a = true) :
    execute db cmds (cmdline cmd args) = .call cmd args :=
  execute_delivers db cmds cmd ty args hc hcmd (fun a ha => (deliver_iff db ty a).mpr (hg a ha))

/-- **arg_unchanged_exact_iff.** For ONE argument the guard is exact: the command is called with `a` if and only if the
    guard holds. -/
theorem arg_unchanged_exact_iff (db : UniDb) (cmds : Str → Option ArgTy) (cmd : Str) (ty : ArgTy) (a : Str)
    (hc : bareWord cmd) (hcmd : cmds cmd = some ty) :
    execute db cmds (cmdline cmd [a]) = .call cmd [a] ↔ argOkX db ty a = true := by
  refine ⟨fun h => ?_, fun h => arg_unchanged_exact_partial db cmds cmd ty [a] hc hcmd (by simpa using h)⟩
  unfold execute at h
  rw [argTokens_cmdline cmd [a] hc] at h
  simp only [List.map_cons, List.map_nil, unquote_bare cmd hc.2, hcmd] at h
  apply (deliver_iff db ty a).mp
  cases hp : parseArg db ty (unquote (quote a)) with
  | none => simp [hp, collect] at h
  | some b => simpa [hp, collect] using h

-- `\q`, a trailing backslash and `\x4` are inside the exact guard (and outside `argOk`); `\n` is outside both
example : argOkX noDb .str [92, 113] = true ∧ argOk .str [92, 113] = false ∧ argOkX noDb .str [116, 92] = true ∧
    argOkX noDb .str [92, 120, 52] = true ∧ argOkX noDb .str [92, 110] = false ∧
    argOkX noDb .str [39, 34, 233] = true ∧ argOkX noDb .verbatim [39, 34] = false := by decide +kernel

/-! ### a console-built line lies in the good class of the splitting theorem -/

private theorem noAdjacent_alternating (args : List Str) : ∀ x : Str,
    noAdjacent (x :: args.flatMap (fun a => [[32], quote a])) = true := by
  induction args with
  | nil => intro x; rfl
  | cons a r ih =>
    intro x
    have h32 : isSpaceTok [32] = true := by decide +kernel
    simp only [List.flatMap_cons, List.cons_append, List.nil_append, noAdjacent, h32, Bool.or_true, Bool.true_or,
      Bool.true_and]
    exact ih (quote a)

/-- **cmdline_splits_at_unquoted_ws.** The two halves of the statement meet: for every command word and ANY arguments,
    the line the console builds has no touching argument tokens, so its arguments are exactly the pieces between
    unquoted whitespace — the command and the quoted arguments. -/
theorem cmdline_splits_at_unquoted_ws (cmd : Str) (args : List Str) (hc : bareWord cmd) :
    noAdjacent (lex (cmdline cmd args)) = true ∧
    refSplit (cmdline cmd args) = cmd :: args.map quote := by
  have hn : noAdjacent (lex (cmdline cmd args)) = true := by
    rw [lex_cmdline cmd args hc]; exact noAdjacent_alternating args cmd
  exact ⟨hn, by rw [← lexer_splits_at_unquoted_ws_partial _ hn, argTokens_cmdline cmd args hc]⟩

/-! ### every command signature shape -/

/-- `bind`: exactly one type per argument, the positional ones first, then the type of `*rest` -/
theorem bindTys_spec (sig : Sig) (n : Nat) (tys : List ArgTy) (h : bindTys sig n = some tys) :
    tys.length = n ∧ ∀ i, i < n → tys[i]? = tyAt sig i := by
  revert h
  fun_cases bindTys sig n <;> intro h <;> cases h
  · rename_i he
    have he : n = sig.params.length := by simpa using he
    refine ⟨he.symm, fun i hi => ?_⟩
    simp [tyAt, List.getElem?_eq_getElem (he ▸ hi)]
  · rename_i hge t hv
    refine ⟨by simp; omega, fun i hi => ?_⟩
    simp only [tyAt, hv, List.getElem?_append, List.getElem?_replicate]
    split
    · rename_i hp; simp [List.getElem?_eq_getElem hp]
    · rename_i hp; simp [List.getElem?_eq_none (Nat.le_of_not_lt hp)]; omega

/-- **execute_delivers_typed_tokens.** For EVERY line, name database, command table and signature shape (fixed
    parameters of mixed types, `*rest`, none): if `execute` runs a command, then the line has a first argument token
    whose unquoted text is the command name, the signature binds as many types as there are further argument tokens
    (the positional types, then the `*rest` type), and the values handed to the command are — position by position —
    exactly the typed conversions of the unquoted tokens. Nothing else reaches the command. -/
theorem execute_delivers_typed_tokens (db : UniDb) (cmds : Str → Option Sig) (line name : Str) (vals : List Str)
    (h : executeSig db cmds line = .call name vals) :
    ∃ tok toks sig tys, argTokens line = tok :: toks ∧ name = unquote tok ∧ cmds name = some sig ∧
      bindTys sig toks.length = some tys ∧ vals.length = toks.length ∧
      List.zipWith (parseArg db) tys (toks.map unquote) = vals.map some ∧
      ∀ i, i < toks.length → tys[i]? = tyAt sig i := by
  revert h
  fun_cases executeSig db cmds line <;> intro h <;> cases h
  rename_i args sig tys hb hl hc hcol
  obtain ⟨tok, toks, ht, rfl, rfl⟩ := List.map_eq_cons_iff.mp hl
  rw [List.length_map] at hb
  have hz := (collect_eq_some _ _).mp hcol
  have hspec := bindTys_spec sig toks.length tys hb
  refine ⟨tok, toks, sig, tys, ht, rfl, hc, hb, ?_, hz, hspec.2⟩
  simpa [hspec.1] using (congrArg List.length hz).symm

/-- the varargs-only commands of the theorems above are one signature shape among these -/
theorem executeSig_varargs (db : UniDb) (cmds : Str → Option ArgTy) (line : Str) :
    executeSig db (fun n => (cmds n).map fun t => ⟨[], some t⟩) line = execute db cmds line := by
  have hz : ∀ (ty : ArgTy) (args : List Str),
      List.zipWith (parseArg db) (List.replicate args.length ty) args = args.map (parseArg db ty) := by
    intro ty args
    induction args with
    | nil => rfl
    | cons a r ih => simp [List.replicate_succ, ih]
  -- one case per outcome of `execute`; the signature `*rest : ty` binds `ty` for every argument
  fun_cases execute db cmds line <;> simp [executeSig, bindTys, *]

/-- every argument satisfies the guard of the parameter type it meets -/
def argsOk : List ArgTy → List Str → Bool
  | [], [] => true
  | t :: ts, a :: as => argOk t a && argsOk ts as
  | _, _ => false

private theorem collect_zipWith (db : UniDb) (tys : List ArgTy) (args : List Str) (h : argsOk tys args = true) :
    collect (List.zipWith (parseArg db) tys (args.map (unquote ∘ quote))) = some args := by
  fun_induction argsOk tys args
  · rfl
  · rename_i t ts a r ih
    simp only [Bool.and_eq_true] at h
    simp only [List.map_cons, List.zipWith_cons_cons, Function.comp, deliver_ok db t a h.1, collect, ih h.2]
    rfl
  · cases h

/-- **arg_unchanged_sig (partial).** `arg_unchanged_partial` for every signature shape: if the command binds the
    arguments with types `tys` and every argument satisfies the guard of ITS parameter's type (verbatim: not both
    quote characters; `str`: no backslash), the command is called with exactly the given arguments. -/
theorem arg_unchanged_sig_partial (db : UniDb) (cmds : Str → Option Sig) (cmd : Str) (sig : Sig) (tys : List ArgTy)
    (args : List Str) (hc : bareWord cmd) (hcmd : cmds cmd = some sig) (hb : bindTys sig args.length = some tys)
    (hg : argsOk tys args = true) :
    executeSig db cmds (cmdline cmd args) = .call cmd args := by
  unfold executeSig
  rw [argTokens_cmdline cmd args hc]
  simp only [List.map_cons, unquote_bare cmd hc.2, hcmd, List.map_map, List.length_map, hb]
  rw [collect_zipWith db tys args hg]

/-- a call that does not bind is refused before anything is converted, whatever the arguments are -/
theorem arity_mismatch_runs_nothing (db : UniDb) (cmds : Str → Option Sig) (cmd : Str) (sig : Sig) (args : List Str)
    (hc : bareWord cmd) (hcmd : cmds cmd = some sig) (hb : bindTys sig args.length = none) :
    executeSig db cmds (cmdline cmd args) = .arity := by
  unfold executeSig
  rw [argTokens_cmdline cmd args hc]
  simp only [List.map_cons, unquote_bare cmd hc.2, hcmd, List.map_map, List.length_map, hb]

example : executeSig noDb (fun _ => some ⟨[.str, .verbatim], none⟩) (cmdline [116] [[39, 34, 32], [92, 110]]) =
    .call [116] [[39, 34, 32], [92, 110]] :=
  arg_unchanged_sig_partial _ _ _ ⟨[.str, .verbatim], none⟩ [.str, .verbatim] _ ⟨by decide, by decide⟩ rfl rfl
    (by decide)
example : executeSig noDb (fun _ => some ⟨[.str], none⟩) (cmdline [116] [[97], [98]]) = .arity := by decide +kernel

/-- **execute_is_a_function_of_the_parse.** `execute(line)` is `executeToks` of the lexer's token list: the command
    receives what the parse of THIS line says, whatever was parsed, completed or executed before (the model has no
    state; the parse cache of the code must behave like none). -/
theorem execute_is_a_function_of_the_parse (db : UniDb) (cmds : Str → Option Sig) (line : Str) :
    executeSig db cmds line = executeToks db cmds (lex line) := rfl

/-! ### typed values: int, bool, path beside str and verbatim -/

def liftTy : ArgTy → ArgTyT
  | .str => .str
  | .verbatim => .verbatim

def liftSig (sig : Sig) : SigT := ⟨sig.params.map liftTy, sig.varargs.map liftTy⟩

def liftExec : Exec → ExecT
  | .arity => .arity
  | .noCommand => .noCommand
  | .unknown => .unknown
  | .badArg => .badArg
  | .call n as => .call n (as.map TVal.s)

private theorem parseArgT_lift (db : UniDb) (env : Env) (t : ArgTy) (a : Str) :
    parseArgT db env (liftTy t) a = (parseArg db t a).map TVal.s := by
  cases t <;> rfl

private theorem collectT_map (l : List (Option Str)) :
    collectT (l.map (Option.map TVal.s)) = (collect l).map (List.map TVal.s) := by
  induction l with
  | nil => rfl
  | cons a r ih =>
    cases a with
    | none => rfl
    | some v =>
      simp only [List.map_cons, Option.map_some, collectT, collect, ih]
      cases collect r <;> rfl

private theorem collectT_lift (db : UniDb) (env : Env) (tys : List ArgTy) (args : List Str) :
    collectT (List.zipWith (parseArgT db env) (tys.map liftTy) args) =
      (collect (List.zipWith (parseArg db) tys args)).map (List.map TVal.s) := by
  rw [← collectT_map, List.zipWith_map_left, List.map_zipWith]
  simp only [parseArgT_lift]

private theorem bindTysT_lift (sig : Sig) (n : Nat) :
    bindTysT (liftSig sig) n = (bindTys sig n).map (List.map liftTy) := by
  fun_cases bindTys sig n <;> simp [bindTysT, liftSig, *]

/-- **typed_execute_extends_execute.** The execution model with all convertible parameter types coincides with the
    one of the theorems above on every command table that uses `str` / verbatim parameters only: every theorem about
    `executeSig` is one about `executeT` (from there to what the driver runs: `driver_executes_executeSig`). -/
theorem typed_execute_extends_execute (db : UniDb) (env : Env) (cmds : Str → Option Sig) (line : Str) :
    executeT db env (fun n => (cmds n).map liftSig) line = liftExec (executeSig db cmds line) := by
  -- one case per outcome of `executeSig`; `executeT` goes the same way by the two lift lemmas
  fun_cases executeSig db cmds line <;> simp [executeT, liftExec, bindTysT_lift, collectT_lift, *]

private theorem collectT_eq_some (l : List (Option TVal)) (vs : List TVal) : collectT l = some vs ↔ l = vs.map some :=
  collect_spec collectT rfl (fun _ => rfl) (fun _ _ => rfl) l vs

private theorem bindTysT_length (sig : SigT) (n : Nat) (tys : List ArgTyT) (h : bindTysT sig n = some tys) :
    tys.length = n := by
  revert h
  fun_cases bindTysT sig n <;> intro h <;> cases h
  · rename_i he; simpa using (eq_of_beq he).symm
  · simp; omega

/-- **execute_delivers_typed_values.** For EVERY line, environment, command table and signature over ALL convertible
    parameter types (every constructor of `ArgTyT`): if a command is run, the values handed to it are — position by
    position — exactly the typed conversions (`parseArgT`: `int()`, true/false, `expanduser`, escape interpretation,
    identity, comma splitting, marker, choice) of the unquoted argument tokens of the line, one per token. -/
theorem execute_delivers_typed_values (db : UniDb) (env : Env) (cmds : Str → Option SigT) (line name : Str)
    (vals : List TVal) (h : executeT db env cmds line = .call name vals) :
    ∃ tok toks sig tys, argTokens line = tok :: toks ∧ name = unquote tok ∧ cmds name = some sig ∧
      bindTysT sig toks.length = some tys ∧ vals.length = toks.length ∧ tys.length = toks.length ∧
      List.zipWith (parseArgT db env) tys (toks.map unquote) = vals.map some := by
  revert h
  fun_cases executeT db env cmds line <;> intro h <;> cases h
  rename_i args sig tys hb hl hc hcol
  obtain ⟨tok, toks, ht, rfl, rfl⟩ := List.map_eq_cons_iff.mp hl
  rw [List.length_map] at hb
  have hz := (collectT_eq_some _ _).mp hcol
  have hlen := bindTysT_length sig toks.length tys hb
  refine ⟨tok, toks, sig, tys, ht, rfl, hc, hb, ?_, hlen, hz⟩
  simpa [hlen] using (congrArg List.length hz).symm

/-- a bool parameter receives True for `true`, False for `false`, and the command is refused for anything else -/
theorem bool_arg_exact (db : UniDb) (env : Env) (s : Str) :
    parseArgT db env .bool s =
      (if s = strTrueC then some (.b true) else if s = strFalseC then some (.b false) else none) := rfl

/-- an int parameter receives Python's `int()` of the text (the transcription shared with the option parser) -/
theorem int_arg_is_python_int (db : UniDb) (env : Env) (s : Str) :
    parseArgT db env .int s = (MitmVerif.C44.pyInt s).map TVal.i := rfl

/-- a path parameter receives every text that does not start with `~` unchanged -/
theorem path_arg_unchanged_without_tilde (db : UniDb) (env : Env) (s : Str) (h : s.head? ≠ some 126) :
    parseArgT db env .path s = some (.s s) := by
  simp only [parseArgT, expandUser]
  split
  · exact absurd rfl h
  · rfl

/-- `~` and `~/rest` are replaced by `$HOME` without its trailing slashes -/
theorem path_arg_home (db : UniDb) (env : Env) (h : Str) (rest : Str) (hh : env.home = some h)
    (hne : rstripSlash h ≠ []) :
    parseArgT db env .path (126 :: 47 :: rest) = some (.s (rstripSlash h ++ 47 :: rest)) := by
  simp [parseArgT, expandUser, spanNot, hh]

/-- **path_arg_roundtrip.** A Path-typed parameter receives `a` for `quote a` whenever `a` neither starts with `~`
    nor holds both quote characters. -/
theorem path_arg_roundtrip (db : UniDb) (env : Env) (a : Str) (h1 : a.head? ≠ some 126)
    (h2 : ¬ (a.contains 34 = true ∧ a.contains 39 = true)) :
    parseArgT db env .path (unquote (quote a)) = some (.s a) := by
  rw [unquote_quote a h2]; exact path_arg_unchanged_without_tilde db env a h1

example : parseArgT noDb ⟨some [47, 104, 47], fun _ => none⟩ .path [126, 47, 120] = some (.s [47, 104, 47, 120]) := by decide +kernel
example : parseArgT noDb ⟨none, fun n => if n = [114] then some [47, 114] else none⟩ .path [126, 114, 47, 97] = some (.s [47, 114, 47, 97]) ∧
    parseArgT noDb ⟨none, fun _ => none⟩ .path [126, 120] = some (.s [126, 120]) ∧
    parseArgT noDb ⟨none, fun _ => none⟩ .path [126, 0] = none := by decide +kernel
example : executeT noDb ⟨none, fun _ => none⟩ (fun _ => some ⟨[.int, .bool, .path], none⟩)
    [116, 32, 34, 32, 49, 95, 48, 34, 32, 116, 114, 117, 101, 32, 120] = .call [116] [.i 10, .b true, .s [120]] := by decide +kernel

private theorem spanNot_eq_spanNotSlash (r : Str) : spanNot 47 r = MitmVerif.C44.spanNotSlash r := by
  induction r with
  | nil => rfl
  | cons c t ih => simp only [spanNot, MitmVerif.C44.spanNotSlash, ih]

/-- the command-argument `expanduser` and the one used for config-file paths (C44) are the same transcription -/
theorem expandUser_agrees_with_optmanager (env : Env) (p : Str) :
    expandUser env p = MitmVerif.C44.expandUserP env.home env.pwHome p := by
  unfold expandUser MitmVerif.C44.expandUserP
  split
  · simp only [spanNot_eq_spanNotSlash]; rfl
  · rename_i h
    split
    · exact absurd rfl (h _)
    · rfl

/-! ### the remaining manager-free conversions and parameter defaults -/

/-- a `Sequence[str]` parameter receives the comma-separated pieces, each stripped of surrounding whitespace -/
theorem str_seq_arg (db : UniDb) (env : Env) (s : Str) :
    parseArgT db env .strSeq s = some (.l ((splitComma s).map pyStrip)) := rfl

/-- a cut specification receives the comma-separated pieces as they are -/
theorem cut_spec_arg (db : UniDb) (env : Env) (s : Str) :
    parseArgT db env .cutSpec s = some (.l (splitComma s)) := rfl

/-- a marker: `true` ↦ `:default:`, `false` ↦ the empty marker, an emoji name ↦ itself, anything else is refused -/
theorem marker_arg_exact (db : UniDb) (env : Env) (s : Str) :
    parseArgT db env .marker s =
      (if s = strTrueC then some (.s markerDefault) else if s = strFalseC then some (.s [])
       else if MitmVerif.Gen.C45.emojiNames.contains s then some (.s s) else none) := rfl

/-- a Choice parameter receives the text unchanged exactly when it is one of the options its command offers -/
theorem choice_arg_exact (db : UniDb) (env : Env) (opts : List Str) (s : Str) :
    parseArgT db env (.choice opts) s = (if opts.contains s then some (.s s) else none) := rfl

private theorem splitComma_eq (s : Str) : splitComma s = splitSep 44 s := by
  induction s with
  | nil => rfl
  | cons c r ih =>
    rw [splitComma, ih, splitSep]
    simp only [beq_iff_eq]
    cases splitSep 44 r <;> rfl

/-- splitting loses nothing: the pieces joined by commas are the text -/
theorem split_comma_join (s : Str) : ((splitComma s).intersperse [44]).flatten = s := by
  rw [splitComma_eq, flatten_intersperse, joinBy_splitSep]

def dropDefaults (sig : SigD) : SigT := ⟨sig.params, sig.varargs⟩

/-- **execute_without_defaults.** For command tables without default values the execution model with defaults is
    the typed model of the theorems above. -/
theorem execute_without_defaults (db : UniDb) (env : Env) (cmds : Str → Option SigT) (line : Str) :
    executeD db env (fun n => (cmds n).map fun s => ⟨s.params, [], s.varargs⟩) line = executeT db env cmds line := by
  have hb : ∀ (sig : SigT) (n : Nat),
      bindD ⟨sig.params, [], sig.varargs⟩ n = (bindTysT sig n).map fun t => (t, []) := by
    intro sig n
    -- what is left are the calls with exactly as many arguments as parameters, where `bindD` takes its first branch
    fun_cases bindTysT sig n <;> simp [bindD, *]
    · rename_i he; simp [eq_of_beq he]
    · rename_i he; simp at he; omega
    · intro hle
      obtain rfl : n = sig.params.length := by omega
      simp
  -- one case per outcome of `executeT`; `executeD` goes the same way, with no default to append
  fun_cases executeT db env cmds line <;> simp [executeD, *]

/-- **defaults_fill_exactly_the_missing.** When fewer arguments are given than there are positional parameters, the
    given ones are converted with the first types and exactly the LAST missing-many default values are appended:
    the command is always called with one value per positional parameter. -/
theorem defaults_fill_exactly_the_missing (sig : SigD) (n : Nat) (tys : List ArgTyT) (dflts : List TVal)
    (hd : sig.defaults.length ≤ sig.params.length) (hn : n ≤ sig.params.length) (h : bindD sig n = some (tys, dflts)) :
    tys = sig.params.take n ∧ dflts = sig.defaults.drop (sig.defaults.length - (sig.params.length - n)) ∧
    tys.length + dflts.length = sig.params.length := by
  revert h
  fun_cases bindD sig n <;> intro h <;> cases h
  · refine ⟨rfl, rfl, ?_⟩
    simp only [List.length_take, List.length_drop]
    omega
  · omega

/-- **execute_with_defaults_delivers.** For every line, environment and signature with default values: what the
    command receives is the typed conversions of the unquoted argument tokens, one per token and in order, followed by
    the default values `bind` supplies for the parameters no token was given for — and nothing else. -/
theorem execute_with_defaults_delivers (db : UniDb) (env : Env) (cmds : Str → Option SigD) (line name : Str)
    (vals : List TVal) (h : executeD db env cmds line = .call name vals) :
    ∃ tok toks sig tys dflts conv, argTokens line = tok :: toks ∧ name = unquote tok ∧ cmds name = some sig ∧
      bindD sig toks.length = some (tys, dflts) ∧ vals = conv ++ dflts ∧
      List.zipWith (parseArgT db env) tys (toks.map unquote) = conv.map some := by
  revert h
  fun_cases executeD db env cmds line <;> intro h <;> cases h
  rename_i args sig tys dflts hb as hcol hl hc
  obtain ⟨tok, toks, ht, rfl, rfl⟩ := List.map_eq_cons_iff.mp hl
  rw [List.length_map] at hb
  exact ⟨tok, toks, sig, tys, dflts, as, ht, rfl, hc, hb, rfl, (collectT_eq_some _ _).mp hcol⟩

example : executeD noDb ⟨none, fun _ => none⟩ (fun _ => some ⟨[.str, .str, .int], [.s [100], .i 7], none⟩) [116, 32, 120] =
    .call [116] [.s [120], .s [100], .i 7] := by decide +kernel
example : executeD noDb ⟨none, fun _ => none⟩ (fun _ => some ⟨[.str, .str, .int], [.s [100], .i 7], none⟩) [116] = .arity := by decide +kernel
example : parseArgT noDb ⟨none, fun _ => none⟩ .strSeq [32, 97, 32, 44, 160, 98, 9] = some (.l [[97], [98]]) := by decide +kernel
example : parseArgT noDb ⟨none, fun _ => none⟩ (.choice [[97], [98, 32, 99]]) [98, 32, 99] = some (.s [98, 32, 99]) ∧
    parseArgT noDb ⟨none, fun _ => none⟩ (.choice [[97]]) [65] = none := by decide +kernel

/-! ### the theorems above reach the function the driver executes on ITS command table -/

/-- the command name a line looks up: the unquoted first argument token -/
def lookedUp (line : Str) : Option Str := ((argTokens line).map unquote).head?

/-- execution consults the command table at ONE name only -/
theorem executeD_depends_on_looked_up_name (db : UniDb) (env : Env) (c1 c2 : Str → Option SigD) (line : Str)
    (h : ∀ n, lookedUp line = some n → c1 n = c2 n) : executeD db env c1 line = executeD db env c2 line := by
  unfold executeD
  cases hl : (argTokens line).map unquote with
  | nil => rfl
  | cons name args =>
    have := h name (by simp [lookedUp, hl])
    simp only [this]

/-- a str / verbatim signature without defaults, in the driver's vocabulary -/
def plainOf (s : Sig) : SigD := ⟨s.params.map liftTy, [], s.varargs.map liftTy⟩

/-- **executeD_on_plain_entry.** Pointwise bridge: whenever the entry the line looks up in a `SigD` table is the plain
    image of the entry in a `Sig` table (str / verbatim parameters, no defaults) — whatever the tables contain elsewhere —
    `executeD` on the one is `executeSig` on the other. -/
theorem executeD_on_plain_entry (db : UniDb) (env : Env) (cD : Str → Option SigD) (cS : Str → Option Sig) (line : Str)
    (h : ∀ n, lookedUp line = some n → cD n = (cS n).map plainOf) :
    executeD db env cD line = liftExec (executeSig db cS line) := by
  rw [executeD_depends_on_looked_up_name db env cD (fun n => ((cS n).map liftSig).map fun s => ⟨s.params, [], s.varargs⟩) line
    (by intro n hn; rw [h n hn]; cases cS n <;> rfl)]
  rw [execute_without_defaults db env (fun n => (cS n).map liftSig) line]
  exact typed_execute_extends_execute db env cS line

/-- one step down two parallel `if` chains: the same test, entries that correspond, and the claim for the two tails -/
private theorem plain_step {c : Prop} [Decidable c] {x : SigD} {y : Sig} {a : Option SigD} {b : Option Sig}
    (hx : x = plainOf y) (ht : b.isSome = true ∨ a = none → a = b.map plainOf)
    (h : (if c then some y else b).isSome = true ∨ (if c then some x else a) = none) :
    (if c then some x else a) = (if c then some y else b).map plainOf := by
  by_cases hc : c
  · rw [if_pos hc, if_pos hc, hx]; rfl
  · rw [if_neg hc, if_neg hc] at h ⊢; exact ht h

/-- on the six str / verbatim test commands (and on every unregistered name) the driver's table is the plain image of
    `harnessSigs` -/
theorem harness_table_plain (n : Str) (h : (harnessSigs n).isSome = true ∨ harnessCmds n = none) :
    harnessCmds n = (harnessSigs n).map plainOf :=
  -- six steps; after them `harnessSigs` has run out, and what is left of `harnessCmds` is `none` by hypothesis
  plain_step rfl (plain_step rfl (plain_step rfl (plain_step rfl (plain_step rfl (plain_step rfl
    (fun h => h.elim (fun h => by cases h) id)))))) h

/-- **driver_executes_executeSig.** What the driver computes (`executeD db env harnessCmds`) IS `executeSig` of the
    theorems above, for every line whose command is one of t.s, t.v, t.one, t.two, t.mix, t.none or is not registered. -/
theorem driver_executes_executeSig (db : UniDb) (env : Env) (line : Str)
    (h : ∀ n, lookedUp line = some n → (harnessSigs n).isSome = true ∨ harnessCmds n = none) :
    executeD db env harnessCmds line = liftExec (executeSig db harnessSigs line) :=
  executeD_on_plain_entry db env harnessCmds harnessSigs line (fun n hn => harness_table_plain n (h n hn))

private theorem lookedUp_cmdline (cmd : Str) (args : List Str) (hc : bareWord cmd) :
    lookedUp (cmdline cmd args) = some cmd := by
  simp [lookedUp, argTokens_cmdline cmd args hc, unquote_bare cmd hc.2]

/-- **arg_unchanged_on_driver_table (partial).** `arg_unchanged_sig_partial` for the function and the table the driver
    runs against mitmproxy: for each of the str / verbatim test commands, the quoted arguments arrive unchanged (as `str`
    values) under the per-parameter guard. -/
theorem arg_unchanged_on_driver_table (db : UniDb) (env : Env) (cmd : Str) (sig : Sig) (tys : List ArgTy) (args : List Str)
    (hc : bareWord cmd) (hcmd : harnessSigs cmd = some sig) (hb : bindTys sig args.length = some tys)
    (hg : argsOk tys args = true) :
    executeD db env harnessCmds (cmdline cmd args) = .call cmd (args.map TVal.s) := by
  rw [driver_executes_executeSig db env _ (by
    intro n hn
    rw [lookedUp_cmdline cmd args hc] at hn
    cases hn; left; simp [hcmd])]
  rw [arg_unchanged_sig_partial db harnessSigs cmd sig tys args hc hcmd hb hg]
  rfl

example : executeD noDb ⟨none, fun _ => none⟩ harnessCmds (cmdline (ascii "t.two") [[39, 34, 32], [92, 110]]) =
    .call (ascii "t.two") [.s [39, 34, 32], .s [92, 110]] :=
  arg_unchanged_on_driver_table _ _ _ ⟨[.str, .verbatim], none⟩ [.str, .verbatim] _ ⟨by decide, by decide⟩ rfl rfl (by decide)

/-! ### non-vacuity witnesses on non-trivial values -/

/-- `unquote_quote` on TAB, backslash, single quote, é, blank, € -/
example : unquote (quote [9, 92, 39, 233, 32, 8364]) = [9, 92, 39, 233, 32, 8364] :=
  unquote_quote _ (by decide)

/-- `unquote_quote_both` on `'"\ é`: the text comes back with `\x22` for the double quote, i.e. NOT unchanged -/
example : unquote (quote [39, 34, 92, 32, 233]) = escDq [39, 34, 92, 32, 233] ∧
    unquote (quote [39, 34, 92, 32, 233]) ≠ [39, 34, 92, 32, 233] :=
  ⟨unquote_quote_both _ (by decide) (by decide), by decide⟩

/-- `str_unescape_unquote_quote` with both quote characters, a blank, é and a TAB -/
example : strParse noDb (unquote (quote [39, 34, 32, 233, 9])) = some [39, 34, 32, 233, 9] :=
  str_unescape_unquote_quote noDb _ (by decide)

/-- `arg_unchanged_partial` for verbatim parameters: three arguments — backslash-n, blank, quote, é, TAB / `"\` / empty -/
example : execute noDb (fun _ => some .verbatim) (cmdline [116] [[92, 110, 32, 39, 233, 9], [34, 92], []]) =
    .call [116] [[92, 110, 32, 39, 233, 9], [34, 92], []] :=
  arg_unchanged_partial _ _ _ _ _ ⟨by decide, by decide⟩ rfl (by decide)

/-- the `str` guard of `arg_unchanged_partial` (no backslash) excludes more than the class that fails (F-C45b): `\q` is
    excluded by the guard although it arrives unchanged -/
example : argOk .str [92, 113] = false ∧
    execute noDb (fun _ => some .str) (cmdline [116] [[92, 113]]) = .call [116] [[92, 113]] := by decide +kernel

/-- hypothesis of `execute_delivers_typed_tokens`: the raw line `t "a b" 'c' d\x41` on `(verbatim, *rest : str)` -/
example : executeSig noDb (fun _ => some ⟨[.verbatim], some .str⟩)
    [116, 32, 34, 97, 32, 98, 34, 32, 39, 99, 39, 32, 100, 92, 120, 52, 49] =
    .call [116] [[97, 32, 98], [99], [100, 65]] := by decide +kernel

/-- hypothesis of `bindTys_spec` with positional parameters and `*rest` -/
example : bindTys ⟨[.str, .verbatim], some .str⟩ 4 = some [.str, .verbatim, .str, .str] := by decide +kernel

/-- `arity_mismatch_runs_nothing` with three awkward arguments for a one-parameter command -/
example : executeSig noDb (fun _ => some ⟨[.str], none⟩) (cmdline [116] [[97, 32], [39, 34], [233]]) = .arity :=
  arity_mismatch_runs_nothing _ _ _ ⟨[.str], none⟩ _ ⟨by decide, by decide⟩ rfl (by decide)

/-- `lexer_splits_at_unquoted_ws_partial` applied: `x "b c" 'd` (an unterminated quote at the end) -/
example : argTokens [120, 32, 34, 98, 32, 99, 34, 32, 39, 100] = refSplit [120, 32, 34, 98, 32, 99, 34, 32, 39, 100] :=
  lexer_splits_at_unquoted_ws_partial _ (by decide)

/-- `path_arg_roundtrip` on `/ 'é` -/
example : parseArgT noDb ⟨none, fun _ => none⟩ .path (unquote (quote [47, 32, 39, 233])) = some (.s [47, 32, 39, 233]) :=
  path_arg_roundtrip _ _ _ (by decide) (by decide)

/-- hypotheses of `defaults_fill_exactly_the_missing`: one of three parameters given, two defaults -/
example : bindD ⟨[.str, .str, .int], [.s [100], .i 7], none⟩ 1 = some ([.str], [.s [100], .i 7]) := by decide +kernel

end MitmVerif.Props.C45
