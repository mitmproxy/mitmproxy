import MitmVerif.Lemmas.C04
/-!
  C04 — theorems.  The statements of section `generic` quantify over EVERY handler `H` (every Python `_handle_event`
  generator function, as a resumption tree), every initial attribute state and EVERY schedule (list of
  plain events and command completions — matching, stale, foreign).  No bound on lengths.
  Those of section `prog` are about the handlers the correspondence run executes on real `Layer` trees
  (`Prog.interpN` / `Prog.HT d`, trees of any depth and branching): they discharge the hypotheses of the generic
  theorems for it (`BlocksOwn`, `POwns`, `PQuiet`) and carry the single-layer invariants to every layer of the tree by
  recursion on `d` (`AllInv`, `TreeOwn`, `TI`), each time through `children_step` / `children_step_rel`.
  The proofs run on the calculus of Lemmas/C04 (`handleEvent_ind`, `Keeps`, `run_relay`, `lower_kids`); what is added
  here is the vocabulary over the ghost trace and, through `run_facts`/`proc_facts`, what one `__process` run does to it.
-/

namespace MitmVerif.Props.C04
open MitmVerif.C04

section generic
variable {σ σp σc Ev Cmd Reply : Type}

/-- events passed to `_handle_event`, in call order -/
def handled : List (Entry Ev Cmd Reply) → List (Event Ev Cmd Reply)
  | [] => []
  | .handle ev :: t => ev :: handled t
  | .emit _ _ :: t => handled t
  | .pause _ :: t => handled t
  | .resume _ _ :: t => handled t

/-- completions consumed by resuming the paused generator, in order -/
def resumed : List (Entry Ev Cmd Reply) → List (Event Ev Cmd Reply)
  | [] => []
  | .resume c r :: t => .completed c r :: resumed t
  | .handle _ :: t => resumed t
  | .emit _ _ :: t => resumed t
  | .pause _ :: t => resumed t

/-- commands the layer paused on -/
def pausedOn : List (Entry Ev Cmd Reply) → List Cmd
  | [] => []
  | .pause c :: t => c :: pausedOn t
  | .handle _ :: t => pausedOn t
  | .emit _ _ :: t => pausedOn t
  | .resume _ _ :: t => pausedOn t

/-- `zs` is an interleaving of `xs` and `ys`: every element of `zs` goes to exactly one side, order kept -/
inductive Interleave {α : Type} : List α → List α → List α → Prop where
  | nil : Interleave [] [] []
  | left {x xs ys zs} : Interleave xs ys zs → Interleave (x :: xs) ys (x :: zs)
  | right {y xs ys zs} : Interleave xs ys zs → Interleave xs (y :: ys) (y :: zs)

/-- the pause/resume discipline as an automaton over the trace: state = command waited for -/
def scanStep [DecidableEq Cmd] : Option Cmd → Entry Ev Cmd Reply → Option (Option Cmd)
  | none, .handle _ => some none
  | none, .emit _ _ => some none
  | none, .pause c => some (some c)
  | none, .resume _ _ => none
  | some c, .resume c' _ => if c' = c then some none else none
  | some _, .handle _ => none
  | some _, .emit _ _ => none
  | some _, .pause _ => none

def scan [DecidableEq Cmd] : Option Cmd → List (Entry Ev Cmd Reply) → Option (Option Cmd)
  | p, [] => some p
  | p, e :: t => (scanStep p e).bind (fun p' => scan p' t)

private theorem handled_append (a b : List (Entry Ev Cmd Reply)) : handled (a ++ b) = handled a ++ handled b := by
  induction a with
  | nil => rfl
  | cons e t ih => cases e <;> simp [handled, ih]

private theorem resumed_append (a b : List (Entry Ev Cmd Reply)) : resumed (a ++ b) = resumed a ++ resumed b := by
  induction a with
  | nil => rfl
  | cons e t ih => cases e <;> simp [resumed, ih]

private theorem pausedOn_append (a b : List (Entry Ev Cmd Reply)) : pausedOn (a ++ b) = pausedOn a ++ pausedOn b := by
  induction a with
  | nil => rfl
  | cons e t ih => cases e <;> simp [pausedOn, ih]

private theorem scan_append [DecidableEq Cmd] (p : Option Cmd) (a b : List (Entry Ev Cmd Reply)) :
    scan p (a ++ b) = (scan p a).bind (fun p' => scan p' b) := by
  induction a generalizing p with
  | nil => simp [scan]
  | cons e t ih =>
    simp only [List.cons_append, scan]
    cases scanStep p e with
    | none => simp
    | some p' => simp [ih]

private theorem scan_no_pause [DecidableEq Cmd] (l : List (Entry Ev Cmd Reply)) (q : Option Cmd)
    (h : scan none l = some q) (hp : pausedOn l = []) : q = none ∧ resumed l = [] := by
  induction l with
  | nil => simpa [scan, resumed] using h.symm
  | cons e t ih =>
    cases e with
    | handle ev => exact ih (by simpa [scan, scanStep] using h) hp
    | emit c b => exact ih (by simpa [scan, scanStep] using h) hp
    | pause c => simp [pausedOn] at hp
    | resume c r => simp [scan, scanStep] at h

private theorem Interleave.snoc_left {α : Type} {xs ys zs : List α} (a : α) (h : Interleave xs ys zs) :
    Interleave (xs ++ [a]) ys (zs ++ [a]) := by
  induction h with
  | nil => exact .left .nil
  | left _ ih => exact .left ih
  | right _ ih => exact .right ih

private theorem Interleave.snoc_right {α : Type} {xs ys zs : List α} (a : α) (h : Interleave xs ys zs) :
    Interleave xs (ys ++ [a]) (zs ++ [a]) := by
  induction h with
  | nil => exact .right .nil
  | left _ ih => exact .left ih
  | right _ ih => exact .right ih

theorem Interleave.length {α : Type} {xs ys zs : List α} (h : Interleave xs ys zs) :
    zs.length = xs.length + ys.length := by
  induction h with
  | nil => rfl
  | left _ ih => simp [ih]; omega
  | right _ ih => simp [ih]; omega

theorem Interleave.sublist_left {α : Type} {xs ys zs : List α} (h : Interleave xs ys zs) : xs.Sublist zs := by
  induction h with
  | nil => exact .slnil
  | left _ ih => exact ih.cons_cons _
  | right _ ih => exact ih.cons _

theorem Interleave.sublist_right {α : Type} {xs ys zs : List α} (h : Interleave xs ys zs) : ys.Sublist zs := by
  induction h with
  | nil => exact .slnil
  | left _ ih => exact ih.cons _
  | right _ ih => exact ih.cons_cons _

private theorem interleave_nil_right {α : Type} {xs zs : List α} (h : Interleave xs [] zs) : xs = zs := by
  generalize hy : ([] : List α) = ys at h
  induction h with
  | nil => rfl
  | left _ ih => rw [ih hy]
  | right _ _ => cases hy

/-- what one `__process` run appends to the trace, for every generator -/
private theorem run_facts [DecidableEq Cmd] (nil : Reply) (g : Gen σ Cmd Reply) :
    handled (run (Ev := Ev) nil g).ents = [] ∧ resumed (run (Ev := Ev) nil g).ents = [] ∧
    scan none (run (Ev := Ev) nil g).ents = some ((run (Ev := Ev) nil g).paused.map (·.1)) := by
  fun_induction run (Ev := Ev) nil g with
  | case1 s => simp [handled, resumed, scan]
  | case2 s c k => simp [handled, resumed, scan, scanStep]
  | case3 s c k b hb r ih =>
    obtain ⟨h1, h2, h3⟩ := ih
    exact ⟨by simp [handled, r, h1], by simp [resumed, r, h2], by simp [scan, scanStep, r, h3]⟩

private theorem proc_facts [DecidableEq Cmd] (nil : Reply) (L : Layer σ Ev Cmd Reply) (e : Entry Ev Cmd Reply)
    (g : Gen σ Cmd Reply) :
    handled (proc nil L e g).log = handled L.log ++ handled [e] ∧
    resumed (proc nil L e g).log = resumed L.log ++ resumed [e] ∧
    (scan none L.log = some (L.paused.map (·.1)) → scanStep (L.paused.map (·.1)) e = some none →
      scan none (proc nil L e g).log = some ((proc nil L e g).paused.map (·.1))) := by
  obtain ⟨h1, h2, h3⟩ := run_facts (Ev := Ev) nil g
  refine ⟨?_, ?_, fun hd he => ?_⟩
  · show handled (L.log ++ ([e] ++ _)) = _
    simp only [handled_append, h1, List.append_nil]
  · show resumed (L.log ++ ([e] ++ _)) = _
    simp only [resumed_append, h2, List.append_nil]
  · simp [scan_append, hd, scan, he, h3]

/-- the single-layer invariant: `part` and `idle` are the statement of `handled_eq_arrivals`, `disc` that of
    `no_handle_while_paused`; `idle` is also what `part` needs when an idle layer handles a new event: the event is appended to
    `handled L.log`, and that is the end of `handled L.log ++ L.queue` only because the queue is empty -/
structure Inv [DecidableEq Cmd] (L : Layer σ Ev Cmd Reply) : Prop where
  part : Interleave (handled L.log ++ L.queue) (resumed L.log) L.arrived
  idle : L.paused = none → L.queue = []
  disc : scan none L.log = some (L.paused.map (·.1))

private theorem inv_init [DecidableEq Cmd] (s : σ) : Inv (Layer.init s : Layer σ Ev Cmd Reply) :=
  ⟨by simpa [Layer.init, handled, resumed] using Interleave.nil, by simp [Layer.init], by simp [Layer.init, scan]⟩

private theorem step_facts [DecidableEq Cmd] (H : Handler σ Ev Cmd Reply) (nil : Reply)
    (L : Layer σ Ev Cmd Reply) (ev : Event Ev Cmd Reply) (h : Inv L) : Inv (handleEvent H nil L ev).1 := by
  obtain ⟨hpart, hidle, hdisc⟩ := h
  -- `part` and `disc` hold all through the loop; `idle` is what the loop's exit adds
  refine handleEvent_ind H nil L ev (fun x => Inv x.1)
    (fun x => Interleave (handled x.1.log ++ x.1.queue) (resumed x.1.log) x.1.arrived ∧
      scan none x.1.log = some (x.1.paused.map (·.1))) ?_ ?_ ?_ ?_ (fun _ _ i ⟨p, d⟩ => ⟨p, i, d⟩)
  · intro hp
    obtain ⟨f1, f2, f3⟩ := proc_facts nil { L with arrived := L.arrived ++ [ev] } (.handle ev) (H L.st ev)
    refine ⟨?_, fun _ => hidle hp, f3 hdisc (by simp [hp, scanStep])⟩
    rw [f1, f2]
    simp only [hidle hp, handled, resumed, List.append_nil] at hpart ⊢
    exact hpart.snoc_left ev
  · intro c k hp _
    refine ⟨?_, by simp [hp], hdisc⟩
    simp only [← List.append_assoc]
    exact hpart.snoc_left ev
  · intro c k r hp he
    subst he
    obtain ⟨f1, f2, f3⟩ := proc_facts nil { L with arrived := L.arrived ++ [.completed c r] } (.resume c r) (k r)
    refine ⟨?_, f3 hdisc (by simp [hp, scanStep])⟩
    rw [f1, f2]
    simp only [handled, resumed, List.append_nil]
    exact hpart.snoc_right _
  · intro M o e rest hp hq ⟨mpart, mdisc⟩
    obtain ⟨f1, f2, f3⟩ := proc_facts nil { M with queue := rest } (.handle e) (H M.st e)
    refine ⟨?_, f3 mdisc (by simp [hp, scanStep])⟩
    rw [f1, f2]
    simpa [handled, resumed, hq] using mpart

/-! ### the single layer: Layer.handle_event / __process / __continue -/

/-- **Every incoming event is handled exactly once and in arrival order.**  For every handler, initial state
    and schedule: the arrivals are an interleaving (each arrival on exactly one side, order kept) of
    (a) the events passed to `_handle_event` so far followed by the events still queued, and
    (b) the completions that resumed the paused generator.  Nothing is queued in a layer that is not paused. -/
theorem handled_eq_arrivals [DecidableEq Cmd] (H : Handler σ Ev Cmd Reply) (nil : Reply) (s : σ)
    (evs : List (Event Ev Cmd Reply)) :
    let L := runSched H nil (Layer.init s) evs
    Interleave (handled L.log ++ L.queue) (resumed L.log) evs ∧ (L.paused = none → L.queue = []) := by
  have i := runSched_keeps (step_facts H nil) evs _ (inv_init s)
  have hp := i.part
  rw [runSched_arrived] at hp
  exact ⟨by simpa [Layer.init] using hp, i.idle⟩

/-- corollary: a schedule in which the layer never gets resumed (e.g. it never blocks) is handled
    verbatim: handled ++ queued = arrivals, as lists -/
theorem handled_eq_arrivals_verbatim [DecidableEq Cmd] (H : Handler σ Ev Cmd Reply) (nil : Reply) (s : σ)
    (evs : List (Event Ev Cmd Reply)) (h : resumed (runSched H nil (Layer.init s) evs).log = []) :
    handled (runSched H nil (Layer.init s) evs).log ++ (runSched H nil (Layer.init s) evs).queue = evs := by
  have := (handled_eq_arrivals H nil s evs).1
  simp only [h] at this
  exact interleave_nil_right this

/-- **A layer never starts handling a new event while it waits for a completion.**  The trace of every
    run is accepted by the pause/resume automaton `scan`: after `pause c` nothing happens in the layer
    (no `_handle_event` call, no command emitted) until `resume c _` for the same command; the automaton's
    final state is the layer's `_paused` slot. -/
theorem no_handle_while_paused [DecidableEq Cmd] (H : Handler σ Ev Cmd Reply) (nil : Reply) (s : σ)
    (evs : List (Event Ev Cmd Reply)) :
    let L := runSched H nil (Layer.init s) evs
    scan none L.log = some (L.paused.map (·.1)) :=
  (runSched_keeps (step_facts H nil) evs _ (inv_init s)).disc

/-- what acceptance by `scan` means: the entry right after a `pause c` is the `resume` of that same `c` -/
theorem scan_pause_then_resume [DecidableEq Cmd] (p q : Option Cmd) (pre post : List (Entry Ev Cmd Reply))
    (c : Cmd) (e : Entry Ev Cmd Reply) (h : scan p (pre ++ .pause c :: e :: post) = some q) :
    ∃ r, e = .resume c r := by
  rw [scan_append] at h
  cases h1 : scan p pre with
  | none => simp [h1] at h
  | some p' =>
    simp only [h1, Option.bind_some, scan] at h
    cases p' with
    | some _ => simp [scanStep] at h
    | none =>
      simp only [scanStep, Option.bind_some] at h
      cases e with
      | resume c' r =>
        by_cases hc : c' = c
        · exact ⟨r, by rw [hc]⟩
        · simp [hc] at h
      | handle _ => simp at h
      | emit _ _ => simp at h
      | pause _ => simp at h

/-- **Each waiting operation is resumed with exactly its own completion.**  For a layer paused on command
    `c` with suspended generator `k` (any state whatsoever):
    * the completion of `c` with reply `r` sends exactly `r` into exactly `k` (trace and output continue with
      `run (k r)`), before anything else happens;
    * every other event — plain, or the completion of any other command — leaves the generator suspended
      on `c`, emits nothing, and is appended to the queue. -/
theorem resume_gets_own_reply [DecidableEq Cmd] (H : Handler σ Ev Cmd Reply) (nil : Reply)
    (L : Layer σ Ev Cmd Reply) (c : Cmd) (k : Reply → Gen σ Cmd Reply) (hp : L.paused = some (c, k)) :
    (∀ r, ∃ more moreOut,
        (handleEvent H nil L (.completed c r)).1.log
          = L.log ++ .resume c r :: (run (Ev := Ev) nil (k r)).ents ++ more ∧
        (handleEvent H nil L (.completed c r)).2 = (run (Ev := Ev) nil (k r)).out ++ moreOut) ∧
    (∀ ev, (∀ r, ev ≠ .completed c r) →
        (handleEvent H nil L ev).1.paused = some (c, k) ∧ (handleEvent H nil L ev).1.log = L.log ∧
        (handleEvent H nil L ev).1.queue = L.queue ++ [ev] ∧ (handleEvent H nil L ev).2 = []) := by
  constructor
  · intro r
    rw [handleEvent_match H nil L c k r hp]
    obtain ⟨m, hm⟩ := drain_log H nil L.queue
      (proc nil { L with arrived := L.arrived ++ [.completed c r] } (.resume c r) (k r))
    exact ⟨m, _, hm, rfl⟩
  · intro ev hne
    rw [handleEvent_other H nil L c k ev hp hne]
    simp [enqueue, hp]

/-- every resume in the trace consumed a distinct arrival `CommandCompleted(c, r)`, in order -/
theorem resumes_are_arrivals [DecidableEq Cmd] (H : Handler σ Ev Cmd Reply) (nil : Reply) (s : σ)
    (evs : List (Event Ev Cmd Reply)) :
    (resumed (runSched H nil (Layer.init s) evs).log).Sublist evs :=
  (handled_eq_arrivals H nil s evs).1.sublist_right

/-- commands that leave `handle_event` never carry `blocking is True` (outer layers test exactly that) -/
theorem emitted_never_blocking_true [DecidableEq Cmd] (H : Handler σ Ev Cmd Reply) (nil : Reply)
    (L : Layer σ Ev Cmd Reply) (ev : Event Ev Cmd Reply) :
    ∀ x ∈ (handleEvent H nil L ev).2, x.2 ≠ Blk.yes :=
  handleEvent_out H nil L ev

/-! ### the `__continue` loop: replay of buffered events, handler re-binding -/

/-- handling one event when idle, as a step on (layer, commands emitted so far): the handler is applied to
    the layer's state AS IT IS NOW — if an earlier replayed event re-bound `_handle_event` (changed the state the
    handler dispatches on), this event is handled by the new handler -/
def replayStep [DecidableEq Cmd] (H : Handler σ Ev Cmd Reply) (nil : Reply)
    (acc : Layer σ Ev Cmd Reply × Out Cmd) (ev : Event Ev Cmd Reply) : Layer σ Ev Cmd Reply × Out Cmd :=
  ((handleFresh H nil acc.1 ev).1, acc.2 ++ (handleFresh H nil acc.1 ev).2)

private theorem replay_fold_out [DecidableEq Cmd] (H : Handler σ Ev Cmd Reply) (nil : Reply)
    (q : List (Event Ev Cmd Reply)) : ∀ (L : Layer σ Ev Cmd Reply) (o : Out Cmd),
    q.foldl (replayStep H nil) (L, o) =
      ((q.foldl (replayStep H nil) (L, [])).1, o ++ (q.foldl (replayStep H nil) (L, [])).2) := by
  induction q with
  | nil => intro L o; simp
  | cons ev rest ih =>
    intro L o
    simp only [List.foldl_cons, replayStep]
    rw [ih _ (o ++ _), ih _ ([] ++ _)]
    simp

/-- **Each buffered event is handled exactly once, in arrival order, by the handler current at ITS replay
    time.**  The `while not self._paused and self._paused_event_queue` loop of `__continue`, for every handler
    and every state: the queue splits as `q1 ++ q2`; the events of `q1` are handled one after the other, each by
    `H` applied to the state left by the previous one (a plain left fold of `replayStep`); `q2` stays queued
    in order, and is non-empty only if the layer paused again. -/
theorem replay_sequential [DecidableEq Cmd] (H : Handler σ Ev Cmd Reply) (nil : Reply)
    (q : List (Event Ev Cmd Reply)) : ∀ (L : Layer σ Ev Cmd Reply),
    ∃ q1 q2, q = q1 ++ q2 ∧
      drain H nil L q = ({ (q1.foldl (replayStep H nil) (L, [])).1 with queue := q2 },
                         (q1.foldl (replayStep H nil) (L, [])).2) ∧
      (q2 ≠ [] → ((q1.foldl (replayStep H nil) (L, [])).1.paused).isSome = true) := by
  intro L
  fun_induction drain H nil L q with
  | case1 L => exact ⟨[], [], rfl, by simp, by simp⟩
  | case2 L ev rest pk hp => exact ⟨[], ev :: rest, rfl, by simp, by simp [hp]⟩
  | case3 L ev rest hp r1 r2 ih =>
    obtain ⟨q1, q2, e, hd, hq⟩ := ih
    refine ⟨ev :: q1, q2, by rw [e]; rfl, ?_, ?_⟩
    · simp only [r2, hd, List.foldl_cons, replayStep, List.nil_append]
      rw [replay_fold_out H nil q1 _ (handleFresh H nil L ev).2]
    · intro h
      simp only [List.foldl_cons, replayStep, List.nil_append]
      rw [replay_fold_out H nil q1 _ (handleFresh H nil L ev).2]
      exact hq h

/-! ### the layer behaves like a sequential blocking interpreter -/

/-- the answers carried by a list of completions -/
def repliesOf : List (Event Ev Cmd Reply) → List Reply
  | [] => []
  | .completed _ r :: t => r :: repliesOf t
  | .plain _ :: t => repliesOf t

/-- the schedule runner that also collects everything `handle_event` emitted -/
def runSchedOut [DecidableEq Cmd] (H : Handler σ Ev Cmd Reply) (nil : Reply) :
    Layer σ Ev Cmd Reply → Out Cmd → List (Event Ev Cmd Reply) → Layer σ Ev Cmd Reply × Out Cmd
  | L, o, [] => (L, o)
  | L, o, ev :: evs => runSchedOut H nil (handleEvent H nil L ev).1 (o ++ (handleEvent H nil L ev).2) evs

theorem runSchedOut_fst [DecidableEq Cmd] (H : Handler σ Ev Cmd Reply) (nil : Reply)
    (evs : List (Event Ev Cmd Reply)) : ∀ (L : Layer σ Ev Cmd Reply) (o : Out Cmd),
    (runSchedOut H nil L o evs).1 = runSched H nil L evs := by
  induction evs with
  | nil => intro L o; rfl
  | cons ev rest ih => intro L o; simp only [runSchedOut, runSched]; exact ih _ _

private theorem repliesOf_append (a b : List (Event Ev Cmd Reply)) :
    repliesOf (a ++ b) = repliesOf a ++ repliesOf b := by
  induction a with
  | nil => rfl
  | cons e t ih => cases e <;> simp [repliesOf, ih]

/-- the invariant: the reference interpreter, fed the events handled-or-queued so far and the answers consumed so
    far, and then any further input, goes on from exactly the layer's configuration -/
private def SeqInv (H : Handler σ Ev Cmd Reply) (nil : Reply) (s0 : σ) (L : Layer σ Ev Cmd Reply) (o : Out Cmd) : Prop :=
  ∀ ys rs, seq H nil s0 none [] [] (handled L.log ++ L.queue ++ ys) (repliesOf (resumed L.log) ++ rs) =
    seq H nil L.st L.paused L.log o (L.queue ++ ys) rs

private theorem seqinv_step [DecidableEq Cmd] (H : Handler σ Ev Cmd Reply) (nil : Reply) (s0 : σ)
    (L : Layer σ Ev Cmd Reply) (o : Out Cmd) (ev : Event Ev Cmd Reply) (hi : Inv L) (hs : SeqInv H nil s0 L o) :
    SeqInv H nil s0 (handleEvent H nil L ev).1 (o ++ (handleEvent H nil L ev).2) := by
  refine handleEvent_ind H nil L ev (fun x => SeqInv H nil s0 x.1 (o ++ x.2)) (fun x => SeqInv H nil s0 x.1 (o ++ x.2))
    ?_ ?_ ?_ ?_ (fun _ _ _ h => h)
  · intro hp ys rs
    obtain ⟨f1, f2, _⟩ := proc_facts nil { L with arrived := L.arrived ++ [ev] } (.handle ev) (H L.st ev)
    have := hs (ev :: ys) rs
    rw [hi.idle hp, hp, List.nil_append, seq.eq_def (xs := ev :: ys)] at this
    rw [f1, f2]
    simpa [handled, resumed, hi.idle hp] using this
  · intro c k hp _ ys rs
    simpa [List.append_assoc] using hs (ev :: ys) rs
  · intro c k r hp he ys rs
    subst he
    obtain ⟨f1, f2, _⟩ := proc_facts nil { L with arrived := L.arrived ++ [.completed c r] } (.resume c r) (k r)
    have := hs ys (r :: rs)
    rw [hp, seq.eq_def (rs := r :: rs)] at this
    rw [f1, f2]
    simpa [handled, resumed, repliesOf_append, repliesOf, List.append_assoc] using this
  · intro M o' e rest hp hq hM ys rs
    obtain ⟨f1, f2, _⟩ := proc_facts nil { M with queue := rest } (.handle e) (H M.st e)
    have := hM ys rs
    rw [hp, hq, List.cons_append, seq.eq_def (xs := e :: (rest ++ ys))] at this
    rw [f1, f2]
    simpa [handled, resumed, List.append_assoc] using this

/-- **The layer behaves like a sequential blocking interpreter.**  For every handler, initial state and schedule
    of arrivals `evs` (plain events and completions, in any interleaving):
    the arrivals split, order kept, into the events `xs` (= passed to `_handle_event` so far ++ still queued)
    and the own completions (= those that resumed the generator), and the reference interpreter `seq` — blocking
    code: one handler at a time run to completion, each event's handler chosen in the state left by the previous
    one, the i-th blocking command answered by the i-th reply — fed `xs` and those replies ends in EXACTLY the
    layer's configuration: same attribute state, same suspended generator, same trace (every `_handle_event`
    call, every emitted command, every pause and every resume with its value, in the same order), same overall
    command output; the events it has not started are exactly `_paused_event_queue`, and no reply is left over. -/
theorem sequential_blocking_equivalence [DecidableEq Cmd] (H : Handler σ Ev Cmd Reply) (nil : Reply) (s : σ)
    (evs : List (Event Ev Cmd Reply)) :
    let L := runSched H nil (Layer.init s) evs
    let o := (runSchedOut H nil (Layer.init s) [] evs).2
    Interleave (handled L.log ++ L.queue) (resumed L.log) evs ∧
    seq H nil s none [] [] (handled L.log ++ L.queue) (repliesOf (resumed L.log)) =
      ⟨L.st, L.paused, L.log, o, L.queue, []⟩ := by
  have key : ∀ (evs : List (Event Ev Cmd Reply)) (L : Layer σ Ev Cmd Reply) (o : Out Cmd),
      Inv L → SeqInv H nil s L o →
      SeqInv H nil s (runSchedOut H nil L o evs).1 (runSchedOut H nil L o evs).2 := by
    intro evs
    induction evs with
    | nil => intro L o _ h; exact h
    | cons ev rest ih =>
      intro L o hi hs
      simp only [runSchedOut]
      exact ih _ _ (step_facts H nil L ev hi) (seqinv_step H nil s L o ev hi hs)
  have h0 : SeqInv H nil s (Layer.init s : Layer σ Ev Cmd Reply) [] := fun ys rs => by
    simp [Layer.init, handled, resumed, repliesOf]
  have hi := runSched_keeps (step_facts H nil) evs _ (inv_init s)
  have := key evs (Layer.init s) [] (inv_init s) h0 [] []
  rw [runSchedOut_fst, List.append_nil, List.append_nil, List.append_nil] at this
  refine ⟨(handled_eq_arrivals H nil s evs).1, this.trans ?_⟩
  rw [seq.eq_def]
  cases hp : (runSched H nil (Layer.init s) evs).paused with
  | none => simp [hi.idle hp]
  | some ck => rfl

/-- whole-history form of `emitted_never_blocking_true`: nothing a layer ever emits, over a whole schedule,
    carries `blocking is True` (so no ancestor's `__process` can pause on it) -/
theorem all_output_never_blocking_true [DecidableEq Cmd] (H : Handler σ Ev Cmd Reply) (nil : Reply)
    (evs : List (Event Ev Cmd Reply)) : ∀ (L : Layer σ Ev Cmd Reply) (o : Out Cmd),
    (∀ x ∈ o, x.2 ≠ Blk.yes) → ∀ x ∈ (runSchedOut H nil L o evs).2, x.2 ≠ Blk.yes := by
  induction evs with
  | nil => intro L o h; exact h
  | cons ev rest ih =>
    intro L o h
    simp only [runSchedOut]
    apply ih
    intro x hx
    rcases List.mem_append.mp hx with hx | hx
    · exact h x hx
    · exact emitted_never_blocking_true H nil L ev x hx

/-- consequence: the configuration reached does not depend on how events and completions were interleaved —
    two schedules with the same event subsequence and the same reply subsequence end in the same state, with the
    same suspended generator, the same trace and the same output -/
theorem interleaving_irrelevant [DecidableEq Cmd] (H : Handler σ Ev Cmd Reply) (nil : Reply) (s : σ)
    (evs evs' : List (Event Ev Cmd Reply))
    (hx : handled (runSched H nil (Layer.init s) evs).log ++ (runSched H nil (Layer.init s) evs).queue =
          handled (runSched H nil (Layer.init s) evs').log ++ (runSched H nil (Layer.init s) evs').queue)
    (hr : repliesOf (resumed (runSched H nil (Layer.init s) evs).log) =
          repliesOf (resumed (runSched H nil (Layer.init s) evs').log)) :
    (runSched H nil (Layer.init s) evs).st = (runSched H nil (Layer.init s) evs').st ∧
    (runSched H nil (Layer.init s) evs).paused = (runSched H nil (Layer.init s) evs').paused ∧
    (runSched H nil (Layer.init s) evs).log = (runSched H nil (Layer.init s) evs').log ∧
    (runSched H nil (Layer.init s) evs).queue = (runSched H nil (Layer.init s) evs').queue ∧
    (runSchedOut H nil (Layer.init s) [] evs).2 = (runSchedOut H nil (Layer.init s) [] evs').2 := by
  have a := (sequential_blocking_equivalence H nil s evs).2
  have b := (sequential_blocking_equivalence H nil s evs').2
  rw [hx, hr, b] at a
  injection a with h1 h2 h3 h4 h5 _
  exact ⟨h1.symm, h2.symm, h3.symm, h5.symm, h4.symm⟩

/-! ### a layer pauses only on commands it issued as blocking itself — single layer, state-indexed -/

/-- every blocking (`blocking is True`) yield of the generator is an `own` command, and every attribute state the
    generator passes through satisfies `inv` (e.g. "my index is i") -/
inductive BlocksOwn (own : Cmd → Prop) (inv : σ → Prop) : Gen σ Cmd Reply → Prop where
  | done (s) : inv s → BlocksOwn own inv (.done s)
  | yield (s c b k) : inv s → (b = Blk.yes → own c) → (∀ r, BlocksOwn own inv (k r)) → BlocksOwn own inv (.yield s c b k)

structure OInv (own : Cmd → Prop) (inv : σ → Prop) (L : Layer σ Ev Cmd Reply) : Prop where
  st : inv L.st
  logs : ∀ c ∈ pausedOn L.log, own c
  cont : ∀ c k, L.paused = some (c, k) → ∀ r, BlocksOwn own inv (k r)

private theorem run_blocksOwn (own : Cmd → Prop) (inv : σ → Prop) (nil : Reply) (g : Gen σ Cmd Reply)
    (hg : BlocksOwn own inv g) :
    inv (run (Ev := Ev) nil g).st ∧ (∀ c ∈ pausedOn (run (Ev := Ev) nil g).ents, own c) ∧
    (∀ c k, (run (Ev := Ev) nil g).paused = some (c, k) → ∀ r, BlocksOwn own inv (k r)) := by
  induction hg with
  | done s hs => simpa [run, pausedOn] using hs
  | yield s c b k hs hb hk ih =>
    cases b with
    | yes =>
      refine ⟨by simpa [run] using hs, by simpa [run, pausedOn] using hb rfl, ?_⟩
      intro c' k' h
      simp only [run, Option.some.injEq, Prod.mk.injEq] at h
      obtain ⟨_, rfl⟩ := h
      exact hk
    | no => simpa [run, pausedOn] using ih nil
    | owned => simpa [run, pausedOn] using ih nil

private theorem oinv_init (own : Cmd → Prop) (inv : σ → Prop) (s : σ) (h : inv s) :
    OInv own inv (Layer.init s : Layer σ Ev Cmd Reply) :=
  ⟨h, by simp [Layer.init, pausedOn], by simp [Layer.init]⟩

/-- running a generator whose blocking yields are `own`, after logging an entry that is not a pause -/
private theorem oinv_run (own : Cmd → Prop) (inv : σ → Prop) (nil : Reply) (L : Layer σ Ev Cmd Reply)
    (e : Entry Ev Cmd Reply) (g : Gen σ Cmd Reply) (he : ∀ t, pausedOn (e :: t) = pausedOn t)
    (h : OInv own inv L) (hg : BlocksOwn own inv g) :
    OInv own inv (proc nil L e g) := by
  obtain ⟨a, b, c⟩ := run_blocksOwn (Ev := Ev) own inv nil g hg
  refine ⟨a, fun x hx => ?_, c⟩
  simp only [pausedOn_append, he, List.mem_append] at hx
  exact hx.elim (h.logs x) (b x)

private theorem oinv_keeps (own : Cmd → Prop) (inv : σ → Prop) (H : Handler σ Ev Cmd Reply) (nil : Reply)
    (hH : ∀ s ev, inv s → BlocksOwn own inv (H s ev)) : Keeps H nil (OInv own inv) where
  frame := fun _ _ _ h => ⟨h.st, h.logs, h.cont⟩
  handle := fun L ev _ h => oinv_run own inv nil L (.handle ev) _ (fun _ => rfl) h (hH _ _ h.st)
  resume := fun L c k r hp h => oinv_run own inv nil L (.resume c r) _ (fun _ => rfl) h (h.cont c k hp r)

/-- one `handle_event` call preserves: the state invariant, "every pause so far was on an own command", and the
    same for whatever the suspended generator will do -/
theorem oinv_step [DecidableEq Cmd] (own : Cmd → Prop) (inv : σ → Prop) (H : Handler σ Ev Cmd Reply) (nil : Reply)
    (hH : ∀ s ev, inv s → BlocksOwn own inv (H s ev)) (L : Layer σ Ev Cmd Reply) (ev : Event Ev Cmd Reply)
    (h : OInv own inv L) : OInv own inv (handleEvent H nil L ev).1 :=
  (oinv_keeps own inv H nil hH).step L ev h

/-- **A layer pauses only on commands its own generator issued as blocking** — whole histories, any handler whose
    blocking yields are `own` (relayed commands of children never are `blocking is True`, see below), with the
    notion of "own" allowed to depend on an invariant of the layer's state -/
theorem pauses_only_on_own_blocking [DecidableEq Cmd] (own : Cmd → Prop) (inv : σ → Prop) (H : Handler σ Ev Cmd Reply)
    (nil : Reply) (hH : ∀ s ev, inv s → BlocksOwn own inv (H s ev)) (s0 : σ) (h0 : inv s0)
    (evs : List (Event Ev Cmd Reply)) :
    inv (runSched H nil (Layer.init s0) evs).st ∧ ∀ c ∈ pausedOn (runSched H nil (Layer.init s0) evs).log, own c := by
  have := runSched_keeps (oinv_keeps own inv H nil hH).step evs _ (oinv_init own inv s0 h0)
  exact ⟨this.st, this.logs⟩

/-! ### commands relayed from a child (`yield from child.handle_event(ev)`), and what a parent yields itself

  Four hypotheses on a parent's generator: what it yields ITSELF is `own` (`Owns`; `POwns` with an invariant of the
  states it passes through) or is not blocking (`NoBlock`; `PQuiet` with such an invariant).  None constrains what it
  relays from its children. -/

/-- the parent's own `yield`s are never blocking (its relays of child commands are unconstrained) -/
inductive NoBlock : PGen σp Ev Cmd Reply → Prop where
  | done (s) : NoBlock (.done s)
  | yield (s c b k) : b ≠ Blk.yes → (∀ r, NoBlock (k r)) → NoBlock (.yield s c b k)
  | child (s i ev k) : NoBlock k → NoBlock (.child s i ev k)

/-- every command the parent itself yields satisfies `own` -/
inductive Owns (own : Cmd → Prop) : PGen σp Ev Cmd Reply → Prop where
  | done (s) : Owns own (.done s)
  | yield (s c b k) : own c → (∀ r, Owns own (k r)) → Owns own (.yield s c b k)
  | child (s i ev k) : Owns own k → Owns own (.child s i ev k)

/-- a parent generator whose own yields are `own` commands and whose states satisfy `invp` -/
inductive POwns (own : Cmd → Prop) (invp : σp → Prop) : PGen σp Ev Cmd Reply → Prop where
  | done (s) : invp s → POwns own invp (.done s)
  | yield (s c b k) : invp s → own c → (∀ r, POwns own invp (k r)) → POwns own invp (.yield s c b k)
  | child (s i ev k) : invp s → POwns own invp k → POwns own invp (.child s i ev k)

/-- a parent generator none of whose own yields is blocking, passing only through states satisfying `invp` -/
inductive PQuiet (invp : σp → Prop) : PGen σp Ev Cmd Reply → Prop where
  | done (s) : invp s → PQuiet invp (.done s)
  | yield (s c b k) : invp s → b ≠ Blk.yes → (∀ r, PQuiet invp (k r)) → PQuiet invp (.yield s c b k)
  | child (s i ev k) : invp s → PQuiet invp k → PQuiet invp (.child s i ev k)

private theorem relay_blocksOwn {τ : Type} (own : Cmd → Prop) (inv : τ → Prop) (s : τ) (hs : inv s) (o : Out Cmd)
    (ho : ∀ x ∈ o, x.2 ≠ Blk.yes) (g : Gen τ Cmd Reply) (hg : BlocksOwn own inv g) :
    BlocksOwn own inv (relay s o g) := by
  induction o with
  | nil => exact hg
  | cons x t ih =>
    obtain ⟨c, b⟩ := x
    exact .yield _ _ _ _ hs (fun hb => absurd hb (ho (c, b) (by simp)))
      (fun _ => ih (fun x hx => ho x (by simp [hx])))

/-- lowering a parent generator over ANY children: the only `blocking is True` yields are the parent's own -/
theorem lower_blocksOwn [DecidableEq Cmd] (own : Cmd → Prop) (invp : σp → Prop)
    (Hc : Nat → Handler σc Ev Cmd Reply) (nil : Reply) (g : PGen σp Ev Cmd Reply) (hg : POwns own invp g) :
    ∀ chs : List (Layer σc Ev Cmd Reply),
      BlocksOwn own (fun st : σp × List (Layer σc Ev Cmd Reply) => invp st.1) (lower Hc nil g chs) := by
  induction hg with
  | done s hs => intro chs; exact .done _ hs
  | yield s c b k hs hc _ ih => intro chs; exact .yield _ _ _ _ hs (fun _ => hc) (fun r => ih r chs)
  | child s i ev k hs _ ih =>
    intro chs
    cases hi : chs[i]? with
    | none => simpa [lower, hi] using ih chs
    | some ch =>
      simp only [lower, hi]
      exact relay_blocksOwn own (fun st : σp × List (Layer σc Ev Cmd Reply) => invp st.1) _ hs _
        (emitted_never_blocking_true (Hc i) nil ch ev) _ (ih _)

theorem flat_blocksOwn (own : Cmd → Prop) (invp : σp → Prop) (g : PGen σp Ev Cmd Reply) (hg : POwns own invp g) :
    BlocksOwn own invp g.flat := by
  induction hg with
  | done s hs => exact .done _ hs
  | yield s c b k hs hc _ ih => exact .yield _ _ _ _ hs (fun _ => hc) ih
  | child s i ev k _ _ ih => exact ih

private theorem POwns.owns {own : Cmd → Prop} {invp : σp → Prop} {g : PGen σp Ev Cmd Reply} (hg : POwns own invp g) :
    Owns own g := by
  induction hg with
  | done s _ => exact .done s
  | yield s c b k _ hc _ ih => exact .yield s c b k hc ih
  | child s i ev k _ _ ih => exact .child s i ev k ih

private theorem Owns.pOwns {own : Cmd → Prop} {g : PGen σp Ev Cmd Reply} (hg : Owns own g) :
    POwns own (fun _ => True) g := by
  induction hg with
  | done s => exact .done s trivial
  | yield s c b k hc _ ih => exact .yield s c b k trivial hc ih
  | child s i ev k _ ih => exact .child s i ev k trivial ih

/-- **A parent pauses only on its own commands.**  Whatever the children do (any handlers, any state, any
    blocking), for every schedule every `pause c` in the parent's trace is a command the parent's own
    generator yielded — never a relayed command of a child. -/
theorem parent_pauses_only_on_own_commands [DecidableEq Cmd] (own : Cmd → Prop)
    (PH : σp → Event Ev Cmd Reply → PGen σp Ev Cmd Reply) (hPH : ∀ s ev, Owns own (PH s ev))
    (Hc : Nat → Handler σc Ev Cmd Reply) (nil : Reply) (s0 : σp) (chs0 : List (Layer σc Ev Cmd Reply))
    (evs : List (Event Ev Cmd Reply)) :
    ∀ c ∈ pausedOn (runSched (parentHandler PH Hc nil) nil (Layer.init (s0, chs0)) evs).log, own c :=
  (pauses_only_on_own_blocking own (fun _ => True) (parentHandler PH Hc nil) nil
    (fun st ev _ => lower_blocksOwn own (fun _ => True) Hc nil _ (hPH st.1 ev).pOwns st.2) (s0, chs0) trivial evs).2

/-- a `PQuiet` parent generator lowered over ANY children has no `blocking is True` yield at all -/
theorem lower_quiet [DecidableEq Cmd] (invp : σp → Prop) (Hc : Nat → Handler σc Ev Cmd Reply) (nil : Reply)
    (g : PGen σp Ev Cmd Reply) (hg : PQuiet invp g) : ∀ chs : List (Layer σc Ev Cmd Reply),
      BlocksOwn (fun _ : Cmd => False) (fun st : σp × List (Layer σc Ev Cmd Reply) => invp st.1) (lower Hc nil g chs) := by
  induction hg with
  | done s hs => intro chs; exact .done _ hs
  | yield s c b k hs hb _ ih => intro chs; exact .yield _ _ _ _ hs (fun h => absurd h hb) (fun r => ih r chs)
  | child s i ev k hs _ ih =>
    intro chs
    cases hi : chs[i]? with
    | none => simpa [lower, hi] using ih chs
    | some ch =>
      simp only [lower, hi]
      exact relay_blocksOwn _ (fun st : σp × List (Layer σc Ev Cmd Reply) => invp st.1) _ hs _
        (emitted_never_blocking_true (Hc i) nil ch ev) _ (ih _)

private theorem NoBlock.pQuiet {g : PGen σp Ev Cmd Reply} (hg : NoBlock g) : PQuiet (fun _ => True) g := by
  induction hg with
  | done s => exact .done s trivial
  | yield s c b k hb _ ih => exact .yield s c b k trivial hb ih
  | child s i ev k _ ih => exact .child s i ev k trivial ih

/-- **Blocking one layer never blocks the layers above it.**  A parent whose own yields are non-blocking,
    relaying any number of child layers with ARBITRARY handlers (which may block at will, in any state):
    for every schedule the parent is never paused, never queues, and has passed every arrival to its
    `_handle_event` immediately, in order. -/
theorem child_block_does_not_block_parent [DecidableEq Cmd]
    (PH : σp → Event Ev Cmd Reply → PGen σp Ev Cmd Reply) (hPH : ∀ s ev, NoBlock (PH s ev))
    (Hc : Nat → Handler σc Ev Cmd Reply) (nil : Reply) (s0 : σp) (chs0 : List (Layer σc Ev Cmd Reply))
    (evs : List (Event Ev Cmd Reply)) :
    let P := runSched (parentHandler PH Hc nil) nil (Layer.init (s0, chs0)) evs
    P.paused = none ∧ P.queue = [] ∧ handled P.log = evs := by
  -- `pauses_only_on_own_blocking` with no command `own`: the trace has no pause, so (`scan_no_pause`) no resume, and ends idle
  intro P
  have h := (pauses_only_on_own_blocking (fun _ : Cmd => False) (fun _ => True) (parentHandler PH Hc nil) nil
    (fun st ev _ => lower_quiet _ Hc nil _ (hPH st.1 ev).pQuiet st.2) (s0, chs0) trivial evs).2
  obtain ⟨hn, hr⟩ := scan_no_pause _ _ (no_handle_while_paused _ nil (s0, chs0) evs)
    (List.eq_nil_iff_forall_not_mem.mpr h)
  have hp : P.paused = none := by simpa using hn
  have hq := (handled_eq_arrivals _ nil (s0, chs0) evs).2 hp
  exact ⟨hp, hq, by simpa [hq] using handled_eq_arrivals_verbatim _ nil (s0, chs0) evs hr⟩

/-! ### whatever a child's `handle_event` preserves holds of every child of a parent -/

/-- `Q` holds of every child of the parent, also of the children captured in the parent's suspended generator
    (`KInv` of Lemmas/C04 with `C chs := ∀ ch ∈ chs, Q ch`, written out; `AllInv` and `TreeOwn` are defined through it, with
    `Q` the same predicate one level down) -/
structure CInv [DecidableEq Cmd] (Q : Layer σc Ev Cmd Reply → Prop) (Hc : Nat → Handler σc Ev Cmd Reply) (nil : Reply)
    (P : Layer (σp × List (Layer σc Ev Cmd Reply)) Ev Cmd Reply) : Prop where
  kids : ∀ ch ∈ P.st.2, Q ch
  cont : ∀ c k, P.paused = some (c, k) → ∀ r, ∃ (g : PGen σp Ev Cmd Reply) (chs : List (Layer σc Ev Cmd Reply)),
          k r = lower Hc nil g chs ∧ ∀ ch ∈ chs, Q ch

theorem children_step [DecidableEq Cmd] (Q : Layer σc Ev Cmd Reply → Prop)
    (PH : σp → Event Ev Cmd Reply → PGen σp Ev Cmd Reply) (Hc : Nat → Handler σc Ev Cmd Reply) (nil : Reply)
    (hQ : ∀ i ch ev, Q ch → Q (handleEvent (Hc i) nil ch ev).1)
    (P : Layer (σp × List (Layer σc Ev Cmd Reply)) Ev Cmd Reply) (ev : Event Ev Cmd Reply)
    (h : CInv Q Hc nil P) : CInv Q Hc nil (handleEvent (parentHandler PH Hc nil) nil P ev).1 :=
  have hC : ∀ (chs : List (Layer σc Ev Cmd Reply)) i ch ev, chs[i]? = some ch → (∀ x ∈ chs, Q x) →
      ∀ x ∈ chs.set i (handleEvent (Hc i) nil ch ev).1, Q x :=
    fun _ i ch ev hi h x hx =>
      (List.mem_or_eq_of_mem_set hx).elim (h x) (fun e => e ▸ hQ i ch ev (h ch (List.mem_of_getElem? hi)))
  let ⟨a, b⟩ := (kinv_keeps _ PH Hc nil hC).step P ev ⟨h.kids, h.cont⟩
  ⟨a, b⟩

/-- **Whatever holds of a child layer and is preserved by its `handle_event` holds of every child of a
    parent, for every schedule delivered to the parent** (the parent touches its children only through
    `handle_event`, also when it resumes a suspended generator that captured them). -/
theorem children_invariant [DecidableEq Cmd] (Q : Layer σc Ev Cmd Reply → Prop)
    (PH : σp → Event Ev Cmd Reply → PGen σp Ev Cmd Reply) (Hc : Nat → Handler σc Ev Cmd Reply) (nil : Reply)
    (hQ : ∀ i ch ev, Q ch → Q (handleEvent (Hc i) nil ch ev).1)
    (s0 : σp) (chs0 : List (Layer σc Ev Cmd Reply)) (h0 : ∀ ch ∈ chs0, Q ch) (evs : List (Event Ev Cmd Reply)) :
    ∀ ch ∈ (runSched (parentHandler PH Hc nil) nil (Layer.init (s0, chs0)) evs).st.2, Q ch :=
  (runSched_keeps (children_step Q PH Hc nil hQ) evs _ ⟨by simpa [Layer.init] using h0, by simp [Layer.init]⟩).kids

/-! ### positional children invariant: the i-th child keeps ITS relation to a fixed i-th reference -/

/-- two lists related element by element, in order -/
inductive Pointwise {α β : Type} (R : α → β → Prop) : List α → List β → Prop where
  | nil : Pointwise R [] []
  | cons {a b l₁ l₂} : R a b → Pointwise R l₁ l₂ → Pointwise R (a :: l₁) (b :: l₂)

private theorem Pointwise.set {α β : Type} {R : α → β → Prop} {xs : List α} {ys : List β} (h : Pointwise R xs ys) :
    ∀ (i : Nat) (y y' : β), ys[i]? = some y → (∀ x, R x y → R x y') → Pointwise R xs (ys.set i y') := by
  induction h with
  | nil => intro i y y' hi; simp at hi
  | cons hab _ ih =>
    intro i y y' hi hr
    cases i with
    | zero =>
      simp only [List.getElem?_cons_zero, Option.some.injEq] at hi
      subst hi
      exact .cons (hr _ hab) (by assumption)
    | succ j =>
      simp only [List.getElem?_cons_succ] at hi
      exact .cons hab (ih j y y' hi hr)

private theorem Pointwise.mem_right {α β : Type} {R : α → β → Prop} {xs : List α} {ys : List β} (h : Pointwise R xs ys) :
    ∀ y ∈ ys, ∃ x ∈ xs, R x y := by
  induction h with
  | nil => intro y hy; simp at hy
  | cons hab _ ih =>
    intro y hy
    rcases List.mem_cons.mp hy with rfl | hy
    · exact ⟨_, by simp, hab⟩
    · obtain ⟨x, hx, hr⟩ := ih y hy
      exact ⟨x, by simp [hx], hr⟩

private theorem Pointwise.refl_of_mem {α : Type} {R : α → α → Prop} (l : List α) (h : ∀ a ∈ l, R a a) : Pointwise R l l := by
  induction l with
  | nil => exact .nil
  | cons a t ih => exact .cons (h a (by simp)) (ih (fun b hb => h b (by simp [hb])))

/-- like `CInv`, but positional: the children (also the ones captured by the suspended generator) are related, one
    by one and in order, to a fixed list of references `xs` -/
structure RInv [DecidableEq Cmd] {ι : Type} (R : ι → Layer σc Ev Cmd Reply → Prop) (xs : List ι)
    (Hc : Nat → Handler σc Ev Cmd Reply) (nil : Reply)
    (P : Layer (σp × List (Layer σc Ev Cmd Reply)) Ev Cmd Reply) : Prop where
  kids : Pointwise R xs P.st.2
  cont : ∀ c k, P.paused = some (c, k) → ∀ r, ∃ (g : PGen σp Ev Cmd Reply) (chs : List (Layer σc Ev Cmd Reply)),
          k r = lower Hc nil g chs ∧ Pointwise R xs chs

theorem children_step_rel [DecidableEq Cmd] {ι : Type} (R : ι → Layer σc Ev Cmd Reply → Prop) (xs : List ι)
    (PH : σp → Event Ev Cmd Reply → PGen σp Ev Cmd Reply) (Hc : Nat → Handler σc Ev Cmd Reply) (nil : Reply)
    (hR : ∀ i x ch ev, R x ch → R x (handleEvent (Hc i) nil ch ev).1)
    (P : Layer (σp × List (Layer σc Ev Cmd Reply)) Ev Cmd Reply) (ev : Event Ev Cmd Reply)
    (h : RInv R xs Hc nil P) : RInv R xs Hc nil (handleEvent (parentHandler PH Hc nil) nil P ev).1 :=
  let ⟨a, b⟩ := (kinv_keeps _ PH Hc nil
    (fun _ i ch ev hi h => Pointwise.set h i ch _ hi (fun x hx => hR i x ch ev hx))).step P ev ⟨h.kids, h.cont⟩
  ⟨a, b⟩

/-! ### NextLayer -/

/-- what is special to NextLayer: until the hand-over the candidate child is untouched and `events` is what
    `_handle_event` was called with; from then on the child is what `handle_event`, called with each of those events in
    turn, has made of the candidate -/
private structure NLD [DecidableEq Cmd] (P : NLParams Ev Cmd Reply) (Hc : Handler σc Ev Cmd Reply) (nil : Reply)
    (ch0 : Layer σc Ev Cmd Reply) (L : Layer (NLState σc Ev Cmd Reply) Ev Cmd Reply) : Prop where
  pre : L.st.handed = false → L.st.child = ch0 ∧ L.st.events = handled L.log ∧
          ∀ c k, L.paused = some (c, k) → k = nlAskCont P Hc nil L.st
  post : L.st.handed = true → L.paused = none ∧ L.st.child = runSched Hc nil ch0 (handled L.log) ∧ L.st.events = []

private theorem nl_keeps [DecidableEq Cmd] (P : NLParams Ev Cmd Reply) (Hc : Handler σc Ev Cmd Reply) (nil : Reply)
    (ch0 : Layer σc Ev Cmd Reply) : Keeps (nlHandler P Hc nil) nil (NLD P Hc nil ch0) where
  frame := fun _ _ _ h => ⟨h.pre, h.post⟩
  handle := by
    intro L ev _ h
    -- `hl`: whatever the generator, its run adds no `handle` entry of its own; the cases say what it does to the state
    obtain ⟨hl, _⟩ := proc_facts nil L (.handle ev) (nlHandler P Hc nil L.st ev)
    cases hh : L.st.handed with
    | false =>
      obtain ⟨h1, h2, _⟩ := h.pre hh
      obtain ⟨r1, r2, r3, r4⟩ := run_unhanded P Hc nil L.st ev hh
      exact ⟨fun _ => ⟨r2.trans h1, by rw [hl, ← h2]; exact r3, r4⟩, fun hc => absurd (r1.symm.trans hc) (by simp)⟩
    | true =>
      obtain ⟨_, h2, h3⟩ := h.post hh
      unfold proc at hl ⊢
      rw [run_handed P Hc nil L.st ev hh] at hl ⊢
      refine ⟨fun hc => by simp [hh] at hc, fun _ => ⟨rfl, ?_, h3⟩⟩
      rw [hl, h2]
      exact (runSched_snoc Hc nil _ ev ch0).symm
  resume := by
    intro L c k r hp h
    obtain ⟨hl, _⟩ := proc_facts nil L (.resume c r) (k r)
    have hh : L.st.handed = false := by
      cases hh : L.st.handed with
      | false => rfl
      | true => have := (h.post hh).1; rw [hp] at this; cases this
    obtain ⟨h1, h2, h3⟩ := h.pre hh
    obtain rfl : k = nlAskCont P Hc nil L.st := h3 c k hp
    unfold proc at hl ⊢
    cases hd : P.decide r with
    | false =>
      rw [run_askcont_false P Hc nil L.st r hd] at hl ⊢
      exact ⟨fun _ => ⟨h1, by rw [hl, h2]; exact (List.append_nil _).symm, nofun⟩, fun hc => by simp [hh] at hc⟩
    | true =>
      rw [run_askcont_true P Hc nil L.st r hd] at hl ⊢
      refine ⟨fun hc => by simp at hc, fun _ => ⟨rfl, ?_, rfl⟩⟩
      rw [hl, replay_fst, h1, h2]
      exact congrArg _ (List.append_nil _).symm

/-- a NextLayer after the hand-over, as the second clause of `nextlayer_replay_in_order_any` describes it -/
private structure NLPost (ch0 : Layer σc Ev Cmd Reply) (L : Layer (NLState σc Ev Cmd Reply) Ev Cmd Reply) : Prop where
  handed : L.st.handed = true
  idle : L.paused = none
  noq : L.queue = []
  noev : L.st.events = []
  part : ∃ xs, L.st.child.arrived = ch0.arrived ++ xs ∧ Interleave xs (resumed L.log) L.arrived

/-- `L'` is `L` but for its trace, which has the same resumes; before the hand-over the traces are the same -/
private structure NLSim (L L' : Layer (NLState σc Ev Cmd Reply) Ev Cmd Reply) : Prop where
  same : L' = { L with log := L'.log }
  res : resumed L'.log = resumed L.log
  pre : L.st.handed = false → L'.log = L.log

/-- **That NextLayer swaps itself out cannot be observed**: calling the child's `handle_event` directly, as
    `NextLayer.handle_event` does after the hand-over, differs from going on through `Layer.handle_event` and the
    re-bound `_handle_event` only in the `handle` and `emit` entries of NextLayer's own trace (layer.py on `_handle`:
    "just an optimization to reduce the callstack").  So a NextLayer is an ordinary layer with handler `nlHandler`,
    and what holds of every layer holds of it. -/
private theorem nl_sim [DecidableEq Cmd] (P : NLParams Ev Cmd Reply) (Hc : Handler σc Ev Cmd Reply) (nil : Reply)
    (ch0 : Layer σc Ev Cmd Reply) (evs : List (Event Ev Cmd Reply)) :
    ∀ (L L' : Layer (NLState σc Ev Cmd Reply) Ev Cmd Reply), NLSim L L' → NLD P Hc nil ch0 L' →
    NLSim (nlRunSched P Hc nil L evs) (runSched (nlHandler P Hc nil) nil L' evs) := by
  induction evs with
  | nil => intro L L' h _; exact h
  | cons ev rest ih =>
    intro L L' h hk
    refine ih _ _ ?_ ((nl_keeps P Hc nil ch0).step L' ev hk)
    cases hh : L.st.handed with
    | false =>
      obtain rfl : L' = L := by rw [h.same, h.pre hh]
      have e : nlHandleEvent P Hc nil L' ev = handleEvent (nlHandler P Hc nil) nil L' ev := by simp [nlHandleEvent, hh]
      rw [e]
      exact ⟨rfl, rfl, fun _ => rfl⟩
    | true =>
      obtain ⟨l, rfl⟩ : ∃ l, L' = { L with log := l } := ⟨_, h.same⟩
      have hp : L.paused = none := (hk.post hh).1
      obtain ⟨_, hr, _⟩ := proc_facts nil { L with log := l, arrived := L.arrived ++ [ev] } (.handle ev)
        (nlHandler P Hc nil L.st ev)
      rw [handleEvent_idle _ nil { L with log := l } ev hp]
      simp only [nlHandleEvent, hh, if_true, handleFresh]
      refine ⟨?_, hr.trans (by simpa [resumed] using h.res), by simp⟩
      rw [run_handed P Hc nil L.st ev hh]
      simp [hp, hh]

/-- the NextLayer theorems in one statement.  `xs` is what an ordinary layer with NextLayer's handler has passed to its
    `_handle_event`: until the hand-over that is what NextLayer has buffered, afterwards what the child has been driven with -/
private theorem nl_run [DecidableEq Cmd] (P : NLParams Ev Cmd Reply) (Hc : Handler σc Ev Cmd Reply) (nil : Reply)
    (ch0 : Layer σc Ev Cmd Reply) (evs : List (Event Ev Cmd Reply)) :
    let L := nlRunSched P Hc nil (nlInit ch0) evs
    ∃ xs, Interleave (xs ++ L.queue) (resumed L.log) evs ∧
      (L.st.handed = false → L.st.child = ch0 ∧ L.st.events = xs) ∧
      (L.st.handed = true → L.st.child = runSched Hc nil ch0 xs ∧ L.st.events = [] ∧ L.queue = [] ∧ L.paused = none) := by
  intro L
  have init : NLD P Hc nil ch0 (nlInit ch0) :=
    ⟨fun _ => by simp [nlInit, Layer.init, handled], fun h => by simp [nlInit, Layer.init] at h⟩
  have s := nl_sim P Hc nil ch0 evs _ _ ⟨rfl, rfl, fun _ => rfl⟩ init
  have hi := runSched_keeps (step_facts (nlHandler P Hc nil) nil) evs (nlInit ch0) (inv_init _)
  have hd := runSched_keeps (nl_keeps P Hc nil ch0).step evs _ init
  have hp := hi.part
  rw [runSched_arrived, s.res] at hp
  generalize runSched (nlHandler P Hc nil) nil (nlInit ch0) evs = L' at s hi hd hp
  obtain ⟨l, rfl⟩ : ∃ l, L' = { L with log := l } := ⟨_, s.same⟩
  refine ⟨_, hp, fun hh => ⟨(hd.pre hh).1, (hd.pre hh).2.1⟩, fun hh => ?_⟩
  obtain ⟨p1, p2, p3⟩ := hd.post hh
  exact ⟨p2, p3, hi.idle p1, p1⟩

/-- `nextlayer_replay_in_order` without any assumption on the candidate child: whatever `ch0` has already
    received stays a prefix; what it receives through NextLayer is the sequence `xs` -/
theorem nextlayer_replay_in_order_any [DecidableEq Cmd] (P : NLParams Ev Cmd Reply) (Hc : Handler σc Ev Cmd Reply)
    (nil : Reply) (ch0 : Layer σc Ev Cmd Reply) (evs : List (Event Ev Cmd Reply)) :
    let L := nlRunSched P Hc nil (nlInit ch0) evs
    (L.st.handed = false → L.st.child = ch0 ∧ Interleave (L.st.events ++ L.queue) (resumed L.log) evs) ∧
    (L.st.handed = true → (∃ xs, L.st.child.arrived = ch0.arrived ++ xs ∧ Interleave xs (resumed L.log) evs) ∧
        L.st.events = [] ∧ L.queue = [] ∧ L.paused = none) := by
  intro L
  obtain ⟨xs, hp, hpre, hpost⟩ := nl_run P Hc nil ch0 evs
  refine ⟨fun hh => ?_, fun hh => ?_⟩
  · obtain ⟨d1, d2⟩ := hpre hh
    exact ⟨d1, d2 ▸ hp⟩
  · obtain ⟨p2, p3, q, p1⟩ := hpost hh
    rw [q, List.append_nil] at hp
    exact ⟨⟨xs, p2 ▸ runSched_arrived Hc nil xs ch0, hp⟩, p3, q, p1⟩

/-- **Events that arrive before a protocol has been chosen reach the chosen layer in arrival order.**
    For every child handler, every classification of events, every decision function and every schedule
    delivered to a fresh NextLayer (the candidate child `ch0` has received nothing yet):
    * as long as no layer is chosen the child is untouched, and the arrivals are an interleaving of
      `NextLayer.events ++ _paused_event_queue` (everything buffered, in arrival order) with the hook
      completions NextLayer consumed itself;
    * once a layer is chosen, the arrivals are an interleaving of *exactly the sequence of events passed to
      the child's `handle_event`* with those hook completions: buffered events first, then the events queued
      during the hook, then everything later — each once, in arrival order; nothing remains buffered. -/
theorem nextlayer_replay_in_order [DecidableEq Cmd] (P : NLParams Ev Cmd Reply) (Hc : Handler σc Ev Cmd Reply)
    (nil : Reply) (ch0 : Layer σc Ev Cmd Reply) (h0 : ch0.arrived = []) (evs : List (Event Ev Cmd Reply)) :
    let L := nlRunSched P Hc nil (nlInit ch0) evs
    (L.st.handed = false → L.st.child = ch0 ∧ Interleave (L.st.events ++ L.queue) (resumed L.log) evs) ∧
    (L.st.handed = true → Interleave L.st.child.arrived (resumed L.log) evs ∧ L.st.events = [] ∧
        L.queue = [] ∧ L.paused = none) := by
  have h := nextlayer_replay_in_order_any P Hc nil ch0 evs
  refine ⟨h.1, fun hh => ?_⟩
  obtain ⟨⟨xs, hx, e⟩, r⟩ := h.2 hh
  rw [h0, List.nil_append] at hx
  rw [hx]
  exact ⟨e, r⟩

/-- **NextLayer is transparent for the chosen layer.**  After any schedule, the child's whole configuration
    (attributes, suspended generator, queue, trace) is EXACTLY what it would be had it been driven directly, from the
    configuration `ch0` it was created in, with the sequence `xs` of events it received through NextLayer — and once a
    layer was chosen `xs` is the arrivals minus the hook completions NextLayer consumed, order kept.  Buffering,
    replay, the re-bound `_handle_event` and the swap leave no trace in the child. -/
theorem nextlayer_transparent_any [DecidableEq Cmd] (P : NLParams Ev Cmd Reply) (Hc : Handler σc Ev Cmd Reply)
    (nil : Reply) (ch0 : Layer σc Ev Cmd Reply) (evs : List (Event Ev Cmd Reply)) :
    let L := nlRunSched P Hc nil (nlInit ch0) evs
    ∃ xs, L.st.child.arrived = ch0.arrived ++ xs ∧ L.st.child = runSched Hc nil ch0 xs ∧
      (L.st.handed = true → Interleave xs (resumed L.log) evs) ∧ (L.st.handed = false → xs = []) := by
  intro L
  obtain ⟨xs, hp, hpre, hpost⟩ := nl_run P Hc nil ch0 evs
  cases hh : L.st.handed with
  | false =>
    have d1 : L.st.child = ch0 := (hpre hh).1
    exact ⟨[], by rw [d1, List.append_nil], d1, nofun, fun _ => rfl⟩
  | true =>
    obtain ⟨p2, _, q, _⟩ := hpost hh
    rw [q, List.append_nil] at hp
    exact ⟨xs, p2 ▸ runSched_arrived Hc nil xs ch0, p2, fun _ => hp, nofun⟩

/-- for a candidate child that has not received anything yet: `xs` is all it has received -/
theorem nextlayer_transparent [DecidableEq Cmd] (P : NLParams Ev Cmd Reply) (Hc : Handler σc Ev Cmd Reply)
    (nil : Reply) (ch0 : Layer σc Ev Cmd Reply) (h0 : ch0.arrived = []) (evs : List (Event Ev Cmd Reply)) :
    let L := nlRunSched P Hc nil (nlInit ch0) evs
    L.st.child = runSched Hc nil ch0 L.st.child.arrived ∧
    (L.st.handed = true → Interleave L.st.child.arrived (resumed L.log) evs) ∧
    (L.st.handed = false → L.st.child = ch0) := by
  obtain ⟨xs, ha, he, hi, hn⟩ := nextlayer_transparent_any P Hc nil ch0 evs
  rw [h0, List.nil_append] at ha
  subst ha
  exact ⟨he, hi, fun h => by rw [he, hn h]; rfl⟩

/-- **The layer chosen by NextLayer is only ever driven through its `handle_event`** — while buffered events
    are replayed, while the events queued during the hook are forwarded through the re-bound `_handle_event`,
    and after NextLayer has swapped itself out.  Hence every property `Q` of the child that `handle_event`
    preserves holds of it after every schedule delivered to the NextLayer. -/
theorem nextlayer_child_invariant_any [DecidableEq Cmd] (Q : Layer σc Ev Cmd Reply → Prop) (P : NLParams Ev Cmd Reply)
    (Hc : Handler σc Ev Cmd Reply) (nil : Reply) (hQ : ∀ ch ev, Q ch → Q (handleEvent Hc nil ch ev).1)
    (ch0 : Layer σc Ev Cmd Reply) (hq0 : Q ch0) (evs : List (Event Ev Cmd Reply)) :
    Q (nlRunSched P Hc nil (nlInit ch0) evs).st.child := by
  obtain ⟨xs, _, he, _⟩ := nextlayer_transparent_any P Hc nil ch0 evs
  exact he ▸ runSched_keeps hQ xs ch0 hq0

/-- `nextlayer_child_invariant_any` under the hypothesis of `nextlayer_replay_in_order` (a fresh candidate), which it
    does not use -/
theorem nextlayer_child_invariant [DecidableEq Cmd] (Q : Layer σc Ev Cmd Reply → Prop) (P : NLParams Ev Cmd Reply)
    (Hc : Handler σc Ev Cmd Reply) (nil : Reply) (hQ : ∀ ch ev, Q ch → Q (handleEvent Hc nil ch ev).1)
    (ch0 : Layer σc Ev Cmd Reply) (_h0 : ch0.arrived = []) (hq0 : Q ch0) (evs : List (Event Ev Cmd Reply)) :
    Q (nlRunSched P Hc nil (nlInit ch0) evs).st.child :=
  nextlayer_child_invariant_any Q P Hc nil hQ ch0 hq0 evs

/-- hence the layer chosen by NextLayer itself behaves like a sequential blocking interpreter over the
    events it was passed (instance of `sequential_blocking_equivalence` through `nextlayer_transparent`) -/
theorem nextlayer_child_sequential [DecidableEq Cmd] (P : NLParams Ev Cmd Reply) (Hc : Handler σc Ev Cmd Reply)
    (nil : Reply) (s : σc) (evs : List (Event Ev Cmd Reply)) :
    let ch := (nlRunSched P Hc nil (nlInit (Layer.init s)) evs).st.child
    seq Hc nil s none [] [] (handled ch.log ++ ch.queue) (repliesOf (resumed ch.log)) =
      ⟨ch.st, ch.paused, ch.log, (runSchedOut Hc nil (Layer.init s) [] ch.arrived).2, ch.queue, []⟩ := by
  have ht := (nextlayer_transparent P Hc nil (Layer.init s) rfl evs).1
  have hs := (sequential_blocking_equivalence Hc nil s
    (nlRunSched P Hc nil (nlInit (Layer.init s)) evs).st.child.arrived).2
  simp only at ht hs ⊢
  rw [← ht] at hs
  exact hs

end generic

/-! ### the interpreted programs of the correspondence run satisfy the hypotheses above -/
section prog
open Prog

private theorem runActs_owns (idx : Nat) (ev : E) (acts : List Act) :
    ∀ s : S, Owns (fun c : Cmd => c.layer = idx) (runActs idx ev acts s) := by
  induction acts with
  | nil => intro s; exact .done s
  | cons a t ih =>
    intro s
    cases a with
    | y label b => exact .yield _ _ _ _ rfl (fun r => ih _)
    | ch i => exact .child _ _ _ _ (ih s)
    | sw m => exact ih s

/-- AUXILIARY: about `Prog.interp`, the interpreter of the fixed tree 1-(2-(4),3-(5)), which the driver does not
    run (it runs `interpN`/`HT`); the `exH`/`exParent` examples use it.  For what the driver runs the same fact, with
    the index as a state invariant, is `runActsN_powns`. -/
theorem interp_owns (idx : Nat) (tab : Table) (s : S) (ev : E) :
    Owns (fun c : Cmd => c.layer = idx) (interp idx tab s ev) :=
  runActs_owns idx ev _ s

private theorem runActs_noblock (idx : Nat) (ev : E) (acts : List Act)
    (h : ∀ a ∈ acts, ∀ l, a ≠ Act.y l true) : ∀ s : S, NoBlock (runActs idx ev acts s) := by
  induction acts with
  | nil => intro s; exact .done s
  | cons a t ih =>
    intro s
    have ht := ih (fun a ha => h a (by simp [ha]))
    cases a with
    | y label b =>
      cases b with
      | true => exact absurd rfl (h _ (by simp) label)
      | false => exact .yield _ _ _ _ (by simp) (fun r => ht _)
    | ch i => exact .child _ _ _ _ (ht s)
    | sw m => exact ht s

private theorem getD_nil_or_mem {α : Type} (l : List (List α)) (k : Nat) : l.getD k [] = [] ∨ l.getD k [] ∈ l := by
  by_cases hk : k < l.length
  · right; rw [List.getD_eq_getElem?_getD, List.getElem?_eq_getElem hk]; simp
  · left; rw [List.getD_eq_getElem?_getD, List.getElem?_eq_none (by omega)]; rfl

/-- AUXILIARY (see `interp_owns`): a table without blocking yields gives a `NoBlock` parent, for the interpreter of
    the fixed tree.  The tied counterparts are `interpN_quiet` / `tree_node_without_blocking_never_pauses`. -/
theorem interp_noblock (idx : Nat) (tab : Table) (h : ∀ acts ∈ tab, ∀ a ∈ acts, ∀ l, a ≠ Act.y l true)
    (s : S) (ev : E) : NoBlock (interp idx tab s ev) := by
  apply runActs_noblock
  intro a ha
  rcases getD_nil_or_mem tab (kindOf idx ev) with h0 | h1
  · rw [h0] at ha; simp at ha
  · exact h _ h1 a ha

/-! #### trees of arbitrary depth and branching (`Prog.TS d`, `Prog.HT d`): induction over the tree -/

/-- every layer of the tree — at any depth — satisfies the single-layer invariant `Inv` with respect to ITS OWN
    arrivals (`part`: handled ++ queued and resumes partition the arrivals in order; `idle`: nothing queued
    unless paused; `disc`: pause/resume discipline), including the child layers captured by a suspended
    generator of any ancestor -/
def AllInv : (d : Nat) → Layer (TS d) Ev Cmd Reply → Prop
  | 0, L => Inv L
  | d + 1, L => Inv L ∧ CInv (σp := Node) (AllInv d) (fun _ => HT d) 0 L

theorem AllInv.root : ∀ {d : Nat} {L : Layer (TS d) Ev Cmd Reply}, AllInv d L → Inv L
  | 0, _, h => h
  | _ + 1, _, h => h.1

theorem AllInv.child {d : Nat} {L : Layer (TS (d + 1)) Ev Cmd Reply} (h : AllInv (d + 1) L) :
    ∀ ch ∈ L.st.2, AllInv d ch := h.2.kids

theorem tree_step : ∀ (d : Nat) (L : Layer (TS d) Ev Cmd Reply) (ev : E), AllInv d L →
    AllInv d (handleEvent (HT d) 0 L ev).1
  | 0, L, ev, h => step_facts (HT 0) 0 L ev h
  | d + 1, L, ev, h =>
    ⟨step_facts (HT (d + 1)) 0 L ev h.1,
     children_step (AllInv d) interpN (fun _ => HT d) 0 (fun _ ch ev' h' => tree_step d ch ev' h') L ev h.2⟩

/-- a tree in which no layer has received anything yet -/
def FreshTree : (d : Nat) → Layer (TS d) Ev Cmd Reply → Prop
  | 0, L => ∃ n : Node, L = Layer.init n
  | d + 1, L => ∃ (n : Node) (chs : List (Layer (TS d) Ev Cmd Reply)),
      L = Layer.init ((n, chs) : Node × List (Layer (TS d) Ev Cmd Reply)) ∧ ∀ ch ∈ chs, FreshTree d ch

private theorem allInv_fresh : ∀ (d : Nat) (L : Layer (TS d) Ev Cmd Reply), FreshTree d L → AllInv d L
  | 0, L, h => by obtain ⟨n, rfl⟩ := h; exact inv_init n
  | d + 1, L, h => by
    obtain ⟨n, chs, rfl, hk⟩ := h
    exact ⟨inv_init _, ⟨fun ch hc => allInv_fresh d ch (hk ch hc), by simp [Layer.init]⟩⟩

/-- **In a layer tree of ANY depth and branching, whose layers may re-bind their handlers at run time, every
    layer handles every event it receives exactly once and in arrival order, never while it waits, and is
    resumed only by its own completion** — for every schedule delivered to the root (induction over the
    schedule and over the tree). -/
theorem tree_every_layer_in_order (d : Nat) (L0 : Layer (TS d) Ev Cmd Reply) (h0 : FreshTree d L0)
    (evs : List E) : AllInv d (runSched (HT d) 0 L0 evs) :=
  runSched_keeps (tree_step d) evs L0 (allInv_fresh d L0 h0)

/-- a whole layer tree behind a NextLayer: after any schedule (before, during and after the hand-over) every
    layer of the tree still satisfies the single-layer invariant w.r.t. its own arrivals -/
theorem nextlayer_tree_in_order (P : NLParams Ev Cmd Reply) (d : Nat) (L0 : Layer (TS d) Ev Cmd Reply)
    (h0 : FreshTree d L0) (evs : List E) : AllInv d (nlRunSched P (HT d) 0 (nlInit L0) evs).st.child :=
  nextlayer_child_invariant_any (AllInv d) P (HT d) 0 (fun ch ev h => tree_step d ch ev h) L0
    (allInv_fresh d L0 h0) evs

/-! #### in a tree of any shape every layer pauses only on its own commands (clause "blocking one layer never
    blocks the layers above it", for whole trees and whole histories) -/

private theorem runActsN_powns (ev : E) (acts : List Act) (i : Nat) :
    ∀ n : Node, n.idx = i → POwns (fun c : Cmd => c.layer = i) (fun m : Node => m.idx = i) (runActsN ev acts n) := by
  induction acts with
  | nil => intro n hn; exact .done n hn
  | cons a t ih =>
    intro n hn
    cases a with
    | y label b => exact .yield _ _ _ _ hn hn (fun r => ih _ hn)
    | ch j => exact .child _ _ _ _ hn (ih n hn)
    | sw m => exact ih { n with mode := m } hn

/-- every layer of the tree, at any depth: its index never changes, every pause in its trace is on a command
    carrying its own index, and the same holds for the child layers captured by suspended generators -/
def TreeOwn : (d : Nat) → Layer (TS d) Ev Cmd Reply → Prop
  | 0, L => ∃ i, OInv (fun c : Cmd => c.layer = i) (fun m : Node => m.idx = i) L
  | d + 1, L => (∃ i, OInv (fun c : Cmd => c.layer = i)
        (fun st : Node × List (Layer (TS d) Ev Cmd Reply) => st.1.idx = i) L) ∧
      CInv (σp := Node) (TreeOwn d) (fun _ => HT d) 0 L

theorem tree_own_step : ∀ (d : Nat) (L : Layer (TS d) Ev Cmd Reply) (ev : E), TreeOwn d L →
    TreeOwn d (handleEvent (HT d) 0 L ev).1
  | 0, L, ev, ⟨i, h⟩ =>
    ⟨i, oinv_step _ _ (HT 0) 0
      (fun n e hn => flat_blocksOwn _ _ _ (runActsN_powns e _ i n hn)) L ev h⟩
  | d + 1, L, ev, ⟨⟨i, h⟩, hc⟩ =>
    ⟨⟨i, oinv_step _ _ (HT (d + 1)) 0
        (fun st e hn => lower_blocksOwn _ _ (fun _ => HT d) 0 _ (runActsN_powns e _ i st.1 hn) st.2) L ev h⟩,
     children_step (TreeOwn d) interpN (fun _ => HT d) 0 (fun _ ch ev' h' => tree_own_step d ch ev' h') L ev hc⟩

private theorem treeOwn_fresh : ∀ (d : Nat) (L : Layer (TS d) Ev Cmd Reply), FreshTree d L → TreeOwn d L
  | 0, L, h => by
    obtain ⟨n, rfl⟩ := h
    exact ⟨n.idx, oinv_init _ _ n rfl⟩
  | d + 1, L, h => by
    obtain ⟨n, chs, rfl, hk⟩ := h
    exact ⟨⟨n.idx, oinv_init _ _ (n, chs) rfl⟩,
           ⟨fun ch hc => treeOwn_fresh d ch (hk ch hc), by simp [Layer.init]⟩⟩

/-- **Every layer of a tree pauses only on commands carrying its own index.**  In a layer tree of any depth and
    branching with re-bindable handlers, after any schedule delivered to the root, every layer has only ever
    paused on commands carrying its own index.  (This excludes "paused on a descendant's
    command" only when no descendant carries the same index; the reading in terms of descendants, under `Nodup` of the
    indices, is `tree_no_layer_paused_by_descendant` below.  The structural reason, independent of indices, is
    `lower_blocksOwn` / `emitted_never_blocking_true`: a relayed command never carries `blocking is True`.) -/
theorem tree_layers_pause_only_on_own (d : Nat) (L0 : Layer (TS d) Ev Cmd Reply) (h0 : FreshTree d L0)
    (evs : List E) : TreeOwn d (runSched (HT d) 0 L0 evs) :=
  runSched_keeps (tree_own_step d) evs L0 (treeOwn_fresh d L0 h0)

/-- the same behind a NextLayer (same remark: index-relative; see `nextlayer_tree_no_layer_paused_by_descendant`) -/
theorem nextlayer_tree_pause_only_on_own (P : NLParams Ev Cmd Reply) (d : Nat) (L0 : Layer (TS d) Ev Cmd Reply)
    (h0 : FreshTree d L0) (evs : List E) : TreeOwn d (nlRunSched P (HT d) 0 (nlInit L0) evs).st.child :=
  nextlayer_child_invariant_any (TreeOwn d) P (HT d) 0 (fun ch ev h => tree_own_step d ch ev h) L0
    (treeOwn_fresh d L0 h0) evs

/-! #### the tied form of "a parent whose own yields are non-blocking is never paused" (for `interpN`, what the driver runs) -/

private theorem runActsN_quiet (ev : E) (T : List Table) (acts : List Act) (h : ∀ a ∈ acts, ∀ l, a ≠ Act.y l true) :
    ∀ n : Node, n.tabs = T → PQuiet (fun m : Node => m.tabs = T) (runActsN ev acts n) := by
  induction acts with
  | nil => intro n hn; exact .done n hn
  | cons a t ih =>
    intro n hn
    have ht := ih (fun a ha => h a (by simp [ha]))
    cases a with
    | y label b =>
      cases b with
      | true => exact absurd rfl (h _ (by simp) label)
      | false => exact .yield _ _ _ _ hn (by simp) (fun r => ht _ hn)
    | ch j => exact .child _ _ _ _ hn (ht n hn)
    | sw m => exact ht { n with mode := m } hn

/-- a node none of whose handler tables contains a blocking yield is `PQuiet` whichever handler is bound, whatever the
    event.  The state invariant is `tabs = T`: `.sw` changes `mode` only, so every handler it can bind is a table of `T`. -/
theorem interpN_quiet (T : List Table) (hT : ∀ tab ∈ T, ∀ acts ∈ tab, ∀ a ∈ acts, ∀ l, a ≠ Act.y l true)
    (n : Node) (hn : n.tabs = T) (ev : E) : PQuiet (fun m : Node => m.tabs = T) (interpN n ev) := by
  apply runActsN_quiet ev T _ _ n hn
  intro a ha
  rw [hn] at ha
  rcases getD_nil_or_mem T n.mode with h0 | h1
  · rw [h0] at ha; simp at ha
  · rcases getD_nil_or_mem (T.getD n.mode []) (kindOfN n ev) with h2 | h2
    · rw [h2] at ha; simp at ha
    · exact hT _ h1 _ h2 a ha

/-- **Blocking children never pause a parent that does not block itself** — tied form: a tree node (any depth, any
    children in any state, handlers re-bound at will) none of whose tables has a blocking yield is never paused, over
    every schedule. -/
theorem tree_node_without_blocking_never_pauses (d : Nat) (n : Node) (chs : List (Layer (TS d) Ev Cmd Reply))
    (hT : ∀ tab ∈ n.tabs, ∀ acts ∈ tab, ∀ a ∈ acts, ∀ l, a ≠ Act.y l true) (evs : List E) :
    pausedOn (runSched (HT (d + 1)) 0 (Layer.init ((n, chs) : Node × List (Layer (TS d) Ev Cmd Reply))) evs).log = [] := by
  have h := pauses_only_on_own_blocking (fun _ : Cmd => False)
    (fun st : Node × List (Layer (TS d) Ev Cmd Reply) => st.1.tabs = n.tabs) (HT (d + 1)) 0
    (fun st e hn => lower_quiet _ (fun _ => HT d) 0 _ (interpN_quiet n.tabs hT st.1 hn e) st.2)
    ((n, chs) : Node × List (Layer (TS d) Ev Cmd Reply)) rfl evs
  exact List.eq_nil_iff_forall_not_mem.mpr (fun c hc => h.2 c hc)

/-! #### … and the reading "no layer is paused because a DESCENDANT blocks", for trees with pairwise distinct indices

  `TreeOwn` says: every pause of a layer is on a command carrying that layer's index.  That separates a layer's own
  commands from those of its descendants only if no descendant carries the same index.  `TI d A L` pins every layer of the
  running tree `L` to the layer at the same position of the INITIAL tree `A` (same index, own pauses only), so the
  indices never change (`ti_idxs`), and with `Nodup` of the initial indices every pause of every layer is on a command
  whose index occurs in NONE of its descendants (`PauseSep`). -/

/-- the indices of a tree, preorder -/
def idxs : (d : Nat) → Layer (TS d) Ev Cmd Reply → List Nat
  | 0, L => [L.st.idx]
  | d + 1, L => L.st.1.idx :: L.st.2.flatMap (idxs d)

/-- `L` is the tree `A` after some history: position by position the same index, every layer paused only on
    commands with ITS index, also in the children captured by suspended generators -/
def TI : (d : Nat) → Layer (TS d) Ev Cmd Reply → Layer (TS d) Ev Cmd Reply → Prop
  | 0, A, L => OInv (fun c : Cmd => c.layer = A.st.idx) (fun m : Node => m.idx = A.st.idx) L
  | d + 1, A, L =>
      OInv (fun c : Cmd => c.layer = A.st.1.idx)
        (fun st : Node × List (Layer (TS d) Ev Cmd Reply) => st.1.idx = A.st.1.idx) L ∧
      RInv (σp := Node) (TI d) A.st.2 (fun _ => HT d) 0 L

theorem ti_step : ∀ (d : Nat) (A L : Layer (TS d) Ev Cmd Reply) (ev : E), TI d A L →
    TI d A (handleEvent (HT d) 0 L ev).1
  | 0, A, L, ev, h =>
    oinv_step _ _ (HT 0) 0 (fun n e hn => flat_blocksOwn _ _ _ (runActsN_powns e _ A.st.idx n hn)) L ev h
  | d + 1, A, L, ev, ⟨h, hc⟩ =>
    ⟨oinv_step _ _ (HT (d + 1)) 0
        (fun st e hn => lower_blocksOwn _ _ (fun _ => HT d) 0 _ (runActsN_powns e _ A.st.1.idx st.1 hn) st.2) L ev h,
     children_step_rel (TI d) A.st.2 interpN (fun _ => HT d) 0 (fun _ x ch ev' h' => ti_step d x ch ev' h') L ev hc⟩

private theorem ti_fresh : ∀ (d : Nat) (L : Layer (TS d) Ev Cmd Reply), FreshTree d L → TI d L L
  | 0, L, h => by
    obtain ⟨n, rfl⟩ := h
    exact oinv_init _ _ n rfl
  | d + 1, L, h => by
    obtain ⟨n, chs, rfl, hk⟩ := h
    exact ⟨oinv_init _ _ (n, chs) rfl,
           ⟨Pointwise.refl_of_mem chs (fun ch hc => ti_fresh d ch (hk ch hc)), by simp [Layer.init]⟩⟩

/-- the indices of the tree never change -/
theorem ti_idxs : ∀ (d : Nat) (A L : Layer (TS d) Ev Cmd Reply), TI d A L → idxs d L = idxs d A
  | 0, A, L, h => by simp only [idxs]; rw [h.st]
  | d + 1, A, L, ⟨h, hc⟩ => by
    have hk : ∀ (xs ys : List (Layer (TS d) Ev Cmd Reply)), Pointwise (TI d) xs ys →
        ys.flatMap (idxs d) = xs.flatMap (idxs d) := by
      intro xs ys hf
      induction hf with
      | nil => rfl
      | cons hab _ ih => simp only [List.flatMap_cons]; rw [ti_idxs d _ _ hab, ih]
    simp only [idxs]
    rw [h.st, hk _ _ hc.kids]

/-- every pause of every layer (at every depth) is on a command whose index occurs in none of that layer's
    descendants -/
def PauseSep : (d : Nat) → Layer (TS d) Ev Cmd Reply → Prop
  | 0, _ => True
  | d + 1, L => (∀ c ∈ pausedOn L.log, ∀ ch ∈ L.st.2, c.layer ∉ idxs d ch) ∧ ∀ ch ∈ L.st.2, PauseSep d ch

theorem ti_pauseSep : ∀ (d : Nat) (A L : Layer (TS d) Ev Cmd Reply), TI d A L → (idxs d A).Nodup → PauseSep d L
  | 0, _, _, _, _ => trivial
  | d + 1, A, L, ⟨h, hc⟩, hn => by
    simp only [idxs, List.nodup_cons] at hn
    obtain ⟨hroot, hrest⟩ := hn
    refine ⟨?_, ?_⟩
    · intro c hcmd ch hch hin
      obtain ⟨a, ha, hta⟩ := Pointwise.mem_right hc.kids ch hch
      rw [ti_idxs d a ch hta, h.logs c hcmd] at hin
      exact hroot (List.mem_flatMap.mpr ⟨a, ha, hin⟩)
    · intro ch hch
      obtain ⟨a, ha, hta⟩ := Pointwise.mem_right hc.kids ch hch
      have hna : (idxs d a).Nodup := by
        rw [List.flatMap_def] at hrest
        exact List.Nodup.sublist (List.sublist_flatten_of_mem (List.mem_map.mpr ⟨a, ha, rfl⟩)) hrest
      exact ti_pauseSep d a ch hta hna

/-- **Blocking one layer never blocks the layers above it — whole trees, whole histories, in terms of descendants.**
    In a fresh layer tree of any depth and branching whose indices are pairwise distinct, after any schedule delivered
    to the root: the indices are what they were, and every pause of every layer is on a command whose index belongs to
    none of its descendants — no layer is ever paused on a command of a layer below it. -/
theorem tree_no_layer_paused_by_descendant (d : Nat) (L0 : Layer (TS d) Ev Cmd Reply) (h0 : FreshTree d L0)
    (hn : (idxs d L0).Nodup) (evs : List E) :
    idxs d (runSched (HT d) 0 L0 evs) = idxs d L0 ∧ PauseSep d (runSched (HT d) 0 L0 evs) := by
  have := runSched_keeps (ti_step d L0) evs L0 (ti_fresh d L0 h0)
  exact ⟨ti_idxs d L0 _ this, ti_pauseSep d L0 _ this hn⟩

/-- the same for a tree behind a NextLayer -/
theorem nextlayer_tree_no_layer_paused_by_descendant (P : NLParams Ev Cmd Reply) (d : Nat)
    (L0 : Layer (TS d) Ev Cmd Reply) (h0 : FreshTree d L0) (hn : (idxs d L0).Nodup) (evs : List E) :
    PauseSep d (nlRunSched P (HT d) 0 (nlInit L0) evs).st.child :=
  ti_pauseSep d L0 _
    (nextlayer_child_invariant_any (TI d L0) P (HT d) 0 (fun ch ev h => ti_step d L0 ch ev h) L0 (ti_fresh d L0 h0) evs) hn

/-- a tree node yields only commands carrying the index it has when the handler is called.  This is NOT yet the
    hypothesis `hPH` of `parent_pauses_only_on_own_commands`, whose `own` is fixed before the state: the index is part of
    the node state, so one needs that it never changes — `runActsN_powns` with the invariant `idx = i`, used by
    `tree_own_step` and `ti_step`. -/
theorem interpN_owns (n : Node) (ev : E) : Owns (fun c : Cmd => c.layer = n.idx) (interpN n ev) :=
  (runActsN_powns ev _ n.idx n rfl).owns

/-! #### non-vacuity: concrete runs (evaluated by the kernel) -/

/-- leaf layer 4: on event kind 1 yield a blocking command then a non-blocking one -/
private def exTab : Table := [[], [.y 1 true, .y 2 false]]
private def exH : Handler S Ev Cmd Reply := fun s ev => (interp 4 exTab s ev).flat
private def exCmd : Cmd := ⟨4, 0, 1, 0⟩
private def exSched : List E := [.plain ⟨1, 0⟩, .plain ⟨5, 1⟩, .completed ⟨9, 9, 9, 9⟩ 3, .completed exCmd 7]

-- after two events the layer is paused on its own command and has queued the second event
example : ((runSched exH 0 (Layer.init ⟨0, 0⟩) (exSched.take 2)).paused.map (·.1)) = some exCmd := by decide +kernel
example : (runSched exH 0 (Layer.init ⟨0, 0⟩) (exSched.take 2)).queue = [.plain ⟨5, 1⟩] := by decide +kernel
-- a foreign completion does not resume it, the own one does; the queue is then drained in order
example : (runSched exH 0 (Layer.init ⟨0, 0⟩) (exSched.take 3)).queue.length = 2 := by decide +kernel
example : handled (runSched exH 0 (Layer.init ⟨0, 0⟩) exSched).log
    = [.plain ⟨1, 0⟩, .plain ⟨5, 1⟩, .completed ⟨9, 9, 9, 9⟩ 3] := by decide +kernel
example : resumed (runSched exH 0 (Layer.init ⟨0, 0⟩) exSched).log = [.completed exCmd 7] := by decide +kernel
-- the reply 7 reached the generator: the next command it yields carries seen = 7
example : (handleEvent exH 0 (runSched exH 0 (Layer.init ⟨0, 0⟩) (exSched.take 3)) (.completed exCmd 7)).2
    = [(⟨4, 1, 2, 7⟩, .no)] := by decide +kernel

-- the reference interpreter on the split of `exSched` (events / own replies): blocked code would emit the
-- blocking command, get 7, emit the follow-up carrying 7, then handle the two other events (which yield nothing)
example : (seq exH 0 ⟨0, 0⟩ none [] [] [.plain ⟨1, 0⟩, .plain ⟨5, 1⟩, .completed ⟨9, 9, 9, 9⟩ 3] [7]).out
    = [(exCmd, .owned), (⟨4, 1, 2, 7⟩, .no)] := by
  have h := (sequential_blocking_equivalence exH 0 ⟨0, 0⟩ exSched).2
  have hh : handled (runSched exH 0 (Layer.init ⟨0, 0⟩) exSched).log ++ (runSched exH 0 (Layer.init ⟨0, 0⟩) exSched).queue
      = [.plain ⟨1, 0⟩, .plain ⟨5, 1⟩, .completed ⟨9, 9, 9, 9⟩ 3] := by decide +kernel
  have hr : repliesOf (resumed (runSched exH 0 (Layer.init ⟨0, 0⟩) exSched).log) = [7] := by decide +kernel
  rw [hh, hr] at h
  rw [h]
  decide

/-- parent layer 2 relays to child 4 and never blocks itself -/
private def exPTab : Table := [[], [.y 0 false, .ch 0, .y 3 false]]
private def exParent : Handler (S × List (Layer S Ev Cmd Reply)) Ev Cmd Reply :=
  parentHandler (interp 2 exPTab) (fun _ => exH) 0
private def exP0 : Layer (S × List (Layer S Ev Cmd Reply)) Ev Cmd Reply := Layer.init (⟨0, 0⟩, [Layer.init ⟨0, 0⟩])

-- the child is paused, the parent is not, and the parent went on to emit its command after the relay
example : (runSched exParent 0 exP0 [.plain ⟨1, 0⟩]).paused.isNone = true := by decide +kernel
example : ((runSched exParent 0 exP0 [.plain ⟨1, 0⟩]).st.2.map (fun ch => ch.paused.map (·.1))) = [some exCmd] := by decide +kernel
example : (handleEvent exParent 0 exP0 (.plain ⟨1, 0⟩)).2
    = [(⟨2, 0, 0, 0⟩, .no), (exCmd, .owned), (⟨2, 1, 3, 0⟩, .no)] := by decide +kernel
example : ∀ s ev, NoBlock (interp 2 exPTab s ev) := interp_noblock 2 exPTab (by
  intro acts ha a h l
  simp only [exPTab, List.mem_cons, List.not_mem_nil, or_false] at ha
  rcases ha with rfl | rfl
  · simp at h
  · simp only [List.mem_cons, List.not_mem_nil, or_false] at h
    rcases h with rfl | rfl | rfl <;> simp)

private def exNL : NLParams Ev Cmd Reply where
  kind e := if e.label = 1 then .data else if e.label = 3 then .clientClosed else .other
  askOnStart := false
  hookCmd n := ⟨0, n, 0, 0⟩
  closeCmd n := ⟨0, n, 1, 0⟩
  decide r := r % 2 == 1

private def exNLSched : List E :=
  [.plain ⟨1, 0⟩, .plain ⟨5, 1⟩, .completed ⟨0, 0, 0, 0⟩ 0, .plain ⟨1, 3⟩, .plain ⟨6, 4⟩, .completed ⟨0, 1, 0, 0⟩ 1, .plain ⟨5, 6⟩]

-- first hook: nothing chosen, everything stays buffered; second hook chooses: the child gets all five
-- non-hook events in arrival order, then the later one
example : (nlRunSched exNL exH 0 (nlInit (Layer.init ⟨0, 0⟩)) (exNLSched.take 3)).st.handed = false := by decide +kernel
example : (nlRunSched exNL exH 0 (nlInit (Layer.init ⟨0, 0⟩)) (exNLSched.take 3)).st.events
    = [.plain ⟨1, 0⟩, .plain ⟨5, 1⟩] := by decide +kernel
example : (nlRunSched exNL exH 0 (nlInit (Layer.init ⟨0, 0⟩)) exNLSched).st.handed = true := by decide +kernel
example : (nlRunSched exNL exH 0 (nlInit (Layer.init ⟨0, 0⟩)) exNLSched).st.child.arrived
    = [.plain ⟨1, 0⟩, .plain ⟨5, 1⟩, .plain ⟨1, 3⟩, .plain ⟨6, 4⟩, .plain ⟨5, 6⟩] := by decide +kernel

/-- a tree of height 3: root 1 (two handlers) over children 2 and 3, child 2 over leaf 4 -/
private def exNodeTabs : List Table :=
  [[[], [.y 1 true, .ch 0, .ch 1], [], [], [], [.sw 1, .ch 0]], [[], [.y 2 false, .ch 0]]]
private def exLeaf (i : Nat) : Layer (TS 0) Ev Cmd Reply := Layer.init ⟨⟨0, 0⟩, 0, i, exNodeTabs, []⟩
private def exMid (i : Nat) (kids : List (Layer (TS 0) Ev Cmd Reply)) (rt : List (List Nat)) :
    Layer (TS 1) Ev Cmd Reply := Layer.init ((⟨⟨0, 0⟩, 0, i, exNodeTabs, rt⟩ : Node), kids)
private def exRoot : Layer (TS 2) Ev Cmd Reply :=
  Layer.init ((⟨⟨0, 0⟩, 0, 1, exNodeTabs, [[2, 4], [3]]⟩ : Node), [exMid 2 [exLeaf 4] [[4]], exMid 3 [] []])

private theorem exRoot_fresh : FreshTree 2 exRoot :=
  ⟨_, _, rfl, by
    intro ch hc
    simp only [List.mem_cons, List.not_mem_nil, or_false] at hc
    rcases hc with rfl | rfl
    · exact ⟨_, _, rfl, by intro g hg; simp only [List.mem_cons, List.not_mem_nil, or_false] at hg; subst hg; exact ⟨_, rfl⟩⟩
    · exact ⟨_, _, rfl, by intro g hg; simp at hg⟩⟩

example : FreshTree 2 exRoot := exRoot_fresh
-- data: the root blocks; event 5 is queued; after the root's completion the relay reaches 2 and 3, which block in
-- turn (2 before it relays to its leaf 4, which gets nothing), and the queued event 5 re-binds the root's handler —
-- the next data is handled by handler 1
example : ((runSched (HT 2) 0 exRoot [.plain ⟨1, 0⟩, .plain ⟨5, 1⟩]).queue) = [.plain ⟨5, 1⟩] := by decide +kernel
example : (runSched (HT 2) 0 exRoot [.plain ⟨1, 0⟩, .plain ⟨5, 1⟩, .completed ⟨1, 0, 1, 0⟩ 3]).st.1.mode = 1 := by decide +kernel
example : (handleEvent (HT 2) 0 (runSched (HT 2) 0 exRoot [.plain ⟨1, 0⟩, .plain ⟨5, 1⟩, .completed ⟨1, 0, 1, 0⟩ 3])
    (.plain ⟨1, 3⟩)).2 = [(⟨1, 1, 2, 3⟩, .no)] := by decide +kernel

-- scan_pause_then_resume / no_handle_while_paused: the accepted trace really contains `pause c` directly followed by
-- `resume c 7` (so the hypothesis `scan p (pre ++ .pause c :: e :: post) = some q` is inhabited by a reachable log)
example : (runSched exH 0 (Layer.init ⟨0, 0⟩) exSched).log =
    [.handle (.plain ⟨1, 0⟩), .emit exCmd .owned, .pause exCmd, .resume exCmd 7, .emit ⟨4, 1, 2, 7⟩ .no,
     .handle (.plain ⟨5, 1⟩), .handle (.completed ⟨9, 9, 9, 9⟩ 3)] := rfl
example : scan none (runSched exH 0 (Layer.init ⟨0, 0⟩) exSched).log = some none ∧
    pausedOn (runSched exH 0 (Layer.init ⟨0, 0⟩) exSched).log = [exCmd] := by decide +kernel
-- ... and `scan` is not the constant acceptor: a trace that handles an event while paused is rejected
example : scan (Ev := Ev) (Reply := Reply) none [.pause exCmd, .handle (.plain ⟨5, 1⟩), .resume exCmd 7] = none := by decide +kernel
example : scan (Ev := Ev) (Reply := Reply) none [.pause exCmd, .resume ⟨9, 9, 9, 9⟩ 7] = none := by decide +kernel

-- handled_eq_arrivals_verbatim: its hypothesis (no resume so far) holds on a run that is paused with a non-empty queue
example : resumed (runSched exH 0 (Layer.init ⟨0, 0⟩) (exSched.take 3)).log = [] ∧
    handled (runSched exH 0 (Layer.init ⟨0, 0⟩) (exSched.take 3)).log ++ (runSched exH 0 (Layer.init ⟨0, 0⟩) (exSched.take 3)).queue
      = exSched.take 3 := by decide +kernel

-- interleaving_irrelevant: both hypotheses hold for two DIFFERENT schedules (completion before / after the second event)
example :
    handled (runSched exH 0 (Layer.init ⟨0, 0⟩) [.plain ⟨1, 0⟩, .plain ⟨5, 1⟩, .completed exCmd 7]).log ++
        (runSched exH 0 (Layer.init ⟨0, 0⟩) [.plain ⟨1, 0⟩, .plain ⟨5, 1⟩, .completed exCmd 7]).queue =
    handled (runSched exH 0 (Layer.init ⟨0, 0⟩) [.plain ⟨1, 0⟩, .completed exCmd 7, .plain ⟨5, 1⟩]).log ++
        (runSched exH 0 (Layer.init ⟨0, 0⟩) [.plain ⟨1, 0⟩, .completed exCmd 7, .plain ⟨5, 1⟩]).queue ∧
    repliesOf (resumed (runSched exH 0 (Layer.init ⟨0, 0⟩) [.plain ⟨1, 0⟩, .plain ⟨5, 1⟩, .completed exCmd 7]).log) =
    repliesOf (resumed (runSched exH 0 (Layer.init ⟨0, 0⟩) [.plain ⟨1, 0⟩, .completed exCmd 7, .plain ⟨5, 1⟩]).log) := by decide +kernel

-- "exactly its own completion": the completion of an EARLIER command of the same layer (stale) does not resume the
-- layer now waiting on its next command; it is queued behind
example : ((runSched exH 0 (Layer.init ⟨0, 0⟩)
      [.plain ⟨1, 0⟩, .completed exCmd 7, .plain ⟨1, 2⟩, .completed exCmd 9]).paused.map (·.1)) = some ⟨4, 2, 1, 0⟩ ∧
    (runSched exH 0 (Layer.init ⟨0, 0⟩)
      [.plain ⟨1, 0⟩, .completed exCmd 7, .plain ⟨1, 2⟩, .completed exCmd 9]).queue = [.completed exCmd 9] ∧
    resumed (runSched exH 0 (Layer.init ⟨0, 0⟩)
      [.plain ⟨1, 0⟩, .completed exCmd 7, .plain ⟨1, 2⟩, .completed exCmd 9]).log = [.completed exCmd 7] := by decide +kernel

-- child_block_does_not_block_parent: with the child paused AND queueing, the parent has handled both arrivals at once
example : handled (runSched exParent 0 exP0 [.plain ⟨1, 0⟩, .plain ⟨1, 1⟩]).log = [.plain ⟨1, 0⟩, .plain ⟨1, 1⟩] ∧
    (runSched exParent 0 exP0 [.plain ⟨1, 0⟩, .plain ⟨1, 1⟩]).queue = [] ∧
    ((runSched exParent 0 exP0 [.plain ⟨1, 0⟩, .plain ⟨1, 1⟩]).st.2.map (fun ch => ch.queue)) = [[.plain ⟨1, 1⟩]] := by decide +kernel

-- NextLayer: while its hook is pending the next event waits in NextLayer's own queue and the candidate child is untouched
example : (nlRunSched exNL exH 0 (nlInit (Layer.init ⟨0, 0⟩)) (exNLSched.take 2)).queue = [.plain ⟨5, 1⟩] ∧
    (nlRunSched exNL exH 0 (nlInit (Layer.init ⟨0, 0⟩)) (exNLSched.take 2)).st.child.arrived = [] ∧
    (nlRunSched exNL exH 0 (nlInit (Layer.init ⟨0, 0⟩)) (exNLSched.take 2)).st.events = [.plain ⟨1, 0⟩] := by decide +kernel
-- a STALE hook completion (hook 0 completed a second time) is not consumed by NextLayer: it is buffered like any
-- event and reaches the chosen layer at its place in arrival order
example : (nlRunSched exNL exH 0 (nlInit (Layer.init ⟨0, 0⟩))
      [.plain ⟨1, 0⟩, .completed ⟨0, 0, 0, 0⟩ 0, .completed ⟨0, 0, 0, 0⟩ 1, .plain ⟨1, 3⟩, .completed ⟨0, 1, 0, 0⟩ 1]).st.child.arrived
    = [.plain ⟨1, 0⟩, .completed ⟨0, 0, 0, 0⟩ 1, .plain ⟨1, 3⟩] ∧
    resumed (nlRunSched exNL exH 0 (nlInit (Layer.init ⟨0, 0⟩))
      [.plain ⟨1, 0⟩, .completed ⟨0, 0, 0, 0⟩ 0, .completed ⟨0, 0, 0, 0⟩ 1, .plain ⟨1, 3⟩, .completed ⟨0, 1, 0, 0⟩ 1]).log
    = [.completed ⟨0, 0, 0, 0⟩ 0, .completed ⟨0, 1, 0, 0⟩ 1] := by decide +kernel

-- tree_layers_pause_only_on_own on the example tree (distinct indices 1,2,3,4): after the root's completion the root is
-- idle again while both of its children are paused on their own commands
example : (runSched (HT 2) 0 exRoot [.plain ⟨1, 0⟩, .plain ⟨5, 1⟩, .completed ⟨1, 0, 1, 0⟩ 3]).paused.isNone = true ∧
    ((runSched (HT 2) 0 exRoot [.plain ⟨1, 0⟩, .plain ⟨5, 1⟩, .completed ⟨1, 0, 1, 0⟩ 3]).st.2.map
      (fun ch => ch.paused.map (·.1))) = [some ⟨2, 0, 1, 0⟩, some ⟨3, 0, 1, 0⟩] := by decide +kernel

-- distinct indices on exRoot, hence every pause is on a command of no descendant
example : (idxs 2 exRoot).Nodup ∧ idxs 2 exRoot = [1, 2, 4, 3] := by decide +kernel
example : PauseSep 2 (runSched (HT 2) 0 exRoot [.plain ⟨1, 0⟩, .completed ⟨1, 0, 1, 0⟩ 5]) :=
  (tree_no_layer_paused_by_descendant 2 exRoot exRoot_fresh (by decide) _).2
/-- a counter-instance: with a REPEATED index the leaf's command satisfies the root's predicate, so
    `TreeOwn` alone does not tell them apart — `Nodup` fails here and `tree_no_layer_paused_by_descendant` does not apply -/
private def dupRoot : Layer (TS 1) Ev Cmd Reply :=
  Layer.init ((⟨⟨0, 0⟩, 0, 4, [[[], [.ch 0]]], [[4]]⟩ : Node), [Layer.init ⟨⟨0, 0⟩, 0, 4, [[[], [.y 1 true]]], []⟩])
example : ¬ (idxs 1 dupRoot).Nodup ∧
    ((runSched (HT 1) 0 dupRoot [.plain ⟨1, 0⟩]).st.2.map (fun ch => ch.paused.map (·.1))) = [some ⟨4, 0, 1, 0⟩] ∧
    (runSched (HT 1) 0 dupRoot [.plain ⟨1, 0⟩]).paused.isNone = true := by decide +kernel
-- a node without blocking yields over a blocking child: hypothesis of tree_node_without_blocking_never_pauses
example : pausedOn (runSched (HT 1) 0 dupRoot [.plain ⟨1, 0⟩, .plain ⟨1, 1⟩]).log = [] :=
  tree_node_without_blocking_never_pauses 0 _ _ (by
    intro tab ht acts ha a h l
    simp only [List.mem_cons, List.not_mem_nil, or_false] at ht; subst ht
    simp only [List.mem_cons, List.not_mem_nil, or_false] at ha
    rcases ha with rfl | rfl
    · simp at h
    · simp only [List.mem_cons, List.not_mem_nil, or_false] at h; subst h; simp) _

end prog

end MitmVerif.Props.C04
