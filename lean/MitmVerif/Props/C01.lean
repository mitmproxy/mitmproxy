/-
  C01 — HTTP/1 forwarding is framing-consistent: property theorems.
  Model: MitmVerif/Model/C01.lean (mitmproxy's functions + `Ref`, the strict RFC 9112 reader used as SPEC).
  Three groups, each about the model's functions against `Ref`: the framing decision (`framing_agrees` and its contrapositives,
  from the case split `validate_cases` and the whitelist lemma `parseTE_codings`); the round trips (the reference reader on
  what `forwardRequest` / `relayResponse` write, in three stages: `head_stage` of Lemmas/C01_FoldG2, framing, body); and
  ambiguity on head lines and raw bytes (Lemmas/C01_Lines, C01_Raw, C01_RawResp).
-/
import MitmVerif.Lemmas.C01_Lines
import MitmVerif.Lemmas.C01_RawResp
namespace MitmVerif.Props.C01
open MitmVerif MitmVerif.C01

/-- what the proxy decides for the body (`expected_http_body_size`) -/
def proxySize (kind : Kind) (reqMethod : Bytes) (fs : List Field) : Option BodySize :=
  match kind with
  | .request => sizeFromHeaders false fs
  | .response st => responseBodySize reqMethod ⟨[], st, [], fs⟩

/-- the proxy's framing decision and the reference reader's denote the same body delimitation -/
def Agree : BodySize → Ref.Framing → Prop
  | .len n, .cl m => n = m
  | .len n, .none => n = 0
  | .chunked, .chunked => True
  | .untilEof, .eof => True
  | _, _ => False


private theorem dropFinalLF_id {v : Bytes} (h : v.getLast? ≠ some 10) : dropFinalLF v = v := by
  unfold dropFinalLF
  cases hl : v.getLast? with
  | none => rfl
  | some c =>
    have : c ≠ 10 := fun e => h (by rw [hl, e])
    simp [this]

private theorem clDigits_spec {c : Bytes} {n : Nat} (h : clDigits c = some n) :
    c ≠ [] ∧ c.all isDigit = true ∧ n = natOfDigits c := by
  unfold clDigits at h
  split at h
  · simp at h
  · simp at h; subst h; decide
  · rename_i x rest _ _
    split at h
    · rename_i hc
      simp at h hc
      refine ⟨by simp, ?_, h.symm⟩
      simp [hc.1.1]; exact hc.2
    · simp at h

/-- in an accepted message the `$` quirk of `parse_content_length` does not arise: a value does not end in LF -/
private theorem parseCL_spec {c : Bytes} {n : Nat} (hv : valueOk c = true) (h : parseCL c = some n) :
    c ≠ [] ∧ c.all isDigit = true ∧ n = natOfDigits c :=
  clDigits_spec (by simpa [parseCL, dropFinalLF_id (valueOk_last hv)] using h)

private theorem cl_items_single {c : Bytes} (hne : c ≠ []) (hd : c.all isDigit = true) :
    Ref.clItems [c] = [c] ∧ Ref.allDigits c = true := by
  have hno : (44 : UInt8) ∉ c := not_mem_of_all hd (by decide)
  constructor
  · simp [Ref.clItems, splitOn_eq, splitSep_no_sep hno, stripBy_digits hd]
  · simp [Ref.allDigits, hd]; cases c <;> simp_all

/-- the three shapes of the framing fields that `validate_headers` lets through; everything below goes through this split -/
private theorem validate_cases {kind : Kind} {version reason : Bytes} {fs : List Field}
    (hv : validateHeaders kind version reason fs = true) :
    (∀ f ∈ fs, nameOk f.1 = true ∧ valueOk f.2 = true) ∧
    ((∃ t cls w, getAll fs sTE = [t] ∧ getAll fs sCL = [] ∧ version = sHttp11 ∧ parseTE t = some (cls, w) ∧
        (match kind with
         | .request => cls = .chunkedFinal
         | .response st => ¬((100 ≤ st ∧ st ≤ 199) ∨ st = 204))) ∨
     (∃ c n, getAll fs sTE = [] ∧ getAll fs sCL = [c] ∧ parseCL c = some n) ∨
     (getAll fs sTE = [] ∧ getAll fs sCL = [])) := by
  unfold validateHeaders at hv
  simp only [Bool.and_eq_true] at hv
  obtain ⟨⟨_, hall⟩, hrest⟩ := hv
  refine ⟨fun f hf => by simpa using List.all_eq_true.mp hall f hf, ?_⟩
  generalize getAll fs sTE = te at hrest
  generalize getAll fs sCL = cl at hrest
  cases te with
  | nil =>
    cases cl with
    | nil => exact Or.inr (Or.inr ⟨rfl, rfl⟩)
    | cons c more =>
      simp at hrest
      obtain ⟨hm, hp⟩ := hrest
      subst hm
      obtain ⟨n, hn⟩ := Option.isSome_iff_exists.mp hp
      exact Or.inr (Or.inl ⟨c, n, rfl, rfl, hn⟩)
  | cons t more =>
    cases cl with
    | cons c cs => simp at hrest
    | nil =>
      simp at hrest
      obtain ⟨⟨⟨hm, hver⟩, hk⟩, hp⟩ := hrest
      subst hm
      left
      cases hpt : parseTE t with
      | none => simp [hpt] at hp
      | some r =>
        obtain ⟨cls, w⟩ := r
        refine ⟨t, cls, w, rfl, rfl, hver, hpt, ?_⟩
        cases kind with
        | request =>
          cases cls with
          | chunkedFinal => rfl
          | other => simp [hpt] at hp
        | response st =>
          simp at hk
          intro hh
          rcases hh with ⟨h1, h2⟩ | h2
          · omega
          · exact hk.2 h2

private theorem getJoined_single {fs : List Field} {n v : Bytes} (h : getAll fs n = [v]) : getJoined fs n = some v := by
  simp [getJoined, h, joinWith]

private theorem getJoined_none {fs : List Field} {n : Bytes} (h : getAll fs n = []) : getJoined fs n = none := by
  simp [getJoined, h]

private theorem parseTE_nonempty {t w : Bytes} {cls : TE} (h : parseTE t = some (cls, w)) : t ≠ [] := by
  intro e; subst e
  have : parseTE [] = none := by decide
  rw [this] at h; simp at h

private theorem codingsOf_single (t : Bytes) : Ref.codingsOf [t] = refCodingsOf t := by
  simp [Ref.codingsOf, refCodingsOf]

private theorem whitelist_codings : ∀ w ∈ Gen.C01.teChunked ++ Gen.C01.teOther,
    (splitOn 44 w).any (fun c => !Ref.knownCodings.contains c) = false ∧
    ¬((splitOn 44 w).count sChunked > 1 ∨ ((splitOn 44 w).contains sChunked ∧ (splitOn 44 w).getLast? ≠ some sChunked)) ∧
    (w ∈ Gen.C01.teChunked → (splitOn 44 w).getLast? = some sChunked) ∧
    (w ∈ Gen.C01.teOther → (splitOn 44 w).getLast? ≠ some sChunked) := by
  decide

private theorem teErrorC_known {cs : List Bytes} (h1 : cs.any (fun c => !Ref.knownCodings.contains c) = false)
    (h2 : ¬(cs.count sChunked > 1 ∨ (cs.contains sChunked ∧ cs.getLast? ≠ some sChunked))) :
    Ref.teErrorC cs sHttp11 .request = (if cs.getLast? ≠ some sChunked then some Ref.cTeReqNotChunked else none) ∧
    ∀ st, Ref.teErrorC cs sHttp11 (.response st) =
      if (100 ≤ st && st ≤ 199) || st = 204 then some Ref.cTe1xx204 else none := by
  simp only [Ref.teErrorC, h1, h2, Bool.false_eq_true, ↓reduceIte, ne_eq, not_true_eq_false, and_self, implies_true]

private theorem noBody_request (m : Bytes) : Ref.noBody .request m = false := rfl

private theorem mem_getAll_iff {fs : List Field} {n c : Bytes} :
    c ∈ getAll fs n ↔ ∃ f ∈ fs, asciiLower f.1 = n ∧ f.2 = c := by
  simp [getAll, and_assoc]


/-! `expected_http_body_size` in the three header shapes `validate_headers` leaves -/

private theorem sizeFromHeaders_te {fs : List Field} {t w : Bytes} {cls : TE} (hte : getAll fs sTE = [t])
    (hcl : getAll fs sCL = []) (hpt : parseTE t = some (cls, w)) (b : Bool) :
    sizeFromHeaders b fs = match cls with
      | .chunkedFinal => some .chunked
      | .other => if b then some .untilEof else if w = Gen.C01.teIdentity then some (.len 0) else some .untilEof := by
  have htne := parseTE_nonempty hpt
  cases cls <;> cases b <;> simp [sizeFromHeaders, getJoined_single hte, getJoined_none hcl, hcl, htne, hpt]

private theorem sizeFromHeaders_cl {fs : List Field} {c : Bytes} {n : Nat} (hte : getAll fs sTE = [])
    (hcl : getAll fs sCL = [c]) (hpc : parseCL c = some n) (b : Bool) : sizeFromHeaders b fs = some (.len n) := by
  have hne : c ≠ [] := by intro e; subst e; simp [parseCL, dropFinalLF, clDigits] at hpc
  simp [sizeFromHeaders, getJoined_none hte, getJoined_single hcl, hne, hpc]

private theorem sizeFromHeaders_plain {fs : List Field} (hte : getAll fs sTE = []) (hcl : getAll fs sCL = []) (b : Bool) :
    sizeFromHeaders b fs = if b then some .untilEof else some (.len 0) := by
  simp [sizeFromHeaders, getJoined_none hte, getJoined_none hcl]

/-- the status / method shortcuts of `expected_http_body_size` are the reference reader's "no body" cases -/
private theorem proxySize_eq (kind : Kind) (m : Bytes) (fs : List Field) :
    proxySize kind m fs = if Ref.noBody kind m then some (.len 0)
      else sizeFromHeaders (match kind with | .request => false | .response _ => true) fs := by
  cases kind with
  | request => rfl
  | response st =>
    simp only [proxySize, responseBodySize, Ref.noBody, noBodyStatus, Bool.or_eq_true, Bool.and_eq_true, decide_eq_true_eq]
    by_cases h1 : asciiUpper m = sHEAD
    · simp [h1]
    · by_cases h2 : 100 ≤ st ∧ st ≤ 199
      · simp [h1, h2]
      · by_cases h3 : st = 204 ∨ st = 304
        · simp [h1, h2, h3]
        · by_cases h4 : 200 ≤ st ∧ st ≤ 299 ∧ asciiUpper m = sCONNECT
          · simp [h2, h3, h4]
          · rw [if_neg h1, if_neg h2, if_neg h3, if_neg h4, if_neg]
            rintro ((h | h) | h)
            · exact h1 h
            · rcases h with (h | h) | h
              · exact h2 h
              · exact h3 (Or.inl h)
              · exact h3 (Or.inr h)
            · exact h4 ⟨h.1.2, h.2, h.1.1⟩

/-- both sides put "no body" before the headers; otherwise it is enough that the header-derived decisions agree -/
private theorem agree_noBody {kind : Kind} {m : Bytes} {fs : List Field} {sz : BodySize} {fr : Ref.Framing}
    (hsz : sizeFromHeaders (match kind with | .request => false | .response _ => true) fs = some sz) (hag : Agree sz fr) :
    ∃ sz' fr', proxySize kind m fs = some sz' ∧
      (if Ref.noBody kind m then Except.ok .none else .ok fr : Except Ref.Err Ref.Framing) = .ok fr' ∧ Agree sz' fr' := by
  rw [proxySize_eq]
  cases Ref.noBody kind m
  · exact ⟨sz, fr, hsz, rfl, hag⟩
  · exact ⟨.len 0, .none, rfl, rfl, rfl⟩

/-- **Framing agreement** (requests and responses): for every field list that `validate_headers` accepts, the strict
    reference reader does not find the framing ambiguous, and it delimits the body exactly as
    `expected_http_body_size` does.  `ambiguous_rejected` is the contrapositive. -/
theorem framing_agrees (kind : Kind) (version reason reqMethod : Bytes) (fs : List Field)
    (hv : validateHeaders kind version reason fs = true) :
    ∃ sz fr, proxySize kind reqMethod fs = some sz ∧ Ref.framing fs version kind reqMethod = .ok fr ∧ Agree sz fr := by
  obtain ⟨hall, hc⟩ := validate_cases hv
  have hcl0 : Ref.clError [] = none := by decide
  rcases hc with ⟨t, cls, w, hte, hcl, hver, hpt, hk⟩ | ⟨c, n, hte, hcl, hpc⟩ | ⟨hte, hcl⟩
  · -- Transfer-Encoding only: the reference reader sees the codings of the whitelist entry
    obtain ⟨hcod, hmem⟩ := parseTE_codings hpt
    subst hver
    have hfr : Ref.framing fs sHttp11 kind reqMethod =
        match Ref.teErrorC (splitOn 44 w) sHttp11 kind with
        | some c => .error (.ambiguous c)
        | none => if Ref.noBody kind reqMethod then .ok .none
                  else if (splitOn 44 w).getLast? = some sChunked then .ok .chunked else .ok .eof := by
      unfold Ref.framing Ref.teError
      simp only [hte, hcl, List.isEmpty_cons, List.isEmpty_nil, Bool.not_false, Bool.not_true, Bool.and_false,
        Bool.false_eq_true, ↓reduceIte, codingsOf_single, hcod, hcl0]
      rfl
    obtain ⟨hknown, hfinal, hch, hot⟩ := whitelist_codings w (parseTE_entry hpt)
    obtain ⟨hreq, hresp⟩ := teErrorC_known hknown hfinal
    rw [hfr]
    cases kind with
    | request =>
      obtain rfl : cls = .chunkedFinal := hk
      simp only [hreq, hch (parseTE_normalize hpt).2, ne_eq, not_true_eq_false, ↓reduceIte]
      exact agree_noBody (sizeFromHeaders_te hte hcl hpt _) trivial
    | response st =>
      have hst : ((100 ≤ st && st ≤ 199) || st = 204) = false := by simpa using hk
      simp only [hresp, hst, Bool.false_eq_true, ↓reduceIte]
      rcases hmem with ⟨rfl, hm⟩ | ⟨rfl, hm⟩
      · simp only [hch hm, ↓reduceIte]
        exact agree_noBody (sizeFromHeaders_te hte hcl hpt _) trivial
      · simp only [hot hm, ↓reduceIte]
        exact agree_noBody (sizeFromHeaders_te hte hcl hpt _) trivial
  · -- Content-Length only: one value, 1*DIGIT
    have hcv : valueOk c = true := by
      obtain ⟨f, hf, _, rfl⟩ := mem_getAll_iff.mp (by rw [hcl]; simp : c ∈ getAll fs sCL)
      exact (hall f hf).2
    obtain ⟨hne, hd, hn⟩ := parseCL_spec hcv hpc
    obtain ⟨hitems, hdig⟩ := cl_items_single hne hd
    have hcle : Ref.clError [c] = none := by simp [Ref.clError, hitems, hdig]
    have hfr : Ref.framing fs version kind reqMethod =
        if Ref.noBody kind reqMethod then .ok .none else .ok (.cl n) := by
      unfold Ref.framing Ref.teError
      simp [hte, hcl, hcle, hitems, hn]
    rw [hfr]
    exact agree_noBody (sizeFromHeaders_cl hte hcl hpc _) rfl
  · -- neither: no body on a request, until the end of the stream on a response
    have hfr : Ref.framing fs version kind reqMethod =
        if Ref.noBody kind reqMethod then .ok .none
        else .ok (match kind with | .request => .none | .response _ => .eof) := by
      unfold Ref.framing Ref.teError
      simp [hte, hcl, hcl0, Ref.clItems]
      cases kind <;> rfl
    rw [hfr]
    cases kind with
    | request => exact agree_noBody (sizeFromHeaders_plain hte hcl _) rfl
    | response st => exact agree_noBody (sizeFromHeaders_plain hte hcl _) trivial

/-- Requests and responses: if the reference reader finds the framing of a field list ambiguous
    (Content-Length with Transfer-Encoding, differing / malformed Content-Length, unknown or misplaced transfer coding,
    non-chunked request coding, Transfer-Encoding on HTTP/1.0 or on 1xx/204), `validate_headers` rejects the message. -/
theorem ambiguous_rejected (kind : Kind) (version reason reqMethod : Bytes) (fs : List Field) (cls : Nat)
    (h : Ref.framing fs version kind reqMethod = .error (.ambiguous cls)) :
    validateHeaders kind version reason fs = false := by
  cases hv : validateHeaders kind version reason fs with
  | false => rfl
  | true =>
    obtain ⟨_, fr, _, hfr, _⟩ := framing_agrees kind version reason reqMethod fs hv
    rw [hfr] at h; cases h

/-- invalid field names are rejected as well (the remaining ambiguity class of the reference reader) -/
theorem bad_field_name_rejected (kind : Kind) (version reason : Bytes) (fs : List Field) (f : Field)
    (hf : f ∈ fs) (hn : nameOk f.1 = false) : validateHeaders kind version reason fs = false := by
  cases hv : validateHeaders kind version reason fs with
  | false => rfl
  | true =>
    have := (validate_cases hv).1 f hf
    rw [hn] at this; simp at this

/-! non-vacuity: the hypotheses are satisfiable, and the functions are not constant -/
example : validateHeaders .request sHttp11 [] [(sTE, sChunked)] = true := by decide +kernel
example : validateHeaders (.response 200) sHttp11 [79, 75] [(sCL, [52, 50])] = true := by decide +kernel
example : validateHeaders .request sHttp11 [] [(sTE, sChunked), (sCL, [53])] = false := by decide +kernel
example : Ref.framing [(sTE, sChunked), (sCL, [53])] sHttp11 .request [] = .error (.ambiguous Ref.cClTe) := by rfl
example : Ref.framing [(sCL, [53]), (sCL, [54])] sHttp11 .request [] = .error (.ambiguous Ref.cClConflict) := by rfl
example : Ref.framing [(sTE, [103, 122, 105, 112])] sHttp11 .request [] = .error (.ambiguous Ref.cTeReqNotChunked) := by rfl


/-! ### Round trip of forwarded messages

`ForwardRequestRoundtrip` / `ForwardStreamRoundtrip` are the full statements of the round-trip clauses of C01, proved as
`forward_request_roundtrip` and `forward_stream_roundtrip`, with `relay_response_roundtrip_full` for responses: no
fold-freeness and no decomposition of the values is assumed.  Every value `validate_headers` accepts is split by `dec` into
parts separated by CR LF or a bare LF (`dec_ok`, `joinG_dec`), written as that many head lines (`fieldLines`), and read back
as `Ref.unfold` of it (`obs_fold_field`); Content-Length and Transfer-Encoding are never folded (`framing_fields_plain`), so
both readers frame the body alike.  The other round-trip theorems are special cases: `…_nofold`, `…_partial` (values without
line breaks, read back unchanged), `…_fold` / `…_obsfold` (values given by their CRLF-separated parts).
`ObsFoldNormalisation` is the byte-level single-field formulation of `obs_fold_field`; it is stated only. -/

/-- byte-level formulation of the obs-fold lemma (stated only; what is proved is the structural form `obs_fold_field`) -/
def ObsFoldNormalisation : Prop :=
  ∀ (name v tail : Bytes) (ls : List Bytes) (acc : List Field),
    isToken name = true → valueOk v = true →
    Ref.headLines ((name ++ colonSp ++ v ++ crlf ++ crlf ++ tail).length + 1) (name ++ colonSp ++ v ++ crlf ++ crlf ++ tail) = .ok (ls, tail) →
    Ref.fieldsAux ls acc = .ok (acc.reverse ++ [(name, Ref.unfold v)])

/-- a body is consistent with the request's headers (what `set_content` maintains): chunked → any body; otherwise the
    Content-Length value is the body length, and no Content-Length means no body -/
def BodyConsistent (r : ReqHead) (body : Bytes) : Prop :=
  match requestBodySize r with
  | some .chunked => True
  | some (.len n) => body.length = n
  | _ => False

/-- what `_read_request_line` (`line.split()`) guarantees for the parts of the request line, and `_read_headers`
    (lines are split at LF) for the names -/
def RequestLineOk (r : ReqHead) : Prop :=
  r.method ≠ [] ∧ (∀ c ∈ r.method, isPyWs c = false) ∧
  requestTarget r ≠ [] ∧ (∀ c ∈ requestTarget r, isPyWs c = false) ∧
  versionOk r.version = true ∧ (∀ f ∈ r.fields, (10 : UInt8) ∉ f.1)

/-- for every request the proxy would forward (validate_headers true — whether the
    fields come from the wire or from an addon edit) and every consistent body, the reference reader reads the written
    bytes back as exactly this request, followed by whatever comes next.
    Reading of "including any addon edits": the theorem covers an edited message exactly when the EDITED head
    still passes `validateHeaders` and `BodyConsistent` still holds.  The code checks validate_headers before the hooks only
    (HttpStream.check_invalid) and does not re-check before Http1Client.send, so for edits that write Content-Length /
    Transfer-Encoding / a non-token name the hypothesis can fail and nothing is claimed — finding F-C01a in known/C01.json. -/
def ForwardRequestRoundtrip : Prop :=
  ∀ (r : ReqHead) (body rest : Bytes),
    validateHeaders .request r.version [] r.fields = true → RequestLineOk r → BodyConsistent r body →
    ∃ fr, Ref.parseRequest (forwardRequest r body ++ rest) =
      .ok (⟨r.method, requestTarget r, r.version, r.fields.map (fun f => (f.1, Ref.unfold f.2)), body, fr⟩, rest)

/-- forward_stream_roundtrip: the pipelined version (induction over the list of messages): same number and order, and for every
    message the same method, target, version, header fields (obs-folds read as SP, as the reference reader does) and body -/
def ForwardStreamRoundtrip : Prop :=
  ∀ (ms : List (ReqHead × Bytes)),
    (∀ m ∈ ms, validateHeaders .request m.1.version [] m.1.fields = true ∧ RequestLineOk m.1 ∧ BodyConsistent m.1 m.2) →
    let wire := (ms.map fun m => forwardRequest m.1 m.2).flatten
    (Ref.parseRequests (wire.length + 1) wire).2 = none ∧
    (Ref.parseRequests (wire.length + 1) wire).1.map (fun m => (m.a, m.b, m.c, m.fields, m.body)) =
      ms.map (fun m => (m.1.method, requestTarget m.1, m.1.version, m.1.fields.map (fun f => (f.1, Ref.unfold f.2)), m.2))

/-- no value contains a line break or surrounding OWS: what `_read_headers` records when no line is folded -/
def NoFold (r : ReqHead) : Prop := ∀ f ∈ r.fields, cleanLine f.2 ∧ stripBy isOws f.2 = f.2


def RespBodyConsistent (reqMethod : Bytes) (r : RespHead) (body rest : Bytes) (eof : Bool) : Prop :=
  match responseBodySize reqMethod r with
  | some (.len n) => body.length = n
  | some .chunked => True
  | some .untilEof => eof = true ∧ rest = []        -- delimited by the end of the stream: nothing follows
  | none => False

/-- what `_read_response_line` / `_read_headers` guarantee: `HTTP/d.d`, status 100..999, reason and values without line
    breaks, names without LF, values without surrounding OWS -/
def RespHeadOk (r : RespHead) : Prop :=
  versionOk r.version = true ∧ (100 ≤ r.status ∧ r.status ≤ 999) ∧ cleanLine r.reason ∧
  (∀ f ∈ r.fields, (10 : UInt8) ∉ f.1) ∧ (∀ f ∈ r.fields, cleanLine f.2 ∧ stripBy isOws f.2 = f.2)


private theorem noPyWs_facts {b : Bytes} (hne : b ≠ []) (h : ∀ c ∈ b, isPyWs c = false) :
    (32 : UInt8) ∉ b ∧ (13 : UInt8) ∉ b ∧ (10 : UInt8) ∉ b ∧ Ref.noWs b = true := by
  have key := fun c hc => (isPyWs_false_iff c).mp (h c hc)
  refine ⟨fun hm => (key _ hm).1 rfl, fun hm => (key _ hm).2.2.2.2.2 rfl, fun hm => (key _ hm).2.2.1 rfl, ?_⟩
  simp only [Ref.noWs, Bool.and_eq_true, Bool.not_eq_true', List.all_eq_true]
  refine ⟨by cases b <;> simp at hne ⊢, fun c hc => ?_⟩
  obtain ⟨_, h9, _, h11, h12, _⟩ := key c hc
  simp [h9, h11, h12]

private theorem requestLine_assembled {m t v : Bytes} (hm : m ≠ []) (hmw : ∀ c ∈ m, isPyWs c = false)
    (ht : t ≠ []) (htw : ∀ c ∈ t, isPyWs c = false) (hv : versionOk v = true) :
    Ref.requestLine (m ++ [32] ++ t ++ [32] ++ v) = some (m, t, v) ∧
    cleanLine (m ++ [32] ++ t ++ [32] ++ v) ∧ m ++ [32] ++ t ++ [32] ++ v ≠ [] := by
  obtain ⟨m32, m13, m10, mws⟩ := noPyWs_facts hm hmw
  obtain ⟨t32, t13, t10, tws⟩ := noPyWs_facts ht htw
  obtain ⟨v32, v13, v10, _⟩ := noPyWs_facts (version_no_ws hv).1 (version_no_ws hv).2
  refine ⟨?_, ⟨?_, ?_⟩, by cases m <;> simp at hm ⊢⟩
  · have : m ++ [32] ++ t ++ [32] ++ v = m ++ 32 :: (t ++ 32 :: v) := by simp
    simp only [Ref.requestLine, this, splitOn_eq, splitSep_append_sep m32, splitSep_append_sep t32, splitSep_no_sep v32,
      mws, tws, hv, Bool.and_self, ↓reduceIte]
  · simp [m13, t13, v13]
  · simp [m10, t10, v10]

private theorem statusLine_assembled {v reason : Bytes} {st : Nat} (hv : versionOk v = true)
    (hst : 100 ≤ st ∧ st ≤ 999) (hr : cleanLine reason) :
    Ref.statusLine (v ++ [32] ++ decDigits st ++ [32] ++ reason) = some (v, st, reason) ∧
    ((v ++ [32] ++ decDigits st ++ [32] ++ reason).drop 9).take 3 = decDigits st ∧
    cleanLine (v ++ [32] ++ decDigits st ++ [32] ++ reason) ∧ v ++ [32] ++ decDigits st ++ [32] ++ reason ≠ [] := by
  obtain ⟨a, b, c, hd, ha, hb, hc, hn⟩ := decDigits_spec st hst
  obtain ⟨_, v13, v10, _⟩ := noPyWs_facts (version_no_ws hv).1 (version_no_ws hv).2
  obtain ⟨_, d13, d10, _⟩ := noPyWs_facts (digits_no_ws ha hb hc).1 (digits_no_ws ha hb hc).2
  obtain ⟨x, y, rfl, _, _⟩ := versionOk_shape hv
  rw [hd]
  refine ⟨by simp [Ref.statusLine, hv, ha, hb, hc, hn], by simp, ⟨?_, ?_⟩, by simp⟩
  · simp only [List.mem_append, List.mem_singleton, not_or]
    exact ⟨⟨⟨⟨v13, by decide⟩, d13⟩, by decide⟩, hr.1⟩
  · simp only [List.mem_append, List.mem_singleton, not_or]
    exact ⟨⟨⟨⟨v10, by decide⟩, d10⟩, by decide⟩, hr.2⟩


/-! ### the three stages of the reference reader on what the proxy writes: head (`head_stage`, Lemmas/C01_FoldG2), framing, body -/

/-- names that `validate_headers` accepts and that contain no LF (the `$` quirk of the regex) are tokens -/
private theorem validated_tokens {kind : Kind} {version reason : Bytes} {fs : List Field}
    (hv : validateHeaders kind version reason fs = true) (hnames : ∀ f ∈ fs, (10 : UInt8) ∉ f.1) :
    ∀ f ∈ fs, isToken f.1 = true ∧ valueOk f.2 = true := fun f hf =>
  have h := (validate_cases hv).1 f hf
  ⟨by simpa [nameOk, dropFinalLF_id fun e => hnames f hf (List.mem_of_getLast? e)] using h.1, h.2⟩

/-- in a message `validate_headers` accepts, a Content-Length or Transfer-Encoding value contains no line break and carries
    no surrounding OWS: neither `parse_content_length` nor the Transfer-Encoding whitelist lets one through -/
private theorem framing_value_plain {kind : Kind} {version reason : Bytes} {fs : List Field}
    (hv : validateHeaders kind version reason fs = true) {f : Field} (hf : f ∈ fs)
    (hname : asciiLower f.1 = sTE ∨ asciiLower f.1 = sCL) : cleanLine f.2 ∧ stripBy isOws f.2 = f.2 := by
  obtain ⟨hall, hc⟩ := validate_cases hv
  rcases hname with hn | hn
  · have hv1 := mem_getAll_iff.mpr ⟨f, hf, hn, rfl⟩
    rcases hc with ⟨t, cls, w, hte, _, _, hpt, _⟩ | ⟨c, n, hte, _, _⟩ | ⟨hte, _⟩ <;> rw [hte] at hv1 <;> simp at hv1
    rw [hv1]
    exact parseTE_clean hpt
  · have hv1 := mem_getAll_iff.mpr ⟨f, hf, hn, rfl⟩
    rcases hc with ⟨t, cls, w, _, hcl, _, _, _⟩ | ⟨c, n, _, hcl, hpc⟩ | ⟨_, hcl⟩ <;> rw [hcl] at hv1 <;> simp at hv1
    subst hv1
    obtain ⟨_, hd, _⟩ := parseCL_spec (hall f hf).2 hpc
    exact ⟨⟨not_mem_of_all hd (by decide), not_mem_of_all hd (by decide)⟩, stripBy_digits hd⟩

private theorem framing_unfolded {kind : Kind} {version reason : Bytes} {fs : List Field}
    (hv : validateHeaders kind version reason fs = true) (v : Bytes) (k : Kind) (m : Bytes) :
    Ref.framing (fs.map fun f => (f.1, Ref.unfold f.2)) v k m = Ref.framing fs v k m :=
  framing_unfold fs (fun _ hf hn => unfold_plain (framing_value_plain hv hf hn)) v k m

/-- what the body stage of the reference reader returns: `body` read from the front of `data` as `fr` says, `r` left over -/
private def BodyRead (fr : Ref.Framing) (eof : Bool) (data body r : Bytes) : Prop :=
  match fr with
  | .none => body = [] ∧ r = data
  | .cl n => n ≤ data.length ∧ body = data.take n ∧ r = data.drop n
  | .chunked => Ref.chunkedBody (data.length + 1) data [] false = .ok (body, r)
  | .eof => eof = true ∧ body = data ∧ r = []

private theorem parseRequest_of_stages {data l rest m t v body r : Bytes} {ls : List Bytes} {fs : List Field} {fr : Ref.Framing}
    (hh : Ref.headLines (data.length + 1) data = .ok (l :: ls, rest)) (hl : Ref.requestLine l = some (m, t, v))
    (hf : Ref.fields ls = .ok fs) (hfr : Ref.framing fs v .request [] = .ok fr) (hb : BodyRead fr false rest body r) :
    Ref.parseRequest data = .ok (⟨m, t, v, fs, body, fr⟩, r) := by
  unfold Ref.parseRequest
  simp only [hh, hl, hf, hfr]
  cases fr with
  | none => obtain ⟨rfl, rfl⟩ := hb; rfl
  | cl n =>
    obtain ⟨hn, rfl, rfl⟩ := hb
    simp only [Nat.not_lt.mpr hn, ↓reduceIte]
  | chunked => simp only [BodyRead] at hb; simp only [hb]
  | eof => exact absurd hb.1 (by decide)

private theorem parseResponse_of_stages {m data l rest v reason body r : Bytes} {eof : Bool} {st : Nat} {ls : List Bytes}
    {fs : List Field} {fr : Ref.Framing}
    (hh : Ref.headLines (data.length + 1) data = .ok (l :: ls, rest)) (hl : Ref.statusLine l = some (v, st, reason))
    (hf : Ref.fields ls = .ok fs) (hfr : Ref.framing fs v (.response st) m = .ok fr) (hb : BodyRead fr eof rest body r) :
    Ref.parseResponse m eof data = .ok (⟨v, (l.drop 9).take 3, reason, fs, body, fr⟩, r) := by
  unfold Ref.parseResponse
  simp only [hh, hl, hf, hfr]
  cases fr with
  | none => obtain ⟨rfl, rfl⟩ := hb; rfl
  | cl n =>
    obtain ⟨hn, rfl, rfl⟩ := hb
    simp only [Nat.not_lt.mpr hn, ↓reduceIte]
  | chunked => simp only [BodyRead] at hb; simp only [hb]
  | eof => obtain ⟨rfl, rfl, rfl⟩ := hb; rfl

/-- what the proxy writes after the head for a body it delimits as `sz`: `Http1Client.send` / `Http1Server.send` re-frame a
    chunked message as one data chunk (none for an empty body) and the last-chunk -/
private def payloadOf (sz : BodySize) (body : Bytes) : Bytes :=
  match sz with
  | .chunked => (if body.isEmpty then [] else chunk body) ++ lastChunk
  | _ => body

private theorem bodyRead_payload {sz : BodySize} {fr : Ref.Framing} (hag : Agree sz fr) {body rest : Bytes} {eof : Bool}
    (hc : match sz with
      | .len n => body.length = n
      | .chunked => True
      | .untilEof => eof = true ∧ rest = []) :
    BodyRead fr eof (payloadOf sz body ++ rest) body rest := by
  -- the four ways in which the two decisions agree
  unfold Agree at hag
  split at hag
  · obtain rfl : body.length = _ := hc.trans hag
    exact ⟨by simp [payloadOf], by simp [payloadOf], by simp [payloadOf]⟩
  · obtain rfl : body = [] := List.eq_nil_of_length_eq_zero (hc.trans hag)
    exact ⟨rfl, rfl⟩
  · exact chunkedBody_payload body rest
  · obtain ⟨rfl, rfl⟩ := hc
    exact ⟨rfl, by simp [payloadOf], rfl⟩
  · exact hag.elim

/-- the send side's test `"chunked" in te.lower()` is true exactly when `expected_http_body_size` says chunked -/
private theorem sendsChunked_iff {kind : Kind} {version reason : Bytes} {fs : List Field}
    (hv : validateHeaders kind version reason fs = true) {b : Bool} {sz : BodySize} (hsz : sizeFromHeaders b fs = some sz) :
    sendsChunked fs = true ↔ sz = .chunked := by
  rcases (validate_cases hv).2 with ⟨t, cls, w, hte, hcl, _, hpt, _⟩ | ⟨c, n, hte, hcl, hpc⟩ | ⟨hte, hcl⟩
  · rw [sizeFromHeaders_te hte hcl hpt] at hsz
    cases cls with
    | chunkedFinal =>
      simp only [Option.some.injEq] at hsz
      simp [sendsChunked, getJoined_single hte, sendsChunked_of_parseTE hpt, ← hsz]
    | other =>
      have : sz ≠ .chunked := by
        rintro rfl
        revert hsz
        simp only
        split
        · simp
        · split <;> simp
      simp [sendsChunked, getJoined_single hte, not_sendsChunked_of_parseTE_other hpt, this]
  · rw [sizeFromHeaders_cl hte hcl hpc, Option.some.injEq] at hsz
    simp [sendsChunked, getJoined_none hte, ← hsz]
  · rw [sizeFromHeaders_plain hte hcl] at hsz
    cases b <;> simp at hsz <;> simp [sendsChunked, getJoined_none hte, ← hsz]

private theorem forwardRequest_eq {r : ReqHead} {sz : BodySize} (hv : validateHeaders .request r.version [] r.fields = true)
    (hsz : requestBodySize r = some sz) (body : Bytes) :
    forwardRequest r body = assembleRequestHead r ++ payloadOf sz body := by
  have hsc := sendsChunked_iff hv hsz
  unfold forwardRequest
  cases sz with
  | chunked => rw [hsc.mpr rfl]; rfl
  | len n => rw [Bool.eq_false_iff.mpr fun h => nomatch hsc.mp h]; rfl
  | untilEof => rw [Bool.eq_false_iff.mpr fun h => nomatch hsc.mp h]; rfl

/-- the response side: nothing follows the head of a bodiless response (the CONNECT-2xx case excluded, see
    `relay_response_roundtrip`); otherwise the body goes out as `expected_http_body_size` frames it -/
private theorem relayResponse_eq {m : Bytes} {r : RespHead} {sz : BodySize} {body : Bytes}
    (hv : validateHeaders (.response r.status) r.version r.reason r.fields = true)
    (hconn : ¬(asciiUpper m = sCONNECT ∧ 200 ≤ r.status ∧ r.status ≤ 299))
    (hsz : proxySize (.response r.status) m r.fields = some sz)
    (hb : Ref.noBody (.response r.status) m = true → body = []) :
    relayResponse m r body = assembleResponseHead r ++ payloadOf sz body := by
  rw [proxySize_eq] at hsz
  unfold relayResponse
  by_cases hnb : Ref.noBody (.response r.status) m = true
  · rw [if_pos hnb, Option.some.injEq] at hsz
    subst hsz
    rw [hb hnb]
    have hnl : ¬(asciiUpper m ≠ sHEAD ∧ (!noBodyStatus r.status) = true) := by
      intro hh
      simp only [Ref.noBody, Bool.or_eq_true, Bool.and_eq_true, decide_eq_true_eq] at hnb
      rcases hnb with (h | h) | h
      · exact hh.1 h
      · simp [h] at hh
      · exact hconn ⟨h.1.1, h.1.2, h.2⟩
    simp only [payloadOf, List.isEmpty_nil, Bool.not_true, Bool.false_and, Bool.false_eq_true, ↓reduceIte, if_neg hnl,
      List.append_nil, ite_self]
  · have hnb' : Ref.noBody (.response r.status) m = false := by simpa using hnb
    rw [hnb'] at hsz
    have hsc := sendsChunked_iff hv hsz
    simp only [Ref.noBody, Bool.or_eq_false_iff, decide_eq_false_iff_not] at hnb'
    obtain ⟨⟨h1, hns⟩, _⟩ := hnb'
    have hst := hns
    simp only [noBodyStatus, Bool.or_eq_false_iff, decide_eq_false_iff_not] at hst
    obtain ⟨⟨_, h204⟩, h304⟩ := hst
    cases sz with
    | chunked => rw [hsc.mpr rfl]; cases body <;> simp [payloadOf, h1, h204, h304, hns]
    | len n =>
      rw [Bool.eq_false_iff.mpr fun h => nomatch hsc.mp h]
      cases body <;> simp [payloadOf, h1, h204, h304]
    | untilEof =>
      rw [Bool.eq_false_iff.mpr fun h => nomatch hsc.mp h]
      cases body <;> simp [payloadOf, h1, h204, h304]


private theorem request_parse (r : ReqHead) (body : Bytes)
    (hv : validateHeaders .request r.version [] r.fields = true) (hl : RequestLineOk r) (hb : BodyConsistent r body) :
    ∃ fr, Ref.framing r.fields r.version .request [] = .ok fr ∧
      ∀ rest, Ref.parseRequest (forwardRequest r body ++ rest) =
        .ok (⟨r.method, requestTarget r, r.version, r.fields.map (fun f => (f.1, Ref.unfold f.2)), body, fr⟩, rest) := by
  obtain ⟨hm, hmw, ht, htw, hver, hnames⟩ := hl
  obtain ⟨hreq, hclean, hlne⟩ := requestLine_assembled hm hmw ht htw hver
  obtain ⟨sz, fr, hsz, hfr, hag⟩ := framing_agrees .request r.version [] [] r.fields hv
  have hsz' : requestBodySize r = some sz := hsz
  refine ⟨fr, hfr, fun rest => ?_⟩
  obtain ⟨ls, hhead, hflds⟩ := head_stage ⟨hclean, hlne⟩ (validated_tokens hv hnames) (payloadOf sz body ++ rest)
  have hwire : forwardRequest r body ++ rest = r.method ++ [32] ++ requestTarget r ++ [32] ++ r.version ++ crlf ++
      assembleFields r.fields ++ crlf ++ (payloadOf sz body ++ rest) := by
    rw [forwardRequest_eq hv hsz']
    simp only [assembleRequestHead, List.append_assoc]
  rw [hwire]
  refine parseRequest_of_stages hhead hreq hflds ((framing_unfolded hv _ _ _).trans hfr) (bodyRead_payload hag ?_)
  unfold BodyConsistent at hb
  rw [hsz'] at hb
  cases sz <;> first | exact hb | exact hb.elim

/-- the full statement `ForwardRequestRoundtrip` (also for requests edited by addons): for EVERY
    request `validate_headers` accepts — whatever folds its values contain — with whitespace-free request-line parts and a
    consistent body, the reference reader reads the written bytes back as method, target, version, the fields with
    `Ref.unfold` of their values, and the body; no decomposition of the values is assumed (it is computed: `dec`, `dec_ok`) -/
theorem forward_request_roundtrip : ForwardRequestRoundtrip := by
  intro r body rest hv hl hb
  obtain ⟨fr, _, h⟩ := request_parse r body hv hl hb
  exact ⟨fr, h rest⟩

private theorem map_unfold_plain {fs : List Field} (h : ∀ f ∈ fs, cleanLine f.2 ∧ stripBy isOws f.2 = f.2) :
    fs.map (fun f => (f.1, Ref.unfold f.2)) = fs :=
  (List.map_congr_left fun f hf => by rw [unfold_plain (h f hf)]).trans (List.map_id' fs)

/-- `ForwardRequestRoundtrip` (and with it "including any addon edits": the hypothesis is
    only that `validate_headers` holds for the fields that are sent) for every request without obs-fold in its field values -/
theorem forward_request_roundtrip_nofold (r : ReqHead) (body rest : Bytes)
    (hv : validateHeaders .request r.version [] r.fields = true) (hl : RequestLineOk r) (hnf : NoFold r)
    (hb : BodyConsistent r body) :
    ∃ fr, Ref.parseRequest (forwardRequest r body ++ rest) =
      .ok (⟨r.method, requestTarget r, r.version, r.fields.map (fun f => (f.1, Ref.unfold f.2)), body, fr⟩, rest) :=
  forward_request_roundtrip r body rest hv hl hb

/-- Requests without Transfer-Encoding, field values without obs-fold:
    for every request that `validate_headers` accepts — from the wire or after addon edits — whose request
    line parts are whitespace-free, whose values contain no line break and no surrounding OWS, and every body of the
    length the headers announce, the strict reference reader reads the bytes written by `Http1Client.send` back as
    exactly this method, target, version, field list and body, and leaves exactly what follows. -/
theorem forward_request_roundtrip_partial (r : ReqHead) (body rest : Bytes)
    (hv : validateHeaders .request r.version [] r.fields = true) (hl : RequestLineOk r)
    (hte : getAll r.fields sTE = [])
    (hplain : ∀ f ∈ r.fields, cleanLine f.2 ∧ stripBy isOws f.2 = f.2)
    (hb : BodyConsistent r body) :
    ∃ fr, Ref.parseRequest (forwardRequest r body ++ rest) =
      .ok (⟨r.method, requestTarget r, r.version, r.fields, body, fr⟩, rest) := by
  have := forward_request_roundtrip r body rest hv hl hb
  rwa [map_unfold_plain hplain] at this

private theorem request_te_chunked {r : ReqHead} (hv : validateHeaders .request r.version [] r.fields = true)
    (hte : getAll r.fields sTE ≠ []) :
    requestBodySize r = some .chunked ∧ Ref.framing r.fields r.version .request [] = .ok .chunked := by
  rcases (validate_cases hv).2 with ⟨t, cls, w, hte1, hcl, _, hpt, hk⟩ | ⟨_, _, hte0, _⟩ | ⟨hte0, _⟩
  · have hk' : cls = .chunkedFinal := hk
    subst hk'
    have hsz := sizeFromHeaders_te hte1 hcl hpt false
    obtain ⟨sz, fr, hsz', hfr, hag⟩ := framing_agrees .request r.version [] [] r.fields hv
    have : sz = .chunked := Option.some.inj (hsz'.symm.trans hsz)
    subst this
    cases fr <;> first | exact ⟨hsz, hfr⟩ | exact hag.elim
  · exact absurd hte0 hte
  · exact absurd hte0 hte

/-- Requests with Transfer-Encoding, values without obs-fold: the body the
    proxy buffered — whatever its length, also after an addon replaced it — is re-framed as one chunk plus the last-chunk,
    and the strict reference reader reads head and body back exactly.
    Together with `forward_request_roundtrip_partial` this is `ForwardRequestRoundtrip` for all requests whose field values
    contain no obs-fold. -/
theorem forward_request_roundtrip_chunked_partial (r : ReqHead) (body rest : Bytes)
    (hv : validateHeaders .request r.version [] r.fields = true) (hl : RequestLineOk r)
    (hte : getAll r.fields sTE ≠ [])
    (hplain : ∀ f ∈ r.fields, cleanLine f.2 ∧ stripBy isOws f.2 = f.2) :
    Ref.parseRequest (forwardRequest r body ++ rest) =
      .ok (⟨r.method, requestTarget r, r.version, r.fields, body, .chunked⟩, rest) := by
  obtain ⟨hsz, hfrc⟩ := request_te_chunked hv hte
  obtain ⟨fr, hfr, h⟩ := request_parse r body hv hl (by unfold BodyConsistent; rw [hsz]; trivial)
  have := h rest
  rw [map_unfold_plain hplain] at this
  rw [hfr] at hfrc
  cases hfrc
  exact this

/-- `ForwardRequestRoundtrip` for field values given WITH their obs-folds: the recorded
    fields are `(name, q0 CRLF q1 CRLF … qk)` with every continuation `qi` starting with SP/HTAB (the shape `_read_headers`
    builds), and the reference reader reads them back as `(name, Ref.unfold value)`; method, target, version and body
    exactly; Content-Length, no body and the chunked re-framing -/
theorem forward_request_roundtrip_obsfold (r : ReqHead) (body rest : Bytes)
    (hv : validateHeaders .request r.version [] r.fields = true) (hl : RequestLineOk r)
    (pfs : List PField) (hpf : r.fields = pfs.map PField.field) (hok : ∀ pf ∈ pfs, pf.ok)
    (hb : BodyConsistent r body) :
    ∃ fr, Ref.parseRequest (forwardRequest r body ++ rest) =
      .ok (⟨r.method, requestTarget r, r.version, pfs.map PField.ufield, body, fr⟩, rest) := by
  have := forward_request_roundtrip r body rest hv hl hb
  rw [hpf, List.map_map] at this
  exact this

/-- `forward_request_roundtrip_obsfold` with the hypothesis `FramingFieldsPlain`
    (Transfer-Encoding / Content-Length themselves are not folded) spelled out; it follows from `validate_headers`
    (`framing_fields_plain`) -/
theorem forward_request_roundtrip_fold (r : ReqHead) (body rest : Bytes)
    (hv : validateHeaders .request r.version [] r.fields = true) (hl : RequestLineOk r)
    (pfs : List PField) (hpf : r.fields = pfs.map PField.field) (hok : ∀ pf ∈ pfs, pf.ok) (hfp : FramingFieldsPlain pfs)
    (hb : BodyConsistent r body) :
    ∃ fr, Ref.parseRequest (forwardRequest r body ++ rest) =
      .ok (⟨r.method, requestTarget r, r.version, pfs.map PField.ufield, body, fr⟩, rest) :=
  forward_request_roundtrip_obsfold r body rest hv hl pfs hpf hok hb

/-- for EVERY response `validate_headers` accepts (no fold-freeness assumed) — from the wire
    or after addon edits — in the context of the method of the request it answers, and every body consistent with it (incl.
    the HEAD / 1xx / 204 / 304 shortcuts, Content-Length, the one-chunk + last-chunk re-framing, and read-until-close), the
    strict reference reader reads the bytes written by `Http1Server.send` back as this version, status, reason, the fields
    with `Ref.unfold` of their values, and the body, and leaves exactly what follows.  (A 2xx answer to CONNECT is produced
    by the proxy itself and opens a tunnel: excluded.) -/
theorem relay_response_roundtrip_full (reqMethod : Bytes) (r : RespHead) (body rest : Bytes) (eof : Bool)
    (hv : validateHeaders (.response r.status) r.version r.reason r.fields = true)
    (hhd : versionOk r.version = true ∧ (100 ≤ r.status ∧ r.status ≤ 999) ∧ cleanLine r.reason)
    (hnm : ∀ f ∈ r.fields, (10 : UInt8) ∉ f.1)
    (hconn : ¬(asciiUpper reqMethod = sCONNECT ∧ 200 ≤ r.status ∧ r.status ≤ 299))
    (hb : RespBodyConsistent reqMethod r body rest eof) :
    ∃ fr, Ref.parseResponse reqMethod eof (relayResponse reqMethod r body ++ rest) =
      .ok (⟨r.version, decDigits r.status, r.reason, r.fields.map (fun f => (f.1, Ref.unfold f.2)), body, fr⟩, rest) := by
  obtain ⟨hver, hst, hreason⟩ := hhd
  obtain ⟨hsl, hdig, hclean, hlne⟩ := statusLine_assembled hver hst hreason
  obtain ⟨sz, fr, hsz, hfr, hag⟩ := framing_agrees (.response r.status) r.version r.reason reqMethod r.fields hv
  have hsz' : responseBodySize reqMethod r = some sz := hsz
  unfold RespBodyConsistent at hb
  rw [hsz'] at hb
  have hbody : Ref.noBody (.response r.status) reqMethod = true → body = [] := by
    intro hnb
    rw [proxySize_eq, if_pos hnb] at hsz
    cases hsz
    exact List.eq_nil_of_length_eq_zero hb
  obtain ⟨ls, hhead, hflds⟩ := head_stage ⟨hclean, hlne⟩ (validated_tokens hv hnm) (payloadOf sz body ++ rest)
  have hwire : relayResponse reqMethod r body ++ rest = r.version ++ [32] ++ decDigits r.status ++ [32] ++ r.reason ++ crlf ++
      assembleFields r.fields ++ crlf ++ (payloadOf sz body ++ rest) := by
    rw [relayResponse_eq hv hconn hsz hbody]
    simp only [assembleResponseHead, List.append_assoc]
  have := parseResponse_of_stages hhead hsl hflds ((framing_unfolded hv _ _ _).trans hfr)
    (bodyRead_payload hag (eof := eof) (by cases sz <;> first | exact hb | trivial))
  rw [hdig, ← hwire] at this
  exact ⟨fr, this⟩

/-- `relay_response_roundtrip_full` for a head as `_read_response_line` / `_read_headers` leave
    it (`RespHeadOk`: values without line breaks and surrounding OWS): the field list is read back unchanged -/
theorem relay_response_roundtrip (reqMethod : Bytes) (r : RespHead) (body rest : Bytes) (eof : Bool)
    (hv : validateHeaders (.response r.status) r.version r.reason r.fields = true) (hok : RespHeadOk r)
    (hconn : ¬(asciiUpper reqMethod = sCONNECT ∧ 200 ≤ r.status ∧ r.status ≤ 299))
    (hb : RespBodyConsistent reqMethod r body rest eof) :
    ∃ fr, Ref.parseResponse reqMethod eof (relayResponse reqMethod r body ++ rest) =
      .ok (⟨r.version, decDigits r.status, r.reason, r.fields, body, fr⟩, rest) := by
  obtain ⟨hver, hst, hreason, hnames, hplain⟩ := hok
  have := relay_response_roundtrip_full reqMethod r body rest eof hv ⟨hver, hst, hreason⟩ hnames hconn hb
  rwa [map_unfold_plain hplain] at this

/-- `relay_response_roundtrip_full` for field values given by their CRLF-separated
    parts (fields read back as `Ref.unfold` of the recorded ones) -/
theorem relay_response_roundtrip_obsfold (reqMethod : Bytes) (r : RespHead) (body rest : Bytes) (eof : Bool)
    (hv : validateHeaders (.response r.status) r.version r.reason r.fields = true)
    (hhd : versionOk r.version = true ∧ (100 ≤ r.status ∧ r.status ≤ 999) ∧ cleanLine r.reason)
    (pfs : List PField) (hpf : r.fields = pfs.map PField.field) (hnm : ∀ pf ∈ pfs, (10 : UInt8) ∉ pf.name) (hokf : ∀ pf ∈ pfs, pf.ok)
    (hconn : ¬(asciiUpper reqMethod = sCONNECT ∧ 200 ≤ r.status ∧ r.status ≤ 299))
    (hb : RespBodyConsistent reqMethod r body rest eof) :
    ∃ fr, Ref.parseResponse reqMethod eof (relayResponse reqMethod r body ++ rest) =
      .ok (⟨r.version, decDigits r.status, r.reason, pfs.map PField.ufield, body, fr⟩, rest) := by
  have hnm' : ∀ f ∈ r.fields, (10 : UInt8) ∉ f.1 := by
    rw [hpf]
    intro f hf
    obtain ⟨pf, hm, rfl⟩ := List.mem_map.mp hf
    exact hnm pf hm
  have := relay_response_roundtrip_full reqMethod r body rest eof hv hhd hnm' hconn hb
  rw [hpf, List.map_map] at this
  exact this

/-- `relay_response_roundtrip_obsfold` with the hypothesis `FramingFieldsPlain` spelled out -/
theorem relay_response_roundtrip_fold (reqMethod : Bytes) (r : RespHead) (body rest : Bytes) (eof : Bool)
    (hv : validateHeaders (.response r.status) r.version r.reason r.fields = true)
    (hhd : versionOk r.version = true ∧ (100 ≤ r.status ∧ r.status ≤ 999) ∧ cleanLine r.reason)
    (pfs : List PField) (hpf : r.fields = pfs.map PField.field) (hnm : ∀ pf ∈ pfs, (10 : UInt8) ∉ pf.name) (hokf : ∀ pf ∈ pfs, pf.ok)
    (hfp : FramingFieldsPlain pfs)
    (hconn : ¬(asciiUpper reqMethod = sCONNECT ∧ 200 ≤ r.status ∧ r.status ≤ 299))
    (hb : RespBodyConsistent reqMethod r body rest eof) :
    ∃ fr, Ref.parseResponse reqMethod eof (relayResponse reqMethod r body ++ rest) =
      .ok (⟨r.version, decDigits r.status, r.reason, pfs.map PField.ufield, body, fr⟩, rest) :=
  relay_response_roundtrip_obsfold reqMethod r body rest eof hv hhd pfs hpf hnm hokf hconn hb

private theorem value_no_cr_plain (pf : PField) (h13 : (13 : UInt8) ∉ pf.value) (hs : stripBy isOws pf.value = pf.value) :
    pf.qs = [] ∧ stripBy isOws pf.q0 = pf.q0 := by
  cases hq : pf.qs with
  | nil => simp [PField.value, hq, joinWith] at hs; exact ⟨rfl, hs⟩
  | cons q r =>
    exfalso; apply h13
    simp [PField.value, hq, joinWith, crlf]

/-- in a message `validate_headers` accepts, Content-Length and Transfer-Encoding are not folded and
    carry no surrounding OWS (a folded one contains CR LF, which neither `parse_content_length` nor the Transfer-Encoding
    whitelist lets through) -/
theorem framing_fields_plain (kind : Kind) (version reason : Bytes) (pfs : List PField)
    (hv : validateHeaders kind version reason (pfs.map PField.field) = true) : FramingFieldsPlain pfs := by
  intro pf hpf hname
  obtain ⟨hcl, hs⟩ := framing_value_plain hv (List.mem_map_of_mem hpf) hname
  exact value_no_cr_plain pf hcl.1 hs

/-- what `parseRequests_stream` asks of each message: `Ref.parseRequests` skips empty lines (LF, CR LF) before a request-line -/
private theorem forward_head {r : ReqHead} (hl : RequestLineOk r) (body : Bytes) :
    ∃ c tl, forwardRequest r body = c :: tl ∧ c ≠ 10 ∧ c ≠ 13 := by
  obtain ⟨hm, hmw, _⟩ := hl
  cases hmm : r.method with
  | nil => exact absurd hmm hm
  | cons c cs =>
    obtain ⟨_, _, h10, _, _, h13⟩ := (isPyWs_false_iff c).mp (hmw c (by rw [hmm]; simp))
    rw [forwardRequest, assembleRequestHead, hmm]
    exact ⟨c, _, rfl, h10, h13⟩

private theorem parseRequests_stream {α β : Type} (wire : α → Bytes) (proj : Ref.Msg → β) (view : α → β) :
    ∀ (ms : List α) (f : Nat),
    (∀ a ∈ ms, (∃ c tl, wire a = c :: tl ∧ c ≠ 10 ∧ c ≠ 13) ∧
       ∀ rest, ∃ m, Ref.parseRequest (wire a ++ rest) = .ok (m, rest) ∧ proj m = view a) →
    ms.length < f →
    (Ref.parseRequests f (ms.map wire).flatten).2 = none ∧
    (Ref.parseRequests f (ms.map wire).flatten).1.map proj = ms.map view
  | [], f, _, hf => by
    cases f with
    | zero => omega
    | succ f => simp [Ref.parseRequests]
  | a :: ms, f, h, hf => by
    cases f with
    | zero => omega
    | succ f =>
      obtain ⟨⟨c, tl, hct, h10, h13⟩, hp⟩ := h a (by simp)
      obtain ⟨m, hpm, hview⟩ := hp (ms.map wire).flatten
      obtain ⟨ih1, ih2⟩ := parseRequests_stream wire proj view ms f (fun x hx => h x (by simp [hx])) (by simp at hf; omega)
      have hdata : wire a ++ (ms.map wire).flatten = c :: (tl ++ (ms.map wire).flatten) := by rw [hct]; rfl
      simp only [List.map_cons, List.flatten_cons]
      rw [Ref.parseRequests.eq_def]
      simp only
      rw [hdata]
      simp only [h10, h13, false_and, ↓reduceIte]
      rw [← hdata, hpm]
      simp only
      exact ⟨ih1, by simp [ih2, hview]⟩

/-- By induction over pipelined messages: the concatenation of what the proxy writes for a
    list of validated, fold-free requests with consistent bodies is read by the reference reader as exactly that list — same
    number and order, same method, target, fields and body — and nothing is left over -/
theorem forward_stream_roundtrip_nofold : ∀ (ms : List (ReqHead × Bytes)) (f : Nat),
    (∀ m ∈ ms, validateHeaders .request m.1.version [] m.1.fields = true ∧ RequestLineOk m.1 ∧ NoFold m.1 ∧
       BodyConsistent m.1 m.2) →
    ms.length < f →
    (Ref.parseRequests f (ms.map fun m => forwardRequest m.1 m.2).flatten).2 = none ∧
    (Ref.parseRequests f (ms.map fun m => forwardRequest m.1 m.2).flatten).1.map (fun m => (m.a, m.b, m.fields, m.body)) =
      ms.map (fun m => (m.1.method, requestTarget m.1, m.1.fields, m.2))
  | ms, f, h, hf => by
    refine parseRequests_stream (fun m : ReqHead × Bytes => forwardRequest m.1 m.2) (fun m => (m.a, m.b, m.fields, m.body))
      (fun m => (m.1.method, requestTarget m.1, m.1.fields, m.2)) ms f (fun a ha => ?_) hf
    obtain ⟨hv, hl, hnf, hb⟩ := h a ha
    refine ⟨forward_head hl a.2, fun rest => ?_⟩
    obtain ⟨fr, hp⟩ := forward_request_roundtrip a.1 a.2 rest hv hl hb
    exact ⟨_, hp, by simp only [map_unfold_plain hnf]⟩

/-- the pipelined-stream theorem with obs-fold in the field values: the concatenation of
    what the proxy writes for a list of validated requests (fields given by their CRLF-separated parts) with consistent bodies
    is read by the reference reader as exactly that list — same number and order, method, target, unfolded fields, body —
    and nothing is left over -/
theorem forward_stream_roundtrip_obsfold : ∀ (ms : List (ReqHead × List PField × Bytes)) (f : Nat),
    (∀ m ∈ ms, validateHeaders .request m.1.version [] m.1.fields = true ∧ RequestLineOk m.1 ∧
       m.1.fields = m.2.1.map PField.field ∧ (∀ pf ∈ m.2.1, pf.ok) ∧ BodyConsistent m.1 m.2.2) →
    ms.length < f →
    (Ref.parseRequests f (ms.map fun m => forwardRequest m.1 m.2.2).flatten).2 = none ∧
    (Ref.parseRequests f (ms.map fun m => forwardRequest m.1 m.2.2).flatten).1.map (fun m => (m.a, m.b, m.fields, m.body)) =
      ms.map (fun m => (m.1.method, requestTarget m.1, m.2.1.map PField.ufield, m.2.2))
  | ms, f, h, hf => by
    refine parseRequests_stream (fun m : ReqHead × List PField × Bytes => forwardRequest m.1 m.2.2) (fun m => (m.a, m.b, m.fields, m.body))
      (fun m => (m.1.method, requestTarget m.1, m.2.1.map PField.ufield, m.2.2)) ms f (fun a ha => ?_) hf
    obtain ⟨hv, hl, hpf, hok, hb⟩ := h a ha
    refine ⟨forward_head hl a.2.2, fun rest => ?_⟩
    obtain ⟨fr, hp⟩ := forward_request_roundtrip_obsfold a.1 a.2.2 rest hv hl a.2.1 hpf hok hb
    exact ⟨_, hp, rfl⟩

/-- the full statement `ForwardStreamRoundtrip` (pipelined messages, by induction) -/
theorem forward_stream_roundtrip : ForwardStreamRoundtrip := by
  intro ms h
  refine parseRequests_stream (fun m : ReqHead × Bytes => forwardRequest m.1 m.2) (fun m => (m.a, m.b, m.c, m.fields, m.body))
    (fun m => (m.1.method, requestTarget m.1, m.1.version, m.1.fields.map (fun f => (f.1, Ref.unfold f.2)), m.2)) ms _
    (fun a ha => ?_) ?_
  · obtain ⟨hv, hl, hb⟩ := h a ha
    refine ⟨forward_head hl a.2, fun rest => ?_⟩
    obtain ⟨fr, hp⟩ := forward_request_roundtrip a.1 a.2 rest hv hl hb
    exact ⟨_, hp, rfl⟩
  · have hlen : ∀ l : List (ReqHead × Bytes), (∀ m ∈ l, RequestLineOk m.1) →
        l.length ≤ (l.map fun m => forwardRequest m.1 m.2).flatten.length := by
      intro l
      induction l with
      | nil => simp
      | cons m rest ih =>
        intro hl
        obtain ⟨c, tl, hc, _⟩ := forward_head (hl m (by simp)) m.2
        have := ih fun x hx => hl x (by simp [hx])
        simp only [List.map_cons, List.flatten_cons, List.length_append, List.length_cons, hc]
        omega
    have := hlen ms fun m hm => (h m hm).2.1
    omega

/-- Ambiguity is rejected, at the level of the raw head lines: take any list of head lines without
    CR/LF inside them.  If `_read_headers` accepts them (giving the recorded fields `fs`) while the strict reference reader,
    reading the SAME lines, finds the message ambiguous — a field name that is not a token, or ambiguous framing of the
    fields as IT reads them (folds replaced by SP, OWS removed) — then `validate_headers` rejects the recorded message.
    So no message is forwarded whose head a strict reader calls ambiguous, although the two readers represent folded and
    padded values differently. -/
theorem lines_ambiguous_rejected (kind : Kind) (version reason reqMethod : Bytes) (ls : List Bytes) (fs : List Field) (c : Nat)
    (hclean : ∀ l ∈ ls, cleanLine l) (hread : readHeaders ls = some fs)
    (hamb : Ref.fields ls = .error (.ambiguous c) ∨
            ∃ fsR, Ref.fields ls = .ok fsR ∧ Ref.framing fsR version kind reqMethod = .error (.ambiguous c)) :
    validateHeaders kind version reason fs = false := by
  cases hv : validateHeaders kind version reason fs with
  | false => rfl
  | true =>
    exfalso
    -- names are cut from clean lines, so `validate_headers` has checked that they are tokens; then the reference reader
    -- reads the same lines as the unfolded recorded fields, which it frames like the recorded ones: without ambiguity
    have htok := validated_tokens hv (readHeaders_names_clean hclean hread)
    obtain ⟨_, fr, _, hfrok, _⟩ := framing_agrees kind version reason reqMethod fs hv
    rcases fieldsAux_readHeaders ls [] fs hclean hread with hok | ⟨_, f, hf, hbad⟩
    · replace hok : Ref.fieldsAux ls [] = _ := hok
      simp only [Ref.fields, hok] at hamb
      rcases hamb with hamb | ⟨fsR, hfs, hfa⟩
      · split at hamb <;> simp at hamb
      · split at hfs
        · simp only [Except.ok.injEq] at hfs
          subst hfs
          rw [framing_unfolded hv, hfrok] at hfa
          cases hfa
        · simp at hfs
    · rw [(htok f hf).1] at hbad
      cases hbad

private theorem headLines_error {f : Nat} {b : Bytes} {e : Ref.Err} (h : Ref.headLines f b = .error e) :
    e = .incomplete ∨ e = .malformed := by
  fun_induction Ref.headLines f b <;> simp_all

private theorem chunkedBody_error {f : Nat} {b acc : Bytes} {tr : Bool} {e : Ref.Err}
    (h : Ref.chunkedBody f b acc tr = .error e) : e = .incomplete ∨ e = .malformed := by
  fun_induction Ref.chunkedBody f b acc tr <;> simp_all

private theorem parseRequest_ambiguous {buf : Bytes} {c : Nat} (h : Ref.parseRequest buf = .error (.ambiguous c)) :
    ∃ l ls rest m t v, Ref.headLines (buf.length + 1) buf = .ok (l :: ls, rest) ∧ Ref.requestLine l = some (m, t, v) ∧
      (Ref.fields ls = .error (.ambiguous c) ∨
       ∃ fs, Ref.fields ls = .ok fs ∧ Ref.framing fs v .request [] = .error (.ambiguous c)) := by
  revert h
  fun_cases Ref.parseRequest buf
  -- of the branches that return an error, four can return an ambiguity: the line splitter and the chunked-body reader
  -- never do, the field reader and the framing decision are what the statement names
  all_goals rintro ⟨⟩
  case case1 hh => rcases headLines_error hh with h | h <;> cases h
  case case4 hh _ _ _ hrl hf => exact ⟨_, _, _, _, _, _, hh, hrl, .inl hf⟩
  case case5 hh _ _ _ hrl _ hf hfr => exact ⟨_, _, _, _, _, _, hh, hrl, .inr ⟨_, hf, hfr⟩⟩
  case case10 hcb => rcases chunkedBody_error hcb with h | h <;> cases h

private theorem parseResponse_ambiguous {m : Bytes} {eof : Bool} {buf : Bytes} {c : Nat}
    (h : Ref.parseResponse m eof buf = .error (.ambiguous c)) :
    ∃ l ls rest v st reason, Ref.headLines (buf.length + 1) buf = .ok (l :: ls, rest) ∧
      Ref.statusLine l = some (v, st, reason) ∧
      (Ref.fields ls = .error (.ambiguous c) ∨
       ∃ fs, Ref.fields ls = .ok fs ∧ Ref.framing fs v (.response st) m = .error (.ambiguous c)) := by
  revert h
  fun_cases Ref.parseResponse m eof buf
  all_goals rintro ⟨⟩
  case case1 hh => rcases headLines_error hh with h | h <;> cases h
  case case4 hh _ _ _ hrl hf => exact ⟨_, _, _, _, _, _, hh, hrl, .inl hf⟩
  case case5 hh _ _ _ hrl _ hf hfr => exact ⟨_, _, _, _, _, _, hh, hrl, .inr ⟨_, hf, hfr⟩⟩
  case case10 hcb => rcases chunkedBody_error hcb with h | h <;> cases h

/-- Ambiguity is rejected, on raw bytes: if the strict reference reader finds the request at the front of
    a byte stream ambiguous (non-token field name, Content-Length with Transfer-Encoding, differing / malformed Content-Length,
    unknown / misplaced / repeated transfer coding, non-chunked request coding, Transfer-Encoding on HTTP/1.0), then whatever
    mitmproxy reads from the same bytes — h11 `maybe_extract_lines`, `read_request_head` — is refused by `validate_headers`:
    the message is rejected, not forwarded.  (The two readers split the head into the same lines — `extractLines_of_headLines` —
    and the same request-line parts — `splitWs_of_requestLine`.) -/
theorem raw_ambiguous_rejected (authOk : Bytes → Bytes → Bool) (buf : Bytes) (c : Nat)
    (hamb : Ref.parseRequest buf = .error (.ambiguous c))
    (ls : List Bytes) (rest : Bytes) (r : ReqHead)
    (hex : extractLines buf = .lines ls rest) (hread : readRequestHead authOk ls = some r) :
    validateHeaders .request r.version [] r.fields = false := by
  obtain ⟨l, lsR, restR, m, t, v, hh, hrl, hflds⟩ := parseRequest_ambiguous hamb
  obtain ⟨hext, hclean⟩ := extractLines_of_headLines _ buf l lsR restR hh
  rw [hext] at hex
  cases hex
  simp only [readRequestHead] at hread
  split at hread <;> cases hread
  rename_i h fs hq hf
  have hver : h.version = v := readRequestLine_version (splitWs_of_requestLine (hclean l (by simp)) hrl) hq
  simp only [hver]
  exact lines_ambiguous_rejected .request v [] [] lsR fs c (fun x hx => hclean x (by simp [hx])) hf hflds

/-- the response side of `raw_ambiguous_rejected`, in the context of the request method:
    if the strict reference reader finds the response at the front of the origin's byte stream ambiguous, what mitmproxy reads
    from the same bytes (h11 `maybe_extract_lines`, `read_response_head`) is refused by `validate_headers` — 502, not relayed -/
theorem raw_ambiguous_rejected_response (reqMethod : Bytes) (eof : Bool) (buf : Bytes) (c : Nat)
    (hamb : Ref.parseResponse reqMethod eof buf = .error (.ambiguous c))
    (ls : List Bytes) (rest : Bytes) (r : RespHead)
    (hex : extractLines buf = .lines ls rest) (hread : readResponseHead ls = some r) :
    validateHeaders (.response r.status) r.version r.reason r.fields = false := by
  obtain ⟨l, lsR, restR, v, st, rsn, hh, hsl, hflds⟩ := parseResponse_ambiguous hamb
  obtain ⟨hext, hclean⟩ := extractLines_of_headLines _ buf l lsR restR hh
  rw [hext] at hex
  cases hex
  simp only [readResponseHead] at hread
  split at hread <;> cases hread
  rename_i h fs hq hf
  obtain ⟨hver, hst⟩ := readResponseLine_of_statusLine hsl hq
  simp only [hver, hst]
  exact lines_ambiguous_rejected (.response st) v h.reason reqMethod lsR fs c (fun x hx => hclean x (by simp [hx])) hf hflds

/-! ## instances: the statements hold on concrete messages, and their hypotheses are satisfiable -/

private def decEqExcept {ε α : Type} [DecidableEq ε] [DecidableEq α] : DecidableEq (Except ε α)
  | .ok a, .ok b => if h : a = b then isTrue (h ▸ rfl) else isFalse fun e => h (Except.ok.inj e)
  | .error a, .error b => if h : a = b then isTrue (h ▸ rfl) else isFalse fun e => h (Except.error.inj e)
  | .ok _, .error _ => isFalse nofun
  | .error _, .ok _ => isFalse nofun

/-- `Except` has no `DecidableEq` instance in core; `decEqExcept` supplies one for the `decide +kernel` of the instances below -/
private theorem except_eq {ε α : Type} [DecidableEq ε] [DecidableEq α] {x y : Except ε α}
    (h : @decide (x = y) (decEqExcept x y) = true) : x = y :=
  @of_decide_eq_true _ (decEqExcept x y) h

/-- a folded field satisfying the hypotheses of the fold theorems: `X: a CRLF SP b` -/
example : (⟨[88], [97], [[32, 98]]⟩ : PField).ok := by
  refine ⟨⟨by decide, by decide⟩, by decide, ?_⟩
  intro q hq
  simp at hq; subst hq
  exact ⟨⟨by decide, by decide⟩, by decide, 32, [98], rfl, Or.inl rfl⟩
example : (⟨[88], [97], [[32, 98]]⟩ : PField).ufield = ([88], [97, 32, 98]) := by decide +kernel

example : Ref.parseRequest (forwardRequest ⟨[71,69,84], [], [], [47], sHttp11, [([72,111,115,116], [104]), (sCL, [51])]⟩ [97,98,99] ++ [88]) =
    .ok (⟨[71,69,84], [47], sHttp11, [([72,111,115,116], [104]), (sCL, [51])], [97,98,99], .cl 3⟩, [88]) := except_eq (by decide +kernel)
example : Ref.parseRequest (forwardRequest ⟨[80,85,84], [], [], [47], sHttp11, [(sTE, sChunked), ([88], [97, 13, 10, 32, 98])]⟩ [97,98,99] ++ [88]) =
    .ok (⟨[80,85,84], [47], sHttp11, [(sTE, sChunked), ([88], [97, 32, 98])], [97,98,99], .chunked⟩, [88]) := except_eq (by decide +kernel)


/-! ## non-vacuity witnesses: the hypotheses of the theorems above hold together on concrete, non-trivial messages -/
private def aGET : Bytes := [71, 69, 84]
private def aPOST : Bytes := [80, 79, 83, 84]
private def aReq : ReqHead := ⟨aGET, [], [], [47], sHttp11, [([72, 111, 115, 116], [104]), (sCL, [51])]⟩
private def aReqTE : ReqHead := ⟨aPOST, [], [], [47, 120], sHttp11, [(sTE, sChunked), ([88], [97, 13, 10, 32, 98])]⟩
private def aResp : RespHead := ⟨sHttp11, 200, [79, 75], [(sCL, [51])]⟩
private def aRespEof : RespHead := ⟨sHttp11, 200, [79, 75], [([88], [121])]⟩
/-- `POST / HTTP/1.1 CRLF Content-Length: 5 CRLF Transfer-Encoding: chunked CRLF CRLF` -/
private def aAmbReq : Bytes :=
  aPOST ++ [32, 47, 32] ++ sHttp11 ++ crlf ++ sCL ++ colonSp ++ [53] ++ crlf ++ sTE ++ colonSp ++ sChunked ++ crlf ++ crlf
/-- `HTTP/1.1 200 OK CRLF Content-Length: 5 CRLF Content-Length: 6 CRLF CRLF` -/
private def aAmbResp : Bytes :=
  sHttp11 ++ [32, 50, 48, 48, 32, 79, 75] ++ crlf ++ sCL ++ colonSp ++ [53] ++ crlf ++ sCL ++ colonSp ++ [54] ++ crlf ++ crlf

-- bad_field_name_rejected
example : ([88, 32], [97]) ∈ [(([88, 32] : Bytes), ([97] : Bytes))] ∧ nameOk [88, 32] = false ∧
    validateHeaders .request sHttp11 [] [([88, 32], [97])] = false := by decide +kernel
-- forward_request_roundtrip(_partial/_nofold): validated, RequestLineOk, no TE, plain values, consistent body
example : validateHeaders .request aReq.version [] aReq.fields = true := by decide +kernel
example : RequestLineOk aReq := by unfold RequestLineOk; decide
example : getAll aReq.fields sTE = [] := by decide +kernel
example : BodyConsistent aReq [97, 98, 99] := by
  have h : requestBodySize aReq = some (.len 3) := by decide +kernel
  simp [BodyConsistent, h]
example : NoFold aReq := by
  intro f hf
  simp [aReq] at hf
  rcases hf with rfl | rfl <;> exact ⟨by unfold cleanLine; decide, by decide⟩
-- …_chunked_partial / forward_request_roundtrip with an obs-folded value
example : validateHeaders .request aReqTE.version [] aReqTE.fields = true ∧ getAll aReqTE.fields sTE ≠ [] := by decide +kernel
example : RequestLineOk aReqTE := by unfold RequestLineOk; decide
example : BodyConsistent aReqTE [97, 98, 99] := by
  have h : requestBodySize aReqTE = some .chunked := by decide +kernel
  simp [BodyConsistent, h]
-- the conclusions on these instances (request with Content-Length; chunked request with a folded value; stream of both)
example : Ref.parseRequest (forwardRequest aReqTE [97, 98, 99] ++ [88]) =
    .ok (⟨aPOST, [47, 120], sHttp11, [(sTE, sChunked), ([88], [97, 32, 98])], [97, 98, 99], .chunked⟩, [88]) := except_eq (by decide +kernel)
example : (Ref.parseRequests 100 ([forwardRequest aReq [97, 98, 99], forwardRequest aReqTE [100]].flatten)).2 = none ∧
    (Ref.parseRequests 100 ([forwardRequest aReq [97, 98, 99], forwardRequest aReqTE [100]].flatten)).1.map
      (fun m => (m.a, m.b, m.body)) = [(aGET, [47], [97, 98, 99]), (aPOST, [47, 120], [100])] := by decide +kernel
-- relay_response_roundtrip(_full): validated, head ok, not CONNECT-2xx, consistent body (Content-Length; HEAD; until close)
example : validateHeaders (.response aResp.status) aResp.version aResp.reason aResp.fields = true := by decide +kernel
example : RespHeadOk aResp := by
  refine ⟨by decide, by decide, by unfold cleanLine; decide, by decide, ?_⟩
  intro f hf; simp [aResp] at hf; subst hf; exact ⟨by unfold cleanLine; decide, by decide⟩
example : ¬(asciiUpper aGET = sCONNECT ∧ 200 ≤ aResp.status ∧ aResp.status ≤ 299) := by decide +kernel
example : RespBodyConsistent aGET aResp [97, 98, 99] [88] false := by
  have h : responseBodySize aGET aResp = some (.len 3) := by decide +kernel
  simp [RespBodyConsistent, h]
example : RespBodyConsistent [72, 69, 65, 68] aResp [] [88] false := by          -- HEAD: no body although Content-Length: 3
  have h : responseBodySize [72, 69, 65, 68] aResp = some (.len 0) := by decide +kernel
  simp [RespBodyConsistent, h]
example : RespBodyConsistent aGET aRespEof [97, 98] [] true := by                -- no framing header: read until close
  have h : responseBodySize aGET aRespEof = some .untilEof := by decide +kernel
  simp [RespBodyConsistent, h]
example : Ref.parseResponse aGET false (relayResponse aGET aResp [97, 98, 99] ++ [88]) =
    .ok (⟨sHttp11, [50, 48, 48], [79, 75], [(sCL, [51])], [97, 98, 99], .cl 3⟩, [88]) := except_eq (by decide +kernel)
example : Ref.parseResponse aGET true (relayResponse aGET aRespEof [97, 98] ++ []) =
    .ok (⟨sHttp11, [50, 48, 48], [79, 75], [([88], [121])], [97, 98], .eof⟩, []) := except_eq (by decide +kernel)
-- raw_ambiguous_rejected / lines_ambiguous_rejected: the strict reader calls the bytes ambiguous, mitmproxy's readers read a head, validate_headers refuses it
example : Ref.parseRequest aAmbReq = .error (.ambiguous Ref.cClTe) := except_eq (by decide +kernel)
example : (match extractLines aAmbReq with
    | .lines ls _ => (readRequestHead (fun _ _ => true) ls).map fun r => validateHeaders .request r.version [] r.fields
    | _ => none) = some false := by decide +kernel
-- raw_ambiguous_rejected_response
example : Ref.parseResponse aGET false aAmbResp = .error (.ambiguous Ref.cClConflict) := except_eq (by decide +kernel)
example : (match extractLines aAmbResp with
    | .lines ls _ => (readResponseHead ls).map fun r => validateHeaders (.response r.status) r.version r.reason r.fields
    | _ => none) = some false := by decide +kernel

end MitmVerif.Props.C01
