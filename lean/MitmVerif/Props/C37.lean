/-
  C37 — flow files are crash-consistent.  Property theorems (reader and codec are C36's model; `Good` is C36's notion of a
  sequence of records that the reader turns into the flows `fl`).

  The crash and completeness theorems are one theorem applied to different byte strings:
  `prefix_yields_complete_records_only` — a prefix of a record file reads as the flows of the records wholly inside it
  (`prefix_decomp` of Lemmas/C37, then C36's reader lemmas on whole records followed by a cut one).  The writers enter only
  through the fact that whatever is on disk is such a prefix: the stream file is the concatenation of what the hooks wrote
  (`file_is_concatenation`), and for a buffered file `disk ++ buf` is everything written so far (`runOps_inv`, hence
  `disk_cut_prefix`).  The crash theorems over a buffered file come in a weak form (some initial segment of the flows) and,
  but for CPython's policy, an `_exact` form (which one); the `*addon*` theorems instantiate the hook sequence with the
  events the transcribed Save addon emits (Model/C37_Addon), and `finished_flows_are_written` says which flows those are.
-/
import MitmVerif.Lemmas.C37
import MitmVerif.Model.C37_Addon
import MitmVerif.Props.C36
namespace MitmVerif.Props.C37
open MitmVerif MitmVerif.C36 MitmVerif.C37

/-- **C37 (truncation).** `vs` are the flow states written (each a well-formed dict state within the reader's
    limits that `from_state ∘ migrate_flow` maps to the flow at the same position of `fl` — `Good`). For EVERY prefix
    `p` of the file there is a `k` such that `p` = the first `k` records followed by `q`, where `q` is empty or a
    strict non-empty prefix of record `k`; and reading `p` yields exactly the first `k` flows, in order, ending
    cleanly iff `q` is empty and with FlowReadException otherwise. -/
theorem prefix_yields_complete_records_only {α : Type} (env : Env α) (vs : List Value) (fl : List α)
    (hgood : Good env 0 vs fl) (p : Bytes) (hp : p <+: encList vs) :
    ∃ k q, k ≤ vs.length ∧ p = encList (vs.take k) ++ q ∧
      (q = [] ∨ ∃ v w, vs[k]? = some v ∧ q ≠ [] ∧ w ≠ [] ∧ q ++ w = enc v) ∧
      readAll env p = (fl.take k, if q = [] then .clean else .flowRead) := by
  obtain ⟨k, q, hk, hpq, hq⟩ := prefix_decomp vs p hp
  refine ⟨k, q, hk, hpq, hq, ?_⟩
  obtain ⟨g, hg, hr⟩ := readAll_records env (vs.take k) (fl.take k) q (Good.take env vs fl 0 k hgood)
    (hpq ▸ sniff_of_prefix vs p hp)
  rw [hpq, hr]
  rcases hq with hq | ⟨v, w, hv, hq1, hw, hqw⟩
  · simp [hq, streamLoop_nil env g _ hg]
  · simp [hq1, streamLoop_cut env g _ hg v q w (Good.size env vs fl 0 k v hgood hv) hq1 hw hqw]

/-- **C37 (no partial flow).** The flows yielded from any truncation of the file are an initial segment of the
    flows that were written: a partially written flow, or anything else, is never returned. -/
theorem partial_flow_never_returned {α : Type} (env : Env α) (vs : List Value) (fl : List α)
    (hgood : Good env 0 vs fl) (p : Bytes) (hp : p <+: encList vs) :
    (readAll env p).1 <+: fl := by
  obtain ⟨k, q, _, _, _, hr⟩ := prefix_yields_complete_records_only env vs fl hgood p hp
  rw [hr]
  exact List.take_prefix k fl

/-- **C37 (stream file = concatenation of whole records).** After any sequence of save hooks the file is exactly the
    concatenation of `dumps state` for the states written so far, in order. -/
theorem file_is_concatenation (evs : List Event) : run evs = encList (written evs) := by
  simpa [run] using run_from evs []

/-- each hook leaves what is already in the file untouched and appends whole records -/
theorem file_only_grows (evs : List Event) (e : Event) :
    run (evs ++ [e]) = run evs ++ encList e.writes := by
  simp [file_is_concatenation, written_append, encList_append, written]

/-- **C37 (complete at any moment).** After every hook of any hook sequence the stream file reads back — cleanly —
    as exactly the flows written so far, in order. -/
theorem stream_file_complete_after_each_hook {α : Type} (env : Env α) (evs : List Event) (j : Nat) (fl : List α)
    (hgood : Good env 0 (written (evs.take j)) fl) :
    readAll env (run (evs.take j)) = (fl, .clean) := by
  rw [file_is_concatenation]
  exact MitmVerif.Props.C36.read_roundtrip env _ fl hgood

/-- the weak form of `prefix_yields_complete_records_only`, in which all the crash theorems below state their result -/
private theorem prefix_reads_initial_segment {α : Type} (env : Env α) (vs : List Value) (fl : List α)
    (hgood : Good env 0 vs fl) (p : Bytes) (hp : p <+: encList vs) :
    ∃ k, readAll env p = (fl.take k, .clean) ∨ readAll env p = (fl.take k, .flowRead) := by
  obtain ⟨k, q, _, _, _, hr⟩ := prefix_yields_complete_records_only env vs fl hgood p hp
  refine ⟨k, ?_⟩
  rw [hr]
  by_cases hq : q = [] <;> simp [hq]

/-- **C37 (crash at any byte).** If writing stops at any byte — the file on disk is any prefix `p` of what the hook
    sequence would have written — loading yields an initial segment of the written flows and then ends cleanly or
    with FlowReadException; nothing else. -/
theorem crash_at_any_byte {α : Type} (env : Env α) (evs : List Event) (fl : List α)
    (hgood : Good env 0 (written evs) fl) (n : Nat) :
    ∃ k, readAll env ((run evs).take n) = (fl.take k, .clean) ∨
         readAll env ((run evs).take n) = (fl.take k, .flowRead) :=
  prefix_reads_initial_segment env _ fl hgood _ (file_is_concatenation evs ▸ List.take_prefix n _)

/-- **C37 (crash consistency under ANY buffering).** Let a program write the records of `vs` through a buffered file by
    ANY sequence of `write`/`flush` operations (the writes' payloads concatenate to the record file; how much the
    buffering layer hands to the OS after each write is arbitrary). Stop it after ANY number `i` of operations and let
    only the first `n` bytes of what the OS was handed survive: loading yields an initial segment of the written
    flows and ends cleanly or with FlowReadException. -/
theorem crash_consistent_any_buffering {α : Type} (env : Env α) (vs : List Value) (fl : List α)
    (hgood : Good env 0 vs fl) (ops : List FOp) (hlog : opsLog ops = encList vs) (i n : Nat) :
    ∃ k, readAll env ((BFile.empty.runOps (ops.take i)).disk.take n) = (fl.take k, .clean) ∨
         readAll env ((BFile.empty.runOps (ops.take i)).disk.take n) = (fl.take k, .flowRead) :=
  prefix_reads_initial_segment env vs fl hgood _ (hlog ▸ disk_cut_prefix ops i n)

/-- **C37 (every hook sequence, every crash point).** For EVERY sequence of save hooks, EVERY spill behaviour of the
    buffering layer, EVERY number `i` of completed file operations and EVERY surviving byte count `n`: what is on
    disk loads as an initial segment of the flows the hooks wrote, then a clean end or FlowReadException. -/
theorem crash_prefix_every_hook_sequence {α : Type} (env : Env α) (evs : List Event) (fl : List α)
    (hgood : Good env 0 (written evs) fl) (ks : List Nat) (i n : Nat) :
    ∃ k, readAll env ((BFile.empty.runOps ((hookOps evs ks).take i)).disk.take n) = (fl.take k, .clean) ∨
         readAll env ((BFile.empty.runOps ((hookOps evs ks).take i)).disk.take n) = (fl.take k, .flowRead) :=
  crash_consistent_any_buffering env (written evs) fl hgood (hookOps evs ks) (opsLog_streamOps _ _) i n

/-- **C37 (complete at every hook boundary — because of the flush).** After the file operations of any number of
    complete hooks, the OS has been handed exactly the concatenation of all records written so far and the process'
    buffer is empty — whatever the buffering layer did in between. -/
theorem hook_boundary_flushed (evs : List Event) (ks : List Nat) :
    BFile.empty.runOps (hookOps evs ks) = ⟨run evs, []⟩ := by
  rw [hookOps, streamOps_flushed _ _ _ rfl, file_is_concatenation]
  simp [BFile.empty]

/-- … hence the file on disk after every hook reads back, cleanly, as all flows written so far — with the buffering
    inside the model instead of assumed away -/
theorem stream_disk_complete_after_each_hook {α : Type} (env : Env α) (evs : List Event) (j : Nat) (fl : List α)
    (ks : List Nat) (hgood : Good env 0 (written (evs.take j)) fl) :
    readAll env (BFile.empty.runOps (hookOps (evs.take j) ks)).disk = (fl, .clean) := by
  rw [hook_boundary_flushed]
  exact stream_file_complete_after_each_hook env evs j fl hgood

/-- **C37 (explicit save).** `save.file` writes through `FlowWriter` without flushing; a crash at any operation and
    byte still leaves an initial segment of the flows. -/
theorem explicit_save_crash_consistent {α : Type} (env : Env α) (vs : List Value) (fl : List α)
    (hgood : Good env 0 vs fl) (ks : List Nat) (i n : Nat) :
    ∃ k, readAll env ((BFile.empty.runOps ((explicitOps vs ks).take i)).disk.take n) = (fl.take k, .clean) ∨
         readAll env ((BFile.empty.runOps ((explicitOps vs ks).take i)).disk.take n) = (fl.take k, .flowRead) :=
  crash_consistent_any_buffering env vs fl hgood (explicitOps vs ks) (opsLog_explicitOps _ _) i n

/-- … and once the `with` block has closed the file, the OS holds all of it -/
theorem explicit_save_complete_after_close (vs : List Value) (ks : List Nat) :
    BFile.empty.runOps (explicitOps vs ks) = ⟨encList vs, []⟩ := by
  rw [explicitOps_closed]; simp [BFile.empty]

/-- **C37 (CPython's buffering policy).** With `BufferedWriter.write` transcribed (buffer size `B`): after every
    `FlowWriter.add` of an explicit save the bytes the OS holds, cut anywhere, load as an initial segment of the flows. -/
theorem cpython_buffered_explicit_save {α : Type} (env : Env α) (vs : List Value) (fl : List α)
    (hgood : Good env 0 vs fl) (B : Nat) (st : BFile) (hst : st ∈ pyExplicit B BFile.empty (vs.map dumps)) (n : Nat) :
    ∃ k, readAll env (st.disk.take n) = (fl.take k, .clean) ∨ readAll env (st.disk.take n) = (fl.take k, .flowRead) := by
  have hd : st.disk <+: encList vs := by
    simpa [BFile.empty, MitmVerif.Props.C36.encList_eq_dumps] using pyExplicit_disk_prefix B _ _ _ hst
  exact prefix_reads_initial_segment env vs fl hgood _ ((List.take_prefix n _).trans hd)

/-- **C37 (complete at any moment — one hypothesis for the whole run).** It is enough to know that the states the WHOLE hook
    sequence writes are good records (`Good … (written evs) fl`): then after EVERY hook `j` the stream file reads back, cleanly,
    as exactly the flows written so far. (`stream_file_complete_after_each_hook` asked for this knowledge hook by hook.) -/
theorem stream_file_complete_at_every_hook {α : Type} (env : Env α) (evs : List Event) (fl : List α)
    (hgood : Good env 0 (written evs) fl) (j : Nat) :
    readAll env (run (evs.take j)) = (fl.take (written (evs.take j)).length, .clean) := by
  apply stream_file_complete_after_each_hook env evs j
  -- the states written by the first `j` hooks are an initial segment of those written by all
  have h : written evs = written (evs.take j) ++ written (evs.drop j) := by
    rw [← written_append, List.take_append_drop]
  have hg := Good.take env (written evs) fl 0 (written (evs.take j)).length hgood
  rwa [h, List.take_left' rfl] at hg

/-- … and the same for what the operating system holds, with the buffer and the flush points inside the model -/
theorem stream_disk_complete_at_every_hook {α : Type} (env : Env α) (evs : List Event) (fl : List α)
    (hgood : Good env 0 (written evs) fl) (ks : List Nat) (j : Nat) :
    readAll env (BFile.empty.runOps (hookOps (evs.take j) ks)).disk
      = (fl.take (written (evs.take j)).length, .clean) := by
  rw [hook_boundary_flushed]
  exact stream_file_complete_at_every_hook env evs fl hgood j

/-- **C37 (crash consistency under any buffering — WHICH flows come back).** The exact form of
    `crash_consistent_any_buffering`: the surviving bytes are the first `k` records followed by nothing
    or by a strict non-empty prefix of record `k`; loading yields EXACTLY the first `k` flows — the ones completely written
    before the crash point — and ends cleanly iff the crash point is a record boundary, with FlowReadException otherwise. -/
theorem crash_consistent_any_buffering_exact {α : Type} (env : Env α) (vs : List Value) (fl : List α)
    (hgood : Good env 0 vs fl) (ops : List FOp) (hlog : opsLog ops = encList vs) (i n : Nat) :
    ∃ k q, k ≤ vs.length ∧ (BFile.empty.runOps (ops.take i)).disk.take n = encList (vs.take k) ++ q ∧
      (q = [] ∨ ∃ v w, vs[k]? = some v ∧ q ≠ [] ∧ w ≠ [] ∧ q ++ w = enc v) ∧
      readAll env ((BFile.empty.runOps (ops.take i)).disk.take n) = (fl.take k, if q = [] then .clean else .flowRead) :=
  prefix_yields_complete_records_only env vs fl hgood _ (hlog ▸ disk_cut_prefix ops i n)

/-- the exact form for every hook sequence -/
theorem crash_prefix_every_hook_sequence_exact {α : Type} (env : Env α) (evs : List Event) (fl : List α)
    (hgood : Good env 0 (written evs) fl) (ks : List Nat) (i n : Nat) :
    ∃ k q, k ≤ (written evs).length ∧
      (BFile.empty.runOps ((hookOps evs ks).take i)).disk.take n = encList ((written evs).take k) ++ q ∧
      (q = [] ∨ ∃ v w, (written evs)[k]? = some v ∧ q ≠ [] ∧ w ≠ [] ∧ q ++ w = enc v) ∧
      readAll env ((BFile.empty.runOps ((hookOps evs ks).take i)).disk.take n)
        = (fl.take k, if q = [] then .clean else .flowRead) :=
  crash_consistent_any_buffering_exact env (written evs) fl hgood (hookOps evs ks) (opsLog_streamOps _ _) i n

/-- the exact form for an explicit save (`FlowWriter`, no flush before close) -/
theorem explicit_save_crash_consistent_exact {α : Type} (env : Env α) (vs : List Value) (fl : List α)
    (hgood : Good env 0 vs fl) (ks : List Nat) (i n : Nat) :
    ∃ k q, k ≤ vs.length ∧ (BFile.empty.runOps ((explicitOps vs ks).take i)).disk.take n = encList (vs.take k) ++ q ∧
      (q = [] ∨ ∃ v w, vs[k]? = some v ∧ q ≠ [] ∧ w ≠ [] ∧ q ++ w = enc v) ∧
      readAll env ((BFile.empty.runOps ((explicitOps vs ks).take i)).disk.take n)
        = (fl.take k, if q = [] then .clean else .flowRead) :=
  crash_consistent_any_buffering_exact env vs fl hgood (explicitOps vs ks) (opsLog_explicitOps _ _) i n

/-- **C37 (complete up to the last finished flow — the addon).** With the Save addon's hook handlers transcribed
    (`addonStep`): for EVERY history of hooks, stream starts and stops, the states of all flows that were FINISHED while a
    stream was open and the filter matched (`finishedStates`, computed from the inputs alone) occur, in hook order, among
    the records written to the stream file — whether or not the addon ever saw the flow's start hook. -/
theorem finished_flows_are_written : ∀ (ins : List AddonIn) (sv : Save),
    (finishedStates sv.streaming ins).Sublist (written (addonEvents sv ins)) := by
  suffices h : ∀ ins sv str, sv.streaming = str → (finishedStates str ins).Sublist (written (addonEvents sv ins)) from
    fun ins sv => h ins sv _ rfl
  intro ins
  induction ins with
  | nil => intro _ _ _; exact List.Sublist.refl _
  | cons i t ih =>
    intro sv _ rfl
    simp only [addonEvents, written]
    -- an input leaves both lists as they are, puts its state on both, or (`done`) adds records to the written ones only;
    -- with `ih`, `simp` settles all of these but two
    fun_cases addonStep sv i <;> simp [finishedStates, Event.writes, *]
    -- a start hook only changes `active`
    case case1 => split <;> exact ih _ _ rfl
    -- a saving hook while streaming: the state goes to both lists iff the filter matches
    case case2 m _ _ _ _ => cases m <;> simp [ih ⟨true, _⟩ true rfl]

/-- **C37 (crash at any byte of any addon history).** For EVERY history of hooks and stream starts / stops of the Save
    addon, every buffering behaviour, every number of completed file operations and every surviving byte count: what is on
    disk loads as an initial segment of the flows the addon wrote, then a clean end or FlowReadException. -/
theorem crash_prefix_every_addon_history {α : Type} (env : Env α) (sv : Save) (ins : List AddonIn) (fl : List α)
    (hgood : Good env 0 (written (addonEvents sv ins)) fl) (ks : List Nat) (i n : Nat) :
    ∃ k, readAll env ((BFile.empty.runOps ((hookOps (addonEvents sv ins) ks).take i)).disk.take n) = (fl.take k, .clean) ∨
         readAll env ((BFile.empty.runOps ((hookOps (addonEvents sv ins) ks).take i)).disk.take n) = (fl.take k, .flowRead) :=
  crash_prefix_every_hook_sequence env (addonEvents sv ins) fl hgood ks i n

/-- … and after every hook of the history what the OS holds reads back, cleanly, as all flows written so far -/
theorem addon_disk_complete_at_every_hook {α : Type} (env : Env α) (sv : Save) (ins : List AddonIn) (fl : List α)
    (hgood : Good env 0 (written (addonEvents sv ins)) fl) (ks : List Nat) (j : Nat) :
    readAll env (BFile.empty.runOps (hookOps ((addonEvents sv ins).take j) ks)).disk
      = (fl.take (written ((addonEvents sv ins).take j)).length, .clean) :=
  stream_disk_complete_at_every_hook env (addonEvents sv ins) fl hgood ks j

/-- the exact form for every history of the Save addon -/
theorem crash_prefix_every_addon_history_exact {α : Type} (env : Env α) (sv : Save) (ins : List AddonIn) (fl : List α)
    (hgood : Good env 0 (written (addonEvents sv ins)) fl) (ks : List Nat) (i n : Nat) :
    ∃ k q, k ≤ (written (addonEvents sv ins)).length ∧
      (BFile.empty.runOps ((hookOps (addonEvents sv ins) ks).take i)).disk.take n
        = encList ((written (addonEvents sv ins)).take k) ++ q ∧
      (q = [] ∨ ∃ v w, (written (addonEvents sv ins))[k]? = some v ∧ q ≠ [] ∧ w ≠ [] ∧ q ++ w = enc v) ∧
      readAll env ((BFile.empty.runOps ((hookOps (addonEvents sv ins) ks).take i)).disk.take n)
        = (fl.take k, if q = [] then .clean else .flowRead) :=
  crash_prefix_every_hook_sequence_exact env (addonEvents sv ins) fl hgood ks i n

-- non-vacuity: a concrete two-record file, an environment for which `Good` holds, and what cuts of it read as
private def st1 : Value := .dict [(.str [0x61], .int 1)]        -- {"a": 1}   ->  8:1:a;1:1#}
private def st2 : Value := .dict []                              -- {}         ->  0:}
private def env0 : Env Nat := ⟨1000, 10, fun i _ => .ok i, fun _ => ([], true)⟩

private theorem good0 : Good env0 0 [st1, st2] [0, 1] := goodB_sound _ _ _ _ (by decide +kernel)
example : Good env0 0 [st1, st2] [0, 1] := good0
example : run [.noop, .save st1, .noop, .done [st2]] =
    [0x38,0x3a,0x31,0x3a,0x61,0x3b,0x31,0x3a,0x31,0x23,0x7d, 0x30,0x3a,0x7d] := by decide +kernel
-- cut inside the first record / on the boundary / inside the second record / complete
example : readAll env0 ((run [.save st1, .save st2]).take 5) = ([], .flowRead) := by decide +kernel
example : readAll env0 ((run [.save st1, .save st2]).take 11) = ([0], .clean) := by decide +kernel
example : readAll env0 ((run [.save st1, .save st2]).take 13) = ([0], .flowRead) := by decide +kernel
example : readAll env0 ((run [.save st1, .save st2]).take 14) = ([0, 1], .clean) := by decide +kernel

-- the flush is what makes the stream file complete at every moment: a writer that does not flush may have handed
-- NOTHING to the OS after a finished flow (spill 0) …
example : (BFile.empty.apply (.write (dumps st1) 0)).disk = [] := by decide +kernel
-- … which is exactly what CPython's buffer does for a record smaller than the buffer
example : (pyWrite 4096 BFile.empty (dumps st1)).disk = [] ∧ (pyWrite 4 BFile.empty (dumps st1)).disk = dumps st1 := by
  decide +kernel
example : (BFile.empty.runOps (hookOps [.save st1, .noop, .save st2] [0, 3])).disk
    = [0x38,0x3a,0x31,0x3a,0x61,0x3b,0x31,0x3a,0x31,0x23,0x7d, 0x30,0x3a,0x7d] := by decide +kernel

-- the addon model on a concrete history: flow 1 finishes without its start hook having been seen while streaming, flow 2
-- is a websocket flow (its `response` does not write), flow 3 is still active when the stream is switched off
example : written (addonEvents Save.init
    [.hook .request 1 false true st2, .start, .hook .response 1 false true st1, .hook .request 2 true true st2,
     .hook .response 2 true true st2, .hook .tcp_start 3 false true st2, .hook .websocket_end 2 true true st2,
     .done [(3, true, st1), (1, true, st1)]]) = [st1, st2, st1] := by
  rfl

-- the hypotheses of the buffered / hook / addon theorems hold together on a concrete two-record run
example :
    (∃ k, readAll env0 ((BFile.empty.runOps ((hookOps [.save st1, .noop, .save st2] [0, 3]).take 3)).disk.take 12) = ([0, 1].take k, .clean) ∨
          readAll env0 ((BFile.empty.runOps ((hookOps [.save st1, .noop, .save st2] [0, 3]).take 3)).disk.take 12) = ([0, 1].take k, .flowRead)) ∧
    (∃ k, readAll env0 ((BFile.empty.runOps ((explicitOps [st1, st2] [5]).take 2)).disk.take 9) = ([0, 1].take k, .clean) ∨
          readAll env0 ((BFile.empty.runOps ((explicitOps [st1, st2] [5]).take 2)).disk.take 9) = ([0, 1].take k, .flowRead)) ∧
    (∃ k, readAll env0 ((pyWrite 4 BFile.empty (dumps st1)).disk.take 7) = ([0, 1].take k, .clean) ∨
          readAll env0 ((pyWrite 4 BFile.empty (dumps st1)).disk.take 7) = ([0, 1].take k, .flowRead)) ∧
    readAll env0 (BFile.empty.runOps (hookOps ([Event.save st1, .noop, .save st2].take 2) [0, 3])).disk
      = ([0, 1].take (written ([Event.save st1, .noop, .save st2].take 2)).length, .clean) :=
  ⟨crash_prefix_every_hook_sequence env0 [.save st1, .noop, .save st2] [0, 1] good0 [0, 3] 3 12,
    explicit_save_crash_consistent env0 [st1, st2] [0, 1] good0 [5] 2 9,
    cpython_buffered_explicit_save env0 [st1, st2] [0, 1] good0 4 (pyWrite 4 BFile.empty (dumps st1)) (by simp [pyExplicit]) 7,
    stream_disk_complete_at_every_hook env0 [.save st1, .noop, .save st2] [0, 1] good0 [0, 3] 2⟩

-- the addon history theorems on a history with a start, two flows, a websocket-less response and a done():
example : written (addonEvents Save.init [.start, .hook .request 1 false true st2, .hook .response 1 false true st1,
      .hook .tcp_start 3 false true st2, .done [(3, true, st2)]]) = [st1, st2] ∧
    finishedStates false [.start, .hook .request 1 false true st2, .hook .response 1 false true st1,
      .hook .tcp_start 3 false true st2, .done [(3, true, st2)]] = [st1] := ⟨rfl, rfl⟩

-- the exact-k forms on the same run — after 3 file operations with 12 of the 14 bytes surviving,
-- EXACTLY the first flow comes back and the read ends with FlowReadException; with 11 bytes (a record boundary) it ends cleanly
example : readAll env0 ((BFile.empty.runOps ((hookOps [.save st1, .noop, .save st2] [0, 3]).take 3)).disk.take 12) = ([0], .flowRead) ∧
    readAll env0 ((BFile.empty.runOps ((hookOps [.save st1, .noop, .save st2] [0, 3]).take 3)).disk.take 11) = ([0], .clean) ∧
    readAll env0 ((BFile.empty.runOps ((hookOps [.save st1, .noop, .save st2] [0, 3]).take 3)).disk.take 14) = ([0, 1], .clean) := by
  decide +kernel

end MitmVerif.Props.C37
