/-
  C07 — theorems about HttpStream's body handling (`step` / `run`), about the HTTP/1 body readers and writers on either
  side of it, and about parse_size.

  They rest on Lemmas/C07: the equations of `step`, and what a flow holds and has emitted after any history, phase by
  phase (`Shape`, `shape_run`), from which "nothing is sent before a verdict", the buffer bound and "no content before
  `done`" are read off.  The relay theorems (`stream_run`, `relay_events`) are proved from the equations; the theorems
  about the wire (`segEvents`, `wireRun`) reduce to them through `feed_stops` (Lemmas/C07_Reader: an item that ends the
  message leaves the reader stopped), and `reader_inverts_writer` is `feed_chunk` (one chunk frame read back) iterated.
  `BufferBound` is the full statement of the buffer bound: it fails for store_streamed_bodies while streaming
  (`buffer_bound_counterexample`, finding F-C07a) and is proved outside that case (`buffer_bound_partial`).
-/
import MitmVerif.Lemmas.C07
import MitmVerif.Lemmas.C07_Reader
import MitmVerif.Model.C07_Exchange
namespace MitmVerif.Props.C07
open MitmVerif MitmVerif.C07

variable (o : Opts) (resp : Bool) (pol : Policy) (f : Bytes → Ret)

/-- the body is known to exceed the limit when `ev` arrives in state `s`: from Content-Length at the headers, or
    from the bytes buffered so far -/
def KnownTooLarge (o : Opts) (s : St) (ev : Ev) : Prop :=
  ∃ L, o.limit = some L ∧
    ((s.phase = .waitHeaders ∧ ∃ n : Nat, ev = .headers (.known n) false ∧ 0 < n ∧ (n : Int) > L) ∨
     (s.phase = .consume ∧ ∃ b, ev = .data b ∧ s.buf ++ b ≠ [] ∧ ((s.buf ++ b).length : Int) > L))

private theorem step_tooLarge (s : St) (ev : Ev) (h : KnownTooLarge o s ev) :
    (step o resp pol f s ev).1.phase = .errored := by
  obtain ⟨L, hL, h⟩ := h
  rcases h with ⟨hp, n, rfl, hn, hgt⟩ | ⟨hp, b, rfl, hne, hgt⟩
  · have hc : check o (.known n) [] = .abort :=
      check_abort o _ _ L n hL (by simp [expectedSize]) (by omega) hgt
    simp [step, hp, hc]
  · have hc := check_abort_late o s.exp _ L hL hne hgt
    rcases step_data_consume o resp pol f s hp b with ⟨_, hs⟩ | ⟨hc', _⟩ | ⟨hc', _⟩
    · rw [hs]
    · rw [hc] at hc'
      cases hc'
    · exact absurd hc hc'

/-- Whatever happened before (`pre`) and whatever follows (`post`): if at event `ev` the body is
    known to exceed body_size_limit, the run ends errored, the error hook fired, the client (and for a response the
    server) got the error, and neither the head nor a single body byte was ever forwarded. -/
theorem over_limit_errors (pre post : List Ev) (ev : Ev)
    (h : KnownTooLarge o (run o resp pol f init pre).1 ev) :
    (run o resp pol f init (pre ++ ev :: post)).1.phase = .errored ∧
    Out.hookError ∈ (run o resp pol f init (pre ++ ev :: post)).2 ∧
    Out.errClient ∈ (run o resp pol f init (pre ++ ev :: post)).2 ∧
    (resp = true → Out.errServer ∈ (run o resp pol f init (pre ++ ev :: post)).2) ∧
    dataOf (run o resp pol f init (pre ++ ev :: post)).2 = [] ∧
    Out.sendHead ∉ (run o resp pol f init (pre ++ ev :: post)).2 := by
  have herr : (run o resp pol f init (pre ++ ev :: post)).1.phase = .errored := by
    rw [run_append, run, run_final _ (Or.inr (step_tooLarge o resp pol f _ ev h))]
    exact step_tooLarge o resp pol f _ ev h
  have hs := shape_run o resp pol f 0 (pre ++ ev :: post)
  rw [herr] at hs
  exact ⟨herr, hs.2.1⟩

/-- **Full statement** of the clause "mitmproxy never holds more than the limit plus one received chunk": at all times the
    buffer holds at most the limit plus one chunk that was received.  It does NOT hold for the current code (see
    `buffer_bound_counterexample`, finding F-C07a). -/
def BufferBound (o : Opts) (resp : Bool) (pol : Policy) (f : Bytes → Ret) : Prop :=
  ∀ L, o.limit = some L → ∀ evs : List Ev,
    ∃ c, (c = [] ∨ Ev.data c ∈ evs) ∧ (run o resp pol f init evs).1.buf.length ≤ L.toNat + c.length

/-- With body_size_limit = L, after every history the buffer holds at most L plus one received
    chunk — unless the flow is streaming with store_streamed_bodies (the guard excludes exactly the states in which the
    stream states append to the buffer; that class is finding F-C07a). -/
theorem buffer_bound_partial (L : Int) (hL : o.limit = some L) (evs : List Ev)
    (guard : ¬ (o.store = true ∧ (run o resp pol f init evs).1.phase = .stream)) :
    ∃ c, (c = [] ∨ Ev.data c ∈ evs) ∧ (run o resp pol f init evs).1.buf.length ≤ L.toNat + c.length := by
  have hs := shape_run o resp pol f L evs
  have hempty : (run o resp pol f init evs).1.buf = [] →
      ∃ c, (c = [] ∨ Ev.data c ∈ evs) ∧ (run o resp pol f init evs).1.buf.length ≤ L.toNat + c.length :=
    fun hb => ⟨[], Or.inl rfl, by simp [hb]⟩
  cases hp : (run o resp pol f init evs).1.phase <;> rw [hp] at hs guard
  · exact hempty hs.2.1
  · exact ⟨[], Or.inl rfl, hs.2.1 hL⟩
  · exact hempty (hs.2 (by simpa using guard))
  · exact hempty hs
  · exact hs.2.2 hL

/-- while the body is being buffered the bound is even `buf.length ≤ L` before each chunk is added -/
theorem consume_buffer_le_limit (L : Int) (hL : o.limit = some L) (evs : List Ev)
    (hp : (run o resp pol f init evs).1.phase = .consume) :
    (run o resp pol f init evs).1.buf.length ≤ L.toNat := by
  have hs := shape_run o resp pol f L evs
  rw [hp] at hs
  exact hs.2.1 hL

/-- F-C07a: body_size_limit=2, stream_large_bodies=1, store_streamed_bodies: a chunked
    body of three 2-byte chunks is switched to streaming at the first chunk and the buffer grows to 6 > 2 + 2. -/
theorem buffer_bound_counterexample :
    ¬ BufferBound { limit := some 2, thr := some 1, store := true } false .none (fun d => .one d) := by
  intro h
  obtain ⟨c, hc, hl⟩ := h 2 rfl
    [.headers .unknown false, .data [1, 2], .data [3, 4], .data [5, 6]]
  have hl : 6 ≤ 2 + c.length := hl
  rcases hc with rfl | hc
  · exact absurd hl (by decide)
  · simp at hc
    rcases hc with rfl | rfl | rfl <;> exact absurd hl (by decide)

example : BufferBound { limit := none, thr := none, store := false } false .none (fun d => .one d) := by
  intro L hL; simp at hL

/-- a flow that has not reached `done` carries no content yet: in every history from `init` -/
theorem content_none_until_done (evs : List Ev) (h : (run o resp pol f init evs).1.phase ≠ .done) :
    (run o resp pol f init evs).1.content = none := by
  have hs := shape_run o resp pol f 0 evs
  cases hp : (run o resp pol f init evs).1.phase <;> rw [hp] at hs
  case done => exact absurd hp h
  all_goals exact hs.1

/-- If the headers put the flow into the stream state (threshold exceeded by Content-Length, or the
    addon enabled streaming), then for EVERY chunk list the peer is sent, in order, exactly `f`'s output for each chunk
    followed by `f b""`'s output (or the chunks themselves when `.stream` is not a callable), and the flow ends done. -/
theorem streamed_exact (exp : ExpSize) (chunks : List Bytes)
    (hs : (step o resp pol f init (.headers exp false)).1.phase = .stream) :
    let s1 := (step o resp pol f init (.headers exp false)).1
    let r := run o resp pol f s1 (chunks.map Ev.data ++ [Ev.eom])
    dataOf r.2 = (if s1.useF then chunks.flatMap (fun c => normData (f c)) ++ normEnd (f []) else chunks) ∧
    r.1.phase = .done := by
  intro s1 r
  rw [show r = _ from stream_run o resp pol f s1 hs chunks, dataOf_append, dataOf_map, flatMap_onData]
  exact ⟨List.append_nil _, rfl⟩

/-- A message streamed from the headers on keeps exactly the bytes that were delivered when
    store_streamed_bodies is on, keeps nothing otherwise, and its buffer is empty afterwards. -/
theorem stored_iff_option (exp : ExpSize) (chunks : List Bytes)
    (hs : (step o resp pol f init (.headers exp false)).1.phase = .stream) :
    let s1 := (step o resp pol f init (.headers exp false)).1
    let r := run o resp pol f s1 (chunks.map Ev.data ++ [Ev.eom])
    r.1.content = (if o.store then some (dataOf r.2).flatten else none) ∧ r.1.buf = [] := by
  intro s1 r
  obtain ⟨hb, hc⟩ : s1.buf = [] ∧ s1.content = none := step_headers_frame init exp false
  rw [show r = _ from stream_run o resp pol f s1 hs chunks, dataOf_append, dataOf_map]
  simp only [hb, hc]
  cases o.store <;> simp [dataOf]

/-! ### what the flow keeps after a LATE switch to streaming (the clause "keeps those bytes only if
    store_streamed_bodies" for a body that was first buffered) -/

/-- A buffering flow whose next chunk `b` makes it switch to streaming, followed by any
    further chunks and the end of the message: with store_streamed_bodies the flow keeps exactly the bytes that were
    relayed (everything buffered so far, `b`, and the later chunks, in order); without it the flow keeps nothing of the
    body (its content stays what it was — `none` for every flow that has not ended, see `content_none_until_done`) and
    its buffer is empty. -/
theorem stored_after_late_switch (st : St) (b : Bytes) (chunks : List Bytes) (hp : st.phase = .consume)
    (hne : st.buf ++ b ≠ []) (hc : check o st.exp (st.buf ++ b) = .stream) :
    let s1 := step o resp pol f st (.data b)
    let r := run o resp pol f s1.1 (chunks.map Ev.data ++ [Ev.eom])
    r.1.phase = .done ∧
    r.1.content = (if o.store then some (dataOf (s1.2 ++ r.2)).flatten else st.content) ∧
    (dataOf (s1.2 ++ r.2)).flatten = st.buf ++ b ++ chunks.flatten ∧
    r.1.buf = [] := by
  intro s1 r
  have hs1 : s1 = _ := step_switch st hp b hne hc
  rw [show r = _ from stream_run o resp pol f s1.1 (by rw [hs1]) chunks, hs1]
  simp only [dataOf_append, dataOf_map, flatMap_onData]
  cases o.store <;> simp [dataOf]

/-- From the headers on, for a body that is buffered first (any prefix history `pre` that ends in
    the consume state) and switched to streaming by the chunk `b`: at the end the flow keeps exactly what was relayed from
    the switch on iff store_streamed_bodies is on, and nothing otherwise. -/
theorem stored_iff_option_late (pre : List Ev) (b : Bytes) (chunks : List Bytes)
    (hp : (run o resp pol f init pre).1.phase = .consume)
    (hne : (run o resp pol f init pre).1.buf ++ b ≠ [])
    (hc : check o (run o resp pol f init pre).1.exp ((run o resp pol f init pre).1.buf ++ b) = .stream) :
    let st := (run o resp pol f init pre).1
    let s1 := step o resp pol f st (.data b)
    let r := run o resp pol f s1.1 (chunks.map Ev.data ++ [Ev.eom])
    r.1.content = (if o.store then some (st.buf ++ b ++ chunks.flatten) else none) ∧ r.1.buf = [] := by
  intro st s1 r
  obtain ⟨_, h2, h3, h4⟩ := stored_after_late_switch o resp pol f st b chunks hp hne hc
  have hn : st.content = none := content_none_until_done o resp pol f pre (by rw [hp]; decide)
  rw [h3, hn] at h2
  exact ⟨h2, h4⟩

-- non-vacuity: threshold 3, two bytes buffered, two more switch; store on: the flow keeps all six bytes that were relayed
example : (run { limit := none, thr := some 3, store := true } false .none (fun d => .one d) init
    [.headers .unknown false, .data [1, 2], .data [3, 4], .data [5, 6], .eom]).1.content = some [1, 2, 3, 4, 5, 6] := by decide +kernel
example : (run { limit := none, thr := some 3, store := false } false .none (fun d => .one d) init
    [.headers .unknown false, .data [1, 2], .data [3, 4], .data [5, 6], .eom]).1.content = none := by decide +kernel

/-- "relayed without buffering": without store_streamed_bodies a flow in the stream
    state never holds a byte, whatever arrives. -/
theorem unstored_stream_holds_nothing (hstore : o.store = false) (st : St)
    (hp : st.phase = .stream ∨ st.phase = .done) (hb : st.buf = []) (evs : List Ev) :
    ∀ n ∈ samples o resp pol f st evs, n = 0 := by
  induction evs generalizing st with
  | nil => simp [samples]
  | cons e es ih =>
    have hnext : ((step o resp pol f st e).1.phase = .stream ∨ (step o resp pol f st e).1.phase = .done) ∧
        (step o resp pol f st e).1.buf = [] := by
      rcases hp with hp | hp
      · cases e <;> simp [step, hp, relay, hstore, hb]
      · rw [step_final st (Or.inl hp)]
        exact ⟨Or.inr hp, hb⟩
    intro n hn
    simp only [samples, List.mem_cons] at hn
    rcases hn with rfl | hn
    · simp [hnext.2]
    · exact ih _ hnext.1 hnext.2 n hn

/-! ### when streaming is due (clause "stream_large_bodies threshold exceeded, or an addon enables streaming") -/

/-- At the headers of a message with a body: if the addon enables streaming (`.stream = True`
    or a callable), or the announced length exceeds stream_large_bodies (and the addon does not switch it off) — and the
    announced length does not exceed body_size_limit — the flow is in the stream state at once and the head has been
    relayed; nothing is buffered. -/
theorem stream_starts_when_due (exp : ExpSize)
    (hdue : pol = .setTrue ∨ pol = .callable ∨ (pol = .none ∧ check o exp [] = .stream))
    (hnot : check o exp [] ≠ .abort) :
    (step o resp pol f init (.headers exp false)).1.phase = .stream ∧
    Out.sendHead ∈ (step o resp pol f init (.headers exp false)).2 ∧
    (step o resp pol f init (.headers exp false)).1.buf = [] := by
  rcases hdue with rfl | rfl | ⟨rfl, hc⟩
  · cases hc : check o exp [] <;> simp [step, hc, init] at hnot ⊢
  · cases hc : check o exp [] <;> simp [step, hc, init] at hnot ⊢
  · simp [step, hc, init]

/-- While a body is being buffered: the chunk that makes the buffered bytes exceed
    stream_large_bodies (without exceeding body_size_limit) switches the flow to streaming — the head is relayed and
    everything buffered so far, including that chunk, is sent as one piece; without store_streamed_bodies nothing stays
    buffered. -/
theorem late_switch_when_due (st : St) (b : Bytes) (hp : st.phase = .consume) (hne : st.buf ++ b ≠ [])
    (hc : check o st.exp (st.buf ++ b) = .stream) :
    (step o resp pol f st (.data b)).1.phase = .stream ∧
    (step o resp pol f st (.data b)).2 = [Out.sendHead, Out.sendData (st.buf ++ b)] ∧
    (o.store = false → (step o resp pol f st (.data b)).1.buf = []) := by
  rw [step_switch st hp b hne hc]
  exact ⟨rfl, rfl, fun h => by simp [h]⟩

-- non-vacuity: Content-Length 5 > stream_large_bodies 3, within body_size_limit 10
example : check { limit := some 10, thr := some 3, store := false } (.known 5) [] = .stream := by decide +kernel

/-- the bytes a list of events carries up to the end of the message -/
def recvd : List Ev → Bytes
  | [] => []
  | .data b :: r => b ++ recvd r
  | .eom :: _ => []
  | .headers _ _ :: r => recvd r

private theorem recvd_chunks (chunks : List Bytes) : recvd (chunks.map Ev.data ++ [Ev.eom]) = chunks.flatten := by
  induction chunks with
  | nil => rfl
  | cons c cs ih => simp [recvd, ih]

/-- without a callable, a flow that is buffering or streaming and ends `done` delivered what it had buffered and then
    the bytes the events carry up to the end of the message — for an arbitrary event list (the shape read_body really
    produces: data events, the end of the message, possibly more after it) -/
private theorem relay_events (evs : List Ev) (st : St) (hdone : (run o resp pol f st evs).1.phase = .done)
    (hu : st.useF = false) (hp : st.phase = .consume ∨ st.phase = .stream) :
    (dataOf (run o resp pol f st evs).2).flatten = (if st.phase = .consume then st.buf else []) ++ recvd evs := by
  induction evs generalizing st with
  | nil => rcases hp with hp | hp <;> rw [run, hp] at hdone <;> cases hdone
  | cons e es ih =>
    simp only [run] at hdone ⊢
    cases e with
    | headers exp endS =>
      rw [step_headers_late st (by rcases hp with hp | hp <;> rw [hp] <;> decide)] at hdone ⊢
      exact ih st hdone hu hp
    | eom =>
      rcases hp with hp | hp
      · rw [step_eom_consume st hp, run_final _ (Or.inl rfl)]
        by_cases hb : st.buf = [] <;> simp [hb, hp, dataOf, recvd]
      · rw [step_eom_stream st hp, run_final _ (Or.inl rfl)]
        simp [hp, hu, onEnd, dataOf, recvd]
    | data c =>
      rcases hp with hp | hp
      · rcases step_data_consume o resp pol f st hp c with ⟨_, hs⟩ | ⟨_, _, hs⟩ | ⟨_, hs⟩ <;> rw [hs] at hdone ⊢
        · rw [run_final _ (Or.inr rfl)] at hdone
          cases hdone
        · rw [dataOf_append, List.flatten_append, ih _ hdone rfl (Or.inr rfl)]
          simp [hp, dataOf, recvd]
        · rw [dataOf_append, List.flatten_append, ih _ hdone hu (Or.inl hp)]
          simp [hp, dataOf, recvd]
      · rw [step_data_stream st hp] at hdone ⊢
        rw [dataOf_append, List.flatten_append, ih _ hdone hu (Or.inr hp)]
        simp [hp, hu, onData, dataOf, recvd]

/-- When `.stream` is not a callable: for ANY list of events after the headers — whatever way
    the connection layer grouped the body into data events — a message that ends `done` delivered exactly the bytes
    the events carried up to the end of the message. -/
theorem relayed_exact_events (hpol : pol ≠ .callable) (exp : ExpSize) (endS : Bool) (evs : List Ev)
    (hdone : (run o resp pol f init (.headers exp endS :: evs)).1.phase = .done) :
    (dataOf (run o resp pol f init (.headers exp endS :: evs)).2).flatten = recvd evs := by
  simp only [run] at hdone ⊢
  have hu : decide (pol = .callable) = false := by simpa using hpol
  rcases step_headers o resp pol f init rfl exp endS with hs | hs | hs <;> rw [hs] at hdone ⊢
  · rw [run_final _ (Or.inr rfl)] at hdone
    cases hdone
  · rw [dataOf_append, List.flatten_append, relay_events o resp pol f evs _ hdone hu (Or.inr rfl)]
    rfl
  · rw [dataOf_append, List.flatten_append, relay_events o resp pol f evs _ hdone hu (Or.inl rfl)]
    rfl

/-- When `.stream` is not a callable, every complete message that ends `done` delivers
    exactly the received bytes — whether it was buffered to the end, streamed from the headers on, or switched to
    streaming in the middle, and for every way of cutting the body into chunks. -/
theorem relayed_exact_any_chunking (hpol : pol ≠ .callable) (exp : ExpSize) (endS : Bool) (chunks : List Bytes)
    (hdone : (run o resp pol f init (.headers exp endS :: (chunks.map Ev.data ++ [Ev.eom]))).1.phase = .done) :
    (dataOf (run o resp pol f init (.headers exp endS :: (chunks.map Ev.data ++ [Ev.eom]))).2).flatten
      = chunks.flatten := by
  rw [relayed_exact_events o resp pol f hpol exp endS _ hdone, recvd_chunks]

/-- two chunkings of the same body deliver the same bytes -/
theorem chunking_independent (hpol : pol ≠ .callable) (exp : ExpSize) (endS : Bool) (c1 c2 : List Bytes)
    (hsame : c1.flatten = c2.flatten)
    (h1 : (run o resp pol f init (.headers exp endS :: (c1.map Ev.data ++ [Ev.eom]))).1.phase = .done)
    (h2 : (run o resp pol f init (.headers exp endS :: (c2.map Ev.data ++ [Ev.eom]))).1.phase = .done) :
    (dataOf (run o resp pol f init (.headers exp endS :: (c1.map Ev.data ++ [Ev.eom]))).2).flatten =
    (dataOf (run o resp pol f init (.headers exp endS :: (c2.map Ev.data ++ [Ev.eom]))).2).flatten := by
  rw [relayed_exact_any_chunking o resp pol f hpol exp endS c1 h1,
      relayed_exact_any_chunking o resp pol f hpol exp endS c2 h2, hsame]

-- streamed_exact / stored_iff_option: the hypothesis holds e.g. for an addon that installs a callable
example : (step { limit := none, thr := none, store := true } false .callable (fun d => .many [d, d]) init
    (.headers .unknown false)).1.phase = .stream := by decide +kernel
-- ... and for Content-Length above stream_large_bodies
example : (step { limit := some 10, thr := some 3, store := false } true .none (fun d => .one d) init
    (.headers (.known 5) false)).1.phase = .stream := by decide +kernel
-- the model is not constant: duplicated chunks + end marker are delivered in order
example : dataOf (run { limit := none, thr := none, store := true } false .callable
    (fun d => .many [d, d]) init [.headers .unknown false, .data [1], .data [2, 3], .eom]).2
    = [[1], [1], [2, 3], [2, 3], [], []] := by decide +kernel
-- over_limit_errors: the hypothesis is satisfiable (late case), and the model does error
example : KnownTooLarge { limit := some 3, thr := none, store := false }
    (run { limit := some 3, thr := none, store := false } false .none (fun d => .one d) init
      [.headers .unknown false, .data [1, 2]]).1 (.data [3, 4]) :=
  ⟨3, rfl, Or.inr ⟨by decide, [3, 4], rfl, by decide, by decide⟩⟩
-- relayed_exact_any_chunking: a late switch that ends done
example : (run { limit := none, thr := some 2, store := false } false .none (fun d => .one d) init
    (.headers .unknown false :: ([[1, 2], [3], [4]].map Ev.data ++ [Ev.eom]))).1.phase = .done := by decide +kernel

private theorem feed_append (s : RSt) (a b : Bytes) :
    feed s (a ++ b) = ((feed (feed s a).1 b).1, (feed s a).2 ++ (feed (feed s a).1 b).2) := by
  induction a generalizing s with
  | nil => simp [feed]
  | cons c cs ih => simp only [List.cons_append, feed, ih, List.append_assoc]

theorem reader_lawful : readerInc.Lawful := ⟨fun _ => rfl, feed_append⟩

/-- However the wire bytes are cut into segments, the body readers end in the same
    state and emit the same items (body bytes, chunk boundaries, end of message / protocol error) in the same order. -/
theorem reader_segmentation_independent (s : RSt) (a b : List Bytes) (h : a.flatten = b.flatten) :
    readerInc.feedAll s a = readerInc.feedAll s b :=
  Incremental.seg_independent' readerInc reader_lawful s a b h

/-- the bytes HttpStream is meant to receive: everything before the end of the message (or a reader failure) -/
def bodyOf : List Item → Bytes
  | [] => []
  | .byte b :: r => b :: bodyOf r
  | .cut :: r => bodyOf r
  | _ :: _ => []

/-- events of feeding the segments one by one (what read_body hands to HttpStream, delivery after delivery) -/
def segEvents (s : RSt) : List Bytes → List Ev
  | [] => []
  | seg :: rest => (eventsOf (feed s seg).2).1 ++ segEvents (feed s seg).1 rest

/-- nothing after an ending item counts as body -/
private theorem bodyOf_append (a b : List Item) (h : hasEnd a = true → b = []) :
    bodyOf (a ++ b) = bodyOf a ++ bodyOf b := by
  induction a with
  | nil => rfl
  | cons x xs ih =>
    cases x with
    | byte c => simp [bodyOf, ih h]
    | cut => simp [bodyOf, ih h]
    | _ => simp [bodyOf, h rfl]

private theorem recvd_flush (acc : Bytes) (rest : List Ev) :
    recvd ((if acc = [] then [] else [Ev.data acc]) ++ rest) = acc ++ recvd rest := by
  by_cases ha : acc = [] <;> simp [ha, recvd]

/-- one read_body call: its events carry exactly the body bytes of its items, and as long as the message has not ended
    the following deliveries continue it -/
private theorem eventsGo_recvd (acc : Bytes) (items : List Item) (rest : List Ev) (h : hasEnd items = true → rest = []) :
    recvd ((eventsGo acc items).1 ++ rest) = acc ++ bodyOf items ++ recvd rest := by
  induction items generalizing acc with
  | nil => simpa [eventsGo, bodyOf] using recvd_flush acc rest
  | cons x xs ih =>
    cases x with
    | byte b => simp [eventsGo, bodyOf, ih _ h]
    | cut => simp [eventsGo, bodyOf, recvd_flush, ih _ h]
    | eom => simp [eventsGo, bodyOf, recvd_flush, recvd, h rfl]
    | _ => simpa [eventsGo, bodyOf, recvd, h rfl] using recvd_flush acc []

private theorem segEvents_stop (segs : List Bytes) : segEvents .stop segs = [] := by
  induction segs with
  | nil => rfl
  | cons seg rest ih => simp [segEvents, feed_stop, eventsOf, eventsGo, ih]

/-- Whatever the segmentation, the events HttpStream is handed delivery after delivery
    carry exactly the body bytes the readers extract from the concatenated wire bytes. -/
theorem wire_events_carry_body (s : RSt) (segs : List Bytes) :
    recvd (segEvents s segs) = bodyOf (feed s segs.flatten).2 := by
  induction segs generalizing s with
  | nil => rfl
  | cons seg rest ih =>
    have hstop := feed_stops s seg
    rw [segEvents, List.flatten_cons, feed_append, eventsOf,
      eventsGo_recvd [] _ _ (fun he => (hstop he).symm ▸ segEvents_stop rest),
      bodyOf_append _ _ (fun he => (hstop he).symm ▸ congrArg Prod.snd (feed_stop rest.flatten)), ih]
    rfl

/-- Two segmentations of the same wire bytes hand HttpStream the same body. -/
theorem wire_body_segmentation_independent (s : RSt) (a b : List Bytes) (h : a.flatten = b.flatten) :
    recvd (segEvents s a) = recvd (segEvents s b) := by
  rw [wire_events_carry_body, wire_events_carry_body, h]

/-- The same wire bytes cut into segments in two different ways (`a`, `b`),
    read by the body readers from state `s` and handed to HttpStream delivery after delivery: if both messages end
    `done` (no callable), the peer was sent exactly the same bytes — the body the readers extract from the wire. -/
theorem wire_relay_segmentation_independent (hpol : pol ≠ .callable) (exp : ExpSize) (endS : Bool) (s : RSt)
    (a b : List Bytes) (hsame : a.flatten = b.flatten)
    (ha : (run o resp pol f init (.headers exp endS :: segEvents s a)).1.phase = .done)
    (hb : (run o resp pol f init (.headers exp endS :: segEvents s b)).1.phase = .done) :
    (dataOf (run o resp pol f init (.headers exp endS :: segEvents s a)).2).flatten =
      (dataOf (run o resp pol f init (.headers exp endS :: segEvents s b)).2).flatten ∧
    (dataOf (run o resp pol f init (.headers exp endS :: segEvents s a)).2).flatten = bodyOf (feed s a.flatten).2 := by
  rw [relayed_exact_events o resp pol f hpol exp endS _ ha, relayed_exact_events o resp pol f hpol exp endS _ hb,
    wire_body_segmentation_independent s a b hsame, wire_events_carry_body, hsame]
  exact ⟨rfl, rfl⟩

-- non-vacuity: a chunked body cut in the middle of a size line and of the data; both runs end done, late switch
example : (run { limit := none, thr := some 2, store := false } false .none (fun d => .one d) init
    (.headers .unknown false :: segEvents (.size {}) [[0x33, 0x0d], [0x0a, 0x61], [0x62, 0x63, 0x0d, 0x0a, 0x30, 0x0d, 0x0a, 0x0d, 0x0a]])).1.phase
    = .done := by decide +kernel
example : segEvents (.size {}) [[0x33, 0x0d], [0x0a, 0x61], [0x62, 0x63, 0x0d, 0x0a, 0x30, 0x0d, 0x0a, 0x0d, 0x0a]]
    = [.data [0x61], .data [0x62, 0x63], .eom] := by decide +kernel
-- the reader does refuse: a chunk footer that is not CRLF
example : (feed (.size {}) [0x31, 0x0d, 0x0a, 0x61, 0x58]).2 = [.byte 0x61, .cut, .err] := by decide +kernel

/-! ### one exchange, two directions (seeded/c07-4: a request-side verdict must never reach the response side) -/

/-- the request side has not been refused before any event of the history (after a refused request mitmproxy answers
    with the error itself and nothing of a response is handled) -/
def ReqAlive (o : Opts) (rq rs : Side) : XSt → List (Bool × Ev) → Prop
  | _, [] => True
  | x, e :: es => x.req.phase ≠ .errored ∧ ReqAlive o rq rs (stepX o rq rs x e).1 es

def RespAlive (o : Opts) (rq rs : Side) : XSt → List (Bool × Ev) → Prop
  | _, [] => True
  | x, e :: es => x.resp.phase ≠ .errored ∧ RespAlive o rq rs (stepX o rq rs x e).1 es

private theorem outsOf_append (d : Bool) (a b : List (Bool × Out)) : outsOf d (a ++ b) = outsOf d a ++ outsOf d b := by
  induction a with
  | nil => simp [outsOf]
  | cons x xs ih => obtain ⟨d', out⟩ := x; by_cases h : d' = d <;> simp [outsOf, h, ih]

private theorem outsOf_map (d d' : Bool) (l : List Out) :
    outsOf d (l.map (fun out => (d', out))) = if d' = d then l else [] := by
  induction l with
  | nil => simp [outsOf]
  | cons x xs ih => by_cases h : d' = d <;> simp_all [outsOf]

/-- In every history of an exchange in which the request is not refused, the response
    side — its state (buffer, phase, stored content), every hook, error and byte it emits — is exactly what the response
    events alone produce: no verdict, flag or buffer of the request side takes part in it. -/
theorem response_side_independent (rq rs : Side) (x : XSt) (evs : List (Bool × Ev)) (h : ReqAlive o rq rs x evs) :
    (runX o rq rs x evs).1.resp = (run o true rs.pol rs.f x.resp (evsOf true evs)).1 ∧
    outsOf true (runX o rq rs x evs).2 = (run o true rs.pol rs.f x.resp (evsOf true evs)).2 := by
  induction evs generalizing x with
  | nil => exact ⟨rfl, rfl⟩
  | cons e es ih =>
    obtain ⟨d, ev⟩ := e
    obtain ⟨h1, h2⟩ := h
    have := ih _ h2
    cases d
    · -- a request-side event: the response side is untouched
      by_cases hr : x.resp.phase = .errored <;>
        simpa [runX, stepX, hr, evsOf, outsOf_append, outsOf_map] using this
    · simpa [runX, stepX, h1, evsOf, outsOf_append, outsOf_map, run] using this

/-- the mirror image (as long as the response has not been refused). -/
theorem request_side_independent (rq rs : Side) (x : XSt) (evs : List (Bool × Ev)) (h : RespAlive o rq rs x evs) :
    (runX o rq rs x evs).1.req = (run o false rq.pol rq.f x.req (evsOf false evs)).1 ∧
    outsOf false (runX o rq rs x evs).2 = (run o false rq.pol rq.f x.req (evsOf false evs)).2 := by
  induction evs generalizing x with
  | nil => exact ⟨rfl, rfl⟩
  | cons e es ih =>
    obtain ⟨d, ev⟩ := e
    obtain ⟨h1, h2⟩ := h
    have := ih _ h2
    cases d
    · simpa [runX, stepX, h1, evsOf, outsOf_append, outsOf_map, run] using this
    · by_cases hr : x.req.phase = .errored <;>
        simpa [runX, stepX, hr, evsOf, outsOf_append, outsOf_map] using this

/-- Two exchanges with arbitrary, different request sides (other bodies,
    framings, policies, verdicts) but the same response events produce the same response-side outputs and state. -/
theorem request_verdict_never_reaches_response (rq rq' rs : Side) (evs evs' : List (Bool × Ev))
    (hsame : evsOf true evs = evsOf true evs')
    (h : ReqAlive o rq rs {} evs) (h' : ReqAlive o rq' rs {} evs') :
    outsOf true (runX o rq rs {} evs).2 = outsOf true (runX o rq' rs {} evs').2 ∧
    (runX o rq rs {} evs).1.resp = (runX o rq' rs {} evs').1.resp := by
  obtain ⟨a1, a2⟩ := response_side_independent o rq rs {} evs h
  obtain ⟨b1, b2⟩ := response_side_independent o rq' rs {} evs' h'
  rw [a1, a2, b1, b2, hsame]
  exact ⟨rfl, rfl⟩

-- non-vacuity: a small Content-Length request (within all limits), then a response over the limit: refused
example : outsOf true (runX { limit := some 6, thr := some 3, store := false } ⟨.none, fun d => .one d⟩ ⟨.none, fun d => .one d⟩ {}
    [(false, .headers (.known 1) false), (false, .data [0x61]), (false, .eom), (true, .headers (.known 8) false)]).2
    = [.hookHeaders, .hookError, .errClient, .errServer] := by decide +kernel
example : ReqAlive { limit := some 6, thr := some 3, store := false } ⟨.none, fun d => .one d⟩ ⟨.none, fun d => .one d⟩ {}
    [(false, .headers (.known 1) false), (false, .data [0x61]), (false, .eom), (true, .headers (.known 8) false)] := by
  simp only [ReqAlive]
  decide +kernel

/-- Two histories of an exchange with the same request events, in which the
    (same or different) response arrives at different moments — before, in the middle of, or after the request body — and
    is not refused: the request side delivers exactly the same outputs (every streamed chunk, the end of the message)
    and ends in the same state.  In particular a response that completes early does not cut the upload short. -/
theorem upload_unaffected_by_response_timing (rq rs rs' : Side) (evs evs' : List (Bool × Ev))
    (hsame : evsOf false evs = evsOf false evs')
    (h : RespAlive o rq rs {} evs) (h' : RespAlive o rq rs' {} evs') :
    outsOf false (runX o rq rs {} evs).2 = outsOf false (runX o rq rs' {} evs').2 ∧
    (runX o rq rs {} evs).1.req = (runX o rq rs' {} evs').1.req := by
  obtain ⟨a1, a2⟩ := request_side_independent o rq rs {} evs h
  obtain ⟨b1, b2⟩ := request_side_independent o rq rs' {} evs' h'
  rw [a1, a2, b1, b2, hsame]
  exact ⟨rfl, rfl⟩

-- non-vacuity: a streamed upload with the complete response arriving after the first chunk
example : outsOf false (runX { limit := none, thr := some 1, store := false } ⟨.none, fun d => .one d⟩ ⟨.none, fun d => .one d⟩ {}
    [(false, .headers .unknown false), (false, .data [1, 2]), (true, .headers (.known 1) false), (true, .data [9]), (true, .eom),
     (false, .data [3]), (false, .eom)]).2
    = [.hookHeaders, .sendHead, .sendData [1, 2], .sendData [3], .hookMsg, .sendEnd] := by decide +kernel

/-- Whatever the request side of the exchange did (any body, framing, policy,
    verdict — as long as the request itself was not refused): a response that is known to exceed body_size_limit ends
    with the error hook and the error to client and server, and not one byte of it is forwarded.  (The class of seeded/c07-4:
    no request-side "already checked" state can switch the response-side check off.) -/
theorem response_over_limit_errors_in_exchange (rq rs : Side) (evs : List (Bool × Ev)) (h : ReqAlive o rq rs {} evs)
    (pre post : List Ev) (ev : Ev) (hsplit : evsOf true evs = pre ++ ev :: post)
    (hk : KnownTooLarge o (run o true rs.pol rs.f init pre).1 ev) :
    (runX o rq rs {} evs).1.resp.phase = .errored ∧
    Out.hookError ∈ outsOf true (runX o rq rs {} evs).2 ∧
    Out.errClient ∈ outsOf true (runX o rq rs {} evs).2 ∧
    Out.errServer ∈ outsOf true (runX o rq rs {} evs).2 ∧
    dataOf (outsOf true (runX o rq rs {} evs).2) = [] ∧
    Out.sendHead ∉ outsOf true (runX o rq rs {} evs).2 := by
  obtain ⟨a1, a2⟩ := response_side_independent o rq rs {} evs h
  rw [a1, a2, hsplit]
  obtain ⟨b1, b2, b3, b4, b5, b6⟩ := over_limit_errors o true rs.pol rs.f pre post ev hk
  exact ⟨b1, b2, b3, b4 rfl, b5, b6⟩

/-! ### Transfer-Encoding: the writer frames exactly what the reader de-frames (seeded/c07-6) -/

/-- how the HTTP/1 writers decide to chunk-frame a body: `"chunked" in headers.get("transfer-encoding", "").lower()` -/
def writesChunked (v : Bytes) : Bool := C01.containsSub C01.sChunked (asciiLower v)

/-- how the reader decides that the body arrives chunked: parse_transfer_encoding (C01's transcription over the
    regenerated whitelist) classifies the value as "chunked is the final coding" -/
def readsChunked (v : Bytes) : Option Bool :=
  match C01.parseTE v with
  | some (.chunkedFinal, _) => some true
  | some (.other, _) => some false
  | none => none

/-- For EVERY Transfer-Encoding value the reader accepts — any case, any whitespace or
    tabs around the commas of a coding list — the writers' test gives the reader's answer: a body that was de-chunked
    on input is chunk-framed on output, and one that was not is not. -/
theorem writer_agrees_with_reader (v : Bytes) (b : Bool) (h : readsChunked v = some b) : writesChunked v = b := by
  unfold readsChunked at h
  cases hp : C01.parseTE v with
  | none => rw [hp] at h; cases h
  | some r =>
    obtain ⟨cls, w⟩ := r
    rw [hp] at h
    cases cls with
    | chunkedFinal =>
      simp at h; subst h
      exact C01.sendsChunked_of_parseTE hp
    | other =>
      simp at h; subst h
      exact C01.not_sendsChunked_of_parseTE_other hp

-- "GZip ,\t Chunked", "gzip", "chunked, gzip"
example : readsChunked [71, 90, 105, 112, 32, 44, 9, 32, 67, 104, 117, 110, 107, 101, 100] = some true := by decide +kernel
example : readsChunked [103, 122, 105, 112] = some false := by decide +kernel
example : readsChunked [99, 104, 117, 110, 107, 101, 100, 44, 32, 103, 122, 105, 112] = none := by decide +kernel

/-- all body bytes among the items (unlike `bodyOf`, not only those before the first ending item) -/
def bodyItems : List Item → Bytes
  | [] => []
  | .byte b :: r => b :: bodyItems r
  | _ :: r => bodyItems r

private theorem bodyItems_append (a b : List Item) : bodyItems (a ++ b) = bodyItems a ++ bodyItems b := by
  induction a with
  | nil => rfl
  | cons x xs ih => cases x <;> simp [bodyItems, ih]

private theorem bodyItems_bytes (d : Bytes) : bodyItems (d.map Item.byte) = d := by
  induction d with
  | nil => rfl
  | cons c cs ih => simp [bodyItems, ih]

def Complete (r : RSt × List Item) (body : Bytes) : Prop :=
  r.1 = .stop ∧ bodyItems r.2 = body ∧ r.2.getLast? = some Item.eom ∧ Item.err ∉ r.2 ∧ Item.trailer ∉ r.2

private theorem Complete.chunk {r : RSt × List Item} {body : Bytes} (h : Complete r body) (d : Bytes) :
    Complete (r.1, d.map Item.byte ++ Item.cut :: r.2) (d ++ body) := by
  obtain ⟨h1, h2, h3, h4, h5⟩ := h
  refine ⟨h1, ?_, ?_, ?_, ?_⟩
  · simp [bodyItems_append, bodyItems_bytes, bodyItems, h2]
  · simp [List.getLast?_append, List.getLast?_cons, h3]
  · simp [h4]
  · simp [h5]

/-- chunks whose size line h11 accepts (1–20 hex digits; any body shorter than 16^20 bytes) -/
def SizesOk (chunks : List Bytes) : Prop := ∀ c ∈ chunks, (C01.hexDigits c.length).length ≤ 20

private theorem read_frames (chunks : List Bytes) (hok : SizesOk chunks) :
    Complete (feed (.size {}) (chunks.flatMap (frameData true) ++ frameEnd true)) chunks.flatten := by
  induction chunks with
  | nil => simp [frameEnd, feed_last_chunk, Complete, bodyItems]
  | cons c cs ih =>
    have hcs := ih fun x hx => hok x (List.mem_cons_of_mem _ hx)
    by_cases hc : c = []
    · simpa [hc, frameData] using hcs
    · rw [List.flatMap_cons, List.append_assoc, feed_chunk c hc (hok c List.mem_cons_self)]
      exact hcs.chunk c

private theorem wireOf_append (c : Bool) (a b : List Out) : wireOf c (a ++ b) = wireOf c a ++ wireOf c b := by
  induction a with
  | nil => rfl
  | cons x xs ih => cases x <;> simp [wireOf, ih, List.append_assoc]

private theorem wireOf_data (c : Bool) (l : List Bytes) : wireOf c (l.map Out.sendData) = l.flatMap (frameData c) := by
  induction l with
  | nil => rfl
  | cons x xs ih => simp [wireOf, ih]

/-- Without chunked framing the writers put the data events' bytes on the wire unchanged. -/
theorem writer_identity_exact (chunks : List Bytes) :
    wireOf false (chunks.map Out.sendData ++ [Out.sendEnd]) = chunks.flatten := by
  have key : ∀ l : List Bytes, l.flatMap (frameData false) = l.flatten := by
    intro l
    induction l with
    | nil => rfl
    | cons c cs ih => by_cases hc : c = [] <;> simp [frameData, hc, ih]
  rw [wireOf_append, wireOf_data, key]
  simp [wireOf, frameEnd]

/-- What the HTTP/1 writers put on the wire for a list of data events and the end of the
    message under chunked framing is, for the chunked body reader, exactly one complete message: it ends in `stop` with
    `eom` as the last item, raises no protocol error, meets no trailer, and its body bytes are the data events' bytes in
    order (empty pieces write nothing).  `SizesOk`: every piece's size fits h11's 20 hex digits (< 16^20 bytes). -/
theorem reader_inverts_writer (chunks : List Bytes) (hok : SizesOk chunks) :
    (feed (.size {}) (wireOf true (chunks.map Out.sendData ++ [Out.sendEnd]))).1 = .stop ∧
    bodyItems (feed (.size {}) (wireOf true (chunks.map Out.sendData ++ [Out.sendEnd]))).2 = chunks.flatten ∧
    (feed (.size {}) (wireOf true (chunks.map Out.sendData ++ [Out.sendEnd]))).2.getLast? = some Item.eom ∧
    Item.err ∉ (feed (.size {}) (wireOf true (chunks.map Out.sendData ++ [Out.sendEnd]))).2 ∧
    Item.trailer ∉ (feed (.size {}) (wireOf true (chunks.map Out.sendData ++ [Out.sendEnd]))).2 := by
  have e : wireOf true (chunks.map Out.sendData ++ [Out.sendEnd]) = chunks.flatMap (frameData true) ++ frameEnd true := by
    rw [wireOf_append, wireOf_data]; simp [wireOf]
  rw [e]
  exact read_frames chunks hok

/-- End to end for a body streamed from the headers on, under chunked framing towards the peer:
    the bytes the writers put on the wire for everything HttpStream emits are, for the peer's chunked reader, one complete
    well-framed message whose body is exactly the transformed bytes `f` made of the received chunks (in order). -/
theorem streamed_wire_exact (exp : ExpSize) (chunks : List Bytes)
    (hs : (step o resp pol f init (.headers exp false)).1.phase = .stream)
    (hok : SizesOk (dataOf (run o resp pol f (step o resp pol f init (.headers exp false)).1 (chunks.map Ev.data ++ [Ev.eom])).2)) :
    let s1 := (step o resp pol f init (.headers exp false)).1
    let r := run o resp pol f s1 (chunks.map Ev.data ++ [Ev.eom])
    let rd := feed (.size {}) (wireOf true r.2)
    rd.1 = .stop ∧ rd.2.getLast? = some Item.eom ∧ Item.err ∉ rd.2 ∧
    bodyItems rd.2 = (if s1.useF then chunks.flatMap (fun c => normData (f c)) ++ normEnd (f []) else chunks).flatten := by
  intro s1 r rd
  have hd : dataOf r.2 = _ := (streamed_exact o resp pol f exp chunks hs).1
  have hw : wireOf true r.2 = wireOf true ((dataOf r.2).map Out.sendData ++ [Out.sendEnd]) := by
    rw [hd, ← flatMap_onData, show r = _ from stream_run o resp pol f s1 hs chunks]
    simp [wireOf_append, wireOf]
    rfl
  obtain ⟨a1, a2, a3, a4, _⟩ := reader_inverts_writer (dataOf r.2) hok
  rw [← hw] at a1 a2 a3 a4
  rw [hd] at a2
  exact ⟨a1, a3, a4, a2⟩

example : SizesOk [[1, 2, 3], [], [4]] := by
  unfold SizesOk
  decide +kernel
example : wireOf true ([[0x61, 0x62], [], [0x63]].map Out.sendData ++ [Out.sendEnd]) =
    [0x32, 13, 10, 0x61, 0x62, 13, 10, 0x31, 13, 10, 0x63, 13, 10, 48, 13, 10, 13, 10] := by decide +kernel

/-! ### the tied receive path (`wireRun`, driver op `wire`) is `run` over `segEvents` -/

/-- no delivery makes the readers raise (no protocol error, no trailer section) -/
def CleanSegs : RSt → List Bytes → Prop
  | _, [] => True
  | s, seg :: rest => (eventsOf (feed s seg).2).2 = false ∧ CleanSegs (feed s seg).1 rest

private theorem recv_alive (w : Wire) (seg : Bytes) (hd : w.dead = false) :
    let w' := w.recv o resp pol f seg
    let ev := eventsOf (feed w.rs seg).2
    let r := run o resp pol f w.st ev.1
    w'.rs = (feed w.rs seg).1 ∧ w'.st = r.1 ∧ w'.outs = w.outs ++ r.2 ∧
    w'.dead = (ev.2 || decide (r.1.phase = .errored)) := by
  simp [Wire.recv, Wire.deliverItems, hd]

private theorem recv_dead (w : Wire) (seg : Bytes) (hd : w.dead = true) :
    w.recv o resp pol f seg = { w with smp := w.smp ++ [w.st.buf.length] } := by
  simp [Wire.recv, Wire.deliverItems, hd]

private theorem wire_fold (w : Wire) (segs : List Bytes) (hdead : w.dead = true → w.st.phase = .errored)
    (hclean : w.dead = false → CleanSegs w.rs segs) :
    let w' := segs.foldl (fun w seg => w.recv o resp pol f seg) w
    let r := run o resp pol f w.st (segEvents w.rs segs)
    w'.outs = w.outs ++ r.2 ∧ w'.st = r.1 := by
  induction segs generalizing w with
  | nil => simp [segEvents, run]
  | cons seg rest ih =>
    simp only [List.foldl_cons]
    cases hd : w.dead
    · obtain ⟨hc1, hc2⟩ := hclean hd
      obtain ⟨hrs, hst, houts, hdd⟩ := recv_alive o resp pol f w seg hd
      obtain ⟨i1, i2⟩ := ih (w.recv o resp pol f seg) (by rw [hdd, hc1, hst]; simp) (by rw [hrs]; exact fun _ => hc2)
      rw [i1, i2, hrs, hst, houts, segEvents, run_append, List.append_assoc]
      exact ⟨rfl, rfl⟩
    · -- closed (HttpStream refused the body): nothing more is read, and nothing more would be handled
      have herr : w.st.phase = .done ∨ w.st.phase = .errored := Or.inr (hdead hd)
      obtain ⟨i1, i2⟩ := ih (w.recv o resp pol f seg) (by rw [recv_dead o resp pol f w seg hd]; exact hdead)
        (by rw [recv_dead o resp pol f w seg hd]; exact fun h => absurd (hd ▸ h) (by decide))
      rw [i1, i2, recv_dead o resp pol f w seg hd, run_final w.st herr, run_final w.st herr]
      exact ⟨rfl, rfl⟩

/-- The receive path the `wire` driver op runs (and the correspondence ties to the real
    Http1 connection layer + HttpStream) is, as long as the readers do not raise, nothing but HttpStream's `run` over the
    headers followed by `segEvents` of the deliveries — so the segmentation theorems speak about the tied function. -/
theorem wireRun_is_run_over_segEvents (fr : Framing) (segs : List Bytes) (hclean : CleanSegs (startReader fr).1 segs) :
    (wireRun o resp pol f fr segs false).outs =
      (run o resp pol f init
        (Ev.headers fr.exp
          (decide (fr = .cl 0)) :: ((eventsOf (startReader fr).2).1 ++ segEvents (startReader fr).1 segs))).2 ∧
    (wireRun o resp pol f fr segs false).st =
      (run o resp pol f init
        (Ev.headers fr.exp
          (decide (fr = .cl 0)) :: ((eventsOf (startReader fr).2).1 ++ segEvents (startReader fr).1 segs))).1 := by
  rw [← List.cons_append, run_append]
  exact wire_fold o resp pol f _ segs (by simp) (fun _ => hclean)

/-- the tied receive path, any framing: a message that ends `done` without a callable delivered exactly the body the
    readers extract from the wire bytes (nothing at all for `cl 0`, whose end the start of the reader reports) -/
private theorem wireRun_relayed_exact (hpol : pol ≠ .callable) (fr : Framing) (a : List Bytes)
    (ca : CleanSegs (startReader fr).1 a) (ha : (wireRun o resp pol f fr a false).st.phase = .done) :
    (dataOf (wireRun o resp pol f fr a false).outs).flatten = bodyOf (feed (startReader fr).1 a.flatten).2 := by
  obtain ⟨a1, a2⟩ := wireRun_is_run_over_segEvents o resp pol f fr a ca
  rw [a2] at ha
  rw [a1, relayed_exact_events o resp pol f hpol _ _ _ ha]
  rcases fr with ⟨_ | n⟩ | _ | _
  · simp [startReader, eventsOf, eventsGo, recvd, feed_stop, bodyOf]
  all_goals exact wire_events_carry_body _ a

/-- For the tied receive path itself: the same wire bytes of a message with a body
    (`fr ≠ cl 0`), delivered in two different segmentations on which the readers do not raise, both runs ending `done`
    without a callable — the peer was sent the same bytes, namely the body the readers extract from the wire.  (`hfr` is
    not used: `wireRun_relayed_exact` covers `cl 0` as well, where nothing is delivered.) -/
theorem wireRun_segmentation_independent (hpol : pol ≠ .callable) (fr : Framing) (hfr : fr ≠ .cl 0)
    (a b : List Bytes) (hsame : a.flatten = b.flatten)
    (ca : CleanSegs (startReader fr).1 a) (cb : CleanSegs (startReader fr).1 b)
    (ha : (wireRun o resp pol f fr a false).st.phase = .done) (hb : (wireRun o resp pol f fr b false).st.phase = .done) :
    (dataOf (wireRun o resp pol f fr a false).outs).flatten = (dataOf (wireRun o resp pol f fr b false).outs).flatten ∧
    (dataOf (wireRun o resp pol f fr a false).outs).flatten = bodyOf (feed (startReader fr).1 a.flatten).2 := by
  rw [wireRun_relayed_exact o resp pol f hpol fr a ca ha, wireRun_relayed_exact o resp pol f hpol fr b cb hb, hsame]
  exact ⟨rfl, rfl⟩

example : CleanSegs (.size {}) [[0x33, 0x0d], [0x0a, 0x61], [0x62, 0x63, 0x0d, 0x0a, 0x30, 0x0d, 0x0a, 0x0d, 0x0a]] := by
  simp only [CleanSegs]; decide

/-- the regenerated SIZE_UNITS table is b,k,m,g,t = 1024^0..4 -/
theorem sizeUnits_table :
    Gen.C07.sizeUnits = [([0x62], 1024 ^ 0), ([0x6b], 1024 ^ 1), ([0x6d], 1024 ^ 2), ([0x67], 1024 ^ 3), ([0x74], 1024 ^ 4)] := by
  decide +kernel

/-- decimal value of a digit string, most significant first -/
def decVal (acc : Nat) (ds : Bytes) : Nat := ds.foldl (fun a c => a * 10 + digitVal c) acc

private theorem digitsTail_digits (acc : Nat) (ds rest : Bytes) (hd : ∀ c ∈ ds, isDigit c = true)
    (hr : ∀ c r, rest = c :: r → isDigit c = false ∧ c ≠ 0x5f) :
    digitsTail acc false (ds ++ rest) = some (decVal acc ds, rest) := by
  induction ds generalizing acc with
  | nil =>
    cases rest with
    | nil => rfl
    | cons c r =>
      obtain ⟨h1, h2⟩ := hr c r rfl
      simp [digitsTail, decVal, h1, h2]
  | cons d ds ih =>
    rw [List.cons_append, digitsTail, if_pos (hd d List.mem_cons_self)]
    exact ih _ (fun c hc => hd c (List.mem_cons_of_mem _ hc))

private theorem digit_facts (c : UInt8) (h : isDigit c = true) : isSpace c = false ∧ c ≠ 0x2d ∧ c ≠ 0x2b := by
  simp only [isDigit, Bool.and_eq_true, decide_eq_true_eq] at h
  refine ⟨?_, fun hc => ?_, fun hc => ?_⟩
  · simp [isSpace]
    omega
  · rw [hc] at h
    exact absurd h.1 (by decide)
  · rw [hc] at h
    exact absurd h.1 (by decide)

private theorem pyInt_digits_then (d : UInt8) (ds rest : Bytes) (hd : isDigit d = true)
    (hds : ∀ c ∈ ds, isDigit c = true) (hr : ∀ c r, rest = c :: r → isDigit c = false ∧ c ≠ 0x5f) :
    pyInt (d :: (ds ++ rest)) =
      (if (rest.dropWhile isSpace).isEmpty then some ((decVal 0 (d :: ds) : Nat) : Int) else none) := by
  obtain ⟨h1, h2, h3⟩ := digit_facts d hd
  simp [pyInt, List.dropWhile, h1, h2, h3, hd, digitsTail_digits (digitVal d) ds rest hds hr, decVal]

private theorem pyInt_digits (d : UInt8) (ds : Bytes) (hd : isDigit d = true) (hds : ∀ c ∈ ds, isDigit c = true) :
    pyInt (d :: ds) = some ((decVal 0 (d :: ds) : Nat) : Int) := by
  simpa using pyInt_digits_then d ds [] hd hds (fun c r h => nomatch h)

/-- A non-empty string of decimal digits parses to its value. -/
theorem parseSize_decimal (d : UInt8) (ds : Bytes) (hd : isDigit d = true) (hds : ∀ c ∈ ds, isDigit c = true) :
    parseSize (d :: ds) = some ((decVal 0 (d :: ds) : Nat) : Int) := by
  rw [parseSize, parseSizeWith, pyInt_digits d ds hd hds]

/-- the unit loop on a string that ends in the letter `u`, for any table of one-letter units: the first entry for `u`
    decides -/
private theorem unitLoop_letter (body : Bytes) (u : UInt8) (mult : Nat) (units : List (Bytes × Nat))
    (hk : ∀ p ∈ units, p.1.length = 1) (hl : units.lookup [u] = some mult) :
    unitLoop (body ++ [u]) units = (pyInt body).map (· * (mult : Int)) := by
  induction units with
  | nil => cases hl
  | cons p rest ih =>
    obtain ⟨k, m⟩ := p
    obtain ⟨k0, rfl⟩ : ∃ k0, k = [k0] := List.length_eq_one_iff.mp (hk _ List.mem_cons_self)
    have hb : ([u] == [k0]) = (k0 == u) := by
      rw [show ([u] == [k0]) = (u == k0 && true) from rfl, Bool.and_true, Bool.beq_comm]
    rw [List.lookup_cons, hb] at hl
    have hsuf : ([k0] : Bytes).isSuffixOf (body ++ [u]) = (k0 == u) := by
      simp [List.isSuffixOf, List.reverse_append, List.isPrefixOf]
    rw [unitLoop, hsuf, List.dropLast_concat]
    cases h : k0 == u
    · rw [h] at hl
      exact ih (fun p hp => hk p (List.mem_cons_of_mem _ hp)) hl
    · rw [h] at hl
      cases hl
      rfl

/-- Digits followed by one unit letter of the table parse to value × multiplier. -/
theorem parseSize_suffix (d : UInt8) (ds : Bytes) (hd : isDigit d = true) (hds : ∀ c ∈ ds, isDigit c = true)
    (u : UInt8) (mult : Nat) (hu : ([u], mult) ∈ Gen.C07.sizeUnits) :
    parseSize (d :: (ds ++ [u])) = some (((decVal 0 (d :: ds) : Nat) : Int) * (mult : Int)) := by
  have hl : Gen.C07.sizeUnits.lookup [u] = some mult :=
    (by decide : ∀ p ∈ Gen.C07.sizeUnits, Gen.C07.sizeUnits.lookup p.1 = some p.2) _ hu
  obtain ⟨h1, h2, h3⟩ : isDigit u = false ∧ u ≠ 0x5f ∧ isSpace u = false :=
    (by decide : ∀ p ∈ Gen.C07.sizeUnits, ∀ k ∈ p.1, isDigit k = false ∧ k ≠ 0x5f ∧ isSpace k = false)
      _ hu u (List.mem_singleton_self u)
  -- the whole string is no number: the letter is no digit, no underscore, no whitespace
  have hwhole : pyInt (d :: (ds ++ [u])) = none := by
    rw [pyInt_digits_then d ds [u] hd hds (fun c r h => by cases h; exact ⟨h1, h2⟩)]
    simp [List.dropWhile, h3]
  rw [parseSize, parseSizeWith, hwhole, ← List.cons_append,
    unitLoop_letter (d :: ds) u mult _ (by decide) hl, pyInt_digits d ds hd hds]
  rfl

example : parseSize [0x31, 0x6b] = some 1024 := by decide +kernel
example : parseSize [0x31, 0x4b] = none := by decide +kernel
example : parseSize [] = none := by decide +kernel

/-! ### non-vacuity: the hypotheses of the theorems above are met -/

-- late_switch_when_due: a buffering flow (2 bytes held, threshold 3, limit 10) receives 2 more bytes
example : (run { limit := some 10, thr := some 3, store := false } false .none (fun d => .one d) init
      [.headers .unknown false, .data [1, 2]]).1.phase = .consume ∧
    check { limit := some 10, thr := some 3, store := false } .unknown ([1, 2] ++ [3, 4]) = .stream := by decide +kernel
-- unstored_stream_holds_nothing: the state right after that late switch satisfies `hp` and `hb`
example : (run { limit := some 10, thr := some 3, store := false } false .none (fun d => .one d) init
      [.headers .unknown false, .data [1, 2], .data [3, 4]]).1.phase = .stream ∧
    (run { limit := some 10, thr := some 3, store := false } false .none (fun d => .one d) init
      [.headers .unknown false, .data [1, 2], .data [3, 4]]).1.buf = [] := by decide +kernel
-- buffer_bound_partial / consume_buffer_le_limit: guard and `hp` hold on a non-empty buffering history (3 ≤ 5 held)
example : (run { limit := some 5, thr := none, store := true } true .none (fun d => .one d) init
      [.headers .unknown false, .data [1, 2], .data [3]]).1.phase = .consume ∧
    (run { limit := some 5, thr := none, store := true } true .none (fun d => .one d) init
      [.headers .unknown false, .data [1, 2], .data [3]]).1.buf.length = 3 := by decide +kernel
-- request_side_independent / upload_unaffected_by_response_timing: the response in the middle of a streamed upload is not refused
example : RespAlive { limit := none, thr := some 1, store := false } ⟨.none, fun d => .one d⟩ ⟨.none, fun d => .one d⟩ {}
    [(false, .headers .unknown false), (false, .data [1, 2]), (true, .headers (.known 1) false), (true, .data [9]), (true, .eom),
     (false, .data [3]), (false, .eom)] := by
  simp only [RespAlive]
  decide +kernel
-- response_over_limit_errors_in_exchange: `hk` for the exchange of the example above (Content-Length 8 > limit 6)
example : KnownTooLarge { limit := some 6, thr := some 3, store := false }
    (run { limit := some 6, thr := some 3, store := false } true .none (fun d => .one d) init []).1
    (.headers (.known 8) false) :=
  ⟨6, rfl, Or.inl ⟨rfl, 8, rfl, by decide, by decide⟩⟩
-- wireRun_segmentation_independent: the tied receive path ends `done` on a chunked body cut inside the size line
example : (wireRun { limit := none, thr := some 2, store := false } false .none (fun d => .one d) .chunked
    [[0x33, 0x0d], [0x0a, 0x61], [0x62, 0x63, 0x0d, 0x0a, 0x30, 0x0d, 0x0a, 0x0d, 0x0a]] false).st.phase = .done := by decide +kernel
example : (dataOf (wireRun { limit := none, thr := some 2, store := false } false .none (fun d => .one d) .chunked
    [[0x33, 0x0d, 0x0a, 0x61, 0x62, 0x63, 0x0d, 0x0a, 0x30, 0x0d, 0x0a, 0x0d, 0x0a]] false).outs).flatten = [0x61, 0x62, 0x63] := by decide +kernel
-- streamed_wire_exact: `hok` for a duplicating callable
example : SizesOk (dataOf (run { limit := none, thr := none, store := false } false .callable (fun d => .many [d, d])
    (step { limit := none, thr := none, store := false } false .callable (fun d => .many [d, d]) init (.headers .unknown false)).1
    ([[1], [2, 3]].map Ev.data ++ [Ev.eom])).2) := by
  unfold SizesOk
  decide +kernel
-- parseSize_suffix: `hu`
example : (([0x6b], 1024) : Bytes × Nat) ∈ Gen.C07.sizeUnits := by decide +kernel
-- stream_starts_when_due: `hdue` (third alternative) together with `hnot`
example : check { limit := some 10, thr := some 3, store := false } (.known 5) [] = .stream ∧
    check { limit := some 10, thr := some 3, store := false } (.known 5) [] ≠ .abort := by decide +kernel

end MitmVerif.Props.C07
