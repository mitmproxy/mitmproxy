/-
  C48 — property theorems (exported commands reproduce the request and are shell-safe), over Model/C48.lean and
  Model/C48_Url.lean. Three readers written in the model stand for what consumes an export:
  * the shell, `Sh.run hex` (`hex`: this shell's printf knows `\xHH`: bash yes, dash no). `run … = some e` also says that
    nothing but the emitted quoting constructs met the shell, since the reader refuses everything else. All shell theorems
    come from `Reads` (Lemmas/C48: a text is read as some words; texts compose across a space) and, for a text body,
    from `received hex t` (Lemmas/C48Body): what the shell hands on for `contentForConsole t`. `BodyExact` holds iff
    `received hex t = t` (`bodyExact_iff`), which fails for a trailing newline under `$( )` (F-C48b) and for control
    bytes under dash (F-C48d): hence `body_exact_partial`.
  * curl, `decodeCurl` on the argv and `sentHeader` on one `-H` argument (hand-written from curl's behaviour, compared
    with the real curl only through the harness's Python twins); httpie, `httpieItem` (from its documented grammar, tied
    to nothing). `httpie_argv_shape` restates the definition of `httpieArgs`.
  * an HTTP/1 reader, `parseRaw` / `parseRawChunked` (minimal; its lemmas: Lemmas/C48Raw, C48Chunk), for the raw export
    of a request that is `WireSafe`; and `dial` (its lemmas: Lemmas/C48Url) for the authority of the URL argument, which
    is C33's transcription of `url.unparse`.
  Inputs, not modelled: `pretty_url` / `pretty_host` / the decoded text of the body (fields of `Req`).
-/
import MitmVerif.Lemmas.C48Body
import MitmVerif.Lemmas.C48Raw
import MitmVerif.Lemmas.C48Argv
import MitmVerif.Lemmas.C48Chunk
import MitmVerif.Lemmas.C48Url
namespace MitmVerif.Props.C48
open MitmVerif MitmVerif.C48 MitmVerif.C48.Sh MitmVerif.Lemmas.C48

/-- **shell safety of the quoting.** Whatever bytes the arguments contain, the joined line is read back as exactly
    those arguments (one simple command, no redirection). -/
theorem run_join_quote (hex : Bool) (args : List Bytes) :
    run hex (joinSp (args.map quote)) = some ⟨args, none⟩ :=
  (reads_join hex args).run.trans (interp_plain args)

private theorem run_d (hex : Bool) (args : List Bytes) (t : Bytes) :
    run hex (joinSp (args.map quote) ++ [32, 45, 100, 32] ++ contentForConsole t) =
      some ⟨args ++ [[45, 100], received hex t], none⟩ := by
  have := interp_plain (args ++ [[45, 100], received hex t])
  rw [List.map_append] at this
  exact (reads_export hex args t (reads_quote hex [45, 100])).run.trans this

private theorem run_here (hex : Bool) (args : List Bytes) (t : Bytes) :
    run hex (joinSp (args.map quote) ++ [32, 60, 60, 60, 32] ++ contentForConsole t) =
      some ⟨args, some (received hex t ++ [10])⟩ :=
  (reads_export hex args t (reads_here hex)).run.trans (interp_here args _)

/-! ### curl -/

/-- the command that is executed is curl -/
theorem curl_executes_curl (p : Bool) (addr : Option Bytes) (r : Req) :
    (curlArgs p addr r).head? = some [99, 117, 114, 108] := by
  simp [curlArgs]

/-- no body: one simple command, argv = `curlArgs`, in every shell -/
theorem curl_no_body (hex p : Bool) (addr : Option Bytes) (r : Req) (hb : r.body = .none) :
    ∃ cmd, curlCommand p addr r = some cmd ∧ run hex cmd = some ⟨curlArgs p addr r, none⟩ := by
  refine ⟨_, by simp [curlCommand, hb], run_join_quote hex _⟩

/-- a text body: one simple command whose argv ends in `-d` and what the shell receives for the text -/
private theorem curl_body_text (hex p : Bool) (addr : Option Bytes) (r : Req) (t : Bytes) (hb : r.body = .text t) :
    ∃ cmd, curlCommand p addr r = some cmd ∧
      run hex cmd = some ⟨curlArgs p addr r ++ [[45, 100], received hex t], none⟩ :=
  ⟨joinSp ((curlArgs p addr r).map quote) ++ [32, 45, 100, 32] ++ contentForConsole t,
    by simp [curlCommand, hb], run_d hex _ t⟩

/-- text body without C0 control characters: the `-d` value is the text, in every shell -/
theorem curl_body_plain (hex p : Bool) (addr : Option Bytes) (r : Req) (t : Bytes) (hb : r.body = .text t)
    (hc : hasCtl t = false) :
    ∃ cmd, curlCommand p addr r = some cmd ∧
      run hex cmd = some ⟨curlArgs p addr r ++ [[45, 100], t], none⟩ := by
  have := curl_body_text hex p addr r t hb
  rwa [received_plain hex t hc] at this

/-- text body with control characters under a printf that knows `\xHH` (bash): the value is the text minus its
    trailing newlines -/
theorem curl_body_ctl_bash (p : Bool) (addr : Option Bytes) (r : Req) (t : Bytes) (hb : r.body = .text t)
    (hc : hasCtl t = true) :
    ∃ cmd, curlCommand p addr r = some cmd ∧
      run true cmd = some ⟨curlArgs p addr r ++ [[45, 100], stripNl t], none⟩ := by
  have := curl_body_text true p addr r t hb
  rwa [received_ctl true t hc] at this

/-- … under a printf without `\x` (dash): every control byte arrives spelled `\xHH` -/
theorem curl_body_ctl_dash (p : Bool) (addr : Option Bytes) (r : Req) (t : Bytes) (hb : r.body = .text t)
    (hc : hasCtl t = true) :
    ∃ cmd, curlCommand p addr r = some cmd ∧
      run false cmd = some ⟨curlArgs p addr r ++ [[45, 100], stripNl (t.flatMap dashByte)], none⟩ := by
  have := curl_body_text false p addr r t hb
  rwa [received_ctl false t hc] at this

/-- the statement "for bodies that are valid text — exactly that body", for a shell `hex` and a text `t` -/
def BodyExact (hex : Bool) (t : Bytes) : Prop :=
  ∀ (p : Bool) (addr : Option Bytes) (r : Req), r.body = .text t →
    ∃ cmd, curlCommand p addr r = some cmd ∧ run hex cmd = some ⟨curlArgs p addr r ++ [[45, 100], t], none⟩

private def wReq (t : Bytes) : Req := ⟨[80, 79, 83, 84], [104], [104], 80, [104, 116, 116, 112, 58, 47, 47, 104, 47], [], .text t⟩

/-- the statement holds of a shell and a text exactly when that shell receives the text itself -/
private theorem bodyExact_iff (hex : Bool) (t : Bytes) : BodyExact hex t ↔ received hex t = t := by
  constructor
  · intro h
    obtain ⟨cmd, h1, h2⟩ := h false none (wReq t) rfl
    obtain ⟨cmd', h1', h2'⟩ := curl_body_text hex false none (wReq t) t rfl
    rw [h1] at h1'
    cases h1'
    rw [h2] at h2'
    simpa using h2'.symm
  · intro h p addr r hb
    have := curl_body_text hex p addr r t hb
    rwa [h] at this

/-- `BodyExact` outside the two recorded defect classes: no C0 control character (any shell), or a `\x`-capable
    printf and no trailing newline -/
theorem body_exact_partial (hex : Bool) (t : Bytes)
    (h : hasCtl t = false ∨ (hex = true ∧ t.getLast? ≠ some 10)) : BodyExact hex t := by
  rw [bodyExact_iff]
  rcases h with h | ⟨rfl, hl⟩
  · exact received_plain hex t h
  · cases hc : hasCtl t
    · exact received_plain _ t hc
    · exact (received_ctl _ t hc).trans (stripNl_of_last t hl)

/-- F-C48b: `line\n` under bash arrives as `line` -/
theorem body_exact_counterexample_newline : ¬ BodyExact true [108, 105, 110, 101, 10] :=
  fun h => absurd ((bodyExact_iff _ _).mp h) (by decide +kernel)

/-- F-C48d: `a\x01b` under a printf without `\x` arrives as the six characters `a\x01b` -/
theorem body_exact_counterexample_dash : ¬ BodyExact false [97, 1, 98] :=
  fun h => absurd ((bodyExact_iff _ _).mp h) (by decide +kernel)

/-- a body that starts with `-` (fixed in /repo: the dash travels as `\055`) is exact under bash -/
example : BodyExact true [45, 1] := body_exact_partial _ _ (Or.inr ⟨rfl, by decide⟩)

/-! ### what the argv means to curl -/

/-- the `-d VALUE` the exporter appends for a text body, as argv -/
def dataArgs : Option Bytes → List Bytes
  | none => []
  | some v => [sD, v]

/-- curl's reading of the whole exported argv, field by field (`rs`: the `--resolve` entries, if any) -/
private theorem decodeCurl_curlArgs (p : Bool) (addr : Option Bytes) (r : Req) (d : Option Bytes)
    (hurl : r.url.head? ≠ some 45) :
    ∃ rs, decodeCurl (curlArgs p addr r ++ dataArgs d) = some
      { method := if r.method ≠ sGET then some r.method else if r.body ≠ .none then some sGET else none,
        headers := ((popHeaders r.host r.headers).filter (fun h => lname h.1 ≠ sAE)).map headerArg ++
          (if r.method ≠ sGET ∧ r.body = .none then [sCL0] else []),
        compressed := (popHeaders r.host r.headers).any (fun h => lname h.1 = sAE),
        globoff := hasGlob r.url, pathAsIs := hasSlashDot r.url, resolve := rs, data := d, urls := [r.url] } := by
  obtain ⟨rs, hrs⟩ := dec_resolve p addr r
    (curlHeaderArgs (popHeaders r.host r.headers) ++ (methodArgs r ++ r.url :: dataArgs d))
    { globoff := ({} : Curl).globoff || hasGlob r.url, pathAsIs := ({} : Curl).pathAsIs || hasSlashDot r.url }
  refine ⟨rs, ?_⟩
  rw [curlArgs_split]
  simp only [decodeCurl, List.cons_append, List.nil_append, List.append_assoc]
  rw [dec_glob, hrs, dec_headers, dec_method, dec_url _ _ _ hurl]
  cases d with
  | none => simp [dataArgs, decodeCurlArgs]
  | some v => simp only [dataArgs]; rw [dec_D]; simp [decodeCurlArgs]

/-- **argv encodes method, URL and header set.** For every request whose URL does not start with `-`, and whatever
    value travels with `-d`: curl's reading of the exported argv has the request's method (`-X`; without `-X` curl's own
    default agrees with it), exactly one URL — the request's —, one `-H` line per remaining header in order (plus
    `content-length: 0` for a body-less non-GET request), `--compressed` iff an Accept-Encoding header was present, and
    data iff the request has a body. -/
theorem argv_encodes_method_url_headers (p : Bool) (addr : Option Bytes) (r : Req) (d : Option Bytes)
    (hurl : r.url.head? ≠ some 45) (hd : d.isSome = (r.body != .none)) :
    ∃ c, decodeCurl (curlArgs p addr r ++ dataArgs d) = some c ∧
      c.effMethod = r.method ∧ c.urls = [r.url] ∧ c.data = d ∧
      c.headers = ((popHeaders r.host r.headers).filter (fun h => lname h.1 ≠ sAE)).map headerArg ++
        (if r.method ≠ sGET ∧ r.body = .none then [sCL0] else []) ∧
      c.compressed = (popHeaders r.host r.headers).any (fun h => lname h.1 = sAE) := by
  obtain ⟨rs, hdec⟩ := decodeCurl_curlArgs p addr r d hurl
  refine ⟨_, hdec, ?_, rfl, rfl, rfl, rfl⟩
  by_cases hm : r.method = sGET
  · cases d with
    | none =>
      have hb : r.body = .none := by cases hbb : r.body <;> simp [hbb] at hd ⊢
      simp [Curl.effMethod, hm, hb]
    | some v =>
      have hb : r.body ≠ .none := by intro hbb; simp [hbb] at hd
      simp [Curl.effMethod, hm, hb]
  · simp [Curl.effMethod, hm]

/-- without `-X GET`, a GET request with a body would be sent as POST (the defect fixed in /repo): curl's default -/
example : (({ data := some [120] } : Curl).effMethod) = [80, 79, 83, 84] := by decide +kernel

/-! ### httpie -/

theorem httpie_no_body (hex : Bool) (r : Req) (hb : r.body = .none) :
    ∃ cmd, httpieCommand r = some cmd ∧ run hex cmd = some ⟨httpieArgs r, none⟩ := by
  refine ⟨_, by simp [httpieCommand, hb], run_join_quote hex _⟩

/-- a text body arrives on stdin (here-string): what the shell receives for the text, and a newline -/
private theorem httpie_body_text (hex : Bool) (r : Req) (t : Bytes) (hb : r.body = .text t) :
    ∃ cmd, httpieCommand r = some cmd ∧ run hex cmd = some ⟨httpieArgs r, some (received hex t ++ [10])⟩ :=
  ⟨joinSp ((httpieArgs r).map quote) ++ [32, 60, 60, 60, 32] ++ contentForConsole t,
    by simp [httpieCommand, hb], run_here hex _ t⟩

theorem httpie_body_plain (hex : Bool) (r : Req) (t : Bytes) (hb : r.body = .text t) (hc : hasCtl t = false) :
    ∃ cmd, httpieCommand r = some cmd ∧ run hex cmd = some ⟨httpieArgs r, some (t ++ [10])⟩ := by
  have := httpie_body_text hex r t hb
  rwa [received_plain hex t hc] at this

theorem httpie_body_ctl_bash (r : Req) (t : Bytes) (hb : r.body = .text t) (hc : hasCtl t = true) :
    ∃ cmd, httpieCommand r = some cmd ∧ run true cmd = some ⟨httpieArgs r, some (stripNl t ++ [10])⟩ := by
  have := httpie_body_text true r t hb
  rwa [received_ctl true t hc] at this

/-- httpie's argv is `http METHOD URL` followed by one item (`headerArg`: `name: value`, or `name;` for a blank value)
    per remaining header -/
theorem httpie_argv_shape (r : Req) :
    httpieArgs r = [104, 116, 116, 112] :: r.method :: r.url :: (popHeaders r.host r.headers).map headerArg := by
  simp [httpieArgs]

/-! ### raw export -/

/-- **the raw export parses back.** For a request HTTP/1 can represent (method/target without SP/CR, version without
    CR, field names without `:`/CR, values without CR) the reader recovers exactly the request. -/
theorem raw_parses_back (r : RawReq) (h : WireSafe r) : parseRaw (rawRequest r) = some r :=
  parseRaw_rawRequest r h

/-- on that path `assemble_request` is `rawRequest` -/
theorem assemble_nonchunked (r : RawReq) (h : isChunked r.fields = false) : assembleRequest r = some (rawRequest r) := by
  simp [assembleRequest, h]

/-! non-vacuity -/
example : run true (joinSp ([[99, 117, 114, 108], [36, 40, 105, 100, 41], [39], []].map quote)) =
    some ⟨[[99, 117, 114, 108], [36, 40, 105, 100, 41], [39], []], none⟩ := run_join_quote _ _
example : run true [99, 117, 114, 108, 59, 105, 100] = none := by decide +kernel       -- `curl;id` is not read as one command
example : quote [36, 40, 105, 100, 41] = [39, 36, 40, 105, 100, 41, 39] := by decide +kernel
example : BodyExact false [53, 48, 37] := body_exact_partial _ _ (Or.inl (by decide))
example : WireSafe ⟨[71, 69, 84], [47], [72, 84, 84, 80, 47, 49, 46, 49], [([104], [118])], [98]⟩ := by decide +kernel


/-! ## every emitted construct, every shell, in one statement; what `pop_headers` removes -/

/-- httpie, text body with control characters, under a printf without `\x` (dash would also need `<<<`; ksh/zsh have
    both): the here-string carries the `\xHH`-spelled text -/
theorem httpie_body_ctl_nohex (r : Req) (t : Bytes) (hb : r.body = .text t) (hc : hasCtl t = true) :
    ∃ cmd, httpieCommand r = some cmd ∧
      run false cmd = some ⟨httpieArgs r, some (stripNl (t.flatMap dashByte) ++ [10])⟩ := by
  have := httpie_body_text false r t hb
  rwa [received_ctl false t hc] at this

/-- **every curl command line the exporter can emit is one simple command** — for every request, body kind, option
    setting and both printf flavours: the reading succeeds (no construct is left uninterpreted: nothing but the emitted
    quoting reaches the shell), there is no redirection, the argv starts with the `curlArgs` of the request (so with `curl`)
    and continues with nothing or with exactly `-d VALUE`. -/
theorem curl_command_single_command (hex p : Bool) (addr : Option Bytes) (r : Req) (cmd : Bytes)
    (h : curlCommand p addr r = some cmd) :
    ∃ tail, run hex cmd = some ⟨curlArgs p addr r ++ tail, none⟩ ∧ (tail = [] ∨ ∃ v, tail = [[45, 100], v]) := by
  cases hb : r.body with
  | none =>
    obtain ⟨c, h1, h2⟩ := curl_no_body hex p addr r hb
    rw [h] at h1; cases h1
    exact ⟨[], by simpa using h2, Or.inl rfl⟩
  | binary => simp [curlCommand, hb] at h
  | text t =>
    obtain ⟨c, h1, h2⟩ := curl_body_text hex p addr r t hb
    rw [h] at h1; cases h1
    exact ⟨_, h2, Or.inr ⟨_, rfl⟩⟩

/-- … and likewise every httpie command line: argv is exactly `httpieArgs`, the body (if any) arrives on stdin -/
theorem httpie_command_single_command (hex : Bool) (r : Req) (cmd : Bytes) (h : httpieCommand r = some cmd) :
    ∃ stdin, run hex cmd = some ⟨httpieArgs r, stdin⟩ := by
  cases hb : r.body with
  | none =>
    obtain ⟨c, h1, h2⟩ := httpie_no_body hex r hb
    rw [h] at h1; cases h1
    exact ⟨_, h2⟩
  | binary => simp [httpieCommand, hb] at h
  | text t =>
    obtain ⟨c, h1, h2⟩ := httpie_body_text hex r t hb
    rw [h] at h1; cases h1
    exact ⟨_, h2⟩

/-- the export is refused exactly for bodies that are not valid text -/
theorem curl_refused_iff_binary (p : Bool) (addr : Option Bytes) (r : Req) :
    curlCommand p addr r = none ↔ r.body = .binary := by
  cases hb : r.body <;> simp [curlCommand, hb]

/-- `pop_headers` drops Content-Length, then possibly Host, then possibly :authority: what holds of the header list and
    survives `dropName` for these three names holds of what is left -/
private theorem popHeaders_ind {P : List (Bytes × Bytes) → Prop} (host : Bytes) (hs : List (Bytes × Bytes)) (h0 : P hs)
    (hd : ∀ l n, n ∈ [[99, 111, 110, 116, 101, 110, 116, 45, 108, 101, 110, 103, 116, 104], [104, 111, 115, 116],
      [58, 97, 117, 116, 104, 111, 114, 105, 116, 121]] → P l → P (dropName l n)) : P (popHeaders host hs) := by
  have h1 := hd _ _ List.mem_cons_self h0
  unfold popHeaders
  dsimp only
  split <;> split <;> simp only [hd, h1, List.mem_cons, true_or, or_true]

/-- `pop_headers` only removes: the header set it leaves is a sub-list of the request's, in order -/
theorem popHeaders_sublist (host : Bytes) (hs : List (Bytes × Bytes)) : (popHeaders host hs).Sublist hs :=
  popHeaders_ind (P := (·.Sublist hs)) host hs (List.Sublist.refl _) fun _ _ _ h => List.filter_sublist.trans h

/-- … and it removes nothing but Content-Length, Host and :authority lines: every other field line survives -/
theorem popHeaders_keeps_others (host : Bytes) (hs : List (Bytes × Bytes)) (h : Bytes × Bytes) (hm : h ∈ hs)
    (h1 : lname h.1 ≠ [99, 111, 110, 116, 101, 110, 116, 45, 108, 101, 110, 103, 116, 104])
    (h2 : lname h.1 ≠ [104, 111, 115, 116]) (h3 : lname h.1 ≠ [58, 97, 117, 116, 104, 111, 114, 105, 116, 121]) :
    h ∈ popHeaders host hs := by
  refine popHeaders_ind (P := (h ∈ ·)) host hs hm fun l n hn hl => List.mem_filter.mpr ⟨hl, ?_⟩
  simp only [List.mem_cons, List.not_mem_nil, or_false] at hn
  rcases hn with rfl | rfl | rfl <;> simpa

example : popHeaders [104] [([72, 111, 115, 116], [104]), ([88], [49]), ([67, 111, 110, 116, 101, 110, 116, 45, 76, 101, 110, 103, 116, 104], [53])]
    = [([88], [49])] := by decide +kernel
example : popHeaders [104] [([72, 111, 115, 116], [122])] = [([72, 111, 115, 116], [122])] := by decide +kernel


/-- under `Transfer-Encoding: chunked`, `assemble_request` writes the head followed by the chunk-framed content -/
theorem assemble_chunked (r : RawReq) (h : isChunked r.fields = true) :
    assembleRequest r = some (rawRequest { r with body := chunkedBody r.body }) := by
  simp [assembleRequest, h, rawRequest, chunkedBody, List.append_assoc]

/-- **the raw export parses back on the chunked path too**: for a representable request whose headers announce chunked
    transfer coding, reading the head and un-chunking the body recovers exactly the request, for every content. -/
theorem raw_chunked_parses_back (r : RawReq) (hs : WireSafe r) (h : isChunked r.fields = true) :
    ∃ raw, assembleRequest r = some raw ∧ parseRawChunked raw = some r := by
  refine ⟨_, assemble_chunked r h, ?_⟩
  have hs' : WireSafe { r with body := chunkedBody r.body } := by simpa [WireSafe, wireSafe] using hs
  unfold parseRawChunked
  rw [parseRaw_rawRequest _ hs']
  simp only
  rw [parseChunked_chunkedBody r.body _ (by simp [chunkedBody])]
  rfl

example : parseChunked 9 (chunkedBody [97, 98, 99]) = some [97, 98, 99] := by decide +kernel
example : chunkedBody [] = [48, 13, 10, 13, 10] := by decide +kernel
example : hexNat 255 = [102, 102] ∧ hexNat 0 = [48] ∧ hexNat 4096 = [49, 48, 48, 48] := by decide +kernel


/-! ## the transfer-coding test is case-insensitive -/

/-- a lowered byte is outside `A`–`Z`, so lowering it again changes nothing -/
private theorem asciiLowerB_idem (b : UInt8) : asciiLowerB (asciiLowerB b) = asciiLowerB b := by
  unfold asciiLowerB
  split
  · rename_i h
    have h2 : (b + 32).toNat = b.toNat + 32 := by
      rw [UInt8.toNat_add]
      exact Nat.mod_eq_of_lt (by have : (32 : UInt8).toNat = 32 := rfl; omega)
    rw [if_neg (by omega)]
  · rfl

private theorem asciiLower_idem (v : Bytes) : asciiLower (asciiLower v) = asciiLower v := by
  unfold asciiLower
  rw [List.map_map]
  exact List.map_congr_left fun c _ => asciiLowerB_idem c

/-- **`Chunked`, `CHUNKED`, `gzip, Chunked` … frame the body like `chunked`**: whether `assemble_request` chunk-frames a
    request with one Transfer-Encoding line depends only on the lower-cased value (and not on the case of the field name) -/
theorem isChunked_case_insensitive (n v : Bytes) : isChunked [(n, v)] = isChunked [(asciiLower n, asciiLower v)] := by
  unfold isChunked getJoined lname
  by_cases h : asciiLower n = [116, 114, 97, 110, 115, 102, 101, 114, 45, 101, 110, 99, 111, 100, 105, 110, 103]
  · have hn : asciiLower [116, 114, 97, 110, 115, 102, 101, 114, 45, 101, 110, 99, 111, 100, 105, 110, 103] =
        [116, 114, 97, 110, 115, 102, 101, 114, 45, 101, 110, 99, 111, 100, 105, 110, 103] := by decide +kernel
    simp [h, hn, asciiLower_idem]
  · simp [h, asciiLower_idem]

example : isChunked [([84, 69], [67, 104, 117, 110, 107, 101, 100])] = false := by decide +kernel      -- other field name
example : isChunked [([116, 114, 97, 110, 115, 102, 101, 114, 45, 101, 110, 99, 111, 100, 105, 110, 103], [67, 104, 117, 110, 107, 101, 100])] = true := by
  decide +kernel                                                                                          -- "Chunked"
example : isChunked [([84, 114, 97, 110, 115, 102, 101, 114, 45, 69, 110, 99, 111, 100, 105, 110, 103],
    [103, 122, 105, 112, 44, 32, 67, 72, 85, 78, 75, 69, 68])] = true := by decide +kernel                 -- Transfer-Encoding: gzip, CHUNKED


/-! ## the URL argument names the request's host — `url.unparse` (C33's transcription) read back as a client does -/

/-- **the exported URL dials the request's host and port**, for every scheme without a colon, every host a URL can carry
    (`hostCarried`: non-empty, none of `/ ? # [ ] @`), every port and every path that is empty or starts with `/`, `?` or
    `#`: reading the authority of `unparse scheme host port path` the way curl/httpie do gives back exactly `host`, with the
    port digits unless it is the scheme's default port. A host that contains `:` is printed in brackets (an IPv6 literal),
    any other as it is; `hv6` says no more than that and restricts nothing. -/
theorem url_argument_dials_request_host (scheme h path : UStr) (port : Nat)
    (hs : scheme.all (fun c => decide (c ≠ 58)) = true) (hh : hostCarried h = true) (hpath : pathStarts path = true)
    (hv6 : h.contains 58 = true ∨ h.all (fun c => decide (c ≠ 58)) = true) :
    dial (C33.unparse scheme h port path) =
      some (h, if C33.defaultPort scheme = some port then none else some (C33.decDigits port)) :=
  -- `hv6` holds of every host
  dial_unparse scheme h path port hs hh hpath

/-- an IPv6 literal printed without brackets (what the seeded change seeded/c48-5 produced for default ports) is not readable -/
example : dial (C33.S "http://2001:db8::1/path") = none := by decide +kernel
example : dial (C33.unparse (C33.S "http") (C33.S "2001:db8::1") 80 (C33.S "/path")) = some (C33.S "2001:db8::1", none) := by decide +kernel
example : dial (C33.unparse (C33.S "https") (C33.S "::1") 8443 (C33.S "/")) = some (C33.S "::1", some (C33.S "8443")) := by decide +kernel
example : dial (C33.unparse (C33.S "http") (C33.S "example.com") 8080 []) = some (C33.S "example.com", some (C33.S "8080")) := by decide +kernel

/-! ## non-vacuity witnesses on one concrete request -/

private def auditReq : Req :=
  { method := [80, 85, 84], host := [104], prettyHost := [104], port := 80,
    url := [104, 116, 116, 112, 58, 47, 47, 104, 47, 36, 40, 105, 100, 41],      -- http://h/$(id)
    headers := [([88], [39, 59, 114, 109]), ([72, 111, 115, 116], [104])],       -- X: ';rm   Host: h
    body := .text [97, 32, 98] }

/-- `curl_body_plain` / `curl_command_single_command` / `argv_encodes_method_url_headers` on a request with shell
    metacharacters in URL and header value: one command, argv = curl -H "X: ';rm" -X PUT URL -d "a b", read back by the curl
    reader as PUT, that URL, that header, that body (the Host line is popped) -/
example : ∃ cmd, curlCommand false none auditReq = some cmd ∧
    run false cmd = some ⟨curlArgs false none auditReq ++ [[45, 100], [97, 32, 98]], none⟩ ∧
    run true cmd = run false cmd ∧
    (decodeCurl (curlArgs false none auditReq ++ [[45, 100], [97, 32, 98]])).map
      (fun c => (c.effMethod, c.urls, c.headers, c.data)) =
      some ([80, 85, 84], [auditReq.url], [[88, 58, 32, 39, 59, 114, 109]], some [97, 32, 98]) := by
  refine ⟨_, rfl, ?_, ?_, ?_⟩ <;> decide +kernel

/-- `httpie_command_single_command` on the same request (no body): one command whose argv is `httpieArgs` -/
example : ∃ cmd, httpieCommand { auditReq with body := .none } = some cmd ∧
    run true cmd = some ⟨httpieArgs { auditReq with body := .none }, none⟩ := by
  refine ⟨_, rfl, ?_⟩; decide +kernel

/-- `curl_refused_iff_binary`, and a control character makes the two shells differ (the recorded F-C48d class) -/
example : curlCommand false none { auditReq with body := .binary } = none ∧
    hasCtl [97, 1, 98] = true := by decide +kernel


/-! ## every header reaches the wire (empty values), curl's and httpie's reading of a header argument -/

private theorem all_of_dropWhile_nil (p : UInt8 → Bool) (l : Bytes) (h : l.dropWhile p = []) : ∀ a ∈ l, p a = true := by
  induction l with
  | nil => simp
  | cons x xs ih => cases hx : p x <;> simp_all

/-- `isPyWs` is `isCurlSpace` or one of FS GS RS US -/
private theorem curlSpace_pyWs (c : UInt8) (h : isCurlSpace c = true) : isPyWs c = true := by
  unfold isCurlSpace at h
  unfold isPyWs
  rw [h]; rfl

/-- **no header is lost on the way to the wire (curl)**: for every header whose name contains neither `:` nor `;`, curl puts
    a line on the wire for the `-H` argument the exporter writes — `name: value` verbatim when the value is not blank,
    `name:` when it is empty or blank (written `name;`). -/
theorem curl_sends_every_header (h : Bytes × Bytes)
    (hc : h.1.all (fun c => c != 58) = true) (hs : h.1.all (fun c => c != 59) = true) :
    sentHeader (headerArg h) =
      some (if h.2.all isPyWs then h.1 ++ [58] else h.1 ++ [58, 32] ++ h.2) := by
  have h58 : (58 : UInt8) ∉ h.1 := fun hm => by simpa using List.all_eq_true.mp hc 58 hm
  unfold headerArg sentHeader
  by_cases hb : h.2.all isPyWs = true
  · simp only [hb, if_true]
    obtain ⟨t, d⟩ := takeWhile_stop (fun c => c != 59) h.1 59 [] (List.all_eq_true.mp hs) (by decide)
    simp [t, d, h58]
  · simp only [hb, Bool.false_eq_true, if_false]
    have hyes : (h.1 ++ [58, 32] ++ h.2).contains 58 = true := by simp
    obtain ⟨t, d⟩ := takeWhile_stop (fun c => c != 58) h.1 58 (32 :: h.2) (List.all_eq_true.mp hc) (by decide)
    have e : h.1 ++ [58, 32] ++ h.2 = h.1 ++ 58 :: 32 :: h.2 := by simp
    have hne : (h.2.dropWhile isCurlSpace) ≠ [] := by
      intro hnil
      have hall : ∀ a ∈ h.2, isCurlSpace a = true := all_of_dropWhile_nil isCurlSpace h.2 hnil
      apply hb
      simp only [List.all_eq_true]
      exact fun a ha => curlSpace_pyWs a (hall a ha)
    rw [hyes, e, d]
    simp [isCurlSpace, hne]

/-- the defect fixed in /repo (0f1b16ec7): the old form `Name: ` of an empty-valued header is REMOVED by curl -/
theorem old_empty_header_dropped_counterexample :
    sentHeader (headerArgOld ([120, 45, 101], [])) = none ∧ sentHeader (headerArg ([120, 45, 101], [])) = some [120, 45, 101, 58] := by
  decide +kernel

example : headerArg ([120], [32, 9]) = [120, 59] ∧ headerArg ([120], [118]) = [120, 58, 32, 118] := by decide +kernel
example : sentHeader [88, 59, 105, 100, 59] = none := by decide +kernel          -- "X;id;": a name containing ';' is outside the guard


/-- **the URL is taken literally** (fixes in /repo: `--globoff`, `--path-as-is`): whenever the URL contains one of `[ ] { }` — which
    curl would otherwise expand as a URL globbing pattern, requesting `/a` and `/b` for `/{a,b}` — curl's reading of the exported
    argv has `--globoff` set; whenever it contains `/.` (a possible dot segment, which curl would remove: `/a/../b` → `/b`) it has
    `--path-as-is` set; and there is exactly one URL, the request's. -/
theorem curl_url_taken_literally (p : Bool) (addr : Option Bytes) (r : Req) (hurl : r.url.head? ≠ some 45) :
    ∃ c, decodeCurl (curlArgs p addr r) = some c ∧ c.urls = [r.url] ∧ c.globoff = hasGlob r.url ∧
      c.pathAsIs = hasSlashDot r.url := by
  obtain ⟨rs, h⟩ := decodeCurl_curlArgs p addr r none hurl
  rw [dataArgs, List.append_nil] at h
  exact ⟨_, h, rfl, rfl, rfl⟩

/-- `/{a,b}` holds glob characters, `/p?a=b` does not; `/a/../b` holds `/.`, the dot of a host name does not count -/
example : hasGlob [47, 123, 97, 44, 98, 125] = true ∧ hasGlob [47, 112, 63, 97, 61, 98] = false := by decide +kernel
example : hasSlashDot [47, 97, 47, 46, 46, 47, 98] = true ∧ hasSlashDot [104, 116, 116, 112, 58, 47, 47, 104, 46, 120, 47, 112] = false := by decide +kernel


/-! ## the httpie clause beyond the argv: request items read by httpie's documented grammar (modelled, untied) -/

/-- **httpie_items_read_back_partial**: for a header whose name contains none of `: = @ ; \` and whose value contains no `\`,
    the item the exporter writes is read by httpie's (documented) item grammar as that header — `Name;` as the header with an
    empty value, otherwise name and value (up to leading blanks).  `_partial`: names/values with item separators or backslashes
    are outside; httpie's own default headers and the METHOD/URL positional rules are not modelled; nothing here is tied to httpie. -/
theorem httpie_items_read_back_partial (h : Bytes × Bytes)
    (hn : h.1.all (fun c => !isItemSep c && c != 92) = true) (hv : h.2.all (fun c => c != 92) = true) :
    httpieItem (headerArg h) =
      if h.2.all isPyWs then .emptyHeader h.1 else .header h.1 (h.2.dropWhile isPyWs) := by
  have hsep : h.1.all (fun c => !isItemSep c) = true := by
    simp only [List.all_eq_true, Bool.and_eq_true] at hn ⊢
    exact fun c hc => (hn c hc).1
  have hbs1 : (92 : UInt8) ∉ h.1 := fun hm => by simpa using List.all_eq_true.mp hn 92 hm
  have hbs2 : (92 : UInt8) ∉ h.2 := fun hm => by simpa using List.all_eq_true.mp hv 92 hm
  unfold headerArg httpieItem
  by_cases hb : h.2.all isPyWs = true
  · simp only [hb, if_true]
    obtain ⟨t, d⟩ := takeWhile_stop (fun c => !isItemSep c) h.1 59 [] (List.all_eq_true.mp hsep) (by decide)
    simp [t, d, hbs1]
  · simp only [hb, Bool.false_eq_true, if_false]
    obtain ⟨t, d⟩ := takeWhile_stop (fun c => !isItemSep c) h.1 58 (32 :: h.2) (List.all_eq_true.mp hsep) (by decide)
    have e : h.1 ++ [58, 32] ++ h.2 = h.1 ++ 58 :: 32 :: h.2 := by simp
    have hno : (h.1 ++ 58 :: 32 :: h.2).contains 92 = false := by simp [hbs1, hbs2]
    have hne : h.2.dropWhile isPyWs ≠ [] := by
      intro hnil
      exact hb (by simpa [List.all_eq_true] using all_of_dropWhile_nil isPyWs h.2 hnil)
    rw [e, hno]
    simp only [Bool.false_eq_true, if_false, d, t]
    have h32 : isPyWs 32 = true := by decide +kernel
    simp [List.dropWhile, h32, hne]

/-- the defect fixed in /repo (0f1b16ec7), httpie side: the old item `Name: ` UNSETS the header -/
theorem httpie_old_empty_header_counterexample :
    httpieItem (headerArgOld ([120, 45, 101], [])) = .unsetHeader [120, 45, 101] ∧
    httpieItem (headerArg ([120, 45, 101], [])) = .emptyHeader [120, 45, 101] := by decide +kernel

example : httpieItem [97, 61, 98, 58, 32, 118] = .other := by decide +kernel       -- "a=b: v": read as a data field, outside the guard
example : httpieItem [110, 58, 32, 118] = .header [110] [118] := by decide +kernel

end MitmVerif.Props.C48
