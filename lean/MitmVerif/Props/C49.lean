/-
  C49 — property theorems: what mitmdump's `Dumper` writes contains no control character (Unicode Cc) except
  TAB / LF / CR.

  The escape function: the model is a lookup in `Gen.C49.ctrlTable` (the live `escape_control_characters` tabulated on
  0–0xFF, on the keys of its translate tables and on a sample above) and the identity elsewhere.  The rows are decided
  (`table_rows`), every Cc code point is below 256 and has a row, hence `escape_spec` for every natural number and the
  Cc-freedom of every escaped string.
  The Dumper: `echoLines` / `echoPaths` / `writeSites` / `prettifyReturns` of Gen/C49 are a static scan of dumper.py
  and of `prettify_message` (harness/c49.py, trusted).  The table theorems decide that no piece is `raw`, that the
  literals are clean and that the `print` in `echo` is the only write; `dumper_output_clean` lifts this to every line
  `MayEcho` admits, for arbitrary field values and views.  `MayEcho` is never executed: it is the law that indent /
  print / style add only spaces, LF and SGR frames (their ESC stands as a sentinel).  The `internal` texts (numbers,
  enum names) are a hypothesis; Props/C50 discharges it for the three that are DNS symbol names (op code, type,
  response code).  `bytes_to_escaped_str` is C51's model (`C51.output_no_control`).
-/
import MitmVerif.Model.C49
import MitmVerif.Props.C51
namespace MitmVerif.Props.C49
open MitmVerif MitmVerif.C49 MitmVerif.Gen.C49

/-! ### the escape table -/

/-- the generated Cc list is the two ranges C0 and DEL–C1 -/
private theorem ccList_eq : ccList = List.range' 0 32 ++ List.range' 127 33 := by decide +kernel

/-- the model's `isCc` is exactly membership in the Cc list generated from `unicodedata` -/
theorem isCc_iff_mem_ccList (c : Nat) : isCc c = true ↔ c ∈ ccList := by
  simp only [ccList_eq, List.mem_append, List.mem_range'_1, isCc, Bool.or_eq_true, Bool.and_eq_true, decide_eq_true_eq]
  omega

/-- a table whose first keys count up from `s` has an entry for each of them -/
private theorem lookup_counting {β : Type} : ∀ (n s : Nat) (l : List (Nat × β)),
    (l.take n).map Prod.fst = List.range' s n → ∀ k, s ≤ k → k < s + n → (l.lookup k).isSome = true := by
  intro n
  induction n with
  | zero => intro s l _ k h1 h2; omega
  | succ n ih =>
    intro s l h k h1 h2
    match l, h with
    | (a, b) :: l', h =>
      simp only [List.take_succ_cons, List.map_cons, List.range'_succ, List.cons.injEq] at h
      obtain ⟨rfl, h⟩ := h
      by_cases hk : k = a
      · simp [List.lookup, hk]
      · have : (k == a) = false := by simpa using hk
        simp only [List.lookup, this]
        exact ih (a + 1) l' h k (by omega) (by omega)

/-- the regenerated table starts with the code points 0-0xFF in order -/
private theorem table_counts : (ctrlTable.take 256).map Prod.fst = List.range' 0 256 := by decide +kernel

private theorem table_covers (c : Nat) (h : c < 256) : (ctrlTable.lookup c).isSome = true :=
  lookup_counting 256 0 ctrlTable table_counts c (Nat.zero_le c) (by omega)

/-- every Cc code point has an entry in the regenerated table (so "no entry ⇒ identity" never lets one through) -/
theorem table_covers_cc : ∀ c ∈ ccList, (ctrlTable.lookup c).isSome = true := by
  intro c hc
  have := (isCc_iff_mem_ccList c).2 hc
  exact table_covers c (by simp [isCc] at this; omega)

/-- the translate tables have no key beyond the tabulated range -/
theorem table_covers_translate_keys : maxTransKey < 256 ∧ ∀ n : Fin 256, (ctrlTable.lookup n.val).isSome = true :=
  ⟨by decide, fun n => table_covers n.val n.isLt⟩

/-- every row of the table: "." for a Cc code point (TAB, LF, CR kept when spacing is kept), the code point otherwise -/
private theorem table_rows : ∀ e ∈ ctrlTable,
    e.2.1 = (if isCc e.1 = true ∧ ¬ (e.1 = 9 ∨ e.1 = 10 ∨ e.1 = 13) then [46] else [e.1]) ∧
    e.2.2 = (if isCc e.1 = true then [46] else [e.1]) := by decide +kernel

/-- **Exact behaviour for every input, astral code points and surrogates included** (strings are lists of arbitrary
    naturals): a code point is replaced by "." exactly when it is a Cc control character that is not kept (TAB/LF/CR
    with keep_spacing), and is left unchanged otherwise.  In particular the function does NOT touch Cf format characters
    (soft hyphen, bidi overrides, BOM, tags): see `escape_leaves_Cf_unchanged`. -/
theorem escape_spec (k : Bool) (cp : Nat) :
    escCp k cp = if isCc cp = true ∧ ¬ (k = true ∧ (cp = 9 ∨ cp = 10 ∨ cp = 13)) then [46] else [cp] := by
  unfold escCp
  split
  · rename_i a b hl
    obtain ⟨l₁, l₂, e, _⟩ := List.lookup_eq_some_iff.mp hl
    obtain ⟨h1, h2⟩ := table_rows (cp, a, b) (by simp [e])
    simp only at h1 h2
    cases k <;> simp [h1, h2]
  · rename_i hl
    have : ¬ cp < 256 := fun h => by simpa [hl] using table_covers cp h
    have : isCc cp = false := by simp [isCc]; omega
    simp [this]

/-- whole strings: the output is the input with exactly the non-kept Cc characters replaced by "." (same length) -/
theorem escapeControl_spec (k : Bool) (s : List Nat) :
    escapeControl k s = s.map (fun cp => if isCc cp = true ∧ ¬ (k = true ∧ (cp = 9 ∨ cp = 10 ∨ cp = 13)) then 46 else cp) := by
  induction s with
  | nil => rfl
  | cons c rest ih =>
    simp only [escapeControl, List.flatMap_cons, List.map_cons] at ih ⊢
    rw [escape_spec, ih]
    split <;> rfl

/-- a Cc character of the escaped text is a TAB, LF or CR that was kept -/
private theorem escaped_cc (k : Bool) (s : List Nat) :
    ∀ c ∈ escapeControl k s, isCc c = true → k = true ∧ (c = 9 ∨ c = 10 ∨ c = 13) := by
  intro c hc hcc
  rw [escapeControl_spec, List.mem_map] at hc
  obtain ⟨cp, _, rfl⟩ := hc
  by_cases h : isCc cp = true ∧ ¬ (k = true ∧ (cp = 9 ∨ cp = 10 ∨ cp = 13))
  · rw [if_pos h] at hcc; exact absurd hcc (by decide)
  · rw [if_neg h] at hcc ⊢
    exact Decidable.not_not.mp fun hn => h ⟨hcc, hn⟩

/-- **C49 (escape function).** For every string, `escape_control_characters(s)` contains no control character
    (Unicode Cc, which includes ESC and the C1 controls) other than TAB, LF and CR. -/
theorem escaped_has_no_Cc_except_tab_lf_cr (s : List Nat) :
    ∀ c ∈ escapeControl true s, c ∈ ccList → (c = 9 ∨ c = 10 ∨ c = 13) :=
  fun c hc hcc => (escaped_cc true s c hc ((isCc_iff_mem_ccList c).2 hcc)).2

/-- with `keep_spacing=False` the result has no control character at all -/
theorem escaped_nokeep_has_no_Cc (s : List Nat) : ∀ c ∈ escapeControl false s, c ∉ ccList :=
  fun c hc hcc => Bool.noConfusion (escaped_cc false s c hc ((isCc_iff_mem_ccList c).2 hcc)).1

/-- code points outside Cc are left unchanged: the model is not the constant "." function -/
theorem escape_keeps_other_characters (k : Bool) (cp : Nat) (h : cp ∉ ccList) : escCp k cp = [cp] := by
  have : isCc cp = false := by
    cases hc : isCc cp with
    | false => rfl
    | true => exact absurd ((isCc_iff_mem_ccList cp).1 hc) h
  simp [escape_spec, this]

private theorem escapeControl_clean (s : List Nat) : Clean (escapeControl true s) := by
  intro c hc
  cases hcc : isCc c with
  | false => simp [allowed, hcc]
  | true => rcases (escaped_cc true s c hc hcc).2 with rfl | rfl | rfl <;> decide

private theorem cf_not_cc : ∀ c ∈ cfListBmp, isCc c = false := by decide +kernel

/-- Cf format characters (BMP list regenerated from unicodedata) are not control characters for this function: they pass
    through unchanged.  The property statement only speaks of control characters (Cc). -/
theorem escape_leaves_Cf_unchanged : ∀ c ∈ cfListBmp, ∀ k : Bool, escCp k c = [c] ∧ isCc c = false := by
  intro c hc k
  have h := cf_not_cc c hc
  exact ⟨by simp [escape_spec, h], h⟩

/-! ### the echo-path table -/

/-- the `pretty` formatter: every `return` of `prettify_message` hands out a clean literal or a text that was escaped in the
    statement before (static scan of contentviews/__init__.py; the auto-fallback branch is one of these returns) -/
theorem prettify_returns_escaped : ∀ r ∈ prettifyReturns,
    (r.2 = "lit" ∧ (r.1.toList.map Char.toNat).all allowed = true) ∨ r.2 = "esc" := by decide +kernel

/-- the only call in dumper.py that writes text to a stream is `print(text, file=self.outfp)` inside `Dumper.echo`
    (static scan of every print / .write / click echo / logging call), so `echoLines` covers every terminal write -/
theorem only_echo_writes : ∀ w ∈ writeSites, w = ("echo", "print(text, file=self.outfp)") := by decide +kernel

/-- **C49 (echo paths).** No piece of any text handed to `Dumper.echo` is a run-time value that skipped the
    escaping helpers (static scan of dumper.py, regenerated every run). -/
theorem every_echo_path_escaped : ∀ p ∈ echoPaths, p.2.2 ≠ Fmt.raw := by decide +kernel

/-- the same, stated on the call-site table -/
theorem no_raw_piece : ∀ l ∈ echoLines, ∀ p ∈ l.2, isRaw p = false := by decide +kernel

/-- the literals of dumper.py that reach `echo` contain no control character themselves -/
theorem literals_clean : ∀ l ∈ echoLines, ∀ p ∈ l.2, litClean p = true := by decide +kernel

/-- the two generated tables agree: every non-literal piece of a call site is listed as an echo path -/
theorem echoPaths_complete : ∀ l ∈ echoLines, ∀ p ∈ l.2, pieceListed l.1 p = true := by decide +kernel

private theorem besc_clean (bs : Bytes) : Clean ((C51.enc false false bs).map (·.toNat)) := by
  intro c hc
  simp only [List.mem_map] at hc
  obtain ⟨b, hb, rfl⟩ := hc
  have := MitmVerif.Props.C51.output_no_control false bs b hb
  simp [allowed, isCc]
  omega

private theorem piece_clean (env : Env) (hint : ∀ o, Clean (env.internal o)) (p : Piece)
    (hraw : isRaw p = false) (hlit : litClean p = true) : Clean (renderPiece env p) := by
  cases p with
  | lit cps =>
    intro c hc
    simp only [litClean, List.all_eq_true] at hlit
    exact hlit c hc
  | field o f =>
    cases f with
    | esc => exact escapeControl_clean _
    | besc => exact besc_clean _
    | pretty => exact escapeControl_clean _
    | internal => exact hint o
    | raw => simp [isRaw] at hraw

/-- **C49 (Dumper).** Whatever the flow contains (`env.text`, `env.bytes` arbitrary), whatever the content view
    computes (`env.view` arbitrary), every line that any `echo` call site of dumper.py may write — pieces in any
    order and multiplicity, indentation, line breaks and the SGR frames added by `style` (ESC shown as a non-control
    sentinel) — contains no control character except TAB, LF and CR.  Hypotheses: the texts mitmproxy generates
    from numbers/enums are clean, the sentinel is not a control character. -/
theorem dumper_output_clean (env : Env) (sentinel : Nat) (hs : isCc sentinel = false)
    (hint : ∀ o, Clean (env.internal o)) :
    ∀ l ∈ echoLines, ∀ out, MayEcho env sentinel l.2 out → Clean out := by
  intro l hl out hmay c hc
  rcases hmay c hc with h | rfl | rfl | h
  · simp only [lineChars, List.mem_flatMap] at h
    obtain ⟨p, hp, hcp⟩ := h
    exact piece_clean env hint p (no_raw_piece l hl p hp) (literals_clean l hl p hp) c hcp
  · decide
  · decide
  · simp only [styleChar, Bool.or_eq_true, beq_iff_eq, Bool.and_eq_true, decide_eq_true_eq] at h
    rcases h with (((rfl | rfl) | rfl) | rfl) | ⟨h1, h2⟩
    · simp [allowed, hs]
    · decide
    · decide
    · decide
    · simp [allowed, isCc]; omega

/-- a raw piece would break the statement: with an unescaped field the attacker's ESC reaches the output
    (this is what the unfixed dumper did for the WebSocket path, close reason, DNS names, addresses) -/
theorem raw_piece_counterexample :
    ∃ env : Env, (∀ o, Clean (env.internal o)) ∧
      MayEcho env 0xE000 [.field "f.request.path" .raw] [0x1b, 0x5b] ∧ ¬ Clean [0x1b, 0x5b] := by
  refine ⟨⟨fun _ => [0x1b, 0x5b], fun _ => [], id, fun _ => []⟩, ?_, ?_, by decide⟩
  · intro o c hc; simp at hc
  · intro c hc; left; simpa [lineChars, renderPiece, fmtApply] using hc

-- non-vacuity / sanity (kernel-computed)
example : escapeControl true [0x1b, 0x5b, 0x9b, 0x85, 0x7f, 9, 10, 13, 0x41, 0x2028, 0xe9] =
    [46, 0x5b, 46, 46, 46, 9, 10, 13, 0x41, 0x2028, 0xe9] := by decide +kernel
example : escapeControl false [9, 10, 13, 0x41] = [46, 46, 46, 0x41] := by decide +kernel
example : echoLines.length ≥ 10 ∧ echoPaths.length ≥ 20 := by decide +kernel
example : (Fmt.esc) ∈ echoPaths.map (·.2.2) ∧ Fmt.besc ∈ echoPaths.map (·.2.2) ∧ Fmt.pretty ∈ echoPaths.map (·.2.2) := by
  decide +kernel
-- hypotheses of dumper_output_clean are satisfiable, and MayEcho admits a non-trivial line
example : ∃ env : Env, (∀ o, Clean (env.internal o)) ∧ isCc 0xE000 = false ∧
    MayEcho env 0xE000 [.lit [0x3a, 0x20], .field "x" .esc] [0xE000, 0x5b, 0x31, 0x6d, 46, 0x3a, 10] := by
  refine ⟨⟨fun _ => [0x1b], fun _ => [], id, fun _ => [0x32]⟩, ?_, by decide, ?_⟩
  · intro o c hc; simp at hc; subst hc; decide
  · intro c hc
    simp at hc
    rcases hc with rfl | rfl | rfl | rfl | rfl | rfl | rfl
    · right; right; right; decide
    · right; right; right; decide
    · right; right; right; decide
    · right; right; right; decide
    · left; decide +kernel
    · left; decide +kernel
    · right; right; left; rfl

-- the generated tables the table theorems quantify over are not empty
example : ccList.length = 65 ∧ cfListBmp.length ≥ 30 ∧ prettifyReturns.length ≥ 2 ∧ writeSites.length = 1 ∧
    ctrlTable.length ≥ 256 := by decide +kernel
-- a real call site of dumper.py carries attacker text through `esc` …
example : ∃ l ∈ echoLines, l.1 = "websocket_end" ∧ Piece.field "f.websocket.close_reason" Fmt.esc ∈ l.2 := by
  decide +kernel
-- … and `dumper_output_clean` applied to that call site with an attacker close reason `ESC ] 0 ; x BEL`, styled:
example :
    let env : Env := ⟨fun _ => [0x1b, 0x5d, 0x30, 0x3b, 0x78, 0x07], fun _ => [], id, fun _ => [0x31, 0x30, 0x30, 0x30]⟩
    let out := [0xE000, 0x5b, 0x31, 0x6d] ++ escapeControl true (env.text "f.websocket.close_reason") ++ [10]
    ∃ l ∈ echoLines, l.1 = "websocket_end" ∧ MayEcho env 0xE000 l.2 out ∧ Clean out ∧ out.length = 11 := by
  intro env out
  have hex : ∃ l ∈ echoLines, l.1 = "websocket_end" ∧ Piece.field "f.websocket.close_reason" Fmt.esc ∈ l.2 := by
    decide +kernel
  obtain ⟨l, hl, hname, hp⟩ := hex
  have hmay : MayEcho env 0xE000 l.2 out := by
    intro c hc
    simp only [out, List.mem_append, List.mem_cons, List.not_mem_nil, or_false] at hc
    rcases hc with ((rfl | rfl | rfl | rfl) | hc) | rfl
    · right; right; right; decide
    · right; right; right; decide
    · right; right; right; decide
    · right; right; right; decide
    · left
      simp only [lineChars, List.mem_flatMap]
      exact ⟨_, hp, by simpa [renderPiece, fmtApply] using hc⟩
    · right; right; left; rfl
  refine ⟨l, hl, hname, hmay, ?_, by decide +kernel⟩
  exact dumper_output_clean env 0xE000 (by decide)
    (by intro o c hc; simp [env] at hc; rcases hc with rfl | rfl <;> decide) l hl _ hmay

end MitmVerif.Props.C49
