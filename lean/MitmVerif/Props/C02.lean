/-
  C02 — independence of TCP segmentation: property theorems about Model/C02.lean, with everything they need (there is no
  lemma module).  One reader: `step_spec` is the only place where `step` is taken apart phase by phase; the loop is reached
  through `drain_unfold` / `drain_induct`; `drain_append` gives `machine_lawful`, and `seg_independent` of Basic/Seg the
  segmentation theorems, for any framing decision `sizeOf`.  Both readers coupled (`Sys`): adjacent events are merged or
  swapped (`client_merge`, `client_early`) until all client bytes come first; `Causal` follows from `Inv` and `Expected`
  (`sysRun_alt`), which also gives the alternation of requests and responses.
-/
import MitmVerif.Model.C02
namespace MitmVerif.Props.C02
open MitmVerif MitmVerif.C01 MitmVerif.C02

/-! ### h11 `maybe_extract_lines` and `maybe_extract_next_line` decide on a prefix -/

/-- `blankAt` looks at no more than three bytes -/
private theorem blankAt_append : ∀ {b : Bytes} (x : Bytes), blankAt b ≠ none ∨ 3 ≤ b.length → blankAt (b ++ x) = blankAt b
  | [], _, h => by simp [blankAt] at h
  | [_], _, h => by simp [blankAt] at h
  | [a, c], x, h => by
    by_cases hac : a = 10 ∧ c = 10
    · simp [blankAt, hac]
    · simp [blankAt, hac] at h
  | _ :: _ :: _ :: _, _, _ => rfl

private theorem blankAt_bounds {b : Bytes} {n : Nat} (h : blankAt b = some n) : 2 ≤ n ∧ n ≤ b.length := by
  revert h
  fun_cases blankAt b
  all_goals rintro ⟨⟩
  all_goals simp

private theorem findBlank_spec : ∀ {b : Bytes} {i : Nat}, findBlank b = some i →
    (2 ≤ i ∧ i ≤ b.length) ∧ ∀ x, findBlank (b ++ x) = some i
  | [], _, h => by cases h
  | c :: rest, i, h => by
    rw [findBlank] at h
    cases hb : blankAt (c :: rest) with
    | some n =>
      rw [hb] at h; cases h
      refine ⟨blankAt_bounds hb, fun x => ?_⟩
      rw [List.cons_append, findBlank, ← List.cons_append, blankAt_append x (.inl (by simp [hb])), hb]
    | none =>
      rw [hb] at h
      cases hr : findBlank rest with
      | none => rw [hr] at h; cases h
      | some j =>
        rw [hr] at h; cases h
        obtain ⟨hj, ih⟩ := findBlank_spec hr
        refine ⟨by simp; omega, fun x => ?_⟩
        rw [List.cons_append, findBlank, ← List.cons_append, blankAt_append x (.inr (by simp; omega)), hb, ih]
        rfl

private theorem extractLines_append : ∀ {b : Bytes} (x : Bytes), extractLines b ≠ .more →
    extractLines (b ++ x) =
      match extractLines b with
      | .more => .more
      | .blank r => .blank (r ++ x)
      | .lines ls r => .lines ls (r ++ x)
  | [], _, h => absurd rfl h
  | [a], x, h => by
    by_cases ha : a = 10
    · simp [extractLines, ha]
    · simp [extractLines, ha, findBlank, blankAt] at h
  | a :: d :: ds, x, h => by
    dsimp only [List.cons_append, extractLines, List.head?_cons, List.tail_cons] at h ⊢
    by_cases ha : a = 10
    · simp only [eq_true ha, ↓reduceIte, List.cons_append]
    · simp only [ha, ↓reduceIte] at h ⊢
      by_cases hb : a = 13 ∧ some d = some 10
      · simp only [eq_true hb, ↓reduceIte]
      · simp only [hb, ↓reduceIte] at h ⊢
        cases hf : findBlank (a :: d :: ds) with
        | none => exact absurd (by rw [hf]) h
        | some idx =>
          obtain ⟨hbd, hfa⟩ := findBlank_spec hf
          have hfx := hfa x
          simp only [List.cons_append] at hfx
          simp only [hfx]
          rw [← List.cons_append, ← List.cons_append, List.take_append_of_le_length hbd.2,
            List.drop_append_of_le_length hbd.2]

theorem extractLines_blank_append {b r : Bytes} (x : Bytes) (h : extractLines b = .blank r) :
    extractLines (b ++ x) = .blank (r ++ x) := by
  rw [extractLines_append x (by simp [h]), h]

theorem extractLines_lines_append {b r : Bytes} {ls : List Bytes} (x : Bytes) (h : extractLines b = .lines ls r) :
    extractLines (b ++ x) = .lines ls (r ++ x) := by
  rw [extractLines_append x (by simp [h]), h]

private theorem extractLines_rest_lt : ∀ b : Bytes,
    match extractLines b with
    | .more => True
    | .blank r | .lines _ r => r.length < b.length
  | [] => trivial
  | a :: rest => by
    dsimp only [extractLines]
    by_cases ha : a = 10
    · rw [if_pos ha]
      exact Nat.lt_succ_self _
    · rw [if_neg ha]
      by_cases hb : a = 13 ∧ rest.head? = some 10
      · rw [if_pos hb]
        cases rest with
        | nil => exact Nat.lt_succ_self _
        | cons d ds => exact Nat.lt_succ_of_lt (Nat.lt_succ_self _)
      · rw [if_neg hb]
        cases hf : findBlank (a :: rest) with
        | none => trivial
        | some idx =>
          have hbd := (findBlank_spec hf).1
          dsimp only
          rw [List.length_drop]
          omega

private theorem findCrlf_spec : ∀ {b : Bytes} {i : Nat}, findCrlf b = some i →
    (2 ≤ i ∧ i ≤ b.length) ∧ ∀ x, findCrlf (b ++ x) = some i
  | [], _, h => by cases h
  | [_], _, h => by cases h
  | a :: c :: rest, i, h => by
    dsimp only [List.cons_append, findCrlf] at h ⊢
    split at h
    · rename_i hc
      cases h
      simp [hc]
    · rename_i hc
      cases hr : findCrlf (c :: rest) with
      | none => rw [hr] at h; cases h
      | some j =>
        rw [hr] at h; cases h
        obtain ⟨hj, ih⟩ := findCrlf_spec hr
        refine ⟨by simp at hj ⊢; omega, fun x => ?_⟩
        rw [if_neg hc, ← List.cons_append, ih]
        rfl

/-! ### one step: it consumes input, and what it did stays valid when more bytes follow -/

variable (sizeOf : List Bytes → Option Size)

theorem step_nil (p : Phase) : step sizeOf p [] = none := by
  cases p <;> rfl

private theorem take_drop_append {b : Bytes} {m : Nat} (x : Bytes) (h : b.length ≤ m) :
    (b ++ x).take (m + 1) = b ++ x.take (m - b.length + 1) ∧ (b ++ x).drop (m + 1) = x.drop (m - b.length + 1) := by
  have e : m + 1 - b.length = m - b.length + 1 := by omega
  rw [List.take_append, List.drop_append, List.take_of_length_le (by omega), List.drop_of_length_le (by omega), e]
  exact ⟨rfl, rfl⟩

/-- The definition of `step` read once, phase by phase.  A step consumes input.  A message comes alone and leads to `wait`,
    and nothing else leads there.  And what the step did stays valid when more bytes `y :: ys` follow: the same step happens
    on the longer buffer and the new bytes join the rest; or the step failed the message, and everything buffered is dropped;
    or the step took all there was of a body that is not complete yet, and on the longer buffer it goes on into the new bytes. -/
private theorem step_spec {p p' : Phase} {b r : Bytes} {o : List Out} (y : UInt8) (ys : Bytes)
    (h : step sizeOf p b = some (o, p', r)) :
    r.length < b.length ∧ o.countP isMsg = (if p' = .wait then 1 else 0) ∧
    ∃ t, step sizeOf p (b ++ y :: ys) = some t ∧
      (t = (o, p', r ++ y :: ys) ∨ (p' = .closed ∧ r = [] ∧ t = (o, .closed, [])) ∨
       (o = [] ∧ r = [] ∧ step sizeOf p' (y :: ys) = some t)) := by
  have hpos : 0 < b.length := by
    cases b with
    | nil => rw [step_nil] at h; cases h
    | cons _ _ => exact Nat.succ_pos _
  have hb : b.isEmpty = false := by
    cases b with
    | nil => cases hpos
    | cons _ _ => rfl
  have hne : (b ++ y :: ys).isEmpty = false := by cases b <;> rfl
  cases p with
  | head =>
    dsimp only [step] at h ⊢
    have hl := extractLines_rest_lt b
    cases he : extractLines b with
    | more => simp only [he] at h; cases h
    | blank rest =>
      simp only [he] at h hl; cases h
      exact ⟨hl, rfl, _, by rw [extractLines_blank_append _ he], .inl rfl⟩
    | lines ls rest =>
      simp only [he] at h hl
      rw [extractLines_lines_append _ he]
      split at h <;> cases h <;> exact ⟨hl, rfl, _, by simp only [*], .inl rfl⟩
  | chunkTrailer acc hd =>
    dsimp only [step] at h ⊢
    have hl := extractLines_rest_lt b
    cases he : extractLines b with
    | more => simp only [he] at h; cases h
    | blank rest =>
      simp only [he] at h hl; cases h
      exact ⟨hl, rfl, _, by rw [extractLines_blank_append _ he], .inl rfl⟩
    | lines ls rest =>
      simp only [he] at h; cases h
      exact ⟨hpos, rfl, _, by rw [extractLines_lines_append _ he], .inr (.inl ⟨rfl, rfl, rfl⟩)⟩
  | cl m acc hd | chunkData m acc hd =>
    dsimp only [step] at h
    rw [hb, if_neg Bool.false_ne_true] at h
    split at h
    · rename_i hle
      cases h
      refine ⟨by rw [List.length_drop]; omega, rfl, _, ?_, .inl rfl⟩
      simp only [step, hne, Bool.false_eq_true, ↓reduceIte]
      rw [if_pos (by rw [List.length_append]; omega), List.take_append_of_le_length hle,
        List.drop_append_of_le_length hle]
    · rename_i hgt
      cases h
      refine ⟨hpos, rfl, ?_⟩
      obtain ⟨e1, e2⟩ := take_drop_append (y :: ys) (Nat.le_of_lt_succ (Nat.lt_of_not_le hgt))
      simp only [step, hne, List.isEmpty_cons, Bool.false_eq_true, ↓reduceIte, List.length_append]
      by_cases hc : m + 1 ≤ b.length + (y :: ys).length
      · exact ⟨_, if_pos hc, .inr (.inr ⟨trivial, trivial, by rw [if_pos (by omega), e1, e2, List.append_assoc]⟩)⟩
      · exact ⟨_, if_neg hc, .inr (.inr ⟨trivial, trivial, by rw [if_neg (by omega), Nat.sub_add_eq, List.append_assoc]⟩)⟩
  | untilEof acc hd =>
    dsimp only [step] at h
    rw [hb, if_neg Bool.false_ne_true] at h
    cases h
    refine ⟨hpos, rfl, ?_⟩
    simp only [step, hne, List.isEmpty_cons, Bool.false_eq_true, ↓reduceIte, List.append_assoc]
    exact ⟨_, rfl, .inr (.inr ⟨trivial, trivial, rfl⟩)⟩
  | closed =>
    dsimp only [step] at h
    rw [hb, if_neg Bool.false_ne_true] at h
    cases h
    exact ⟨hpos, rfl, _, by simp only [step, hne, Bool.false_eq_true, ↓reduceIte], .inr (.inl ⟨rfl, rfl, rfl⟩)⟩
  | chunkSize acc hd =>
    dsimp only [step] at h ⊢
    cases hf : findCrlf b with
    | none => simp only [hf] at h; cases h
    | some idx =>
      obtain ⟨hb, hfa⟩ := findCrlf_spec hf
      simp only [hf] at h
      simp only [hfa]
      rw [List.take_append_of_le_length (by omega), List.drop_append_of_le_length hb.2]
      have hl : (b.drop idx).length < b.length := by rw [List.length_drop]; omega
      split at h <;> cases h
      · exact ⟨hpos, rfl, _, by simp only [*], .inr (.inl ⟨rfl, rfl, rfl⟩)⟩
      · exact ⟨hl, rfl, _, by simp only [*], .inl rfl⟩
      · exact ⟨hl, rfl, _, by simp only [*], .inl rfl⟩
  | chunkDiscard e es acc hd =>
    cases b with
    | nil => cases hpos
    | cons c rest =>
      dsimp only [List.cons_append, step] at h ⊢
      split at h
      · rename_i hce
        cases h
        exact ⟨hpos, rfl, _, if_pos hce, .inr (.inl ⟨rfl, rfl, rfl⟩)⟩
      · rename_i hce
        rw [if_neg hce]
        split at h <;> cases h <;> exact ⟨Nat.lt_succ_self _, rfl, _, rfl, .inl rfl⟩
  | wait => simp [step] at h

theorem step_len {p p' : Phase} {b r : Bytes} {o : List Out} (h : step sizeOf p b = some (o, p', r)) :
    r.length < b.length :=
  (step_spec sizeOf 0 [] h).1

private theorem drainF_nil (f : Nat) (p : Phase) : drainF sizeOf f p [] = ([], p, []) := by
  cases f <;> simp [drainF, step_nil]

private theorem drainF_fuel (f g : Nat) (p : Phase) (b : Bytes) (hf : b.length ≤ f) (hg : b.length ≤ g) :
    drainF sizeOf f p b = drainF sizeOf g p b := by
  induction f generalizing g p b with
  | zero =>
    obtain rfl := List.eq_nil_of_length_eq_zero (Nat.le_zero.mp hf)
    rw [drainF_nil, drainF_nil]
  | succ f ih =>
    cases g with
    | zero =>
      obtain rfl := List.eq_nil_of_length_eq_zero (Nat.le_zero.mp hg)
      rw [drainF_nil, drainF_nil]
    | succ g =>
      dsimp only [drainF]
      cases hs : step sizeOf p b with
      | none => rfl
      | some t =>
        obtain ⟨o, p', r⟩ := t
        have := step_len sizeOf hs
        dsimp only
        rw [ih g p' r (by omega) (by omega)]

theorem drain_unfold (p : Phase) (b : Bytes) :
    drain sizeOf p b =
      match step sizeOf p b with
      | none => ([], p, b)
      | some (o, p', r) => (o ++ (drain sizeOf p' r).1, (drain sizeOf p' r).2.1, (drain sizeOf p' r).2.2) := by
  unfold drain
  cases b with
  | nil => rw [step_nil]; exact drainF_nil sizeOf _ p
  | cons c rest =>
    dsimp only [List.length_cons, drainF]
    cases hs : step sizeOf p (c :: rest) with
    | none => rfl
    | some t =>
      obtain ⟨o, p', r⟩ := t
      have := step_len sizeOf hs
      simp only
      rw [drainF_fuel sizeOf rest.length r.length p' r (by simp at this; omega) (Nat.le_refl _)]

/-- induction along the loop: every iteration works on a shorter buffer -/
private theorem drain_induct {motive : Phase → Bytes → Prop}
    (iter : ∀ p b, (∀ o p' r, step sizeOf p b = some (o, p', r) → motive p' r) → motive p b) (p : Phase) (b : Bytes) :
    motive p b := by
  induction h : b.length using Nat.strongRecOn generalizing p b with
  | _ n ih => exact iter p b fun o p' r hs => ih r.length (h ▸ step_len sizeOf hs) p' r rfl

theorem drain_closed (x : Bytes) : drain sizeOf .closed x = ([], .closed, []) := by
  rw [drain_unfold]
  cases x with
  | nil => rfl
  | cons c cs => simp only [step, List.isEmpty_cons, Bool.false_eq_true, ↓reduceIte]; rw [drain_unfold]; rfl

/-! ### the loop on a buffer that grows: `drain_append`, which is the law `Lawful` asks of `feed` -/

/-- at the level of the loop the three alternatives of `step_spec` come to the same: the step's outputs, then the loop from
    the step's result with the new bytes appended -/
private theorem step_extend {p p' : Phase} {b r : Bytes} {o : List Out} (x : Bytes)
    (h : step sizeOf p b = some (o, p', r)) :
    drain sizeOf p (b ++ x) =
      (o ++ (drain sizeOf p' (r ++ x)).1, (drain sizeOf p' (r ++ x)).2.1, (drain sizeOf p' (r ++ x)).2.2) := by
  cases x with
  | nil => rw [List.append_nil, List.append_nil, drain_unfold, h]
  | cons y ys =>
    obtain ⟨t, ht, rfl | ⟨rfl, rfl, rfl⟩ | ⟨rfl, rfl, hs⟩⟩ := (step_spec sizeOf y ys h).2.2
    · rw [drain_unfold, ht]
    · rw [drain_unfold, ht]
      simp only [drain_closed]
    · rw [drain_unfold, ht]
      simp only [List.nil_append]
      rw [drain_unfold sizeOf p' (y :: ys), hs]

theorem drain_append : ∀ (n : Nat) (p : Phase) (b x : Bytes), b.length ≤ n →
    drain sizeOf p (b ++ x) =
      ((drain sizeOf p b).1 ++ (drain sizeOf (drain sizeOf p b).2.1 ((drain sizeOf p b).2.2 ++ x)).1,
       (drain sizeOf (drain sizeOf p b).2.1 ((drain sizeOf p b).2.2 ++ x)).2.1,
       (drain sizeOf (drain sizeOf p b).2.1 ((drain sizeOf p b).2.2 ++ x)).2.2) := by
  rintro - p b x -
  induction p, b using drain_induct sizeOf with
  | _ p b ih =>
    rw [drain_unfold sizeOf p b]
    cases hs : step sizeOf p b with
    | none => rfl
    | some t =>
      obtain ⟨o, p', r⟩ := t
      rw [step_extend sizeOf x hs, ih o p' r hs, List.append_assoc]

/-- the read machine is a lawful incremental consumer (Basic/Seg), for every framing decision `sizeOf` -/
theorem machine_lawful : (machine sizeOf).Lawful := by
  refine ⟨fun s => rfl, fun s a b => ?_⟩
  cases a with
  | nil => rfl
  | cons a₀ as =>
    cases b with
    | nil => simp [machine, feed]
    | cons b₀ bs =>
      simp only [machine, feed, List.cons_append, List.isEmpty_cons, Bool.false_eq_true, ↓reduceIte]
      rw [← List.cons_append, ← List.append_assoc,
        drain_append sizeOf _ s.phase (s.buf ++ a₀ :: as) (b₀ :: bs) (Nat.le_refl _)]

/-- `sizeOf` is a parameter (`requestSize`, `responseSize m`, `handshakeSize`): every segmentation of a
    byte stream into non-empty or empty segments yields the same messages, rejections and final state as whole-stream delivery. -/
theorem h1_seg_independent (s : St) (segs : List Bytes) :
    (machine sizeOf).feedAll s segs = (machine sizeOf).feed s segs.flatten :=
  Incremental.seg_independent _ (machine_lawful sizeOf) s segs

theorem h1_seg_independent' (s : St) (a b : List Bytes) (h : a.flatten = b.flatten) :
    (machine sizeOf).feedAll s a = (machine sizeOf).feedAll s b :=
  Incremental.seg_independent' _ (machine_lawful sizeOf) s a b h

/-- bytes that arrive while the flow is not finished (`wait`) are only buffered: arrival time relative to the
    response does not matter (client bytes commute with `release`) -/
theorem wait_buffers (buf data : Bytes) :
    feed sizeOf ⟨.wait, buf⟩ data = (⟨.wait, buf ++ data⟩, []) := by
  unfold feed
  split
  · rename_i h; simp at h; subst h; simp
  · rw [drain_unfold]; simp [step]

private theorem release_feed (buf d : Bytes) :
    release sizeOf ⟨.wait, buf ++ d⟩ =
      ((feed sizeOf (release sizeOf ⟨.wait, buf⟩).1 d).1,
       (release sizeOf ⟨.wait, buf⟩).2 ++ (feed sizeOf (release sizeOf ⟨.wait, buf⟩).1 d).2) := by
  cases d with
  | nil => simp [feed]
  | cons y ys =>
    simp only [release, feed, List.isEmpty_cons, Bool.false_eq_true, ↓reduceIte]
    rw [drain_append sizeOf buf.length .head buf (y :: ys) (Nat.le_refl _)]

/-- data that arrives during `wait` and is released afterwards gives the same result as
    releasing first and receiving the data afterwards — the next request is read from the same bytes either way -/
theorem pipelined_in_order (buf data : Bytes) (hd : data ≠ []) :
    release sizeOf (feed sizeOf ⟨.wait, buf⟩ data).1 =
      ((feed sizeOf (release sizeOf ⟨.wait, buf⟩).1 data).1,
       (release sizeOf ⟨.wait, buf⟩).2 ++ (feed sizeOf (release sizeOf ⟨.wait, buf⟩).1 data).2) := by
  rw [wait_buffers]
  exact release_feed sizeOf buf data

/-- the parent proxy's CONNECT reply (`receive_handshake_data`) is read by the same lawful
    machine: every segmentation of the reply — also one whose first segment is shorter than "HTTP/" — gives the same verdict
    (tunnel open / refused) and leaves the same bytes for the tunnel as whole delivery -/
theorem handshake_seg_independent (s : St) (segs : List Bytes) :
    (machine handshakeSize).feedAll s segs = (machine handshakeSize).feed s segs.flatten :=
  h1_seg_independent handshakeSize s segs

/-- "HTTP/1.1 200 OK\r\n\r\n" -/
def connectReply : Bytes := [72,84,84,80,47,49,46,49,32,50,48,48,32,79,75,13,10,13,10]
example : (feed handshakeSize ⟨.head, []⟩ connectReply).2 = [.msg [[72,84,84,80,47,49,46,49,32,50,48,48,32,79,75]] []] := by decide +kernel
example : ((machine handshakeSize).feedAll ⟨.head, []⟩ [connectReply.take 2, connectReply.drop 2]).2 =
    (feed handshakeSize ⟨.head, []⟩ connectReply).2 := by
  rw [handshake_seg_independent]; rfl
example : ((machine handshakeSize).feedAll ⟨.head, []⟩ (([13, 10] ++ connectReply).map fun c => [c])).2 =
    (feed handshakeSize ⟨.head, []⟩ ([13, 10] ++ connectReply)).2 := by
  rw [handshake_seg_independent]; rfl
/-- a 407 is a refusal -/
example : (feed handshakeSize ⟨.head, []⟩ [72,84,84,80,47,49,46,49,32,52,48,55,32,78,13,10,13,10]).2 =
    [.reject [[72,84,84,80,47,49,46,49,32,52,48,55,32,78]]] := by decide +kernel

variable (sizeQ sizeR : List Bytes → Option Size)

private theorem hasMsg_append (a b : List Out) : hasMsg (a ++ b) = (hasMsg a || hasMsg b) := by
  simp [hasMsg, List.any_append]

private theorem expect_idem (c : St) : expect (expect c) = expect c := by
  unfold expect
  cases h : c.phase <;> simp [h]

private theorem expect_if (a b : Bool) (c : St) :
    cond b (expect (cond a (expect c) c)) (cond a (expect c) c) = cond (a || b) (expect c) c := by
  cases a <;> cases b <;> simp [expect_idem]

private theorem feed_append (s : St) (a b : Bytes) :
    feed sizeQ s (a ++ b) = ((feed sizeQ (feed sizeQ s a).1 b).1, (feed sizeQ s a).2 ++ (feed sizeQ (feed sizeQ s a).1 b).2) :=
  (machine_lawful sizeQ).2 s a b

/-- two client segments in a row are one client segment -/
theorem client_merge (σ : Sys) (a b : Bytes) (rest : List Ev) :
    sysRun sizeQ sizeR σ (.client a :: .client b :: rest) = sysRun sizeQ sizeR σ (.client (a ++ b) :: rest) := by
  simp only [sysRun, sysStep]
  rw [feed_append sizeQ σ.s a b]
  simp only [hasMsg_append, List.map_append, List.append_assoc, expect_if]

/-- while a request is outstanding (the reader of the client stream waits), a client segment that arrives
    after a server segment may as well arrive before it: same final state, same outputs in the same order -/
theorem client_early (σ : Sys) (hw : σ.s.phase = .wait) (e d : Bytes) (rest : List Ev) :
    sysRun sizeQ sizeR σ (.server e :: .client d :: rest) = sysRun sizeQ sizeR σ (.client d :: .server e :: rest) := by
  obtain ⟨⟨ph, buf⟩, c⟩ := σ
  simp only at hw; subst hw
  simp only [sysRun, sysStep, wait_buffers]
  have hm0 : hasMsg ([] : List Out) = false := rfl
  simp only [hm0, cond_false, List.map_nil, List.nil_append]
  cases hm : hasMsg (feed sizeR c e).2
  · simp only [cond_false, wait_buffers, hm0, List.map_nil, List.nil_append]
  · simp only [cond_true]
    rw [release_feed sizeQ buf d]
    simp only [hasMsg_append, List.map_append, List.append_assoc, expect_if]

private theorem sysRun_cons {σ : Sys} {ev : Ev} {a b : List Ev}
    (h : sysRun sizeQ sizeR (sysStep sizeQ sizeR σ ev).1 a = sysRun sizeQ sizeR (sysStep sizeQ sizeR σ ev).1 b) :
    sysRun sizeQ sizeR σ (ev :: a) = sysRun sizeQ sizeR σ (ev :: b) := by
  simp only [sysRun, h]

/-- every causal interleaving of client segments and server segments has the same outcome
    (final state of both readers, and the sequence of forwarded requests and relayed responses) as delivering ALL client
    bytes first, in one segment, followed by the same server segments -/
theorem merged_schedule_normal_form : ∀ (evs : List Ev) (σ : Sys), Causal sizeQ sizeR σ evs →
    sysRun sizeQ sizeR σ evs = sysRun sizeQ sizeR σ (.client (clientBytes evs) :: serverEvs evs)
  | [], σ, _ => by
    simp [sysRun, sysStep, clientBytes, serverEvs, feed, hasMsg]
  | .client d :: rest, σ, h => by
    rw [sysRun_cons sizeQ sizeR (merged_schedule_normal_form rest _ h), client_merge]
    rfl
  | .server e :: rest, σ, h => by
    rw [sysRun_cons sizeQ sizeR (merged_schedule_normal_form rest _ h.2), client_early sizeQ sizeR σ h.1]
    rfl

/-- two causal schedules that carry the same client byte stream and the same sequence of
    server segments have the same outcome, however the two streams are interleaved and however the client stream is cut -/
theorem merged_schedule_independent (σ : Sys) (a b : List Ev)
    (ha : Causal sizeQ sizeR σ a) (hb : Causal sizeQ sizeR σ b)
    (hc : clientBytes a = clientBytes b) (hs : serverEvs a = serverEvs b) :
    sysRun sizeQ sizeR σ a = sysRun sizeQ sizeR σ b := by
  rw [merged_schedule_normal_form sizeQ sizeR a σ ha, merged_schedule_normal_form sizeQ sizeR b σ hb, hc, hs]

/-- two server segments in a row, the first of which does not complete the response, are one server segment: together with
    `merged_schedule_independent` the outcome depends only on the client byte stream and on the byte string of each response -/
theorem server_merge (σ : Sys) (a b : Bytes) (rest : List Ev) (hn : hasMsg (feed sizeR σ.c a).2 = false) :
    sysRun sizeQ sizeR σ (.server a :: .server b :: rest) = sysRun sizeQ sizeR σ (.server (a ++ b) :: rest) := by
  simp only [sysRun, sysStep, hn, cond_false]
  rw [feed_append sizeR σ.c a b]
  simp only [hasMsg_append, hn, Bool.false_or, List.map_append, List.append_assoc]
  cases hm : hasMsg (feed sizeR (feed sizeR σ.c a).1 b).2 <;> simp

/-! ### `Causal` is derived, and pipelined requests are answered in order -/

private theorem hasMsg_count (o : List Out) : hasMsg o = decide (0 < o.countP isMsg) := by
  have : hasMsg o = o.any isMsg := by simp only [hasMsg]; congr 1
  rw [this, Bool.eq_iff_iff]
  simp [List.countP_pos_iff]

private theorem drain_count (sizeOf : List Bytes → Option Size) (p : Phase) (b : Bytes) (hp : p ≠ .wait) :
    (drain sizeOf p b).1.countP isMsg = if (drain sizeOf p b).2.1 = .wait then 1 else 0 := by
  induction p, b using drain_induct sizeOf with
  | _ p b ih =>
    rw [drain_unfold]
    cases hs : step sizeOf p b with
    | none => simp [hp]
    | some t =>
      obtain ⟨o, p', r⟩ := t
      have ho := (step_spec sizeOf 0 [] hs).2.1
      by_cases hw : p' = .wait
      · subst hw
        simp [drain_unfold sizeOf .wait r, step, ho]
      · simp [List.countP_append, ho, hw, ih o p' r hs hw]

private theorem feed_count (sizeOf : List Bytes → Option Size) (s : St) (d : Bytes) (hs : s.phase ≠ .wait) :
    (feed sizeOf s d).2.countP isMsg = if (feed sizeOf s d).1.phase = .wait then 1 else 0 := by
  unfold feed
  split
  · simp
  · exact drain_count sizeOf s.phase _ hs

private theorem release_count (sizeOf : List Bytes → Option Size) (buf : Bytes) :
    (release sizeOf ⟨.wait, buf⟩).2.countP isMsg = if (release sizeOf ⟨.wait, buf⟩).1.phase = .wait then 1 else 0 :=
  drain_count sizeOf .head buf nofun

private theorem msgsOf_append (a b : List SysOut) : msgsOf (a ++ b) = msgsOf a ++ msgsOf b := by
  induction a with
  | nil => rfl
  | cons x xs ih => cases x <;> simp only [List.cons_append, msgsOf, ih] <;> split <;> simp

private theorem msgsOf_map (o : List Out) :
    msgsOf (o.map .request) = List.replicate (o.countP isMsg) true ∧
    msgsOf (o.map .response) = List.replicate (o.countP isMsg) false := by
  induction o with
  | nil => exact ⟨rfl, rfl⟩
  | cons x xs ih =>
    simp only [List.map_cons, msgsOf, ih, List.countP_cons]
    cases isMsg x <;> simp [List.replicate_succ]

private theorem altEnd_append : ∀ (a b : List Bool) (t t' : Bool), altEnd t a = some t' → altEnd t (a ++ b) = altEnd t' b
  | [], b, t, t', h => by simp [altEnd] at h; subst h; rfl
  | x :: xs, b, t, t', h => by
    dsimp only [altEnd] at h
    dsimp only [List.cons_append, altEnd]
    split at h
    · rename_i hx; simp only [hx, ↓reduceIte]; exact altEnd_append xs b _ _ h
    · simp at h

/-- "the next completed message will be a request" = the upstream reader is idle -/
def idle (σ : Sys) : Bool := decide (σ.c.phase = .wait)

private theorem expect_not_wait (c : St) : (expect c).phase ≠ .wait := by
  unfold expect
  cases h : c.phase <;> simp [h]

private theorem sysStep_alt (σ : Sys) (ev : Ev) (hi : Inv σ) (he : ∀ e, ev = .server e → σ.c.phase ≠ .wait) :
    Inv (sysStep sizeQ sizeR σ ev).1 ∧
    altEnd (idle σ) (msgsOf (sysStep sizeQ sizeR σ ev).2) = some (idle (sysStep sizeQ sizeR σ ev).1) := by
  obtain ⟨s, c⟩ := σ
  cases ev with
  | client d =>
    simp only [sysStep, msgsOf_map, hasMsg_count]
    by_cases hw : s.phase = .wait
    · -- the segment is only buffered
      obtain ⟨ph, buf⟩ := s
      cases hw
      rw [wait_buffers]
      exact ⟨fun _ => rfl, rfl⟩
    · -- no request is outstanding, so by `Inv` the upstream reader is idle; a completed request makes it expect a head
      have hcw : c.phase = .wait := Decidable.byContradiction fun hc => hw (hi hc)
      rw [feed_count sizeQ s d hw]
      by_cases hf : (feed sizeQ s d).1.phase = .wait
      · simp [hf, C02.Inv, altEnd, idle, hcw, expect_not_wait]
      · simp [hf, C02.Inv, altEnd, idle, hcw]
  | server e =>
    -- a response is outstanding, so by `Inv` the client-side reader waits; a completed response releases it
    have hcn := he e rfl
    obtain ⟨ph, buf⟩ := s
    cases hi hcn
    have hfc := feed_count sizeR c e hcn
    have hrc := release_count sizeQ buf
    simp only [sysStep, hasMsg_count]
    by_cases hf : (feed sizeR c e).1.phase = .wait
    · by_cases hq : (release sizeQ ⟨.wait, buf⟩).1.phase = .wait
      · simp [hfc, hrc, hf, hq, msgsOf_append, msgsOf_map, C02.Inv, altEnd, idle, hcn, expect_not_wait]
      · simp [hfc, hrc, hf, hq, msgsOf_append, msgsOf_map, C02.Inv, altEnd, idle, hcn]
    · simp [hfc, hf, msgsOf_map, C02.Inv, altEnd, idle, hcn]

/-- A run the origin takes part in only when asked (`Expected`), from a state with `Inv`: every step meets the
    hypotheses of `sysStep_alt`, so the schedule is causal and the completed messages alternate. -/
private theorem sysRun_alt : ∀ (evs : List Ev) (σ : Sys), Inv σ → Expected sizeQ sizeR σ evs →
    Causal sizeQ sizeR σ evs ∧
    altEnd (idle σ) (msgsOf (sysRun sizeQ sizeR σ evs).2) = some (idle (sysRun sizeQ sizeR σ evs).1)
  | [], _, _, _ => ⟨trivial, rfl⟩
  | ev :: rest, σ, hi, he => by
    have hev : ∀ e, ev = .server e → σ.c.phase ≠ .wait := by
      rintro e rfl
      exact he.1
    obtain ⟨hi', ha⟩ := sysStep_alt sizeQ sizeR σ ev hi hev
    have hrest : Expected sizeQ sizeR (sysStep sizeQ sizeR σ ev).1 rest := by
      cases ev with
      | client d => exact he
      | server e => exact he.2
    obtain ⟨hc, ih⟩ := sysRun_alt rest _ hi' hrest
    refine ⟨?_, by rw [sysRun, msgsOf_append, altEnd_append _ _ _ _ ha, ih]⟩
    cases ev with
    | client d => exact hc
    | server e => exact ⟨hi (hev e rfl), hc⟩

/-- `Causal` need not be assumed — it follows from the invariant `Inv` (which holds initially and is
    preserved) and the environment's side of causality alone: the origin sends only while a request of it is unanswered -/
theorem causal_of_expected : ∀ (evs : List Ev) (σ : Sys), Inv σ → Expected sizeQ sizeR σ evs → Causal sizeQ sizeR σ evs :=
  fun evs σ hi he => (sysRun_alt sizeQ sizeR evs σ hi he).1

theorem inv_initial : Inv ⟨⟨.head, []⟩, ⟨.wait, []⟩⟩ := fun h => absurd rfl h

/-- `expect` leaves a reader that is not in `wait` unchanged — a silent default.
    Under `Inv` that branch is never taken: at both places where `sysStep` applies `expect`, the upstream reader IS in `wait`
    — when a segment of the client completes a request (otherwise the client-side reader would be waiting and complete
    nothing), and when a released pipelined request follows a completed response (a reader that has just completed a message is
    in `wait`). -/
theorem expect_only_when_idle (σ : Sys) (hi : Inv σ) :
    (∀ d, hasMsg (feed sizeQ σ.s d).2 = true → σ.c.phase = .wait) ∧
    (∀ e, hasMsg (feed sizeR σ.c e).2 = true → (feed sizeR σ.c e).1.phase = .wait) := by
  constructor
  · intro d hm
    by_cases h : σ.c.phase = .wait
    · exact h
    · have hw := hi h
      obtain ⟨⟨p, buf⟩, c⟩ := σ
      simp only at hw; subst hw
      rw [wait_buffers] at hm
      simp [hasMsg] at hm
  · intro e hm
    by_cases h : σ.c.phase = .wait
    · obtain ⟨s, ⟨p, buf⟩⟩ := σ
      cases h
      rw [wait_buffers] at hm
      cases hm
    · rw [hasMsg_count, feed_count sizeR σ.c e h] at hm
      by_cases hf : (feed sizeR σ.c e).1.phase = .wait
      · exact hf
      · rw [if_neg hf] at hm
        cases hm

/-- "pipelined requests are answered in order, each response matched to its own request" — in every run
    the completed messages alternate request, response, request, response …: the k-th relayed response comes after the k-th
    forwarded request and before the (k+1)-th, whatever the segmentation and interleaving -/
theorem answered_in_order : ∀ (evs : List Ev) (σ : Sys), Inv σ → Expected sizeQ sizeR σ evs →
    altEnd (idle σ) (msgsOf (sysRun sizeQ sizeR σ evs).2) = some (idle (sysRun sizeQ sizeR σ evs).1) :=
  fun evs σ hi he => (sysRun_alt sizeQ sizeR evs σ hi he).2

/-- merged schedules without assuming `Causal` -/
theorem merged_schedule_independent' (σ : Sys) (a b : List Ev) (hi : Inv σ)
    (ha : Expected sizeQ sizeR σ a) (hb : Expected sizeQ sizeR σ b)
    (hc : clientBytes a = clientBytes b) (hs : serverEvs a = serverEvs b) :
    sysRun sizeQ sizeR σ a = sysRun sizeQ sizeR σ b :=
  merged_schedule_independent sizeQ sizeR σ a b (causal_of_expected sizeQ sizeR a σ hi ha)
    (causal_of_expected sizeQ sizeR b σ hi hb) hc hs

/-- non-vacuity: a pipelined client stream and two responses, interleaved causally in two different ways -/
example :
    let σ : Sys := ⟨⟨.head, []⟩, ⟨.wait, []⟩⟩
    let q1 : Bytes := [71, 32, 47, 32, 72, 84, 84, 80, 47, 49, 46, 49, 13, 10, 13, 10]           -- "G / HTTP/1.1\r\n\r\n"
    let r1 : Bytes := [72, 84, 84, 80, 47, 49, 46, 49, 32, 50, 48, 52, 32, 78, 13, 10, 13, 10]   -- "HTTP/1.1 204 N\r\n\r\n"
    (sysRun requestSize (responseSize [71]) σ [.client q1, .server (r1.take 5), .client q1, .server (r1.drop 5), .server r1]).2 =
      (sysRun requestSize (responseSize [71]) σ [.client (q1 ++ q1), .server (r1.take 5), .server (r1.drop 5), .server r1]).2 := by
  decide +kernel

/-! ### F-C02a: the machine before the fix is *not* segmentation independent -/

/-- "\r\nGET / HTTP/1.1\r\n\r\n" -/
def witness : Bytes := [13, 10, 71, 69, 84, 32, 47, 32, 72, 84, 84, 80, 47, 49, 46, 49, 13, 10, 13, 10]

theorem old_machine_counterexample :
    (feedOld requestSize ⟨.head, []⟩ witness).2 ≠
      (feedOld requestSize ⟨.head, []⟩ (witness.take 2)).2 ++
        (feedOld requestSize (feedOld requestSize ⟨.head, []⟩ (witness.take 2)).1 (witness.drop 2)).2 := by
  decide +kernel

/-- the same stream through the fixed machine: served whole or split -/
example : (feed requestSize ⟨.head, []⟩ witness).2 =
    [.msg [[71, 69, 84, 32, 47, 32, 72, 84, 84, 80, 47, 49, 46, 49]] []] := by decide +kernel
example : ((machine requestSize).feedAll ⟨.head, []⟩ [witness.take 2, witness.drop 2]).2 =
    (feed requestSize ⟨.head, []⟩ witness).2 := by
  rw [h1_seg_independent]; rfl
/-! chunked bodies: whole, byte by byte, and the protocol errors -/
/-- "POST / HTTP/1.1\r\nTransfer-Encoding: chunked\r\n\r\n3;x\r\nabc\r\n0\r\n\r\n" -/
def chunkedWitness : Bytes :=
  [80,79,83,84,32,47,32,72,84,84,80,47,49,46,49,13,10] ++
  [84,114,97,110,115,102,101,114,45,69,110,99,111,100,105,110,103,58,32,99,104,117,110,107,101,100,13,10,13,10] ++
  [51,59,120,13,10,97,98,99,13,10,48,13,10,13,10]

example : (feed requestSize ⟨.head, []⟩ chunkedWitness).2 =
    [.msg [[80,79,83,84,32,47,32,72,84,84,80,47,49,46,49],
           [84,114,97,110,115,102,101,114,45,69,110,99,111,100,105,110,103,58,32,99,104,117,110,107,101,100]] [97,98,99]] := by
  decide +kernel
example : ((machine requestSize).feedAll ⟨.head, []⟩ (chunkedWitness.map fun c => [c])).2 =
    (feed requestSize ⟨.head, []⟩ chunkedWitness).2 := by
  rw [h1_seg_independent]; rfl
/-- trailers are a protocol error (fix 4f0e88849), a bad chunk-size line too -/
example : (feed requestSize ⟨.chunkTrailer [] [], []⟩ [88,58,49,13,10,13,10]).2 = [.protoError []] := by decide +kernel
example : (feed requestSize ⟨.chunkSize [] [], []⟩ [90,13,10]).2 = [.protoError []] := by decide +kernel
/-- client side: an interim 103 is swallowed, the final response is read -/
example : (feed (responseSize [71,69,84]) ⟨.head, []⟩
    ([72,84,84,80,47,49,46,49,32,49,48,51,32,69,13,10,13,10] ++ [72,84,84,80,47,49,46,49,32,50,48,52,32,78,13,10,13,10])).2 =
    [.msg [[72,84,84,80,47,49,46,49,32,50,48,52,32,78]] []] := by decide +kernel

/-- the machine is not constant: a bad request line is rejected -/
example : (feed requestSize ⟨.head, []⟩ [71, 13, 10, 13, 10]).2 = [.reject [[71]]] := by decide +kernel

/-! ### non-vacuity: the hypotheses `Inv`, `Expected`, `Causal`, "the client-side reader waits", "the segment does not
    complete the response" hold on a reachable, non-initial state and a schedule with pipelining and a response cut in two -/
private def aσ0 : Sys := ⟨⟨.head, []⟩, ⟨.wait, []⟩⟩
private def aq : Bytes := [71, 32, 47, 32, 72, 84, 84, 80, 47, 49, 46, 49, 13, 10, 13, 10]           -- "G / HTTP/1.1\r\n\r\n"
private def ar : Bytes := [72, 84, 84, 80, 47, 49, 46, 49, 32, 50, 48, 52, 32, 78, 13, 10, 13, 10]   -- "HTTP/1.1 204 N\r\n\r\n"
private def aSched : List Ev := [.client aq, .server (ar.take 5), .client aq, .server (ar.drop 5), .server ar]
/-- the state after the first request has been forwarded: the client-side reader waits, the upstream reader expects a head -/
private def aσ1 : Sys := (sysStep requestSize (responseSize [71]) aσ0 (.client aq)).1

private theorem aSched_expected : Expected requestSize (responseSize [71]) aσ0 aSched := by
  simp only [aSched, Expected]; decide +kernel
example : Expected requestSize (responseSize [71]) aσ0 aSched := aSched_expected
example : Causal requestSize (responseSize [71]) aσ0 aSched :=
  causal_of_expected _ _ _ _ inv_initial aSched_expected
example : aσ1.s.phase = .wait ∧ aσ1.c.phase = .head ∧ Inv aσ1 := by
  have h : aσ1.s.phase = .wait ∧ aσ1.c.phase = .head := by decide +kernel
  exact ⟨h.1, h.2, fun _ => h.1⟩
-- answered_in_order on this schedule: request, response, request, response — and the upstream reader is idle again
example : msgsOf (sysRun requestSize (responseSize [71]) aσ0 aSched).2 = [true, false, true, false] ∧
    idle (sysRun requestSize (responseSize [71]) aσ0 aSched).1 = true := by decide +kernel
-- client_early: its hypothesis holds in aσ1 and both orders give one relayed response and one forwarded request
example : (sysRun requestSize (responseSize [71]) aσ1 [.server ar, .client aq]).2.length = 2 ∧
    sysRun requestSize (responseSize [71]) aσ1 [.server ar, .client aq] =
      sysRun requestSize (responseSize [71]) aσ1 [.client aq, .server ar] := by decide +kernel
-- server_merge: the first five bytes of the response do not complete it
example : hasMsg (feed (responseSize [71]) aσ1.c (ar.take 5)).2 = false ∧ ar.take 5 ≠ [] := by decide +kernel
-- pipelined_in_order / wait_buffers: a second request arrives while the first flow is unfinished, then the flow is released
example : (release requestSize (feed requestSize ⟨.wait, []⟩ aq).1).2 = [.msg [[71, 32, 47, 32, 72, 84, 84, 80, 47, 49, 46, 49]] []] := by
  decide +kernel
-- merged_schedule_normal_form on this schedule: all client bytes first, then the three server segments
example : clientBytes aSched = aq ++ aq ∧ serverEvs aSched = [.server (ar.take 5), .server (ar.drop 5), .server ar] := by decide +kernel

end MitmVerif.Props.C02
