/-
  C32 — property theorems (model: Model/C32.lean; Lemmas/C32.lean for `infer_fallback`; Lemmas/Lists.lean for
  `strBytes_ofList`, by which string literals are evaluated).

  Full statement (`TextRoundtrips`): for every codec library satisfying the codec law for the text at hand, every message and
  every text, `get_text (set_text t) = t`.  It is FALSE for the code as it stands (three recorded findings):
  * `text_roundtrip_counterexample_bom_prefix`   (F-C32a)  Latin-1 text `ÿþab` is read back as UTF-16
  * `text_roundtrip_counterexample_body_decl`    (F-C32b)  `text/html` + `<meta charset="latin-1">é` is written as UTF-8, read as Latin-1
  * `text_roundtrip_counterexample_bom_codec`    (F-C32c)  `charset=utf-16` reads back with a leading U+FEFF — stated as an
                                                  evaluation, not as `¬ TextRoundtrips` (see its docstring)
  Proved for ALL content types / texts / codec libraries:
  * `text_roundtrip_partial`            under the guard "the body-sensitive inference on the produced message names the codec
                                        that was used to write it" (`inferEncoding ct' body' = inferEncoding ct' []`)
  * `text_roundtrip_nonstrict_partial`  the same for surrogate-escaped texts read with `get_text(strict=False)`; the strict
                                        getter then returns the text or raises, never another string
  * `charset_updated_on_fallback`       a text the declared codec cannot encode rewrites the header so that it parses to
                                        `charset=utf-8` (parse ∘ assemble), and the body is its UTF-8/surrogateescape encoding
  * `header_untouched_without_fallback`
-/
import MitmVerif.Lemmas.C32
import MitmVerif.Lemmas.Lists
namespace MitmVerif.Props.C32
open MitmVerif MitmVerif.C32

/-- the codec that `set_text` uses for this message and text reads its own output back, and strict UTF-8 reads back the
    UTF-8 encoding of this text (true of Python's text codecs for strings of Unicode scalar values) -/
def CodecLaw {τ : Type} (L : Lib τ) (m : Msg) (t : τ) : Prop :=
  (∀ b, L.enc (inferEncoding (ctOf m) []) t = some b → L.dec (inferEncoding (ctOf m) []) b = some t) ∧
  L.dec (S "utf-8") (L.u8se t) = some t

/-- the reader picks the codec the writer used: no BOM-like prefix, no in-body declaration of another codec, no BOM-emitting codec -/
abbrev ReaderAgrees (m' : Msg) : Prop := inferEncoding (ctOf m') m'.content = inferEncoding (ctOf m') []

/-- the full statement of the property -/
def TextRoundtrips : Prop :=
  ∀ (τ : Type) (L : Lib τ) (m : Msg) (t : τ), CodecLaw L m t → getText L (setText L m t) true = some t

private theorem setText_some {τ : Type} (L : Lib τ) (m : Msg) (t : τ) (b : Bytes)
    (h : L.enc (inferEncoding (ctOf m) []) t = some b) : setText L m t = { m with content := b } := by
  unfold setText; rw [h]

private theorem setText_none {τ : Type} (L : Lib τ) (m : Msg) (t : τ)
    (h : L.enc (inferEncoding (ctOf m) []) t = none) :
    setText L m t = { ct := some (fallbackHeader (ctOf m)), content := L.u8se t } := by
  unfold setText; rw [h]

/-- **C32 (partial).** Whenever the reader's inference on the produced message agrees with the writer's, the text reads back. -/
theorem text_roundtrip_partial {τ : Type} (L : Lib τ) (m : Msg) (t : τ) (hlaw : CodecLaw L m t)
    (hguard : ReaderAgrees (setText L m t)) : getText L (setText L m t) true = some t := by
  obtain ⟨h1, h2⟩ := hlaw
  unfold ReaderAgrees at hguard
  unfold getText
  rw [hguard]
  cases he : L.enc (inferEncoding (ctOf m) []) t with
  | some b =>
    rw [setText_some L m t b he]
    have : ctOf { m with content := b } = ctOf m := rfl
    simp only [this]
    rw [h1 b he]
  | none =>
    rw [setText_none L m t he]
    simp only [ctOf, Option.getD_some]
    rw [infer_fallback, h2]

/-- **C32 (partial, surrogate-escaped texts).** `t` is the surrogateescape decoding of some bytes
    (`u8seDec (u8se t) = t`); strict UTF-8 decoding, where it succeeds, agrees with it.  Then the lenient getter returns `t`
    and the strict getter returns `t` or raises. -/
theorem text_roundtrip_nonstrict_partial {τ : Type} (L : Lib τ) (m : Msg) (t : τ)
    (hlaw : ∀ b, L.enc (inferEncoding (ctOf m) []) t = some b → L.dec (inferEncoding (ctOf m) []) b = some t)
    (hse : L.u8seDec (L.u8se t) = t)
    (hagree : ∀ x, L.dec (S "utf-8") (L.u8se t) = some x → x = t)
    (hguard : ReaderAgrees (setText L m t)) :
    getText L (setText L m t) false = some t ∧
      (getText L (setText L m t) true = some t ∨ getText L (setText L m t) true = none) := by
  unfold ReaderAgrees at hguard
  unfold getText
  rw [hguard]
  cases he : L.enc (inferEncoding (ctOf m) []) t with
  | some b =>
    rw [setText_some L m t b he]
    have : ctOf { m with content := b } = ctOf m := rfl
    simp only [this]
    rw [hlaw b he]
    exact ⟨rfl, Or.inl rfl⟩
  | none =>
    rw [setText_none L m t he]
    simp only [ctOf, Option.getD_some]
    rw [infer_fallback]
    cases hd : L.dec (S "utf-8") (L.u8se t) with
    | some x => rw [hagree x hd]; exact ⟨rfl, Or.inl rfl⟩
    | none => simp [hse]

/-- **C32 (charset update).** If the declared codec cannot encode the text, the message afterwards carries a Content-Type
    header that parses to `charset=utf-8` (so a body-less inference names utf-8) and the body is the UTF-8 encoding. -/
theorem charset_updated_on_fallback {τ : Type} (L : Lib τ) (m : Msg) (t : τ)
    (h : L.enc (inferEncoding (ctOf m) []) t = none) :
    (setText L m t).content = L.u8se t ∧
    ∃ c, (setText L m t).ct = some c ∧ headerCharset c = S "utf-8" ∧ inferEncoding c [] = S "utf-8" := by
  rw [setText_none L m t h]
  exact ⟨rfl, _, rfl, headerCharset_fallback _, infer_fallback _⟩

/-- when the declared codec can encode the text, the header is left alone -/
theorem header_untouched_without_fallback {τ : Type} (L : Lib τ) (m : Msg) (t : τ) (b : Bytes)
    (h : L.enc (inferEncoding (ctOf m) []) t = some b) :
    (setText L m t).ct = m.ct ∧ (setText L m t).content = b := by
  rw [setText_some L m t b h]
  exact ⟨rfl, rfl⟩

/-! ### a small concrete codec library for the counterexamples (texts = lists of code points) -/

private def u8enc : List Nat → Option Bytes
  | [] => some []
  | c :: r =>
    if c < 128 then (u8enc r).map (UInt8.ofNat c :: ·)
    else if c < 2048 then (u8enc r).map (fun t => UInt8.ofNat (192 + c / 64) :: UInt8.ofNat (128 + c % 64) :: t)
    else none

private def u8decF : Nat → Bytes → Option (List Nat)
  | _, [] => some []
  | 0, _ :: _ => none
  | f + 1, a :: r =>
    if a.toNat < 128 then (u8decF f r).map (a.toNat :: ·)
    else match r with
      | b :: r' =>
        if 194 ≤ a.toNat ∧ a.toNat < 224 ∧ 128 ≤ b.toNat ∧ b.toNat < 192 then
          (u8decF f r').map (((a.toNat - 192) * 64 + (b.toNat - 128)) :: ·)
        else none
      | [] => none

private def u8dec (b : Bytes) : Option (List Nat) := u8decF b.length b

private def u16leDec : Nat → Bytes → Option (List Nat)
  | _, [] => some []
  | 0, _ :: _ => none
  | f + 1, a :: b :: r => (u16leDec f r).map ((a.toNat + 256 * b.toNat) :: ·)
  | _ + 1, [_] => none

private def demoLib : Lib (List Nat) where
  enc n t :=
    if n = S "latin-1" then (if t.all (· < 256) then some (t.map UInt8.ofNat) else none)
    else if n = S "utf8" ∨ n = S "utf-8" then u8enc t
    else if n = S "utf-16" then
      (if t.all (· < 65536) then some (0xff :: 0xfe :: t.flatMap (fun c => [UInt8.ofNat (c % 256), UInt8.ofNat (c / 256)])) else none)
    else none
  dec n b :=
    if n = S "latin-1" then some (b.map (·.toNat))
    else if n = S "utf8" ∨ n = S "utf-8" then u8dec b
    else if n = S "utf-16le" then u16leDec b.length b
    else if n = S "utf-8-sig" then u8dec (b.drop 3)
    else none
  u8se t := (u8enc t).getD []
  u8seDec b := (u8dec b).getD []

private def plainMsg (ct : String) : Msg := { ct := some (S ct), content := [] }

/-- ÿþab -/
private def tBom : List Nat := [0xff, 0xfe, 0x61, 0x62]
/-- `<meta charset="latin-1">é` -/
private def tMeta : List Nat := S "<meta charset=\"latin-1\">" ++ [0xe9]
private def tHi : List Nat := [0x68, 0x69]

/- A string literal is `String.ofList` of its characters, so `S` and `B` of a literal are read off by the next two lemmas
   (`no_index` lets `simp` try them on literals); the evaluations below start with them, because the kernel is several times
   slower on the byte-array loops and the UTF-8 decoder behind `String.toList` / `String.toUTF8` than on the model itself. -/
private theorem S_ofList (l : List Char) : S (no_index (String.ofList l)) = l.map Char.toNat :=
  congrArg _ String.toList_ofList

private theorem B_ofList (l : List Char) : B (no_index (String.ofList l)) = l.flatMap String.utf8EncodeChar :=
  strBytes_ofList l

/-- the codec law from four evaluations: the codec named for `m`, what it writes for `t`, and the two read-backs -/
private theorem codecLaw_of_eval {τ : Type} (L : Lib τ) (m : Msg) (t : τ) (n : Str) (b : Bytes)
    (h : inferEncoding (ctOf m) [] = n ∧ L.enc n t = some b ∧ L.dec n b = some t ∧
      L.dec (S "utf-8") (L.u8se t) = some t) : CodecLaw L m t := by
  obtain ⟨hn, he, hd, hu⟩ := h
  refine ⟨fun b' hb' => ?_, hu⟩
  rw [hn] at hb' ⊢
  cases he.symm.trans hb'
  exact hd

private theorem law_bom : CodecLaw demoLib (plainMsg "text/plain") tBom :=
  codecLaw_of_eval _ _ _ (S "latin-1") [0xff, 0xfe, 0x61, 0x62] (by decide +kernel)

/-- F-C32a: Latin-1 text starting with ÿþ is written as FF FE 61 62 and read back as UTF-16LE (`﻿扡`) -/
theorem text_roundtrip_counterexample_bom_prefix : ¬ TextRoundtrips := by
  intro h
  have := h _ demoLib (plainMsg "text/plain") tBom law_bom
  revert this
  decide +kernel

private theorem law_meta : CodecLaw demoLib (plainMsg "text/html") tMeta :=
  codecLaw_of_eval _ _ _ (S "utf8") (B "<meta charset=\"latin-1\">" ++ [0xc3, 0xa9])
    (by simp only [plainMsg, tMeta, S_ofList, B_ofList]; decide +kernel)

/-- F-C32b: `text/html` + `<meta charset="latin-1">é` is written as UTF-8 but read back as Latin-1 (`Ã©`) -/
theorem text_roundtrip_counterexample_body_decl : ¬ TextRoundtrips := by
  intro h
  have := h _ demoLib (plainMsg "text/html") tMeta law_meta
  revert this
  simp only [plainMsg, tMeta, S_ofList]
  decide +kernel

/-- F-C32c: under `charset=utf-16` the codec writes FF FE itself and the reader, which picks `utf-16le` from the BOM, keeps it
    as U+FEFF.  Not stated as `¬ TextRoundtrips`: `demoLib` has no `utf-16` decoder, so `CodecLaw demoLib` does not hold here;
    Python's `utf-16` codec does read its own output back. -/
theorem text_roundtrip_counterexample_bom_codec :
    (setText demoLib (plainMsg "text/plain; charset=utf-16") tHi).content = [0xff, 0xfe, 0x68, 0x00, 0x69, 0x00] ∧
    getText demoLib (setText demoLib (plainMsg "text/plain; charset=utf-16") tHi) true = some (0xfeff :: tHi) ∧
    ¬ ReaderAgrees (setText demoLib (plainMsg "text/plain; charset=utf-16") tHi) := by
  simp only [plainMsg, S_ofList]
  decide +kernel

/-! ### non-vacuity -/

/-- the guard and the law are satisfiable: Latin-1 `é` under text/plain, and the UTF-8 fallback for a Latin-1-unencodable text -/
example : getText demoLib (setText demoLib (plainMsg "text/plain") [0xe9, 0x61]) true = some [0xe9, 0x61] :=
  text_roundtrip_partial demoLib _ _
    (codecLaw_of_eval _ _ _ (S "latin-1") [0xe9, 0x61] (by decide +kernel)) (by decide +kernel)

example : (setText demoLib (plainMsg "text/plain; a=b") [0x394]).ct = some (S "text/plain; a=b; charset=utf-8") ∧
    getText demoLib (setText demoLib (plainMsg "text/plain; a=b") [0x394]) true = some [0x394] := by
  simp only [plainMsg, S_ofList]
  decide +kernel

-- the inference is not constant, and the scanners do reject
example : inferEncoding (S "text/html") (B "<meta charset=\"latin-1\">") = S "latin-1" ∧
    inferEncoding (S "text/html") (B "<meta >charset=x") = S "utf8" ∧
    inferEncoding (S "text/plain; charset=GBK") [] = S "gb18030" ∧
    inferEncoding (S "application/xml") (B "<?xml version='1.0' encoding='koi8-r'?>") = S "koi8-r" ∧
    inferEncoding (S "text/css") (B "@charset \"x\" ;") = S "utf8" ∧
    inferEncoding (S "text/css; charset=ascii") [0xff, 0xfe, 0x00, 0x00] = S "utf-32le" := by
  simp only [S_ofList, B_ofList]
  decide +kernel

/-! ### non-vacuity witness for `text_roundtrip_nonstrict_partial` on its lenient branch -/

/-- a codec library in which no codec knows the declared charset and strict UTF-8 rejects the bytes (texts = raw bytes):
    the hypotheses of `text_roundtrip_nonstrict_partial` hold for the surrogate-escaped text `E9 61`, the lenient getter
    returns it and the strict getter raises -/
private def rawLib : Lib Bytes where
  enc _ _ := none
  dec _ _ := none
  u8se t := t
  u8seDec b := b

example : getText rawLib (setText rawLib (plainMsg "text/plain; charset=nope") [0xe9, 0x61]) false = some [0xe9, 0x61] ∧
    (getText rawLib (setText rawLib (plainMsg "text/plain; charset=nope") [0xe9, 0x61]) true = some [0xe9, 0x61] ∨
     getText rawLib (setText rawLib (plainMsg "text/plain; charset=nope") [0xe9, 0x61]) true = none) :=
  text_roundtrip_nonstrict_partial rawLib _ _ (by intro b hb; cases hb) rfl (by intro x hx; cases hx)
    (by simp only [plainMsg, S_ofList]; decide +kernel)

/-- and the strict getter really is `none` there (the disjunction above is not always its left half) -/
example : getText rawLib (setText rawLib (plainMsg "text/plain; charset=nope") [0xe9, 0x61]) true = none := by
  decide +kernel

end MitmVerif.Props.C32
