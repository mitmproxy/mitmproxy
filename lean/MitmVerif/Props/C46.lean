/-
  C46 — property theorems about the mitmweb request model (Model/C46.lean) over the route table `Gen.C46.webRoutes`,
  which is regenerated from the live `Application`. Three layers:
  * facts about the table, by `decide +kernel` (`all_methods_wrapped`, `sfs_table`, `websocket_requires_auth`,
    `no_pre_auth_hooks`, `non_app_routes_are_static`): everything below uses the table only through the first two;
  * the abstract request (`serve`: each credential channel already classified) and the raw one (`serveC`: header text,
    `WebAuth` password, issued cookies, over histories of rotations and requests; `serveC_eq_serve` relates them). Both are
    `gate` with a different wrapper verdict, and what holds of both is proved once, from `gate_cases`;
  * application state and response bodies (`stepApp`, handler bodies arbitrary). `no_credential_no_state_change_no_body`
    and `hist_uncredentialed_is_inert` hold by the shape of `stepApp` — it calls the handler only when `handlerRan` and
    every refusal is the constant `Resp.refusal` — so they say no more than "the handler is not run"; that tornado's own
    refusal paths touch no state is not in the model.
  Not claimed: that a cookie issued before a rotation is revoked (it stays valid, in code and model); status 403 outside
  the side conditions of `no_credential_is_403` (elsewhere the refusal is 405, the XSRF 403, cross-site or 400).
-/
import MitmVerif.Model.C46
import MitmVerif.Gen.C46
namespace MitmVerif.Props.C46
open MitmVerif.C46 MitmVerif.Gen.C46

private theorem auth_noCred (q : Req) (hq : q.noCredential = true) :
    authDecision q = .s403auth ∨ (q.token = .undecodable ∧ authDecision q = .s400token) := by
  obtain ⟨m, c, b, t, s, x⟩ := q
  cases c <;> cases b <;> cases t <;> simp [Req.noCredential, authDecision] at hq ⊢

/-- the checks of `_execute` that `serve` and `serveC` share, with the wrapper's verdict `auth` as a parameter -/
private def gate (r : Route) (m : Method) (xsrfOk : Bool) (sfs : Sfs) (auth : Outcome) : Outcome :=
  if m = .other then .s405
  else if !m.safe && !xsrfOk then .s403xsrf
  else if r.sfsCheck && !m.safe && (sfs = .other) then .crossSite
  else if !r.methods.contains m then .s405
  else if r.wrapped.contains m then auth
  else .run false

private theorem serve_eq_gate (r : Route) (q : Req) :
    serve r q = gate r q.method q.xsrfOk q.sfs (authDecision q) := rfl

private theorem serveC_eq_gate (verify : Str → Str → Bool) (r : Route) (σ : Str) (ck : Bool) (q : RawReq) :
    serveC verify r σ ck q = gate r q.method q.xsrfOk q.sfs (authC verify σ ck q) := rfl

/-- the ways through `gate`: a refusal, the wrapper's verdict, or an unwrapped method -/
private theorem gate_cases (r : Route) (m : Method) (x : Bool) (s : Sfs) (a : Outcome) :
    (gate r m x s a).handlerRan = false ∨
    (m ∈ r.methods ∧ ¬(r.sfsCheck = true ∧ m.safe = false ∧ s = .other) ∧
      ((m ∈ r.wrapped ∧ gate r m x s a = a) ∨ (m ∉ r.wrapped ∧ gate r m x s a = .run false))) := by
  unfold gate
  by_cases h1 : m = .other
  · rw [if_pos h1]; exact .inl rfl
  rw [if_neg h1]
  by_cases h2 : (!m.safe && !x) = true
  · rw [if_pos h2]; exact .inl rfl
  rw [if_neg h2]
  by_cases h3 : (r.sfsCheck && !m.safe && decide (s = .other)) = true
  · rw [if_pos h3]; exact .inl rfl
  rw [if_neg h3]
  simp only [Bool.and_eq_true, Bool.not_eq_true', decide_eq_true_eq, and_assoc] at h3
  by_cases h4 : (!r.methods.contains m) = true
  · rw [if_pos h4]; exact .inl rfl
  rw [if_neg h4]
  rw [Bool.not_eq_true, Bool.not_eq_false', List.contains_iff_mem] at h4
  refine .inr ⟨h4, h3, ?_⟩
  by_cases h5 : r.wrapped.contains m = true
  · rw [if_pos h5]; exact .inl ⟨List.contains_iff_mem.mp h5, rfl⟩
  · rw [if_neg h5]; exact .inr ⟨mt List.contains_iff_mem.mpr h5, rfl⟩

/-- a fresh cookie can only come from the wrapper -/
private theorem gate_run_true {r : Route} {m : Method} {x : Bool} {s : Sfs} {a : Outcome}
    (h : gate r m x s a = .run true) : a = .run true := by
  rcases gate_cases r m x s a with e | ⟨_, _, ⟨_, e⟩ | ⟨_, e⟩⟩
  · rw [h] at e; cases e
  · exact e.symm.trans h
  · rw [h] at e; cases e

/-- where every implemented method is wrapped, a handler that ran was let through by the wrapper -/
private theorem gate_ran {r : Route} (hw : ∀ m ∈ r.methods, m ∈ r.wrapped) {m : Method} {x : Bool} {s : Sfs}
    {a : Outcome} (h : (gate r m x s a).handlerRan = true) : a.handlerRan = true := by
  rcases gate_cases r m x s a with e | ⟨hm, _, ⟨_, e⟩ | ⟨hn, _⟩⟩
  · rw [e] at h; cases h
  · rwa [e] at h
  · exact absurd (hw m hm) hn

/-- a non-safe request marked cross-site stops at `prepare`, or the route has no non-safe method at all -/
private theorem gate_cross {r : Route} (ht : r.sfsCheck = true ∨ ∀ m ∈ r.methods, m.safe = true) {m : Method}
    (x : Bool) (a : Outcome) (hm : m.safe = false) : (gate r m x .other a).handlerRan = false := by
  rcases gate_cases r m x .other a with e | ⟨hmem, hn, _⟩
  · exact e
  · rcases ht with h | h
    · exact absurd ⟨h, hm, rfl⟩ hn
    · rw [h m hmem] at hm; cases hm

private theorem serve_noCred (r : Route) (hw : ∀ m ∈ r.methods, m ∈ r.wrapped) (q : Req)
    (hq : q.noCredential = true) : (serve r q).handlerRan = false := by
  refine Bool.eq_false_iff.mpr fun h => ?_
  have := gate_ran hw (serve_eq_gate r q ▸ h)
  rcases auth_noCred q hq with e | ⟨_, e⟩ <;> rw [e] at this <;> cases this

private theorem serve_noCred_exact (r : Route) (hw : ∀ m ∈ r.methods, m ∈ r.wrapped) (q : Req)
    (hq : q.noCredential = true) (hm : q.method ∈ r.methods) (ho : q.method ≠ .other)
    (hgate : q.method.safe = true ∨ (q.xsrfOk = true ∧ q.sfs ≠ .other)) (ht : q.token ≠ .undecodable) :
    serve r q = .s403auth := by
  have ha : authDecision q = .s403auth := by
    rcases auth_noCred q hq with h | ⟨h, _⟩
    · exact h
    · exact absurd h ht
  rcases hgate with hs | ⟨hx, hsf⟩
  · simp [serve, ho, hs, hm, hw _ hm, ha]
  · simp [serve, ho, hx, hsf, hm, hw _ hm, ha]

/-- every implemented method of every mitmweb handler is wrapped by the authentication requirement -/
theorem all_methods_wrapped : ∀ r ∈ webRoutes, r.appRoute = true → ∀ m ∈ r.methods, m ∈ r.wrapped := by
  decide +kernel

/-- **no credential ⇒ refused, handler not run** — for every route of the table, every method (supported or not), every
    Sec-Fetch-Site value and XSRF state. -/
theorem no_credential_403_and_handler_not_run :
    ∀ r ∈ webRoutes, r.appRoute = true → ∀ q : Req, q.noCredential = true →
      (serve r q).handlerRan = false := by
  intro r hr ha q hq
  exact serve_noCred r (all_methods_wrapped r hr ha) q hq

/-- … and where the method is implemented and the XSRF / cross-site gates are passed (always for GET/HEAD/OPTIONS), the
    answer is exactly the 403 of the authentication wrapper -/
theorem no_credential_is_403 :
    ∀ r ∈ webRoutes, r.appRoute = true → ∀ q : Req, q.noCredential = true → q.method ∈ r.methods → q.method ≠ .other →
      (q.method.safe = true ∨ (q.xsrfOk = true ∧ q.sfs ≠ .other)) → q.token ≠ .undecodable →
      serve r q = .s403auth := by
  intro r hr ha q hq hm ho hg ht
  exact serve_noCred_exact r (all_methods_wrapped r hr ha) q hq hm ho hg ht

/-- a state-changing (non-safe) request without a valid XSRF token never reaches a handler, whatever its credentials -/
theorem state_changing_requires_xsrf (r : Route) (q : Req) (hm : q.method.safe = false) (hx : q.xsrfOk = false) :
    (serve r q).handlerRan = false ∧ (q.method ≠ .other → serve r q = .s403xsrf) := by
  unfold serve
  by_cases ho : q.method = .other
  · simp [ho, Outcome.handlerRan]
  · simp [ho, hm, hx, Outcome.handlerRan]

private theorem sfs_table : ∀ r ∈ webRoutes, r.appRoute = true →
    r.sfsCheck = true ∨ ∀ m ∈ r.methods, m.safe = true := by decide +kernel

/-- a state-changing request that the browser marks as cross-site is refused on every mitmweb route, valid credentials
    and XSRF token notwithstanding -/
theorem cross_site_refused : ∀ r ∈ webRoutes, r.appRoute = true → ∀ q : Req,
    q.method.safe = false → q.sfs = .other → (serve r q).handlerRan = false := by
  intro r hr ha q hm hs
  rw [serve_eq_gate, hs]
  exact gate_cross (sfs_table r hr ha) _ _ hm

/-- the live-update WebSocket is a GET-only route whose GET is wrapped -/
theorem websocket_requires_auth : ∀ r ∈ webRoutes, r.isWs = true →
    r.methods = [.GET] ∧ .GET ∈ r.wrapped ∧ r.appRoute = true := by decide +kernel

/-- there is at least one WebSocket route in the table (the theorem above is not vacuous) -/
theorem websocket_route_exists : webRoutes.any (fun r => r.isWs) = true := by decide +kernel

/-- no mitmweb handler class overrides a tornado hook that runs before the wrapped method -/
theorem no_pre_auth_hooks : ∀ r ∈ webRoutes, r.appRoute = true → r.preHooks = [] := by decide +kernel

/-- the only rows outside `app.handlers` are tornado's static-file routes (GET/HEAD of bundled assets) -/
theorem non_app_routes_are_static : ∀ r ∈ webRoutes, r.appRoute = false →
    r.handler = "tornado.web.StaticFileHandler" ∧ (∀ m ∈ r.methods, m = .GET ∨ m = .HEAD) ∧
    (r.pattern = "/static/(.*)$" ∨ r.pattern = "/(favicon\\.ico)$" ∨ r.pattern = "/(robots\\.txt)$") := by
  decide +kernel

/-! non-vacuity: valid credentials do reach the handler; the model is not constant -/
example : ∀ r ∈ webRoutes, ∀ m ∈ r.methods,
    (serve r ⟨m, true, .absent, .absent, .sameOrigin, true⟩).handlerRan = true := by decide +kernel
example : authDecision ⟨.GET, false, .absent, .valid, .absent, false⟩ = .run true := by decide +kernel
example : authDecision ⟨.GET, false, .invalid, .valid, .absent, false⟩ = .s403auth := by decide +kernel
example : (⟨.GET, false, .invalid, .absent, .absent, false⟩ : Req).noCredential = true := by decide +kernel


/-! ## the credential checks as code, over histories of password changes and requests -/

/-- the wrapper's three verdicts: a valid cookie, a valid password (and a fresh cookie), or a refusal -/
private theorem authC_spec (verify : Str → Str → Bool) (σ : Str) (ck : Bool) (q : RawReq) :
    (ck = true ∧ authC verify σ ck q = .run false) ∨
    (carriesValidPassword verify σ q = true ∧ authC verify σ ck q = .run true) ∨
    (authC verify σ ck q).handlerRan = false := by
  unfold authC carriesValidPassword
  cases ck with
  | true => exact .inl ⟨rfl, rfl⟩
  | false =>
    cases extractPassword q with
    | none => exact .inr (.inr rfl)
    | some pw =>
      cases hv : isValidPassword verify σ pw with
      | true => exact .inr (.inl ⟨hv, by simp [hv]⟩)
      | false => exact .inr (.inr (by simp [hv, Outcome.handlerRan]))

private theorem serveC_run (verify : Str → Str → Bool) (r : Route) (hw : ∀ m ∈ r.methods, m ∈ r.wrapped)
    (σ : Str) (ck : Bool) (q : RawReq) (h : (serveC verify r σ ck q).handlerRan = true) :
    ck = true ∨ carriesValidPassword verify σ q = true := by
  have ha := gate_ran hw (serveC_eq_gate verify r σ ck q ▸ h)
  rcases authC_spec verify σ ck q with ⟨hc, _⟩ | ⟨hp, _⟩ | hn
  · exact .inl hc
  · exact .inr hp
  · rw [hn] at ha; cases ha

private theorem serveC_setcookie (verify : Str → Str → Bool) (r : Route) (σ : Str) (ck : Bool) (q : RawReq)
    (h : serveC verify r σ ck q = .run true) : carriesValidPassword verify σ q = true := by
  have ha := gate_run_true (serveC_eq_gate verify r σ ck q ▸ h)
  rcases authC_spec verify σ ck q with ⟨_, e⟩ | ⟨hp, _⟩ | hn
  · rw [e] at ha; cases ha
  · exact hp
  · rw [ha] at hn; cases hn

/-- **no handler body without a credential — every route, method, header text, whatever argon2 says, in any world**:
    on every mitmweb route the handler body runs only if the request presents a session cookie this Application issued
    or the password extracted from its `Authorization` / `token` is accepted by the password configuration in force. -/
theorem handler_needs_credential (verify : Str → Str → Bool) :
    ∀ r ∈ webRoutes, r.appRoute = true → ∀ (w : World) (q : RawReq),
      (serveC verify r w.password (w.cookieOk q) q).handlerRan = true →
      w.cookieOk q = true ∨ carriesValidPassword verify w.password q = true := by
  intro r hr ha w q h
  exact serveC_run verify r (all_methods_wrapped r hr ha) w.password _ q h

/-- one event: a session cookie of the next world was there before, or was issued to this request for its password -/
private theorem stepW_issued (verify : Str → Str → Bool) (hashOk : Str → Bool) (w : World) (e : Ev) (c : Nat)
    (h : c ∈ (stepW verify hashOk w e).1.issued) :
    c ∈ w.issued ∨ ∃ r q, e = .req r q c ∧ carriesValidPassword verify w.password q = true := by
  cases e with
  | setPw v fresh => exact .inl h
  | req r q newId =>
    simp only [stepW] at h
    split at h
    · rename_i ho
      rcases List.mem_cons.mp h with rfl | h
      · exact .inr ⟨r, q, rfl, serveC_setcookie verify r _ _ q ho⟩
      · exact .inl h
    · exact .inl h

/-- **session cookies trace back to a password**: after any history of password changes and requests, every session
    cookie that exists was either there at the start or was issued to a request of the history that carried a password
    valid under the configuration in force at that moment. -/
theorem issued_cookie_provenance (verify : Str → Str → Bool) (hashOk : Str → Bool) :
    ∀ (evs : List Ev) (w0 : World) (c : Nat), c ∈ (runW verify hashOk w0 evs).issued →
      c ∈ w0.issued ∨ ∃ pre r q post, evs = pre ++ Ev.req r q c :: post ∧
        carriesValidPassword verify (runW verify hashOk w0 pre).password q = true := by
  intro evs
  induction evs with
  | nil => intro w0 c h; exact Or.inl h
  | cons e es ih =>
    intro w0 c h
    rcases ih _ c h with h1 | ⟨pre, r, q, post, he, hv⟩
    · rcases stepW_issued verify hashOk w0 e c h1 with h0 | ⟨r, q, rfl, hv⟩
      · exact Or.inl h0
      · exact Or.inr ⟨[], r, q, es, rfl, hv⟩
    · exact Or.inr ⟨e :: pre, r, q, post, by rw [he]; rfl, hv⟩

/-- **over rotation histories**: start with no session cookie issued; after any history, a request on a mitmweb route
    reaches its handler only if it carries the password of the configuration in force *now*, or a cookie that an
    earlier request of this very history obtained with the password in force *then*. -/
theorem hist_no_credential_no_handler (verify : Str → Str → Bool) (hashOk : Str → Bool) (p0 : Str) :
    ∀ r ∈ webRoutes, r.appRoute = true → ∀ (evs : List Ev) (q : RawReq),
      let w := runW verify hashOk ⟨p0, []⟩ evs
      (serveC verify r w.password (w.cookieOk q) q).handlerRan = true →
      carriesValidPassword verify w.password q = true ∨
      ∃ c pre r' q' post, q.cookie = some c ∧ evs = pre ++ Ev.req r' q' c :: post ∧
        carriesValidPassword verify (runW verify hashOk ⟨p0, []⟩ pre).password q' = true := by
  intro r hr ha evs q w h
  rcases handler_needs_credential verify r hr ha w q h with hck | hpw
  · right
    unfold World.cookieOk at hck
    cases hc : q.cookie with
    | none => simp [hc] at hck
    | some c =>
      simp only [hc] at hck
      have hmem : c ∈ w.issued := by simpa using hck
      rcases issued_cookie_provenance verify hashOk evs ⟨p0, []⟩ c hmem with h0 | ⟨pre, r', q', post, he, hv⟩
      · simp at h0
      · exact ⟨c, pre, r', q', post, rfl, he, hv⟩
  · exact Or.inl hpw

/-- **a rotated plaintext password is revoked at once**: after `web_password` is set to a non-empty plaintext `v`, a
    cookie-less request whose extracted password differs from `v` is refused on every mitmweb route, whatever was valid before -/
theorem rotation_revokes_old_password (verify : Str → Str → Bool) (hashOk : Str → Bool) :
    ∀ r ∈ webRoutes, r.appRoute = true → ∀ (w : World) (v fresh : Str) (q : RawReq) (pw : Str),
      v ≠ [] → v.head? ≠ some 36 → q.cookie = none → extractPassword q = some pw → pw ≠ v →
      let w' := (stepW verify hashOk w (.setPw v fresh)).1
      (serveC verify r w'.password (w'.cookieOk q) q).handlerRan = false := by
  intro r hr ha w v fresh q pw hne hd hck he hneq w'
  have hp : w'.password = v := by
    simp only [w', stepW, configure, hd, if_false]
    cases v with
    | nil => exact absurd rfl hne
    | cons a b => simp
  refine Bool.eq_false_iff.mpr fun hrun => ?_
  rcases handler_needs_credential verify r hr ha w' q hrun with h | h
  · simp [World.cookieOk, hck] at h
  · simp only [carriesValidPassword, he, hp, isValidPassword, hd, if_false] at h
    have hv : v = pw := by simpa using h
    exact absurd hv.symm hneq

/-- the raw-request model refines the abstract one: with the empty password invalid (WebAuth never configures an
    empty plaintext; an argon2 hash of the empty string is the operator's choice), `serveC` is `serve` of the abstraction -/
theorem serveC_eq_serve (verify : Str → Str → Bool) (r : Route) (σ : Str) (ck : Bool) (q : RawReq)
    (h0 : isValidPassword verify σ [] = false) :
    serveC verify r σ ck q = serve r (abstractReq verify σ ck q) := by
  have hauth : authC verify σ ck q = authDecision (abstractReq verify σ ck q) := by
    unfold authC authDecision abstractReq extractPassword
    by_cases hc : ck = true
    · simp [hc]
    · simp only [hc]
      by_cases hh : (headerPassword q).isEmpty = true
      · simp only [hh]
        cases ht : q.token with
        | absent => simp [h0]
        | undecodable => simp
        | text t =>
          by_cases hte : t.isEmpty = true
          · have : t = [] := by simpa using hte
            subst this; simp [h0]
          · by_cases hv : isValidPassword verify σ t = true <;> simp [hte, hv]
      · by_cases hv : isValidPassword verify σ (headerPassword q) = true <;> simp [hh, hv]
  unfold serveC serve
  simp only [hauth]
  rfl

/-! non-vacuity / the wrapper's string handling -/
example : headerPassword ⟨.GET, none, some [66, 101, 97, 114, 101, 114, 32, 112], .absent, .absent, false⟩ = [112] := by decide +kernel
example : headerPassword ⟨.GET, none, some [98, 101, 97, 114, 101, 114, 32, 112], .absent, .absent, false⟩ = [] := by decide +kernel   -- "bearer p"
example : headerPassword ⟨.GET, none, some [66, 101, 97, 114, 101, 114, 32, 32, 112], .absent, .absent, false⟩ = [32, 112] := by decide +kernel
example : extractPassword ⟨.GET, none, some [66, 97, 115, 105, 99, 32, 112], .text [116], .absent, false⟩ = some [116] := by decide +kernel
example : configure (fun _ => true) [] [102] = some [102] ∧ configure (fun _ => false) [36, 120] [102] = none := by decide +kernel
example : isValidPassword (fun _ _ => false) [112] [112] = true ∧ isValidPassword (fun _ _ => false) [36, 112] [36, 112] = false := by
  decide +kernel


/-! ## the plaintext comparison is exact on the bytes -/

/-- a plaintext / token configuration accepts exactly the configured byte string: no folding, no characters dropped -/
theorem plain_password_exact (verify : Str → Str → Bool) (σ pw : Str) (h : σ.head? ≠ some 36) :
    isValidPassword verify σ pw = true ↔ pw = σ := by
  unfold isValidPassword
  simp only [h, if_false, beq_iff_eq]
  exact eq_comm

/-- `WebAuth.configure` never leaves an empty plaintext password (an empty option value draws a fresh token) -/
theorem configure_plain_nonempty (hashOk : Str → Bool) (v fresh σ : Str) (hc : configure hashOk v fresh = some σ)
    (hf : fresh ≠ []) : σ ≠ [] := by
  unfold configure at hc
  by_cases hd : v.head? = some 36
  · simp only [hd, if_true] at hc
    by_cases hk : hashOk v = true
    · simp [hk] at hc; subst hc; intro e; simp [e] at hd
    · simp [hk] at hc
  · simp only [hd, if_false] at hc
    by_cases he : v.isEmpty = true
    · simp [he] at hc; subst hc; exact hf
    · simp [he] at hc; subst hc; intro e; simp [e] at he

/-- hence a request without any credential text is refused under every plaintext / token configuration: the empty
    password never matches -/
theorem empty_password_refused (verify : Str → Str → Bool) (σ : Str) (h : σ.head? ≠ some 36) (hne : σ ≠ []) :
    isValidPassword verify σ [] = false :=
  Bool.eq_false_iff.mpr fun hv => hne ((plain_password_exact verify σ [] h).mp hv).symm

example : isValidPassword (fun _ _ => false) [208, 191] [] = false := by decide +kernel      -- "п" (non-ASCII only) vs the empty credential
example : isValidPassword (fun _ _ => false) [116, 111, 107] [116, 111, 107, 195, 169] = false := by decide +kernel   -- tok vs tok+é


/-! ## "without changing any state or disclosing flow data", and the raw Sec-Fetch-Site header -/

/-- **no credential ⇒ no state change, no handler output, no session**: whatever the handler bodies do, a request on a
    mitmweb route that carries no issued cookie and no password valid now leaves the application state as it was, is
    answered by a refusal (never by handler output) and is not given a session cookie. -/
theorem no_credential_no_state_change_no_body {S B : Type} (handler : Route → RawReq → S → S × B)
    (verify : Str → Str → Bool) (hashOk : Str → Bool) :
    ∀ r ∈ webRoutes, r.appRoute = true → ∀ (a : AppW S) (q : RawReq) (newId : Nat),
      Ev.uncredentialed verify a.w (.req r q newId) = true →
      (stepApp handler verify hashOk a (.req r q newId)).1.app = a.app ∧
      (stepApp handler verify hashOk a (.req r q newId)).1.w = a.w ∧
      ∃ out, (stepApp handler verify hashOk a (.req r q newId)).2 = some (out, .refusal) := by
  intro r hr ha a q newId hu
  simp only [Ev.uncredentialed, Bool.and_eq_true, Bool.not_eq_true'] at hu
  have hnr : (serveC verify r a.w.password (a.w.cookieOk q) q).handlerRan = false := by
    refine Bool.eq_false_iff.mpr fun h => ?_
    rcases handler_needs_credential verify r hr ha a.w q h with h1 | h1
    · rw [hu.1] at h1; cases h1
    · rw [hu.2] at h1; cases h1
  have hnot : serveC verify r a.w.password (a.w.cookieOk q) q ≠ .run true := by
    intro e; rw [e] at hnr; simp [Outcome.handlerRan] at hnr
  refine ⟨?_, ?_, ?_⟩
  · simp [stepApp, hnr]
  · simp [stepApp, hnr, stepW, hnot]
  · exact ⟨serveC verify r a.w.password (a.w.cookieOk q) q, by simp [stepApp, hnr]⟩

/-- every event of the history is a password change or an uncredentialed request on a mitmweb route (judged in the world
    the history has produced so far) -/
def allUncredentialed (verify : Str → Str → Bool) (hashOk : Str → Bool) : World → List Ev → Prop
  | _, [] => True
  | w, e :: r =>
    e.uncredentialed verify w = true ∧
    (match e with | .req rt _ _ => rt ∈ webRoutes ∧ rt.appRoute = true | .setPw _ _ => True) ∧
    allUncredentialed verify hashOk (stepW verify hashOk w e).1 r

private theorem stepApp_w {S B : Type} (handler : Route → RawReq → S → S × B) (verify : Str → Str → Bool)
    (hashOk : Str → Bool) (a : AppW S) (e : Ev) :
    (stepApp handler verify hashOk a e).1.w = (stepW verify hashOk a.w e).1 := by
  cases e with
  | setPw v fresh => rfl
  | req r q newId => simp only [stepApp]; split <;> rfl

/-- **whole histories**: however often the password is rotated in between, a history of requests none of which carries a
    credential valid at its time never changes the application state, never yields handler output and never creates a session -/
theorem hist_uncredentialed_is_inert {S B : Type} (handler : Route → RawReq → S → S × B)
    (verify : Str → Str → Bool) (hashOk : Str → Bool) :
    ∀ (evs : List Ev) (a : AppW S), allUncredentialed verify hashOk a.w evs →
      (runApp handler verify hashOk a evs).1.app = a.app ∧
      (runApp handler verify hashOk a evs).1.w.issued = a.w.issued ∧
      ∀ x ∈ (runApp handler verify hashOk a evs).2, x.2.isRefusal = true := by
  intro evs
  induction evs with
  | nil => intro a _; simp [runApp]
  | cons e es ih =>
    intro a ⟨hu, hroute, hrest⟩
    obtain ⟨i1, i2, i3⟩ := ih (stepApp handler verify hashOk a e).1 (by rw [stepApp_w]; exact hrest)
    simp only [runApp]
    rw [i1, i2]
    cases e with
    | setPw v fresh => exact ⟨rfl, rfl, i3⟩
    | req r q newId =>
      obtain ⟨h1, h2, out, h3⟩ :=
        no_credential_no_state_change_no_body handler verify hashOk r hroute.1 hroute.2 a q newId hu
      rw [h1, h2, h3]
      refine ⟨rfl, rfl, fun x hx => ?_⟩
      rcases List.mem_cons.mp hx with rfl | hx
      · rfl
      · exact i3 x hx

/-- the Sec-Fetch-Site test on the raw header value: anything but exactly `same-origin` / `none` (case-sensitive) marks a
    non-safe request as cross-site, and such a request never reaches a handler -/
theorem cross_site_refused_raw (verify : Str → Str → Bool) :
    ∀ r ∈ webRoutes, r.appRoute = true → ∀ (σ : Str) (ck : Bool) (q : RawReq) (v : Str),
      q.method.safe = false → q.sfs = sfsOfHeader (some v) →
      v ≠ [115, 97, 109, 101, 45, 111, 114, 105, 103, 105, 110] → v ≠ [110, 111, 110, 101] →
      (serveC verify r σ ck q).handlerRan = false := by
  intro r hr ha σ ck q v hm hs h1 h2
  rw [serveC_eq_gate, hs, sfsOfHeader, if_neg h1, if_neg h2]
  exact gate_cross (sfs_table r hr ha) _ _ hm

example : sfsOfHeader (some [83, 97, 109, 101, 45, 79, 114, 105, 103, 105, 110]) = .other := by decide +kernel     -- "Same-Origin"
example : sfsOfHeader (some [110, 111, 110, 101]) = .none ∧ sfsOfHeader none = .absent := by decide +kernel

/-! ## non-vacuity witnesses on concrete routes, requests and histories -/

/-- `no_credential_is_403` / `cross_site_refused` / `state_changing_requires_xsrf` on a real row of the table: a POST to `/`
    with a wrong Bearer value is answered 403; with a valid cookie but marked cross-site, or without XSRF token, it is refused -/
example : ∃ r ∈ webRoutes, r.appRoute = true ∧ Method.POST ∈ r.methods ∧
    serve r ⟨.POST, false, .invalid, .absent, .sameOrigin, true⟩ = .s403auth ∧
    serve r ⟨.POST, true, .absent, .absent, .other, true⟩ = .crossSite ∧
    serve r ⟨.POST, true, .absent, .absent, .sameOrigin, false⟩ = .s403xsrf ∧
    serve r ⟨.POST, true, .absent, .absent, .sameOrigin, true⟩ = .run false := by decide +kernel

/-- the WebSocket row: no credential -> 403, token -> handler with a fresh cookie -/
example : ∃ r ∈ webRoutes, r.isWs = true ∧
    serve r ⟨.GET, false, .absent, .absent, .absent, false⟩ = .s403auth ∧
    serve r ⟨.GET, false, .absent, .valid, .absent, false⟩ = .run true := by decide +kernel

/-- `issued_cookie_provenance` / `hist_no_credential_no_handler` / `rotation_revokes_old_password` on a concrete history:
    password "p"; a request with `?token=p` obtains cookie 7; the password is rotated to "q"; the cookie still opens the
    handler (its provenance is the first request), the old token does not, the new one does -/
example : ∃ r ∈ webRoutes, r.appRoute = true ∧
    let v : Str → Str → Bool := fun _ _ => false
    let w := runW v (fun _ => true) ⟨[112], []⟩
      [.req r ⟨.GET, none, none, .text [112], .absent, false⟩ 7, .setPw [113] [102]]
    w.issued = [7] ∧ w.password = [113] ∧
    serveC v r w.password (w.cookieOk ⟨.GET, some 7, none, .absent, .absent, false⟩) ⟨.GET, some 7, none, .absent, .absent, false⟩ = .run false ∧
    serveC v r w.password (w.cookieOk ⟨.GET, none, none, .text [112], .absent, false⟩) ⟨.GET, none, none, .text [112], .absent, false⟩ = .s403auth ∧
    serveC v r w.password (w.cookieOk ⟨.GET, none, none, .text [113], .absent, false⟩) ⟨.GET, none, none, .text [113], .absent, false⟩ = .run true := by
  decide +kernel

/-- `hist_uncredentialed_is_inert`'s hypothesis holds for a non-trivial history (a rotation and two refused requests), and a
    handler that WOULD change the state and disclose data is never reached -/
example : ∃ r ∈ webRoutes, r.appRoute = true ∧
    let v : Str → Str → Bool := fun _ _ => false
    let evs : List Ev := [.req r ⟨.GET, none, some [66, 101, 97, 114, 101, 114, 32, 120], .absent, .absent, false⟩ 1,
                          .setPw [113] [102], .req r ⟨.GET, some 9, none, .text [112], .absent, false⟩ 2]
    Ev.uncredentialed v ⟨[112], []⟩ (.req r ⟨.GET, none, some [66, 101, 97, 114, 101, 114, 32, 120], .absent, .absent, false⟩ 1) = true ∧
    (runApp (S := Nat) (B := Nat) (fun _ _ s => (s + 1, 42)) v (fun _ => true) ⟨⟨[112], []⟩, 0⟩ evs).1.app = 0 ∧
    (runApp (S := Nat) (B := Nat) (fun _ _ s => (s + 1, 42)) v (fun _ => true) ⟨⟨[112], []⟩, 0⟩ evs).2.all (fun x => x.2.isRefusal) = true := by
  decide +kernel
end MitmVerif.Props.C46
