/-
  C23 — property theorems: an upstream connection is never opened to a destination that denotes one of mitmproxy's
  own listening sockets.

  "Denotes" is the definition `denotesOwnSocket` of Model/C23 (same transport, same port, and the listen address in
  any notation `ipaddress` reads / a loopback name or address on a loopback or all-interfaces listener / the wildcard):
  the claim is as strong as that definition.  The core is two steps: the specification implies the guard of
  `server_connect` (`spec_implies_blocked`; the guard accepts more, e.g. `localhost` on a non-loopback listener), and
  a firing guard keeps `open_connection` from the socket primitive (`blocked_sets_error_and_no_connect`).  Then the
  spelling classes of the statement one by one, first with the parse as a hypothesis, then for the texts themselves
  (Lemmas/C23Render, Lemmas/C22Render).  Then the same over histories, each by the fact that a step's output depends
  on the state current at that step: reconfigurations (`update`, the listener set after a whole `Servers.update`),
  repeated attempts on one `Server` object (the error of an earlier attempt survives), and the single start / stop
  events of an update in flight (`lstep`; invariant `ListedInv`: what listens is listed, so the guard sees it).  The
  two listener models are tied by Lemmas/C23Refine.  `resolver_spelling_counterexample` is the recorded residual
  F-C23b: spellings only the resolver understands are outside `denotesOwnSocket` and do reach the socket.
-/
import MitmVerif.Model.C23
import MitmVerif.Lemmas.C23Render
import MitmVerif.Lemmas.C23Refine
namespace MitmVerif.Props.C23
open MitmVerif MitmVerif.C22 MitmVerif.C23 MitmVerif.Lemmas.C22 MitmVerif.Lemmas.C23

private theorem loopbackAddr_effective (a : Addr) (h : loopbackAddr a = true) :
    isLoopback (effective a) = true := by
  cases a with
  | v4 n => simpa [loopbackAddr, effective, isLoopback, Gen.C23.loop4Lo, Gen.C23.loop4Hi] using h
  | v6 n sc =>
    simp only [loopbackAddr, Bool.or_eq_true, Bool.and_eq_true, beq_iff_eq, Nat.ble_eq] at h
    rcases h with h | ⟨⟨hm, h1⟩, h2⟩
    · subst h
      simp [effective, isLoopback, Gen.C23.loop6]
    · simp [effective, hm, isLoopback, Gen.C23.loop4Lo, Gen.C23.loop4Hi, h1, h2]

private theorem unspecAddr_effective (a : Addr) (h : unspecAddr a = true) :
    isUnspecified (effective a) = true := by
  cases a with
  | v4 n => simpa [unspecAddr, effective, isUnspecified, Gen.C23.unspec4] using h
  | v6 n sc =>
    simp only [unspecAddr, Bool.or_eq_true, beq_iff_eq] at h
    rcases h with h | h
    · subst h
      simp [effective, isUnspecified, Gen.C23.unspec6]
    · subst h
      simp [effective, isUnspecified, Gen.C23.unspec4]

private theorem optAny_true (o : Option Addr) (p : Addr → Bool) (h : optAny o p = true) :
    ∃ a, o = some a ∧ p a = true := by
  cases o with
  | none => cases h
  | some a => exact ⟨a, rfl, h⟩

/-- `_is_own_host` accepts every destination whose address, IPv4-mapped view taken, is loopback or
    the wildcard -/
private theorem own_of_addr (dh lh : Text) (a : Addr) (hp : parseIp (normHost dh) = some a)
    (h : isLoopback (effective a) = true ∨ isUnspecified (effective a) = true) :
    isOwnHost dh lh = true := by
  rcases h with h | h <;> simp [isOwnHost, hp, h]

/-- the host part of the specification is recognised by `_is_own_host` -/
private theorem own_of_spec (dh lh : Text)
    (h : (sameHost dh lh || (listensOnLoopbackOrAny lh && denotesLoopback dh) || denotesUnspecified dh) = true) :
    isOwnHost dh lh = true := by
  simp only [Bool.or_eq_true, Bool.and_eq_true, sameHost, denotesLoopback, denotesUnspecified,
    beq_iff_eq] at h
  rcases h with (((h | h) | h) | ⟨_, h | h⟩) | h
  · simp [isOwnHost, h]
  · simp [isOwnHost, h]
  · split at h
    · rename_i a b hp hl
      simp [isOwnHost, hp, hl, beq_iff_eq.mp h]
    · cases h
  · simp [isOwnHost, h]
  · obtain ⟨a, hp, ha⟩ := optAny_true _ _ h
    exact own_of_addr dh lh a hp (Or.inl (loopbackAddr_effective a ha))
  · obtain ⟨a, hp, ha⟩ := optAny_true _ _ h
    exact own_of_addr dh lh a hp (Or.inr (unspecAddr_effective a ha))

/-- **C23 (goal).** Every destination that denotes one of the listening sockets — same transport
    (a listener for both transports counts for either), same port, and the explicit listen address /
    a loopback name or address while listening on loopback or all interfaces / the wildcard address —
    is recognised as a self-connect, for every list of servers. -/
theorem spec_implies_blocked (servers : List Server) (dh : Text) (dp : Nat) (tp : Transport)
    (h : denotesOwnSocket servers dh dp tp = true) : selfConnect servers dh dp tp = true := by
  unfold denotesOwnSocket at h
  unfold selfConnect
  simp only [List.any_eq_true] at h ⊢
  obtain ⟨s, hs, a, ha, hpred⟩ := h
  refine ⟨s, hs, a, ha, ?_⟩
  simp only [Bool.and_eq_true] at hpred
  obtain ⟨⟨ht, hport⟩, hhost⟩ := hpred
  simp [hport, ht, own_of_spec dh a.1 hhost]

/-- **C23 (effect).** When the guard fires, `server.error` is the destination-unknown error and
    `open_connection` runs `server_connect_error` and completes the command with an error — the
    socket primitive is never reached, whatever it would have answered. -/
theorem blocked_sets_error_and_no_connect (servers : List Server) (dh : Text) (dp : Nat)
    (tp : Transport) (connectOk : Bool) (h : selfConnect servers dh dp tp = true) :
    serverConnect servers dh dp tp = some SrvError.destinationUnknown ∧
    openTrace servers dh dp tp connectOk =
      [Ev.hookServerConnect, Ev.hookServerConnectError, Ev.completedKilled] ∧
    Ev.socketOpen ∉ openTrace servers dh dp tp connectOk := by
  simp [openTrace, serverConnect, h, openConnection]

/-- **C23, for the spellings of the property's quantifier.** An upstream connection is never opened to a
    destination that denotes one of mitmproxy's own listening sockets; the request fails with the
    destination-unknown error. "Denotes" is `denotesOwnSocket`: `localhost` in any ASCII case with an optional
    trailing dot and every spelling `ipaddress` parses (all of 127.0.0.0/8, `::1`, IPv4-mapped loopback,
    `0.0.0.0`, `::`, the listen address in any notation) — exactly the spellings properties.jsonl lists.
    Spellings only the resolver understands (`127.1`, `2130706433`, …) are NOT covered and do reach the socket:
    `resolver_spelling_counterexample`, recorded finding F-C23b. -/
theorem own_socket_never_connected (servers : List Server) (dh : Text) (dp : Nat) (tp : Transport)
    (connectOk : Bool) (h : denotesOwnSocket servers dh dp tp = true) :
    Ev.socketOpen ∉ openTrace servers dh dp tp connectOk ∧
    serverConnect servers dh dp tp = some SrvError.destinationUnknown := by
  have hb := blocked_sets_error_and_no_connect servers dh dp tp connectOk
    (spec_implies_blocked servers dh dp tp h)
  exact ⟨hb.2.2, hb.1⟩

/-- conversely, when the guard does not fire the socket is reached: the guard is the only thing in this
    path that prevents the connect -/
theorem not_blocked_reaches_socket (servers : List Server) (dh : Text) (dp : Nat) (tp : Transport)
    (connectOk : Bool) (h : selfConnect servers dh dp tp = false) :
    Ev.socketOpen ∈ openTrace servers dh dp tp connectOk := by
  simp [openTrace, serverConnect, h, openConnection]

/-! ### the spelling classes of the statement -/

/-- on a listener bound to `lh:port` with matching transport, every host `_is_own_host` accepts is blocked -/
private theorem blocked_on (servers : List Server) (s : Server) (lh : Text) (dh : Text) (dp : Nat)
    (tp : Transport) (hs : s ∈ servers) (ha : (lh, dp) ∈ s.addrs)
    (ht : transportMatches s.transport tp = true) (hown : isOwnHost dh lh = true) :
    selfConnect servers dh dp tp = true := by
  unfold selfConnect
  simp only [List.any_eq_true]
  exact ⟨s, hs, (lh, dp), ha, by simp [hown, ht]⟩

/-- `localhost` in any ASCII case, with or without one trailing dot, on the port of any listener of
    a matching transport -/
theorem localhost_any_spelling (servers : List Server) (s : Server) (lh dh : Text) (dp : Nat)
    (tp : Transport) (hs : s ∈ servers) (ha : (lh, dp) ∈ s.addrs)
    (ht : transportMatches s.transport tp = true) (hd : normHost dh = localhost) :
    selfConnect servers dh dp tp = true :=
  blocked_on servers s lh dh dp tp hs ha ht (by simp [isOwnHost, hd])

/-- every address of 127.0.0.0/8, `::1` and every IPv4-mapped loopback address, in whatever
    notation `ipaddress` parses -/
theorem loopback_addresses_blocked (servers : List Server) (s : Server) (lh dh : Text) (dp : Nat)
    (tp : Transport) (a : Addr) (hs : s ∈ servers) (ha : (lh, dp) ∈ s.addrs)
    (ht : transportMatches s.transport tp = true)
    (hp : parseIp (normHost dh) = some a) (hl : loopbackAddr a = true) :
    selfConnect servers dh dp tp = true :=
  blocked_on servers s lh dh dp tp hs ha ht
    (own_of_addr dh lh a hp (Or.inl (loopbackAddr_effective a hl)))

/-- the wildcard addresses `0.0.0.0`, `::`, `::ffff:0.0.0.0` -/
theorem wildcard_blocked (servers : List Server) (s : Server) (lh dh : Text) (dp : Nat)
    (tp : Transport) (a : Addr) (hs : s ∈ servers) (ha : (lh, dp) ∈ s.addrs)
    (ht : transportMatches s.transport tp = true)
    (hp : parseIp (normHost dh) = some a) (hu : unspecAddr a = true) :
    selfConnect servers dh dp tp = true :=
  blocked_on servers s lh dh dp tp hs ha ht
    (own_of_addr dh lh a hp (Or.inr (unspecAddr_effective a hu)))

/-- a mode that listens on both transports is covered for TCP and for UDP destinations -/
theorem both_transport_listener_covered (tp : Transport) : transportMatches ModeTransport.both tp = true := by
  cases tp <;> rfl

/-! ### "every address in 127.0.0.0/8", the IPv4-mapped loopback addresses and the wildcard — as texts,
    without parse hypotheses (read-back theorems of the C22 parser model) -/

/-- **every address of 127.0.0.0/8, written `127.b.c.d`**, on the port of any listener of a
    matching transport, is refused -/
theorem every_127_address_blocked (servers : List Server) (s : Server) (lh : Text) (b c d dp : Nat)
    (tp : Transport) (hb : b < 256) (hc : c < 256) (hd : d < 256)
    (hs : s ∈ servers) (ha : (lh, dp) ∈ s.addrs) (ht : transportMatches s.transport tp = true) :
    selfConnect servers (dotted 127 b c d) dp tp = true := by
  refine loopback_addresses_blocked servers s lh (dotted 127 b c d) dp tp
    (Addr.v4 (((127 * 256 + b) * 256 + c) * 256 + d)) hs ha ht ?_ ?_
  · rw [normHost_dotted 127 b c d (by decide) hb hc hd]
    simp [parseIp, parseV4_dotted 127 b c d (by decide) hb hc hd]
  · simp only [loopbackAddr, Bool.and_eq_true, Nat.ble_eq]
    omega

/-- **every IPv4-mapped loopback address, written `::ffff:127.b.c.d`**, likewise -/
theorem every_mapped_127_address_blocked (servers : List Server) (s : Server) (lh : Text) (b c d dp : Nat)
    (tp : Transport) (hb : b < 256) (hc : c < 256) (hd : d < 256)
    (hs : s ∈ servers) (ha : (lh, dp) ∈ s.addrs) (ht : transportMatches s.transport tp = true) :
    selfConnect servers (mappedText 127 b c d) dp tp = true := by
  refine loopback_addresses_blocked servers s lh (mappedText 127 b c d) dp tp
    (Addr.v6 (0xFFFF * 4294967296 + (((127 * 256 + b) * 256 + c) * 256 + d)) none) hs ha ht ?_ ?_
  · rw [normHost_mapped 127 b c d (by decide) hb hc hd]
    exact parseIp_mapped 127 b c d (by decide) hb hc hd
  · simp only [loopbackAddr, Bool.or_eq_true, Bool.and_eq_true, beq_iff_eq, Nat.ble_eq]
    omega

/-- the explicit listen address written as a dotted quad (plain or IPv4-mapped) is refused on a
    listener bound to that dotted quad, whatever the address is -/
theorem listen_address_dotted_blocked (servers : List Server) (s : Server) (a b c d dp : Nat) (tp : Transport)
    (h0 : a < 256) (hb : b < 256) (hc : c < 256) (hd : d < 256)
    (hs : s ∈ servers) (ha : (dotted a b c d, dp) ∈ s.addrs) (ht : transportMatches s.transport tp = true) :
    selfConnect servers (dotted a b c d) dp tp = true ∧
    selfConnect servers (mappedText a b c d) dp tp = true := by
  have hspec : ∀ dh, sameHost dh (dotted a b c d) = true → selfConnect servers dh dp tp = true :=
    fun dh hsame => blocked_on servers s _ dh dp tp hs ha ht (own_of_spec dh _ (by simp [hsame]))
  constructor
  · exact hspec _ (by simp [sameHost])
  · apply hspec
    have hp6 := parseIp_mapped a b c d h0 hb hc hd
    have hp4 : parseIp (dotted a b c d) = some (Addr.v4 (((a * 256 + b) * 256 + c) * 256 + d)) := by
      simp [parseIp, parseV4_dotted a b c d h0 hb hc hd]
    have hn : ((a * 256 + b) * 256 + c) * 256 + d < 4294967296 := by omega
    simp only [sameHost, normHost_mapped a b c d h0 hb hc hd, hp6, hp4, effective_mapped _ hn]
    simp [effective]

/-- **`localhost` in any ASCII case, with or without one trailing dot** — the hypothesis of
    `localhost_any_spelling` derived: every text whose ASCII lower-casing is `localhost` or `localhost.`
    is refused on the port of any listener of a matching transport -/
theorem localhost_case_and_dot_blocked (servers : List Server) (s : Server) (lh dh : Text) (dp : Nat)
    (tp : Transport) (hs : s ∈ servers) (ha : (lh, dp) ∈ s.addrs)
    (ht : transportMatches s.transport tp = true)
    (hd : dh.map asciiLowerB = localhost ∨ dh.map asciiLowerB = localhost ++ [0x2e]) :
    selfConnect servers dh dp tp = true := by
  apply localhost_any_spelling servers s lh dh dp tp hs ha ht
  rcases hd with h | h
  · simp only [normHost, h]; decide
  · simp only [normHost, h]; decide

-- "LocalHost." : its lower-casing is "localhost."
example : ([0x4c,0x6f,0x63,0x61,0x6c,0x48,0x6f,0x73,0x74,0x2e] : Text).map asciiLowerB = localhost ++ [0x2e] := by decide

/-- **the wildcard address itself**, in its three text forms `0.0.0.0`, `::`, `::ffff:0.0.0.0`, is refused
    on the port of any listener of a matching transport (the hypotheses of `wildcard_blocked` computed) -/
theorem wildcard_texts_blocked (servers : List Server) (s : Server) (lh : Text) (dp : Nat)
    (tp : Transport) (hs : s ∈ servers) (ha : (lh, dp) ∈ s.addrs)
    (ht : transportMatches s.transport tp = true) :
    selfConnect servers (dotted 0 0 0 0) dp tp = true ∧
    selfConnect servers [0x3a, 0x3a] dp tp = true ∧
    selfConnect servers (mappedText 0 0 0 0) dp tp = true := by
  refine ⟨?_, ?_, ?_⟩
  · exact wildcard_blocked servers s lh _ dp tp (Addr.v4 0) hs ha ht (by decide +kernel) (by decide)
  · exact wildcard_blocked servers s lh _ dp tp (Addr.v6 0 none) hs ha ht (by decide +kernel) (by decide)
  · exact wildcard_blocked servers s lh _ dp tp (Addr.v6 (0xFFFF * 4294967296) none) hs ha ht
      (by decide +kernel) (by decide)

/-- `::1` (also written out in full) is refused on the port of any listener of a matching transport -/
theorem ipv6_loopback_texts_blocked (servers : List Server) (s : Server) (lh : Text) (dp : Nat)
    (tp : Transport) (hs : s ∈ servers) (ha : (lh, dp) ∈ s.addrs)
    (ht : transportMatches s.transport tp = true) :
    selfConnect servers [0x3a, 0x3a, 0x31] dp tp = true ∧
    selfConnect servers [0x30,0x3a,0x30,0x3a,0x30,0x3a,0x30,0x3a,0x30,0x3a,0x30,0x3a,0x30,0x3a,0x31] dp tp = true := by
  refine ⟨?_, ?_⟩
  · exact loopback_addresses_blocked servers s lh _ dp tp (Addr.v6 1 none) hs ha ht (by decide +kernel) (by decide)
  · exact loopback_addresses_blocked servers s lh _ dp tp (Addr.v6 1 none) hs ha ht (by decide +kernel) (by decide)

/-! ### histories of runtime reconfiguration -/

/-- the output of every step of a history is determined by the state current at that step -/
theorem run_step (st0 : State) (ops : List Op) (i : Nat) (op : Op) (hop : ops[i]? = some op) :
    (run st0 ops)[i]? = some (stepOut (stateAfter st0 (ops.take i)) op) := by
  induction ops generalizing st0 i with
  | nil => simp at hop
  | cons o rest ih =>
    cases i with
    | zero =>
      simp only [List.getElem?_cons_zero, Option.some.injEq] at hop
      subst hop; simp [run, stateAfter]
    | succ j =>
      simp only [List.getElem?_cons_succ] at hop
      simp only [run, List.getElem?_cons_succ, List.take_succ_cons, stateAfter]
      exact ih (stepState st0 o) j hop

/-- **C23 over histories.** For every initial listener state and every history of runtime
    reconfigurations (`Servers.update`) and upstream connection attempts: an attempt whose destination
    denotes — under any spelling the specification covers — a socket of the listener set that is
    CURRENT at that point of the history (the state reached by the operations before it) never reaches
    the socket primitive; it ends with the destination-unknown error. -/
theorem history_never_connects_to_current_own_socket (st0 : State) (ops : List Op) (i : Nat)
    (dh : Text) (dp : Nat) (tp : Transport) (ok : Bool)
    (hop : ops[i]? = some (Op.connect dh dp tp ok))
    (hown : denotesOwnSocket (stateAfter st0 (ops.take i)).live dh dp tp = true) :
    (run st0 ops)[i]? =
      some (Out.trace [Ev.hookServerConnect, Ev.hookServerConnectError, Ev.completedKilled]) := by
  have hb := blocked_sets_error_and_no_connect _ dh dp tp ok (spec_implies_blocked _ dh dp tp hown)
  rw [run_step st0 ops i _ hop]
  simp [stepOut, hb.2.1]

private theorem update_live (st : State) (modes : List Nat) (start : List (Nat × Server)) (k : Nat)
    (hk : k ∈ modes) : (lookupKey st k).getD (startOf start k) ∈ (update st true modes start).live := by
  simp only [update_eq, State.live, List.map_map, List.mem_map]
  exact ⟨k, hk, rfl⟩

private theorem denotes_sub (a b : List Server) (hsub : ∀ s ∈ a, s ∈ b) (dh : Text) (dp : Nat)
    (tp : Transport) (h : denotesOwnSocket a dh dp tp = true) : denotesOwnSocket b dh dp tp = true := by
  simp only [denotesOwnSocket, List.any_eq_true] at h ⊢
  obtain ⟨s, hs, rest⟩ := h
  exact ⟨s, hsub s hs, rest⟩

/-- a destination that denotes a socket of one live instance is blocked -/
private theorem live_protected (servers : List Server) (s : Server) (dh : Text) (dp : Nat) (tp : Transport)
    (hs : s ∈ servers) (hown : denotesOwnSocket [s] dh dp tp = true) :
    selfConnect servers dh dp tp = true :=
  spec_implies_blocked _ dh dp tp
    (denotes_sub [s] _ (fun x hx => by rw [List.mem_singleton.mp hx]; exact hs) dh dp tp hown)

/-- **a listener added or moved at runtime is protected at once**: after `update` has started an
    instance for a new mode spec, every destination that denotes one of ITS sockets is blocked -/
theorem new_listener_protected (st : State) (modes : List Nat) (start : List (Nat × Server)) (k : Nat)
    (s : Server) (dh : Text) (dp : Nat) (tp : Transport)
    (hk : k ∈ modes) (hnew : lookupKey st k = none) (hs : lookupKey start k = some s)
    (hown : denotesOwnSocket [s] dh dp tp = true) :
    selfConnect (stepState st (Op.reconfigure true modes start)).live dh dp tp = true :=
  live_protected _ s dh dp tp (by simpa [stepState, hnew, hs, startOf] using update_live st modes start k hk) hown

/-- a listener kept across a reconfiguration stays protected -/
theorem kept_listener_protected (st : State) (modes : List Nat) (start : List (Nat × Server)) (k : Nat)
    (s : Server) (dh : Text) (dp : Nat) (tp : Transport)
    (hk : k ∈ modes) (hold : lookupKey st k = some s)
    (hown : denotesOwnSocket [s] dh dp tp = true) :
    selfConnect (stepState st (Op.reconfigure true modes start)).live dh dp tp = true :=
  live_protected _ s dh dp tp (by simpa [stepState, hold] using update_live st modes start k hk) hown

/-- with `server = False` nothing listens any more and nothing is blocked -/
theorem server_off_no_listeners (st : State) (modes : List Nat) (start : List (Nat × Server))
    (dh : Text) (dp : Nat) (tp : Transport) :
    (stepState st (Op.reconfigure false modes start)).live = [] ∧
    selfConnect (stepState st (Op.reconfigure false modes start)).live dh dp tp = false := by
  simp [stepState, update, State.live, selfConnect]

-- the scenario of seeded/c23-3: start on 127.0.0.1:8080, connect elsewhere, add a listener on 127.0.0.1:8081 at
-- runtime, then "LOCALHOST.":8081 is refused, and after the listener is dropped again it is not
private def hStart : List (Nat × Server) :=
  [(0, ⟨.tcp, [([0x31,0x32,0x37,0x2e,0x30,0x2e,0x30,0x2e,0x31], 8080)]⟩),
   (1, ⟨.tcp, [([0x31,0x32,0x37,0x2e,0x30,0x2e,0x30,0x2e,0x31], 8081)]⟩)]
private def hLocal : Text := [0x4c,0x4f,0x43,0x41,0x4c,0x48,0x4f,0x53,0x54,0x2e]
example : run [] [.reconfigure true [0] hStart, .connect hLocal 8081 .tcp true,
                  .reconfigure true [0, 1] hStart, .connect hLocal 8081 .tcp true,
                  .reconfigure true [0] hStart, .connect hLocal 8081 .tcp false]
    = [.listeners [(0, ⟨.tcp, [([0x31,0x32,0x37,0x2e,0x30,0x2e,0x30,0x2e,0x31], 8080)]⟩)],
       .trace [.hookServerConnect, .socketOpen, .hookServerConnected, .completedOk, .handleConnection, .hookServerDisconnected],
       .listeners hStart,
       .trace [.hookServerConnect, .hookServerConnectError, .completedKilled],
       .listeners [(0, ⟨.tcp, [([0x31,0x32,0x37,0x2e,0x30,0x2e,0x30,0x2e,0x31], 8080)]⟩)],
       .trace [.hookServerConnect, .socketOpen, .hookServerConnectError, .completedError]] := by decide +kernel

/-! ### repeated attempts on one connection object -/

/-- the trace of an attempt with a fresh object is the single-attempt model -/
theorem attempt_fresh (servers : List Server) (dh : Text) (dp : Nat) (tp : Transport) (ok : Bool) :
    (attempt servers none dh dp tp ok).1 = openTrace servers dh dp tp ok := by
  simp only [attempt, errorAfterHook, openTrace, serverConnect, openConnection]
  cases selfConnect servers dh dp tp <;> cases ok <;> rfl

/-- **the verdict of THIS attempt decides.** When the guard fires, the attempt does not dial —
    whatever error the object carried before (none, a stale dial error, or the guard's own message from
    an earlier attempt). -/
theorem attempt_blocked_whatever_prior (servers : List Server) (prior : Option ConnError) (dh : Text)
    (dp : Nat) (tp : Transport) (ok : Bool) (h : selfConnect servers dh dp tp = true) :
    attempt servers prior dh dp tp ok =
      ([Ev.hookServerConnect, Ev.hookServerConnectError, Ev.completedKilled], some ConnError.destinationUnknown) := by
  simp [attempt, errorAfterHook, h]

/-- **C23 over repeated attempts.** For every history of `OpenConnection` commands on one `Server`
    object (any initial error, the listener set changing arbitrarily in between, any dial outcomes):
    every attempt whose destination denotes a socket of the listener set current at that attempt ends
    killed, without reaching the socket primitive. -/
theorem repeated_attempts_never_dial_own_socket (prior : Option ConnError) (dh : Text) (dp : Nat)
    (tp : Transport) (hist : List (List Server × Bool)) (i : Nat) (servers : List Server) (ok : Bool)
    (hi : hist[i]? = some (servers, ok)) (hown : denotesOwnSocket servers dh dp tp = true) :
    (attempts prior dh dp tp hist)[i]? =
      some (some ConnError.destinationUnknown,
            [Ev.hookServerConnect, Ev.hookServerConnectError, Ev.completedKilled]) := by
  induction hist generalizing prior i with
  | nil => simp at hi
  | cons x rest ih =>
    obtain ⟨s0, ok0⟩ := x
    cases i with
    | zero =>
      simp only [List.getElem?_cons_zero, Option.some.injEq, Prod.mk.injEq] at hi
      obtain ⟨rfl, rfl⟩ := hi
      have hb := spec_implies_blocked s0 dh dp tp hown
      simp [attempts, attempt_blocked_whatever_prior s0 prior dh dp tp ok0 hb, errorAfterHook, hb]
    | succ j =>
      simp only [List.getElem?_cons_succ] at hi
      simp only [attempts, List.getElem?_cons_succ]
      exact ih _ j hi

/-! ### updates in flight: the listener set changes per instance start / stop event -/

/-- every instance whose sockets are listening is listed in `Servers._instances` -/
def ListedInv (st : LState) : Prop := ∀ e ∈ st.bound, st.listed.contains e.1 = true

/-- **listening ⇒ listed, at every moment.** The invariant is preserved by every event of an update:
    replacing `_instances` (instances going away stay listed), a stop task closing its sockets, the stop
    tasks being gathered (only what is in the new dict stays bound), a start task binding its sockets (ignored
    unless the instance is listed), and attempts. -/
theorem listedInv_step (st : LState) (ev : LEv) (h : ListedInv st) : ListedInv (lstep st ev) := by
  intro e he
  cases ev with
  | beginUpdate so modes =>
    have hl := h e he
    simp only [lstep, List.contains_eq_mem, List.mem_append, List.mem_filter, decide_eq_true_eq,
      Bool.not_eq_true', decide_eq_false_iff_not] at hl ⊢
    by_cases hm : e.1 ∈ (if so = true then modes else [])
    · exact Or.inl hm
    · exact Or.inr ⟨hl, hm⟩
  | stopped k => exact h e (List.mem_filter.mp he).1
  | stopsDone => exact (List.mem_filter.mp he).2
  | started k s =>
    by_cases hk : st.listed.contains k = true
    · simp only [lstep, hk, if_true, List.mem_cons, List.mem_filter] at he ⊢
      rcases he with rfl | he
      · exact hk
      · exact h e he.1
    · simp only [lstep, hk] at he ⊢
      exact h e he
  | connect dh dp tp ok => exact h e he

theorem listedInv_always (evs : List LEv) (st : LState) (h : ListedInv st) :
    ListedInv (lstateAfter st evs) := by
  induction evs generalizing st with
  | nil => exact h
  | cons e es ih => exact ih _ (listedInv_step st e h)

private theorem lrun_step (st : LState) (evs : List LEv) (i : Nat) (ev : LEv) (hev : evs[i]? = some ev) :
    (lrun st evs)[i]? = some (lout (lstateAfter st (evs.take i)) ev) := by
  induction evs generalizing st i with
  | nil => simp at hev
  | cons e rest ih =>
    cases i with
    | zero =>
      simp only [List.getElem?_cons_zero, Option.some.injEq] at hev
      subst hev; simp [lrun, lstateAfter]
    | succ j =>
      simp only [List.getElem?_cons_succ] at hev
      simp only [lrun, List.getElem?_cons_succ, List.take_succ_cons, lstateAfter]
      exact ih (lstep st e) j hev

/-- under the invariant the guard sees every socket that is listening -/
private theorem listening_sub_guardView (st : LState) (h : ListedInv st) (s : Server)
    (hs : s ∈ st.listening) : s ∈ st.guardView := by
  simp only [LState.listening, List.mem_map] at hs
  obtain ⟨e, he, rfl⟩ := hs
  simp only [LState.guardView, List.mem_map, List.mem_filter]
  exact ⟨e, ⟨he, h e he⟩, rfl⟩

/-- **C23 while updates are in flight.** For every sequence of update events (instances starting and
    stopping one by one, in any order and interleaving) and attempts, starting with no listeners: an
    attempt whose destination denotes a socket that is LISTENING at that moment — whether or not the
    update that bound it, or the one that is closing it, has finished — never reaches the socket
    primitive. -/
theorem inflight_never_connects_to_listening_socket (evs : List LEv) (i : Nat)
    (dh : Text) (dp : Nat) (tp : Transport) (ok : Bool)
    (hev : evs[i]? = some (LEv.connect dh dp tp ok))
    (hown : denotesOwnSocket (lstateAfter LState.empty (evs.take i)).listening dh dp tp = true) :
    (lrun LState.empty evs)[i]? =
      some (some [Ev.hookServerConnect, Ev.hookServerConnectError, Ev.completedKilled]) := by
  have hinv : ListedInv (lstateAfter LState.empty (evs.take i)) :=
    listedInv_always _ _ (by intro e he; simp [LState.empty] at he)
  have hb := blocked_sets_error_and_no_connect _ dh dp tp ok (spec_implies_blocked _ dh dp tp
    (denotes_sub _ _ (listening_sub_guardView _ hinv) dh dp tp hown))
  rw [lrun_step _ evs i _ hev]
  simp [lout, hb.2.1]

-- the scenario of seeded/c23-6: one update starts modes 0 and 1; 0 is listening, 1 still starting: "localhost":8080 refused;
-- and the stop window: 0 is being shut down but still listening: still refused; once stopped: dialled
example : lrun LState.empty
    [.beginUpdate true [0, 1], .stopsDone, .started 0 ⟨.tcp, [([0x31,0x32,0x37,0x2e,0x30,0x2e,0x30,0x2e,0x31], 8080)]⟩,
     .connect hLocal 8080 .tcp true,
     .started 1 ⟨.tcp, [([0x31,0x32,0x37,0x2e,0x30,0x2e,0x30,0x2e,0x31], 8081)]⟩,
     .beginUpdate true [1], .connect hLocal 8080 .tcp true, .stopped 0, .stopsDone, .connect hLocal 8080 .tcp false]
    = [none, none, none, some [.hookServerConnect, .hookServerConnectError, .completedKilled], none,
       none, some [.hookServerConnect, .hookServerConnectError, .completedKilled], none, none,
       some [.hookServerConnect, .socketOpen, .hookServerConnectError, .completedError]] := by decide +kernel

/-! ### the two listener models agree: `update` is the settled view of the per-event model -/

/-- after the events of one complete `Servers.update` (in the order the code produces them, from a
    settled state) the guard sees every listener the per-update model predicts -/
theorem update_is_settled_view (S : State) (so : Bool) (modes : List Nat) (start : List (Nat × Server))
    (s : Server) (hs : s ∈ (update S so modes start).live) :
    s ∈ (lstateAfter (settled S) (updateEvents S so modes start)).guardView :=
  update_refines S so modes start s hs

/-- hence what the per-update history theorem promises for a reconfiguration holds in the per-event
    model once the update's events are through: a destination denoting a listener predicted by
    `update` is recognised by the guard -/
theorem settled_update_blocks (S : State) (so : Bool) (modes : List Nat) (start : List (Nat × Server))
    (dh : Text) (dp : Nat) (tp : Transport)
    (hown : denotesOwnSocket (update S so modes start).live dh dp tp = true) :
    selfConnect (lstateAfter (settled S) (updateEvents S so modes start)).guardView dh dp tp = true :=
  spec_implies_blocked _ dh dp tp
    (denotes_sub _ _ (update_refines S so modes start) dh dp tp hown)

/-- **the two listener models agree exactly.** From a settled state with unique keys (`_instances` is a
    dict), once the events of one complete update are through: the sockets that are listening, the
    sockets the guard sees, and the listeners the per-update model `update` predicts are the same. -/
theorem update_is_settled_view_exact (S : State) (so : Bool) (modes : List Nat) (start : List (Nat × Server))
    (hn : (S.map (·.1)).Nodup) (s : Server) :
    (s ∈ (lstateAfter (settled S) (updateEvents S so modes start)).listening ↔
      s ∈ (update S so modes start).live) ∧
    (s ∈ (lstateAfter (settled S) (updateEvents S so modes start)).guardView ↔
      s ∈ (update S so modes start).live) := by
  have hup := update_refines_upper S so modes start hn s
  have hlow := update_refines S so modes start s
  have hsub : s ∈ (lstateAfter (settled S) (updateEvents S so modes start)).guardView →
      s ∈ (lstateAfter (settled S) (updateEvents S so modes start)).listening := by
    intro h
    simp only [LState.guardView, List.mem_map, List.mem_filter] at h
    obtain ⟨e, ⟨he, _⟩, rfl⟩ := h
    simp only [LState.listening, List.mem_map]
    exact ⟨e, he, rfl⟩
  exact ⟨⟨hup, fun h => hsub (hlow h)⟩, ⟨fun h => hup (hsub h), hlow⟩⟩

/-- unique keys are an invariant of the per-update model: every state reached from the empty one by
    reconfigurations with duplicate-free mode lists (what `configure` enforces) has unique keys -/
theorem reachable_keys_nodup (ops : List Op)
    (hops : ∀ so modes start, Op.reconfigure so modes start ∈ ops → modes.Nodup) :
    ∀ st : State, (st.map (·.1)).Nodup → ((stateAfter st ops).map (·.1)).Nodup := by
  induction ops with
  | nil => intro st h; exact h
  | cons op rest ih =>
    intro st h
    simp only [stateAfter]
    apply ih (fun so modes start hm => hops so modes start (List.mem_cons_of_mem _ hm))
    cases op with
    | reconfigure so modes start =>
      simp only [stepState, update_keys]
      cases so with
      | false => simp
      | true => simpa using hops true modes start List.mem_cons_self
    | connect dh dp tp ok => exact h

/-! ### non-vacuity: concrete spellings, computed by the kernel -/

private def srvTcp : List Server := [⟨.tcp, [([0x31,0x32,0x37,0x2e,0x30,0x2e,0x30,0x2e,0x31], 8080)]⟩]   -- 127.0.0.1:8080
private def srvDns : List Server := [⟨.both, [([0x3a,0x3a], 53), ([0x30,0x2e,0x30,0x2e,0x30,0x2e,0x30], 53)]⟩]  -- dns mode on :: / 0.0.0.0

-- "LOCALHOST." , "127.0.0.2", "::ffff:127.0.0.1", "0.0.0.0" denote the listener on 127.0.0.1; "::1" denotes the dns-mode
-- listener on "::" / "0.0.0.0" over udp, and over tcp the guard fires for it (the mode's transport is `both`)
example : denotesOwnSocket srvTcp [0x4c,0x4f,0x43,0x41,0x4c,0x48,0x4f,0x53,0x54,0x2e] 8080 .tcp = true := by decide +kernel
example : denotesOwnSocket srvTcp [0x31,0x32,0x37,0x2e,0x30,0x2e,0x30,0x2e,0x32] 8080 .tcp = true := by decide +kernel
example : denotesOwnSocket srvTcp [0x3a,0x3a,0x66,0x66,0x66,0x66,0x3a,0x31,0x32,0x37,0x2e,0x30,0x2e,0x30,0x2e,0x31] 8080 .tcp = true := by decide +kernel
example : denotesOwnSocket srvTcp [0x30,0x2e,0x30,0x2e,0x30,0x2e,0x30] 8080 .tcp = true := by decide +kernel
example : denotesOwnSocket srvDns [0x3a,0x3a,0x31] 53 .udp = true := by decide +kernel
example : selfConnect srvDns [0x3a,0x3a,0x31] 53 .tcp = true := by decide +kernel
-- the guard is not constant: other port, other transport, "example.com", "128.0.0.0" pass
example : selfConnect srvTcp [0x4c,0x4f,0x43,0x41,0x4c,0x48,0x4f,0x53,0x54,0x2e] 8081 .tcp = false := by decide +kernel
example : selfConnect srvTcp [0x31,0x32,0x37,0x2e,0x30,0x2e,0x30,0x2e,0x32] 8080 .udp = false := by decide +kernel
example : selfConnect srvTcp [0x65,0x78,0x61,0x6d,0x70,0x6c,0x65,0x2e,0x63,0x6f,0x6d] 8080 .tcp = false := by decide +kernel
example : selfConnect srvTcp [0x31,0x32,0x38,0x2e,0x30,0x2e,0x30,0x2e,0x30] 8080 .tcp = false := by decide +kernel
/-- **recorded residual F-C23b (counterexample to the statement read over resolver spellings).** The
    legacy numeric spelling `127.1` — which the C resolver reads as 127.0.0.1 — is not an `ipaddress`
    spelling: the specification does not cover it, the guard does not fire, and the socket primitive
    IS reached on the listener's own port.  `spec_implies_blocked` is the part of the statement that
    holds: every spelling `ipaddress` parses plus the `localhost` names. -/
theorem resolver_spelling_counterexample :
    denotesOwnSocket srvTcp [0x31,0x32,0x37,0x2e,0x31] 8080 .tcp = false ∧
    selfConnect srvTcp [0x31,0x32,0x37,0x2e,0x31] 8080 .tcp = false ∧
    Ev.socketOpen ∈ openTrace srvTcp [0x31,0x32,0x37,0x2e,0x31] 8080 .tcp true := by decide +kernel

-- resolver-only spelling "127.1" is outside `ipaddress` and outside the specification (documented residual)
example : denotesOwnSocket srvTcp [0x31,0x32,0x37,0x2e,0x31] 8080 .tcp = false ∧
    selfConnect srvTcp [0x31,0x32,0x37,0x2e,0x31] 8080 .tcp = false := by decide +kernel

-- the scenario of seeded/c23-5: "localhost":8080 opened three times on one object while listening on 127.0.0.1:8080
example : (attempts none [0x6c,0x6f,0x63,0x61,0x6c,0x68,0x6f,0x73,0x74] 8080 .tcp
            [(srvTcp, true), (srvTcp, true), (srvTcp, false)]).map (·.2)
    = [[.hookServerConnect, .hookServerConnectError, .completedKilled],
       [.hookServerConnect, .hookServerConnectError, .completedKilled],
       [.hookServerConnect, .hookServerConnectError, .completedKilled]] := by decide +kernel
-- not constant: a foreign destination dials; after a failed dial the stale error kills the retry without dialing
example : (attempts none [0x65,0x78,0x61,0x6d,0x70,0x6c,0x65,0x2e,0x63,0x6f,0x6d] 8080 .tcp
            [(srvTcp, false), (srvTcp, true)]).map (·.2)
    = [[.hookServerConnect, .socketOpen, .hookServerConnectError, .completedError],
       [.hookServerConnect, .hookServerConnectError, .completedKilled]] := by decide +kernel

/-! ### additional non-vacuity witnesses — hypotheses of the theorems above instantiated on
    concrete non-trivial values, computed by the kernel -/

private def aS0 : State := [(0, ⟨.tcp, [([0x31,0x32,0x37,0x2e,0x30,0x2e,0x30,0x2e,0x31], 8080)]⟩), (7, ⟨.udp, [([0x3a,0x3a], 5353)]⟩)]

-- `history_never_connects_to_current_own_socket`: at index 3 of the history of seeded/c23-3 the operation is a connect and the
-- destination denotes a socket of the state current THERE (it did not at index 1)
private def aOps : List Op :=
  [.reconfigure true [0] hStart, .connect hLocal 8081 .tcp true, .reconfigure true [0, 1] hStart, .connect hLocal 8081 .tcp true]
example : aOps[3]? = some (Op.connect hLocal 8081 .tcp true) := rfl
example : denotesOwnSocket (stateAfter [] (aOps.take 3)).live hLocal 8081 .tcp = true ∧
    denotesOwnSocket (stateAfter [] (aOps.take 1)).live hLocal 8081 .tcp = false := by decide +kernel
-- `new_listener_protected` / `kept_listener_protected`: key 1 is new, key 0 is kept, both hypotheses sets are satisfiable
example : (1 : Nat) ∈ [0, 1] ∧ lookupKey aS0 1 = none ∧
    lookupKey hStart 1 = some ⟨.tcp, [([0x31,0x32,0x37,0x2e,0x30,0x2e,0x30,0x2e,0x31], 8081)]⟩ ∧
    denotesOwnSocket [⟨.tcp, [([0x31,0x32,0x37,0x2e,0x30,0x2e,0x30,0x2e,0x31], 8081)]⟩] hLocal 8081 .tcp = true ∧
    lookupKey aS0 0 = some ⟨.tcp, [([0x31,0x32,0x37,0x2e,0x30,0x2e,0x30,0x2e,0x31], 8080)]⟩ := by decide +kernel
-- `inflight_never_connects_to_listening_socket`: while mode 1 is still starting, the socket of mode 0 IS listening and
-- "LOCALHOST.":8080 denotes it (hypothesis `hown` at index 3)
private def aEvs : List LEv :=
  [.beginUpdate true [0, 1], .stopsDone, .started 0 ⟨.tcp, [([0x31,0x32,0x37,0x2e,0x30,0x2e,0x30,0x2e,0x31], 8080)]⟩, .connect hLocal 8080 .tcp true]
example : denotesOwnSocket (lstateAfter LState.empty (aEvs.take 3)).listening hLocal 8080 .tcp = true ∧
    (lstateAfter LState.empty (aEvs.take 3)).listed = [0, 1] := by decide +kernel
-- `update_is_settled_view_exact` / `reachable_keys_nodup`: a two-listener state with unique keys, one instance dropped
-- and one added: listening = guard view = update's prediction, and it is not the empty set
example : (aS0.map (·.1)).Nodup ∧
    (lstateAfter (settled aS0) (updateEvents aS0 true [0, 1] hStart)).listening.length = 2 ∧
    (update aS0 true [0, 1] hStart).live.length = 2 ∧
    (∀ s ∈ (update aS0 true [0, 1] hStart).live,
        s ∈ (lstateAfter (settled aS0) (updateEvents aS0 true [0, 1] hStart)).guardView) := by decide +kernel
-- `listen_address_dotted_blocked` on a NON-loopback listener (192.168.1.5:8080): plain and IPv4-mapped spelling are
-- refused, a neighbouring address is not
example : selfConnect [⟨.tcp, [(dotted 192 168 1 5, 8080)]⟩] (dotted 192 168 1 5) 8080 .tcp = true ∧
    selfConnect [⟨.tcp, [(dotted 192 168 1 5, 8080)]⟩] (mappedText 192 168 1 5) 8080 .tcp = true ∧
    selfConnect [⟨.tcp, [(dotted 192 168 1 5, 8080)]⟩] (dotted 192 168 1 6) 8080 .tcp = false := by decide +kernel
-- … and on that listener `localhost` is blocked by the guard although the SPEC does not demand it (the guard may over-approximate)
example : selfConnect [⟨.tcp, [(dotted 192 168 1 5, 8080)]⟩] localhost 8080 .tcp = true ∧
    denotesOwnSocket [⟨.tcp, [(dotted 192 168 1 5, 8080)]⟩] localhost 8080 .tcp = false := by decide +kernel
-- `every_127_address_blocked` / `every_mapped_127_address_blocked` at the far end of 127/8
example : selfConnect srvTcp (dotted 127 255 255 254) 8080 .tcp = true ∧
    selfConnect srvTcp (mappedText 127 255 255 254) 8080 .tcp = true := by decide +kernel
-- `loopback_addresses_blocked` with a SCOPED spelling: "::1%lo" parses (scope kept) and is a loopback address
example : parseIp (normHost [0x3a,0x3a,0x31,0x25,0x6c,0x6f]) = some (Addr.v6 1 (some [0x6c,0x6f])) ∧
    loopbackAddr (Addr.v6 1 (some [0x6c,0x6f])) = true ∧ selfConnect srvTcp [0x3a,0x3a,0x31,0x25,0x6c,0x6f] 8080 .tcp = true := by decide +kernel
-- `blocked_sets_error_and_no_connect` / `not_blocked_reaches_socket`: both hypotheses occur for the same listener
example : selfConnect srvTcp [0x4c,0x6f,0x63,0x61,0x6c,0x48,0x6f,0x73,0x74] 8080 .tcp = true ∧ selfConnect srvTcp [0x4c,0x6f,0x63,0x61,0x6c,0x48,0x6f,0x73,0x74] 8081 .tcp = false ∧
    openTrace srvTcp [0x4c,0x6f,0x63,0x61,0x6c,0x48,0x6f,0x73,0x74] 8080 .tcp true = [Ev.hookServerConnect, Ev.hookServerConnectError, Ev.completedKilled] := by
  decide +kernel

end MitmVerif.Props.C23
