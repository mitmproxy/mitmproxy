/-
  Segmentation algebra: an incremental (buffering) consumer whose outputs do not depend on how
  its input is split into segments.  Instances only have to prove `Lawful`.
-/
namespace MitmVerif

/-- A buffered consumer: state `σ`, output items `ο`. -/
structure Incremental (σ ο : Type) where
  feed : σ → List UInt8 → σ × List ο

namespace Incremental
variable {σ ο : Type} (I : Incremental σ ο)

/-- Feed a list of segments one after the other, concatenating outputs. -/
def feedAll (s : σ) : List (List UInt8) → σ × List ο
  | [] => (s, [])
  | seg :: rest =>
    let (s1, o1) := I.feed s seg
    let (s2, o2) := feedAll s1 rest
    (s2, o1 ++ o2)

/-- The law every instance proves: feeding nothing changes nothing, and feeding `a ++ b` equals feeding `a` then `b`. -/
def Lawful : Prop :=
  (∀ s, I.feed s [] = (s, [])) ∧
  (∀ s a b, I.feed s (a ++ b) =
      ((I.feed (I.feed s a).1 b).1, (I.feed s a).2 ++ (I.feed (I.feed s a).1 b).2))

theorem seg_independent (h : I.Lawful) (s : σ) (segs : List (List UInt8)) :
    I.feedAll s segs = I.feed s segs.flatten := by
  induction segs generalizing s with
  | nil => simp [feedAll, h.1]
  | cons seg rest ih =>
    simp only [feedAll, List.flatten_cons]
    rw [ih, h.2]

/-- Any two segmentations of the same stream give the same state and outputs. -/
theorem seg_independent' (h : I.Lawful) (s : σ) (a b : List (List UInt8))
    (hab : a.flatten = b.flatten) : I.feedAll s a = I.feedAll s b := by
  rw [seg_independent I h, seg_independent I h, hab]

end Incremental
end MitmVerif
